/-
  C02 — total model of the Newick scanner and parser
  (io/newick/newick_lexer.go, newick_parser.go, newick_nodestack.go), as far as C02
  needs it: outcome class and delivered tree.

  * `scan ign cs` is `Scanner.Scan(ignoreSemiColumn)` on the remaining input.
  * The parser is the machine `stepTok` (one `case` of the `switch tok` of
    `parseIter` per equation) driven by `run`, which is defined by well-founded
    recursion on the length of the remaining input WITHOUT fuel: the
    `decreasing_by` obligation is "every scan consumes at least one character
    unless it returns EOF", and EOF is handled by the non-recursive `atEOF`
    (`case EOF: return`), i.e. every loop leaves on EOF.
  * Go's `node`/`edge` variables are always the head of the node stack (or nil when
    it is empty): the state keeps the stack only.  The bottom frame is the current
    root (pushed when `node == nil`), its `edge` is nil.
  * The tree is built functionally: a frame collects its finished children; a child
    is attached to its parent when it is popped.  Same child order as Go's
    attach-at-creation because pops and creations alternate.
-/
import Gotree.Model.C02
import Gotree.Model.C02Float

namespace Gotree.C02.Newick
open Gotree Gotree.C02

inductive Tok | eof | ws | ident | numeric | openpar | closepar | startlen | openbrack | closebrack | newsibling | eot
  deriving DecidableEq, Repr, Inhabited

def isWs (c : Char) : Bool := c == ' ' || c == '\t' || c == '\n' || c == '\r'

def isIdent (ign : Bool) (c : Char) : Bool :=
  c != '[' && c != ']' && c != '(' && c != ')' && c != ',' && c != ':' && (ign || c != ';')

structure Scanned where
  tok : Tok
  lit : List Char
  rest : List Char

def identOf (ign : Bool) (c : Char) (cs : List Char) : Scanned :=
  let lit := c :: cs.takeWhile (isIdent ign)
  ⟨if isFloat lit then .numeric else .ident, lit, cs.dropWhile (isIdent ign)⟩

/-- `Scanner.Scan(ignoreSemiColumn)` -/
def scan (ign : Bool) : List Char → Scanned
  | [] => ⟨.eof, [], []⟩
  | c :: cs =>
    if isWs c then ⟨.ws, c :: cs.takeWhile isWs, cs.dropWhile isWs⟩
    else if c == '(' then ⟨.openpar, [c], cs⟩
    else if c == ')' then ⟨.closepar, [c], cs⟩
    else if c == '[' then ⟨.openbrack, [c], cs⟩
    else if c == ']' then ⟨.closebrack, [c], cs⟩
    else if c == ',' then ⟨.newsibling, [c], cs⟩
    else if c == ';' && !ign then ⟨.eot, [c], cs⟩
    else if c == ':' then ⟨.startlen, [c], cs⟩
    else identOf ign c cs

/-- the scanner before fix 6ae5e49 (F1): `eof = rune(0)`, a NUL in the input reads as the end of the input -/
def scanNulPinned (ign : Bool) : List Char → Scanned
  | [] => ⟨.eof, [], []⟩
  | c :: cs => if c.toNat == 0 then ⟨.eof, [], cs⟩ else scan ign (c :: cs)

/-- `Parser.scanIgnoreWhitespace()`: skips ONE whitespace token -/
def scanIW (cs : List Char) : Scanned :=
  let s := scan false cs
  if s.tok = .ws then scan false s.rest else s

/- ## node stack -/

structure IFrame where
  d : NodeD
  e : EdgeD
  kids : Kids
  deriving Inhabited

structure RFrame where
  d : NodeD
  kids : Kids
  deriving Inhabited

inductive Mode
  | start            -- Parse: first token
  | startComment     -- Parse: inside the leading [comment]
  | start2           -- Parse: after the leading comment
  | iter             -- parseIter: loop head
  | comment (acc : List Char)  -- parseIter: consumeComment
  | afterColon       -- parseIter: case STARTLEN, the token after ':'
  deriving Inhabited

structure PSt where
  mode : Mode := .start
  stk : Option (RFrame × List IFrame) := none   -- inner frames: head = top of the stack
  level : Int := 0
  prev : Option Tok := none      -- prevTok (-1 = none)
  nedges : Nat := 0
  lastRoot : Option T := none    -- the root set by the last SetRoot whose frame has been popped
  stale : Bool := false          -- the named result `err` holds a ParseFloat error that nothing has overwritten yet
  nonfinite : Bool := false      -- some NaN/±Inf value was stored (its place holds 0 in the model tree)
  deriving Inhabited

def mkNode (d : NodeD) (kids : Kids) : T := .node d 0 kids

/-- `nodeStack.Pop()`; `none` = "cannot pop an empty stack" -/
def pop (st : PSt) : Option PSt :=
  match st.stk with
  | none => none
  | some (r, []) => some { st with stk := none, lastRoot := some (mkNode r.d r.kids) }
  | some (r, [f]) => some { st with stk := some ({ r with kids := r.kids ++ [(f.e, mkNode f.d f.kids)] }, []) }
  | some (r, f :: g :: rest) =>
    some { st with stk := some (r, { g with kids := g.kids ++ [(f.e, mkNode f.d f.kids)] } :: rest) }

def nodeNil (st : PSt) : Bool := st.stk.isNone
/-- Go's `edge == nil`: the stack is empty or its head is the root frame -/
def edgeNil (st : PSt) : Bool :=
  match st.stk with
  | some (_, _ :: _) => false
  | _ => true

def mapTopNode (st : PSt) (f : NodeD → NodeD) : PSt :=
  match st.stk with
  | none => st
  | some (r, []) => { st with stk := some ({ r with d := f r.d }, []) }
  | some (r, t :: rest) => { st with stk := some (r, { t with d := f t.d } :: rest) }

def mapTopEdge (st : PSt) (f : EdgeD → EdgeD) : PSt :=
  match st.stk with
  | some (r, t :: rest) => { st with stk := some (r, { t with e := f t.e } :: rest) }
  | _ => st

def topEdge (st : PSt) : Option EdgeD :=
  match st.stk with
  | some (_, t :: _) => some t.e
  | _ => none

def pushInner (st : PSt) (name : String) : PSt :=
  let fr : IFrame := ⟨⟨name, []⟩, { EdgeD.blank with id := st.nedges }, []⟩
  match st.stk with
  | none => st
  | some (r, inner) => { st with stk := some (r, fr :: inner), nedges := st.nedges + 1 }

/-- value stored for a parsed float -/
def fvalRat : FVal → Rat | .fin q => q | .nonfinite => 0
def fvalNonfin : FVal → Bool | .fin _ => false | .nonfinite => true

/-- `strings.Split(lit, "/")` -/
def splitSlash : List Char → List (List Char)
  | [] => [[]]
  | c :: r =>
    match splitSlash r with
    | [] => [[]]          -- unreachable: the result is never empty
    | p :: ps => if c == '/' then [] :: p :: ps else (c :: p) :: ps

/-- result of one step of the machine -/
inductive Step
  | cont (st : PSt)
  | fail (msg : String)
  | finished (st : PSt)     -- parseIter returned at EOT without error of its own
  deriving Inhabited

/-- what `parseIter` does with a comment that has just been closed -/
def closeComment (st : PSt) (comment : List Char) : Step :=
  let c := String.ofList comment
  let st := { st with stale := false, mode := .iter }
  if st.prev = some .startlen && !edgeNil st then
    .cont { mapTopEdge st (fun e => { e with comments := e.comments ++ [c] }) with prev := some .closebrack }
  else if st.prev = some .startlen && edgeNil st && !nodeNil st then
    .cont { mapTopNode st (fun d => { d with comments := d.comments ++ [c] }) with prev := some .closebrack }
  else if (st.prev = some .closepar || st.prev = some .ident || st.prev = some .numeric || st.prev = some .closebrack) && !nodeNil st then
    .cont { mapTopNode st (fun d => { d with comments := d.comments ++ [c] }) with prev := some .closebrack }
  else .fail "newick error: comment should not be located here"

/-- `case IDENT, NUMERIC` after `)`, NUMERIC: a support value -/
def supportLabel (st : PSt) (lit : List Char) : Step :=
  if st.level = 0 || edgeNil st then .cont st
  else
    match parseFloat lit with
    | none => .fail "support is not a float"
    | some v => .cont { mapTopEdge st (fun e => { e with sup := fvalRat v }) with stale := false, nonfinite := st.nonfinite || fvalNonfin v }

/-- "numeric/numeric" = support/pvalue; the two ParseFloat calls assign the named result `err`.
    Returns the state and `hasname`. -/
def slashLabel (st : PSt) (lit : List Char) : PSt × Bool :=
  match splitSlash lit with
  | [a, b] =>
    if edgeNil st then (st, true)
    else
      match parseFloat a with
      | none => ({ st with stale := true }, true)
      | some va =>
        match parseFloat b with
        | none => ({ st with stale := true }, true)
        | some vb =>
          ({ mapTopEdge st (fun e => { e with sup := fvalRat va, pval := fvalRat vb }) with
              stale := false, nonfinite := st.nonfinite || fvalNonfin va || fvalNonfin vb }, false)
  | _ => (st, true)

/-- `case IDENT, NUMERIC` after `)`, IDENT: support/pvalue or a node name -/
def nameLabel (st : PSt) (lit : List Char) : Step :=
  let r := slashLabel st lit
  if r.2 then
    if nodeNil r.1 then .fail "Newick Error: Cannot assign node name to nil node"
    else .cont (mapTopNode r.1 (fun d => { d with name := String.ofList lit }))
  else .cont r.1

/-- `case IDENT, NUMERIC` elsewhere: a new tip -/
def newTip (st : PSt) (tok : Tok) (lit : List Char) : Step :=
  if st.prev ≠ some .openpar && st.prev ≠ some .newsibling then .fail "Newick Error: There should not be a tip name in this context"
  else if nodeNil st then .fail "Cannot create a new tip with no parent"
  else .cont { pushInner st (String.ofList lit) with prev := some tok }

/-- one iteration of the `for` loop of `parseIter` (mode `iter`) for a token other than EOF -/
def stepIter (st : PSt) (tok : Tok) (lit : List Char) : Step :=
  match tok with
  | .openpar =>
    if nodeNil st then
      if st.level > 0 then .fail "nil node at depth > 0"
      else .cont { st with stk := some (⟨⟨"", []⟩, []⟩, []), level := st.level + 1, prev := some .openpar,
                             lastRoot := none }    -- t.SetRoot(node): the previous root is forgotten
    else
      if st.level = 0 then .fail "newick Error: An open parenthesis while the stack is empty"
      else .cont { pushInner st "" with level := st.level + 1, prev := some .openpar }
  | .closepar =>
    match pop { st with prev := some .closepar, level := st.level - 1 } with
    | none => .fail "newick Error: Closing parenthesis while the stack is already empty"
    | some st' => .cont { st' with stale := false }
  | .openbrack => .cont { st with mode := .comment [] }
  | .closebrack => .fail "newick error: mismatched ] here"
  | .startlen => .cont { st with mode := .afterColon }
  | .newsibling =>
    match pop st with
    | none => .fail "Newick Error: Stack is empty, a coma should not be located here"
    | some st' => .cont { st' with stale := false, prev := some .newsibling }
  | .numeric => if st.prev = some .closepar then supportLabel st lit else newTip st tok lit
  | .ident => if st.prev = some .closepar then nameLabel st lit else newTip st tok lit
  | .eot =>
    if st.level ≠ 0 then .fail "newick Error: Mismatched parenthesis at ;"
    else .finished { st with prev := some .eot }
  | .ws => .cont st     -- no `case` for WS in the switch
  | .eof => .cont st    -- handled by `atEOF`, never delivered here

/-- `case STARTLEN`, once the next token is known -/
def stepAfterColon (st : PSt) (tok : Tok) (lit : List Char) : Step :=
  let st := { st with mode := .iter }
  if tok ≠ .numeric then .fail "newick error: no numeric value after ':'"
  else if !nodeNil st && st.level ≠ 0 then
    match topEdge st with
    | none => .fail "Newick Error: Edge length should not be located here"
    | some e =>
      if e.len ≠ NIL then .fail "Newick Error: More than one length is given"
      else
        match parseFloat lit with
        | none => .fail "Newick Error: Length is not a float value"
        | some v => .cont { mapTopEdge st (fun e => { e with len := (if fvalNonfin v then 0 else fvalRat v) }) with
                              stale := false, prev := some .startlen, nonfinite := st.nonfinite || fvalNonfin v }
  else if st.level = 0 then .cont { st with prev := some .startlen }
  else .fail "Newick Error: Cannot assign length to nil node"

/-- a token (≠ EOF) outside comments -/
def stepTok (st : PSt) (tok : Tok) (lit : List Char) : Step :=
  match st.mode with
  | .start =>
    if tok = .openbrack then .cont { st with mode := .startComment }
    else if tok = .openpar then stepIter { st with mode := .iter } tok lit   -- unscan, then parseIter reads it again
    else .fail "found something else, expected ("
  | .start2 =>
    if tok = .openpar then stepIter { st with mode := .iter } tok lit
    else .fail "found something else, expected ("
  | .iter => stepIter st tok lit
  | .afterColon => stepAfterColon st tok lit
  | .startComment => .cont st
  | .comment _ => .cont st

/- ## after parseIter -/

/-- close every open frame: the bottom frame is the root -/
def closeAll (r : RFrame) : List IFrame → T
  | [] => mkNode r.d r.kids
  | [f] => mkNode r.d (r.kids ++ [(f.e, mkNode f.d f.kids)])
  | f :: g :: rest => closeAll r ({ g with kids := g.kids ++ [(f.e, mkNode f.d f.kids)] } :: rest)
termination_by l => l.length

/-- Go's `unicode.IsSpace` -/
def goIsSpace (c : Char) : Bool :=
  let n := c.toNat
  (9 ≤ n && n ≤ 13) || n == 32 || n == 0x85 || n == 0xA0 || n == 0x1680 || (0x2000 ≤ n && n ≤ 0x200A) ||
  n == 0x2028 || n == 0x2029 || n == 0x202F || n == 0x205F || n == 0x3000

def trimSpace (s : String) : String :=
  String.ofList ((s.toList.dropWhile goIsSpace).reverse.dropWhile goIsSpace).reverse

/- `for _, tip := range newtree.Tips() { tip.SetName(strings.TrimSpace(tip.Name())) }` -/
mutual
def trimTips : T → T
  | .node d p [] => .node { d with name := trimSpace d.name } p []
  | .node d p (k :: ks) => .node d p (trimTipsL (k :: ks))
def trimTipsL : Kids → Kids
  | [] => []
  | (e, t) :: r => (e, trimTips t) :: trimTipsL r
end

def trimRoot : T → T
  | .node d p [(e, t)] => .node { d with name := trimSpace d.name } p [(e, trimTips t)]
  | .node d p k => .node d p (trimTipsL k)

/-- delivered tree and whether it holds a non-finite number -/
structure Parsed where
  tree : T
  nonfinite : Bool
  /-- the input left after the `;` (where a further `Parse()` of the same `Parser` goes on, 3850fd2) -/
  rest : List Char := []

/-- the end of `Parse` once `parseIter` has returned at `;` with level 0 -/
def finish (st : PSt) : Res Parsed :=
  if st.stale then .err "stale ParseFloat error returned by parseIter"
  else
    -- newtree.Tips(): dereferences the root
    match st.stk, st.lastRoot with
    | some (r, inner), _ => .ok ⟨trimRoot (closeAll r inner), st.nonfinite, []⟩
    | none, some t => .ok ⟨trimRoot t, st.nonfinite, []⟩
    | none, none => .panic "nil root dereferenced by Tips()"

/-- EOF: `parseIter` returns; `Parse` then fails on the level or on the missing `;` -/
def atEOF (st : PSt) : Res Parsed :=
  match st.mode with
  | .start | .start2 => .err "found \"\", expected ("
  | .startComment | .comment _ => .err "unmatched bracket"
  | .afterColon => .err "newick error: no numeric value after ':'"
  | .iter => .err "found \"\", expected ;"

/- ## the scanner consumes input -/

/- Both bounds go through the cases of `scan` (`fun_cases`: one per `if` of the chain, with the literal and the
   rest already computed); only a blank run and an identifier drop more than the first character. -/
theorem scan_rest_le (ign : Bool) (cs : List Char) : (scan ign cs).rest.length ≤ cs.length := by
  fun_cases scan ign cs
  case case2 => exact Nat.le_succ_of_le (List.dropWhile_sublist _).length_le
  case case10 => exact Nat.le_succ_of_le (List.dropWhile_sublist _).length_le
  all_goals first | exact Nat.le_refl _ | exact Nat.le_succ _

theorem scan_rest_lt (ign : Bool) (cs : List Char) (h : (scan ign cs).tok ≠ .eof) :
    (scan ign cs).rest.length < cs.length := by
  fun_cases scan ign cs
  case case1 => exact absurd rfl h
  case case2 => exact Nat.lt_succ_of_le (List.dropWhile_sublist _).length_le
  case case10 => exact Nat.lt_succ_of_le (List.dropWhile_sublist _).length_le
  all_goals exact Nat.lt_succ_self _

theorem scanIW_rest_lt (cs : List Char) (h : (scanIW cs).tok ≠ .eof) :
    (scanIW cs).rest.length < cs.length := by
  unfold scanIW at *
  by_cases hw : (scan false cs).tok = .ws
  · rw [if_pos hw] at h ⊢
    have a := scan_rest_lt false cs (by rw [hw]; decide)
    have b := scan_rest_le false (scan false cs).rest
    omega
  · rw [if_neg hw] at h ⊢
    exact scan_rest_lt false cs h

/- ## the driver loop: `Parse` -/

def inComment (m : Mode) : Bool :=
  match m with
  | .startComment | .comment _ => true
  | _ => false

/-- `Parser.Parse()` from state `st` on the remaining input.  No fuel. -/
def run (st : PSt) (cs : List Char) : Res Parsed :=
  if inComment st.mode then
    -- consumeComment: `p.scan(true)` until `]`
    let s := scan true cs
    if h : s.tok = .eof then atEOF st
    else if s.tok = .closebrack then
      match st.mode with
      | .comment acc =>
        match closeComment st acc with
        | .cont st' => run st' s.rest
        | .fail m => .err m
        | .finished _ => .err "unreachable"
      | _ => run { st with mode := .start2 } s.rest
    else
      match st.mode with
      | .comment acc => run { st with mode := .comment (acc ++ s.lit) } s.rest
      | _ => run st s.rest
  else
    let s := scanIW cs
    if h : s.tok = .eof then atEOF st
    else
      match stepTok st s.tok s.lit with
      | .cont st' => run st' s.rest
      | .fail m => .err m
      | .finished st' =>
        -- `Parse` consumes the `;` that `parseIter` had unscanned: the parser stands after it
        match finish st' with
        | .ok p => .ok { p with rest := s.rest }
        | .err m => .err m
        | .panic m => .panic m
termination_by cs.length
decreasing_by
  all_goals first
    | exact scan_rest_lt true cs h
    | exact scanIW_rest_lt cs h

/-- a successful `Parse` has consumed input: what is left is shorter (so a loop of `Parse` calls on one
    `Parser` ends) -/
theorem run_rest_lt (st : PSt) (cs : List Char) (p : Parsed) (h : run st cs = .ok p) : p.rest.length < cs.length := by
  fun_induction run st cs
  case case2 st cs hc s hne hcb acc hm st' hcc ih =>
    have h1 := ih h; have h2 : s.rest.length < cs.length := scan_rest_lt true cs hne; omega
  case case5 st cs hc s hne hcb hm ih =>
    have h1 := ih h; have h2 : s.rest.length < cs.length := scan_rest_lt true cs hne; omega
  case case6 st cs hc s hne hcb acc hm ih =>
    have h1 := ih h; have h2 : s.rest.length < cs.length := scan_rest_lt true cs hne; omega
  case case7 st cs hc s hne hcb hm ih =>
    have h1 := ih h; have h2 : s.rest.length < cs.length := scan_rest_lt true cs hne; omega
  case case9 st cs hc s hne st' hst ih =>
    have h1 := ih h; have h2 : s.rest.length < cs.length := scanIW_rest_lt cs hne; omega
  case case11 st cs hc s hne st' hst p' hf =>
    cases h
    exact scanIW_rest_lt cs hne
  all_goals first
    | (simp [atEOF] at h; done)
    | (unfold atEOF at h; split at h <;> cases h)
    | cases h

/-- `Parser.More()` (3850fd2): `scanIgnoreWhitespace` + `unscan`: is anything but white space left? -/
def more (cs : List Char) : Bool := decide ((scanIW cs).tok ≠ .eof)

/-- `newick.NewParser(r).Parse()` on the decoded input -/
def parseChars (cs : List Char) : Res Parsed := run {} cs

/-- … on bytes -/
def parse (b : List UInt8) : Res Parsed := parseChars (decodeLossy b)

end Gotree.C02.Newick

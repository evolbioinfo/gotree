/-
  C02 — total model of the Nexus scanner and parser (io/nexus/nexus_lexer.go,
  nexus_parser.go: Parse, parseTaxa, parseTrees, parseTranslationTable, parseData,
  parseUnsupportedCommand / Key / Block, consumeComment).

  * `Scanner.Scan()` does not depend on the parser (one mode, `unscan` is never
    called in this package), so the input is first cut into tokens (`tokens`, by
    well-founded recursion on the remaining input: every scan consumes at least one
    character).
  * Every call site of `scanIgnoreWhitespace` in the parser is a control point
    (`Ctl`); `step` is what the code does with the token it gets there.  The parser
    is the fold of `deliver` over the token list — structural recursion, so no loop
    can run forever while there is input — followed by the delivery of the EOF token
    the scanner returns forever at the end of the input (`atEOF`): three deliveries
    reach a halted state from EVERY control point (theorem `eof_halts`), which is
    "every loop leaves on EOF".  The variant before fix 214ace7 (F3) stays in the
    comment loop forever (`runPinned … = .outOfFuel`).
  * `[]rune(lit4)[0]` is an explicit panic when the literal is empty.
-/
import Gotree.Model.C02Newick

namespace Gotree.C02.Nexus
open Gotree Gotree.C02

inductive Tok
  | illegal | eof | ws | ident | numeric | openbrack | closebrack | endofcommand | endofline | comma
  | nexus | equal | begin_ | data | taxa | taxlabels | trees | tree | translate
  | dimensions | ntax | nchar | format | datatype | missing | gap | matrix | end_
  deriving DecidableEq, Repr, Inhabited

def isWs (c : Char) : Bool := c == ' ' || c == '\t'
def isIdent (c : Char) : Bool :=
  c != '[' && c != ']' && c != ';' && c != '=' && c != '\r' && c != '\n' && c != ',' && !isWs c

/-- `unicode.ToUpper` as far as it can produce an ASCII letter -/
def goUpper (c : Char) : Char :=
  if 'a' ≤ c && c ≤ 'z' then Char.ofNat (c.toNat - 32)
  else if c.toNat == 0x131 then 'I' else if c.toNat == 0x17F then 'S' else c

/-- `unicode.ToLower` as far as it can produce an ASCII letter -/
def goLower (c : Char) : Char :=
  if 'A' ≤ c && c ≤ 'Z' then Char.ofNat (c.toNat + 32)
  else if c.toNat == 0x130 then 'i' else if c.toNat == 0x212A then 'k' else c

/-- the end of `scanIdent`: NUMERIC if `ParseInt` accepts, else keyword or IDENT -/
def classify (lit : List Char) : Tok :=
  if (parseInt lit).isSome then .numeric else
  match String.ofList (lit.map goUpper) with
  | "#NEXUS" => .nexus | "BEGIN" => .begin_ | "DATA" => .data | "CHARACTERS" => .data
  | "TAXA" => .taxa | "TAXLABELS" => .taxlabels | "TREES" => .trees | "TREE" => .tree
  | "TRANSLATE" => .translate | "DIMENSIONS" => .dimensions | "NTAX" => .ntax | "NCHAR" => .nchar
  | "FORMAT" => .format | "DATATYPE" => .datatype | "MISSING" => .missing | "GAP" => .gap
  | "MATRIX" => .matrix | "END" => .end_
  | _ => .ident

structure Token where
  tok : Tok
  lit : List Char
  deriving Inhabited

structure Scanned where
  t : Token
  rest : List Char

/-- `scanIdent` when the first rune `c` is taken unconditionally -/
def identFrom (c : Char) (cs : List Char) : Scanned :=
  let lit := c :: cs.takeWhile isIdent
  ⟨⟨classify lit, lit⟩, cs.dropWhile isIdent⟩

/-- `Scanner.Scan()` on a non-empty input `c :: cs` -/
def scan1 (c : Char) (cs : List Char) : Scanned :=
  if isWs c then ⟨⟨.ws, c :: cs.takeWhile isWs⟩, cs.dropWhile isWs⟩
  else if c == '\n' then ⟨⟨.endofline, []⟩, cs⟩
  else if c == '\r' then
    match cs with
    | [] => ⟨⟨classify [rep], [rep]⟩, []⟩           -- read() = eof; WriteRune(-1) writes U+FFFD
    | c2 :: r => if c2 == '\n' then ⟨⟨.endofline, []⟩, r⟩ else identFrom c2 r   -- "\r without \n": unread, scanIdent
  else if c == '[' then ⟨⟨.openbrack, [c]⟩, cs⟩
  else if c == ']' then ⟨⟨.closebrack, [c]⟩, cs⟩
  else if c == ';' then ⟨⟨.endofcommand, [c]⟩, cs⟩
  else if c == '=' then ⟨⟨.equal, [c]⟩, cs⟩
  else if c == ',' then ⟨⟨.comma, [c]⟩, cs⟩
  else identFrom c cs

theorem identFrom_rest_le (c : Char) (cs : List Char) : (identFrom c cs).rest.length ≤ cs.length :=
  (List.dropWhile_sublist _).length_le

theorem scan1_rest_le (c : Char) (cs : List Char) : (scan1 c cs).rest.length ≤ cs.length := by
  fun_cases scan1 c cs
  case case1 => exact (List.dropWhile_sublist _).length_le
  case case4 => exact Nat.le_succ _
  case case5 c2 r _ => exact Nat.le_succ_of_le (identFrom_rest_le c2 r)
  case case11 => exact identFrom_rest_le c cs
  all_goals exact Nat.le_refl _

/-- the whole input as tokens (the scanner then returns EOF forever) -/
def tokens : List Char → List Token
  | [] => []
  | c :: cs => (scan1 c cs).t :: tokens (scan1 c cs).rest
termination_by l => l.length
decreasing_by
  have := scan1_rest_le c cs
  simp only [List.length_cons]; omega

/- ## parser state -/

/-- what `Parse` keeps from the blocks, and the `translationTable` field of the parser -/
structure Acc where
  taxantax : Int := 0
  taxlabels : Option (List String) := none        -- keys of the map, distinct
  hasData : Bool := false
  names : List String := []
  seqs : List (String × List Char) := []          -- the map name ↦ sequence
  nchar : Int := 0
  ntax : Int := 0
  datatype : List Char := "dna".toList
  missing : Char := '*'
  gap : Char := '-'
  hasTrees : Bool := false
  treenames : List (List Char) := []
  treestrings : List (List Char) := []
  translation : Option (List (String × String)) := none
  deriving Inhabited

/-- locals of `parseTaxa` -/
structure TaxaL where
  ntax : Int := -1
  labels : List String := []
  deriving Inhabited

/-- locals of `parseTrees` -/
structure TreesL where
  names : List (List Char) := []
  strings : List (List Char) := []
  deriving Inhabited

/-- locals of `parseData` -/
structure DataL where
  names : List String := []
  seqs : List (String × List Char) := []
  nchar : Int := -1
  ntax : Int := -1
  datatype : List Char := "dna".toList
  missing : Char := '*'
  gap : Char := '-'
  deriving Inhabited

/-- control points: one per call of `scanIgnoreWhitespace` (and the one `scanIgnoreWhitespaceAndEOL`) -/
inductive Ctl
  | expectNexus | main | mainComment | mainAfterComment | beginName | beginSemi (blk : Tok)
  -- parseTaxa
  | tHead (l : TaxaL) | tEndSemi (l : TaxaL) | tDim (l : TaxaL) | tDimNtaxEq (l : TaxaL) | tDimNtaxVal (l : TaxaL) (bad : Bool)
  | tDimKeyEq (l : TaxaL) | tDimKeyVal (l : TaxaL) | tLabels (l : TaxaL) | tComment (l : TaxaL) | tUnsup (l : TaxaL)
  -- parseTrees / parseTranslationTable
  | rHead (l : TreesL) | rEndSemi (l : TreesL) | rTr (l : TreesL) (tbl : List (String × String))
  | rTrVal (l : TreesL) (tbl : List (String × String)) (key : List Char)
  | rTrSep (l : TreesL) (tbl : List (String × String)) (key value : List Char)
  | rTrComment (l : TreesL) (tbl : List (String × String))
  | rTreeName (l : TreesL) | rTreeEq (l : TreesL) (name : List Char) | rTreeFirst (l : TreesL) (name : List Char)
  | rTreeComment (l : TreesL) (name : List Char) | rTreeSkip (l : TreesL) (name : List Char)
  | rTreeAcc (l : TreesL) (name acc : List Char) | rComment (l : TreesL) | rUnsup (l : TreesL)
  -- parseData
  | dHead (l : DataL) | dEndSemi (l : DataL) | dDim (l : DataL)
  | dDimNtaxEq (l : DataL) | dDimNtaxVal (l : DataL) (bad : Bool) | dDimNcharEq (l : DataL) | dDimNcharVal (l : DataL) (bad : Bool)
  | dDimKeyEq (l : DataL) | dDimKeyVal (l : DataL)
  | dFmt (l : DataL) | dFmtDtEq (l : DataL) | dFmtDtVal (l : DataL) (bad : Bool)
  | dFmtMsEq (l : DataL) | dFmtMsVal (l : DataL) (bad : Bool) | dFmtGapEq (l : DataL) | dFmtGapVal (l : DataL) (bad : Bool)
  | dFmtKeyEq (l : DataL) | dFmtKeyVal (l : DataL)
  | dMat (l : DataL) | dMatSeq (l : DataL) (name seq : List Char) | dComment (l : DataL) | dUnsup (l : DataL)
  -- parseUnsupportedBlock
  | uHead | uEndSemi
  deriving Inhabited

/-- why the machine stopped -/
inductive Halt
  | err (msg : String)
  | panic (msg : String)
  | done               -- the main loop of `Parse` left on EOF
  deriving Inhabited

structure St where
  ctl : Ctl := .expectNexus
  acc : Acc := {}
  skipped : Bool := false      -- scanIgnoreWhitespace has already skipped its one WS token
  halt : Option Halt := none
  deriving Inhabited

def St.fail (s : St) (m : String) : St := { s with halt := some (.err m) }
def St.go (s : St) (c : Ctl) : St := { s with ctl := c }

def utf8Len : List Char → Nat
  | [] => 0
  | c :: r => c.utf8Size + utf8Len r

def mapSet (m : List (String × α)) (k : String) (v : α) : List (String × α) :=
  if m.any (·.1 == k) then m.map (fun kv => if kv.1 == k then (k, v) else kv) else m ++ [(k, v)]

def addLabel (l : List String) (k : String) : List String := if l.contains k then l else l ++ [k]

/-- `addseq` -/
def addseq (l : DataL) (seq name : List Char) : DataL :=
  let n := String.ofList name
  match l.seqs.lookup n with
  | none => { l with names := l.names ++ [n], seqs := l.seqs ++ [(n, seq)] }
  | some old => { l with seqs := mapSet l.seqs n (old ++ seq) }

/-- behaviours before the fixes, for the negative theorems -/
structure Pins where
  f3 : Bool := false    -- consumeComment does not return on EOF
  f4 : Bool := false    -- MISSING= / GAP= index the literal unconditionally

/-- `consumeComment` loop body, shared by the five call sites: where to go on `]` -/
def commentStep (pins : Pins) (s : St) (t : Token) (onClose : Ctl) : St :=
  if t.tok = .closebrack then s.go onClose
  else if t.tok = .eof || t.tok = .illegal then
    (if pins.f3 then s else s.fail "Unmatched bracket")     -- pinned: `err` is set but the loop goes on
  else s

/-- `parseUnsupportedCommand` loop body -/
def unsupStep (s : St) (t : Token) (onEnd : Ctl) : St :=
  match t.tok with
  | .illegal => s.fail "found illegal token"
  | .eof => s.fail "End of file within a command (no;)"
  | .endofcommand => s.go onEnd
  | _ => s

/-- `for tok4 != ENDOFCOMMAND { … }` of `case TREE` with the current token.  `acc` is the tree string
    read so far REVERSED (`tree += lit4` is a cons of the reversed literal: linear instead of quadratic) -/
def treeAccum (s : St) (l : TreesL) (name acc : List Char) (t : Token) : St :=
  if t.tok = .endofcommand then
    s.go (.rHead { l with names := l.names ++ [name], strings := l.strings ++ [acc.reverse] })
  else if t.tok ≠ .ident && t.tok ≠ .openbrack && t.tok ≠ .closebrack && t.tok ≠ .comma && t.tok ≠ .equal && t.tok ≠ .numeric then
    s.fail "Expecting a tree after 'TREE name ='"
  else s.go (.rTreeAcc l name (t.lit.reverse ++ acc))

/-- `missing = []rune(lit4)[0]` / `gap = …` with the checks around it -/
def singleChar (pins : Pins) (s : St) (bad : Bool) (t : Token) (set : Char → Ctl) : St :=
  -- bad: tok3 != EQUAL (err set, stopformat); tok4 != IDENT: err set
  let e1 := bad || t.tok ≠ .ident
  if pins.f4 then
    match t.lit with
    | [] => { s with halt := some (.panic "index out of range [0] with length 0") }
    | c :: _ => if e1 || utf8Len t.lit ≠ 1 then s.fail "Expecting a single character" else s.go (set c)
  else if utf8Len t.lit ≠ 1 then s.fail "Expecting a single character"
  else
    match t.lit with
    | [] => { s with halt := some (.panic "index out of range [0] with length 0") }
    | c :: _ => if e1 then s.fail "Expecting '=' / an identifier" else s.go (set c)

/-- what the code does with the token obtained at control point `s.ctl` -/
def step (pins : Pins) (s : St) (t : Token) : St :=
  match s.ctl with
  | .expectNexus => if t.tok ≠ .nexus then s.fail "expected #NEXUS" else s.go .main
  | .main =>
    match t.tok with
    | .illegal => s.fail "found illegal token"
    | .eof => { s with halt := some .done }
    | .endofline => s
    | .openbrack => s.go .mainComment
    | .begin_ => s.go .beginName
    | _ => s
  | .mainComment => commentStep pins s t .mainAfterComment
  | .mainAfterComment => if t.tok = .begin_ then s.go .beginName else s.go .main
  | .beginName => s.go (.beginSemi t.tok)
  | .beginSemi blk =>
    if t.tok ≠ .endofcommand then s.fail "expected ;"
    else match blk with
      | .taxa => s.go (.tHead {})
      | .trees => s.go (.rHead {})
      | .data => s.go (.dHead {})
      | _ => s.go .uHead
  -- ---------------------------------------------------------------- parseTaxa
  | .tHead l =>
    match t.tok with
    | .endofline => s
    | .illegal => s.fail "found illegal token"
    | .eof => s.fail "End of file within a TAXA block (no END;)"
    | .end_ => s.go (.tEndSemi l)
    | .dimensions => s.go (.tDim l)
    | .taxlabels => s.go (.tLabels l)
    | .openbrack => s.go (.tComment l)
    | _ => s.go (.tUnsup l)
  | .tEndSemi l =>
    if t.tok ≠ .endofcommand then s.fail "End token without ;"
    else { s with ctl := .main, acc := { s.acc with taxantax := l.ntax, taxlabels := some l.labels } }
  | .tDim l =>
    match t.tok with
    | .endofcommand => s.go (.tHead l)
    | .ntax => s.go (.tDimNtaxEq l)
    | _ => s.go (.tDimKeyEq l)
  | .tDimNtaxEq l => s.go (.tDimNtaxVal l (t.tok ≠ .equal))
  | .tDimNtaxVal l bad =>
    match parseInt t.lit with
    | none => s.fail "Expecting Integer value after 'NTAX='"
    | some v => if bad || t.tok ≠ .numeric then s.go (.tHead { l with ntax := v }) else s.go (.tDim { l with ntax := v })
  | .tDimKeyEq l => if t.tok ≠ .equal then s.fail "Expecting '=' after key" else s.go (.tDimKeyVal l)
  | .tDimKeyVal l => if t.tok ≠ .ident && t.tok ≠ .numeric then s.fail "Expecting an identifier after key=" else s.go (.tDim l)
  | .tLabels l =>
    match t.tok with
    | .endofline => s
    | .endofcommand => s.go (.tHead l)
    | .ident | .numeric => s.go (.tLabels { l with labels := addLabel l.labels (String.ofList t.lit) })
    | _ => s.fail "Unknown token in taxlabel list"
  | .tComment l => commentStep pins s t (.tHead l)
  | .tUnsup l => unsupStep s t (.tHead l)
  -- ---------------------------------------------------------------- parseTrees
  | .rHead l =>
    match t.tok with
    | .endofline => s
    | .illegal => s.fail "found illegal token"
    | .eof => s.fail "End of file within a TREES block (no END;)"
    | .end_ => s.go (.rEndSemi l)
    | .translate => s.go (.rTr l [])
    | .tree => s.go (.rTreeName l)
    | .openbrack => s.go (.rComment l)
    | _ => s.go (.rUnsup l)
  | .rEndSemi l =>
    if t.tok ≠ .endofcommand then s.fail "End token without ;"
    else
      -- the trees of every TREES block are kept (82a8873): appended to those of the blocks before
      { s with ctl := .main, acc := { s.acc with hasTrees := true, treenames := s.acc.treenames ++ l.names,
                                                  treestrings := s.acc.treestrings ++ l.strings } }
  | .rTr l tbl =>
    match t.tok with
    | .ident | .numeric => s.go (.rTrVal l tbl t.lit)
    | .endofline => s
    | .comma => s
    | .illegal => s.fail "found illegal token"
    | .eof => s.fail "End of file within a TRANSLATE block (no END;)"
    | .endofcommand => { s with ctl := .rHead l, acc := { s.acc with translation := some tbl } }
    | .openbrack => s.go (.rTrComment l tbl)
    | _ => s.fail "Unsupported token in TRANSLATE command"
  | .rTrVal l tbl key =>
    if t.tok ≠ .ident && t.tok ≠ .numeric then s.fail "TRANSLATE block: Expecting value name here"
    else s.go (.rTrSep l tbl key t.lit)
  | .rTrSep l tbl key value =>
    if t.tok ≠ .comma && t.tok ≠ .endofcommand && t.tok ≠ .endofline then s.fail "TRANSLATE block: Expecting , or ; after key value"
    else
      let tbl := mapSet tbl (String.ofList key) (String.ofList value)
      if t.lit = [';'] then { s with ctl := .rHead l, acc := { s.acc with translation := some tbl } }
      else s.go (.rTr l tbl)
  | .rTrComment l tbl => commentStep pins s t (.rTr l tbl)
  | .rTreeName l =>
    if t.tok ≠ .ident && t.tok ≠ .numeric then s.fail "Expecting a tree name after TREE" else s.go (.rTreeEq l t.lit)
  | .rTreeEq l name => if t.tok ≠ .equal then s.fail "Expecting '=' after tree name" else s.go (.rTreeFirst l name)
  | .rTreeFirst l name =>
    if t.tok = .openbrack then s.go (.rTreeComment l name) else treeAccum s l name [] t
  | .rTreeComment l name => commentStep pins s t (.rTreeSkip l name)
  | .rTreeSkip l name =>
    -- scanIgnoreWhitespaceAndEOL: `for tok == WS || tok == ENDOFLINE`
    if t.tok = .ws || t.tok = .endofline then s else treeAccum s l name [] t
  | .rTreeAcc l name acc => treeAccum s l name acc t
  | .rComment l => commentStep pins s t (.rHead l)
  | .rUnsup l => unsupStep s t (.rHead l)
  -- ---------------------------------------------------------------- parseData
  | .dHead l =>
    match t.tok with
    | .endofline => s
    | .illegal => s.fail "found illegal token"
    | .eof => s.fail "End of file within a TAXA block (no END;)"
    | .end_ => s.go (.dEndSemi l)
    | .dimensions => s.go (.dDim l)
    | .format => s.go (.dFmt l)
    | .matrix => s.go (.dMat l)
    | .openbrack => s.go (.dComment l)
    | _ => s.go (.dUnsup l)
  | .dEndSemi l =>
    if t.tok ≠ .endofcommand then s.fail "End token without ;"
    else { s with ctl := .main, acc := { s.acc with hasData := true, names := l.names, seqs := l.seqs, nchar := l.nchar,
                                                      ntax := l.ntax, datatype := l.datatype, missing := l.missing, gap := l.gap } }
  | .dDim l =>
    match t.tok with
    | .endofcommand => s.go (.dHead l)
    | .ntax => s.go (.dDimNtaxEq l)
    | .nchar => s.go (.dDimNcharEq l)
    | _ => s.go (.dDimKeyEq l)
  | .dDimNtaxEq l => s.go (.dDimNtaxVal l (t.tok ≠ .equal))
  | .dDimNtaxVal l bad =>
    match parseInt t.lit with
    | none => s.fail "Expecting Integer value after 'NTAX='"
    | some v => if bad || t.tok ≠ .numeric then s.go (.dHead { l with ntax := v }) else s.go (.dDim { l with ntax := v })
  | .dDimNcharEq l => s.go (.dDimNcharVal l (t.tok ≠ .equal))
  | .dDimNcharVal l bad =>
    match parseInt t.lit with
    | none => s.fail "Expecting Integer value after 'NCHAR='"
    | some v => if bad || t.tok ≠ .numeric then s.go (.dHead { l with nchar := v }) else s.go (.dDim { l with nchar := v })
  | .dDimKeyEq l => if t.tok ≠ .equal then s.fail "Expecting '=' after key" else s.go (.dDimKeyVal l)
  | .dDimKeyVal l => if t.tok ≠ .ident && t.tok ≠ .numeric then s.fail "Expecting an identifier after key=" else s.go (.dDim l)
  | .dFmt l =>
    match t.tok with
    | .endofcommand => s.go (.dHead l)
    | .datatype => s.go (.dFmtDtEq l)
    | .missing => s.go (.dFmtMsEq l)
    | .gap => s.go (.dFmtGapEq l)
    | _ => s.go (.dFmtKeyEq l)
  | .dFmtDtEq l => s.go (.dFmtDtVal l (t.tok ≠ .equal))
  | .dFmtDtVal l bad =>
    if t.tok ≠ .ident then s.fail "Expecting identifier after 'DATATYPE='"
    else if bad then s.fail "Expecting '=' after DATATYPE"
    else s.go (.dFmt { l with datatype := t.lit })
  | .dFmtMsEq l => s.go (.dFmtMsVal l (t.tok ≠ .equal))
  | .dFmtMsVal l bad => singleChar pins s bad t (fun c => .dFmt { l with missing := c })
  | .dFmtGapEq l => s.go (.dFmtGapVal l (t.tok ≠ .equal))
  | .dFmtGapVal l bad => singleChar pins s bad t (fun c => .dFmt { l with gap := c })
  | .dFmtKeyEq l => if t.tok ≠ .equal then s.fail "Expecting '=' after key" else s.go (.dFmtKeyVal l)
  | .dFmtKeyVal l => if t.tok ≠ .ident && t.tok ≠ .numeric then s.fail "Expecting an identifier after key=" else s.go (.dFmt l)
  | .dMat l =>
    match t.tok with
    | .ident => s.go (.dMatSeq l t.lit [])
    | .endofline => s
    | .endofcommand => s.go (.dHead l)
    | _ => s.fail "Expecting sequence identifier in Matrix block"
  | .dMatSeq l name seq =>
    match t.tok with
    | .ident => s.go (.dMatSeq l name (seq ++ t.lit))
    | .endofline => s.go (.dMat (addseq l seq name))
    | _ => s.fail "Expecting sequence after sequence identifier"
  | .dComment l => commentStep pins s t (.dHead l)
  | .dUnsup l => unsupStep s t (.dHead l)
  -- ---------------------------------------------------------------- parseUnsupportedBlock
  | .uHead =>
    match t.tok with
    | .illegal => s.fail "found illegal token"
    | .eof => s.fail "End of file within a block (no END;)"
    | .end_ => s.go .uEndSemi
    | _ => s
  | .uEndSemi => if t.tok ≠ .endofcommand then s.fail "End token without ;" else s.go .main

/-- control points that read with `p.scan()` directly -/
def rawCtl : Ctl → Bool
  | .rTreeSkip _ _ => true
  | _ => false

/-- one token of the scanner reaches the parser (`scanIgnoreWhitespace` skips ONE WS token) -/
def deliver (pins : Pins) (s : St) (t : Token) : St :=
  if s.halt.isSome then s
  else if t.tok = .ws && !rawCtl s.ctl && !s.skipped then { s with skipped := true }
  else step pins { s with skipped := false } t

def eofTok : Token := ⟨.eof, []⟩

/-- at the end of the input the scanner returns EOF for ever: three deliveries are enough
    (theorem `eof_halts`) -/
def atEOF (pins : Pins) (s : St) : St := deliver pins (deliver pins (deliver pins s eofTok) eofTok) eofTok

/-- the token loop of `Parse` -/
def runToks (pins : Pins) (ts : List Token) : St := atEOF pins (ts.foldl (deliver pins) {})

/-- fuel-bounded delivery of EOF, for the divergence theorem of the pinned variant -/
def eofFuel (pins : Pins) : Nat → St → Option Halt
  | 0, _ => none                                    -- out of fuel
  | n + 1, s => match s.halt with
    | some h => some h
    | none => eofFuel pins n (deliver pins s eofTok)

/- ## after the loop -/

/-- one tree of the Nexus structure -/
structure NTree where
  name : String
  tree : T
  nonfinite : Bool

/-- `Tree.Nodes()` names in order, for `NewNodeIndex` -/
def hasDupNonEmpty : List String → Bool
  | [] => false
  | a :: r => (a != "" && r.contains a) || hasDupNonEmpty r

/- `Tree.Rename(namemap)`: every node whose name is a key gets the value -/
mutual
def renameT (m : List (String × String)) : T → T
  | .node d p k => .node { d with name := (m.lookup d.name).getD d.name } p (renameL m k)
def renameL (m : List (String × String)) : Kids → Kids
  | [] => []
  | (e, t) :: r => (e, renameT m t) :: renameL m r
end

/-- the loop over `treestrings` at the end of `Parse`.  `np` is the Newick parser. -/
def buildTrees (np : List Char → Res Newick.Parsed) (a : Acc) :
    List (List Char) → List (List Char) → Nat → Res (List NTree)
  | [], _, _ => .ok []
  | _ :: _, [], _ => .panic "index out of range: treenames[i]"
  | s :: ss, n :: ns, i =>
    match np (s ++ [';']) with
    | .panic m => .panic m
    | .err m => .err m
    | .ok p =>
      -- Rename: NewNodeIndex fails on two nodes with the same non-empty name, UpdateTipIndex on two tips
      let renamed : Res T :=
        match a.translation with
        | none => .ok p.tree
        | some m =>
          if hasDupNonEmpty p.tree.nodeNames then .err "NewNodeIndex error: several nodes with the same name"
          else
            let t := renameT m p.tree
            if hasDup t.tipNames then .err "Cannot create a tip index when several tips have the same name" else .ok t
      match renamed with
      | .panic m => .panic m
      | .err m => .err m
      | .ok t =>
        let chk : Option String :=
          match a.taxlabels with
          | none => none
          | some labels =>
            if t.tipNames.any (fun x => !labels.contains x) then some "Taxa name in the tree is not defined in the TAXLABELS block"
            else none    -- 6a194b0: a tree may bear a subset of the taxa of the TAXA block
        match chk with
        | some m => .err m
        | none =>
          match buildTrees np a ss ns (i + 1) with
          | .ok rest => .ok (⟨String.ofList n, t, p.nonfinite⟩ :: rest)
          | .err m => .err m
          | .panic m => .panic m

/-- the alignment part of the end of `Parse` (goalign: AlphabetFromString, AddSequence, Iterate) -/
def checkAlign (a : Acc) : Option String :=
  if !a.hasData then none else
  let dt := String.ofList (a.datatype.map goLower)
  if !(dt == "dna" || dt == "rna" || dt == "nucleotide" || dt == "protein") then some "Unknown datatype" else
  if (a.names.length : Int) ≠ a.ntax && a.ntax ≠ -1 then some "Number of taxa in alignment does not correspond to definition" else
  let lens := a.names.map fun n => utf8Len ((a.seqs.lookup n).getD [])
  if lens.any (fun l => (l : Int) ≠ a.nchar && a.nchar ≠ -1) then some "Number of character in sequence does not correspond to definition" else
  (match lens with
   | [] => none
   | l0 :: r => if r.any (· ≠ l0) then some "Sequence does not have same length as other sequences" else none) |>.orElse fun _ =>
  match a.taxlabels with
  | none => none
  | some labels =>
    if a.names.any (fun n => !labels.contains n) then some "Sequence name in the alignment is not defined in the TAXLABELS block"
    else if a.names.length ≠ labels.length then some "Some taxa names defined in TAXLABELS are not present in the alignment"
    else none

/-- the end of `Parse`, after the token loop -/
def finalize (np : List Char → Res Newick.Parsed) (a : Acc) : Res (List NTree) :=
  let nlabels : Int := match a.taxlabels with | none => 0 | some l => l.length
  if a.taxantax ≠ -1 && a.taxantax ≠ nlabels then .err "Number of defined taxa in TAXLABELS/DIMENSIONS is different from length of taxa list"
  else if a.gap ≠ '-' || a.missing ≠ '*' then .err "We only accept - gaps && * missing so far"
  else match checkAlign a with
    | some m => .err m
    | none => if a.hasTrees then buildTrees np a a.treestrings a.treenames 0 else .ok []

/-- outcome of the Nexus parser.  `hang` = the machine is not halted after the EOF deliveries
    (impossible for the current code: theorem `nexus_total`). -/
inductive PRes
  | ok (trees : List NTree)
  | err (msg : String)
  | panic (msg : String)
  | hang

def ofState (np : List Char → Res Newick.Parsed) (s : St) : PRes :=
  match s.halt with
  | none => .hang
  | some (.err m) => .err m
  | some (.panic m) => .panic m
  | some .done =>
    match finalize np s.acc with
    | .ok ts => .ok ts
    | .err m => .err m
    | .panic m => .panic m

/-- `nexus.NewParser(r).Parse()` on the decoded input -/
def parseCharsWith (pins : Pins) (np : List Char → Res Newick.Parsed) (cs : List Char) : PRes :=
  ofState np (runToks pins (tokens cs))

def parseChars (cs : List Char) : PRes := parseCharsWith {} Newick.parseChars cs

def parse (b : List UInt8) : PRes := parseChars (decodeLossy b)

end Gotree.C02.Nexus

/-
  C01 — executable model of gotree's Newick code (io/newick/*.go, tree/node.go Node.Newick,
  tree/tree.go Tree.Newick), as the code is NOW.

  PUBLIC NAMES (stable; imported by C02 and C13), all in namespace `Gotree.Newick`:

    Codec / FloatCodec / goCodec      see Model/C01Float.lean
    Outcome α                         ok a | err msg | panic msg | unrep msg
                                      (`unrep`: the Go code succeeds but stores NaN/±Inf, which `EdgeD` (Rat) cannot hold)
    Tok                               the tokens of newick_token.go
    isWhitespace, isIdent             newick_token.go
    scan      : Codec → Bool → List Char → Tok × List Char × List Char     Scanner.Scan(ignoreSemiColumn): token, literal, rest
    skipWs, scanIW                    Parser.scanIgnoreWhitespace
    consumeComment                    Parser.consumeComment
    PState, Frame, iter, run          Parser.parseIter (state, one turn of the loop, the loop)
    parse     : Codec → List Char → Outcome T        Parser.Parse  (input = the runes delivered by bufio.ReadRune)
    parseStr  : Codec → String → Outcome T
    write     : Codec → T → List Char                Tree.Newick
    writeStr  : Codec → T → String
    T.normIds : T → T                                what a re-read tree looks like: ppos 0, branch ids in creation (pre-)order
    trimSpace / isSpaceGo             strings.TrimSpace / unicode.IsSpace

  Modelling notes (each read off the Go source):
  * No fuel: `consumeComment` and `run` recurse on the remaining input; `scan_lt`/`iter_le` prove that
    every turn consumes at least one character or stops.
  * The one-token `unscan` buffer of the parser is used at exactly two places (Parse: after it has seen
    the first `(`; parseIter: on `;`).  Both times the token is re-read by `scanIgnoreWhitespace` in the
    same mode, so "unscan" is modelled by handing on the input position *before* that token (`skipWs`).
  * Node stack: Go attaches a child to its parent when it is created and pops it at the next `,`/`)`.
    A frame here holds the node data, the data of the branch above it and the children finished so far;
    a popped frame is appended to the frame below (same order, because a node only gets children
    while it is on top).  `node == nil` ⇔ the stack is empty; `edge == nil` ⇔ the stack has at most one
    frame (only the frame pushed while `node == nil`, i.e. on the empty stack, carries a nil edge).
    A root popped off the stack (`(a,b),`) stays `t.Root()`: field `done`; a later `(` on the empty stack
    makes a NEW root (`(a,b),(c);` parses to `(c);` — the code's behaviour, kept).
  * `stale`: parseIter's named result `err` is assigned by the failed `ParseFloat` of an `x/y` label and
    returned by the bare `return` of the EOT/EOF cases unless a later Pop / consumeComment / ParseFloat
    overwrote it (`(a(b))x/y;` is an error, `(a(b))xy;` is not).
  * Node ids (`SetId(nnodes)`) are not part of `NodeD`; branch ids are (`nedges`).
  * No Go index expression / nil dereference is reachable in parseIter (every use is guarded); the only
    `panic` of the model is the nil root in `Parse`'s `newtree.Tips()`, unreachable because `Parse`
    insists on a first `(` (C02 proves it).
-/
import Gotree.Model.C01Float

namespace Gotree.Newick

inductive Outcome (α : Type) where
  | ok (a : α)
  | err (msg : String)
  | panic (msg : String)
  | unrep (msg : String)
  deriving Repr, Inhabited

inductive Tok where
  | illegal | eof | ws | ident | numeric | openpar | closepar | startlen | openbrack | closebrack | newsibling | eot
  deriving DecidableEq, Repr, Inhabited

/- ## Lexer (newick_token.go, newick_lexer.go) -/

def isWhitespace (c : Char) : Bool := c == ' ' || c == '\t' || c == '\n' || c == '\r'

def isIdent (ign : Bool) (c : Char) : Bool :=
  c != '[' && c != ']' && c != '(' && c != ')' && c != ',' && c != ':' && (ign || c != ';')

/-- `Scanner.Scan(ignoreSemiColumn)`: token, literal, remaining input. -/
def scan (C : Codec) (ign : Bool) : List Char → Tok × List Char × List Char
  | [] => (.eof, [], [])
  | c :: r =>
    if isWhitespace c then (.ws, c :: r.takeWhile isWhitespace, r.dropWhile isWhitespace)
    else if c == '(' then (.openpar, [c], r)
    else if c == ')' then (.closepar, [c], r)
    else if c == '[' then (.openbrack, [c], r)
    else if c == ']' then (.closebrack, [c], r)
    else if c == ',' then (.newsibling, [c], r)
    else if c == ';' && !ign then (.eot, [c], r)
    else if c == ':' then (.startlen, [c], r)
    else
      -- scanIdent: the first rune unconditionally, then every identifier rune
      let lit := c :: r.takeWhile (isIdent ign)
      (if C.isFloat lit then .numeric else .ident, lit, r.dropWhile (isIdent ign))

/- `scan` on a non-empty input, by the class of its first character: a blank, an identifier rune, a delimiter. -/

theorem scan_ws (C : Codec) (ign : Bool) (c : Char) (r : List Char) (hw : isWhitespace c = true) :
    scan C ign (c :: r) = (.ws, c :: r.takeWhile isWhitespace, r.dropWhile isWhitespace) := by
  simp only [scan, hw, if_true]

theorem scan_ident (C : Codec) (ign : Bool) (c : Char) (r : List Char) (hw : isWhitespace c = false)
    (hi : isIdent ign c = true) :
    scan C ign (c :: r) = (if C.isFloat (c :: r.takeWhile (isIdent ign)) then .numeric else .ident,
      c :: r.takeWhile (isIdent ign), r.dropWhile (isIdent ign)) := by
  cases ign <;> simp_all [scan, isIdent]

theorem isIdent_false (ign : Bool) (c : Char) (h : isIdent ign c = false) :
    c = '[' ∨ c = ']' ∨ c = '(' ∨ c = ')' ∨ c = ',' ∨ c = ':' ∨ (ign = false ∧ c = ';') := by
  simpa only [isIdent, Bool.and_eq_false_iff, Bool.or_eq_false_iff, bne_eq_false_iff_eq, or_assoc] using h

theorem scan_openbrack (C : Codec) (ign : Bool) (r : List Char) : scan C ign ('[' :: r) = (.openbrack, ['['], r) := rfl
theorem scan_closebrack (C : Codec) (ign : Bool) (r : List Char) : scan C ign (']' :: r) = (.closebrack, [']'], r) := rfl
theorem scan_openpar (C : Codec) (ign : Bool) (r : List Char) : scan C ign ('(' :: r) = (.openpar, ['('], r) := rfl
theorem scan_closepar (C : Codec) (ign : Bool) (r : List Char) : scan C ign (')' :: r) = (.closepar, [')'], r) := rfl
theorem scan_comma (C : Codec) (ign : Bool) (r : List Char) : scan C ign (',' :: r) = (.newsibling, [','], r) := rfl
theorem scan_colon (C : Codec) (ign : Bool) (r : List Char) : scan C ign (':' :: r) = (.startlen, [':'], r) := rfl
theorem scan_semi (C : Codec) (r : List Char) : scan C false (';' :: r) = (.eot, [';'], r) := rfl

/-- a delimiter is a token by itself -/
theorem scan_delim (C : Codec) (ign : Bool) (c : Char) (r : List Char) (hi : isIdent ign c = false) :
    ∃ t, scan C ign (c :: r) = (t, [c], r) ∧ t ≠ .ws ∧ t ≠ .eof ∧ t ≠ .illegal ∧ (t = .closebrack → c = ']') := by
  rcases isIdent_false ign c hi with rfl | rfl | rfl | rfl | rfl | rfl | ⟨rfl, rfl⟩
  · exact ⟨_, scan_openbrack C ign r, by decide⟩
  · exact ⟨_, scan_closebrack C ign r, by decide⟩
  · exact ⟨_, scan_openpar C ign r, by decide⟩
  · exact ⟨_, scan_closepar C ign r, by decide⟩
  · exact ⟨_, scan_comma C ign r, by decide⟩
  · exact ⟨_, scan_colon C ign r, by decide⟩
  · exact ⟨_, scan_semi C r, by decide⟩

/-- the three classes at once: the token, and literal and rest as the two halves of a `takeWhile` -/
theorem scan_cons (C : Codec) (ign : Bool) (c : Char) (r : List Char) :
    ∃ t q, scan C ign (c :: r) = (t, c :: r.takeWhile q, r.dropWhile q) ∧
      (q = isWhitespace ∨ q = isIdent ign ∨ q = fun _ => false) ∧
      (t = .ws ↔ isWhitespace c = true) ∧ t ≠ .eof ∧ t ≠ .illegal ∧ (t = .closebrack → c = ']') := by
  cases hw : isWhitespace c with
  | true => exact ⟨_, _, scan_ws C ign c r hw, Or.inl rfl, by simp, by decide, by decide, by simp⟩
  | false =>
    cases hi : isIdent ign c with
    | true =>
      refine ⟨_, _, scan_ident C ign c r hw hi, Or.inr (Or.inl rfl), ?_⟩
      split <;> simp
    | false =>
      obtain ⟨t, h, h1, h2, h3, h4⟩ := scan_delim C ign c r hi
      exact ⟨t, fun _ => false, by cases r <;> simpa [List.takeWhile_cons, List.dropWhile_cons] using h, Or.inr (Or.inr rfl), by simp [h1], h2, h3, h4⟩

theorem scan_le (C : Codec) (ign : Bool) (inp : List Char) : (scan C ign inp).2.2.length ≤ inp.length := by
  cases inp with
  | nil => exact Nat.le_refl _
  | cons c r =>
    obtain ⟨t, q, h, -⟩ := scan_cons C ign c r
    rw [h]
    exact Nat.le_succ_of_le (List.dropWhile_sublist q).length_le

theorem scan_lt (C : Codec) (ign : Bool) (inp : List Char) (h : (scan C ign inp).1 ≠ .eof) :
    (scan C ign inp).2.2.length < inp.length := by
  cases inp with
  | nil => exact absurd rfl h
  | cons c r =>
    obtain ⟨t, q, h, -⟩ := scan_cons C ign c r
    rw [h]
    exact Nat.lt_succ_of_le (List.dropWhile_sublist q).length_le

/-- position of the next non-blank token (`scanIgnoreWhitespace` skips one `WS` token, which holds
    all contiguous blanks) -/
def skipWs (C : Codec) (inp : List Char) : List Char :=
  if (scan C false inp).1 = .ws then (scan C false inp).2.2 else inp

/-- `Parser.scanIgnoreWhitespace` -/
def scanIW (C : Codec) (inp : List Char) : Tok × List Char × List Char := scan C false (skipWs C inp)

theorem skipWs_le (C : Codec) (inp : List Char) : (skipWs C inp).length ≤ inp.length := by
  unfold skipWs; split
  · exact scan_le C false inp
  · exact Nat.le_refl _

theorem scanIW_le (C : Codec) (inp : List Char) : (scanIW C inp).2.2.length ≤ inp.length :=
  Nat.le_trans (scan_le C false _) (skipWs_le C inp)

theorem scanIW_lt (C : Codec) (inp : List Char) (h : (scanIW C inp).1 ≠ .eof) :
    (scanIW C inp).2.2.length < inp.length :=
  Nat.lt_of_lt_of_le (scan_lt C false _ h) (skipWs_le C inp)

/-- `Parser.consumeComment` after the `[`: concatenates the literals returned by `scan(true)` up to the
    matching `]`; `none` = "unmatched bracket" (EOF). -/
def consumeComment (C : Codec) (inp : List Char) (acc : List Char) : Option (List Char × List Char) :=
  if (scan C true inp).1 = .closebrack then some (acc, (scan C true inp).2.2)
  else if h2 : (scan C true inp).1 = .eof ∨ (scan C true inp).1 = .illegal then none
  else consumeComment C (scan C true inp).2.2 (acc ++ (scan C true inp).2.1)
termination_by inp.length
decreasing_by
  apply scan_lt
  intro h3; exact h2 (Or.inl h3)

theorem consumeComment_le (C : Codec) : ∀ (n : Nat) (inp acc : List Char) (c r : List Char), inp.length ≤ n →
    consumeComment C inp acc = some (c, r) → r.length ≤ inp.length := by
  intro _ inp acc c r hn
  clear hn
  induction inp, acc using consumeComment.induct C with
  | case1 inp acc h1 =>
    rw [consumeComment, if_pos h1]
    intro h; cases h; exact scan_le C true inp
  | case2 inp acc h1 h2 =>
    rw [consumeComment, if_neg h1, dif_pos h2]
    intro h; cases h
  | case3 inp acc h1 h2 ih =>
    rw [consumeComment, if_neg h1, dif_neg h2]
    intro h
    exact Nat.le_trans (ih h) (scan_le C true inp)

/- ## Parser state (newick_parser.go parseIter, newick_nodestack.go) -/

structure Frame where
  d : NodeD
  e : EdgeD          -- data of the branch above the node (unused for the bottom frame: Go's nil edge)
  kids : Kids
  deriving Repr, Inhabited

structure PState where
  stack : List Frame := []        -- head = top of Go's NodeStack
  level : Int := 0
  prevTok : Option Tok := none    -- `none` = Go's -1
  nedges : Nat := 0
  done : Option T := none         -- t.Root() once its frame has been popped
  stale : Bool := false           -- named result `err` left non-nil (see the header)
  deriving Repr, Inhabited

def Frame.toT (f : Frame) : T := .node f.d 0 f.kids

namespace PState

def nodeNil (st : PState) : Bool := st.stack.isEmpty
def edgeNil (st : PState) : Bool := st.stack.length ≤ 1

/-- `nodeStack.Pop()` followed by `node, edge, _ = nodeStack.Head()`; `none` = the stack was empty. -/
def pop (st : PState) : Option PState :=
  match st.stack with
  | [] => none
  | [f] => some { st with stack := [], done := some f.toT }
  | f :: p :: rest => some { st with stack := { p with kids := p.kids ++ [(f.e, f.toT)] } :: rest }

/-- `newNode = t.NewNode(); newNode.SetName(name); edge = t.ConnectNodes(node, newNode); edge.SetId(nedges); nedges++;
    node = newNode; nodeStack.Push(node, edge)` -/
def pushChild (st : PState) (name : String) : PState :=
  { st with stack := ⟨⟨name, []⟩, { EdgeD.blank with id := (st.nedges : Int) }, []⟩ :: st.stack, nedges := st.nedges + 1 }

/-- `node = t.NewNode(); nodeStack.Push(node, nil); t.SetRoot(node)` -/
def pushRoot (st : PState) : PState :=
  { st with stack := [⟨⟨"", []⟩, EdgeD.blank, []⟩], done := none }

def modTop (st : PState) (f : Frame → Frame) : PState :=
  match st.stack with
  | [] => st
  | x :: r => { st with stack := f x :: r }

def topLen (st : PState) : Rat :=
  match st.stack with
  | [] => NIL
  | x :: _ => x.e.len

def addNodeComment (st : PState) (c : String) : PState :=
  st.modTop fun f => { f with d := { f.d with comments := f.d.comments ++ [c] } }
def addEdgeComment (st : PState) (c : String) : PState :=
  st.modTop fun f => { f with e := { f.e with comments := f.e.comments ++ [c] } }
def setName (st : PState) (n : String) : PState := st.modTop fun f => { f with d := { f.d with name := n } }
def setLen (st : PState) (v : Rat) : PState := st.modTop fun f => { f with e := { f.e with len := v } }
def setSup (st : PState) (v : Rat) : PState := st.modTop fun f => { f with e := { f.e with sup := v } }
def setPval (st : PState) (v : Rat) : PState := st.modTop fun f => { f with e := { f.e with pval := v } }

/-- unwind the stack: every node still on it is attached to the one below (Go attached it at creation). -/
def unwind : List Frame → Option (EdgeD × T) → Option T
  | [], acc => acc.map (·.2)
  | f :: rest, acc =>
    let f' : Frame := match acc with
      | none => f
      | some c => { f with kids := f.kids ++ [c] }
    unwind rest (some (f'.e, f'.toT))

/-- the tree `t.Root()` denotes when parseIter returns -/
def result (st : PState) : Option T :=
  match st.stack with
  | [] => st.done
  | s => unwind s none

end PState

/-- `strings.Split(lit, "/")` -/
def splitSlash : List Char → List (List Char)
  | [] => [[]]
  | c :: r =>
    match splitSlash r with
    | [] => [[]]          -- unreachable: the result is never empty
    | p :: ps => if c == '/' then [] :: p :: ps else (c :: p) :: ps

/-- one turn of the `for` loop of parseIter, after the token has been read -/
inductive Iter where
  | cont (st : PState) (rest : List Char)
  | stop (o : Outcome (PState × List Char))

open PState in
/-- The `switch tok` of parseIter.  `pos` is the input position of the token (for `unscan`), `rest`
    the input after it. -/
def iter (C : Codec) (st : PState) (tok : Tok) (lit pos rest : List Char) : Iter :=
  match tok with
  | .openpar =>
    if st.nodeNil then
      if st.level > 0 then .stop (.err "nil node at depth > 0")
      else .cont { st.pushRoot with level := st.level + 1, prevTok := some .openpar } rest
    else
      if st.level == 0 then .stop (.err "An open parenthesis while the stack is empty")
      else .cont { st.pushChild "" with level := st.level + 1, prevTok := some .openpar } rest
  | .closepar =>
    match st.pop with
    | none => .stop (.err "Closing parenthesis while the stack is already empty")
    | some st' => .cont { st' with level := st.level - 1, prevTok := some .closepar, stale := false } rest
  | .openbrack =>
    match consumeComment C rest [] with
    | none => .stop (.err "unmatched bracket")
    | some (c, r2) =>
      let c := String.ofList c
      let st := { st with stale := false }
      if st.prevTok == some .startlen && !st.edgeNil then
        .cont { st.addEdgeComment c with prevTok := some .closebrack } r2
      else if st.prevTok == some .startlen && st.edgeNil && !st.nodeNil then
        .cont { st.addNodeComment c with prevTok := some .closebrack } r2
      else if (st.prevTok == some .closepar || st.prevTok == some .ident || st.prevTok == some .numeric ||
               st.prevTok == some .closebrack) && !st.nodeNil then
        .cont { st.addNodeComment c with prevTok := some .closebrack } r2
      else .stop (.err "comment should not be located here")
  | .closebrack => .stop (.err "mismatched ] here")
  | .startlen =>
    let s := scanIW C rest
    if s.1 ≠ .numeric then .stop (.err "no numeric value after ':'")
    else if !st.nodeNil && st.level != 0 then
      if st.edgeNil then .stop (.err "Edge length should not be located here")
      else if st.topLen != NIL then .stop (.err "More than one length is given")
      else match C.parse s.2.1 with
        | none => .stop (.unrep "non-finite length")
        | some v => .cont { st.setLen v with prevTok := some .startlen, stale := false } s.2.2
    else if st.level == 0 then .cont { st with prevTok := some .startlen } s.2.2
    else .stop (.err "Cannot assign length to nil node")
  | .newsibling =>
    match st.pop with
    | none => .stop (.err "Stack is empty, a coma should not be located here")
    | some st' => .cont { st' with prevTok := some .newsibling, stale := false } rest
  | .ident | .numeric =>
    if st.prevTok == some .closepar then
      if tok == .numeric then
        if st.level == 0 || st.edgeNil then .cont st rest
        else match C.parse lit with
          | none => .stop (.unrep "non-finite support")
          | some v => .cont { st.setSup v with stale := false } rest
      else
        let named (st : PState) : Iter :=
          if st.nodeNil then .stop (.err "Cannot assign node name to nil node")
          else .cont (st.setName (String.ofList lit)) rest
        match splitSlash lit with
        | [a, b] =>
          if st.edgeNil then named st
          else if !C.isFloat a then named { st with stale := true }
          else if !C.isFloat b then named { st with stale := true }
          else match C.parse a, C.parse b with
            | some s, some p => .cont { (st.setSup s).setPval p with stale := false } rest
            | _, _ => .stop (.unrep "non-finite support or p-value")
        | _ => named st
    else
      if st.prevTok != some .openpar && st.prevTok != some .newsibling then
        .stop (.err "There should not be a tip name in this context")
      else if st.nodeNil then .stop (.err "Cannot create a new tip with no parent")
      else .cont { st.pushChild (String.ofList lit) with prevTok := some tok } rest
  | .eot =>
    if st.level != 0 then .stop (.err "Mismatched parenthesis at ;")
    else if st.stale then .stop (.err "strconv.ParseFloat: invalid syntax")
    else .stop (.ok ({ st with prevTok := some .eot }, pos))
  | .eof =>
    if st.stale then .stop (.err "strconv.ParseFloat: invalid syntax")
    else .stop (.ok ({ st with prevTok := some .eof }, rest))
  | .ws | .illegal => .cont st rest

/-- What a turn on `tok` can result in: it goes on behind the token, behind the number after a `:`, or behind a
    comment, and never on EOF; it ends well only on `;` (handing on the position of the `;`) or on EOF. -/
def Iter.Fits (C : Codec) (tok : Tok) (pos rest : List Char) : Iter → Prop
  | .cont _ r' => tok ≠ .eof ∧ (r' = rest ∨ r' = (scanIW C rest).2.2 ∨ ∃ c, consumeComment C rest [] = some (c, r'))
  | .stop (.ok (_, r)) => (tok = .eot ∧ r = pos) ∨ (tok = .eof ∧ r = rest)
  | .stop _ => True

theorem Iter.fits_ite {C : Codec} {tok : Tok} {pos rest : List Char} {c : Prop} [Decidable c] {a b : Iter}
    (ha : a.Fits C tok pos rest) (hb : b.Fits C tok pos rest) : (if c then a else b).Fits C tok pos rest := by
  split <;> assumption

/- Case distinction on the token and on the values that are matched on, then down the tree of tests. -/
theorem iter_fits (C : Codec) (st : PState) (tok : Tok) (lit pos rest : List Char) :
    (iter C st tok lit pos rest).Fits C tok pos rest := by
  cases tok <;> simp only [iter]
  case' openbrack => rcases hc : consumeComment C rest [] with _ | ⟨c, r2⟩
  case' startlen => cases C.parse (scanIW C rest).2.1
  case' closepar => cases st.pop
  case' newsibling => cases st.pop
  case' numeric => simp only [beq_self_eq_true, if_true]; cases C.parse lit
  case' ident =>
    simp only [show (Tok.ident == Tok.numeric) = false from rfl, Bool.false_eq_true, if_false]
    rcases splitSlash lit with _ | ⟨a, _ | ⟨b, _ | ⟨c, t⟩⟩⟩ <;> simp only []
  case' cons.cons.nil => cases C.parse a <;> cases C.parse b
  all_goals repeat' (first | refine Iter.fits_ite ?_ ?_ | simp [Iter.Fits, *])

theorem iter_le (C : Codec) (st : PState) (tok : Tok) (lit pos rest : List Char) (st' : PState) (r' : List Char)
    (h : iter C st tok lit pos rest = .cont st' r') : r'.length ≤ rest.length := by
  have hf := iter_fits C st tok lit pos rest
  rw [h] at hf
  rcases hf.2 with rfl | rfl | ⟨c, hc⟩
  · exact Nat.le_refl _
  · exact scanIW_le C rest
  · exact consumeComment_le C _ _ _ _ _ (Nat.le_refl _) hc

/-- The `for` loop of parseIter.  Returns the final state and the input position at which `Parse`
    goes on (before the `;` that was unscanned, or the empty rest at EOF). -/
def run (C : Codec) (st : PState) (inp : List Char) : Outcome (PState × List Char) :=
  match hi : iter C st (scanIW C inp).1 (scanIW C inp).2.1 (skipWs C inp) (scanIW C inp).2.2 with
  | .stop o => o
  | .cont st' r' =>
    if h : (scanIW C inp).1 = .eof then .err "unreachable: EOF always stops"   -- `iter … .eof …` is a `stop`
    else run C st' r'
termination_by inp.length
decreasing_by
  have h1 := iter_le C st _ _ _ _ st' r' hi
  have h2 := scanIW_lt C inp h
  omega

/- ## strings.TrimSpace -/

/-- `unicode.IsSpace` -/
def isSpaceGo (c : Char) : Bool :=
  let n := c.toNat
  n == 0x20 || (0x09 ≤ n && n ≤ 0x0D) || n == 0x85 || n == 0xA0 || n == 0x1680 ||
  (0x2000 ≤ n && n ≤ 0x200A) || n == 0x2028 || n == 0x2029 || n == 0x202F || n == 0x205F || n == 0x3000

def trimSpace (s : String) : String :=
  String.ofList ((s.toList.dropWhile isSpaceGo).reverse.dropWhile isSpaceGo).reverse

/- `for _, tip := range newtree.Tips() { tip.SetName(strings.TrimSpace(tip.Name())) }` below the root -/
mutual
def trimLeaves : T → T
  | .node d p [] => .node { d with name := trimSpace d.name } p []
  | .node d p (k :: ks) => .node d p (trimLeavesL (k :: ks))
def trimLeavesL : Kids → Kids
  | [] => []
  | (e, t) :: r => (e, trimLeaves t) :: trimLeavesL r
end

/-- the same from the root: the root is a tip iff it has exactly one neighbour -/
def trimTips : T → T
  | .node d p k => .node (if k.length == 1 then { d with name := trimSpace d.name } else d) p (trimLeavesL k)

/-- `Parser.Parse` -/
def parse (C : Codec) (inp : List Char) : Outcome T :=
  -- May have information inside [] before the tree
  let s0 := scanIW C inp
  let start : Option (List Char) :=        -- the position of the token that must be "("
    if s0.1 = .openbrack then
      match consumeComment C s0.2.2 [] with
      | none => none
      | some (_, r) => some r
    else some inp
  match start with
  | none => .err "unmatched bracket"
  | some inp1 =>
    if (scanIW C inp1).1 ≠ .openpar then .err "found …, expected ("
    else
      -- p.unscan(): parseIter re-reads the "("
      match run C {} (skipWs C inp1) with
      | .err m => .err m
      | .panic m => .panic m
      | .unrep m => .unrep m
      | .ok (st, rest) =>
        if st.level != 0 then .err "mismatched parenthesis after parsing"
        else if (scanIW C rest).1 ≠ .eot then .err "found …, expected ;"
        else match st.result with
          | none => .panic "nil root in Tips()"
          | some t => .ok (trimTips t)

def parseStr (C : Codec) (s : String) : Outcome T := parse C s.toList

/- ## Writer (tree/node.go Node.Newick, tree/tree.go Tree.Newick) -/

def bracket (c : String) : List Char := '[' :: (c.toList ++ [']'])

def writeComments (cs : List String) : List Char := (cs.map bracket).flatten

/-- what follows `child.Newick(n, newick)` for one child: support(/p-value) if the child has no name,
    node comments, `:length`, branch comments -/
def writeDecor (C : Codec) (e : EdgeD) (d : NodeD) : List Char :=
  (if e.sup != NIL && d.name == "" then
     C.fmt e.sup ++ (if e.pval != NIL then '/' :: C.fmt e.pval else [])
   else []) ++
  writeComments d.comments ++
  (if e.len != NIL then ':' :: C.fmt e.len else []) ++
  writeComments e.comments

mutual
/-- `Node.Newick(parent, buf)`; `nonRoot` = the node has a parent among its neighbours -/
def writeNode (C : Codec) (nonRoot : Bool) : T → List Char
  | .node d _ kids =>
    let nneigh := kids.length + (if nonRoot then 1 else 0)
    -- `len(n.neigh) > 1 || parent == nil`, inside `if len(n.neigh) > 0` (fix 331c4ae: "(child)root;")
    let paren : Bool := decide (nneigh > 1) || (!nonRoot && decide (nneigh > 0))
    (if paren then ['('] else []) ++ writeKids C true kids ++ (if paren then [')'] else []) ++ d.name.toList
/-- the loop over the children; `first` = no child written yet (`nbchild == 0`) -/
def writeKids (C : Codec) (first : Bool) : Kids → List Char
  | [] => []
  | (e, t) :: r =>
    (if first then [] else [',']) ++ writeNode C true t ++ writeDecor C e t.d ++ writeKids C false r
end

/-- `Tree.Newick()` -/
def write (C : Codec) (t : T) : List Char :=
  writeNode C false t ++ writeComments t.d.comments ++ [';']

def writeStr (C : Codec) (t : T) : String := String.ofList (write C t)

/- ## Normal form of a re-read tree -/

mutual
/-- renumber the branches in creation (= pre-) order from `n`, reset `ppos`; returns the next id -/
def normFrom : Nat → T → T × Nat
  | n, .node d _ kids => let (k, n') := normFromL n kids; (.node d 0 k, n')
def normFromL : Nat → Kids → Kids × Nat
  | n, [] => ([], n)
  | n, (e, t) :: r =>
    let (t', n1) := normFrom (n + 1) t
    let (r', n2) := normFromL n1 r
    (({ e with id := (n : Int) }, t') :: r', n2)
end

/- ## One `Parser` used for several trees (a second `Parse()` on the same reader)

   After a successful `Parse` the unscan buffer is empty (the final `;` was read by
   `scanIgnoreWhitespace`), so the next call goes on right after that `;`. -/

/-- one turn of the loop, without the equation binder of its definition -/
theorem run_step (C : Codec) (st : PState) (p : List Char) :
    run C st p = (match iter C st (scanIW C p).1 (scanIW C p).2.1 (skipWs C p) (scanIW C p).2.2 with
      | .stop o => o
      | .cont st' r' => if (scanIW C p).1 = .eof then .err "unreachable: EOF always stops" else run C st' r') := by
  rw [run]
  split
  · rename_i o ho; rw [ho]
  · rename_i st' r' hi; rw [hi]; simp only []; split <;> rfl

theorem run_cont (C : Codec) (st : PState) (inp : List Char) (st' : PState) (r' : List Char)
    (h : iter C st (scanIW C inp).1 (scanIW C inp).2.1 (skipWs C inp) (scanIW C inp).2.2 = .cont st' r')
    (hne : (scanIW C inp).1 ≠ .eof) : run C st inp = run C st' r' := by
  rw [run_step, h]; exact if_neg hne

theorem run_stop (C : Codec) (st : PState) (inp : List Char) (o : Outcome (PState × List Char))
    (h : iter C st (scanIW C inp).1 (scanIW C inp).2.1 (skipWs C inp) (scanIW C inp).2.2 = .stop o) :
    run C st inp = o := by
  rw [run_step, h]

theorem run_le (C : Codec) (st st' : PState) (inp r : List Char) (h : run C st inp = .ok (st', r)) :
    r.length ≤ inp.length := by
  induction st, inp using run.induct C with
  | case1 st inp o ho =>
    have hf := iter_fits C st (scanIW C inp).1 (scanIW C inp).2.1 (skipWs C inp) (scanIW C inp).2.2
    rw [ho, ← run_stop C st inp o ho, h] at hf
    rcases hf with ⟨_, rfl⟩ | ⟨_, rfl⟩
    · exact skipWs_le C inp
    · exact scanIW_le C inp
  | case2 st inp st2 r2 hi he =>
    have hf := iter_fits C st (scanIW C inp).1 (scanIW C inp).2.1 (skipWs C inp) (scanIW C inp).2.2
    rw [hi] at hf
    exact absurd he hf.1
  | case3 st inp st2 r2 hi he ih =>
    rw [run_cont C st inp st2 r2 hi he] at h
    exact Nat.le_trans (ih h) (Nat.le_trans (iter_le C st _ _ _ _ st2 r2 hi) (scanIW_le C inp))

/-- `Parser.Parse`, returning also the input the reader is left at on success. -/
def parseR (C : Codec) (inp : List Char) : Outcome (T × List Char) :=
  let s0 := scanIW C inp
  let start : Option (List Char) :=
    if s0.1 = .openbrack then
      match consumeComment C s0.2.2 [] with
      | none => none
      | some (_, r) => some r
    else some inp
  match start with
  | none => .err "unmatched bracket"
  | some inp1 =>
    if (scanIW C inp1).1 ≠ .openpar then .err "found …, expected ("
    else
      match run C {} (skipWs C inp1) with
      | .err m => .err m
      | .panic m => .panic m
      | .unrep m => .unrep m
      | .ok (st, rest) =>
        if st.level != 0 then .err "mismatched parenthesis after parsing"
        else if (scanIW C rest).1 ≠ .eot then .err "found …, expected ;"
        else match st.result with
          | none => .panic "nil root in Tips()"
          | some t => .ok (trimTips t, (scanIW C rest).2.2)

theorem parseR_lt (C : Codec) (inp : List Char) (t : T) (r : List Char) (h : parseR C inp = .ok (t, r)) :
    r.length < inp.length := by
  unfold parseR at h
  simp only [] at h
  split at h
  · cases h
  · rename_i inp1 hstart
    have hinp1 : inp1.length ≤ inp.length := by
      split at hstart
      · split at hstart
        · cases hstart
        · rename_i c r2 hc
          cases hstart
          have := consumeComment_le C _ _ _ _ _ (Nat.le_refl _) hc
          have := scanIW_le C inp
          omega
      · cases hstart; exact Nat.le_refl _
    repeat' split at h
    all_goals try (cases h; done)
    rename_i st rest hrun _ heot _ _ _
    cases h
    have h1 := run_le C _ _ _ _ hrun
    have h2 := skipWs_le C inp1
    have h3 := scanIW_lt C rest (fun he => heot (by rw [he]; decide))
    omega

/-- `Parse()` called again and again on the same Parser until it fails: the outcomes, the failure last. -/
def parseMany (C : Codec) (inp : List Char) : List (Outcome T) :=
  match h : parseR C inp with
  | .ok (t, r) => .ok t :: parseMany C r
  | .err m => [.err m]
  | .panic m => [.panic m]
  | .unrep m => [.unrep m]
termination_by inp.length
decreasing_by exact parseR_lt C inp t r h

/- ## `Parser.More` (3850fd2) and the loop of `ReadMultiTrees` over one line

   `More` reads the next non-blank token and unscans it: nothing is consumed but the leading blanks
   (the buffered token is re-read by the next `scanIgnoreWhitespace`, same mode), so it is a test on the
   input, and the reader stands at `skipWs` afterwards. -/

/-- `p.More()`: is anything but white space left -/
def more (C : Codec) (inp : List Char) : Bool := decide ((scanIW C inp).1 ≠ .eof)

/-- `for more := true; more; more = parser.More() { t, err := parser.Parse(); if err != nil { …; break }; … }`:
    the outcomes in order; an error is the last one. -/
def parseWhileMore (C : Codec) (inp : List Char) : List (Outcome T) :=
  match h : parseR C inp with
  | .ok (t, r) => .ok t :: (if more C r then parseWhileMore C (skipWs C r) else [])
  | .err m => [.err m]
  | .panic m => [.panic m]
  | .unrep m => [.unrep m]
termination_by inp.length
decreasing_by
  have h1 := parseR_lt C inp t r h
  have h2 := skipWs_le C r
  omega

/- ## The scanner before fix 6ae5e49 (defect F1), kept as a variant for the regression theorem

   `var eof = rune(0)`: `read()` answered NUL at the end of the input, so a NUL *in* the input was taken for
   the end: `Scan` returned EOF on it, and the loops of scanIdent / scanWhitespace stopped on it WITHOUT
   unreading it. -/

/-- drop the NUL the old loops swallowed when they stopped on it -/
def dropNul : List Char → List Char
  | c :: r => if c == '\x00' then r else c :: r
  | [] => []

def scanPinned (C : Codec) (ign : Bool) : List Char → Tok × List Char × List Char
  | [] => (.eof, [], [])
  | c :: r =>
    if c == '\x00' then (.eof, [], r)
    else if isWhitespace c then
      (.ws, c :: r.takeWhile isWhitespace, dropNul (r.dropWhile isWhitespace))
    else if c == '(' then (.openpar, [c], r)
    else if c == ')' then (.closepar, [c], r)
    else if c == '[' then (.openbrack, [c], r)
    else if c == ']' then (.closebrack, [c], r)
    else if c == ',' then (.newsibling, [c], r)
    else if c == ';' && !ign then (.eot, [c], r)
    else if c == ':' then (.startlen, [c], r)
    else
      let p := fun x => isIdent ign x && x != '\x00'
      let lit := c :: r.takeWhile p
      (if C.isFloat lit then .numeric else .ident, lit, dropNul (r.dropWhile p))

/- ## The writer before fix 331c4ae, kept as a variant for the regression theorem:
   parentheses only when `len(n.neigh) > 1`, so a root with a single neighbour was written "childroot;" -/
mutual
def writeNodePinned (C : Codec) (nonRoot : Bool) : T → List Char
  | .node d _ kids =>
    let nneigh := kids.length + (if nonRoot then 1 else 0)
    (if nneigh > 1 then ['('] else []) ++ writeKidsPinned C true kids ++ (if nneigh > 1 then [')'] else []) ++ d.name.toList
def writeKidsPinned (C : Codec) (first : Bool) : Kids → List Char
  | [] => []
  | (e, t) :: r =>
    (if first then [] else [',']) ++ writeNodePinned C true t ++ writeDecor C e t.d ++ writeKidsPinned C false r
end

def writePinned (C : Codec) (t : T) : List Char :=
  writeNodePinned C false t ++ writeComments t.d.comments ++ [';']

end Gotree.Newick

/-- what `Parse(Newick(t))` is expected to return: `ppos` 0 everywhere, branch ids in pre-order -/
def Gotree.T.normIds (t : Gotree.T) : Gotree.T := (Gotree.Newick.normFrom 0 t).1

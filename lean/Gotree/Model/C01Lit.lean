/-
  C01 — the node stack of parseIter, LITERALLY: a second machine next to `Newick.iter` / `Newick.run`.

  `Newick.iter` decides `node == nil` / `edge == nil` from the SHAPE of the stack (empty / at most one
  frame), by an argument about the code (Model/C01.lean, header).  Here nothing is derived:
    * the two local variables of parseIter are part of the state, as their nil-ness `nodeNil`, `edgeNil`,
      assigned exactly where the Go code assigns them (`node, edge, _ = nodeStack.Head()` after a Pop;
      `node = newNode`, `edge = t.ConnectNodes(…)` on a push; `node = t.NewNode()` with `edge` UNTOUCHED
      when a root is made);
    * a stack element carries the edge it was pushed with, `none` = Go's nil `*tree.Edge`
      (`nodeStack.Push(node, nil)`);
    * a popped element that was pushed with a nil edge is a root: it was never connected to anything,
      so it is not attached to the element below it; it is `t.Root()`.
  `Lemmas/C01Lit.lean` proves that from the initial state this machine and `Newick.run` compute the same
  thing (`runL_eq_run`): the derived nil tests of the functional machine are the code's.
  Core Lean only.
-/
import Gotree.Model.C01

namespace Gotree.Newick.Lit
open Gotree Gotree.Newick

structure LFrame where
  d : NodeD
  e : Option EdgeD
  kids : Kids
  deriving Repr, Inhabited

structure LState where
  stack : List LFrame := []
  nodeNil : Bool := true
  edgeNil : Bool := true
  level : Int := 0
  prevTok : Option Tok := none
  nedges : Nat := 0
  done : Option T := none
  stale : Bool := false
  deriving Repr, Inhabited

def LFrame.toT (f : LFrame) : T := .node f.d 0 f.kids

namespace LState

/-- `node, edge, _ = nodeStack.Head()` -/
def headVars (st : LState) : LState :=
  match st.stack with
  | [] => { st with nodeNil := true, edgeNil := true }
  | f :: _ => { st with nodeNil := false, edgeNil := f.e.isNone }

/-- `nodeStack.Pop()` then `node, edge, _ = nodeStack.Head()`; `none` = empty stack.
    The popped node hangs under the element below it iff it was pushed with an edge. -/
def pop (st : LState) : Option LState :=
  match st.stack with
  | [] => none
  | f :: rest =>
    match f.e with
    | none => some ({ st with stack := rest, done := some f.toT } : LState).headVars
    | some e =>
      match rest with
      | p :: r2 => some ({ st with stack := { p with kids := p.kids ++ [(e, f.toT)] } :: r2 } : LState).headVars
      | [] => some ({ st with stack := [] } : LState).headVars      -- an edge whose parent left the stack

/-- a new node connected to `node` (the top element), pushed with its edge -/
def pushChild (st : LState) (name : String) : LState :=
  { st with stack := ⟨⟨name, []⟩, some { EdgeD.blank with id := (st.nedges : Int) }, []⟩ :: st.stack,
            nedges := st.nedges + 1, nodeNil := false, edgeNil := false }

/-- `node = t.NewNode(); nodeStack.Push(node, nil); t.SetRoot(node)` — `edge` is not assigned -/
def pushRoot (st : LState) : LState :=
  { st with stack := ⟨⟨"", []⟩, none, []⟩ :: st.stack, done := none, nodeNil := false }

def modTop (st : LState) (f : LFrame → LFrame) : LState :=
  match st.stack with
  | [] => st
  | x :: r => { st with stack := f x :: r }

/-- `edge.Length()` of the current edge -/
def topLen (st : LState) : Rat :=
  match st.stack with
  | [] => NIL
  | x :: _ => match x.e with | some e => e.len | none => NIL

def addNodeComment (st : LState) (c : String) : LState :=
  st.modTop fun f => { f with d := { f.d with comments := f.d.comments ++ [c] } }
def onEdge (st : LState) (g : EdgeD → EdgeD) : LState := st.modTop fun f => { f with e := f.e.map g }
def addEdgeComment (st : LState) (c : String) : LState := st.onEdge fun e => { e with comments := e.comments ++ [c] }
def setName (st : LState) (n : String) : LState := st.modTop fun f => { f with d := { f.d with name := n } }
def setLen (st : LState) (v : Rat) : LState := st.onEdge fun e => { e with len := v }
def setSup (st : LState) (v : Rat) : LState := st.onEdge fun e => { e with sup := v }
def setPval (st : LState) (v : Rat) : LState := st.onEdge fun e => { e with pval := v }

/-- the tree under `t.Root()`: the topmost element pushed with a nil edge, with everything above it attached -/
def unwind : List LFrame → Option (EdgeD × T) → Option T
  | [], _ => none
  | f :: rest, acc =>
    let f' : LFrame := match acc with
      | none => f
      | some c => { f with kids := f.kids ++ [c] }
    match f'.e with
    | none => some f'.toT
    | some e => unwind rest (some (e, f'.toT))

def result (st : LState) : Option T :=
  match st.stack with
  | [] => st.done
  | s => unwind s none

end LState

inductive IterL where
  | cont (st : LState) (rest : List Char)
  | stop (o : Outcome (LState × List Char))

open LState in
/-- The `switch tok` of parseIter with the two variables tested as the code tests them. -/
def iterL (C : Codec) (st : LState) (tok : Tok) (lit pos rest : List Char) : IterL :=
  match tok with
  | .openpar =>
    if st.nodeNil then
      if st.level > 0 then .stop (.err "nil node at depth > 0")
      else .cont { st.pushRoot with level := st.level + 1, prevTok := some .openpar } rest
    else
      if st.level == 0 then .stop (.err "An open parenthesis while the stack is empty")
      else .cont { st.pushChild "" with level := st.level + 1, prevTok := some .openpar } rest
  | .closepar =>
    match st.pop with
    | none => .stop (.err "Closing parenthesis while the stack is already empty")
    | some st' => .cont { st' with level := st.level - 1, prevTok := some .closepar, stale := false } rest
  | .openbrack =>
    match consumeComment C rest [] with
    | none => .stop (.err "unmatched bracket")
    | some (c, r2) =>
      let c := String.ofList c
      let st := { st with stale := false }
      if st.prevTok == some .startlen && !st.edgeNil then
        .cont { st.addEdgeComment c with prevTok := some .closebrack } r2
      else if st.prevTok == some .startlen && st.edgeNil && !st.nodeNil then
        .cont { st.addNodeComment c with prevTok := some .closebrack } r2
      else if (st.prevTok == some .closepar || st.prevTok == some .ident || st.prevTok == some .numeric ||
               st.prevTok == some .closebrack) && !st.nodeNil then
        .cont { st.addNodeComment c with prevTok := some .closebrack } r2
      else .stop (.err "comment should not be located here")
  | .closebrack => .stop (.err "mismatched ] here")
  | .startlen =>
    let s := scanIW C rest
    if s.1 ≠ .numeric then .stop (.err "no numeric value after ':'")
    else if !st.nodeNil && st.level != 0 then
      if st.edgeNil then .stop (.err "Edge length should not be located here")
      else if st.topLen != NIL then .stop (.err "More than one length is given")
      else match C.parse s.2.1 with
        | none => .stop (.unrep "non-finite length")
        | some v => .cont { st.setLen v with prevTok := some .startlen, stale := false } s.2.2
    else if st.level == 0 then .cont { st with prevTok := some .startlen } s.2.2
    else .stop (.err "Cannot assign length to nil node")
  | .newsibling =>
    match st.pop with
    | none => .stop (.err "Stack is empty, a coma should not be located here")
    | some st' => .cont { st' with prevTok := some .newsibling, stale := false } rest
  | .ident | .numeric =>
    if st.prevTok == some .closepar then
      if tok == .numeric then
        if st.level == 0 || st.edgeNil then .cont st rest
        else match C.parse lit with
          | none => .stop (.unrep "non-finite support")
          | some v => .cont { st.setSup v with stale := false } rest
      else
        let named (st : LState) : IterL :=
          if st.nodeNil then .stop (.err "Cannot assign node name to nil node")
          else .cont (st.setName (String.ofList lit)) rest
        match splitSlash lit with
        | [a, b] =>
          if st.edgeNil then named st
          else if !C.isFloat a then named { st with stale := true }
          else if !C.isFloat b then named { st with stale := true }
          else match C.parse a, C.parse b with
            | some s, some p => .cont { (st.setSup s).setPval p with stale := false } rest
            | _, _ => .stop (.unrep "non-finite support or p-value")
        | _ => named st
    else
      if st.prevTok != some .openpar && st.prevTok != some .newsibling then
        .stop (.err "There should not be a tip name in this context")
      else if st.nodeNil then .stop (.err "Cannot create a new tip with no parent")
      else .cont { st.pushChild (String.ofList lit) with prevTok := some tok } rest
  | .eot =>
    if st.level != 0 then .stop (.err "Mismatched parenthesis at ;")
    else if st.stale then .stop (.err "strconv.ParseFloat: invalid syntax")
    else .stop (.ok ({ st with prevTok := some .eot }, pos))
  | .eof =>
    if st.stale then .stop (.err "strconv.ParseFloat: invalid syntax")
    else .stop (.ok ({ st with prevTok := some .eof }, rest))
  | .ws | .illegal => .cont st rest

/-- What a turn can result in (as `Iter.Fits`); it ends well only with the state it began with, up to `prevTok`. -/
def IterL.Fits (C : Codec) (l : LState) (tok : Tok) (rest : List Char) : IterL → Prop
  | .cont _ r' => tok ≠ .eof ∧ (r' = rest ∨ r' = (scanIW C rest).2.2 ∨ ∃ c, consumeComment C rest [] = some (c, r'))
  | .stop (.ok (l', _)) => ∃ pt, l' = { l with prevTok := pt }
  | .stop _ => True

theorem IterL.fits_ite {C : Codec} {l : LState} {tok : Tok} {rest : List Char} {c : Prop} [Decidable c] {a b : IterL}
    (ha : a.Fits C l tok rest) (hb : b.Fits C l tok rest) : (if c then a else b).Fits C l tok rest := by
  split <;> assumption

theorem iterL_fits (C : Codec) (l : LState) (tok : Tok) (lit pos rest : List Char) :
    (iterL C l tok lit pos rest).Fits C l tok rest := by
  cases tok <;> simp only [iterL]
  case' openbrack => rcases hc : consumeComment C rest [] with _ | ⟨c, r2⟩
  case' startlen => cases C.parse (scanIW C rest).2.1
  case' closepar => cases l.pop
  case' newsibling => cases l.pop
  case' numeric => simp only [beq_self_eq_true, if_true]; cases C.parse lit
  case' ident =>
    simp only [show (Tok.ident == Tok.numeric) = false from rfl, Bool.false_eq_true, if_false]
    rcases splitSlash lit with _ | ⟨a, _ | ⟨b, _ | ⟨c, t⟩⟩⟩ <;> simp only []
  case' cons.cons.nil => cases C.parse a <;> cases C.parse b
  all_goals repeat' (first | refine IterL.fits_ite ?_ ?_ | simp [IterL.Fits, *] | exact ⟨_, rfl⟩)

theorem iterL_le (C : Codec) (l : LState) (tok : Tok) (lit pos rest : List Char) (l' : LState) (r' : List Char)
    (h : iterL C l tok lit pos rest = .cont l' r') : r'.length ≤ rest.length := by
  have hf := iterL_fits C l tok lit pos rest
  rw [h] at hf
  rcases hf.2 with rfl | rfl | ⟨c, hc⟩
  · exact Nat.le_refl _
  · exact scanIW_le C rest
  · exact consumeComment_le C _ _ _ _ _ (Nat.le_refl _) hc

/-- the `for` loop, literal state -/
def runL (C : Codec) (st : LState) (inp : List Char) : Outcome (LState × List Char) :=
  match hi : iterL C st (scanIW C inp).1 (scanIW C inp).2.1 (skipWs C inp) (scanIW C inp).2.2 with
  | .stop o => o
  | .cont st' r' =>
    if h : (scanIW C inp).1 = .eof then .err "unreachable: EOF always stops"
    else runL C st' r'
termination_by inp.length
decreasing_by
  have h1 := iterL_le C st _ _ _ _ st' r' hi
  have h2 := scanIW_lt C inp h
  omega

/-- `Parser.Parse` on the literal machine -/
def parseL (C : Codec) (inp : List Char) : Outcome T :=
  let s0 := scanIW C inp
  let start : Option (List Char) :=
    if s0.1 = .openbrack then
      match consumeComment C s0.2.2 [] with
      | none => none
      | some (_, r) => some r
    else some inp
  match start with
  | none => .err "unmatched bracket"
  | some inp1 =>
    if (scanIW C inp1).1 ≠ .openpar then .err "found …, expected ("
    else
      match runL C {} (skipWs C inp1) with
      | .err m => .err m
      | .panic m => .panic m
      | .unrep m => .unrep m
      | .ok (st, rest) =>
        if st.level != 0 then .err "mismatched parenthesis after parsing"
        else if (scanIW C rest).1 ≠ .eot then .err "found …, expected ;"
        else match st.result with
          | none => .panic "nil root in Tips()"
          | some t => .ok (trimTips t)

end Gotree.Newick.Lit

/-
  C17 — the table theorems: decisions about modules regenerated from the source (`Gen/C17Code.lean`).
  Kept apart from `Proofs/C17.lean` (which other properties import) so that a broken table stops this
  file only.  Nothing outside C17 may import this module.
-/
import Gotree.Proofs.C17
import Gotree.Model.C17Code
import Gotree.Gen.C17Code

namespace Gotree.C17
open Gotree

/-- TABLE (round 7): the facts about tree/rearrange.go and cmd/nni.go the models were transcribed from,
    re-read from the source by `harness/c17/extract.go` on every run, are the expected ones. -/
theorem code_facts_check : Gotree.Gen.C17.facts = expected := rfl

end Gotree.C17

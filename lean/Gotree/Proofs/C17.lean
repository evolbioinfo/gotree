/-
  C17 — the property theorems about the model of `tree/rearrange.go`
  (`Gotree/Model/C17.lean`, the functions the driver runs against the code).
-/
import Gotree.Model.C17
import Gotree.Spec.C17
import Gotree.Lemmas.C17
import Gotree.Lemmas.C17Count
import Gotree.Lemmas.C17Sim
import Gotree.Lemmas.C17Split
import Gotree.Lemmas.C17Twin
import Gotree.Lemmas.C17ApartLocal
import Gotree.Lemmas.C17OneSplit
import Gotree.Lemmas.C17TwinApart
import Gotree.Lemmas.C17Distinct
import Gotree.Lemmas.C17Aux
import Gotree.Lemmas.C17Nodup
import Gotree.Lemmas.C17CountSplits
import Gotree.Lemmas.C17NoSingle
import Gotree.Lemmas.C17HeapSim
import Gotree.Model.C17Cli
import Gotree.Model.C17Global
import Gotree.Model.C17Code
import Gotree.Lemmas.C17Global

namespace Gotree.C17
open Gotree

/-- ★ `Undo` after `Apply` restores the tree exactly (equality of `T`: shape, child order,
    parent positions, names, comments, every branch datum — hence identical text), for every
    rearrangement `Rearrange` proposes, on every tree (binary or not, rooted or not, any
    root position) whose parent positions are positions (true of every α image). -/
theorem undo_apply (t : T) (r : NNI) (hpos : pposOK t = true) (h : r ∈ rearrangements t) :
    ∃ t', apply t r = some t' ∧ undo t' r = some t := by
  obtain ⟨S, hs, S', ha, hu⟩ := rearrangements_sites
    (fun isRoot S r => ∃ S', applyLocal isRoot r S = some S' ∧ undoLocal isRoot r S' = some S)
    (fun _ _ d1 _ _ _ _ _ _ _ _ cross site => local_undo_apply d1 cross site) t hpos r h
  exact modAt_roundtrip _ _ r.path t S S' hs ha hu

/-- Applying a proposed rearrangement gives a tree on the same tips (`Tree.Tips()` names,
    the root included when it is a tip), each as often as before. -/
theorem apply_tips (t t' : T) (r : NNI) (hpos : pposOK t = true) (h : r ∈ rearrangements t)
    (ha : apply t r = some t') : t'.tipNames.Perm t.tipNames :=
  (apply_RK t t' r hpos h ha).tipNames_perm

/-- Applying a proposed rearrangement gives a well-formed tree of the same kind: binary if `t`
    is, rooted iff `t` is, parent positions still positions, unique tip names if `t` has
    (that the heap is oriented away from the root is part of `apply t r = some t'`). -/
theorem apply_wf (t t' : T) (r : NNI) (hpos : pposOK t = true) (h : r ∈ rearrangements t)
    (ha : apply t r = some t') :
    (t.binary = true → t'.binary = true) ∧ t'.rooted = t.rooted ∧ pposOK t' = true ∧
    (t.tipNames.Nodup → t'.tipNames.Nodup) := by
  have hk := apply_RK t t' r hpos h ha
  have hn := hk.nkids
  refine ⟨?_, ?_, ?_, ?_⟩
  · intro hb
    simp only [T.binary, Bool.and_eq_true] at hb ⊢
    exact ⟨by rw [hn]; exact hb.1, hk.bin hb.2⟩
  · simp only [T.rooted, hn]
  · exact hk.ppos hpos
  · intro hnd
    exact (apply_tips t t' r hpos h ha).nodup_iff.mpr hnd

/-- what C03's history invariant needs: an NNI relates the tree before and after by `RN`
    (same number of children at the root; no single-child node afterwards if none before) -/
theorem apply_RN (t t' : T) (r : NNI) (hpos : pposOK t = true) (h : r ∈ rearrangements t)
    (ha : apply t r = some t') : RN t t' := by
  obtain ⟨S, hs, hP⟩ := rearrangements_sites (fun isRoot S r => ∀ S', applyLocal isRoot r S = some S' → RN S S')
    (fun _ _ d1 _ _ _ _ _ _ _ _ cross site => local_RN d1 cross site) t hpos r h
  exact RN.lift _ r.path t t' S hs ha hP

/-- Applying a proposed rearrangement to ANY tree (binary or not) creates no single-child inner
    node: `noSingleL t.kids → noSingleL t'.kids`, i.e. `T.noSingle` is kept. -/
theorem apply_noSingle (t t' : T) (r : NNI) (hpos : pposOK t = true) (h : r ∈ rearrangements t)
    (ha : apply t r = some t') (hn : noSingleL t.kids = true) : noSingleL t'.kids = true :=
  (apply_RN t t' r hpos h ha).ns hn

theorem apply_noSingle_tree (t t' : T) (r : NNI) (hpos : pposOK t = true) (h : r ∈ rearrangements t)
    (ha : apply t r = some t') (hn : t.noSingle = true) : t'.noSingle = true :=
  apply_noSingle t t' r hpos h ha hn

/-- The same fact on the split list itself (`T.splits`: one entry per branch with the tips below
    it and its data), branch data included — what the canonical split set forgets: one inner
    branch `c` of `t` and one inner branch `c'` of `t'` carry the same data and define different
    splits of the tips (`DifferentSplit`: neither the same side nor complementary sides); all the
    other branches correspond one to one with the same data and the same tips below. -/
theorem apply_one_branch_apart (t t' : T) (r : NNI) (hpos : pposOK t = true) (hu : t.tipNames.Nodup)
    (h : r ∈ rearrangements t) (ha : apply t r = some t') :
    Spec.OneBranchApart t.splits t'.splits := by
  obtain ⟨_, _, _, hA, _⟩ := apply_apart t t' r hpos hu h ha
  exact hA.oneBranchApart

/-- where a proposed rearrangement sits: the lower end of its central branch is child number
    `lowIdx r S` of the node `S` at `r.path`, both ends have three neighbours, and the
    rearrangement is determined by that place and `cross` -/
theorem rearrangement_site (t : T) (r : NNI) (hpos : pposOK t = true) (h : r ∈ rearrangements t) :
    ∃ S e c cross, subAt r.path t = some S ∧ S.kids[lowIdx r S]? = some (e, c) ∧ c.kids.length = 2 ∧
      (if r.path = [] then S.kids.length = 3 else S.kids.length = 2) ∧
      r = newNNI r.path r.path.isEmpty S.ppos (lowIdx r S) c.ppos cross := by
  obtain ⟨S, hs, hP⟩ := rearrangements_generic
    (fun S r => ∃ e c cross, S.kids[lowIdx r S]? = some (e, c) ∧ c.kids.length = 2 ∧
      (if r.path = [] then S.kids.length = 3 else S.kids.length = 2) ∧
      r = newNNI r.path r.path.isEmpty S.ppos (lowIdx r S) c.ppos cross)
    (by
      intro path isRoot d1 p1 k1 j e d2 p2 u v cross site
      rw [lowIdx_newNNI path isRoot site.root]
      refine ⟨e, .node d2 p2 [u, v], cross, site.kid, rfl, ?_, ?_⟩
      · have hd := site.deg
        have hr := site.root
        simp only [newNNI, T.kids_node]
        cases path with
        | nil => simp at hr; subst hr; simpa using hd
        | cons a p => simp at hr; subst hr; simp at hd ⊢; exact hd.1
      · have hr := site.root
        subst hr
        rfl)
    t hpos r h
  obtain ⟨e, c, cross, h1, h2, h3, h4⟩ := hP
  exact ⟨S, e, c, cross, hs, h1, h2, h3, h4⟩

/-- the split that a proposed rearrangement removes (canonical side of the tips below the lower
    end of its central branch) -/
def oldSide (t : T) (r : NNI) : List String :=
  match subAt r.path t with
  | some S => canonSide t.tipNames (lowerLeaves S.kids (lowIdx r S))
  | none => []

/- ## one split apart, distinct neighbours: for every tree in which each proper subtree misses a tip
   (`ProperOutside`: the root has at least two children, or the root is itself a tip) -/

theorem apply_split_sets_po (t t' : T) (r : NNI) (hpo : ProperOutside t) (hpos : pposOK t = true)
    (hu : t.tipNames.Nodup) (h : r ∈ rearrangements t) (ha : apply t r = some t') :
    ∃ S, subAt r.path t = some S ∧
      Spec.oneSplitApart t.usplitSet t'.usplitSet = true ∧
      canonSide t.tipNames (lowerLeaves S.kids (lowIdx r S)) ∈ t.usplitSet ∧
      canonSide t.tipNames (lowerLeaves S.kids (lowIdx r S)) ∉ t'.usplitSet := by
  obtain ⟨S, hs, hne, hA, hZ⟩ := apply_apart t t' r hpos hu h ha
  refine ⟨S, hs, oneSplitApart_of_apart t t' (leavesL S.kids) _ r.path.isEmpty (apply_tips t t' r hpos h ha) hu hA hZ ?_⟩
  intro hroot
  exact hpo r.path S (by rintro h0; simp [h0] at hroot) hs hne

theorem oldSides_nodup_po (t : T) (hpo : ProperOutside t) (hpos : pposOK t = true) (hu : t.tipNames.Nodup) :
    (((rearrangements t).filter fun r => !r.cross).map (oldSide t)).Nodup := by
  -- different proposals with `cross = false` sit on different branches
  rw [List.nodup_iff_pairwise_ne, List.pairwise_map]
  have hn : ((rearrangements t).filter fun r => !r.cross).Nodup := (rearrangements_nodup t).sublist List.filter_sublist
  rw [List.nodup_iff_pairwise_ne] at hn
  rw [List.pairwise_iff_forall_sublist] at hn ⊢
  intro r₁ r₂ hsub
  have hne := hn hsub
  have hm₁ := List.mem_filter.mp (hsub.subset (show r₁ ∈ [r₁, r₂] by simp))
  have hm₂ := List.mem_filter.mp (hsub.subset (show r₂ ∈ [r₁, r₂] by simp))
  obtain ⟨S1, e1, c1, x1, hs1, hj1, hk1, hd1, hr1⟩ := rearrangement_site t r₁ hpos hm₁.1
  obtain ⟨S2, e2, c2, x2, hs2, hj2, hk2, hd2, hr2⟩ := rearrangement_site t r₂ hpos hm₂.1
  have hdiff : ¬(r₁.path = r₂.path ∧ lowIdx r₁ S1 = lowIdx r₂ S2) := by
    rintro ⟨hp, hl⟩
    have h := same_branch_eq hs1 hj1 hr1 hs2 hj2 hr2 hp hl
    have c1 : r₁.cross = r₂.cross := by simpa using hm₁.2.trans hm₂.2.symm
    exact hne (by rw [← h, c1])
  have hlow := Low.ne_po hu hpo ⟨S1, e1, hs1, hj1, hk1, hd1⟩ ⟨S2, e2, hs2, hj2, hk2, hd2⟩ hdiff
  simp only [oldSide, hs1, hs2, lowerLeaves, hj1, hj2]
  exact hlow

theorem oldSides_subset_po (t : T) (hpo : ProperOutside t) (hpos : pposOK t = true) (hu : t.tipNames.Nodup) :
    ∀ a ∈ ((rearrangements t).filter fun r => !r.cross).map (oldSide t), a ∈ t.usplitSet := by
  -- each of them removes a non-trivial split of `t`
  intro a ha
  obtain ⟨r, hr, rfl⟩ := List.mem_map.mp ha
  have hm := (List.mem_filter.mp hr).1
  obtain ⟨t', hat, _⟩ := undo_apply t r hpos hm
  obtain ⟨S, hs, _, hin, _⟩ := apply_split_sets_po t t' r hpo hpos hu hm hat
  simp only [oldSide, hs]
  exact hin

theorem proposals_le_splits_po (t : T) (hpo : ProperOutside t) (hpos : pposOK t = true) (hu : t.tipNames.Nodup) :
    ((rearrangements t).filter fun r => !r.cross).length ≤ t.usplitSet.length := by
  rw [← List.length_map (f := oldSide t)]
  exact List.Nodup.length_le_of_subset (oldSides_nodup_po t hpo hpos hu) (oldSides_subset_po t hpo hpos hu)

theorem twin_one_split_po (t t₁ t₂ : T) (r : NNI) (hpo : ProperOutside t) (hpos : pposOK t = true)
    (hu : t.tipNames.Nodup) (h : r ∈ rearrangements t) (h₁ : apply t { r with cross := false } = some t₁)
    (h₂ : apply t { r with cross := true } = some t₂) :
    Spec.oneSplitApart t₁.usplitSet t₂.usplitSet = true := by
  obtain ⟨S, cb, hs, hne, hk1, hl, hZ, hA⟩ := twin_apart t t₁ t₂ r hpos hu h h₁ h₂
  have hall1 : t₁.tipNames.Perm t.tipNames := hk1.tipNames_perm
  refine (oneSplitApart_of_apart t₁ t₂ (leavesL S.kids) cb r.path.isEmpty hl.tipNames_perm (hall1.nodup_iff.mpr hu) hA hZ ?_).1
  intro hroot
  obtain ⟨z, hz1, hz2⟩ := hpo r.path S (by rintro h0; simp [h0] at hroot) hs hne
  exact ⟨z, hall1.mem_iff.mpr hz1, hz2⟩

theorem neighbours_distinct_po (t t₁ t₂ : T) (r₁ r₂ : NNI) (hpo : ProperOutside t) (hpos : pposOK t = true)
    (hu : t.tipNames.Nodup) (h₁ : r₁ ∈ rearrangements t) (h₂ : r₂ ∈ rearrangements t) (hne : r₁ ≠ r₂)
    (ha₁ : apply t r₁ = some t₁) (ha₂ : apply t r₂ = some t₂) :
    ∃ a, a ∈ t₁.usplitSet ∧ a ∉ t₂.usplitSet := by
  obtain ⟨S1, e1, c1, x1, hs1, hj1, hk1, hd1, hr1⟩ := rearrangement_site t r₁ hpos h₁
  obtain ⟨S2, e2, c2, x2, hs2, hj2, hk2, hd2, hr2⟩ := rearrangement_site t r₂ hpos h₂
  by_cases hsame : r₁.path = r₂.path ∧ lowIdx r₁ S1 = lowIdx r₂ S2
  · -- the two rearrangements of one branch
    have e12 := same_branch_eq hs1 hj1 hr1 hs2 hj2 hr2 hsame.1 hsame.2
    have e21 := same_branch_eq hs2 hj2 hr2 hs1 hj1 hr1 hsame.1.symm hsame.2.symm
    have hx : r₁.cross ≠ r₂.cross := fun hx => hne (by rw [← e12, hx])
    cases hx1 : r₁.cross <;> cases hx2 : r₂.cross <;> simp only [hx1, hx2, ne_eq, not_true_eq_false] at hx e12 e21
    · have := twin_one_split_po t t₁ t₂ r₁ hpo hpos hu h₁ (by rw [← hx1]; exact ha₁) (by rw [e21]; exact ha₂)
      simp only [Spec.oneSplitApart, Bool.and_eq_true, beq_iff_eq] at this
      exact mem_of_diffCount_one this.2
    · have := twin_one_split_po t t₂ t₁ r₂ hpo hpos hu h₂ (by rw [← hx2]; exact ha₂) (by rw [e12]; exact ha₁)
      simp only [Spec.oneSplitApart, Bool.and_eq_true, beq_iff_eq] at this
      exact mem_of_diffCount_one this.1
  · -- two different branches: the split removed by `r₂` is still there after `r₁`
    have hlow := Low.ne_po hu hpo ⟨S1, e1, hs1, hj1, hk1, hd1⟩ ⟨S2, e2, hs2, hj2, hk2, hd2⟩ hsame
    obtain ⟨S1', hs1', ho1, hin1, hout1⟩ := apply_split_sets_po t t₁ r₁ hpo hpos hu h₁ ha₁
    obtain ⟨S2', hs2', ho2, hin2, hout2⟩ := apply_split_sets_po t t₂ r₂ hpo hpos hu h₂ ha₂
    rw [hs1] at hs1'
    rw [hs2] at hs2'
    simp only [Option.some.injEq] at hs1' hs2'
    subst hs1'
    subst hs2'
    have hl1 : lowerLeaves S1.kids (lowIdx r₁ S1) = leavesL c1.kids := by simp [lowerLeaves, hj1]
    have hl2 : lowerLeaves S2.kids (lowIdx r₂ S2) = leavesL c2.kids := by simp [lowerLeaves, hj2]
    rw [hl1] at hin1 hout1
    rw [hl2] at hin2 hout2
    refine ⟨canonSide t.tipNames (leavesL c2.kids), ?_, ?_⟩
    · -- it is a split of `t` other than the one `r₁` removes
      apply Classical.byContradiction
      intro hnot
      simp only [Spec.oneSplitApart, Bool.and_eq_true, beq_iff_eq] at ho1
      exact hlow (eq_of_diffCount_one ho1.2 hin1 hout1 hin2 hnot)
    · -- `t₂` lacks it: careful, `t₂`'s own taxa list is a permutation of `t`'s
      exact hout2

/- ## … in particular for binary trees -/

/-- The split sets before and after, with the split that goes away named: it is the split of
    the central branch (the tips below its lower end), a non-trivial split of `t` that `t'` lacks. -/
theorem apply_split_sets (t t' : T) (r : NNI) (hb : t.binary = true) (hpos : pposOK t = true)
    (hu : t.tipNames.Nodup) (h : r ∈ rearrangements t) (ha : apply t r = some t') :
    ∃ S, subAt r.path t = some S ∧
      Spec.oneSplitApart t.usplitSet t'.usplitSet = true ∧
      canonSide t.tipNames (lowerLeaves S.kids (lowIdx r S)) ∈ t.usplitSet ∧
      canonSide t.tipNames (lowerLeaves S.kids (lowIdx r S)) ∉ t'.usplitSet :=
  apply_split_sets_po t t' r (properOutside_of_two t hu (binary_two_kids hb)) hpos hu h ha

/-- ★ Minimality, in the canonical presentation of `Spec/Splits.lean` (the form the driver
    evaluates on the implementation's neighbours): applying a proposed rearrangement to a binary
    tree with unique tip names gives a tree whose set of non-trivial splits differs from the
    original's by exactly one split each way: `|S' \ S| = 1 = |S \ S'|`. -/
theorem apply_one_split (t t' : T) (r : NNI) (hb : t.binary = true) (hpos : pposOK t = true)
    (hu : t.tipNames.Nodup) (h : r ∈ rearrangements t) (ha : apply t r = some t') :
    Spec.oneSplitApart t.usplitSet t'.usplitSet = true := by
  obtain ⟨_, _, h1, _⟩ := apply_split_sets t t' r hb hpos hu h ha
  exact h1

/-- The two neighbours proposed for one branch (`cross = false`, `cross = true`) are, in the
    canonical presentation, exactly one split apart from each other — hence different. -/
theorem twin_one_split (t t₁ t₂ : T) (r : NNI) (hb : t.binary = true) (hpos : pposOK t = true)
    (hu : t.tipNames.Nodup) (h : r ∈ rearrangements t) (h₁ : apply t { r with cross := false } = some t₁)
    (h₂ : apply t { r with cross := true } = some t₂) :
    Spec.oneSplitApart t₁.usplitSet t₂.usplitSet = true :=
  twin_one_split_po t t₁ t₂ r (properOutside_of_two t hu (binary_two_kids hb)) hpos hu h h₁ h₂

/-- ★ All proposed neighbours are pairwise distinct, as sets of splits (the canonical
    presentation the driver compares): two different rearrangements proposed for a binary tree
    with unique tip names give trees one of which has a non-trivial split the other lacks. -/
theorem neighbours_distinct (t t₁ t₂ : T) (r₁ r₂ : NNI) (hb : t.binary = true) (hpos : pposOK t = true)
    (hu : t.tipNames.Nodup) (h₁ : r₁ ∈ rearrangements t) (h₂ : r₂ ∈ rearrangements t) (hne : r₁ ≠ r₂)
    (ha₁ : apply t r₁ = some t₁) (ha₂ : apply t r₂ = some t₂) :
    ∃ a, a ∈ t₁.usplitSet ∧ a ∉ t₂.usplitSet :=
  neighbours_distinct_po t t₁ t₂ r₁ r₂ (properOutside_of_two t hu (binary_two_kids hb)) hpos hu h₁ h₂ hne ha₁ ha₂

/-- `Rearrange` never proposes the same rearrangement twice (any tree). -/
theorem proposals_nodup (t : T) : (rearrangements t).Nodup := rearrangements_nodup t

/-- … so the neighbours at two different positions of the enumeration are different trees:
    pairwise, in enumeration order. -/
theorem neighbours_pairwise_distinct (t : T) (hb : t.binary = true) (hpos : pposOK t = true) (hu : t.tipNames.Nodup) :
    (rearrangements t).Pairwise (fun r₁ r₂ => ∀ t₁ t₂, apply t r₁ = some t₁ → apply t r₂ = some t₂ →
      ∃ a, a ∈ t₁.usplitSet ∧ a ∉ t₂.usplitSet) := by
  have hn := rearrangements_nodup t
  rw [List.pairwise_iff_forall_sublist]
  intro r₁ r₂ hsub t₁ t₂ h₁ h₂
  have hm₁ : r₁ ∈ rearrangements t := hsub.subset (by simp)
  have hm₂ : r₂ ∈ rearrangements t := hsub.subset (by simp)
  have hne : r₁ ≠ r₂ := by
    intro h
    subst h
    have := hn.sublist hsub
    simp at this
  exact neighbours_distinct t t₁ t₂ r₁ r₂ hb hpos hu hm₁ hm₂ hne h₁ h₂

/-- … hence the two lists of splits are different lists. -/
theorem neighbours_distinct_ne (t t₁ t₂ : T) (r₁ r₂ : NNI) (hb : t.binary = true) (hpos : pposOK t = true)
    (hu : t.tipNames.Nodup) (h₁ : r₁ ∈ rearrangements t) (h₂ : r₂ ∈ rearrangements t) (hne : r₁ ≠ r₂)
    (ha₁ : apply t r₁ = some t₁) (ha₂ : apply t r₂ = some t₂) : t₁.usplitSet ≠ t₂.usplitSet := by
  obtain ⟨a, h1, h2⟩ := neighbours_distinct t t₁ t₂ r₁ r₂ hb hpos hu h₁ h₂ hne ha₁ ha₂
  intro h
  exact h2 (h ▸ h1)

/-- The two rearrangements proposed for one branch (`cross = false`, `cross = true`) give trees
    that are one branch apart, hence different. -/
theorem twin_one_branch_apart (t t₁ t₂ : T) (r : NNI) (hpos : pposOK t = true) (hu : t.tipNames.Nodup)
    (h : r ∈ rearrangements t) (h₁ : apply t { r with cross := false } = some t₁)
    (h₂ : apply t { r with cross := true } = some t₂) :
    Spec.OneBranchApart t₁.splits t₂.splits := by
  obtain ⟨_, _, _, _, _, _, _, hA⟩ := twin_apart t t₁ t₂ r hpos hu h h₁ h₂
  exact hA.oneBranchApart

/-- The loop of `cmd/nni.go` (apply, look, undo, next — in enumeration order) leaves the tree
    unchanged and sees exactly the neighbours `apply t r`. -/
theorem enumerate_unchanged (t : T) (hpos : pposOK t = true) :
    enumerate t = some ((rearrangements t).filterMap (apply t), t) := by
  have key : ∀ (l : List NNI) (seen : List T), (∀ r ∈ l, r ∈ rearrangements t) →
      l.foldl enumStep (some (seen, t))
      = some (seen ++ l.filterMap (apply t), t) := by
    intro l
    induction l with
    | nil => intro seen _; simp
    | cons r l ih =>
      intro seen hl
      obtain ⟨t', ha, hu⟩ := undo_apply t r hpos (hl r (by simp))
      simp only [List.foldl_cons, enumStep, ha, hu, List.filterMap_cons]
      rw [ih (seen ++ [t']) (fun r' hr' => hl r' (by simp [hr']))]
      simp
  simpa [enumerate] using key (rearrangements t) [] (fun _ h => h)

/-- On ANY tree: exactly two rearrangements per branch whose two ends both have three
    neighbours (`Nneigh() == 3`), no other. -/
theorem count (t : T) : (rearrangements t).length = 2 * Spec.deg3Branches t := by
  obtain ⟨d, p, k⟩ := t
  rw [rearrangements, enumT, Spec.deg3Branches, Spec.branchEnds]
  simp only [if_true, T.kids_node]
  exact enumL_length_general true [] p k.length k 0 (fun et _ pre' => enumT_length_general et.2 pre')

/-- Completeness for unrooted binary trees: exactly two rearrangements per inner branch
    (`internalEdges` = the branches whose lower end is not a tip). -/
theorem count_unrooted (t : T) (hb : t.binary = true) (hu : t.kids.length = 3) :
    (rearrangements t).length = 2 * t.internalEdges.length := by
  obtain ⟨d, p, k⟩ := t
  simp only [T.binary, Bool.and_eq_true, T.kids_node] at hb hu
  rw [internalEdges_length, rearrangements, enumT]
  simp only [if_true, T.kids_node, hu, beq_self_eq_true]
  exact enumL_length_par3 true [] p k 0 hb.2 (fun et _ pre' hbe => enumT_length_below et.2 pre' hbe)

/-- An unrooted binary tree with unique tip names has exactly as many non-trivial splits as
    branches whose lower end is not a tip … -/
theorem usplitSet_length_unrooted (t : T) (hb : t.binary = true) (h3 : t.kids.length = 3) (hpos : pposOK t = true)
    (hu : t.tipNames.Nodup) : t.usplitSet.length = t.internalEdges.length := by
  apply Nat.le_antisymm (usplitSet_length_le t hu)
  have hhalf := filter_cross_half t
  have hcount := count_unrooted t hb h3
  have := proposals_le_splits_po t (properOutside_of_two t hu (by omega)) hpos hu
  omega

/-- … hence completeness in terms of the Spec's own notion of inner branch: exactly two
    rearrangements per non-trivial split. -/
theorem count_unrooted_splits (t : T) (hb : t.binary = true) (h3 : t.kids.length = 3) (hpos : pposOK t = true)
    (hu : t.tipNames.Nodup) : (rearrangements t).length = 2 * Spec.innerBranches t := by
  rw [count_unrooted t hb h3, Spec.innerBranches, usplitSet_length_unrooted t hb h3 hpos hu]

/- FULL STATEMENT for rooted trees (false, finding F22; see `count_rooted_fails`):
     t.binary → t.rooted → (rearrangements t).length = 2 * innerBranchesShape t
   where the two branches at the root are ONE inner branch of the tree when both children of
   the root are inner nodes. -/

/-- Rooted binary trees, with the excluded region explicit: the branches at the root get no
    rearrangement, every other inner branch gets exactly two. -/
theorem count_rooted_partial (t : T) (hb : t.binary = true) (hr : t.rooted = true) :
    (rearrangements t).length + 2 * (t.kids.filter (fun et => !et.2.isLeaf)).length
      = 2 * t.internalEdges.length := by
  obtain ⟨d, p, k⟩ := t
  simp only [T.binary, Bool.and_eq_true, T.kids_node, T.rooted, beq_iff_eq] at hb hr
  rw [internalEdges_length, rearrangements, enumT]
  simp only [if_true, T.kids_node, hr]
  exact enumL_length_nopar true [] p k 0 hb.2 (fun et _ pre' hbe => enumT_length_below et.2 pre' hbe)

/-- … hence the count is right for a rooted tree with a tip at the root (the two root
    branches are then one tip branch of the unrooted tree) … -/
theorem count_rooted_tip_at_root (t : T) (hb : t.binary = true) (hr : t.rooted = true)
    (h1 : (t.kids.filter (fun et => !et.2.isLeaf)).length = 1) :
    (rearrangements t).length = 2 * Spec.innerBranchesShape t := by
  have := count_rooted_partial t hb hr
  simp only [Spec.innerBranchesShape, hr, if_true]
  omega

/-- … in the Spec's own terms (two per non-trivial split), for a rooted binary tree with unique
    tip names and a tip at the root. -/
theorem count_rooted_tip_at_root_splits (t : T) (hb : t.binary = true) (hr : t.rooted = true)
    (h1 : (t.kids.filter (fun et => !et.2.isLeaf)).length = 1) (hpos : pposOK t = true) (hu : t.tipNames.Nodup) :
    (rearrangements t).length = 2 * Spec.innerBranches t := by
  have hc := count_rooted_partial t hb hr
  have hhalf := filter_cross_half t
  have hlow := proposals_le_splits_po t (properOutside_of_two t hu (binary_two_kids hb)) hpos hu
  have hup := usplitSet_length_lt_rooted_tip t hu hr h1
  simp only [Spec.innerBranches]
  omega

/-- … and exactly the two rearrangements of the root branch are missing when both children
    of the root are inner nodes (F22). -/
theorem count_rooted_two_missing (t : T) (hb : t.binary = true) (hr : t.rooted = true)
    (h2 : (t.kids.filter (fun et => !et.2.isLeaf)).length = 2) :
    (rearrangements t).length + 2 = 2 * Spec.innerBranchesShape t := by
  have := count_rooted_partial t hb hr
  simp only [Spec.innerBranchesShape, hr, if_true]
  omega

/-- … in the Spec's own terms: a rooted binary tree with unique tip names whose root has two inner
    children gets exactly two rearrangements fewer than two per non-trivial split (F22). -/
theorem count_rooted_two_missing_splits (t : T) (hb : t.binary = true) (hr : t.rooted = true)
    (h2 : (t.kids.filter (fun et => !et.2.isLeaf)).length = 2) (hpos : pposOK t = true) (hu : t.tipNames.Nodup) :
    (rearrangements t).length + 2 = 2 * Spec.innerBranches t := by
  have hc := count_rooted_partial t hb hr
  have hhalf := filter_cross_half t
  have hup := usplitSet_length_lt_rooted_inner t hu hr h2
  -- the root split is one more non-trivial split, different from all those the proposals remove
  suffices hlow : ((rearrangements t).filter fun r => !r.cross).length + 1 ≤ t.usplitSet.length by
    simp only [Spec.innerBranches]
    omega
  obtain ⟨d, p, k⟩ := t
  simp only [T.rooted, T.kids_node, beq_iff_eq] at hr h2
  match k, hr, hb, hu, h2, hpos with
  | [(e1, a), (e2, b)], _, hb, hu, h2, hpos =>
    have hall : (T.node d p [(e1, a), (e2, b)]).tipNames = a.leaves ++ b.leaves := by
      simp [T.tipNames, leavesL]
    simp only [List.filter_cons, List.filter_nil] at h2
    obtain ⟨ha, hbl⟩ : a.isLeaf = false ∧ b.isLeaf = false := by
      cases ha : a.isLeaf <;> cases hb' : b.isLeaf <;> simp [ha, hb'] at h2 ⊢
    -- both children of the root have two children
    simp only [T.binary, T.kids_node, binaryL, Bool.and_eq_true] at hb
    obtain ⟨_, hba, hbb, _⟩ := hb
    obtain ⟨da, pa, ka⟩ := a
    obtain ⟨db, pb, kb⟩ := b
    simp only [T.binaryBelow, Bool.and_eq_true, Bool.or_eq_true, beq_iff_eq] at hba hbb
    have hka : ka.length = 2 := by
      rcases hba.1 with h | h
      · have : ka = [] := List.length_eq_zero_iff.mp h
        subst this; simp [T.isLeaf] at ha
      · exact h
    have hkb : kb.length = 2 := by
      rcases hbb.1 with h | h
      · have : kb = [] := List.length_eq_zero_iff.mp h
        subst this; simp [T.isLeaf] at hbl
      · exact h
    match ka, hka, kb, hkb with
    | [(ea1, a1), (ea2, a2)], _, [(eb1, b1), (eb2, b2)], _ =>
      have hnd := hu
      rw [hall] at hnd
      simp only [T.leaves, leavesL, List.append_nil, List.nodup_append, List.mem_append] at hnd
      obtain ⟨x1, hx1⟩ := List.exists_mem_of_ne_nil _ (T.leaves_ne_nil a1)
      obtain ⟨x2, hx2⟩ := List.exists_mem_of_ne_nil _ (T.leaves_ne_nil a2)
      obtain ⟨y1, hy1⟩ := List.exists_mem_of_ne_nil _ (T.leaves_ne_nil b1)
      obtain ⟨y2, hy2⟩ := List.exists_mem_of_ne_nil _ (T.leaves_ne_nil b2)
      let tt : T := T.node d p [(e1, T.node da pa [(ea1, a1), (ea2, a2)]), (e2, T.node db pb [(eb1, b1), (eb2, b2)])]
      have hpo := properOutside_of_two tt hu (by simp [tt])
      -- the root split
      have hroot_in : canonSide tt.tipNames (a1.leaves ++ a2.leaves) ∈ tt.usplitSet := by
        rw [mem_usplitSet]
        refine ⟨⟨⟨a1.leaves ++ a2.leaves, e1, false⟩, by simp [tt, T.splits, splitsL, T.leaves, leavesL, T.isLeaf], rfl⟩, ?_⟩
        have hallt : tt.tipNames = (a1.leaves ++ a2.leaves) ++ (b1.leaves ++ b2.leaves) := by
          simp [tt, T.tipNames, leavesL, T.leaves]
        rw [hallt]
        have hnd' : ((a1.leaves ++ a2.leaves) ++ (b1.leaves ++ b2.leaves)).Nodup := by
          have := hu
          simp only [T.tipNames, T.kids_node, leavesL, T.leaves, List.append_nil] at this
          simpa using this
        apply lightSize_canonSide hnd' (by simp only [List.nodup_append]; exact hnd.1)
          (a := x1) (b := x2) (p := y1) (q := y2)
        all_goals (first | (simp only [List.mem_append]; grind) | grind)
      -- it differs from every split a proposal removes
      have hroot_out : canonSide tt.tipNames (a1.leaves ++ a2.leaves) ∉
          ((rearrangements tt).filter fun r => !r.cross).map (oldSide tt) := by
        intro hmem
        obtain ⟨r, hr, heq⟩ := List.mem_map.mp hmem
        have hm := (List.mem_filter.mp hr).1
        obtain ⟨S, e, c, x, hs, hj, hk, hd, _⟩ := rearrangement_site tt r hpos hm
        have hq : r.path ≠ [] := by
          intro h0
          rw [h0] at hs hd
          simp only [subAt, Option.some.injEq] at hs
          subst hs
          simp [tt] at hd
        have h1 : Low' tt [] 0 (T.node da pa [(ea1, a1), (ea2, a2)]) :=
          ⟨tt, e1, rfl, by simp [tt], rfl, by simp [tt]⟩
        have h2' : Low' tt r.path (lowIdx r S) c := (show Low tt r.path (lowIdx r S) c from ⟨S, e, hs, hj, hk, hd⟩).low'
        have := low_ne_po tt hu hpo [] r.path 0 (lowIdx r S) _ c h1 h2'
          (fun h => hq h.1.symm) (fun _ h => absurd h hq)
        apply this
        simp only [oldSide, hs, lowerLeaves, hj] at heq
        simp only [T.kids_node, leavesL, List.append_nil]
        exact heq.symm
      have hnodup : (canonSide tt.tipNames (a1.leaves ++ a2.leaves) ::
          ((rearrangements tt).filter fun r => !r.cross).map (oldSide tt)).Nodup :=
        List.nodup_cons.mpr ⟨hroot_out, oldSides_nodup_po tt hpo hpos hu⟩
      have := List.Nodup.length_le_of_subset hnodup (l₂ := tt.usplitSet) (by
        intro x hx
        rcases List.mem_cons.mp hx with rfl | hx
        · exact hroot_in
        · exact oldSides_subset_po tt hpo hpos hu x hx)
      simpa using this

/-- ★ tip-rooted binary trees: all proposed neighbours are pairwise distinct -/
theorem neighbours_distinct_tip_rooted (t t₁ t₂ : T) (r₁ r₂ : NNI) (hb : Spec.tipRooted t = true) (hpos : pposOK t = true)
    (hu : t.tipNames.Nodup) (h₁ : r₁ ∈ rearrangements t) (h₂ : r₂ ∈ rearrangements t) (hne : r₁ ≠ r₂)
    (ha₁ : apply t r₁ = some t₁) (ha₂ : apply t r₂ = some t₂) :
    ∃ a, a ∈ t₁.usplitSet ∧ a ∉ t₂.usplitSet := by
  exact neighbours_distinct_po t t₁ t₂ r₁ r₂ (properOutside_of_tipRooted hb hu) hpos hu h₁ h₂ hne ha₁ ha₂

/-- ★ tip-rooted binary trees (`(((a,b),(c,d)))e;`: the root is a tip): a neighbour differs from the
    original by exactly one split each way -/
theorem apply_one_split_tip_rooted (t t' : T) (r : NNI) (hb : Spec.tipRooted t = true) (hpos : pposOK t = true)
    (hu : t.tipNames.Nodup) (h : r ∈ rearrangements t) (ha : apply t r = some t') :
    Spec.oneSplitApart t.usplitSet t'.usplitSet = true := by
  obtain ⟨_, _, h1, _⟩ := apply_split_sets_po t t' r (properOutside_of_tipRooted hb hu) hpos hu h ha
  exact h1

/-- the rooted quartet `((a,b),(c,d))` -/
def witnessRooted : T :=
  .node ⟨"", []⟩ 0
    [(EdgeD.blank, .node ⟨"", []⟩ 0 [(EdgeD.blank, T.leaf "a"), (EdgeD.blank, T.leaf "b")]),
     (EdgeD.blank, .node ⟨"", []⟩ 0 [(EdgeD.blank, T.leaf "c"), (EdgeD.blank, T.leaf "d")])]

/-- tip-rooted binary trees: the branch between the root (a tip) and its child gets no
    rearrangement, every other branch whose lower end is not a tip gets two -/
theorem count_tip_rooted (t : T) (hb : Spec.tipRooted t = true) :
    (rearrangements t).length + 2 = 2 * t.internalEdges.length := by
  obtain ⟨d, p, k⟩ := t
  simp only [Spec.tipRooted, Bool.and_eq_true, beq_iff_eq, T.kids_node] at hb
  obtain ⟨⟨hk, hbin⟩, hall⟩ := hb
  match k, hk, hbin, hall with
  | [(e, c)], _, hbin, hall =>
    have hc2 : c.kids.length = 2 := by simpa using hall
    have hcl : c.isLeaf = false := by
      obtain ⟨dc, pc, kc⟩ := c
      simp only [T.kids_node] at hc2
      cases kc with
      | nil => simp at hc2
      | cons _ _ => simp [T.isLeaf]
    rw [internalEdges_length, rearrangements, enumT]
    have := enumL_length_nopar true [] p [(e, c)] 0 hbin (fun et _ pre' hbe => enumT_length_below et.2 pre' hbe)
    simp only [if_true, T.kids_node, List.length_cons, List.length_nil]
    simp only [List.filter_cons, hcl, Bool.not_false, if_true, List.filter_nil, List.length_cons, List.length_nil] at this
    exact this

/-- ★ … and in the Spec's own terms: exactly two rearrangements per non-trivial split — here the
    root branch of the quartet `(((a,b),(c,d)))e;` does get its two (compare F22). -/
theorem count_tip_rooted_splits (t : T) (hb : Spec.tipRooted t = true) (hpos : pposOK t = true) (hu : t.tipNames.Nodup) :
    (rearrangements t).length = 2 * Spec.innerBranches t := by
  have hc := count_tip_rooted t hb
  have hb' := hb
  simp only [Spec.tipRooted, Bool.and_eq_true, beq_iff_eq] at hb'
  obtain ⟨⟨hk, _⟩, hall⟩ := hb'
  have hhalf := filter_cross_half t
  have hlow := proposals_le_splits_po t (properOutside_of_tipRoot t hu hk) hpos hu
  have hin : t.kids.all (fun et => !et.2.isLeaf) = true := by
    rw [List.all_eq_true] at hall ⊢
    intro et het
    have := hall et het
    simp only [beq_iff_eq] at this
    have hne : et.2.kids ≠ [] := by
      intro h0
      rw [h0] at this
      simp at this
    simp [T.isLeaf, hne]
  have hup := usplitSet_length_lt_tip_rooted t hu hk hin
  simp only [Spec.innerBranches]
  omega

/-- the tip-rooted tree `(((a,b),(c,d)))e`: five tips, two inner branches, four rearrangements -/
def witnessTipRooted : T :=
  .node ⟨"e", []⟩ 0 [(EdgeD.blank, witnessRooted)]

example : Spec.tipRooted witnessTipRooted = true ∧ pposOK witnessTipRooted = true ∧ witnessTipRooted.tipNames.Nodup ∧
    (rearrangements witnessTipRooted).length = 4 := by decide

/-- Negative theorem (F22): on the rooted quartet, which has one inner branch `ab|cd`, the
    model of `Rearrange` — tied to the code on every run — proposes nothing. -/
theorem count_rooted_fails :
    witnessRooted.binary = true ∧ witnessRooted.rooted = true ∧
    Spec.innerBranchesShape witnessRooted = 1 ∧ (rearrangements witnessRooted).length = 0 := by
  decide

/-- … the same in the Spec's own terms: the rooted quartet has one non-trivial split and gets no
    rearrangement, so "two per inner branch" fails on it. -/
theorem count_rooted_fails_splits :
    Spec.innerBranches witnessRooted = 1 ∧ (rearrangements witnessRooted).length ≠ 2 * Spec.innerBranches witnessRooted := by
  have h := count_rooted_two_missing_splits witnessRooted (by decide) (by decide) (by decide) (by decide) (by decide)
  have h0 : (rearrangements witnessRooted).length = 0 := by decide
  omega

/- ## `cmd/nni.go` -/

/-- the command on well-formed input: every neighbour of every tree, in order, no error … -/
theorem cliRun_ok : ∀ (ts : List T), (∀ t ∈ ts, pposOK t = true) →
    cliRun (ts.map some) = (ts.flatMap fun t => (rearrangements t).filterMap (apply t), false)
  | [], _ => rfl
  | t :: ts, h => by
    have ih := cliRun_ok ts (fun u hu => h u (by simp [hu]))
    simp only [List.map_cons, cliRun, enumerate_unchanged t (h t (by simp)), ih, List.flatMap_cons]

/-- … and with a record that is not a tree (commit 9333707): the neighbours of the trees before
    it, then an error (exit status 1), nothing of what follows -/
theorem cliRun_err (ts : List T) (rest : List (Option T)) (h : ∀ t ∈ ts, pposOK t = true) :
    cliRun (ts.map some ++ none :: rest) = (ts.flatMap fun t => (rearrangements t).filterMap (apply t), true) ∧
    cliExit (ts.map some ++ none :: rest) = 1 := by
  have key : cliRun (ts.map some ++ none :: rest) = (ts.flatMap fun t => (rearrangements t).filterMap (apply t), true) := by
    induction ts with
    | nil => simp [cliRun]
    | cons t ts ih =>
      have := ih (fun u hu => h u (by simp [hu]))
      simp only [List.map_cons, List.cons_append, cliRun, enumerate_unchanged t (h t (by simp)), this, List.flatMap_cons]
  exact ⟨key, by simp [cliExit, key]⟩

/- ## the pointer-level square (DESIGN §11, S1) -/

/-- ★ One proved simulation square under `apply`.  For every rearrangement `Rearrange` proposes,
    the six-node heap `H` that `apply` reads off the tree is the abstraction (`absH`) of a
    well-formed pointer piece `p` (records with `neigh`/`br` slices and `left`/`right`, any other
    neighbours `pre`/`post` of the outer nodes); running the Go statements of `nni.Apply` on `p`
    (`applyP`) succeeds, keeps the pairing `neigh[i]`↔`br[i]`, symmetric adjacency and the number
    of parent branches of each of the six nodes (at most one: the branches still point away from
    the root), and the abstraction of the result is what `apply` computes; the Go statements of
    `nni.Undo` (`undoP`) then give back the records of `p`. -/
theorem apply_heap_square (t : T) (r : NNI) (hpos : pposOK t = true) (h : r ∈ rearrangements t) :
    ∃ S H, subAt r.path t = some S ∧ extract S r.path.isEmpty r false = some H ∧
      ∀ pre post : Ref → List Nat,
        let p := mkP (slices1 r.i1 r.cross false) (slices2 r.i2 r.cross false) (upOf H) pre post
        absH (datOf H) p = H ∧ pairing p = true ∧ symmetric p = true ∧
        ∃ p', applyP p r.cross = some p' ∧ pairing p' = true ∧ symmetric p' = true ∧
          (∀ x, incoming p' x = incoming p x ∧ incoming p x ≤ 1) ∧
          applyH H r.cross = some (absH (datOf H) p') ∧
          applyLocal r.path.isEmpty r S =
            (if (absH (datOf H) p').oriented then some (rebuild (absH (datOf H) p')) else none) ∧
          ∃ p'', undoP p' r.cross = some p'' ∧ p''.same p ∧ undoH (absH (datOf H) p') r.cross = some H := by
  obtain ⟨S, hs, hF, S', ha, _⟩ := rearrangements_generic
    (fun S r => (∀ H, extract S r.path.isEmpty r false = some H → Fresh H r.i1 r.i2 r.cross) ∧
      ∃ S', applyLocal r.path.isEmpty r S = some S' ∧ undoLocal r.path.isEmpty r S' = some S)
    (by
      intro path isRoot d1 p1 k1 j e d2 p2 u v cross site
      have hr : (newNNI path isRoot p1 j p2 cross).path.isEmpty = isRoot := by
        simp [newNNI, site.root]
      rw [hr]
      exact ⟨extract_fresh d1 cross site, local_undo_apply d1 cross site⟩)
    t hpos r h
  -- `extract` succeeds, since `applyLocal` does
  cases hH : extract S r.path.isEmpty r false with
  | none => simp [applyLocal, hH] at ha
  | some H =>
    have hf := hF H hH
    refine ⟨S, H, hs, hH, fun pre post => ?_⟩
    have hup := upOf_outer H
    have L := slices_layout hf.b1 hf.b2 r.cross false
    have L' := slices_layout hf.b1 hf.b2 r.cross true
    have habs := absH_mkP hf pre post
    obtain ⟨ha, hu, hsq, hsu⟩ := slices_square hf.b1 hf.b2 r.cross (upOf H) pre post (datOf H)
    rw [habs] at hsq hsu
    refine ⟨habs, pairing_mkP L, symmetric_mkP L, _, ha, pairing_mkP L', symmetric_mkP L',
      fun x => ?_, hsq, ?_, _, hu, PHeap.same_refl _, hsu⟩
    · rw [incoming_mkP L' hup, incoming_mkP L hup]
      exact ⟨rfl, by split <;> omega⟩
    · simp only [applyLocal, hH, hsq]

/-- The same square for EVERY position of the root around the piece — nowhere (n1 is the root),
    or behind any of the four outer nodes, including `c`/`d` (the tree was re-rooted after
    `newNNI`, or between `Apply` and `Undo`: commit 48c858a) —, on the pointer records and their
    abstraction: the Go statements of `Apply` (`applyP`) lead from the well-formed piece before
    to the well-formed piece after, pairing, symmetric adjacency and every node's number of parent
    branches (≤ 1) are kept, the abstraction commutes (`applyH`), and `Undo` (`undoP`, `undoH`) leads back. -/
theorem heap_square_any_root (dat : HData) (i1 i2 : Nat) (h1 : i1 ≤ 2) (h2 : i2 ≤ 2) (cross : Bool) (up : Option Ref)
    (hup : up = none ∨ up = some .a ∨ up = some .b ∨ up = some .c ∨ up = some .d) (pre post : Ref → List Nat) :
    let p := mkP (slices1 i1 cross false) (slices2 i2 cross false) up pre post
    let q := mkP (slices1 i1 cross true) (slices2 i2 cross true) up pre post
    pairing p = true ∧ symmetric p = true ∧ pairing q = true ∧ symmetric q = true ∧
    (∀ x, incoming q x = incoming p x ∧ incoming p x ≤ 1) ∧
    (∃ p', applyP p cross = some p' ∧ p' = q) ∧ (∃ p'', undoP q cross = some p'' ∧ p'' = p) ∧
    applyH (absH dat p) cross = some (absH dat q) ∧ undoH (absH dat q) cross = some (absH dat p) := by
  have L := slices_layout h1 h2 cross false
  have L' := slices_layout h1 h2 cross true
  have ho := isOuter_of_cases hup
  obtain ⟨ha, hu, hsq, hsu⟩ := slices_square h1 h2 cross up pre post dat
  refine ⟨pairing_mkP L, symmetric_mkP L, pairing_mkP L', symmetric_mkP L', fun x => ?_, ⟨_, ha, rfl⟩, ⟨_, hu, rfl⟩, hsq, hsu⟩
  rw [incoming_mkP L' ho, incoming_mkP L ho]
  exact ⟨rfl, by split <;> omega⟩

/-- calling `Apply` on an applied NNI changes nothing -/
theorem obj_apply_applied (o : Obj) (t : T) (h : o.applied = true) : o.apply t = some (t, o) := by
  simp [Obj.apply, h]

/-- calling `Undo` on an NNI that is not applied changes nothing -/
theorem obj_undo_not_applied (o : Obj) (t : T) (h : o.applied = false) : o.undo t = some (t, o) := by
  simp [Obj.undo, h]

/-- `Apply` is idempotent through the `applied` flag: a second call changes nothing -/
theorem obj_apply_idempotent (o o₁ : Obj) (t t₁ : T) (h : o.apply t = some (t₁, o₁)) : o₁.apply t₁ = some (t₁, o₁) := by
  unfold Obj.apply at h
  split at h
  · rename_i ha
    simp only [Option.some.injEq, Prod.mk.injEq] at h
    obtain ⟨rfl, rfl⟩ := h
    simp [Obj.apply, ha]
  · split at h
    · cases h
    · simp only [Option.some.injEq, Prod.mk.injEq] at h
      obtain ⟨rfl, rfl⟩ := h
      simp [Obj.apply]

/-- the object as the callback uses it: `Apply` (twice), `Undo` (twice) on a fresh rearrangement
    proposed for `t` gives back `t` and a rearrangement that is not applied -/
theorem obj_roundtrip (t : T) (r : NNI) (hpos : pposOK t = true) (h : r ∈ rearrangements t) :
    ∃ t₁, (Obj.mk r false).apply t = some (t₁, ⟨r, true⟩) ∧ (Obj.mk r true).apply t₁ = some (t₁, ⟨r, true⟩) ∧
      (Obj.mk r true).undo t₁ = some (t, ⟨r, false⟩) ∧ (Obj.mk r false).undo t = some (t, ⟨r, false⟩) := by
  obtain ⟨t₁, ha, hu⟩ := undo_apply t r hpos h
  exact ⟨t₁, by simp [Obj.apply, ha], by simp [Obj.apply], by simp [Obj.undo, hu], by simp [Obj.undo]⟩

/- ## the hypotheses are satisfiable on non-trivial trees -/

private def lf (s : String) (p : Nat := 0) : T := .node ⟨s, []⟩ p []
private def nd (p : Nat) (k : Kids) : T := .node ⟨"", []⟩ p k
private def eb (i : Int) : EdgeD := ⟨1, NIL, NIL, [], i⟩

/-- unrooted `((a,b),(c,(d,f)),e)` with parent positions as a re-rooting leaves them -/
def witnessUnrooted : T :=
  nd 0 [(eb 0, nd 1 [(eb 1, lf "a"), (eb 2, lf "b" 0)]),
        (eb 3, nd 2 [(eb 4, lf "c"), (eb 5, nd 0 [(eb 6, lf "d"), (eb 7, lf "f")])]), (eb 8, lf "e")]

/-- rooted `(a,((b,c),(d,f)))`: a tip at the root, the NNI below it swaps the root side -/
def witnessRootedTip : T :=
  nd 0 [(eb 0, lf "a"), (eb 1, nd 0 [(eb 2, nd 1 [(eb 3, lf "b"), (eb 4, lf "c")]), (eb 5, nd 2 [(eb 6, lf "d"), (eb 7, lf "f")])])]

example : pposOK witnessUnrooted = true ∧ witnessUnrooted.binary = true ∧ witnessUnrooted.kids.length = 3 ∧
    (rearrangements witnessUnrooted).length = 6 := by decide

example : pposOK witnessRootedTip = true ∧ witnessRootedTip.binary = true ∧ witnessRootedTip.rooted = true ∧
    (witnessRootedTip.kids.filter (fun et => !et.2.isLeaf)).length = 1 ∧
    (rearrangements witnessRootedTip).length = 4 ∧ (rearrangements witnessRootedTip).any (·.bUp) = true := by decide

example : witnessUnrooted.tipNames.Nodup ∧ witnessRootedTip.tipNames.Nodup := by decide

/-- The orientation clause of `apply t r = some t'` has teeth: a variant of `Apply` that does not
    invert the central branch leaves a heap the α walk rejects, for the rearrangements of
    `witnessRootedTip` that swap the root side — while the model of the code succeeds on all. -/
theorem apply_no_inverse_fails :
    ((rearrangements witnessRootedTip).filter (·.bUp)).length = 2 ∧
    ((rearrangements witnessRootedTip).filter (·.bUp)).all (fun r => (applyNoInverse witnessRootedTip r).isNone) = true ∧
    (rearrangements witnessRootedTip).all (fun r => (apply witnessRootedTip r).isSome) = true := by
  decide

example : pposOK witnessRooted = true ∧ (witnessRooted.kids.filter (fun et => !et.2.isLeaf)).length = 2 := by decide

/- ## the whole-heap model of `Apply` / `Undo` for any history of calls (`Model/C17Global.lean`,
   tied by op `C17.hist`): what the `applied` flag does, that a failing call writes nothing, how many
   objects `Rearrange` builds, and a concrete history with a call that must fail -/

section Global
open Gotree.C17.G

theorem applyG_applied (g : GHeap) (n : GNNI) (h : n.applied = true) : applyG g n = (.ok, g, n) := by
  simp [applyG, h]

theorem undoG_not_applied (g : GHeap) (n : GNNI) (h : n.applied = false) : undoG g n = (.ok, g, n) := by
  simp [undoG, h]

theorem fail_out_ne_ok (f : Fail) : f.out ≠ .ok := by cases f <;> simp [Fail.out]

theorem applyG_err_unchanged (g : GHeap) (n : GNNI) (h : (applyG g n).1 ≠ .ok) : (applyG g n).2 = (g, n) := by
  unfold applyG at h ⊢
  cases ha : n.applied
  · simp only [ha] at h ⊢
    cases hc : applyCore g n with
    | ok g' => simp [hc] at h
    | error f => simp
  · simp

theorem undoG_err_unchanged (g : GHeap) (n : GNNI) (h : (undoG g n).1 ≠ .ok) : (undoG g n).2 = (g, n) := by
  unfold undoG at h ⊢
  cases ha : n.applied
  · simp
  · simp only [ha] at h ⊢
    cases hc : undoCore g n with
    | ok g' => simp [hc] at h
    | error f => simp

theorem applyG_ok_flag (g : GHeap) (n : GNNI) (h : (applyG g n).1 = .ok) : (applyG g n).2.2.applied = true := by
  unfold applyG at h ⊢
  cases ha : n.applied
  · simp only [ha] at h ⊢
    cases hc : applyCore g n with
    | ok g' => simp
    | error f => simp [hc] at h; exact absurd h (fail_out_ne_ok f)
  · simp [ha]

theorem undoG_ok_flag (g : GHeap) (n : GNNI) (h : (undoG g n).1 = .ok) : (undoG g n).2.2.applied = false := by
  unfold undoG at h ⊢
  cases ha : n.applied
  · simp [ha]
  · simp only [ha] at h ⊢
    cases hc : undoCore g n with
    | ok g' => simp
    | error f => simp [hc] at h; exact absurd h (fail_out_ne_ok f)

/-- a failing call of a history changes nothing -/
theorem step_err_unchanged (s : State) (st : Step) (h : (step s st).1 ≠ .ok) : (step s st).2 = s := by
  unfold step at h ⊢
  cases hn : s.objs[st.k]? with
  | none => simp
  | some n =>
    simp only [hn] at h ⊢
    have hk : st.k < s.objs.length := by
      rcases Nat.lt_or_ge st.k s.objs.length with h' | h'
      · exact h'
      · simp [List.getElem?_eq_none h'] at hn
    have hget : s.objs[st.k] = n := by
      have := List.getElem?_eq_getElem hk
      rw [this] at hn; exact Option.some.inj hn
    have key : ∀ r : Out × GHeap × GNNI, r.2 = (s.g, n) → (⟨r.2.1, s.objs.set st.k r.2.2⟩ : State) = s := by
      intro r hr
      rw [hr]; cases s; simp only [State.mk.injEq, true_and]
      rw [← hget]; exact List.set_getElem_self hk
    cases ha : st.isApply
    · simp only [ha] at h ⊢
      exact key _ (undoG_err_unchanged s.g n h)
    · simp only [ha] at h ⊢
      exact key _ (applyG_err_unchanged s.g n h)

def deg3G (g : GHeap) (e : GEdge) : Bool :=
  match g.nodes[e.left]?, g.nodes[e.right]? with
  | some L, some R => L.neigh.length == 3 && R.neigh.length == 3
  | _, _ => false

theorem proposeG_length (g : GHeap) (e : GEdge) : (proposeG g e).length = if deg3G g e then 2 else 0 := by
  unfold proposeG deg3G
  cases g.nodes[e.left]? <;> cases g.nodes[e.right]? <;> simp
  split <;> simp_all

theorem rearrangeG_length (g : GHeap) : (rearrangeG g).length = 2 * (g.edges.filter (deg3G g)).length := by
  unfold rearrangeG
  generalize g.edges = l
  induction l with
  | nil => rfl
  | cons e l ih =>
    simp only [List.flatMap_cons, List.length_append, ih, List.filter_cons, proposeG_length]
    split <;> simp <;> omega

theorem newNNIG_fields (g : GHeap) (n1 n2 : Nat) (c : Bool) (r : GNNI) (h : newNNIG g n1 n2 c = some r) :
    r.n1 = n1 ∧ r.n2 = n2 ∧ r.cross = c ∧ r.applied = false := by
  unfold newNNIG at h
  split at h
  · simp only at h
    split at h
    · cases h; exact ⟨rfl, rfl, rfl, rfl⟩
    · cases h
  · cases h

def quartet : GHeap :=
  ⟨[⟨[1, 2, 3], [0, 1, 2]⟩, ⟨[0], [0]⟩, ⟨[0], [1]⟩, ⟨[0, 4, 5], [2, 3, 4]⟩, ⟨[3], [3]⟩, ⟨[3], [4]⟩],
   [⟨0, 1⟩, ⟨0, 2⟩, ⟨0, 3⟩, ⟨3, 4⟩, ⟨3, 5⟩]⟩

def quartetObjs : List GNNI := [⟨0, 3, 1, 2, 4, 5, false, false⟩, ⟨0, 3, 1, 2, 4, 5, true, false⟩]

theorem hist_quartet :
    wfG quartet = true ∧ rearrangeG quartet = quartetObjs.map some ∧
    run ⟨quartet, quartetObjs⟩ [⟨0, true⟩, ⟨1, true⟩, ⟨0, true⟩, ⟨1, false⟩, ⟨0, false⟩] =
      ([.ok, .err "Cannot apply NNI with unconnected nodes n1 n1_2", .ok, .ok, .ok], ⟨quartet, quartetObjs⟩) := by
  decide

/-- frame: a successful `Apply` writes only the records of n1, n2, n1_2 and the swapped neighbour of n2;
    no record is created or lost -/
theorem applyCore_frame (g g' : GHeap) (n : GNNI) (h : applyCore g n = .ok g') :
    g'.nodes.length = g.nodes.length ∧ g'.edges.length = g.edges.length ∧
    ∀ y, y ≠ n.n1 → y ≠ n.n2 → y ≠ n.n12 → y ≠ (if n.cross then n.n21 else n.n22) → g'.nodes[y]? = g.nodes[y]? := by
  unfold applyCore at h
  simp only [errAt] at h
  repeat' (split at h)
  all_goals first
    | (cases h; done)
    | skip
  all_goals
    cases h
    refine ⟨?_, ?_, ?_⟩
    · simp [setNeigh_length, setBr_length]
    · simp only [reattach_length] <;> (first | (split <;> simp [inverse_length]) | simp [inverse_length])
    · intro y h1 h2 h3 h4
      split at h4
      all_goals first
        | contradiction
        | simp only [setNeigh_get_ne _ _ _ _ _ h1, setNeigh_get_ne _ _ _ _ _ h2, setNeigh_get_ne _ _ _ _ _ h3,
            setNeigh_get_ne _ _ _ _ _ h4, setBr_get_ne _ _ _ _ _ h1, setBr_get_ne _ _ _ _ _ h2]

/-- frame: a successful `Undo` writes only the records of the same four nodes;
    no record is created or lost -/
theorem undoCore_frame (g g' : GHeap) (n : GNNI) (h : undoCore g n = .ok g') :
    g'.nodes.length = g.nodes.length ∧ g'.edges.length = g.edges.length ∧
    ∀ y, y ≠ n.n1 → y ≠ n.n2 → y ≠ n.n12 → y ≠ (if n.cross then n.n21 else n.n22) → g'.nodes[y]? = g.nodes[y]? := by
  unfold undoCore at h
  simp only [errAt] at h
  repeat' (split at h)
  all_goals first
    | (cases h; done)
    | skip
  all_goals
    cases h
    refine ⟨?_, ?_, ?_⟩
    · simp [setNeigh_length, setBr_length]
    · simp only [reattach_length] <;> (first | (split <;> simp [inverse_length]) | simp [inverse_length])
    · intro y h1 h2 h3 h4
      split at h4
      all_goals first
        | contradiction
        | simp only [setNeigh_get_ne _ _ _ _ _ h1, setNeigh_get_ne _ _ _ _ _ h2, setNeigh_get_ne _ _ _ _ _ h3,
            setNeigh_get_ne _ _ _ _ _ h4, setBr_get_ne _ _ _ _ _ h1, setBr_get_ne _ _ _ _ _ h2]

/- the hypotheses of the theorems above are satisfiable: on the quartet both calls succeed, a call
   fails (the twin of a rearrangement in force), and the flag is set and cleared -/

example : ((applyCore quartet ⟨0, 3, 1, 2, 4, 5, false, false⟩).toOption.bind fun g' =>
    (undoCore g' ⟨0, 3, 1, 2, 4, 5, false, true⟩).toOption) = some quartet := by decide

example : (applyG quartet ⟨0, 3, 1, 2, 4, 5, false, false⟩).1 = .ok ∧
    (applyG (applyG quartet ⟨0, 3, 1, 2, 4, 5, false, false⟩).2.1 ⟨0, 3, 1, 2, 4, 5, true, false⟩).1 ≠ .ok := by decide

example : (g : GHeap) → g = quartet → (g.edges.filter (deg3G g)).length = 1 ∧ (rearrangeG g).length = 2 := by
  intro g h; subst h; decide

/-- ★ whole-heap round trip: on a heap where the six lookups of `Apply` succeed, the four nodes are
    distinct, n1_2 is not a neighbour of n2 nor the swapped node of n1 (a tree has no triangle), the
    three branches are distinct and join the nodes they sit between, `Undo` after `Apply` gives back
    the heap, record for record. -/
theorem undoCore_applyCore (g : GHeap) (n : GNNI) (x : Nat) (N1 N2 N12 X : GNode) (i0 i12 i1 i22 i2 e1 e2 ec : Nat) (E1 E2 EC : GEdge)
    (hx : x = if n.cross then n.n21 else n.n22)
    (g1 : g.nodes[n.n1]? = some N1) (g2 : g.nodes[n.n2]? = some N2) (g12 : g.nodes[n.n12]? = some N12) (gx : g.nodes[x]? = some X)
    (k0 : idx N1.neigh n.n2 = some i0) (k12 : idx N1.neigh n.n12 = some i12) (k1 : idx N12.neigh n.n1 = some i1)
    (k22 : idx N2.neigh x = some i22) (k2 : idx X.neigh n.n2 = some i2)
    (b1 : N1.br[i12]? = some e1) (b2 : N2.br[i22]? = some e2) (bc : N1.br[i0]? = some ec)
    (ge1 : g.edges[e1]? = some E1) (ge2 : g.edges[e2]? = some E2) (gec : g.edges[ec]? = some EC)
    (d1 : n.n1 ≠ n.n2) (d2 : n.n12 ≠ n.n1) (d3 : n.n12 ≠ n.n2) (d4 : x ≠ n.n1) (d5 : x ≠ n.n2) (d6 : x ≠ n.n12)
    (a1 : idx N2.neigh n.n12 = none) (a2 : idx N1.neigh x = none) (a3 : idx N12.neigh n.n2 = none) (a4 : idx X.neigh n.n1 = none)
    (c1 : e1 ≠ e2) (c2 : ec ≠ e1) (c3 : ec ≠ e2)
    (j1 : (E1.left = n.n1 ∧ E1.right = n.n12) ∨ (E1.left = n.n12 ∧ E1.right = n.n1))
    (j2 : (E2.left = n.n2 ∧ E2.right = x) ∨ (E2.left = x ∧ E2.right = n.n2)) :
    ∃ g', applyCore g n = .ok g' ∧ undoCore g' n = .ok g := by
  let inv : Bool := decide (E1.right = n.n1 ∨ E2.right = n.n2)
  refine ⟨applyRes g n x i12 i1 i22 i2 e1 e2 ec inv, applyCore_eq g n x N1 N2 N12 X i0 i12 i1 i22 i2 e1 e2 ec E1 E2 hx g1 g2 g12 gx k0 k12 k1 k22 k2 b1 b2 bc ge1 ge2, ?_⟩
  have hi : i12 ≠ i0 := by
    intro e; subst e
    have := idx_get _ _ _ k0; rw [idx_get _ _ _ k12] at this; exact d3 (Option.some.inj this)
  -- the records of the four nodes after Apply
  have g1' : (applyRes g n x i12 i1 i22 i2 e1 e2 ec inv).nodes[n.n1]? = some ⟨N1.neigh.set i12 x, N1.br.set i12 e2⟩ := by
    simp [applyRes, setNeigh_get, setBr_get, g1, d1, Ne.symm d2, Ne.symm d4]
  have g2' : (applyRes g n x i12 i1 i22 i2 e1 e2 ec inv).nodes[n.n2]? = some ⟨N2.neigh.set i22 n.n12, N2.br.set i22 e1⟩ := by
    simp [applyRes, setNeigh_get, setBr_get, g2, Ne.symm d1, Ne.symm d3, Ne.symm d5]
  have g12' : (applyRes g n x i12 i1 i22 i2 e1 e2 ec inv).nodes[n.n12]? = some ⟨N12.neigh.set i1 n.n2, N12.br⟩ := by
    simp [applyRes, setNeigh_get, setBr_get, g12, d2, d3, Ne.symm d6]
  have gx' : (applyRes g n x i12 i1 i22 i2 e1 e2 ec inv).nodes[x]? = some ⟨X.neigh.set i2 n.n1, X.br⟩ := by
    simp [applyRes, setNeigh_get, setBr_get, gx, d4, d5, d6]
  -- the branches after Apply
  have ge1' : (applyRes g n x i12 i1 i22 i2 e1 e2 ec inv).edges[e1]? = some (if E1.left = n.n1 then ⟨n.n2, E1.right⟩ else ⟨E1.left, n.n2⟩) := by
    simp only [applyRes]
    cases inv <;> simp [reattach_get, inverse_get, c1, Ne.symm c2, ge1]
  have ge2' : (applyRes g n x i12 i1 i22 i2 e1 e2 ec inv).edges[e2]? = some (if E2.left = n.n2 then ⟨n.n1, E2.right⟩ else ⟨E2.left, n.n1⟩) := by
    simp only [applyRes]
    cases inv <;> simp [reattach_get, inverse_get, Ne.symm c1, Ne.symm c3, ge2]
  have l12 : i12 < N1.br.length := (List.getElem?_eq_some_iff.mp b1).1
  have l22 : i22 < N2.br.length := (List.getElem?_eq_some_iff.mp b2).1
  have hu := undoCore_eq (applyRes g n x i12 i1 i22 i2 e1 e2 ec inv) n x _ _ _ _ i0 i22 i1 i12 i2 e2 e1 ec _ _ hx g1' g2' g12' gx'
    (idx_set_other _ _ _ _ _ k0 hi d5) (idx_set_new _ _ _ a1 (idx_lt _ _ _ k22)) (idx_set_new _ _ _ a3 (idx_lt _ _ _ k1))
    (idx_set_new _ _ _ a2 (idx_lt _ _ _ k12)) (idx_set_new _ _ _ a4 (idx_lt _ _ _ k2))
    (by simp [l12]) (by simp [l22]) (by simp [List.getElem?_set_ne hi, bc]) ge2' ge1'
  rw [hu]
  -- the test in front of Inverse gives the same answer
  have hinv : decide ((if E1.left = n.n1 then (⟨n.n2, E1.right⟩ : GEdge) else ⟨E1.left, n.n2⟩).right = n.n2 ∨
      (if E2.left = n.n2 then (⟨n.n1, E2.right⟩ : GEdge) else ⟨E2.left, n.n1⟩).right = n.n1) = inv := by
    rcases j1 with ⟨p, q⟩ | ⟨p, q⟩ <;> rcases j2 with ⟨r, t⟩ | ⟨r, t⟩ <;> simp [inv, p, q, r, t, d2, d3, d4, d5]
  rw [hinv]
  congr 1
  have hn := nodes_back g n x N1 N2 N12 X i12 i1 i22 i2 e1 e2 ec ec inv inv g1 g2 g12 gx d1 d2 d3 d4 d5 d6
    (idx_get _ _ _ k12) (idx_get _ _ _ k1) (idx_get _ _ _ k22) (idx_get _ _ _ k2) b1 b2
  have he := edges_back g n x i12 i1 i22 i2 e1 e2 ec E1 E2 EC inv ge1 ge2 gec d1 d2 d3 d4 d5 c1 c2 c3 j1 j2
  have ext : ∀ a b : GHeap, a.nodes = b.nodes → a.edges = b.edges → a = b := by
    intro a b h1 h2; cases a; cases b; simp_all
  exact ext _ _ hn he

theorem undoCore_applyCore_site (g : GHeap) (n : GNNI) (h : siteOK g n = true) :
    ∃ g', applyCore g n = .ok g' ∧ undoCore g' n = .ok g := by
  unfold siteOK at h
  split at h
  · split at h
    · split at h
      · split at h
        · rename_i N1 N2 N12 X g1 g2 g12 gx _ _ _ _ _ i0 i12 i1 i22 i2 k0 k12 k1 k22 k2 _ _ _ e1 e2 ec b1 b2 bc _ _ _ E1 E2 EC ge1 ge2 gec
          simp only [Bool.and_eq_true, bne_iff_ne, ne_eq, Option.isNone_iff_eq_none, Bool.or_eq_true, beq_iff_eq] at h
          obtain ⟨⟨⟨⟨⟨⟨⟨⟨⟨⟨⟨⟨⟨⟨d1, d2⟩, d3⟩, d4⟩, d5⟩, d6⟩, a1⟩, a2⟩, a3⟩, a4⟩, c1⟩, c2⟩, c3⟩, j1⟩, j2⟩ := h
          exact undoCore_applyCore g n _ N1 N2 N12 X i0 i12 i1 i22 i2 e1 e2 ec E1 E2 EC rfl g1 g2 g12 gx k0 k12 k1 k22 k2 b1 b2 bc
            ge1 ge2 gec d1 d2 d3 d4 d5 d6 a1 a2 a3 a4 c1 c2 c3 j1 j2
        · cases h
      · cases h
    · cases h
  · cases h

/-- in a history: `Apply` of rearrangement `k` directly followed by its `Undo` gives back the whole
    state (heap and objects), both calls answering ok -/
theorem run_apply_undo (s : State) (k : Nat) (n : GNNI) (hk : s.objs[k]? = some n) (hf : n.applied = false)
    (hs : siteOK s.g n = true) : run s [⟨k, true⟩, ⟨k, false⟩] = ([.ok, .ok], s) := by
  obtain ⟨g', ha, hu⟩ := undoCore_applyCore_site s.g n hs
  have hlt : k < s.objs.length := by
    rcases Nat.lt_or_ge k s.objs.length with h | h
    · exact h
    · simp [List.getElem?_eq_none h] at hk
  have hu' : undoCore g' { n with applied := true } = .ok s.g := by
    have : undoCore g' { n with applied := true } = undoCore g' n := by
      unfold undoCore; rfl
    rw [this]; exact hu
  have hn : { n with applied := false } = n := by cases n; simp_all
  have hset : s.objs.set k n = s.objs := by
    have := (List.getElem?_eq_some_iff.mp hk).2
    rw [← this]; exact List.set_getElem_self hlt
  simp only [run, step, hk, applyG, hf, ha, Bool.false_eq_true, if_false, List.getElem?_set_self hlt, undoG, List.set_set]
  cases s
  simp_all

example : siteOK quartet ⟨0, 3, 1, 2, 4, 5, false, false⟩ = true ∧ siteOK quartet ⟨0, 3, 1, 2, 4, 5, true, false⟩ = true := by decide

end Global

end Gotree.C17

/-
  C07 — the property theorems.  Everything is about the functions of Gotree/Model/C07.lean
  that the driver runs against the Go code (`contractT`, `removeEdges`, `collapse…`, `resolve`).

  Reading guide.  `obsT f t` (Lemmas/C07.lean) lists, for every branch of `t`, the tuple
  (f (leaf names below), branch data, tip?, data of the node below); `f` is ANY function that
  does not depend on the order of the names (`PermInv f`): the sorted list, the canonical
  side of Spec/Splits.lean, the number of names, membership of a given name …  A statement
  `(obsT f t').Perm L` therefore says: the branches of `t'`, seen as splits with their
  lengths, supports, ids, comments and node names, are exactly those of `L`, with
  multiplicity.
-/
import Gotree.Lemmas.C07Loop
import Gotree.Lemmas.C07Depth
import Gotree.Lemmas.C07Root
import Gotree.Lemmas.C07Resolve
import Gotree.Lemmas.C07Perm
import Gotree.Lemmas.C07Spec
import Gotree.Lemmas.C07USplits
import Gotree.Lemmas.C07Oracle
import Gotree.Lemmas.C07Cmd
import Gotree.Lemmas.C07Renum

namespace Gotree.C07
open Gotree

/-- ★ `collapse_exact`.  For every selection `sel` that is a function `selV` of what is observed
    of a branch, on a tree with unique branch ids, with `removeRoot`, or on an unrooted tree
    (root of degree ≥ 3) without single-child inner nodes:
    the branches after `collapse` are exactly the branches before, minus the selected inner
    ones; every survivor keeps its split, length, support, p-value, comments, id and the
    name and comments of its lower node; a selected tip branch survives too, with length 0
    when `removeTips` is set and untouched otherwise. -/
theorem collapse_exact {β : Type} (f : List String → β) (hf : PermInv f)
    (sel : SplitE → Bool) (selV : β × EdgeD × Bool → Bool)
    (rr rt : Bool) (t : T)
    (hsel : ∀ s ∈ t.splits, sel s = selV (f s.below, s.e, s.tip))
    (hid : uniqueIds t = true) (h : RootOK rr t) :
    (obsT f (collapse sel rr rt t)).Perm ((obsT f t).filterMap (keepV selV rt)) :=
  collapse_obs f hf sel selV rr rt t hsel hid h.1 (h.2.imp id fun h3 => by omega)

/-- what happens to an entry of Core's split list `T.splits` under a selection -/
def keepS (sel : SplitE → Bool) (rt : Bool) (s : SplitE) : Option SplitE :=
  if sel s then (if s.tip then some { s with e := (if rt then zeroLen s.e else s.e) } else none) else some s

/-- `collapse_exact` read on the split list of Model/Core.lean (`T.splits`, the list every other
    Spec function — `usplits`, `distMatrix`, … — is computed from): seen through any
    order-independent `f`, the split list after is the split list before, filtered. -/
theorem collapse_exact_splits {β : Type} (f : List String → β) (hf : PermInv f)
    (sel : SplitE → Bool) (selV : β × EdgeD × Bool → Bool)
    (rr rt : Bool) (t : T)
    (hsel : ∀ s ∈ t.splits, sel s = selV (f s.below, s.e, s.tip))
    (hid : uniqueIds t = true) (h : RootOK rr t) :
    ((collapse sel rr rt t).splits.map (fun s => (f s.below, s.e, s.tip))).Perm
      ((t.splits.filterMap (keepS sel rt)).map (fun s => (f s.below, s.e, s.tip))) := by
  let keep3 : β × EdgeD × Bool → Option (β × EdgeD × Bool) := fun y =>
    if selV y then (if y.2.2 then some (y.1, (if rt then zeroLen y.2.1 else y.2.1), y.2.2) else none) else some y
  have e1 := map_filterMap_comm (fun s : SplitE => (f s.below, s.e, s.tip)) (keepS sel rt) keep3 t.splits
    (fun s hs => by
      simp only [keep3, keepS, hsel s hs]
      split
      · split <;> rfl
      · rfl)
  have e2 := map_filterMap_comm (fun x : Obs β => (x.1, x.2.1, x.2.2.1)) (keepV selV rt) keep3 (obsT f t)
    (fun x _ => by
      simp only [keep3, keepV]
      split
      · split <;> rfl
      · rfl)
  rw [e1, splits_obs, splits_obs, ← e2]
  exact (collapse_exact f hf sel selV rr rt t hsel hid h).map _

/-- The code's length criterion (`Crit.holds`, the stored value compared with `≤`, absent = −1) is the
    DEFINITE criterion (a present length ≤ l) or the AMBIGUOUS one (no length at all and −1 ≤ l).  The
    documentation ("branches with length <= threshold") does not say which reading of an absent length
    is meant, so the oracle (`collapseOK`) demands the definite part only and accepts both fates of an
    ambiguous branch; the model and the theorems follow the code. -/
theorem code_criterion_readings (crit : Crit) (e : Ent) :
    crit.holds e = (crit.definite e || crit.ambiguous e) ∧ (crit.ambiguous e = true → crit.definite e = false) :=
  ⟨holds_eq_definite_or_ambiguous crit e, definite_ambiguous_excl crit e⟩

/-- `CollapseShortBranches`: the criterion is `length ≤ l` ON THE STORED VALUE, so a branch
    without length (sentinel −1) is selected as soon as `l ≥ −1`. -/
theorem collapseLen_exact {β : Type} (f : List String → β) (hf : PermInv f) (l : Rat)
    (rr rt : Bool) (t : T) (hid : uniqueIds t = true) (h : RootOK rr t) :
    (obsT f (collapseLen l rr rt t)).Perm
      ((obsT f t).filterMap (keepV (fun x => decide (x.2.1.len ≤ l)) rt)) :=
  collapse_exact f hf (selLen l) _ rr rt t (fun _ _ => rfl) hid h

/-- `CollapseLowSupport`: support present (≠ −1) and `< s`; tips are never touched. -/
theorem collapseSup_exact {β : Type} (f : List String → β) (hf : PermInv f) (x : Rat)
    (rr : Bool) (t : T) (hid : uniqueIds t = true) (h : RootOK rr t) :
    (obsT f (collapseSup x rr t)).Perm
      ((obsT f t).filterMap (keepV (fun y => y.2.1.sup != NIL && decide (y.2.1.sup < x)) false)) :=
  collapse_exact f hf (selSup x) _ rr false t (fun _ _ => rfl) hid h

/-- `CollapseTopoDepth`: `mn ≤ min(#below, #tips − #below) ≤ mx` (both ends included); the
    observation must expose the number of names below (here: paired with any other `g`). -/
theorem collapseDepth_exact {β : Type} (g : List String → β) (hg : PermInv g) (mn mx : Int)
    (rr rt : Bool) (t t' : T) (hid : uniqueIds t = true) (h : RootOK rr t)
    (hok : collapseDepth mn mx rr rt t = some t') :
    (obsT (fun l => (l.length, g l)) t').Perm
      ((obsT (fun l => (l.length, g l)) t).filterMap
        (keepV (fun x => decide (mn ≤ ((min (t.tipNames.length - x.1.1) x.1.1 : Nat) : Int)) &&
                         decide (((min (t.tipNames.length - x.1.1) x.1.1 : Nat) : Int) ≤ mx)) rt)) := by
  unfold collapseDepth at hok
  simp only at hok
  split at hok
  · cases hok
  · injection hok with hok
    subst hok
    have hf : PermInv (fun l : List String => (l.length, g l)) := by
      intro l l' hp
      show (l.length, g l) = (l'.length, g l')
      rw [hp.length_eq, hg l l' hp]
    exact collapse_exact _ hf (selDepth t.tipNames.length mn mx) _ rr rt t (fun _ _ => rfl) hid h

/-- `TopoDepth` never reports its error once the subtree sizes are computed (`ReinitIndexes`): on
    every tree, each branch has a taxon on both sides — the root counts when it is a tip. -/
theorem collapseDepth_defined (mn mx : Int) (rr rt : Bool) (t : T) :
    collapseDepth mn mx rr rt t = some (collapse (selDepth t.tipNames.length mn mx) rr rt t) := by
  unfold collapseDepth
  simp only [depth_never_errs t, Bool.false_eq_true, if_false]

/-- The LIBRARY call `CollapseTopoDepth` reads the subtree sizes stored on the branches by the last
    indexing (`collapseDepthStored`); when those are the sizes of the tree as it is now (unique branch
    ids), it is `collapseDepth`, i.e. `ReinitIndexes(); CollapseTopoDepth(…)`, which is what the command
    `collapse depth` runs (`cmdDepth`).  With stale sizes (an edit since the last indexing) it is not:
    `stale_sizes_differ`. -/
theorem collapseDepthStored_fresh (mn mx : Int) (rr rt : Bool) (t : T) (hid : uniqueIds t = true) :
    collapseDepthStored (freshSizes t) mn mx rr rt t = collapseDepth mn mx rr rt t := by
  unfold collapseDepthStored collapseDepth
  have herr : t.splits.any (staleErr (freshSizes t)) = t.splits.any (depthErr t.tipNames.length) := by
    rw [Bool.eq_iff_iff, List.any_eq_true, List.any_eq_true]
    constructor <;> rintro ⟨s, hs, h⟩ <;> refine ⟨s, hs, ?_⟩ <;>
      simpa [staleErr, depthErr, storedSizes_fresh t hid s hs] using h
  have hsel : t.splits.filter (selDepthStored (freshSizes t) mn mx) = t.splits.filter (selDepth t.tipNames.length mn mx) := by
    apply List.filter_congr
    intro s hs
    unfold selDepthStored selDepth topoDepth
    rw [storedSizes_fresh t hid s hs]
  simp only [herr, collapse, hsel]

/-- No tip is lost or invented, whatever the tree, the branches and the flags: the leaf names
    below the root are the same up to order, and the root node keeps its data. -/
theorem removeEdges_tips (rr rt : Bool) (ids : List Int) (t : T) :
    (removeEdges rr rt ids t).leaves.Perm t.leaves ∧ (removeEdges rr rt ids t).d = t.d :=
  removeEdges_leaves rr rt ids t

theorem collapse_tips (sel : SplitE → Bool) (rr rt : Bool) (t : T) :
    (collapse sel rr rt t).leaves.Perm t.leaves ∧ (collapse sel rr rt t).d = t.d :=
  removeEdges_leaves rr rt _ t

/-- … and on the unrooted split map of Spec/Splits.lean itself (DESIGN Appendix B:
    `splitMapU (collapse t) = (splitMapU t) filtered`): `T.usplitsAll` of the collapsed tree is the
    split map (`usplitsOfU`: same fusing of equal sides, same sorting) of the branch list of `t`
    filtered by the criterion.  `LensGood`: every length is absent or ≥ 0 (needed by the shared
    library for the fusing of equal sides to be order-independent). -/
theorem collapse_usplitsAll (sel : SplitE → Bool)
    (selV : (List String × Nat) × EdgeD × Bool → Bool) (rr rt : Bool) (t : T)
    (hsel : ∀ s ∈ t.splits, sel s = selV ((canonSide t.tipNames s.below, lightSize t.tipNames s.below), s.e, s.tip))
    (hid : uniqueIds t = true) (h : RootOK rr t) (h2 : 2 ≤ t.kids.length) (hg : LensGood t.splits) :
    (collapse sel rr rt t).usplitsAll.Perm
      (usplitsOfU ((t.splits.filterMap (keepS sel rt)).map (toU t.tipNames))) := by
  apply usplitsAll_perm_list _ (removeEdges_tipNames rr rt _ t)
  · have hc := (collapse_exact_splits (fun l => (canonSide t.tipNames l, lightSize t.tipNames l))
      (pair_permInv _ _ (canonSide_permInv _) (lightSize_permInv _)) sel selV rr rt t hsel hid h).map
      (fun y : (List String × Nat) × EdgeD × Bool => (⟨y.1.1, y.2.1.len, y.2.1.sup⟩ : USplit))
    rw [List.map_map, List.map_map] at hc
    exact hc
  · intro x hx
    obtain ⟨s', hs', rfl⟩ := List.mem_map.mp hx
    obtain ⟨s, hs, hk⟩ := List.mem_filterMap.mp hs'
    unfold keepS at hk
    split at hk
    · split at hk
      · injection hk with hk; subst hk
        show GoodL (if rt = true then zeroLen s.e else s.e).len
        split
        · exact Or.inr (Rat.le_refl)
        · exact hg s hs
      · cases hk
    · injection hk with hk; subst hk; exact hg s hs

/-- Order-independence of the contraction sequence: two lists naming the same set of branches
    (in any order, with any repetitions) leave the same branches. -/
theorem removeEdges_order {β : Type} (f : List String → β) (hf : PermInv f) (rr rt : Bool)
    (ids ids' : List Int) (hset : ∀ i, i ∈ ids ↔ i ∈ ids') (t : T) (h : RootOK rr t) :
    (obsT f (removeEdges rr rt ids t)).Perm (obsT f (removeEdges rr rt ids' t)) := by
  refine (removeEdges_obs f hf rr rt ids t h).trans ?_
  refine List.Perm.trans (List.Perm.of_eq ?_) (removeEdges_obs f hf rr rt ids' t h).symm
  apply filterMap_congr'
  intro x _
  simp only [keepV, hset]

/-- What the code does on a ROOTED tree without `removeRoot` (the part the property leaves
    open): the root and its two branches always stay — a root branch is never contracted,
    even when selected; the only thing that can happen to it is `SetLength(0.0)` when it is a
    selected tip branch and `removeTips` is set — and inside each of the two subtrees exactly
    the selected inner branches disappear, as in `collapse_exact`. -/
theorem collapse_rooted {β : Type} (f : List String → β) (hf : PermInv f)
    (sel : SplitE → Bool) (selV : β × EdgeD × Bool → Bool)
    (rt : Bool) (d : NodeD) (p : Nat) (e1 e2 : EdgeD) (c1 c2 : T)
    (hsel : ∀ s ∈ (T.node d p [(e1, c1), (e2, c2)]).splits, sel s = selV (f s.below, s.e, s.tip))
    (hid : uniqueIds (.node d p [(e1, c1), (e2, c2)]) = true)
    (hns : (T.node d p [(e1, c1), (e2, c2)]).noSingle = true) :
    ∃ c1' c2' : T,
      collapse sel false rt (.node d p [(e1, c1), (e2, c2)]) =
        .node d p [(if sel ⟨c1.leaves, e1, c1.isLeaf⟩ = true ∧ c1.isLeaf = true ∧ rt = true then zeroLen e1 else e1, c1'),
                   (if sel ⟨c2.leaves, e2, c2.isLeaf⟩ = true ∧ c2.isLeaf = true ∧ rt = true then zeroLen e2 else e2, c2')]
      ∧ (obsT f c1').Perm ((obsT f c1).filterMap (keepV selV rt))
      ∧ (obsT f c2').Perm ((obsT f c2).filterMap (keepV selV rt))
      ∧ c1'.leaves.Perm c1.leaves ∧ c2'.leaves.Perm c2.leaves
      ∧ c1'.isLeaf = c1.isLeaf ∧ c2'.isLeaf = c2.isLeaf ∧ c1'.d = c1.d ∧ c2'.d = c2.d := by
  let t : T := .node d p [(e1, c1), (e2, c2)]
  let ids := (t.splits.filter sel).map (·.e.id)
  have hk1 : (e1, c1) ∈ t.kids := by simp [t]
  have hk2 : (e2, c2) ∈ t.kids := by simp [t]
  refine ⟨belowAllR false rt ids c1, belowAllR false rt ids c2, ?_,
    belowAllR_sel f hf sel selV false rt t hsel hid e1 c1 hk1, belowAllR_sel f hf sel selV false rt t hsel hid e2 c2 hk2,
    (belowAllR_leaves false rt ids c1).1, (belowAllR_leaves false rt ids c2).1,
    (belowAllR_leaves false rt ids c1).2.1, (belowAllR_leaves false rt ids c2).2.1,
    (belowAllR_leaves false rt ids c1).2.2, (belowAllR_leaves false rt ids c2).2.2⟩
  show removeEdges false rt ids t = _
  rw [removeEdges_kept false rt d p ids _ rfl]
  -- the two root entries are in the split list, so "id selected" is "selected"
  have hr1 : e1.id ∈ ids ↔ sel ⟨c1.leaves, e1, c1.isLeaf⟩ = true :=
    mem_selIds sel t hid _ (mem_splitsL_of_kid hk1)
  have hr2 : e2.id ∈ ids ↔ sel ⟨c2.leaves, e2, c2.isLeaf⟩ = true :=
    mem_selIds sel t hid _ (mem_splitsL_of_kid hk2)
  simp [rootEdge, hr1, hr2]

/- ## on ANY tree (single-child inner nodes allowed, any root)

   `obsGRoot f rr t` is the observation list with two more Booleans per branch, set on the branches of the
   root only: the root is a tip (the branch is then a terminal branch), and SPARED = the branch hangs off a
   root that has exactly two neighbours and `removeRoot` is off.  Since fix 82ce8b8 these are the only
   branches `RemoveEdges` spares; before it, every branch next to a node with exactly two neighbours was
   spared (`single_child_protected_pinned`). -/

/-- `collapse_exact_general`: for EVERY tree — rooted or not, with or without single-child inner nodes, the
    root a tip or not — with unique branch ids, without `removeRoot`: the branches after `collapse` are those
    before minus the selected inner branches that are not root branches of a rooted tree; terminal branches
    and the two root branches always stay (a selected terminal branch gets length 0 with `removeTips`); every
    survivor keeps split, data, node data and its flags.  (With `removeRoot`: `collapse_obsG`.) -/
theorem collapse_exact_general {β : Type} (f : List String → β) (hf : PermInv f)
    (sel : SplitE → Bool) (selV : β × EdgeD × Bool → Bool) (rt : Bool) (t : T)
    (hsel : ∀ s ∈ t.splits, sel s = selV (f s.below, s.e, s.tip))
    (hid : uniqueIds t = true) :
    (obsGRoot f false (collapse sel false rt t)).Perm ((obsGRoot f false t).filterMap (keepG selV rt)) :=
  collapse_obsG f hf sel selV false rt t hsel hid

/-- the flags are what they say: forgetting them gives the plain observation list of `collapse_exact` -/
theorem obsGRoot_forget {β : Type} (f : List String → β) (rr : Bool) (t : T) :
    (obsGRoot f rr t).map Prod.fst = obsT f t := by
  rw [obsT_kids]; exact obsGL_fst f _ _ _

/-- `collapse_exact` without the "no single-child node" hypothesis (possible since fix 82ce8b8): on
    every tree whose root has neither one nor two neighbours, without `removeRoot`, exactly the
    selected inner branches disappear. -/
theorem collapse_exact_unrooted {β : Type} (f : List String → β) (hf : PermInv f)
    (sel : SplitE → Bool) (selV : β × EdgeD × Bool → Bool) (rt : Bool) (t : T)
    (hsel : ∀ s ∈ t.splits, sel s = selV (f s.below, s.e, s.tip))
    (hid : uniqueIds t = true) (h1 : t.kids.length ≠ 1) (h2 : t.kids.length ≠ 2) :
    (obsT f (collapse sel false rt t)).Perm ((obsT f t).filterMap (keepV selV rt)) :=
  collapse_obs f hf sel selV false rt t hsel hid h1 (Or.inr h2)

/-- The last region: a root that is itself a tip (a single neighbour).  With or without `removeRoot`,
    its branch is a terminal branch — never contracted, length 0 iff selected and `removeTips` — the root
    stays a tip, and inside the subtree exactly the selected inner branches disappear.  Together with
    `collapse_exact` (removeRoot) and `collapse_exact_general` (no removeRoot) this covers every tree. -/
theorem collapse_tiproot {β : Type} (f : List String → β) (hf : PermInv f)
    (sel : SplitE → Bool) (selV : β × EdgeD × Bool → Bool) (rr rt : Bool)
    (d : NodeD) (p : Nat) (e : EdgeD) (c : T)
    (hsel : ∀ s ∈ (T.node d p [(e, c)]).splits, sel s = selV (f s.below, s.e, s.tip))
    (hid : uniqueIds (.node d p [(e, c)]) = true) :
    ∃ c' : T,
      collapse sel rr rt (.node d p [(e, c)]) =
        .node d p [(if sel ⟨c.leaves, e, c.isLeaf⟩ = true ∧ rt = true then zeroLen e else e, c')]
      ∧ (obsT f c').Perm ((obsT f c).filterMap (keepV selV rt))
      ∧ c'.leaves.Perm c.leaves ∧ c'.isLeaf = c.isLeaf ∧ c'.d = c.d := by
  let t : T := .node d p [(e, c)]
  let ids := (t.splits.filter sel).map (·.e.id)
  have hk : (e, c) ∈ t.kids := by simp [t]
  refine ⟨belowAllR rr rt ids c, ?_, belowAllR_sel f hf sel selV rr rt t hsel hid e c hk,
    (belowAllR_leaves rr rt ids c).1, (belowAllR_leaves rr rt ids c).2.1, (belowAllR_leaves rr rt ids c).2.2⟩
  show removeEdges rr rt ids t = _
  rw [removeEdges_kept rr rt d p ids _ rfl]
  have hr : e.id ∈ ids ↔ sel ⟨c.leaves, e, c.isLeaf⟩ = true :=
    mem_selIds sel t hid _ (mem_splitsL_of_kid hk)
  simp [rootEdge, hr]

/- ## `removeRoot` on a rooted tree: what happens to the root

   (`collapse_exact` already says which branches remain; these say what the ROOT looks like.)  The
   root node is never removed: contracting one of its two branches hands the children of the node
   below to the root, appended at the end of its neighbour slice.  The tree stays rooted only if that
   node had a single child; contracting both branches leaves the root with all grand-children. -/

theorem removeRoot_first_branch (rt : Bool) (d : NodeD) (p : Nat) (e1 e2 : EdgeD) (c1 c2 : T)
    (hid : uniqueIds (.node d p [(e1, c1), (e2, c2)]) = true) (hinner : c1.isLeaf = false) :
    contractT true rt e1.id true (.node d p [(e1, c1), (e2, c2)]) =
        .node d (p - nNone ([none, some (e2, c2)].take p)) ((e2, c2) :: c1.kids)
    ∧ (contractT true rt e1.id true (.node d p [(e1, c1), (e2, c2)])).rooted = (c1.kids.length == 1) := by
  have h := root_first_contracted rt d p e1 e2 c1 c2 hid hinner
  refine ⟨h, ?_⟩
  rw [h]; simp [T.rooted]

theorem removeRoot_second_branch (rt : Bool) (d : NodeD) (p : Nat) (e1 e2 : EdgeD) (c1 c2 : T)
    (hid : uniqueIds (.node d p [(e1, c1), (e2, c2)]) = true) (hinner : c2.isLeaf = false) :
    contractT true rt e2.id true (.node d p [(e1, c1), (e2, c2)]) =
        .node d (p - nNone ([some (e1, c1), none].take p)) ((e1, c1) :: c2.kids)
    ∧ (contractT true rt e2.id true (.node d p [(e1, c1), (e2, c2)])).rooted = (c2.kids.length == 1) := by
  have h := root_second_contracted rt d p e1 e2 c1 c2 hid hinner
  refine ⟨h, ?_⟩
  rw [h]; simp [T.rooted]

theorem removeRoot_both_branches (rt : Bool) (d : NodeD) (p : Nat) (e1 e2 : EdgeD) (c1 c2 : T)
    (hid : uniqueIds (.node d p [(e1, c1), (e2, c2)]) = true) (h1 : c1.isLeaf = false) (h2 : c2.isLeaf = false) :
    ∃ p', removeEdges true rt [e1.id, e2.id] (.node d p [(e1, c1), (e2, c2)]) = .node d p' (c1.kids ++ c2.kids) :=
  root_both_contracted rt d p e1 e2 c1 c2 hid h1 h2

/- ## the Spec oracle follows

   `collapseOK` (Spec/C07.lean) is the Bool predicate the driver evaluates on the trees the
   IMPLEMENTATION returned.  The theorems below say that the model satisfies that very
   predicate, for all thresholds and flags: the oracle demands nothing the theorems do not deliver,
   and an implementation that agrees with the model on obs_C07 passes it.  All are instances of
   `collapse_passes` / `removeEdges_passes` (Lemmas/C07Oracle.lean), which hold on every tree with unique
   branch ids; the hypotheses on the root that some of them carry are not needed. -/

theorem collapseLen_oracle (l : Rat) (rr rt : Bool) (t : T)
    (hid : uniqueIds t = true) (h : RootOK rr t) (h2 : 2 ≤ t.kids.length) :
    collapseOK (.len l) rt t (collapseLen l rr rt t) = true :=
  collapse_passes (.len l) (selLen l) rr false rt (fun h => nomatch h) t (fun _ _ => rfl) hid

theorem collapseSup_oracle (x : Rat) (rr : Bool) (t : T)
    (hid : uniqueIds t = true) (h : RootOK rr t) (h2 : 2 ≤ t.kids.length) :
    collapseOK (.sup x) false t (collapseSup x rr t) = true :=
  collapse_passes (.sup x) (selSup x) rr false false (fun h => nomatch h) t (fun _ _ => rfl) hid

/-- here the code's `TopoDepth` (min of the two subtree sizes) meets the Spec's `lightSize` -/
theorem collapseDepth_oracle (mn mx : Int) (rr rt : Bool) (t : T)
    (hid : uniqueIds t = true) (h : RootOK rr t) (h2 : 2 ≤ t.kids.length) :
    (collapseDepth mn mx rr rt t).map (collapseOK (.depth mn mx) rt t) = some true := by
  rw [collapseDepth_defined]
  simp only [Option.map_some]
  congr 1
  apply collapse_passes (.depth mn mx) _ rr false rt (fun h => nomatch h) t _ hid
  intro s hs
  simp only [selDepth, critV, FF, lightSize_eq_topoDepth t s hs]

/-- `RemoveEdges` called directly with any list of branches, in any order: what is left (exactly
    the branches whose id is not listed, and the tip branches) … -/
theorem removeEdges_exact {β : Type} (f : List String → β) (hf : PermInv f) (rr rt : Bool)
    (ids : List Int) (t : T) (h : RootOK rr t) :
    (obsT f (removeEdges rr rt ids t)).Perm
      ((obsT f t).filterMap (keepV (fun y => decide (y.2.1.id ∈ ids)) rt)) :=
  removeEdges_obs f hf rr rt ids t h

/-- … and the oracle on it -/
theorem removeEdges_oracle (ids : List Int) (rr rt : Bool) (t : T)
    (h : RootOK rr t) (h2 : 2 ≤ t.kids.length) :
    collapseOK (.ids ids) rt t (removeEdges rr rt ids t) = true :=
  removeEdges_passes ids rr false rt (fun h => nomatch h) t

/-- … and on a ROOTED tree without `removeRoot`, where the property makes no exact-set claim on the
    two root branches and the oracle accordingly accepts either fate for a root branch that meets
    the criterion: the model (which keeps them) passes. -/
theorem collapse_rooted_oracle (crit : Crit) (sel : SplitE → Bool) (rt : Bool)
    (d : NodeD) (p : Nat) (e1 e2 : EdgeD) (c1 c2 : T)
    (hsel : ∀ s ∈ (T.node d p [(e1, c1), (e2, c2)]).splits,
      sel s = critV crit (FF (T.node d p [(e1, c1), (e2, c2)]).tipNames s.below, s.e, s.tip))
    (hid : uniqueIds (.node d p [(e1, c1), (e2, c2)]) = true)
    (hns : (T.node d p [(e1, c1), (e2, c2)]).noSingle = true) :
    collapseOK crit rt (.node d p [(e1, c1), (e2, c2)]) (collapse sel false rt (.node d p [(e1, c1), (e2, c2)])) = true :=
  collapse_passes crit sel false false rt id _ hsel hid

/-- … and for a root that is itself a tip (with or without `removeRoot`): the oracle, which treats the
    branch of a tip-root as a tip branch, accepts the model there too — so `collapseOK` holds of the model
    on EVERY tree with unique branch ids. -/
theorem collapse_tiproot_oracle (crit : Crit) (sel : SplitE → Bool) (rr rt : Bool)
    (d : NodeD) (p : Nat) (e : EdgeD) (c : T)
    (hsel : ∀ s ∈ (T.node d p [(e, c)]).splits,
      sel s = critV crit (FF (T.node d p [(e, c)]).tipNames s.below, s.e, s.tip))
    (hid : uniqueIds (.node d p [(e, c)]) = true) :
    collapseOK crit rt (.node d p [(e, c)]) (collapse sel rr rt (.node d p [(e, c)])) = true :=
  collapse_passes crit sel rr false rt (fun h => nomatch h) _ hsel hid

/- ## the oracle the driver runs: `collapseOKr`, given the `--root` flag

   `collapseOKr crit rt rr` is `collapseOK` plus the documented `--root` clause: with `rr` a root branch of a
   rooted tree that meets the criterion must be gone too (without it, it stays optional); and the reading
   of an absent length is ONE for the whole call.  The model passes it with the flag it was run with. -/

theorem collapse_oracle_r (crit : Crit) (sel : SplitE → Bool) (rr rt : Bool) (t : T)
    (hsel : ∀ s ∈ t.splits, sel s = critV crit (FF t.tipNames s.below, s.e, s.tip))
    (hid : uniqueIds t = true) (h1 : t.kids.length ≠ 1) :
    collapseOKr crit rt rr t (collapse sel rr rt t) = true :=
  collapse_passes crit sel rr rr rt id t hsel hid

theorem collapse_tiproot_oracle_r (crit : Crit) (sel : SplitE → Bool) (rr rt : Bool)
    (d : NodeD) (p : Nat) (e : EdgeD) (c : T)
    (hsel : ∀ s ∈ (T.node d p [(e, c)]).splits,
      sel s = critV crit (FF (T.node d p [(e, c)]).tipNames s.below, s.e, s.tip))
    (hid : uniqueIds (.node d p [(e, c)]) = true) :
    collapseOKr crit rt rr (.node d p [(e, c)]) (collapse sel rr rt (.node d p [(e, c)])) = true :=
  collapse_passes crit sel rr rr rt id _ hsel hid

/- ## Resolve -/

/-- ★ `resolve_refines`.  For EVERY list of draws on which the model of `Resolve` is defined
    (i.e. exactly the draws the function consumes, each within the bound of its `Intn`):
    * every branch observed before is observed after, with the same split, length, support,
      p-value, tip flag and node data, and what is added (`ex`) are inner branches of length 0
      without support or p-value under unnamed nodes;
    * same tips, same root node;
    * every tip-to-tip distance (indeed `dist a b` for all names) is unchanged;
    * the result is binary as soon as the input has no single-child node and a root of
      degree ≥ 2. -/
theorem resolve_refines {β : Type} (f : List String → β) (hf : PermInv f) (t t' : T) (draws : List Nat)
    (h : resolve t draws = some t') :
    (∃ ex : List (ObsR β), (∀ x ∈ ex, IsNew x) ∧ ((obsT f t').map obsR).Perm ((obsT f t).map obsR ++ ex))
    ∧ t'.leaves.Perm t.leaves ∧ t'.d = t.d
    ∧ (∀ a b : String, t'.dist a b = t.dist a b)
    ∧ (t.noSingle = true → 2 ≤ t.kids.length → t'.binary = true) := by
  have h' := resolve_some t draws t' h
  obtain ⟨hl, _, hd, ex, hnew, hp⟩ := (resolve_spec f hf).1 true t draws t' [] h'
  refine ⟨⟨ex, hnew, hp⟩, hl, hd, ?_, ?_⟩
  · intro a b
    obtain ⟨_, _, _, ex', hnew', hp'⟩ := (resolve_spec (sepf a b) (sepf_permInv a b)).1 true t draws t' [] h'
    rw [dist_eq_RT, dist_eq_RT, sum_perm (hp'.map wR), List.map_append, List.sum_append]
    rw [sum_map_zero wR ex' (fun x hx => by unfold wR; rw [(hnew' x hx).1]; simp)]
    exact Rat.add_zero _
  · intro hns h2
    have hb' := resolve_binary.1 true t draws t' [] h' hns
    have hcount := resolveT_count true t draws t' [] h'
    simp only [if_true, Nat.add_zero] at hcount
    unfold T.binary
    simp only [Bool.and_eq_true, Bool.or_eq_true, beq_iff_eq]
    exact ⟨by split at hcount <;> omega, hb'⟩

/-- `resolve_refines` on the unrooted split map of Spec/Splits.lean: `T.usplitsAll` of the resolved
    tree is the split map of the branches of `t` plus added branches of length 0 without support
    (an added branch whose split already exists is fused with it: length + 0, same support). -/
theorem resolve_usplitsAll (t t' : T) (draws : List Nat) (h : resolve t draws = some t')
    (hg : LensGood t.splits) :
    ∃ ex : List USplit, (∀ x ∈ ex, x.len = 0 ∧ x.sup = NIL) ∧
      t'.usplitsAll.Perm (usplitsOfU (t.splits.map (toU t.tipNames) ++ ex)) := by
  obtain ⟨⟨ex, hnew, hp⟩, _⟩ := resolve_refines (fun l => (canonSide t.tipNames l, ())) 
    (pair_permInv _ _ (canonSide_permInv _) permInv_unit) t t' draws h
  refine ⟨ex.map toUR, List.forall_mem_map.mpr fun y hy => ⟨(hnew y hy).1, (hnew y hy).2.1⟩, ?_⟩
  · apply usplitsAll_perm_list _ (resolve_tipNames t t' draws h)
    · rw [splits_toU_eq_RT t.tipNames (fun _ => ()) t', splits_toU_eq_RT t.tipNames (fun _ => ()) t, ← List.map_append]
      exact hp.map toUR
    · intro x hx
      rcases List.mem_append.mp hx with hx | hx
      · exact hg.goodU _ x hx
      · obtain ⟨y, hy, rfl⟩ := List.mem_map.mp hx
        show GoodL y.2.1
        rw [(hnew y hy).1]
        exact Or.inr (Rat.le_refl)

/-- Resolve on ARBITRARY trees, single-child inner nodes included (where the result cannot be binary):
    for every draw list, no node is left with more than three neighbours.  (Single-child nodes have two
    neighbours and are never touched; `resolve_refines` gives the rest.) -/
theorem resolve_max_degree (t t' : T) (draws : List Nat) (h : resolve t draws = some t') : deg3 t' = true :=
  resolve_deg3 t t' draws h

/-- The Spec oracle `resolveOK` (the Bool predicate the driver evaluates on the implementation's
    output) holds of the model's output, for every tree whose root is not a tip and every draw
    list on which the model is defined. -/
theorem resolve_oracle (t t' : T) (draws : List Nat) (h : resolve t draws = some t')
    (h1 : t.kids.length ≠ 1) : resolveOK t t' = true := by
  obtain ⟨⟨ex, hnew, hp⟩, _, hd, hdist, hbin⟩ := resolve_refines (FF t.tipNames) (FF_permInv _) t t' draws h
  have h1' : t'.kids.length ≠ 1 := by
    have := resolve_kids_one t t' draws h
    rw [beq_eq_false_iff_ne.mpr h1] at this
    exact beq_eq_false_iff_ne.mp this
  refine resolveOK_of_obs t t' (resolve_tipNames t t' draws h) hd (ex.map (·, false)) (isNew_plain hnew) ?_ hdist hbin
    (fun _ h => absurd h h1) (resolve_deg3 t t' draws h)
  rw [obsRG_plain _ t' h1', obsRG_plain _ t h1, ← List.map_append]
  exact hp.map _

/-- … and when the root is itself a tip (it is never resolved: one neighbour): `resolveOK` holds of the model
    on EVERY tree. -/
theorem resolve_tiproot_oracle (d : NodeD) (p : Nat) (e : EdgeD) (c t' : T) (draws : List Nat)
    (h : resolve (.node d p [(e, c)]) draws = some t') : resolveOK (.node d p [(e, c)]) t' = true := by
  have h' := resolve_some _ draws t' h
  obtain ⟨k1, ds1, hk, hn⟩ := resolveT_unfold true d p [(e, c)] draws t' [] h'
  obtain ⟨c1, dsx, r1, hc, hr, hk1⟩ := resolveL_unfold e c [] draws k1 ds1 hk
  rw [resolveL] at hr
  injection hr with hr; injection hr with hr1 hr2
  subst hr1; subst hr2; subst hk1
  have ht' : t' = .node d p [(e, c1)] := by
    unfold resolveNode at hn
    simp at hn
    exact hn.1.symm
  subst ht'
  obtain ⟨hl, hleaf, hd, ex, hnew, hobs⟩ :=
    (resolve_spec (FF (T.node d p [(e, c)]).tipNames) (FF_permInv _)).1 false c draws c1 dsx hc
  obtain ⟨_, _, _, hdist, _⟩ := resolve_refines (fun _ => ()) permInv_unit _ _ draws h
  exact resolveOK_tiproot_of d p e c c1 hl hleaf hd ex hnew hobs hdist (resolve_deg3 _ _ draws h)
    (fun hns => by simpa [binaryL] using resolve_binary.2 _ _ _ _ hk (by simp [noSingleL, hns]))

/-- The draw protocol.  The model of `Resolve` is defined EXACTLY on the draw lists that answer the
    `Intn` calls of the draw script of the tree (post-order, `Perm(l)` = `Intn(1)…Intn(l)` at every
    node with more than 3 neighbours): as many values, each within its bound.  So
    `resolve_refines` is not vacuous (it speaks about every outcome of the random choices), and
    the harness, which replays exactly that script on the seeded source and checks that the
    real function consumed as many values, exercises precisely the domain of the theorem. -/
theorem resolve_total (t : T) (draws : List Nat) :
    (∃ t', resolve t draws = some t') ↔ okDraws (drawScript t) draws = true := by
  constructor
  · rintro ⟨t', h⟩
    obtain ⟨dl, he, ho⟩ := resolve_some_ok.1 true t draws t' [] (resolve_some t draws t' h)
    rw [List.append_nil] at he
    rw [he]; exact ho
  · intro h
    obtain ⟨t', ht⟩ := resolveT_ok true t draws [] h
    refine ⟨t', ?_⟩
    unfold resolve
    rw [List.append_nil] at ht
    rw [ht]

/- ## the commands (Model/C07Cmd.lean) -/

/-- `gotree collapse length`: the command writes, in order, the collapsed version of every tree before
    the first record in error, and succeeds iff no record is in error; `-l` omitted means 0. -/
theorem cmdLength_spec (fl : CmdFlags) (recs : List Rec) :
    cmdLength fl recs = ((goodRecs recs).map (collapseLen (fl.l.getD 0) fl.root fl.tips), !hasErrRec recs) :=
  runEach_total _ _ recs (fun _ _ => rfl)

/-- `gotree collapse support`: likewise (`-s` omitted means 0; tip branches are never touched). -/
theorem cmdSupport_spec (fl : CmdFlags) (recs : List Rec) :
    cmdSupport fl recs = ((goodRecs recs).map (collapseSup (fl.s.getD 0) fl.root), !hasErrRec recs) :=
  runEach_total _ _ recs (fun _ _ => rfl)

/-- `gotree collapse depth` on trees that can be indexed (unique tip names, at least one tip): the
    command re-indexes each tree, so it is the collapse by the FRESH topological depths, whatever was
    stored on the branches before (`collapseDepthStored_fresh`, `collapseDepth_defined`). -/
theorem cmdDepth_spec (fl : CmdFlags) (recs : List Rec)
    (hok : ∀ t ∈ goodRecs recs, reinitErr t = false) :
    cmdDepth fl recs =
      ((goodRecs recs).map (fun t => collapse (selDepth t.tipNames.length (fl.mn.getD 0) (fl.mx.getD 0)) fl.root fl.tips t),
        !hasErrRec recs) :=
  runEach_total _ _ recs fun t ht => by
    simp only [hok t ht, Bool.false_eq_true, if_false, collapseDepth_defined, Option.getD_some]

/-- `gotree resolve`: defined on the draws that follow the scripts of the successive trees on ONE
    stream; it writes one tree per record before the first in error. -/
theorem cmdResolve_total (recs : List Rec) (draws : List Nat) (h : okDraws (cmdResolveScript recs) draws = true) :
    ∃ o, cmdResolve recs draws = some o ∧ o.1.length = (goodRecs recs).length ∧ o.2 = !hasErrRec recs :=
  cmdResolve_ok recs draws h

/- ## fidelity of the model of `rand.Perm` / `togroup` (not needed by the theorems above) -/

/-- the modelled `rand.Perm(n)` (inside-out shuffle driven by the draws) is a permutation of 0…n−1 -/
theorem perm_is_permutation (ds r : List Nat) (h : goPerm ds = some r) : r.Perm (List.range ds.length) :=
  goPerm_perm ds r h

/-- `togroup[perm[nb]] = current.Edges()[i]`: the model builds `togroup` as "the children sorted by
    `perm[nb]`"; for every permutation the model can draw, position `p` of that list holds the
    child number `nb` with `perm[nb] = p` — the result of the scatter loop of the Go code. -/
theorem togroup_is_scatter (ds perm : List Nat) (k : Kids) (h : goPerm ds = some perm) (hl : ds.length = k.length) :
    ∀ p, p < k.length → ∃ nb, ∃ (hnb : nb < k.length),
      ((sortK (perm.zip ((List.range k.length).zip k))).map (·.2))[p]? = some (nb, k[nb]) ∧ perm[nb]? = some p :=
  togroup_scatter ds perm k h hl

/- ## the hypotheses are satisfiable on non-trivial trees; concrete behaviours -/

/-- unrooted, 6 tips, a multifurcation, an absent length (id 4), an absent support, a zero length:
    `((a:1,b:2)50:0,(c:1,d:1,e:3):-,f:2);` with branch ids in pre-order -/
def exU : T :=
  .node ⟨"", []⟩ 0 [
    (⟨0, 50, NIL, [], 0⟩, .node ⟨"", []⟩ 0 [(⟨1, NIL, NIL, [], 1⟩, T.leaf "a"), (⟨2, NIL, NIL, [], 2⟩, T.leaf "b")]),
    (⟨NIL, NIL, NIL, [], 3⟩, .node ⟨"", []⟩ 0 [(⟨1, NIL, NIL, [], 4⟩, T.leaf "c"), (⟨1, NIL, NIL, [], 5⟩, T.leaf "d"), (⟨3, NIL, NIL, [], 6⟩, T.leaf "e")]),
    (⟨2, NIL, NIL, [], 7⟩, T.leaf "f")]

/-- rooted: `((a:1,b:2)50:0,((c:1,d:1)90:1,e:3)20:1);` -/
def exR : T :=
  .node ⟨"", []⟩ 0 [
    (⟨0, 50, NIL, [], 0⟩, .node ⟨"", []⟩ 0 [(⟨1, NIL, NIL, [], 1⟩, T.leaf "a"), (⟨2, NIL, NIL, [], 2⟩, T.leaf "b")]),
    (⟨1, 20, NIL, [], 3⟩, .node ⟨"", []⟩ 0 [
        (⟨1, 90, NIL, [], 4⟩, .node ⟨"", []⟩ 0 [(⟨1, NIL, NIL, [], 5⟩, T.leaf "c"), (⟨1, NIL, NIL, [], 6⟩, T.leaf "d")]),
        (⟨3, NIL, NIL, [], 7⟩, T.leaf "e")])]

/-- a star with 6 tips -/
def exS : T :=
  .node ⟨"", []⟩ 0 [(⟨1, NIL, NIL, [], 0⟩, T.leaf "a"), (⟨1, NIL, NIL, [], 1⟩, T.leaf "b"), (⟨1, NIL, NIL, [], 2⟩, T.leaf "c"),
    (⟨1, NIL, NIL, [], 3⟩, T.leaf "d"), (⟨1, NIL, NIL, [], 4⟩, T.leaf "e"), (⟨1, NIL, NIL, [], 5⟩, T.leaf "f")]

example : uniqueIds exU = true ∧ RootOK false exU := ⟨by decide +kernel, by decide +kernel, Or.inr ⟨by decide +kernel, by decide +kernel⟩⟩
example : uniqueIds exR = true ∧ RootOK true exR := ⟨by decide +kernel, by decide +kernel, Or.inl rfl⟩
example : uniqueIds exR = true ∧ exR.noSingle = true ∧ exR.rooted = true := ⟨by decide +kernel, by decide +kernel, by decide +kernel⟩

-- hypotheses of `collapse_usplitsAll` / `resolve_usplitsAll` (every length absent or ≥ 0), of `cmdDepth_spec` (the
-- trees can be indexed) and of `collapse_rooted_oracle` on the example trees
example : LensGood exU.splits := by unfold LensGood GoodL; decide +kernel
example : LensGood exS.splits := by unfold LensGood GoodL; decide +kernel
example : reinitErr exU = false ∧ reinitErr exR = false := by decide +kernel
example : uniqueIds exR = true ∧ exR.noSingle = true ∧ exR.kids.length = 2 := by decide +kernel

/-- the length criterion includes the threshold itself (`<=`): the branch of length 0 goes at l = 0 -/
theorem len_threshold_inclusive :
    ((collapseLen 0 false false exU).splits.map (·.e.id)) = [7, 1, 2, 4, 5, 6] ∧
    (exU.splits.map (·.e.id)) = [0, 1, 2, 3, 4, 5, 6, 7] := by decide +kernel

/-- … and an ABSENT length is the sentinel −1, hence "short" for every l ≥ −1 (stated, not hidden):
    at l = −1 the branch without length (id 3) is contracted, and it is the only one. -/
theorem absent_length_counts_as_short :
    ((collapseLen (-1) false false exU).splits.map (·.e.id)) = [0, 1, 2, 7, 4, 5, 6] := by decide +kernel

/-- the support criterion needs a support: the branch without support (id 3) stays whatever the threshold -/
theorem absent_support_never_collapsed :
    ((collapseSup 100 false exU).splits.map (·.e.id)) = [3, 4, 5, 6, 7, 1, 2] := by decide +kernel

/-- the depth interval is closed at both ends -/
theorem depth_interval_closed :
    ((collapseDepth 2 2 false false exU).map fun t => t.splits.map (·.e.id)) = some [3, 4, 5, 6, 7, 1, 2] ∧
    ((collapseDepth 3 3 false false exU).map fun t => t.splits.map (·.e.id)) = some [0, 1, 2, 7, 4, 5, 6] := by decide +kernel

/-- without `removeRoot` the two root branches of a rooted tree stay even when selected … -/
theorem rooted_root_branches_kept :
    ((collapseLen 1 false false exR).splits.map (·.e.id)) = [0, 1, 2, 3, 7, 5, 6] := by decide +kernel

/-- … with `removeRoot` they go like any other (the tree is no longer rooted) -/
theorem rooted_root_branches_removed_with_flag :
    ((collapseLen 1 true false exR).splits.map (·.e.id)) = [1, 2, 7, 5, 6] ∧ (collapseLen 1 true false exR).rooted = false := by decide +kernel

/-- a tree whose root is a tip: `((a:1,b:2,c:2):1)r;` -/
def exT : T :=
  .node ⟨"r", []⟩ 0 [(⟨1, NIL, NIL, [], 0⟩, .node ⟨"", []⟩ 0
    [(⟨1, NIL, NIL, [], 1⟩, T.leaf "a"), (⟨2, NIL, NIL, [], 2⟩, T.leaf "b"), (⟨2, NIL, NIL, [], 3⟩, T.leaf "c")])]

/-- NEGATIVE, about the PINNED variant of the model (the code before fix e276115, whose tip test
    looked at `e.Right()` only): when the root is a tip, the terminal branch next to it was
    contracted like an inner branch and the tip was lost.  The current model keeps it. -/
theorem roottip_tip_lost :
    exT.tipNames = ["r", "a", "b", "c"] ∧
    (collapsePinned (selLen 1) false false exT).tipNames = ["a", "b", "c"] ∧
    (collapsePinned (selDepth 4 1 1) false false exT).tipNames = ["a", "b", "c"] ∧
    (collapseLen 1 false false exT).tipNames = ["r", "a", "b", "c"] ∧
    (collapseLen 1 false true exT).edges.map (·.len) = [0, 0, 2, 2] := by decide +kernel

/-- stale sizes: the stored sizes of `exU` say that branch 0 has one taxon below (as if `b` had been
    grafted after the indexing); `CollapseTopoDepth(1,1)` then removes that INNER branch of depth 2,
    and with no sizes at all (never indexed) it fails and removes nothing. -/
theorem stale_sizes_differ :
    ((collapseDepthStored ((freshSizes exU).map fun x => if x.1 == 0 then (0, 5, 1) else x) 1 1 false false exU).map
        fun t => t.splits.map (·.e.id)) = some [3, 4, 5, 6, 7, 1, 2] ∧
    ((collapseDepth 1 1 false false exU).map fun t => t.splits.map (·.e.id)) = some [0, 1, 2, 3, 4, 5, 6, 7] ∧
    collapseDepthStored [] 1 1 false false exU = none := by decide +kernel

/-- `(((a:1,b:1):1):1,c:1,d:1);` — a single-child inner node (branch 1 below branch 0) -/
def exSg : T :=
  .node ⟨"", []⟩ 0 [
    (⟨1, NIL, NIL, [], 0⟩, .node ⟨"", []⟩ 0 [
      (⟨1, NIL, NIL, [], 1⟩, .node ⟨"", []⟩ 0 [(⟨1, NIL, NIL, [], 2⟩, T.leaf "a"), (⟨1, NIL, NIL, [], 3⟩, T.leaf "b")])]),
    (⟨1, NIL, NIL, [], 4⟩, T.leaf "c"), (⟨1, NIL, NIL, [], 5⟩, T.leaf "d")]

/-- NEGATIVE, about the PINNED variant (the code before fix 82ce8b8, whose "root branch" test was "an
    end point has exactly two neighbours"): a single-child inner node protected both its branches, so
    `collapse length -l 1` left `exSg` unchanged although its two inner branches meet the criterion.
    The current model removes both. -/
theorem single_child_protected_pinned :
    (collapsePinned (selLen 1) false false exSg).splits.map (·.e.id) = [0, 1, 2, 3, 4, 5] ∧
    (collapseLen 1 false false exSg).splits.map (·.e.id) = [4, 5, 2, 3] ∧
    uniqueIds exSg = true ∧ exSg.noSingle = false := by decide +kernel

/-- With `--root` nothing is optional: a selected inner branch — root branch or not — has no key the
    oracle would accept afterwards (so a code that ignored the flag is an ORACLE failure; the corpus holds
    such a hand-made pair), and under either reading the choice is the same for all branches. -/
theorem root_flag_nothing_optional (sel : Ent → Bool) (rt : Bool) (e : Ent) :
    optKeysR sel true e = [] ∧ (e.tip = false → sel e = true → mandKeyR sel rt e = none) := by
  constructor
  · simp [optKeysR]
  · intro h1 h2; simp [mandKeyR, h1, h2]

/-- `resolve` is defined on the draws it asks for (here: a star with 6 tips, `Perm(6)`), and the
    result is binary with 3 added branches -/
theorem resolve_defined_example :
    drawScript exS = [1, 2, 3, 4, 5, 6] ∧
    ((resolve exS [0, 1, 0, 2, 4, 3]).map fun t => (t.binary, t.splits.length)) = some (true, 9) ∧
    resolve exS [0, 1, 0, 2, 4] = none ∧ resolve exS [0, 2, 0, 2, 4, 3] = none := by decide +kernel


/-! ## Histories: several collapses on ONE tree (the sequences `C07.seq` runs on one object)

  A collapse leaves what the next one needs — branch ids still pairwise distinct, the root condition — and
  the two filters of the branch list compose (`keepV2`): the second criterion is evaluated on the branch AS
  THE FIRST LEFT IT (a tip zeroed by `removeTips` is judged with length 0).  Same `removeRoot` in both steps. -/

/-- ★ two collapses in a row, any two selections -/
theorem collapse_then_collapse {β : Type} (f : List String → β) (hf : PermInv f)
    (sel1 sel2 : SplitE → Bool) (selV1 selV2 : β × EdgeD × Bool → Bool) (rr rt1 rt2 : Bool) (t : T)
    (hsel1 : ∀ s ∈ t.splits, sel1 s = selV1 (f s.below, s.e, s.tip))
    (hsel2 : ∀ s ∈ (collapse sel1 rr rt1 t).splits, sel2 s = selV2 (f s.below, s.e, s.tip))
    (hid : uniqueIds t = true) (h : RootOK rr t) :
    uniqueIds (collapse sel1 rr rt1 t) = true ∧ RootOK rr (collapse sel1 rr rt1 t) ∧
    (obsT f (collapse sel2 rr rt2 (collapse sel1 rr rt1 t))).Perm
      ((obsT f t).filterMap (keepV2 selV1 selV2 rt1 rt2)) := by
  have hid' : uniqueIds (collapse sel1 rr rt1 t) = true := uniqueIds_removeEdges rr rt1 _ t hid
  have h' : RootOK rr (collapse sel1 rr rt1 t) := rootOK_removeEdges rr rt1 _ t h
  refine ⟨hid', h', ?_⟩
  have p1 := collapse_exact f hf sel1 selV1 rr rt1 t hsel1 hid h
  have p2 := collapse_exact f hf sel2 selV2 rr rt2 _ hsel2 hid' h'
  refine p2.trans ((p1.filterMap _).trans (List.Perm.of_eq ?_))
  rw [List.filterMap_filterMap]; rfl

/-- `collapse length` then `collapse support` on the same tree -/
theorem collapseLen_then_collapseSup {β : Type} (f : List String → β) (hf : PermInv f) (l x : Rat)
    (rr rt : Bool) (t : T) (hid : uniqueIds t = true) (h : RootOK rr t) :
    (obsT f (collapseSup x rr (collapseLen l rr rt t))).Perm
      ((obsT f t).filterMap (keepV2 (fun y => decide (y.2.1.len ≤ l))
        (fun y => y.2.1.sup != NIL && decide (y.2.1.sup < x)) rt false)) :=
  (collapse_then_collapse f hf (selLen l) (selSup x) _ _ rr rt false t (fun _ _ => rfl) (fun _ _ => rfl) hid h).2.2

/-- `collapse support` then `collapse length` on the same tree -/
theorem collapseSup_then_collapseLen {β : Type} (f : List String → β) (hf : PermInv f) (l x : Rat)
    (rr rt : Bool) (t : T) (hid : uniqueIds t = true) (h : RootOK rr t) :
    (obsT f (collapseLen l rr rt (collapseSup x rr t))).Perm
      ((obsT f t).filterMap (keepV2 (fun y => y.2.1.sup != NIL && decide (y.2.1.sup < x))
        (fun y => decide (y.2.1.len ≤ l)) false rt)) :=
  (collapse_then_collapse f hf (selSup x) (selLen l) _ _ rr false rt t (fun _ _ => rfl) (fun _ _ => rfl) hid h).2.2

/-- collapsing twice with the same threshold changes nothing the second time -/
theorem collapseLen_idempotent {β : Type} (f : List String → β) (hf : PermInv f) (l : Rat)
    (rr rt : Bool) (t : T) (hid : uniqueIds t = true) (h : RootOK rr t) :
    (obsT f (collapseLen l rr rt (collapseLen l rr rt t))).Perm (obsT f (collapseLen l rr rt t)) :=
  perm_of_keepV_twice
    (collapse_then_collapse f hf (selLen l) (selLen l) _ _ rr rt rt t (fun _ _ => rfl) (fun _ _ => rfl) hid h).2.2
    (collapseLen_exact f hf l rr rt t hid h)

/-- the same for supports -/
theorem collapseSup_idempotent {β : Type} (f : List String → β) (hf : PermInv f) (x : Rat)
    (rr : Bool) (t : T) (hid : uniqueIds t = true) (h : RootOK rr t) :
    (obsT f (collapseSup x rr (collapseSup x rr t))).Perm (obsT f (collapseSup x rr t)) :=
  perm_of_keepV_twice
    (collapse_then_collapse f hf (selSup x) (selSup x) _ _ rr false false t (fun _ _ => rfl) (fun _ _ => rfl) hid h).2.2
    (collapseSup_exact f hf x rr t hid h)

/-- the hypotheses are met by `exR` with `--root` (see the examples above), and the history is what it should be:
    `-l 0 --root` removes branch 0, `-s 50 --root` then removes branch 3 (support 20) and keeps 4 (support 90) -/
example : (collapseLen 0 true false exR).splits.map (·.e.id) = [3, 4, 5, 6, 7, 1, 2] ∧
    (collapseSup 50 true (collapseLen 0 true false exR)).splits.map (·.e.id) = [1, 2, 4, 5, 6, 7] := by decide +kernel

/-- ★ a history through `Resolve`: resolve, renumber the branches (as the harness does between steps — the
    branches `Resolve` makes have no id), collapse the branches of length ≤ 0 with `--root`: when every inner
    branch of the input has a positive length, what is observed (splits, lengths, supports, p-values, node
    data) is the input again — the collapse removes exactly what `Resolve` added. -/
theorem resolve_then_collapse {β : Type} (f : List String → β) (hf : PermInv f) (t r : T) (draws : List Nat)
    (h : resolve t draws = some r) (hk : t.kids.length ≠ 1)
    (hpos : ∀ y ∈ RT f t, y.2.2.2.2.1 = false → 0 < y.2.1) :
    (RT f (collapseLen 0 true false (renumber r))).Perm (RT f t) := by
  have hid := uniqueIds_renumber r
  have hroot : RootOK true (renumber r) := by
    refine ⟨?_, Or.inl rfl⟩
    rw [renumber_kids_length]
    have := resolve_kids_one t r draws h
    intro hc; apply hk
    simpa [hc] using this.symm
  have p1 := (collapseLen_exact f hf 0 true false (renumber r) hid hroot).map obsR
  rw [keepV_obsR] at p1
  obtain ⟨⟨ex, hnew, hp⟩, _⟩ := resolve_refines f hf t r draws h
  have e1 : (obsT f (renumber r)).map obsR = RT f r := renumber_RT f r
  rw [e1] at p1
  have hp' : (RT f r).Perm (RT f t ++ ex) := hp
  refine p1.trans ((hp'.filter _).trans (List.Perm.of_eq ?_))
  rw [List.filter_append]
  have h1 : (RT f t).filter (keptR 0) = RT f t := by
    apply List.filter_eq_self.mpr
    intro y hy
    unfold keptR
    cases ht : y.2.2.2.2.1
    · have := hpos y hy ht
      have : ¬ y.2.1 ≤ 0 := Rat.not_le.mpr this
      simp [this]
    · simp
  have h2 : ex.filter (keptR 0) = [] := by
    apply List.filter_eq_nil_iff.mpr
    intro y hy
    obtain ⟨hl, _, _, htip, _⟩ := hnew y hy
    unfold keptR
    rw [hl, htip]
    decide
  rw [h1, h2, List.append_nil]
/-- the hypotheses are met by the star `exS` (no inner branch, six children) with the draws of
    `resolve_defined_example`: after renumbering the ids are distinct, and the collapse leaves the six tips -/
example : ((resolve exS [0, 1, 0, 2, 4, 3]).map fun r =>
    (uniqueIds r, uniqueIds (renumber r), (collapseLen 0 true false (renumber r)).splits.length)) = some (false, true, 6) := by
  decide +kernel

end Gotree.C07

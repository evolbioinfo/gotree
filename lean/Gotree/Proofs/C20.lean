/-
  C20 — the property theorems (DESIGN §6 C20, Appendix B).  Everything is about the
  model functions of `Gotree/Model/C20.lean` that the driver runs against the Go
  code; "unbiased" is a counting statement over the explicit draw space `space bounds`
  (all lists `d` with `d[i] < bounds[i]`, i.e. all possible answers of the scripted
  `rand.Intn` calls): all fibres of `draws ↦ outcome` have the same size.
-/
import Gotree.Lemmas.C20Topo
import Gotree.Lemmas.C20Rose
import Gotree.Model.C20Seed

namespace Gotree.C20
open Gotree

/-! ### the hypotheses are satisfiable on non-trivial instances -/

example : isSubsetK [false, true, false, true, false] 2 5 = true := by decide
example : (space (resScript (· + 1) 2 4)).length = 12 := by decide
example : reservoir 2 (List.range 4) [0, 3] = [2, 1] := by decide
example : indicator 4 (reservoir 2 (List.range 4) [0, 3]) = [false, true, true, false] := by decide

/-! ### reservoir sampling without replacement (`gotree sample`, `gotree prune --random`) -/

/-- ★ Every `k`-element subset `s` of the `n` items is the outcome of exactly `(n-k)!`
    of the `(k+1)·(k+2)·…·n` possible draw lists: the selection is uniform over the
    `k`-subsets, for all `k ≤ n`. -/
theorem reservoir_uniform (k n : Nat) (hk : k ≤ n) (s : List Bool) (hS : isSubsetK s k n = true) :
    ((space (resScript (· + 1) k n)).filter fun d =>
        indicator n (reservoir k (List.range n) d) == s).length = fact (n - k) := by
  obtain ⟨m, rfl⟩ : ∃ m, n = k + m := ⟨n - k, by omega⟩
  simp only [isSubsetK, Bool.and_eq_true, beq_iff_eq] at hS
  rw [← List.countP_eq_length_filter, show k + m - k = m by omega]
  have := reservoir_count k m s hS.1 hS.2
  simpa [reservoir_eq_fold] using this

example : isSortedSubset [1, 3] 2 5 = true := by decide

/-- ★ the same statement in the words of DESIGN Appendix B: for every `k`-subset `S` of
    `{0, …, n-1}`, written as its increasing list, exactly `(n-k)!` draw lists leave the
    reservoir holding `S`. -/
theorem reservoir_uniform_sorted (k n : Nat) (hk : k ≤ n) (S : List Nat) (hS : isSortedSubset S k n = true) :
    ((space (resScript (· + 1) k n)).filter fun d =>
        sortNat (reservoir k (List.range n) d) == S).length = fact (n - k) := by
  simp only [isSortedSubset, Bool.and_eq_true, beq_iff_eq, List.all_eq_true, decide_eq_true_eq] at hS
  obtain ⟨⟨hlen, hlt⟩, hsorted⟩ := hS
  have hpw := pairwise_of_sortedLt S hsorted
  have hnd := nodup_of_pairwise_lt S hpw
  have hsub : isSubsetK (indicator n S) k n = true := by
    have h1 := count_indicator n S hnd hlt
    have h2 : (indicator n S).length = n := by simp [indicator]
    simp only [isSubsetK, h1, h2, hlen, BEq.rfl, Bool.and_self]
  rw [← reservoir_uniform k n hk (indicator n S) hsub, ← List.countP_eq_length_filter, ← List.countP_eq_length_filter]
  apply List.countP_congr
  intro d hd
  obtain ⟨m, rfl⟩ : ∃ m, n = k + m := ⟨n - k, by omega⟩
  have hl : d.length = m := by rw [length_of_mem_space hd, length_resScript]; omega
  have hinv := resInv k m d hl
  rw [← reservoir_eq_fold] at hinv
  simp only [beq_iff_eq]
  rw [indicator_eq_iff _ _ _ hinv.lt hlt]
  constructor
  · intro h x; rw [← h, mem_sortNat]
  · intro h
    apply sorted_ext _ _ (sortNat_sorted _ hinv.nodup) hpw
    intro x; rw [mem_sortNat]; exact h x

/-- `k ≥ n`: all items are kept (in input order), whatever the draws. -/
theorem reservoir_all_kept (k : Nat) (items : List α) (d : List Nat) (h : items.length ≤ k) :
    reservoir k items d = items := by
  rw [reservoir_eq_fold, resFold, List.drop_eq_nil_of_le h, List.take_of_length_le h]
  rfl

/-- the size of the draw space: `(k+1)·…·n = n!/k!` draw lists -/
theorem reservoir_space_size (k m : Nat) :
    (space (resScript (· + 1) k (k + m))).length * fact k = fact (k + m) := by
  induction m with
  | zero => simp [resScript_self, space_nil]
  | succ m ih =>
    rw [show k + (m + 1) = (k + m) + 1 from rfl, resScript_succ _ _ _ (Nat.le_add_right _ _), length_space_snoc,
      fact, ← ih]
    simp [Nat.mul_comm, Nat.mul_left_comm]

/-- Every item has a non-zero chance (`1 ≤ k ≤ n`): for each item `x` some draw list selects
    it — in particular the first one, which F27/F28 made unselectable. -/
theorem reservoir_every_item_selectable (k n x : Nat) (hk : 1 ≤ k) (hkn : k ≤ n) (hx : x < n) :
    ∃ d ∈ space (resScript (· + 1) k n), x ∈ reservoir k (List.range n) d := by
  obtain ⟨s, hl, hc, hsx⟩ := exists_subset_containing k n x hk hkn hx
  have hS : isSubsetK s k n = true := by simp [isSubsetK, hl, hc]
  have h := reservoir_uniform k n hkn s hS
  have hpos : 0 < fact (n - k) := by
    generalize n - k = m
    induction m with
    | zero => simp [fact]
    | succ m ih => simp [fact]; exact ih
  rw [← h] at hpos
  obtain ⟨d, hd⟩ := List.exists_mem_of_length_pos hpos
  rw [List.mem_filter] at hd
  refine ⟨d, hd.1, ?_⟩
  have he : indicator n (reservoir k (List.range n) d) = s := by simpa using hd.2
  have h0 : (indicator n (reservoir k (List.range n) d))[x]? = some true := by rw [he]; exact hsx
  simp [indicator, hx] at h0
  exact h0

/-! #### before 1a7ed4d / cc52c59 (F27, F28): `Intn(i)` instead of `Intn(i+1)` -/

/-- F27: with `k = 1`, `n = 2` the pinned bound leaves one draw list, and it selects item 1. -/
theorem reservoir_pinned_fails_first_unselectable :
    ((space (resScript id 1 2)).filter fun d => indicator 2 (reservoir 1 (List.range 2) d) == [true, false]).length = 0 ∧
    ((space (resScript id 1 2)).filter fun d => indicator 2 (reservoir 1 (List.range 2) d) == [false, true]).length = 1 := by
  decide

/-- F28: from 4 items with `k = 2` the pinned bound never draws the subset `{0, 1}`. -/
theorem reservoir_pinned_fails_subset_unreachable :
    ((space (resScript id 2 4)).filter fun d =>
        indicator 4 (reservoir 2 (List.range 4) d) == [true, true, false, false]).length = 0 := by
  decide

/-- … while the code as it is now reaches it twice (`(4-2)!`). -/
example : ((space (resScript (· + 1) 2 4)).filter fun d =>
    indicator 4 (reservoir 2 (List.range 4) d) == [true, true, false, false]).length = 2 := by decide

/-- The selection is a matter of positions only: selecting among any items is selecting
    among their positions `0 … n-1`, so `reservoir_uniform` speaks about trees of a file and
    about the tips of a tree (`randomTips`) alike. -/
theorem reservoir_positions (k : Nat) (items : List α) (dflt : α) (d : List Nat) :
    reservoir k items d = (reservoir k (List.range items.length) d).map fun q => items.getD q dflt := by
  rw [← reservoir_map, map_getD_range]

theorem randomTips_positions (t : T) (k : Nat) (d : List Nat) :
    randomTips t k d = (reservoir k (List.range t.tipNames.length) d).map fun q => t.tipNames.getD q "" :=
  reservoir_positions k t.tipNames "" d

/-! ### `gotree prune`: which option decides (`pruneSelection`, compared with the binary) -/

/-- only `--random k` (k > 0) without `-f` and `-c` draws, and then it is `randomTips`, to which
    `reservoir_uniform` applies through `randomTips_positions` -/
theorem pruneSelection_random (k : Nat) (hk : 0 < k) (args : List String) (t : T) (d : List Nat) :
    pruneSelection none none (k : Int) args t d = randomTips t k d := by
  simp only [pruneSelection, gt_iff_lt, Int.natCast_pos, hk, if_true, Int.toNat_natCast]

/-- with `-f`, with `-c`, or without a positive `--random`, the selection does not depend on the draws -/
theorem pruneSelection_deterministic (tipfile comp : Option (List String)) (random : Int) (args : List String)
    (t : T) (d1 d2 : List Nat) (h : tipfile.isSome ∨ comp.isSome ∨ random ≤ 0) :
    pruneSelection tipfile comp random args t d1 = pruneSelection tipfile comp random args t d2 := by
  cases tipfile with
  | some l => rfl
  | none =>
    cases comp with
    | some c => rfl
    | none =>
      have hr : ¬ (random > 0) := by
        rcases h with h | h | h
        · simp at h
        · simp at h
        · omega
      simp [pruneSelection, hr]

/-! ### reservoir sampling with replacement (`gotree sample --replace`) -/

example : sampleReplace 2 (List.range 3) [0, 0, 1, 0, 2, 1] = [some 0, some 1] := by decide
example : [0, 0, 1, 0, 2, 1] ∈ space (replScript 2 3) := by decide +kernel

/-- Every assignment `a` of items to the `k` slots is the outcome of exactly `((n-1)!)^k` of
    the `(n!)^k` draw lists: the slots are independent and each is uniform over the `n` items. -/
theorem replace_uniform (k n : Nat) (a : List Nat) (hk : a.length = k) (ha : ∀ t ∈ a, t < n) :
    ((space (replScript k n)).filter fun d =>
        sampleReplace k (List.range n) d == a.map some).length = (fact (n - 1)) ^ k := by
  rw [← List.countP_eq_length_filter, replScript_eq]
  have := cnt_eq_slotProd k n 0 (List.replicate k none) (a.map some) (by simp)
  unfold cnt at this
  simp only [sampleReplace, List.range_eq_range']
  rw [this, ← hk, slotProd_none n a ha]

/-! ### the `gotree sample` command as a whole (`sampleCmd`, compared with the binary) -/

example : (sampleCmd 2 false true [some 0, some 1, some 2, some 3] [0, 3] == CmdRes.ok [2, 1]) = true := by decide
example : (sampleCmd 2 false true [some 0, none] [] == (CmdRes.err : CmdRes Nat)) = true := by decide
example : (sampleCmd (-1) false true [some 0] [] == (CmdRes.err : CmdRes Nat)) = true := by decide

/-- a readable input and a size `k ≥ 0`: the command writes exactly the reservoir -/
theorem sampleCmd_noreplace (k : Nat) (items : List α) (d : List Nat) :
    sampleCmd (k : Int) false true (items.map some) d = CmdRes.ok (reservoir k items d) := by
  have h2 : (items.map some).any (·.isNone) = false := by simp
  have h3 : (items.map some).filterMap id = items := by simp [List.filterMap_map]
  simp [sampleCmd, sampleCmdWith, h2, h3]

/-- an unreadable tree anywhere in the input: an error, nothing is written, whatever the draws -/
theorem sampleCmd_err (k : Nat) (replace : Bool) (items : List (Option α)) (d : List Nat)
    (h : none ∈ items) : sampleCmd (k : Int) replace true items d = CmdRes.err := by
  have h2 : items.any (·.isNone) = true := by
    rw [List.any_eq_true]; exact ⟨none, h, rfl⟩
  simp [sampleCmd, sampleCmdWith, h2]

/-- `--replace` on `n ≥ 1` readable trees never dereferences an empty slot: the command writes
    the `k` slots of `sampleReplace` (to which `replace_uniform` applies) -/
theorem sampleCmd_replace (k n : Nat) (hn : 1 ≤ n) (d : List Nat) (hd : d ∈ space (sampleCmdScript k true n)) :
    ∃ out, sampleCmd (k : Int) true true ((List.range n).map some) d = CmdRes.ok out ∧
      out.map some = sampleReplace k (List.range n) d := by
  have hb : inBounds (replScript k n) d = true := by
    have := (mem_space_iff _ _).1 hd
    simpa [sampleCmdScript] using this
  have hall := sampleReplace_allSome k n hn d hb
  have h2 : ((List.range n).map some).any (·.isNone) = false := by simp
  have h3 : ((List.range n).map some).filterMap id = List.range n := by simp [List.filterMap_map]
  have hnone : (sampleReplace k (List.range n) d).any (·.isNone) = false := by
    rw [Bool.eq_false_iff]
    intro hany
    rw [List.any_eq_true] at hany
    obtain ⟨o, ho, hn'⟩ := hany
    have hs := List.all_eq_true.1 hall o ho
    cases o with
    | none => simp at hs
    | some v => simp at hn'
  refine ⟨(sampleReplace k (List.range n) d).filterMap id, ?_, ?_⟩
  · simp [sampleCmd, sampleCmdWith, h2, h3, hnone]
  · generalize sampleReplace k (List.range n) d = l at hall
    induction l with
    | nil => rfl
    | cons o l ih =>
      simp only [List.all_cons, Bool.and_eq_true] at hall
      cases o with
      | none => simp at hall
      | some v => simp [ih hall.2]

/-- a negative `--nbtrees` is refused with an error, nothing is read or written (4c7dd84) … -/
theorem sampleCmd_negative (k : Int) (hk : k < 0) (replace opened : Bool) (items : List (Option α)) (d : List Nat) :
    sampleCmd k replace opened items d = CmdRes.err := by
  simp [sampleCmd, sampleCmdWith, hk]

/-- … where the command used to die in `make([]*tree.Tree, -1)` (`gotree sample -n -1`). -/
theorem sampleCmd_pinned_fails :
    (sampleCmdPinned (-1) false true [some 0, some 1] [] == (CmdRes.panic : CmdRes Nat)) = true := by decide

/-- `reservoir_uniform` at the level of the command: among the draw lists of a run on `n` readable
    trees, exactly `(n-k)!` make it write the `k`-subset `s` -/
theorem sampleCmd_uniform (k n : Nat) (hk : k ≤ n) (s : List Bool) (hS : isSubsetK s k n = true) :
    ((space (sampleCmdScript k false n)).filter fun d =>
        match sampleCmd (k : Int) false true ((List.range n).map some) d with
        | .ok out => indicator n out == s
        | _ => false).length = fact (n - k) := by
  rw [← reservoir_uniform k n hk s hS]
  simp only [sampleCmd_noreplace, sampleCmdScript, Int.toNat_natCast]
  rfl

/-! ### `rand.Perm` (inside-out Fisher–Yates) and `ShuffleTips` -/

example : goPerm [0, 1, 0, 2] = [2, 1, 3, 0] := by decide
example : [0, 1, 0, 2] ∈ space (permScript 4) := by decide

/-- ★ `rand.Perm(n)` as a function of its `n` draws (`d[i] < i+1`) is a bijection from the
    draw space onto the permutations of `0 … n-1`: every value is a permutation, different
    draw lists give different permutations, and every permutation is produced.
    (`Function.Bijective` is not in core Lean; the three clauses are its definition.) -/
theorem perm_bijective (n : Nat) :
    (∀ d ∈ space (permScript n), (goPerm d).Perm (List.range n)) ∧
    (∀ d1 ∈ space (permScript n), ∀ d2 ∈ space (permScript n), goPerm d1 = goPerm d2 → d1 = d2) ∧
    (∀ p : List Nat, p.Perm (List.range n) → ∃ d ∈ space (permScript n), goPerm d = p) := by
  refine ⟨?_, ?_, ?_⟩
  · intro d hd
    exact goPerm_perm n d ((mem_space_iff _ _).1 hd)
  · intro d1 h1 d2 h2 he
    exact goPerm_injective n d1 d2 ((mem_space_iff _ _).1 h1) ((mem_space_iff _ _).1 h2) he
  · intro p hp
    obtain ⟨d, hd, he⟩ := goPerm_surjective n p hp
    exact ⟨d, (mem_space_iff _ _).2 hd, he⟩

/-- the draw space of `rand.Perm(n)` has `n!` elements -/
theorem perm_space_size (n : Nat) : (space (permScript n)).length = fact n :=
  length_space_perm n

/-- `(a,b,(c,d));` -/
def exT : T :=
  .node ⟨"", []⟩ 0 [(EdgeD.blank, T.leaf "a"), (EdgeD.blank, T.leaf "b"),
    (EdgeD.blank, .node ⟨"", []⟩ 0 [(EdgeD.blank, T.leaf "c"), (EdgeD.blank, T.leaf "d")])]

example : (exT.kids.length == 1) = false ∧ exT.tipNames.Nodup := by decide
example : [0, 1, 0, 2] ∈ space (shuffleScript exT) := by decide
example : shuffleTips exT [0, 1, 0, 2] = ["c", "b", "d", "a"] := by decide
example : randomTips exT 2 [0, 3] = ["c", "b"] := by decide

/-- `ShuffleTips` on a tree whose tip names are unique (the root may be a tip): the new
    names (in `Tips()` order) are a permutation of the old ones, and different draw lists
    give different assignments — with `perm_space_size`, each of the `n!` assignments of the
    names to the tips comes from exactly one draw list. -/
theorem shuffleTips_bijective_all (t : T) (hu : t.tipNames.Nodup) :
    (∀ d ∈ space (shuffleScript t), (shuffleTips t d).Perm t.tipNames) ∧
    (∀ d1 ∈ space (shuffleScript t), ∀ d2 ∈ space (shuffleScript t),
        shuffleTips t d1 = shuffleTips t d2 → d1 = d2) ∧
    (∀ q : List String, q.Perm t.tipNames → ∃ d ∈ space (shuffleScript t), shuffleTips t d = q) := by
  have hn : allTipNames t = t.tipNames := by simp [allTipNames, T.tipNames]
  have hform : ∀ d ∈ space (shuffleScript t),
      shuffleTips t d = (goPerm d).map (fun q => t.tipNames.getD q "") ∧ (goPerm d).Perm (List.range t.tipNames.length) := by
    intro d hd
    have hb := (mem_space_iff _ _).1 hd
    simp only [shuffleScript, hn] at hb
    have hl : d.length = t.tipNames.length := by simpa [permScript] using length_of_inBounds hb
    have hp := goPerm_perm _ d hb
    have hpl : (goPerm d).length = t.tipNames.length := by simpa using hp.length_eq
    refine ⟨?_, hp⟩
    simp only [shuffleTips, shuffleTipsWith, hn]
    rw [List.take_of_length_le (by omega), hpl, List.drop_length, List.append_nil]
  refine ⟨?_, ?_, ?_⟩
  · intro d hd
    obtain ⟨he, hp⟩ := hform d hd
    rw [he]
    have := hp.map (fun q => t.tipNames.getD q "")
    rwa [map_getD_range] at this
  · intro d1 h1 d2 h2 he
    obtain ⟨e1, p1⟩ := hform d1 h1
    obtain ⟨e2, p2⟩ := hform d2 h2
    rw [e1, e2] at he
    have hb1 := (mem_space_iff _ _).1 h1
    have hb2 := (mem_space_iff _ _).1 h2
    simp only [shuffleScript, hn] at hb1 hb2
    apply goPerm_injective _ d1 d2 hb1 hb2
    apply map_getD_injective t.tipNames "" hu _ _ _ _ he
    · intro q hq; have := p1.mem_iff.1 hq; simpa using this
    · intro q hq; have := p2.mem_iff.1 hq; simpa using this
  · intro q hq
    obtain ⟨p, hp, hpq⟩ := perm_of_names t.tipNames q hu hq
    obtain ⟨d, hd, hg⟩ := goPerm_surjective _ p hp
    have hd' : d ∈ space (shuffleScript t) := by
      rw [mem_space_iff]; simpa [shuffleScript, hn] using hd
    exact ⟨d, hd', by rw [(hform d hd').1, hg, hpq]⟩

/-- the same with a hypothesis on the root that 9642e30 (AllTipNames continues below a tip root) made unnecessary -/
theorem shuffleTips_bijective (t : T) (_hr : (t.kids.length == 1) = false) (hu : t.tipNames.Nodup) :
    (∀ d ∈ space (shuffleScript t), (shuffleTips t d).Perm t.tipNames) ∧
    (∀ d1 ∈ space (shuffleScript t), ∀ d2 ∈ space (shuffleScript t),
        shuffleTips t d1 = shuffleTips t d2 → d1 = d2) ∧
    (∀ q : List String, q.Perm t.tipNames → ∃ d ∈ space (shuffleScript t), shuffleTips t d = q) :=
  shuffleTips_bijective_all t hu

/-- `((a,b,c))r;`: a tree whose root is itself a tip -/
def exTipRoot : T :=
  .node ⟨"r", []⟩ 0 [(EdgeD.blank, .node ⟨"", []⟩ 0
    [(EdgeD.blank, T.leaf "a"), (EdgeD.blank, T.leaf "b"), (EdgeD.blank, T.leaf "c")])]

example : exTipRoot.tipNames = ["r", "a", "b", "c"] ∧ exTipRoot.tipNames.Nodup := by decide
example : shuffleTips exTipRoot [0, 1, 0, 2] = ["b", "a", "c", "r"] := by decide

/-- before 9642e30 `AllTipNames()` stopped at a root that is a tip: on `((a,b,c))r;` `ShuffleTips`
    drew `rand.Perm(1)` and every tip kept its name — 1 of the 24 arrangements, whatever the seed -/
theorem shuffleTips_pinned_fails :
    (space (permScript (allTipNamesPinned exTipRoot).length)).length = 1 ∧
    ∀ d ∈ space (permScript (allTipNamesPinned exTipRoot).length),
      shuffleTipsPinned exTipRoot d = exTipRoot.tipNames := by
  decide

/-! ### `RotateNeighbors` -/

example : rotate ["p", "a", "b", "c"] [0, 0, 2, 1] = ["a", "c", "b", "p"] := by decide

/-- `RotateNeighbors` moves the neighbours exactly as `rand.Perm` would permute their
    positions with the same draws … -/
theorem rotate_eq_perm (a : List α) (dflt : α) (d : List Nat) (hd : d ∈ space (rotScript a.length)) :
    rotate a d = (goPerm d).map fun q => a.getD q dflt :=
  rotate_eq_map a dflt d ((mem_space_iff _ _).1 hd)

/-- … hence the arrangement of the `n` neighbour positions is a bijective image of the draw
    space: every arrangement comes from exactly one of the `n!` draw lists. -/
theorem rotate_bijective (n : Nat) :
    (∀ d ∈ space (rotScript n), (rotate (List.range n) d).Perm (List.range n)) ∧
    (∀ d1 ∈ space (rotScript n), ∀ d2 ∈ space (rotScript n),
        rotate (List.range n) d1 = rotate (List.range n) d2 → d1 = d2) ∧
    (∀ p : List Nat, p.Perm (List.range n) → ∃ d ∈ space (rotScript n), rotate (List.range n) d = p) := by
  have hr : ∀ d ∈ space (rotScript n), rotate (List.range n) d = goPerm d :=
    fun d hd => rotate_range n d ((mem_space_iff _ _).1 hd)
  obtain ⟨b1, b2, b3⟩ := perm_bijective n
  refine ⟨?_, ?_, ?_⟩
  · intro d hd; rw [hr d hd]; exact b1 d hd
  · intro d1 h1 d2 h2 he; rw [hr d1 h1, hr d2 h2] at he; exact b2 d1 h1 d2 h2 he
  · intro p hp
    obtain ⟨d, hd, he⟩ := b3 p hp
    exact ⟨d, hd, by rw [hr d hd, he]⟩

example : rotAllPerms [3, 1, 2] [0, 0, 1, 0, 0, 1] = [[1, 2, 0], [0], [0, 1]] := by decide
example : [0, 0, 1, 0, 0, 1] ∈ space (rotAllPermScript [3, 1, 2]) := by decide

/-- `RotateInternalNodes` (`gotree rotate rand`): with `degs` the numbers of neighbours of the nodes
    in `Nodes()` order, the draw lists correspond one to one to the choices of one arrangement of
    the neighbour positions for every node — all nodes are rotated independently and uniformly. -/
theorem rotateInternalNodes_bijective (degs : List Nat) :
    (∀ d ∈ space (rotAllPermScript degs), PermsOf (rotAllPerms degs d) degs) ∧
    (∀ d1 ∈ space (rotAllPermScript degs), ∀ d2 ∈ space (rotAllPermScript degs),
        rotAllPerms degs d1 = rotAllPerms degs d2 → d1 = d2) ∧
    (∀ ps : List (List Nat), PermsOf ps degs →
        ∃ d ∈ space (rotAllPermScript degs), rotAllPerms degs d = ps) := by
  induction degs with
  | nil =>
    refine ⟨?_, ?_, ?_⟩
    · intro d _; simp [rotAllPerms, segments, PermsOf]
    · intro d1 h1 d2 h2 _
      simp [rotAllPermScript, space_nil] at h1 h2
      rw [h1, h2]
    · intro ps hps
      cases ps with
      | nil => exact ⟨[], by simp [rotAllPermScript, space_nil], by simp [rotAllPerms, segments]⟩
      | cons p ps => simp [PermsOf] at hps
  | cons g degs ih =>
    obtain ⟨i1, i2, i3⟩ := ih
    have hscript : rotAllPermScript (g :: degs) = rotScript g ++ rotAllPermScript degs := by
      simp [rotAllPermScript]
    obtain ⟨r1, r2, r3⟩ := rotate_bijective g
    refine ⟨?_, ?_, ?_⟩
    · intro d hd
      rw [hscript, mem_space_append] at hd
      obtain ⟨a, ha, b, hb, rfl⟩ := hd
      have hl : a.length = g := by rw [length_of_mem_space ha, length_rotScript]
      rw [rotAllPerms_cons g degs a b hl]
      exact ⟨r1 a ha, i1 b hb⟩
    · intro d1 h1 d2 h2 he
      rw [hscript, mem_space_append] at h1 h2
      obtain ⟨a1, ha1, b1, hb1, rfl⟩ := h1
      obtain ⟨a2, ha2, b2, hb2, rfl⟩ := h2
      have hl1 : a1.length = g := by rw [length_of_mem_space ha1, length_rotScript]
      have hl2 : a2.length = g := by rw [length_of_mem_space ha2, length_rotScript]
      rw [rotAllPerms_cons g degs a1 b1 hl1, rotAllPerms_cons g degs a2 b2 hl2] at he
      simp only [List.cons.injEq] at he
      rw [r2 a1 ha1 a2 ha2 he.1, i2 b1 hb1 b2 hb2 he.2]
    · intro ps hps
      cases ps with
      | nil => simp [PermsOf] at hps
      | cons p ps =>
        obtain ⟨hp, hrest⟩ := hps
        obtain ⟨a, ha, hea⟩ := r3 _ hp
        obtain ⟨b, hb, heb⟩ := i3 _ hrest
        have hl : a.length = g := by rw [length_of_mem_space ha, length_rotScript]
        refine ⟨a ++ b, ?_, ?_⟩
        · rw [hscript, mem_space_append]; exact ⟨a, ha, b, hb, rfl⟩
        · rw [rotAllPerms_cons g degs a b hl, hea, heb]

/-- `RotateNeighbors` on a node of the rose tree (`rotateNode`, the function compared with the code on
    every `rotate` case): the neighbours get the arrangement `rotate (range deg) draws` of their positions,
    to which `rotate_bijective` applies. -/
theorem rotateNode_arrangement (isRoot : Bool) (t : T) (d : List Nat)
    (hd : d ∈ space (rotScript (degOf isRoot t))) :
    rotateNode isRoot t d = permNode isRoot t (rotate (List.range (degOf isRoot t)) d) :=
  rotateNode_eq_permNode isRoot t d ((mem_space_iff _ _).1 hd)

example : degsT true exT = [3, 1, 1, 3, 1, 1] := by decide
example : [0, 0, 1, 0, 0, 0, 1, 1, 0, 0] ∈ space (rotAllScriptT true exT) := by decide +kernel
example : ((rotAllT true exT [0, 0, 1, 0, 0, 0, 1, 1, 0, 0]).1 ==
    (applyPermsT true exT (rotAllPerms (degsT true exT) [0, 0, 1, 0, 0, 0, 1, 1, 0, 0])).1) = true := by decide +kernel

/-- `RotateInternalNodes` on the rose tree (`rotAllT`, the function compared with the code on every
    `rotall` / `rotate rand` case) gives every node, in `Nodes()` order, exactly the arrangement that
    `rotAllPerms` lists for it, and its draw script is the one of `rotAllPerms`: so
    `rotateInternalNodes_bijective` is a statement about the tree operation. -/
theorem rotateInternalNodes_tree (t : T) (d : List Nat) (hd : d ∈ space (rotAllScriptT true t)) :
    (rotAllT true t d).1 = (applyPermsT true t (rotAllPerms (degsT true t) d)).1 ∧
    rotAllScriptT true t = rotAllPermScript (degsT true t) := by
  have h := rotAllT_link true t d [] [] ((mem_space_iff _ _).1 hd)
  simp only [List.append_nil] at h
  exact ⟨by rw [h.1], rotAllScriptT_eq true t⟩

/-! ### `RandomUniformBinaryTree` -/

example : utree false [0, 2, 1] = [[1, 2, 3, 4], [2, 4], [1, 3], [3], [1], [4], [2]] := by decide
example : [0, 2, 1] ∈ space (utreeBounds false 5) := by decide

example : (BT.node (.node (.tip 1) (.tip 3)) (.node (.tip 2) (.tip 4))).isUnrootedOn 5 := by
  unfold BT.isUnrootedOn; decide
example : (utree false [0, 2, 1]).Perm
    ((BT.node (.node (.tip 1) (.tip 3)) (.node (.tip 2) (.tip 4))).clusters 5) := by decide +kernel

/-- The unrooted generator is a bijection between its draw space and the unrooted binary
    topologies on `n` labelled tips (any binary tree `bt` over the tips `1 … n-1` hanging from
    tip 0, whatever its shape; its branches are the clusters of its subtrees):
    every value is the cluster set of such a tree; different draw lists give different cluster
    sets; every topology is the cluster set of some draw list.  These three clauses are the
    bijection.  The fourth only computes the size of the draw space, `(2n-5)!!`
    (`numTopologies` is defined as that double factorial, it does not count trees). -/
theorem uniform_unrooted_bijective (n : Nat) (hn : 2 ≤ n) :
    (∀ d ∈ space (utreeBounds false n), ∃ bt : BT, bt.isUnrootedOn n ∧ (utree false d).Perm (bt.clusters n)) ∧
    (∀ d1 ∈ space (utreeBounds false n), ∀ d2 ∈ space (utreeBounds false n),
        (utree false d1).Perm (utree false d2) → d1 = d2) ∧
    (∀ bt : BT, bt.isUnrootedOn n →
        ∃ d ∈ space (utreeBounds false n), (utree false d).Perm (bt.clusters n)) ∧
    (space (utreeBounds false n)).length = numTopologies false n := by
  refine ⟨?_, ?_, ?_, ?_⟩
  · intro d hd
    obtain ⟨m, rfl⟩ : ∃ m, n = m + 2 := ⟨n - 2, by omega⟩
    have hb := (mem_space_iff _ _).1 hd
    rw [loopBounds_eq] at hb
    obtain ⟨bt, h1, h2⟩ := utree_welldefined m d (by simpa [utreeInit] using hb)
    exact ⟨bt, by simpa [BT.isUnrootedOn] using h1, h2⟩
  · intro d1 h1 d2 h2 hp
    have hb1 := (mem_space_iff _ _).1 h1
    have hb2 := (mem_space_iff _ _).1 h2
    rw [loopBounds_eq] at hb1 hb2
    exact utreeLoop_injective _ 2 (utreeInit_inv false) (n - 2) d1 d2 hb1 hb2 hp
  · intro bt hbt
    obtain ⟨m, rfl⟩ : ∃ m, n = m + 2 := ⟨n - 2, by omega⟩
    obtain ⟨d, hd, hp⟩ := utree_surjective m bt (by simpa [BT.isUnrootedOn] using hbt)
    refine ⟨d, ?_, hp⟩
    rw [mem_space_iff, loopBounds_eq]
    simpa [utreeInit] using hd
  · rw [loopBounds_eq, dfact_space]
    simp only [utreeInit, numTopologies]
    exact prod_unrooted (n - 2)

/-! #### the same for the rose tree that is compared with the code's α dump

  `roseTree rooted d` follows `RandomUniformBinaryTree` on the rose tree rooted at `n2`
  (`GraftTipOnEdge` creating the node with neighbours `[n, lnode, rnode]`); the driver compares
  it — after `RerootFirst` for unrooted trees, `roseFinal` — with the α dump of the generated
  tree: names, neighbour order, parent positions.  Its branches have exactly the clusters that
  `utree` lists, so the theorems above are theorems about that tree. -/

example : branchClusters 5 (roseTree false [0, 2, 1]) =
    [[1, 2, 3, 4], [2, 4], [4], [2], [1, 3], [3], [1]] := by decide +kernel

/-- the clusters of the branches of the rose tree (in `Edges()` order) are, up to order, the
    clusters `utree` holds for the `edges` slice — rooted or not, for every draw list -/
theorem rose_clusters (rooted : Bool) (n : Nat) (hn : 2 ≤ n) (d : List Nat)
    (hd : d ∈ space (utreeBounds rooted n)) :
    (branchClusters n (roseTree rooted d)).Perm (utree rooted d) := by
  obtain ⟨m, rfl⟩ : ∃ m, n = 2 + m := ⟨n - 2, by omega⟩
  have hb := (mem_space_iff _ _).1 hd
  rw [loopBounds_eq, show 2 + m - 2 = m by omega] at hb
  exact (roseLoop_inv rooted m d hb).2

/-- `RerootFirst` (unrooted trees, `n ≥ 3`) only moves the root pointer from `Tip0` to its
    neighbour: the branches of the final tree `roseFinal` — the one compared with the α dump —
    have the clusters of `roseTree`, except that the branch of `Tip0` is now seen from the other
    side (`{0}` instead of `{1, …, n-1}`): the same splits. -/
theorem roseFinal_clusters (n : Nat) (hn : 3 ≤ n) (d : List Nat) (hd : d ∈ space (utreeBounds false n)) :
    (branchClusters n (roseFinal false d)).Perm ([0] :: (branchClusters n (roseTree false d)).tail) := by
  obtain ⟨m, rfl⟩ : ∃ m, n = m + 3 := ⟨n - 3, by omega⟩
  have hb := (mem_space_iff _ _).1 hd
  rw [loopBounds_eq, show m + 3 - 2 = m + 1 by omega] at hb
  have hs := roseLoop_shape m d (by simpa [utreeInit] using hb)
  simp only [roseFinal, Bool.false_eq_true, if_false]
  exact roseReroot_clusters (m + 3) (by omega) _ hs

/-- `uniform_unrooted_bijective`, stated for the tree itself: the branch clusters of the generated
    rose tree determine the draw list, every unrooted binary topology is the cluster set of the
    tree of some draw list, and every generated tree is such a topology. -/
theorem uniform_unrooted_bijective_rose (n : Nat) (hn : 2 ≤ n) :
    (∀ d ∈ space (utreeBounds false n), ∃ bt : BT, bt.isUnrootedOn n ∧
        (branchClusters n (roseTree false d)).Perm (bt.clusters n)) ∧
    (∀ d1 ∈ space (utreeBounds false n), ∀ d2 ∈ space (utreeBounds false n),
        (branchClusters n (roseTree false d1)).Perm (branchClusters n (roseTree false d2)) → d1 = d2) ∧
    (∀ bt : BT, bt.isUnrootedOn n →
        ∃ d ∈ space (utreeBounds false n), (branchClusters n (roseTree false d)).Perm (bt.clusters n)) := by
  obtain ⟨b1, b2, b3, _⟩ := uniform_unrooted_bijective n hn
  refine ⟨?_, ?_, ?_⟩
  · intro d hd
    obtain ⟨bt, h1, h2⟩ := b1 d hd
    exact ⟨bt, h1, (rose_clusters false n hn d hd).trans h2⟩
  · intro d1 h1 d2 h2 hp
    exact b2 d1 h1 d2 h2 (((rose_clusters false n hn d1 h1).symm.trans hp).trans (rose_clusters false n hn d2 h2))
  · intro bt hbt
    obtain ⟨d, hd, hp⟩ := b3 bt hbt
    exact ⟨d, hd, (rose_clusters false n hn d hd).trans hp⟩

/-- The rooted generator too maps different draw lists to different topologies … -/
theorem uniform_rooted_injective (n : Nat) :
    ∀ d1 ∈ space (utreeBounds true n), ∀ d2 ∈ space (utreeBounds true n),
        (utree true d1).Perm (utree true d2) → d1 = d2 := by
  intro d1 h1 d2 h2 hp
  have hb1 := (mem_space_iff _ _).1 h1
  have hb2 := (mem_space_iff _ _).1 h2
  rw [loopBounds_eq] at hb1 hb2
  exact utreeLoop_injective _ 2 (utreeInit_inv true) (n - 2) d1 d2 hb1 hb2 hp

/-- … but for every `n ≥ 3` it has fewer draw lists (`2·4·…·(2n-4)`) than there are rooted
    topologies (`(2n-3)!!`): some topology is unreachable, whatever the seed (F29). -/
theorem uniform_rooted_too_few_histories (n : Nat) (hn : 3 ≤ n) :
    (space (utreeBounds true n)).length < numTopologies true n := by
  rw [loopBounds_eq, dfact_space]
  simp only [utreeInit, numTopologies, if_true, List.length_cons, List.length_nil]
  have := prod_rooted_lt (n - 2) (by omega)
  rw [show n - 2 + 1 = n - 1 by omega] at this
  exact this

/-- … namely (for every `n ≥ 3`) every topology in which the tip added last hangs alone from
    the root: the cluster `{Tip0, …, Tip(n-2)}` is a branch of no generated tree (F29). -/
theorem uniform_rooted_last_tip_never_alone (n : Nat) (hn : 3 ≤ n) :
    ∀ d ∈ space (utreeBounds true n), List.range (n - 1) ∉ utree true d := by
  intro d hd
  obtain ⟨m, rfl⟩ : ∃ m, n = m + 3 := ⟨n - 3, by omega⟩
  have hb := (mem_space_iff _ _).1 hd
  rw [loopBounds_eq] at hb
  have := utree_rooted_last_alone m d (by simpa [utreeInit] using hb)
  simpa [utree] using this

/-- Concretely (F29, open finding): 2 histories for the 3 rooted trees on 3 tips, 8 for the 15 on 4 tips;
    the topology `((Tip0,Tip1),Tip2)` — the last tip alone at the root — is never produced. -/
theorem uniform_rooted_fails :
    (space (utreeBounds true 3)).length = 2 ∧ numTopologies true 3 = 3 ∧
    (space (utreeBounds true 4)).length = 8 ∧ numTopologies true 4 = 15 ∧
    validTopology true 3 [[0], [1], [2], [0, 1]] = true ∧
    (∀ d ∈ space (utreeBounds true 3), [0, 1] ∉ utree true d) := by
  decide

/-! ## the seed (cmd/root.go): which runs are reproducible, and from which value -/

example : seedUsed (some 5) 99 = 5 ∧ seedUsed (some 0) 99 = 0 ∧ seedUsed (some (-2)) 99 = -2 ∧ seedUsed none 99 = 99 := by decide

/-- every `--seed s` other than `-1` seeds the source with `s` itself, whatever the clock says -/
theorem seedUsed_fixed (s clock : Int) (h : s ≠ -1) :
    seedUsed (some s) clock = s ∧ seedFixed (some s) = true := by
  simp [seedUsed, seedFixed, h]

/-- an absent `--seed` and `--seed -1` take the clock -/
theorem seedUsed_clock (clock : Int) :
    seedUsed none clock = clock ∧ seedUsed (some (-1)) clock = clock ∧
    seedFixed none = false ∧ seedFixed (some (-1)) = false := by
  simp [seedUsed, seedFixed]

/-- `seedFixed` is exactly "the seed does not depend on the clock" (what the driver's oracle of `C20.seedcmd` tests
    on two runs of the command) -/
theorem seedFixed_iff (flag : Option Int) :
    seedFixed flag = true ↔ ∀ c c' : Int, seedUsed flag c = seedUsed flag c' := by
  unfold seedFixed seedUsed
  by_cases h : flag.getD (-1) = -1
  · simp only [h]
    constructor
    · intro h'; simp at h'
    · intro h'; have := h' 0 1; simp at this
  · simp [h]

end Gotree.C20

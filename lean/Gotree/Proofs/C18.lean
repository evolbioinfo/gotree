/-
  C18 — determinism: no result depends on the iteration order of a Go map.

  One theorem `site_…_perm_invariant` per map-range site of the regenerated table (c)
  (Gen/C18Sites.lean): the model of the loop (Model/C18.lean), which takes the entries of the map
  in iteration order as its argument `l`, returns the same value for every listing `l'` of the same
  map (`l.Perm l'`, keys distinct).  `sites_covered` re-decides on every run that the extracted
  site list is exactly the proved list, so a new or edited `range` over a map is an unproved
  obligation.  `…_pinned_order_matters`: the bodies before the repairs (F23, F30–F33, and the two
  found by this check) do depend on the order.
-/
import Gotree.Lemmas.C18
import Gotree.Lemmas.C18Read
import Gotree.Spec.C18

namespace Gotree.C18

/-! ### tree package -/

/-- tree/tipbags.go `TipBag.Tips` ★ -/
theorem site_TipBagTips_perm_invariant {N} (l l' : List (String × N)) (h : l.Perm l')
    (hn : nodupKeys l = true) : tipBagTips l = tipBagTips l' :=
  walkSorted_perm _ h hn

/-- tree/tree.go `UpdateTipIndex` ★: the loop `for k := range t.tipIndex { delete(t.tipIndex, k) }` leaves the empty
    map, whatever the order… -/
theorem site_UpdateTipIndex_clears {N} (l : List (String × N)) : clearIndex l = [] := by
  unfold clearIndex
  rw [del_fold]
  exact List.filter_eq_nil_iff.mpr fun e he => by
    have : l.any (fun x => x.1 == e.1) = true := List.any_eq_true.mpr ⟨e, he, by simp⟩
    simp [this]

/-- …so the loop followed by the refill does not depend on it -/
theorem site_UpdateTipIndex_perm_invariant {N} (sortedTips : List (String × N)) (l l' : List (String × N))
    (_h : l.Perm l') : updateTipIndex sortedTips l = updateTipIndex sortedTips l' := by
  unfold updateTipIndex
  rw [site_UpdateTipIndex_clears, site_UpdateTipIndex_clears]

/-- tree/tree.go `CompareTipIndexes` -/
theorem site_CompareTipIndexes_perm_invariant {N} (other : List String) (l l' : List (String × N))
    (h : l.Perm l') : compareTipIndexes other l = compareTipIndexes other l' := by
  unfold compareTipIndexes
  rw [compareTipIndexesLoop_eq, compareTipIndexesLoop_eq, h.all_eq, h.length_eq]

/-- tree/tree.go `Merge` (the disjointness test) -/
theorem site_Merge_perm_invariant {N} (other : List String) (l l' : List (String × N))
    (h : l.Perm l') : mergeDisjointLoop other l = mergeDisjointLoop other l' := by
  rw [mergeDisjointLoop_eq, mergeDisjointLoop_eq, h.all_eq]

/-- tree/tree.go `Rename`: the names of all nodes after the loop -/
theorem site_Rename_perm_invariant (index : List (String × Nat)) (names : Nat → String)
    (l l' : List (String × String)) (h : l.Perm l') (hn : nodupKeys l = true)
    (hv : nodupVals index = true) : renameLoop index names l = renameLoop index names l' := by
  unfold renameLoop
  -- two entries with different keys write different nodes (the index is injective), so the steps commute
  apply List.Perm.foldl_eq' h
  intro x hx y hy z
  by_cases hxy : x = y
  · subst hxy; rfl
  · have hk : x.1 ≠ y.1 := fun hk =>
      hxy (inj_of_nodup_map (·.1) l ((nodupKeys_iff l).mp hn) x hx y hy hk)
    cases gx : get index x.1 with
    | none => simp only []
    | some idx =>
      cases gy : get index y.1 with
      | none => simp only []
      | some idy =>
        have hid : idx ≠ idy := fun hid => hk (index_injective index hv _ _ idx gx (hid ▸ gy))
        funext i
        by_cases h1 : i = idx <;> by_cases h2 : i = idy <;> simp_all

/-- the WHOLE of `Tree.Rename` (NewNodeIndex, the loop over the map, UpdateTipIndex) on the node names in
    `Nodes()` order: the only hypothesis left is that the keys of the map are distinct — the node index
    built by `NewNodeIndex` is injective by construction (buildNodeIndex_nodupVals) -/
theorem Rename_whole_perm_invariant (names : List String) (isTip : List Bool) (l l' : List (String × String))
    (h : l.Perm l') (hn : nodupKeys l = true) : renameFull names isTip l = renameFull names isTip l' := by
  unfold renameFull
  cases hb : buildNodeIndex 0 names [] with
  | none => rfl
  | some index =>
    have hv : nodupVals index = true :=
      (nodupVals_iff index).mpr (buildNodeIndex_nodupVals names 0 [] index (by simp) (by simp) hb)
    simp only []
    rw [site_Rename_perm_invariant index _ l l' h hn hv]

/-! ### acr / asr -/

/-- acr/parsimony.go `ParsimonyAcr`: the alphabet (collected in map order, then sorted) -/
theorem site_ParsimonyAcr_alphabet_perm_invariant (l l' : List (String × String)) (h : l.Perm l') :
    acrAlphabet l = acrAlphabet l' :=
  sortS_eq_of_perm (acrCollect_perm h)

/-- asr/parsimony.go, tip case ★ (after de2cfbe no range is left; `charToIndex` is only looked up):
    the counts vector of a tip character does not depend on the listing of `charToIndex` -/
theorem site_asrExpand_perm_invariant (nucl : Bool) (alphabet : List Char) (c : Char) (l l' : List (Char × Nat))
    (h : l.Perm l') (hn : nodupKeys l = true) : asrTipCounts nucl alphabet l c = asrTipCounts nucl alphabet l' c := by
  unfold asrTipCounts
  rw [h.length_eq, get_perm h hn]

/-! ### cmd -/

/-- cmd/acr.go `--out-states` ★ -/
theorem site_acrStates_perm_invariant (l l' : List (String × String)) (h : l.Perm l')
    (hn : nodupKeys l = true) : acrStateLines l = acrStateLines l' :=
  walkSorted_perm _ h hn

/-- cmd/comparetips.go, the `>` lines ★ -/
theorem site_compareTips_perm_invariant (refTips : List String) (l l' : List (String × Bool)) (h : l.Perm l')
    (hn : nodupKeys l = true) : compareTipsLines refTips l = compareTipsLines refTips l' :=
  walkSorted_perm _ h hn

/-- …and the whole standard output of `compare tips -f` -/
theorem compareTipsOutput_perm_invariant (refTips : List String) (l l' : List (String × Bool)) (h : l.Perm l')
    (hn : nodupKeys l = true) : compareTipsOutput refTips l = compareTipsOutput refTips l' := by
  unfold compareTipsOutput
  rw [site_compareTips_perm_invariant refTips l l' h hn, get_perm h hn]

/-- cmd/extractmutations.go `sortedMutationKeys` and the two loops that print the tables ★ -/
theorem site_mutationKeys_perm_invariant (l l' : List (String × Mut)) (h : l.Perm l') :
    sortedMutationKeys l = sortedMutationKeys l' :=
  sortedKeys_perm h

theorem site_mutationLines_perm_invariant (eems : Bool) (treeId : Nat) (l l' : List (String × Mut))
    (h : l.Perm l') (hn : nodupKeys l = true) : mutationLines eems treeId l = mutationLines eems treeId l' :=
  walkSorted_perm _ h hn

/-- cmd/rename.go `writeNameMap` ★ -/
theorem site_writeNameMap_perm_invariant (l l' : List (String × String)) (h : l.Perm l')
    (hn : nodupKeys l = true) : nameMapLines l = nameMapLines l' :=
  walkSorted_perm _ h hn

/-- cmd/comparetrees.go `--rf` (0c409eb) -/
theorem site_compareTreesRf_perm_invariant (l l' : List (Int × Int)) (h : l.Perm l')
    (hn : nodupKeys l = true) : rfLines l = rfLines l' := by
  unfold rfLines
  rw [foldl_collect, foldl_collect, sortI_eq_of_perm ((h.map _).append_left _), get_perm h hn]

/-- what the five "collect the keys, sort, walk" loops (TipBag.Tips, acr --out-states, compare tips,
    compute mutations, rename -m) emit is the map in key order: the Spec the driver reports as
    `impl-in-key-order` on the real output -/
theorem walkSorted_is_key_order {V} (fmt : String → V → Option String) (l : List (String × V))
    (hn : nodupKeys l = true) :
    walkSorted (fun k v => v.bind (fmt k)) l = specSortedLines fmt l := by
  unfold walkSorted sortS specSortedLines
  rw [collectKeys_eq, ← List.map_mergeSort (r := fun a b => decide (a.1 ≤ b.1)) (fun _ _ _ _ => rfl),
    List.filterMap_map]
  have hget : ∀ e ∈ l.mergeSort (fun a b => decide (a.1 ≤ b.1)), get l e.1 = some e.2 :=
    fun e he => get_of_mem hn ((List.mergeSort_perm ..).mem_iff.mp he)
  generalize l.mergeSort _ = s at hget
  induction s with
  | nil => rfl
  | cons a t ih =>
    simp only [List.filterMap_cons, Function.comp, hget a (List.mem_cons_self ..)]
    rw [ih fun e he => hget e (List.mem_cons_of_mem _ he)]
    rfl

/-- `compare trees --rf` writes the distances in the order of the tree ids -/
theorem rfLines_is_id_order (l : List (Int × Int)) (hn : nodupKeys l = true) :
    rfLines l = specSortedLinesI (fun _ v => toString v ++ "\n") l := by
  unfold rfLines sortI specSortedLinesI
  rw [foldl_collect, List.nil_append, ← List.map_mergeSort (r := fun a b => decide (a.1 ≤ b.1)) (fun _ _ _ _ => rfl),
    List.map_map]
  exact List.map_congr_left fun e he => by
    simp only [Function.comp, get_of_mem hn ((List.mergeSort_perm ..).mem_iff.mp he), Option.getD_some]

/-- io/nexus `WriteNexus --translate`: the translate map handed to `Tree.Rename` has pairwise distinct keys,
    i.e. it satisfies the hypothesis `nodupKeys` of site_Rename_perm_invariant whatever the input trees
    (also when tip names are themselves numbers, so that the map is chained) -/
theorem nexus_translate_map_nodupKeys (trees : List (List String)) :
    nodupKeys (nexusLabels trees).1 = true :=
  nexusLabels_nodup_aux trees ([], [], 0) (by simp [nodupKeys])

/-! ### mutations -/

/-- mutations/mutations.go `MutationList.Append`: error-or-merged map (as its lookup function) -/
theorem site_MutationListAppend_perm_invariant (m : List (String × Mut)) (l l' : List (String × Mut))
    (h : l.Perm l') (hn : nodupKeys l = true) : mutAppend m l = mutAppend m l' := by
  rw [mutAppend_eq m l hn, mutAppend_eq m l' (nodupKeys_perm h hn), h.any_eq, get_perm h hn]

/-- mutations/countmutations.go: the character distribution (commutative accumulation) -/
theorem site_charDistribution_perm_invariant (cd : List (Char × Nat)) (l l' : List (Char × Nat))
    (h : l.Perm l') : charDist cd l = charDist cd l' := by
  funext c
  unfold charDist
  rw [charDist_fold, charDist_fold]
  exact h.foldl_eq' (fun x _ y _ z => cdStep_comm c z x y) _

/-- mutations/counteems.go `CountEEMs` (bf532dd): the whole records -/
theorem site_CountEEMs_perm_invariant (acc : List (EemKey × Mut)) (l l' : List (String × Mut))
    (h : l.Perm l') (hn : nodupKeys l = true) : eemRecords acc l = eemRecords acc l' := by
  unfold eemRecords
  rw [eemLoop_perm acc h hn]

/-- the WHOLE of `mutations.CountEEMs` (per site: `countEEMSiteBranch`, then the merge in sorted key order):
    the records — branch index and child node name included — do not depend on how Go lists the per-site
    maps.  This is the function the driver runs against the real `CountEEMs` (site case `eems`). -/
theorem countEEMs_order_invariant (charOfAt : Nat → String → Char)
    (ord₁ ord₂ : List (String × Mut) → List (String × Mut))
    (h₁ : ∀ l, (ord₁ l).Perm l) (h₂ : ∀ l, (ord₂ l).Perm l) (nsites : Nat) (t : T) :
    countEEMs charOfAt ord₁ nsites t = countEEMs charOfAt ord₂ nsites t := by
  unfold countEEMs
  congr 1
  funext acc j
  have hn := eemNode_nodup (charOfAt j) j none 0 none [] (by simp [nodupKeys]) t
  exact eemLoop_perm acc ((h₁ _).trans (h₂ _).symm) (nodupKeys_perm (h₁ _).symm hn)

/-- before bf532dd the printed part (number of emergences per site/parent/child) was already
    order-independent when every collected mutation has NumEEM = 1 (as `countEEMSiteBranch` builds them) -/
theorem site_CountEEMs_pinned_counts_perm_invariant (acc : List (EemKey × Mut)) (l l' : List (String × Mut))
    (h : l.Perm l') (h1 : l.all (fun e => e.2.numEEM == 1) = true) :
    eemCountsPinned acc l = eemCountsPinned acc l' := by
  funext id
  rw [eemCountsPinned_fold, eemCountsPinned_fold]
  apply List.Perm.foldl_eq' h
  intro x hx y hy z
  have hall := List.all_eq_true.mp h1
  exact eemObsStep_comm id z x y (by simpa using hall x hx) (by simpa using hall y hy)

/-- mutations/countmutations.go, the WHOLE recursion `countMutationSiteBranch` (number of tips, character
    distributions merged child by child, mutation records): whatever the order in which Go lists the
    distribution map returned for each child (`ord₁`, `ord₂`: arbitrary re-listings), the records are the same -/
theorem countMutationsSite_order_invariant (charOf : String → Char)
    (ord₁ ord₂ : List (Char × Nat) → List (Char × Nat))
    (h₁ : ∀ l, (ord₁ l).Perm l) (h₂ : ∀ l, (ord₂ l).Perm l) (t : T) :
    countMutationsSite charOf ord₁ t = countMutationsSite charOf ord₂ t := by
  cases t with
  | node d p kids =>
    simp only [countMutationsSite]
    rw [(cmsNode_rel charOf ord₁ ord₂ h₁ h₂ none (.node d p kids)).2.2.1]

/-! ### the bodies before the repairs depend on the order -/

/-- seeded change C18-1: if the loop of `Rename` also re-indexed each renamed node under its new name,
    chained renames (a→b, b→c) would depend on the order -/
theorem Rename_reindexing_order_matters :
    renameLoopReindex [("a", 0), ("b", 1)] (fun i => if i == 0 then "a" else "b") [("a", "b"), ("b", "c")] 0 ≠
    renameLoopReindex [("a", 0), ("b", 1)] (fun i => if i == 0 then "a" else "b") [("b", "c"), ("a", "b")] 0 := by decide +kernel

/-- …whereas the loop as it is handles chained renames identically in every order (instance of
    site_Rename_perm_invariant on the same witness) -/
theorem Rename_chained_example :
    renameLoop [("a", 0), ("b", 1)] (fun i => if i == 0 then "a" else "b") [("a", "b"), ("b", "c")] =
    renameLoop [("a", 0), ("b", 1)] (fun i => if i == 0 then "a" else "b") [("b", "c"), ("a", "b")] :=
  site_Rename_perm_invariant _ _ _ _ (List.Perm.swap ..) (by decide) (by decide)


/-- F23 (asr, before de2cfbe): the two entries cut off depend on the order -/
theorem asrExpand_pinned_order_matters :
    asrPossibilitiesPinned [('A', 0), ('C', 1), ('-', 2), ('*', 3)] 'X' ≠
    asrPossibilitiesPinned [('-', 2), ('*', 3), ('A', 0), ('C', 1)] 'X' := by decide +kernel

theorem asrTipCounts_pinned_order_matters :
    asrTipCountsPinned [('A', 0), ('C', 1), ('-', 2), ('*', 3)] 'X' ≠
    asrTipCountsPinned [('-', 2), ('*', 3), ('A', 0), ('C', 1)] 'X' := by decide +kernel

/-- F30 (acr --out-states, before 7086b4c) -/
theorem acrStates_pinned_order_matters :
    acrStateLinesPinned [("n1", "A"), ("n2", "B")] ≠ acrStateLinesPinned [("n2", "B"), ("n1", "A")] := by decide +kernel

/-- F31 (compare tips, before 32f9976) -/
theorem compareTips_pinned_order_matters :
    compareTipsLinesPinned ["a"] [("x", true), ("y", true)] ≠ compareTipsLinesPinned ["a"] [("y", true), ("x", true)] := by decide +kernel

/-- F32 (compute mutations, before a35432b) -/
theorem mutationLines_pinned_order_matters :
    mutationLinesPinned true 0 [("0-A-C", ⟨0, 1, "n", 'A', 'C', 2, 1, 1⟩), ("1-A-C", ⟨1, 1, "n", 'A', 'C', 2, 1, 1⟩)] ≠
    mutationLinesPinned true 0 [("1-A-C", ⟨1, 1, "n", 'A', 'C', 2, 1, 1⟩), ("0-A-C", ⟨0, 1, "n", 'A', 'C', 2, 1, 1⟩)] := by decide +kernel

/-- F33 (rename -m, before 4f7266a) -/
theorem writeNameMap_pinned_order_matters :
    nameMapLinesPinned [("a", "T1"), ("b", "T2")] ≠ nameMapLinesPinned [("b", "T2"), ("a", "T1")] := by decide +kernel

/-- compare trees --rf before 0c409eb: the lines follow the order of delivery -/
theorem compareTreesRf_pinned_order_matters :
    rfLinesPinned [(0, 4), (1, 6)] ≠ rfLinesPinned [(1, 6), (0, 4)] := by decide +kernel

/-- CountEEMs before bf532dd: the record kept for (site, parent, child) is the first one met -/
theorem CountEEMs_pinned_order_matters :
    eemRecordsPinned [] [("0-1-A-C", ⟨0, 1, "t1", 'A', 'C', 0, 0, 1⟩), ("0-2-A-C", ⟨0, 2, "t2", 'A', 'C', 0, 0, 1⟩)] (0, 'A', 'C') ≠
    eemRecordsPinned [] [("0-2-A-C", ⟨0, 2, "t2", 'A', 'C', 0, 0, 1⟩), ("0-1-A-C", ⟨0, 1, "t1", 'A', 'C', 0, 0, 1⟩)] (0, 'A', 'C') := by decide +kernel

/-- `MutationList.Append`: WHICH duplicate key the error message names does depend on the order
    (DESIGN §6 C18).  Not reachable from CountMutations / CountEEMs: their keys carry the site
    and the branch id, so the appended maps are key-disjoint; whether there is an error does not
    depend on the order (site_MutationListAppend_perm_invariant). -/
theorem MutationListAppend_error_key_order_matters :
    mutAppendErrKey [("a", Mut.zero), ("b", Mut.zero)] [("a", Mut.zero), ("b", Mut.zero)] ≠
    mutAppendErrKey [("a", Mut.zero), ("b", Mut.zero)] [("b", Mut.zero), ("a", Mut.zero)] := by decide +kernel

/-- the acr alphabet without its `sort.Strings` would depend on the order -/
theorem acrAlphabet_unsorted_order_matters :
    acrAlphabetUnsorted [("t1", "A"), ("t2", "B")] ≠ acrAlphabetUnsorted [("t2", "B"), ("t1", "A")] := by decide +kernel

/-- excluded package `draw` (its commands ARE run by the templates): `initFonts` stores each font under its own
    name, then the cache is only looked up — what `Load` returns does not depend on the order of the range -/
theorem site_drawFonts_perm_invariant (l l' : List (String × String)) (h : l.Perm l')
    (hn : nodupKeys l = true) (name : String) : fontCacheLoad l name = fontCacheLoad l' name := by
  unfold fontCacheLoad
  rw [get_foldl_put l [] name hn, get_foldl_put l' [] name (nodupKeys_perm h hn), get_perm h hn]

/-- excluded package `download` (not reachable offline): `writeMapfile` writes while ranging -/
theorem ncbiMapLines_order_matters :
    ncbiMapLines [("1", "a"), ("2", "b")] ≠ ncbiMapLines [("2", "b"), ("1", "a")] := by decide +kernel

/-! ### the readers that build the maps: cmd/root.go `readMapFile`, cmd/acr.go `parseTipStates` -/

/-- the map `readMapFile` returns has pairwise distinct keys: the hypothesis `nodupKeys` of the site theorems
    is a theorem about the reader's model, not an assumption, for the map of `gotree rename -m` -/
theorem readMapFile_nodupKeys (revert : Bool) (lines : List String) (m : List (String × String))
    (h : readMapFile revert lines = .ok m) : nodupKeys m = true :=
  readLoop_nodupKeys _ lines 1 [] m rfl h

/-- …and for the tip → state table of `gotree acr --states` -/
theorem parseTipStates_nodupKeys (lines : List String) (m : List (String × String))
    (h : parseTipStates lines = .ok m) : nodupKeys m = true :=
  readLoop_nodupKeys _ lines 1 [] m rfl h

/-- what the map answers for a key is the value of the LAST line of the file whose key column is that key
    (second column with `--revert`): stated on the list of lines, no map involved -/
theorem readMapFile_last_line_wins (revert : Bool) (lines : List String) (m : List (String × String))
    (h : readMapFile revert lines = .ok m) (k : String) :
    get m k = lastBinding (mapFileEntry revert) lines none k := by
  have := readLoop_get _ lines 1 [] m h k
  simpa [get] using this

theorem parseTipStates_last_line_wins (lines : List String) (m : List (String × String))
    (h : parseTipStates lines = .ok m) (k : String) :
    get m k = lastBinding (twoCols isTabOrComma) lines none k := by
  have := readLoop_get _ lines 1 [] m h k
  simpa [get] using this

/-- the error of `readMapFile` names the first line (1-based) that has not exactly two columns -/
theorem readMapFile_error_is_first_bad_line (revert : Bool) (lines : List String) (n : Nat)
    (h : readMapFile revert lines = .error n) :
    1 ≤ n ∧ ((lines.drop (n - 1)).head?.bind (mapFileEntry revert) = none ∧ (lines.drop (n - 1)).head?.isSome) ∧
      ∀ i, i < n - 1 → ((lines.drop i).head?.bind (mapFileEntry revert)).isSome :=
  readLoop_error _ lines 1 [] n h

/-- `gotree rename -m file [-r]`, reader and `Tree.Rename` together: whatever listing `l'` Go gives of the map
    the reader built, the renamed names (or the failure) are those of the model run on the file — no
    hypothesis is left -/
theorem renameFromFile_listing_irrelevant (revert : Bool) (lines names : List String) (isTip : List Bool)
    (m l' : List (String × String)) (h : readMapFile revert lines = .ok m) (hp : m.Perm l') :
    renameFull names isTip l' = renameFromFile revert lines names isTip := by
  unfold renameFromFile
  rw [h]
  exact (Rename_whole_perm_invariant names isTip m l' hp (readMapFile_nodupKeys revert lines m h)).symm

/-- `gotree acr --states file`: the alphabet and the state of every tip are those of the file, whatever the
    listing of the table -/
theorem acrFromFile_listing_irrelevant (lines tips : List String) (m l' : List (String × String))
    (h : parseTipStates lines = .ok m) (hp : m.Perm l') :
    acrAlphabet l' = acrAlphabet m ∧ tipStateLines l' tips = tipStateLines m tips := by
  refine ⟨(site_ParsimonyAcr_alphabet_perm_invariant m l' hp).symm, ?_⟩
  unfold tipStateLines
  rw [get_perm hp (parseTipStates_nodupKeys lines m h)]

/-- seeded change C18-4 (read the file forward, then invert the map by ranging over it when `--revert` is
    given): with a map file that is not injective the inverted map depends on the order… -/
theorem readMap_invert_after_order_matters :
    get (invertLoop [("a", "x"), ("b", "x")]) "x" ≠ get (invertLoop [("b", "x"), ("a", "x")]) "x" := by decide +kernel

/-- …whereas the reader as it is fills the reverted map line by line: the last line wins (instance of
    readMapFile_last_line_wins on the same file) -/
theorem readMapFile_revert_example :
    (readMapFile true ["a\tx", "b\tx"]).toOption.map (fun m => get m "x") = some (some "b") := by decide +kernel

/-! ### `gotree rename --auto -m out`: tree.RenameAuto over the trees of the file, then writeNameMap -/

/-- the name map `RenameAuto` fills (looked up and extended, never ranged over) has distinct keys… -/
theorem renameAutoMap_keys_distinct (internals tips : Bool) (length : Nat) (trees : List (List (String × Bool)))
    (m : List (String × String)) (h : renameAutoMap internals tips length trees 1 [] = some m) :
    nodupKeys m = true :=
  renameAutoMap_nodupKeys internals tips length trees 1 [] m rfl h

/-- …so the map file the command writes is the same for every listing `l'` Go gives of that map to
    `writeNameMap`: the hypothesis of site_writeNameMap_perm_invariant is discharged for the whole `--auto` path -/
theorem renameAutoCmd_mapfile_listing_irrelevant (internals tips : Bool) (length : Nat)
    (trees : List (List (String × Bool))) (m l' : List (String × String))
    (h : renameAutoMap internals tips (if length < 5 then 5 else length) trees 1 [] = some m) (hp : m.Perm l') :
    (renameAutoCmd internals tips length trees).2 = some (nameMapLines l') := by
  unfold renameAutoCmd
  rw [renameAutoTrees_snd, h]
  simp only [Option.map_some]
  rw [site_writeNameMap_perm_invariant m l' hp (renameAutoMap_keys_distinct _ _ _ _ m h)]

/-- the generated identifiers: zero-padded to the requested length, and the failure when the counter needs
    more digits than the length leaves ("Id length 5 does not allow to generate as much ids") -/
theorem autoName_examples :
    autoName 'T' 6 12 = "T00012" ∧ autoName 'N' 10 7 = "N000000007" ∧ (autoName 'T' 5 10000).length ≠ 5 := by decide +kernel

/-- a name met again (same tip in the next tree, or two inner nodes without a name at the same position) reuses
    its identifier; the counter only advances on new names -/
theorem renameAuto_reuses_names :
    renameAutoLoop true true 5 0 [("", false), ("b", true), ("c", true)] [] 4 [("0", "N0001"), ("a", "T0002"), ("b", "T0003")] =
      .ok ["N0001", "T0003", "T0004"] 5 [("0", "N0001"), ("a", "T0002"), ("b", "T0003"), ("c", "T0004")] := by decide +kernel

/-! ### the table -/

/-- a proved site: its key in table (c) and the theorem -/
structure ProvedSite where
  key : String
  statement : Prop
  proof : statement

def provedSites : List ProvedSite := [
  ⟨"acr/parsimony.go:ParsimonyAcr:466da4eec245#1", _, site_ParsimonyAcr_alphabet_perm_invariant⟩,
  ⟨"cmd/acr.go:acrCmd:69d303350f73#1", _, site_acrStates_perm_invariant⟩,
  ⟨"cmd/comparetips.go:difftipsCmd:b9b06c89dc0d#1", _, site_compareTips_perm_invariant⟩,
  ⟨"cmd/comparetrees.go:compareTreesCmd:f5977218f020#1", _, site_compareTreesRf_perm_invariant⟩,
  ⟨"cmd/extractmutations.go:sortedMutationKeys:cff9c655e428#1", _, site_mutationLines_perm_invariant⟩,
  ⟨"cmd/rename.go:writeNameMap:fec59d425afe#1", _, site_writeNameMap_perm_invariant⟩,
  ⟨"mutations/counteems.go:CountEEMs:6958822e76a2#1", _, site_CountEEMs_perm_invariant⟩,
  ⟨"mutations/countmutations.go:countMutationSiteBranch:f14ba4b390f3#1", _, site_charDistribution_perm_invariant⟩,
  ⟨"mutations/mutations.go:MutationList.Append:7cd4e9aa30b3#1", _, site_MutationListAppend_perm_invariant⟩,
  ⟨"tree/tipbags.go:TipBag.Tips:9479da34ef3f#1", _, @site_TipBagTips_perm_invariant.{0}⟩,
  ⟨"tree/tree.go:Tree.UpdateTipIndex:105ae1ebc217#1", _, @site_UpdateTipIndex_perm_invariant.{0}⟩,
  ⟨"tree/tree.go:Tree.CompareTipIndexes:77f5fc7a8940#1", _, @site_CompareTipIndexes_perm_invariant.{0}⟩,
  ⟨"tree/tree.go:Tree.Rename:ea9659a5edb0#1", _, site_Rename_perm_invariant⟩,
  ⟨"tree/tree.go:Tree.Merge:c3180b3fd5e1#1", _, @site_Merge_perm_invariant.{0}⟩]

/-- the keys the driver compares the table with are those of the proved sites -/
theorem provedSites_keys : provedSites.map (·.key) = provedSiteKeys := rfl

/-- ★ the regenerated table (c) (packages in scope) is exactly the list of proved sites -/
theorem sites_covered : coreSites.map (·.key) = provedSites.map (·.key) := rfl

/-- a proved site BY CONSTRUCTION: the row carries the model function of the loop (`body`: parameters = the other
    variables the loop reads, then the map entries in iteration order) and the proof that it returns the same
    value for every listing of the same map — not an arbitrary proposition next to a key -/
structure SiteProof where
  key : String
  model : String
  case : String
  P : Type
  K : Type
  V : Type
  Out : Type
  hyp : P → List (K × V) → Prop
  body : P → List (K × V) → Out
  inv : ∀ (p : P) (l l' : List (K × V)), l.Perm l' → hyp p l → body p l = body p l'

def siteProofs : List SiteProof := [
  { key := "acr/parsimony.go:ParsimonyAcr:466da4eec245#1", model := "acrAlphabet", case := "acralphabet",
    P := Unit, K := String, V := String, Out := List String, hyp := fun _ _ => True,
    body := fun _ l => acrAlphabet l, inv := fun _ l l' h _ => site_ParsimonyAcr_alphabet_perm_invariant l l' h },
  { key := "cmd/acr.go:acrCmd:69d303350f73#1", model := "acrStateLines", case := "acrstates",
    P := Unit, K := String, V := String, Out := List String, hyp := fun _ l => nodupKeys l = true,
    body := fun _ l => acrStateLines l, inv := fun _ l l' h hn => site_acrStates_perm_invariant l l' h hn },
  { key := "cmd/comparetips.go:difftipsCmd:b9b06c89dc0d#1", model := "compareTipsOutput", case := "comparetips",
    P := List String, K := String, V := Bool, Out := List String, hyp := fun _ l => nodupKeys l = true,
    body := fun p l => compareTipsOutput p l, inv := fun p l l' h hn => compareTipsOutput_perm_invariant p l l' h hn },
  { key := "cmd/comparetrees.go:compareTreesCmd:f5977218f020#1", model := "rfLines", case := "rf",
    P := Unit, K := Int, V := Int, Out := List String, hyp := fun _ l => nodupKeys l = true,
    body := fun _ l => rfLines l, inv := fun _ l l' h hn => site_compareTreesRf_perm_invariant l l' h hn },
  { key := "cmd/extractmutations.go:sortedMutationKeys:cff9c655e428#1", model := "sortedMutationKeys+mutationLines", case := "mutations",
    P := Bool × Nat, K := String, V := Mut, Out := List String × List String, hyp := fun _ l => nodupKeys l = true,
    body := fun p l => (sortedMutationKeys l, mutationLines p.1 p.2 l),
    inv := fun p l l' h hn => by
      rw [site_mutationKeys_perm_invariant l l' h, site_mutationLines_perm_invariant p.1 p.2 l l' h hn] },
  { key := "cmd/rename.go:writeNameMap:fec59d425afe#1", model := "nameMapLines", case := "namemap",
    P := Unit, K := String, V := String, Out := List String, hyp := fun _ l => nodupKeys l = true,
    body := fun _ l => nameMapLines l, inv := fun _ l l' h hn => site_writeNameMap_perm_invariant l l' h hn },
  { key := "mutations/counteems.go:CountEEMs:6958822e76a2#1", model := "eemRecords (inside countEEMs)", case := "eems",
    P := List (EemKey × Mut), K := String, V := Mut, Out := EemKey → Option Mut, hyp := fun _ l => nodupKeys l = true,
    body := fun p l => eemRecords p l, inv := fun p l l' h hn => site_CountEEMs_perm_invariant p l l' h hn },
  { key := "mutations/countmutations.go:countMutationSiteBranch:f14ba4b390f3#1", model := "charDist (inside countMutationsSite)", case := "chardist",
    P := List (Char × Nat), K := Char, V := Nat, Out := Char → Option Nat, hyp := fun _ _ => True,
    body := fun p l => charDist p l, inv := fun p l l' h _ => site_charDistribution_perm_invariant p l l' h },
  { key := "mutations/mutations.go:MutationList.Append:7cd4e9aa30b3#1", model := "mutAppend", case := "append",
    P := List (String × Mut), K := String, V := Mut, Out := Option (String → Option Mut), hyp := fun _ l => nodupKeys l = true,
    body := fun p l => mutAppend p l, inv := fun p l l' h hn => site_MutationListAppend_perm_invariant p l l' h hn },
  { key := "tree/tipbags.go:TipBag.Tips:9479da34ef3f#1", model := "tipBagTips", case := "tipbag",
    P := Unit, K := String, V := String, Out := List (Option String), hyp := fun _ l => nodupKeys l = true,
    body := fun _ l => tipBagTips l, inv := fun _ l l' h hn => site_TipBagTips_perm_invariant l l' h hn },
  { key := "tree/tree.go:Tree.UpdateTipIndex:105ae1ebc217#1", model := "updateTipIndex", case := "updatetipindex",
    P := List (String × Nat), K := String, V := Nat, Out := Option (List (String × Nat)), hyp := fun _ _ => True,
    body := fun p l => updateTipIndex p l, inv := fun p l l' h _ => site_UpdateTipIndex_perm_invariant p l l' h },
  { key := "tree/tree.go:Tree.CompareTipIndexes:77f5fc7a8940#1", model := "compareTipIndexes", case := "comparetipindexes",
    P := List String, K := String, V := String, Out := Bool, hyp := fun _ _ => True,
    body := fun p l => compareTipIndexes p l, inv := fun p l l' h _ => site_CompareTipIndexes_perm_invariant p l l' h },
  { key := "tree/tree.go:Tree.Rename:ea9659a5edb0#1", model := "renameFull", case := "rename",
    P := List String × List Bool, K := String, V := String, Out := Option (List String), hyp := fun _ l => nodupKeys l = true,
    body := fun p l => renameFull p.1 p.2 l, inv := fun p l l' h hn => Rename_whole_perm_invariant p.1 p.2 l l' h hn },
  { key := "tree/tree.go:Tree.Merge:c3180b3fd5e1#1", model := "mergeDisjointLoop", case := "comparetipindexes",
    P := List String, K := String, V := String, Out := Bool, hyp := fun _ _ => True,
    body := fun p l => mergeDisjointLoop p l, inv := fun p l l' h _ => site_Merge_perm_invariant p l l' h }]

/-- ★ the regenerated table (c) is exactly the list of sites proved by construction -/
theorem sites_covered_by_construction : coreSites.map (·.key) = siteProofs.map (·.key) := rfl

/-- key, model name and correspondence case of every row are those of the one table `Spec.siteCaseTable`
    that the driver uses to say which key a site case exercises: every site has a case that runs its body -/
theorem siteProofs_table : siteProofs.map (fun r => (r.key, r.model, r.case)) = siteCaseTable := rfl

/-- the property's first sentence, as far as a model can state it.  In the model a result is a FUNCTION of
    (input, options, random draws) and of the listing of each map it ranges over — there is no clock, address
    or process argument by construction — and the last argument does not matter: whatever listings `orders`
    of the map the repeated runs meet, the rendered outputs satisfy the oracle predicate `oneOutput` that the
    driver evaluates on the real runs -/
theorem SiteProof.runs_one_output (r : SiteProof) (render : r.Out → String) (p : r.P) (l : List (r.K × r.V))
    (hl : r.hyp p l) (orders : List (List (r.K × r.V))) (ho : ∀ o ∈ orders, l.Perm o) :
    oneOutput (orders.map (fun o => render (r.body p o))) = true := by
  have hall : ∀ o ∈ orders, render (r.body p o) = render (r.body p l) :=
    fun o h => by rw [r.inv p l o (ho o h) hl]
  cases orders with
  | nil => rfl
  | cons a t =>
    simp only [List.map_cons, oneOutput, List.all_map, List.all_eq_true, Function.comp, beq_iff_eq]
    intro o h
    rw [hall o (List.mem_cons_of_mem _ h), hall a (List.mem_cons_self ..)]

/-- instance: the whole standard output of `gotree compare tips -i ref -f tips`, in any number of runs -/
theorem compareTips_runs_one_output (refTips : List String) (l : List (String × Bool)) (hn : nodupKeys l = true)
    (orders : List (List (String × Bool))) (ho : ∀ o ∈ orders, l.Perm o) :
    oneOutput (orders.map (fun o => String.join (compareTipsOutput refTips o))) = true :=
  SiteProof.runs_one_output
    { key := "", model := "", case := "", P := List String, K := String, V := Bool, Out := List String,
      hyp := fun _ l => nodupKeys l = true, body := compareTipsOutput, inv := compareTipsOutput_perm_invariant }
    String.join refTips l hn orders ho

/-- instance without any hypothesis on the map: `gotree rename -i tree -m file [-r]` in any number of runs — the
    map is the one the reader's model builds from the file, `orders` are the listings Go gives of it to
    `Tree.Rename` in the successive runs; the printed names (or the failure) satisfy the oracle predicate -/
theorem renameFromFile_runs_one_output (revert : Bool) (lines names : List String) (isTip : List Bool)
    (m : List (String × String)) (h : readMapFile revert lines = .ok m)
    (orders : List (List (String × String))) (ho : ∀ o ∈ orders, m.Perm o) :
    oneOutput (orders.map (fun o => match renameFull names isTip o with
      | none => "error" | some after => "\n".intercalate after)) = true :=
  SiteProof.runs_one_output
    { key := "", model := "", case := "", P := List String × List Bool, K := String, V := String,
      Out := Option (List String), hyp := fun _ l => nodupKeys l = true, body := fun p l => renameFull p.1 p.2 l,
      inv := fun p l l' h hn => Rename_whole_perm_invariant p.1 p.2 l l' h hn }
    (fun r => match r with | none => "error" | some after => "\n".intercalate after) (names, isTip) m
    (readMapFile_nodupKeys revert lines m h) orders ho

/-- the boundary seeds are seeds: 0, a negative value other than -1 and the largest int64 are handed to
    `rand.Seed` unchanged whatever the clock says… -/
theorem boundary_seeds_ignore_clock (c : Int) :
    effectiveSeed 0 c = 0 ∧ effectiveSeed (-2) c = -2 ∧ effectiveSeed 9223372036854775807 c = 9223372036854775807 := by
  refine ⟨?_, ?_, ?_⟩ <;> simp [effectiveSeed]

/-- …whereas a test `seed <= 0` for "no seed given" would read the clock for two of them -/
theorem seed_nonpositive_variant_reads_clock :
    effectiveSeedNonPositive 0 1 ≠ effectiveSeedNonPositive 0 2 ∧
    effectiveSeedNonPositive (-2) 1 ≠ effectiveSeedNonPositive (-2) 2 := by decide +kernel

/-! ### the number of threads is a configuration: support/tbe.go hands every reference branch to exactly one worker -/

/-- whatever the number of workers and whichever worker receives which branch, the branches visited for one
    bootstrap tree are all the reference branches, each once, in `Edges()` order: the supports cannot depend on -t -/
theorem tbe_feeder_visits_every_branch_once {α} (cpu : Nat) (sched : Nat → Nat) (edges : List α) :
    feederVisited cpu sched edges = edges := by
  unfold feederVisited feederHandled
  rw [List.map_map]
  have : ((fun (x : Nat × α) => x.2) ∘ fun (e : α × Nat) => (sched e.2 % cpu, e.1)) = fun (e : α × Nat) => e.1 := rfl
  rw [this]
  exact List.zipIdx_map_fst 0 edges

/-- seeded change C18-7 (static blocks of `len(edges)/cpu` branches): with 13 branches, 5 workers leave the last
    three branches unvisited, 64 workers leave all of them, while 1 worker visits all — the result depends on -t -/
theorem tbe_static_blocks_depend_on_threads :
    staticVisited 1 (List.range 13) = List.range 13 ∧ staticVisited 5 (List.range 13) = List.range 10 ∧
    staticVisited 64 (List.range 13) = [] := by decide +kernel

/-- cobra runs only the nearest persistent pre-run hook: every runnable command of the live command tree either
    has the root's hook (which calls `rand.Seed(seed)`) as its nearest one, or a hook whose body calls
    `RootCmd.PersistentPreRun` itself (`compute support`).  Seeded change C18-9 (a hook on `brlen`) and the own
    breakage M1 (a hook on `generate`) make this list non-empty; the random templates give the failing input. -/
theorem seed_hook_reaches_every_command : commandsNotSeeded = [] := by decide +kernel

/-- the list is not empty by vacuity: four commands do sit under a hook of their own -/
theorem seed_hook_table_nonvacuous : Gen.C18Sites.preRunHidden.length ≥ 4 ∧
    Gen.C18Sites.preRunHooks.any (fun h => h.2.1 == "gotree") = true := by decide +kernel

/-- the sites of the excluded packages are exactly the reviewed ones -/
theorem excluded_sites_reviewed : excludedSites.map (·.key) = reviewedExcludedSites.map (·.1) := rfl

/-- every other source of order / address / clock dependence of the table is reviewed, none is stale,
    and the extractor type-checked the whole repository -/
theorem sources_covered :
    unreviewedSources = [] ∧ staleSources = [] ∧ Gen.C18Sites.typeErrors = [] := by decide +kernel

/-- `cmd/root.go:73-93`: the only seeding of a random source in the whole repository is the unconditional
    `rand.Seed(seed)` of PersistentPreRun (no other `rand.Seed`, `rand.NewSource`, `rand.New`, `crypto/rand`) -/
theorem seed_single_unconditional :
    seedSites.map (fun s => (s.file, s.fn, s.operand, s.guard)) = [("cmd/root.go", "RootCmd", "math/rand.Seed", "")] := by decide +kernel

/-- …and the only clock read of that file is under the guard `seed == -1` (no seed given) -/
theorem clock_only_without_seed :
    clockSeedSites.map (·.guard) = ["if seed == -1"] := by decide +kernel

/-- once a seed is given the clock does not reach the random source … -/
theorem seed_given_ignores_clock (seedFlag : Int) (h : seedFlag ≠ -1) (c c' : Int) :
    effectiveSeed seedFlag c = effectiveSeed seedFlag c' := by
  unfold effectiveSeed
  have : (seedFlag == -1) = false := by simpa using h
  simp [this]

/-- … and without one it does (the property's precondition "once a seed is given" is needed) -/
theorem no_seed_reads_clock : effectiveSeed (-1) 1 ≠ effectiveSeed (-1) 2 := by decide +kernel

/-- no address is ever formatted (`%p`, pointer-valued fmt arguments, unsafe, reflect pointers),
    no reflect map iteration, no multi-way select, no pid/hostname/environment read, in the packages in scope -/
theorem no_address_sources :
    (Gen.C18Sites.sources.filter (fun s => s.scope == "core" &&
      ["pointerfmt", "pointerarg", "address", "reflectmap", "select", "pid", "host", "env", "tmp"].contains s.kind)) = [] := by decide +kernel

/-- the files that exist only under the build tag `verif` are the two reviewed hook files -/
theorem hook_files_reviewed : Gen.C18Sites.hookFiles = reviewedHookFiles := rfl

/-- the sources inside hook files are exactly the reviewed ones, every hook-scope entry of the table lies
    in a hook file, and no map range lives in hook code -/
theorem hook_sources_reviewed :
    hookSources.map (·.key) = reviewedHookSources.map (·.1) ∧
    hookSources.all (fun s => Gen.C18Sites.hookFiles.contains s.file) = true ∧
    Gen.C18Sites.sites.filter (·.scope == "hook") = [] := by decide +kernel

/-- outside hook code (i.e. in every normal build) the environment is never read and the clock is read
    only by the reviewed statements (seed == -1, support logs) -/
theorem env_and_clock_only_reviewed :
    (Gen.C18Sites.sources.filter (fun s => s.scope != "hook" && s.kind == "env")) = [] ∧
    (Gen.C18Sites.sources.filter (fun s => s.scope != "hook" && s.kind == "clock")).all
      (fun s => (reviewedSources.map (·.1)).contains s.key) = true := by
  refine ⟨by decide +kernel, List.all_eq_true.mpr fun s hs => ?_⟩
  -- a clock read outside hook code is in particular a source outside hook code: all of those are reviewed
  obtain ⟨hm, hf⟩ := List.mem_filter.mp hs
  have := List.filter_eq_nil_iff.mp sources_covered.1 s hm
  simp only [Bool.and_eq_true] at hf
  simpa [hf.1] using this

/-- goalign (the version pinned in go.mod, read from the module cache): in the part of `align`, `io/fasta`,
    `io/phylip` (and what they import of goalign) that is reachable from the repository's code — calls
    through the `Alignment`/`SeqBag` interfaces reach every method of that name — there is no range over a
    map and no clock / seed / address / environment source; the scan type-checked without a note -/
theorem dependency_goalign_clean :
    Gen.C18Sites.depSites = [] ∧ Gen.C18Sites.depSources = [] ∧ Gen.C18Sites.depNotes = [] := ⟨rfl, rfl, rfl⟩

/-- "all commands": every runnable command of the live command tree (regenerated from `cmd.RootCmd` on every
    run) has a run template, except the four network commands, each listed with its reason; and nothing is
    listed that is not a command -/
theorem commands_covered :
    uncoveredCommands = [] ∧
    (templateCommands ++ omittedCommands.map (·.1)).all (Gen.C18Sites.commands.contains ·) = true := by decide +kernel

/-- the packages the dependency scan loaded: goalign's align / io / fasta / phylip (+ what they import of
    goalign), gostats (`Exp` draws from the global math/rand source), bitset — all clean by
    dependency_goalign_clean, which speaks about `depSites` / `depSources` of exactly these packages -/
theorem dependency_packages_scanned :
    ["github.com/evolbioinfo/goalign/align", "github.com/evolbioinfo/goalign/io/fasta",
     "github.com/evolbioinfo/goalign/io/phylip", "github.com/fredericlemoine/bitset",
     "github.com/fredericlemoine/gostats"].all (Gen.C18Sites.depPackages.contains ·) = true := by decide +kernel

/-- "several threads": the files of package cmd that read the thread count are exactly those of the reviewed
    table `threadCommands`, whose commands all have a run template (the driver checks on every run that the
    named template exists and passes -t ≥ 2 in at least one generated request) -/
theorem threads_covered :
    Gen.C18Sites.cpuFiles = (threadCommands.map (·.1)).eraseDups ∧
    threadCommands.all (fun r => templateCommands.contains r.2.1) = true := by decide +kernel

/-! ### the hypotheses are satisfiable on non-trivial maps -/

example : nodupKeys [("t1", "A"), ("t2", "B"), ("t3", "A"), ("t4", "C"), ("t5", "B"), ("t6", "A"), ("t7", "C"), ("t8", "A")] = true := by decide +kernel
example : nodupVals [("t1", 3), ("t2", 5), ("I1", 0), ("I2", 1)] = true ∧ nodupKeys [("t1", "x"), ("I2", "y"), ("zz", "w")] = true := by decide +kernel
example : acrCollect [("t1", "B"), ("t2", "A"), ("t3", "B")] = ["B", "A"] := by decide +kernel
example : nameMapLines [("b", "T2"), ("a", "T1"), ("c", "T3")] = nameMapLines [("a", "T1"), ("b", "T2"), ("c", "T3")] :=
  site_writeNameMap_perm_invariant _ _ (List.Perm.swap ..) (by decide)
example : renameLoop [("a", 0), ("b", 1)] (fun _ => "") [("b", "y"), ("a", "x")] = renameLoop [("a", 0), ("b", 1)] (fun _ => "") [("a", "x"), ("b", "y")] :=
  site_Rename_perm_invariant _ _ _ _ (List.Perm.swap ..) (by decide) (by decide)
example : ([("0-1-A-C", (⟨0, 1, "t1", 'A', 'C', 0, 0, 1⟩ : Mut)), ("0-2-A-C", ⟨0, 2, "t2", 'A', 'C', 0, 0, 1⟩)].all (fun e => e.2.numEEM == 1)) = true := by decide +kernel

example : (readMapFile true ["n0\tt1", "n1\tt2", "n2\tt1", "n3\tt3"]).toOption.map (fun m => (get m "t1", get m "t2", m.length)) =
    some (some "n2", some "n1", 3) := by decide +kernel
example : ([["a\tb", "no tab here", "c\td"], ["a\tb", "c\td\te"], ["a\tb", ""], ["a\tb"]].map (fun f =>
    match readMapFile false f with | .error n => some n | .ok _ => none)) = [some 2, some 2, some 2, none] := by decide +kernel
example : (parseTipStates ["t1\tA", "t2,B", "t1,C"]).toOption.map (fun m => (get m "t1", get m "t2")) = some (some "C", some "B") ∧
    (parseTipStates ["t1\tA,B"]).toOption.isNone = true := by decide +kernel
example : renameAutoLoop false true 5 0 [("a", true), ("", false), ("b", true)] [] 1 [] =
    .ok ["T0001", "", "T0002"] 3 [("a", "T0001"), ("b", "T0002")] := by decide +kernel

end Gotree.C18

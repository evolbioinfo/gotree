/-
  C08 — property theorems (audited with `#print axioms` by bin/check).

  `compare`, `compareWeighted0` (Model/C08Zero.lean: an absent length is read as 0, the code since
  fix 462ffd9), `commonEdges`, `compareTipIndexes` are the model functions the driver ties to the Go
  code (Model/C08.lean: `EdgeIndex` keyed by bitsets searched with `eqOrCompl`); `compareWeighted`
  (marker -1 kept) is the function before that fix: `weighted_terms`, `cli_sums` and the `…_hm`
  theorems are stated about it and `weighted_terms0` carries them to `compareWeighted0`; `S`, `U`, `counts`, `sameSplits`, `sameTaxa`,
  `unrootedOK`, `good`, `onlyLens`, `commonDiffs`, `wSame` are the Spec (Spec/C08.lean,
  built on `T.usplitsAll` / `T.usplitSet` of Spec/Splits.lean).

  Proof route: Lemmas/C08Bits.lean shows the bitset model equal, on all inputs, to the
  same model keyed by canonical sides (`Canon.*`, Lemmas/C08Canon.lean); Lemmas/C08.lean,
  C08W.lean relate that one to the Spec under the semantic hypotheses `good`; and
  Lemmas/C08Tree.lean derives `good` from the shape hypotheses `unrootedOK`.
-/
import Gotree.Lemmas.C08Bits
import Gotree.Lemmas.C08HM
import Gotree.Lemmas.C08Inv
import Gotree.Lemmas.C08Zero
import Gotree.Lemmas.C08Cli

namespace Gotree.C08
open Gotree List

/-- ★ `compare_counts` (DESIGN Appendix B): for two unrooted trees on the same taxa,
    `Compare` without the shortcut reports (|R \ C|, |R ∩ C|, |C \ R|, R = C) over the
    split sets (internal ones, or all with `tips`). -/
theorem compare_counts (r c : T) (tips : Bool) (hT : sameTaxa r c = true)
    (hr : unrootedOK r = true) (hc : unrootedOK c = true) :
    compare r c tips false =
      .ok ⟨((diffL (S tips r) (S tips c)).length : Int), ((interL (S tips r) (S tips c)).length : Int),
           ((diffL (S tips c) (S tips r)).length : Int), sameSplits r c tips⟩ := by
  rw [compare_eq]
  exact Canon.compare_noSC_of_good r c tips hT (Canon.good_of_unrootedOK r hr) (Canon.good_of_unrootedOK c hc)

/-- the hypotheses are satisfiable on a non-trivial pair (a tree and a contraction of it) -/
def exLeaf (n : String) : EdgeD × T := (⟨1, NIL, NIL, [], -1⟩, T.leaf n)
def exNode (k : Kids) : EdgeD × T := (⟨1, NIL, NIL, [], -1⟩, .node ⟨"", []⟩ 0 k)
/-- `((a,b),c,(d,e));` -/
def exR : T := .node ⟨"", []⟩ 0 [exNode [exLeaf "a", exLeaf "b"], exLeaf "c", exNode [exLeaf "d", exLeaf "e"]]
/-- `((a,b),c,d,e);` -/
def exC : T := .node ⟨"", []⟩ 0 [exNode [exLeaf "a", exLeaf "b"], exLeaf "c", exLeaf "d", exLeaf "e"]
example : sameTaxa exR exC = true ∧ unrootedOK exR = true ∧ unrootedOK exC = true := by decide

/-- `compare_counts` under the semantic hypotheses only (`good` is weaker than `unrootedOK`). -/
theorem compare_counts_good (r c : T) (tips : Bool) (hT : sameTaxa r c = true)
    (hr : good r = true) (hc : good c = true) :
    compare r c tips false =
      .ok ⟨((counts r c tips).1 : Int), ((counts r c tips).2.1 : Int), ((counts r c tips).2.2 : Int),
           sameSplits r c tips⟩ := by
  rw [compare_eq]
  exact Canon.compare_noSC_of_good r c tips hT hr hc

/-- `sametree_iff` (no hypothesis on the trees): without the shortcut, `Sametree` is set
    exactly when both "only" counts are zero. -/
theorem sametree_iff (r c : T) (tips : Bool) (st : Stats) (h : compare r c tips false = .ok st) :
    st.same = true ↔ st.tree1 = 0 ∧ st.tree2 = 0 := by
  rw [compare_eq] at h
  exact Canon.compare_same_iff_zero r c tips st h

/-- the identical-only shortcut never changes the flag (no hypothesis on the trees) -/
theorem shortcut_same_flag (r c : T) (tips : Bool) :
    Canon.flag (compare r c tips true) = Canon.flag (compare r c tips false) := by
  rw [compare_eq, compare_eq]
  exact Canon.compare_shortcut_flag r c tips

/-- `sametree_iff`, with the identical-only shortcut: `Sametree ↔ R = C`. -/
theorem sametree_shortcut (r c : T) (tips : Bool) (hT : sameTaxa r c = true)
    (hr : unrootedOK r = true) (hc : unrootedOK c = true) (st : Stats) (h : compare r c tips true = .ok st) :
    st.same = sameSplits r c tips := by
  have h1 := shortcut_same_flag r c tips
  rw [h, compare_counts r c tips hT hr hc] at h1
  simpa [Canon.view] using h1

/-- `compare_swap`: swapping the trees swaps the "only" counts and keeps the rest. -/
theorem compare_swap (r c : T) (tips : Bool) (hT : sameTaxa r c = true)
    (hr : unrootedOK r = true) (hc : unrootedOK c = true) (st : Stats) (h : compare r c tips false = .ok st) :
    compare c r tips false = .ok ⟨st.tree2, st.common, st.tree1, st.same⟩ := by
  rw [compare_counts r c tips hT hr hc] at h
  rw [compare_counts c r tips (Canon.sameTaxa_symm r c hT) hc hr]
  have e := (Canon.inter_perm_comm (Canon.S_nodup r tips (Canon.good_of_unrootedOK r hr))
    (Canon.S_nodup c tips (Canon.good_of_unrootedOK c hc))).length_eq
  cases h
  simp only [sameSplits, Res.ok.injEq, Stats.mk.injEq, true_and]
  exact ⟨by rw [e], Bool.and_comm _ _⟩

/-- Invariance: the record depends on the two trees only through their split sets, hence
    not on where either tree is rooted nor on the order of children (re-rooting and
    rotation preserve `S`: `SameU`, from C05). -/
theorem compare_invariant (r c r' c' : T) (tips : Bool) (hT : sameTaxa r c = true)
    (hr : unrootedOK r = true) (hc : unrootedOK c = true) (hr' : unrootedOK r' = true) (hc' : unrootedOK c' = true)
    (sr : SameU r r') (sc : SameU c c') :
    compare r' c' tips false = compare r c tips false := by
  have pR := (sr.S_perm tips).symm
  have pC := (sc.S_perm tips).symm
  rw [compare_counts r c tips hT hr hc, compare_counts r' c' tips (sameTaxa_of_perms hT sr.tips sc.tips) hr' hc',
    Canon.sameSplits_congr pR pC,
    (Canon.diff_perm pR pC).length_eq, (Canon.diff_perm pC pR).length_eq, (Canon.inter_perm pR pC).length_eq]

/-- `weighted_terms`: the record of `CompareWeighted` (no shortcut) lists, up to order, the
    lengths of the splits specific to the reference, of those specific to the compared
    tree, the length differences (reference - compared) of the shared ones, and the flag
    says "same splits, same lengths". -/
theorem weighted_terms (r c : T) (tips : Bool) (hT : sameTaxa r c = true)
    (hr : unrootedOK r = true) (hc : unrootedOK c = true) :
    ∃ w, compareWeighted r c tips false = .ok w ∧
      w.tree1 ~ onlyLens (U tips r) (U tips c) ∧ w.tree2 ~ onlyLens (U tips c) (U tips r) ∧
      w.common ~ commonDiffs (U tips r) (U tips c) ∧ w.same = wSame r c tips := by
  rw [compareWeighted_eq]
  exact Canon.compareWeighted_noSC_of_good r c tips hT (Canon.good_of_unrootedOK r hr) (Canon.good_of_unrootedOK c hc)

/-- `weighted_terms`, with the identical-only shortcut: the flag is still "same splits, same lengths". -/
theorem weighted_shortcut (r c : T) (tips : Bool) (hT : sameTaxa r c = true)
    (hr : unrootedOK r = true) (hc : unrootedOK c = true) (w : WStats)
    (h : compareWeighted r c tips true = .ok w) : w.same = wSame r c tips := by
  obtain ⟨w0, h0, _, _, _, hs⟩ := weighted_terms r c tips hT hr hc
  have hf := Canon.compareWeighted_shortcut_flag r c tips
  rw [← compareWeighted_eq, ← compareWeighted_eq, h, h0] at hf
  simp only [Canon.view, Res.ok.injEq] at hf
  rw [hf, hs]

/-- what `gotree compare trees` prints from these records: `--rf` is |R \ C| + |C \ R|, and
    `--weighted` the Spec's weighted Robinson-Foulds sum and the square root of the Spec's
    Kuhner-Felsenstein radicand (the square root itself stays symbolic). -/
theorem cli_sums (r c : T) (tips : Bool) (hT : sameTaxa r c = true)
    (hr : unrootedOK r = true) (hc : unrootedOK c = true) :
    (∃ st, compare r c tips false = .ok st ∧
      rf st = ((diffL (S tips r) (S tips c)).length : Int) + ((diffL (S tips c) (S tips r)).length : Int)) ∧
    (∃ w, compareWeighted r c tips false = .ok w ∧
      wrf w = Canon.wrfSpec r c tips ∧ kf2 w = Canon.kf2Spec r c tips) := by
  constructor
  · exact ⟨_, compare_counts r c tips hT hr hc, rfl⟩
  · obtain ⟨w, h0, h1, h2, h3, _⟩ := weighted_terms r c tips hT hr hc
    exact ⟨w, h0, Canon.sums_of_perm w r c tips h1 h2 h3⟩

/-- `CommonEdges` (pairwise variant by linear search `FindEdge`): reference-only and common counts. -/
theorem commonEdges_counts (r c : T) (tips : Bool) (hT : sameTaxa r c = true)
    (hr : unrootedOK r = true) (hc : unrootedOK c = true) :
    commonEdges r c tips =
      .ok (((diffL (S tips r) (S tips c)).length : Int), ((interL (S tips r) (S tips c)).length : Int)) := by
  have hgr := Canon.good_of_unrootedOK r hr
  have hgc := Canon.good_of_unrootedOK c hc
  rw [commonEdges_eq r c tips (Canon.reinitOk_of_good hgr) (Canon.reinitOk_of_good hgc)]
  exact Canon.commonEdges_of_good r c tips hT hgr hgc

/-- F13 (fixed by 64ef88d) as a theorem about the pinned variant of the model: before the
    fix every compared tree whose splits all occur in the reference was reported identical,
    whatever the reference has besides; the repaired model disagrees as soon as the reference
    has a split of its own. -/
theorem comparePinned_contraction_identical (r c : T) (tips : Bool) (hT : sameTaxa r c = true)
    (hr : unrootedOK r = true) (hc : unrootedOK c = true)
    (hsub : diffL (S tips c) (S tips r) = []) :
    (∃ st, comparePinned r c tips false = .ok st ∧ st.same = true ∧
        st.tree1 = ((diffL (S tips r) (S tips c)).length : Int)) ∧
    (diffL (S tips r) (S tips c) ≠ [] → ∃ st, compare r c tips false = .ok st ∧ st.same = false) := by
  have hgr := Canon.good_of_unrootedOK r hr
  have hgc := Canon.good_of_unrootedOK c hc
  constructor
  · -- the pinned record is the repaired one but for the flag, which is "all lookups succeeded"
    have hcmp := Canon.compare_noSC_of_good r c tips hT hgr hgc
    obtain ⟨_, h1, h2, h3⟩ := Canon.checks_of_good hT hgr hgc
    rw [comparePinned_eq]
    unfold Canon.compare at hcmp
    unfold Canon.comparePinned
    simp only [h1, h2, h3, Bool.not_true, Bool.false_eq_true, if_false, Canon.cmpLoop_noSC, Nat.zero_add,
      Bool.true_and, Res.ok.injEq, Stats.mk.injEq] at hcmp ⊢
    refine ⟨_, rfl, ?_, hcmp.1⟩
    -- all lookups succeed: the tally of hits equals the tally of candidates, i.e. |C \ R| = 0
    rw [(Canon.all_iff_countP_eq (Canon.okE (Canon.buildIndex r.tipNames r.splits) c.tipNames)
      (counted tips) c.splits fun e _ hq => Canon.not_counted_okE _ _ tips e hq).2]
    have := hcmp.2.2.1
    rw [hsub] at this
    simp only [length_nil, Int.natCast_zero] at this
    omega
  · exact fun hne => ⟨_, compare_counts r c tips hT hr hc, by simp [sameSplits, hne]⟩

/-- the premises of `comparePinned_contraction_identical` hold for the witness
    `((a,b),c,(d,e))` vs its contraction `((a,b),c,d,e)`: every split of the contraction
    is in the reference, and the reference has one of its own. -/
theorem comparePinned_witness :
    sameTaxa exR exC = true ∧ unrootedOK exR = true ∧ unrootedOK exC = true ∧
    diffL (S false exC) (S false exR) = [] ∧ diffL (S false exR) (S false exC) ≠ [] := by
  have h0 : sameTaxa exR exC = true ∧ unrootedOK exR = true ∧ unrootedOK exC = true := by decide
  obtain ⟨hT, hr, hc⟩ := h0
  have hgr := Canon.good_of_unrootedOK exR hr
  have hgc := Canon.good_of_unrootedOK exC hc
  have hall : exR.tipNames = ["a", "b", "c", "d", "e"] ∧ exC.tipNames = ["a", "b", "c", "d", "e"] := by decide
  have hCf : (exC.splits.filter (counted false)).map (·.below) = [["a", "b"]] := by decide
  have hRf : (exR.splits.filter (counted false)).map (·.below) = [["a", "b"], ["d", "e"]] := by decide
  have keysC : Canon.keys false exC = [canonSide ["a", "b", "c", "d", "e"] ["a", "b"]] := by
    rw [Canon.keys, hall.2]
    show map (canonSide ["a", "b", "c", "d", "e"] ∘ SplitE.below) _ = _
    rw [← map_map, hCf]; rfl
  have keysR : Canon.keys false exR
      = [canonSide ["a", "b", "c", "d", "e"] ["a", "b"], canonSide ["a", "b", "c", "d", "e"] ["d", "e"]] := by
    rw [Canon.keys, hall.1]
    show map (canonSide ["a", "b", "c", "d", "e"] ∘ SplitE.below) _ = _
    rw [← map_map, hRf]; rfl
  refine ⟨hT, hr, hc, ?_, ?_⟩
  · unfold diffL
    simp only [filter_eq_nil_iff, Bool.not_eq_true', Bool.not_eq_false, contains_iff_mem]
    intro k hk
    rw [Canon.mem_S_iff exC false hgc, keysC] at hk
    rw [Canon.mem_S_iff exR false hgr, keysR]
    simp only [mem_singleton] at hk
    simp [hk]
  · intro hnil
    unfold diffL at hnil
    simp only [filter_eq_nil_iff, Bool.not_eq_true', Bool.not_eq_false, contains_iff_mem] at hnil
    have hin : canonSide ["a", "b", "c", "d", "e"] ["d", "e"] ∈ S false exR := by
      rw [Canon.mem_S_iff exR false hgr, keysR]; simp
    have := hnil _ hin
    rw [Canon.mem_S_iff exC false hgc, keysC] at this
    simp only [mem_singleton] at this
    refine Canon.canonSide_ne ["a", "b", "c", "d", "e"] ["d", "e"] ["a", "b"] (by decide) (by decide) ?_ "c"
      (by decide) (by decide) (by decide) this
    intro h
    exact absurd ((h "d").mp (by decide)) (by decide)

/-- `different_taxa_err`: two indexable trees (unique tip names, at least one tip) on
    different taxa are rejected by every entry point. -/
theorem different_taxa_err (r c : T) (tips sc : Bool) (hr : reinitOk r = true) (hc : reinitOk c = true)
    (h : sameTaxa r c = false) :
    compare r c tips sc = .err ∧ compareWeighted r c tips sc = .err ∧ commonEdges r c tips = .err := by
  have h3 := Canon.compareTipIndexes_false r c hr hc h
  refine ⟨?_, ?_, ?_⟩
  · unfold compare; simp [hr, hc, h3]
  · unfold compareWeighted; simp [hr, hc, h3]
  · unfold commonEdges; simp [h3]

/-- the bitset model run by the driver and the canonical-side model used in the proofs
    agree on every input (no hypothesis) -/
theorem bitset_model_eq_canonical (r c : T) (tips sc : Bool) :
    compare r c tips sc = Canon.compare r c tips sc ∧
    compareWeighted r c tips sc = Canon.compareWeighted r c tips sc :=
  ⟨compare_eq r c tips sc, compareWeighted_eq r c tips sc⟩

/-! ## the rooting / child-order clause, about C05's operation models -/

/-- `Reroot` (C05's model `C05.reroot`, any target node) applied to either tree does not change
    the record: by `C05.P.reroot_preserves` the re-rooted trees have the same tips, non-trivial
    splits and tip branches, which is all the record depends on.  (`unrootedOK` of the results
    is the one shape hypothesis kept: re-rooting an unrooted tree on a node with two neighbours
    would make it rooted; the driver evaluates it on every re-rooted copy.) -/
theorem compare_reroot_invariant (r c r' c' : T) (pr pc : List Nat) (tips : Bool)
    (hT : sameTaxa r c = true) (hr : unrootedOK r = true) (hc : unrootedOK c = true)
    (hlr : C05.lensOK r = true) (hlc : C05.lensOK c = true)
    (h1 : C05.reroot r pr = .ok r') (h2 : C05.reroot c pc = .ok c')
    (hr' : unrootedOK r' = true) (hc' : unrootedOK c' = true) :
    compare r' c' tips false = compare r c tips false :=
  compare_invariant r c r' c' tips hT hr hc hr' hc'
    (sameU_reroot (uniq_of_unrootedOK hr) hlr h1) (sameU_reroot (uniq_of_unrootedOK hc) hlc h2)

/-- the same with the hypothesis on the INPUTS: every node the re-rooting walks through, the
    target included, is an inner node (`innerPath`; `Reroot` itself refuses a tip target) — then
    the re-rooted trees are again trees of the property (`unrootedOK_reroot`) and the record is
    unchanged.  No hypothesis on the results. -/
theorem compare_reroot_invariant_inner (r c r' c' : T) (pr pc : List Nat) (tips : Bool)
    (hT : sameTaxa r c = true) (hr : unrootedOK r = true) (hc : unrootedOK c = true)
    (hlr : C05.lensOK r = true) (hlc : C05.lensOK c = true)
    (h1 : C05.reroot r pr = .ok r') (h2 : C05.reroot c pc = .ok c')
    (hpr : innerPath r pr none = true) (hpc : innerPath c pc none = true) :
    compare r' c' tips false = compare r c tips false :=
  compare_reroot_invariant r c r' c' pr pc tips hT hr hc hlr hlc h1 h2
    (unrootedOK_reroot hr hpr h1) (unrootedOK_reroot hc hpc h2)

/-- `exR` re-rooted on its cherry `(a,b)` (path `[0]`): the hypotheses hold -/
example : innerPath exR [0] none = true ∧ (∃ t', C05.reroot exR [0] = .ok t') := ⟨by decide, ⟨_, rfl⟩⟩

/-- `RotateInternalNodes` (C05's model `C05.rotate`, any draws) applied to either tree does not
    change the record. -/
theorem compare_rotate_invariant (r c : T) (dr dc : List Nat) (tips : Bool)
    (hT : sameTaxa r c = true) (hr : unrootedOK r = true) (hc : unrootedOK c = true)
    (hlr : C05.lensOK r = true) (hlc : C05.lensOK c = true)
    (hr' : unrootedOK (C05.rotate r dr) = true) (hc' : unrootedOK (C05.rotate c dc) = true) :
    compare (C05.rotate r dr) (C05.rotate c dc) tips false = compare r c tips false :=
  compare_invariant r c _ _ tips hT hr hc hr' hc' (sameU_rotate r dr hlr) (sameU_rotate c dc hlc)

/-- one-edge root moves (of which `Reroot` is the fold, DESIGN §3.1) towards inner children, in
    both trees: no hypothesis on the results — `unrootedOK` is preserved (`unrootedOK_moveRoot`). -/
theorem compare_moveRoot_invariant (r c : T) (i j : Nat) (ei ej : EdgeD) (ci cj : T) (tips : Bool)
    (hT : sameTaxa r c = true) (hr : unrootedOK r = true) (hc : unrootedOK c = true)
    (hlr : C05.lensOK r = true) (hlc : C05.lensOK c = true)
    (hi : r.kids[i]? = some (ei, ci)) (hii : ci.isLeaf = false)
    (hj : c.kids[j]? = some (ej, cj)) (hji : cj.isLeaf = false) :
    compare (C05.moveRoot r i) (C05.moveRoot c j) tips false = compare r c tips false :=
  compare_invariant r c _ _ tips hT hr hc
    (unrootedOK_moveRoot r i ei ci hr hi hii) (unrootedOK_moveRoot c j ej cj hc hj hji)
    (sameU_moveRoot r i (uniq_of_unrootedOK hr) hlr) (sameU_moveRoot c j (uniq_of_unrootedOK hc) hlc)

/-- The weighted record too depends only on what C05's operations preserve: for trees related by
    `SameU` (same tips, same non-trivial splits with their data, same tip-branch lengths) the three
    term lists agree up to order and the flag is the same. -/
theorem weighted_invariant (r c r' c' : T) (tips : Bool) (hT : sameTaxa r c = true)
    (hr : unrootedOK r = true) (hc : unrootedOK c = true) (hr' : unrootedOK r' = true) (hc' : unrootedOK c' = true)
    (sr : SameU r r') (sc : SameU c c') :
    ∃ w w', compareWeighted r c tips false = .ok w ∧ compareWeighted r' c' tips false = .ok w' ∧
      w'.tree1 ~ w.tree1 ∧ w'.tree2 ~ w.tree2 ∧ w'.common ~ w.common ∧ w'.same = w.same := by
  have hT' := sameTaxa_of_perms hT sr.tips sc.tips
  obtain ⟨w, h0, a1, a2, a3, a4⟩ := weighted_terms r c tips hT hr hc
  obtain ⟨w', h0', b1, b2, b3, b4⟩ := weighted_terms r' c' tips hT' hr' hc'
  obtain ⟨t1, t2, t3⟩ := spec_terms_invariant tips sr sc (Canon.S_nodup c' tips (Canon.good_of_unrootedOK c' hc'))
  refine ⟨w, w', h0, h0', b1.trans (t1.trans a1.symm), b2.trans (t2.trans a2.symm), b3.trans (t3.trans a3.symm), ?_⟩
  rw [a4, b4]
  unfold wSame
  rw [Canon.sameSplits_congr (sr.S_perm tips).symm (sc.S_perm tips).symm, t3.all_eq]

/-- `Reroot` / `RotateInternalNodes` (C05's models) on either tree do not change the weighted
    record either (terms up to order, same flag). -/
theorem weighted_reroot_invariant (r c r' c' : T) (pr pc : List Nat) (tips : Bool)
    (hT : sameTaxa r c = true) (hr : unrootedOK r = true) (hc : unrootedOK c = true)
    (hlr : C05.lensOK r = true) (hlc : C05.lensOK c = true)
    (h1 : C05.reroot r pr = .ok r') (h2 : C05.reroot c pc = .ok c')
    (hr' : unrootedOK r' = true) (hc' : unrootedOK c' = true) :
    ∃ w w', compareWeighted r c tips false = .ok w ∧ compareWeighted r' c' tips false = .ok w' ∧
      w'.tree1 ~ w.tree1 ∧ w'.tree2 ~ w.tree2 ∧ w'.common ~ w.common ∧ w'.same = w.same :=
  weighted_invariant r c r' c' tips hT hr hc hr' hc'
    (sameU_reroot (uniq_of_unrootedOK hr) hlr h1) (sameU_reroot (uniq_of_unrootedOK hc) hlc h2)

theorem weighted_rotate_invariant (r c : T) (dr dc : List Nat) (tips : Bool)
    (hT : sameTaxa r c = true) (hr : unrootedOK r = true) (hc : unrootedOK c = true)
    (hlr : C05.lensOK r = true) (hlc : C05.lensOK c = true)
    (hr' : unrootedOK (C05.rotate r dr) = true) (hc' : unrootedOK (C05.rotate c dc) = true) :
    ∃ w w', compareWeighted r c tips false = .ok w ∧
      compareWeighted (C05.rotate r dr) (C05.rotate c dc) tips false = .ok w' ∧
      w'.tree1 ~ w.tree1 ∧ w'.tree2 ~ w.tree2 ∧ w'.common ~ w.common ∧ w'.same = w.same :=
  weighted_invariant r c _ _ tips hT hr hc hr' hc' (sameU_rotate r dr hlr) (sameU_rotate c dc hlc)

/-- the hypotheses of `compare_moveRoot_invariant` hold on `exR` (move to the cherry `(a,b)`) and
    `exC`; lengths are all 1 -/
example : C05.lensOK exR = true ∧ C05.lensOK exC = true ∧
    (∃ e c, exR.kids[0]? = some (e, c) ∧ c.isLeaf = false) ∧ (∃ e c, exC.kids[0]? = some (e, c) ∧ c.isLeaf = false) :=
  ⟨by decide, by decide, ⟨_, _, rfl, rfl⟩, ⟨_, _, rfl, rfl⟩⟩

/-- `compare_swap`, with the identical-only shortcut: the flag is the same in both orders. -/
theorem sametree_shortcut_swap (r c : T) (tips : Bool) (hT : sameTaxa r c = true)
    (hr : unrootedOK r = true) (hc : unrootedOK c = true) (st st' : Stats)
    (h : compare r c tips true = .ok st) (h' : compare c r tips true = .ok st') : st'.same = st.same := by
  rw [sametree_shortcut r c tips hT hr hc st h,
    sametree_shortcut c r tips (Canon.sameTaxa_symm r c hT) hc hr st' h']
  unfold sameSplits
  exact Bool.and_comm _ _

/-- hypotheses of `different_taxa_err` on a concrete pair: `exR` against `((a,zz),c,(d,e))` -/
def exZ : T := .node ⟨"", []⟩ 0 [exNode [exLeaf "a", exLeaf "zz"], exLeaf "c", exNode [exLeaf "d", exLeaf "e"]]
example : reinitOk exR = true ∧ reinitOk exZ = true ∧ sameTaxa exR exZ = false := by decide

/-! ## any shape: rooted trees, single-child nodes (outside the property's quantifier; tie only) -/

/-- `Compare` without the shortcut on ANY two indexable trees on the same taxa, in closed form
    over the branch lists: the totals count branches (a rooted tree has two root branches for one
    split, both counted, one index entry), `common` counts the counted branches of the compared
    tree that are found (tip branches are taken for found without a lookup). -/
theorem compare_any (r c : T) (tips : Bool) (hr : reinitOk r = true) (hc : reinitOk c = true)
    (hT : sameTaxa r c = true) :
    compare r c tips false =
      .ok ⟨(r.splits.countP (counted tips) : Int) - (c.splits.countP fun e => foundIn r c e && counted tips e : Nat),
           (c.splits.countP fun e => foundIn r c e && counted tips e : Nat),
           (c.splits.countP (counted tips) : Int) - (c.splits.countP fun e => foundIn r c e && counted tips e : Nat),
           c.splits.all (foundIn r c) && c.splits.countP (counted tips) == r.splits.countP (counted tips)⟩ := by
  have hr1 : r.uniqueTips = true := by unfold reinitOk at hr; simp at hr; exact hr.1
  have hc1 : c.uniqueTips = true := by unfold reinitOk at hc; simp at hc; exact hc.1
  have hne : r.tipNames ≠ [] := by unfold reinitOk at hr; simp at hr; exact hr.2
  have hperm := Canon.perm_of_sameTaxa r c hT (Canon.nodup_of_uniqueTips r hr1) (Canon.nodup_of_uniqueTips c hc1)
  have h3 := Canon.compareTipIndexes_of_perm hperm hne
  rw [compare_eq]
  unfold Canon.compare
  simp only [hr, hc, h3, Bool.not_true, Bool.false_eq_true, if_false, Canon.cmpLoop_noSC, Nat.zero_add, Bool.true_and]
  have hf : (Canon.okE (Canon.buildIndex r.tipNames r.splits) c.tipNames) = foundIn r c := by
    funext e; exact okE_eq_foundIn r c e
  rw [hf]

/-- any indexable tree, rooted or not, is reported identical to itself -/
theorem compare_self (t : T) (tips : Bool) (ht : reinitOk t = true) :
    compare t t tips false = .ok ⟨0, (t.splits.countP (counted tips) : Nat), 0, true⟩ := by
  have hT : sameTaxa t t = true := Canon.sameTaxa_of_perm t t (Perm.refl _)
  rw [compare_any t t tips ht ht hT]
  have h1 : (t.splits.countP fun e => foundIn t t e && counted tips e) = t.splits.countP (counted tips) := by
    apply countP_congr
    intro e he
    rw [foundIn_self t e he]; simp
  have h2 : t.splits.all (foundIn t t) = true := all_eq_true.mpr (foundIn_self t)
  rw [h1, h2]
  simp

/-- the two root branches of a rooted tree have `EqualOrComplement` bitsets (one index entry) -/
theorem rooted_root_branches (d : NodeD) (p : Nat) (e1 e2 : EdgeD) (t1 t2 : T)
    (hn : (T.node d p [(e1, t1), (e2, t2)]).tipNames.Nodup) :
    eqOrCompl (key (T.node d p [(e1, t1), (e2, t2)]).tipNames ⟨t1.leaves, e1, t1.isLeaf⟩)
      (key (T.node d p [(e1, t1), (e2, t2)]).tipNames ⟨t2.leaves, e2, t2.isLeaf⟩) = true := by
  have hall : (T.node d p [(e1, t1), (e2, t2)]).tipNames = t1.leaves ++ t2.leaves := by simp [T.tipNames, leavesL]
  obtain ⟨n1, n2, hd⟩ := nodup_append.mp (hall ▸ hn)
  rw [eqOrCompl_key _ _ ⟨t1.leaves, e1, t1.isLeaf⟩ ⟨t2.leaves, e2, t2.isLeaf⟩ (Perm.refl _) hn n1 n2, beq_iff_eq,
    canonSide_eq_iff _ _ _ hn n1 n2]
  -- the two sides partition the taxa: complementary
  refine Or.inr fun x hx => ⟨fun h1 h2 => hd x h1 x h2 rfl, fun h2 => ?_⟩
  rw [hall, mem_append] at hx
  exact hx.resolve_right h2

/-- `gotree compare edges`: the row of a branch of the reference says terminal, its topological
    depth, and "found" exactly when its split is a split (tip branches included) of the compared tree. -/
theorem edgeRow_spec (r c : T) (hT : sameTaxa r c = true) (hr : unrootedOK r = true) (hc : unrootedOK c = true)
    (s : SplitE) (hs : s ∈ r.splits) :
    edgeRow r c s = (s.tip, lightSize r.tipNames (canonSide r.tipNames s.below),
                     (S true c).contains (canonSide r.tipNames s.below)) := by
  have hgc := Canon.good_of_unrootedOK c hc
  have hnr := Canon.nodup_of_uniqueTips r (Canon.good_parts (Canon.good_of_unrootedOK r hr)).1
  have hnc := Canon.nodup_of_uniqueTips c (Canon.good_parts hgc).1
  have hp := Canon.perm_of_sameTaxa r c hT hnr hnc
  unfold edgeRow
  rw [Canon.lightSize_canonSide _ _ hnr (below_sublist_tipNames r s hs)]
  congr 2
  rw [Bool.eq_iff_iff, contains_iff_mem, Canon.mem_S_iff c true hgc, any_eq_true, Canon.keys,
    filter_eq_self.mpr fun a _ => Canon.counted_true a, mem_map]
  refine exists_congr fun e2 => and_congr_right fun he2 => ?_
  rw [eqOrCompl_key _ _ s e2 hp hnr (T.below_nodup hnr s hs) (T.below_nodup hnc e2 he2), beq_iff_eq]
  exact eq_comm

/-! ## through `ReinitIndexes` and the real hash map (C04's refinement, no assumption left) -/

/-- `Compare` modelled through C04's `ReinitIndexes` (bitsets, tip counts, additive hashes for an
    arbitrary name hash `H`) and C04's `hashmap.HashMap` (bucket by `Edge.HashCode`, `HashEquals`
    inside the bucket, rehash under an arbitrary policy) returns the record of `compare`, for
    every `H`, every policy and ALL inputs; the map never panics.  Uses `C04.Holds.put`,
    `C04.Holds.get` (the relation behind `hm_refines`/`ei_refines`) with the key laws of the
    index records (`C04.TreeKey.keyLaws`, from C04's `spec_equals_iff_sameSplit`/`spec_hashCode_of_sameSplit`,
    as in `edge_keys_lawful` but across the two trees). -/
theorem compareHM_eq (H : String → UInt64) (policy : Nat → Nat → Bool) (r c : T) (tips sc : Bool) :
    compareHM H policy r c tips sc = .res (compare r c tips sc) := by
  unfold compareHM compare
  rcases reinit_cases H r with ⟨hr, _, he⟩ | ⟨hr, he⟩
  · simp [he, hr]
  obtain ⟨m, hm, hrep⟩ := buildHM_rep H policy r hr (Perm.refl _)
  rcases reinit_cases H c with ⟨hc, _, he'⟩ | ⟨hc, he'⟩
  · simp [he, hm, he', hr, hc]
  simp only [he, hm, he', hr, hc, Bool.not_true, Bool.false_eq_true, if_false]
  cases h3 : compareTipIndexes r.tipNames c.tipNames with
  | false => simp
  | true =>
    have hp := Canon.perm_of_compareTipIndexes hr hc h3
    simp only [Bool.not_true, Bool.false_eq_true, if_false]
    rw [zip_map_self, ← recs, cmpLoopHM_eq (nodup_of_reinitOk hr) hrep c hp.symm tips sc c.splits fun _ h => h]

theorem compareWeightedHM_eq (H : String → UInt64) (policy : Nat → Nat → Bool) (r c : T) (tips sc : Bool) :
    compareWeightedHM H policy r c tips sc = .res (compareWeighted r c tips sc) := by
  unfold compareWeightedHM compareWeighted
  rcases reinit_cases H r with ⟨hr, _, he⟩ | ⟨hr, he⟩
  · simp [he, hr]
  obtain ⟨m, hm, hrep⟩ := buildHM_rep H policy r hr (Perm.refl _)
  rcases reinit_cases H c with ⟨hc, _, he'⟩ | ⟨hc, he'⟩
  · simp [he, hm, he', hr, hc]
  simp only [he, hm, he', hr, hc, Bool.not_true, Bool.false_eq_true, if_false]
  cases h3 : compareTipIndexes r.tipNames c.tipNames with
  | false =>
    obtain ⟨m2, hm2, _⟩ := buildHM_rep H policy c hc (Perm.refl _)
    simp [hm2]
  | true =>
    have hp := Canon.perm_of_compareTipIndexes hr hc h3
    have hn := nodup_of_reinitOk hr
    obtain ⟨m2, hm2, hrep2⟩ := buildHM_rep H policy c hc hp.symm
    simp only [hm2, Bool.not_true, Bool.false_eq_true, if_false]
    rw [zip_map_self, zip_map_self, ← recs, ← recs, wLoop1HM_eq hn hrep c hp.symm tips sc c.splits fun _ h => h]
    simp only [wLoop2HM_eq hn hrep2 r (Perm.refl _) tips sc r.splits fun _ h => h]

/-- ★ `compare_counts` for the model that goes through the hash map with the real hash. -/
theorem compare_counts_hm (H : String → UInt64) (policy : Nat → Nat → Bool) (r c : T) (tips : Bool)
    (hT : sameTaxa r c = true) (hr : unrootedOK r = true) (hc : unrootedOK c = true) :
    compareHM H policy r c tips false =
      .res (.ok ⟨((diffL (S tips r) (S tips c)).length : Int), ((interL (S tips r) (S tips c)).length : Int),
                 ((diffL (S tips c) (S tips r)).length : Int), sameSplits r c tips⟩) := by
  rw [compareHM_eq, compare_counts r c tips hT hr hc]

theorem weighted_terms_hm (H : String → UInt64) (policy : Nat → Nat → Bool) (r c : T) (tips : Bool)
    (hT : sameTaxa r c = true) (hr : unrootedOK r = true) (hc : unrootedOK c = true) :
    ∃ w, compareWeightedHM H policy r c tips false = .res (.ok w) ∧
      w.tree1 ~ onlyLens (U tips r) (U tips c) ∧ w.tree2 ~ onlyLens (U tips c) (U tips r) ∧
      w.common ~ commonDiffs (U tips r) (U tips c) ∧ w.same = wSame r c tips := by
  obtain ⟨w, h0, h⟩ := weighted_terms r c tips hT hr hc
  exact ⟨w, by rw [compareWeightedHM_eq, h0], h⟩

/-- `different_taxa_err` through `ReinitIndexes` and the hash map: on two indexable trees with
    other taxa the record carries the error, for every name hash and every rehash policy. -/
theorem different_taxa_err_hm (H : String → UInt64) (policy : Nat → Nat → Bool) (r c : T) (tips sc : Bool)
    (hr : reinitOk r = true) (hc : reinitOk c = true) (h : sameTaxa r c = false) :
    compareHM H policy r c tips sc = .res .err ∧ compareWeightedHM H policy r c tips sc = .res .err := by
  obtain ⟨h1, h2, _⟩ := different_taxa_err r c tips sc hr hc h
  exact ⟨by rw [compareHM_eq, h1], by rw [compareWeightedHM_eq, h2]⟩

/-- The code before fix e41ab42 tested `err` where `inerr` was meant and went on comparing a tree
    with other taxa (bitsets of another width looked up in the hash map).  The pinned variants
    `compareHMFallthrough` / `compareWeightedHMFallthrough` follow that path: nothing panics, for
    every name hash and every rehash policy, and the records are the same on ALL inputs — the
    slip was not observable through `Err` (only through the counts a rejected record carries,
    which the harness reports and the driver ties to `errRecord`). -/
theorem err_slip_pinned_harmless (H : String → UInt64) (policy : Nat → Nat → Bool) (r c : T) (tips sc : Bool) :
    compareHMFallthrough H policy r c tips sc = .res (compare r c tips sc) ∧
    compareWeightedHMFallthrough H policy r c tips sc = .res (compareWeighted r c tips sc) :=
  ⟨by rw [compareHMFallthrough_eq, compareHM_eq], by rw [compareWeightedHMFallthrough_eq, compareWeightedHM_eq]⟩

/-! ## rotation without hypothesis on the result; weighted swap -/

/-- `compare_rotate_invariant` with no hypothesis on the rotated trees (`unrootedOK_rotate`) -/
theorem compare_rotate_invariant_full (r c : T) (dr dc : List Nat) (tips : Bool)
    (hT : sameTaxa r c = true) (hr : unrootedOK r = true) (hc : unrootedOK c = true)
    (hlr : C05.lensOK r = true) (hlc : C05.lensOK c = true) :
    compare (C05.rotate r dr) (C05.rotate c dc) tips false = compare r c tips false :=
  compare_rotate_invariant r c dr dc tips hT hr hc hlr hlc (unrootedOK_rotate r dr hr) (unrootedOK_rotate c dc hc)

theorem weighted_rotate_invariant_full (r c : T) (dr dc : List Nat) (tips : Bool)
    (hT : sameTaxa r c = true) (hr : unrootedOK r = true) (hc : unrootedOK c = true)
    (hlr : C05.lensOK r = true) (hlc : C05.lensOK c = true) :
    ∃ w w', compareWeighted r c tips false = .ok w ∧
      compareWeighted (C05.rotate r dr) (C05.rotate c dc) tips false = .ok w' ∧
      w'.tree1 ~ w.tree1 ∧ w'.tree2 ~ w.tree2 ∧ w'.common ~ w.common ∧ w'.same = w.same :=
  weighted_rotate_invariant r c dr dc tips hT hr hc hlr hlc (unrootedOK_rotate r dr hr) (unrootedOK_rotate c dc hc)

/-- weighted swap, the unshared part: swapping the trees swaps the two lists of unshared lengths.
    (That the shared differences change sign is checked by the driver's relation on every run,
    not proved here.) -/
theorem weighted_swap (r c : T) (tips : Bool) (hT : sameTaxa r c = true)
    (hr : unrootedOK r = true) (hc : unrootedOK c = true) :
    ∃ w w', compareWeighted r c tips false = .ok w ∧ compareWeighted c r tips false = .ok w' ∧
      w'.tree1 ~ w.tree2 ∧ w'.tree2 ~ w.tree1 := by
  obtain ⟨w, h0, a1, a2, _, _⟩ := weighted_terms r c tips hT hr hc
  obtain ⟨w', h0', b1, b2, _, _⟩ := weighted_terms c r tips (Canon.sameTaxa_symm r c hT) hc hr
  exact ⟨w, w', h0, h0', b1.trans a2.symm, b2.trans a1.symm⟩

/-! ## absent branch lengths -/

/-- `weighted_terms` for the function that reads an absent length as 0 (`compareWeighted0`): its
    terms are the Spec's terms of the trees with absent lengths replaced by 0 — lengths and length
    differences, never the "no length" marker -1. -/
theorem weighted_terms0 (r c : T) (tips : Bool) (hT : sameTaxa r c = true)
    (hr : unrootedOK r = true) (hc : unrootedOK c = true) :
    ∃ w, compareWeighted0 r c tips false = .ok w ∧
      w.tree1 ~ onlyLens (U tips r.zeroLens) (U tips c.zeroLens) ∧
      w.tree2 ~ onlyLens (U tips c.zeroLens) (U tips r.zeroLens) ∧
      w.common ~ commonDiffs (U tips r.zeroLens) (U tips c.zeroLens) ∧ w.same = wSame0 r c tips :=
  weighted_terms r.zeroLens c.zeroLens tips (by rw [sameTaxa_zeroLens]; exact hT)
    (by rw [unrootedOK_zeroLens]; exact hr) (by rw [unrootedOK_zeroLens]; exact hc)

/-- the unweighted record does not look at lengths at all -/
theorem compare_zeroLens (r c : T) (tips : Bool) (hT : sameTaxa r c = true)
    (hr : unrootedOK r = true) (hc : unrootedOK c = true) :
    ∃ st st', compare r c tips false = .ok st ∧ compare r.zeroLens c.zeroLens tips false = .ok st' ∧
      st'.tree1 = ((diffL (S tips r.zeroLens) (S tips c.zeroLens)).length : Int) ∧
      st.tree1 = ((diffL (S tips r) (S tips c)).length : Int) :=
  ⟨_, _, compare_counts r c tips hT hr hc,
   compare_counts r.zeroLens c.zeroLens tips (by rw [sameTaxa_zeroLens]; exact hT)
     (by rw [unrootedOK_zeroLens]; exact hr) (by rw [unrootedOK_zeroLens]; exact hc), rfl, rfl⟩

/-- F89 (fixed by 462ffd9) as a statement about the pinned model (`compareWeighted`, marker kept — the code before the
    time of writing): the quartets `((a,b),c,d)` and `((a,c),b,d)` without any branch length are
    trees of the property, and the model's weighted Robinson-Foulds sum of the terms the theorem
    `weighted_terms` gives them (one reference-only and one compared-only split, each "of length"
    the marker -1) is negative, whereas with absent = 0 it is 0. -/
def exQ1 : T := .node ⟨"", []⟩ 0
  [(EdgeD.blank, .node ⟨"", []⟩ 0 [(EdgeD.blank, T.leaf "a"), (EdgeD.blank, T.leaf "b")]),
   (EdgeD.blank, T.leaf "c"), (EdgeD.blank, T.leaf "d")]
def exQ2 : T := .node ⟨"", []⟩ 0
  [(EdgeD.blank, .node ⟨"", []⟩ 0 [(EdgeD.blank, T.leaf "a"), (EdgeD.blank, T.leaf "c")]),
   (EdgeD.blank, T.leaf "b"), (EdgeD.blank, T.leaf "d")]

theorem weighted_absent_pinned_negative :
    sameTaxa exQ1 exQ2 = true ∧ unrootedOK exQ1 = true ∧ unrootedOK exQ2 = true ∧
    wrf ⟨[NIL], [NIL], [], false⟩ = -2 ∧ wrf ⟨[0], [0], [], false⟩ = 0 := by
  refine ⟨by decide, by decide, by decide, ?_, ?_⟩
  · simp [wrf, NIL]; grind
  · simp [wrf]; grind

/-! ## The glue of `gotree compare trees` (cmd/comparetrees.go) and the call protocol

  The command is modelled as an interpreter (`cliOutput`, Model/C08Cli.lean) of a table of facts
  about its source; the table is regenerated from the working tree on every run
  (`harness/c08/extract.go` → `Gotree/Gen/C08Glue.lean`). -/

/-- option priorities, part 1: `--weighted` alone decides which library function is called;
    `--tips` and `--binary` are passed on as its `tips` / identical-only arguments; `--rf` never
    reaches the library -/
theorem cli_mode_priority (f : Flags) :
    libCall expectedGlue f = some (if f.weighted then "CompareWeighted" else "Compare", f.tips, f.binary) := by
  rcases f with ⟨t, b, r, w⟩
  cases t <;> cases b <;> cases r <;> cases w <;> decide

/-- option priorities, part 2: the row printed is the one of `--binary` whenever it is given, else the
    one of `--weighted`, else the one of `--rf`, else the four columns — the documented modes -/
theorem cli_row_format (f : Flags) :
    (rowEvent expectedGlue f).map (·.text) =
      some (if f.binary then "%d\t%v\n" else if f.weighted then "%d\t%E\t%E\n"
            else if f.rf then "%d\n" else "%d\t%d\t%d\t%d\n") := by
  have h := congrArg (Option.map (·.1)) (rowEvent_eq f)
  rw [Option.map_map] at h
  rw [show (fun e : Event => e.text) = (·.1) ∘ fun e => (e.text, e.fmt, e.args) from rfl, h]
  unfold rowOf
  repeat' split
  all_goals rfl

theorem cli_header (f : Flags) :
    headerOf expectedGlue f =
      (if f.binary then ["tree\tidentical\n"] else if f.weighted then ["tree\tweighted_RF\tKF\n"]
       else if f.rf then [] else ["tree\treference\tcommon\tcompared\n"]) := by
  rcases f with ⟨t, b, r, w⟩
  cases t <;> cases b <;> cases r <;> cases w <;> decide

/-- the record the command reads for a tree of the property is the Spec's -/
theorem recOf_compare (f : Flags) (hw : f.weighted = false) (hb : f.binary = false) (r c : T) (id : Nat)
    (hT : sameTaxa r c = true) (hr : unrootedOK r = true) (hc : unrootedOK c = true) :
    recOf expectedGlue f r c id = some (.ok (specRec r c f.tips id)) := by
  unfold recOf
  rw [cli_mode_priority, hw, hb]
  simp [compare_counts r c f.tips hT hr hc, specRec]

/-- ★ `gotree compare trees -i r -c cs [-l]` on trees of the property writes the header and, for the
    compared tree number i, the line `i⇥|R\C|⇥|R∩C|⇥|C\R|` of the Spec, in file order, and succeeds. -/
theorem cli_plain_output (r : T) (cs : List T) (tips : Bool) (hr : unrootedOK r = true)
    (h : ∀ c ∈ cs, sameTaxa r c = true ∧ unrootedOK c = true) :
    cliOutput expectedGlue (plainF tips) r cs =
      some (String.join ("tree\treference\tcommon\tcompared\n" :: specRows plainLine r tips cs 0), false) := by
  unfold cliOutput
  rw [rows_spec _ _ plainLine r tips cs 0 fun c hc id =>
    ⟨_, recOf_compare (plainF tips) rfl rfl r c id (h c hc).1 hr (h c hc).2, rowText_plain tips _⟩, cli_header]
  simp [plainF]

/-- `--rf`: no header, one line `|R\C| + |C\R|` per compared tree, in file order -/
theorem cli_rf_output (r : T) (cs : List T) (tips : Bool) (hr : unrootedOK r = true)
    (h : ∀ c ∈ cs, sameTaxa r c = true ∧ unrootedOK c = true) :
    cliOutput expectedGlue (rfF tips) r cs = some (String.join (specRows rfLine r tips cs 0), false) := by
  unfold cliOutput
  rw [rows_spec _ _ rfLine r tips cs 0 fun c hc id =>
    ⟨_, recOf_compare (rfF tips) rfl rfl r c id (h c hc).1 hr (h c hc).2, rowText_rf tips _⟩, cli_header]
  simp [rfF]

/-- the hypotheses are satisfiable on `exR` against `[exC, exR]` (a contraction, the tree itself) -/
example : cliOutput expectedGlue (plainF false) exR [exC, exR] =
    some (String.join ("tree\treference\tcommon\tcompared\n" :: specRows plainLine exR false [exC, exR] 0), false) :=
  cli_plain_output exR [exC, exR] false (by decide)
    (by intro c hc; simp at hc; rcases hc with rfl | rfl <;> exact ⟨by decide, by decide⟩)

/-- with `--binary` the counts of the record are those of the shortcut; its flag is the Spec's -/
theorem recOf_binary (f : Flags) (hw : f.weighted = false) (hb : f.binary = true) (r c : T) (id : Nat)
    (hT : sameTaxa r c = true) (hr : unrootedOK r = true) (hc : unrootedOK c = true) :
    ∃ a b d, recOf expectedGlue f r c id = some (.ok ⟨id, a, b, d, sameSplits r c f.tips⟩) := by
  obtain ⟨st, hst, hs⟩ := Canon.view_ok (f := Stats.same) (x := compare r c f.tips true) (b := sameSplits r c f.tips)
    (by have h := shortcut_same_flag r c f.tips; rw [compare_counts r c f.tips hT hr hc] at h; exact h)
  refine ⟨st.tree1, st.tree2, st.common, ?_⟩
  unfold recOf
  rw [cli_mode_priority, hw, hb]
  simp [hst, hs]

/-- `--binary` (with or without `--rf`): the header `tree⇥identical` and, for the compared tree number
    i, the line `i⇥true|false` saying whether its split set is the reference's; `--rf` changes nothing -/
theorem cli_binary_output (f : Flags) (hw : f.weighted = false) (hb : f.binary = true) (r : T) (cs : List T)
    (hr : unrootedOK r = true) (h : ∀ c ∈ cs, sameTaxa r c = true ∧ unrootedOK c = true) :
    cliOutput expectedGlue f r cs = some (String.join ("tree\tidentical\n" :: specRows binaryLine r f.tips cs 0), false) := by
  unfold cliOutput
  rw [rows_spec _ _ binaryLine r f.tips cs 0 fun c hc id => by
    obtain ⟨a, b, d, hrec⟩ := recOf_binary f hw hb r c id (h c hc).1 hr (h c hc).2
    exact ⟨_, hrec, rowText_binary f hb _⟩, cli_header, hb]
  simp

/-- with the identical-only shortcut too, `CompareWeighted` (absent length = 0) answers on trees of the
    property, and its flag is the Spec's weighted identity -/
theorem weighted0_shortcut_ok (r c : T) (tips : Bool) (hT : sameTaxa r c = true)
    (hr : unrootedOK r = true) (hc : unrootedOK c = true) :
    ∃ w, compareWeighted0 r c tips true = .ok w ∧ w.same = wSame0 r c tips := by
  obtain ⟨w0, h0, _, _, _, hs⟩ := weighted_terms0 r c tips hT hr hc
  have hf := Canon.compareWeighted_shortcut_flag r.zeroLens c.zeroLens tips
  rw [← compareWeighted_eq, ← compareWeighted_eq, show compareWeighted r.zeroLens c.zeroLens tips false = _ from h0] at hf
  obtain ⟨w, hw, hsame⟩ := Canon.view_ok (f := WStats.same) hf
  exact ⟨w, hw, hsame.trans hs⟩

theorem rows_wbinary (f : Flags) (hw : f.weighted = true) (hb : f.binary = true) (r : T) (hr : unrootedOK r = true) :
    ∀ (cs : List T) (id : Nat), (∀ c ∈ cs, sameTaxa r c = true ∧ unrootedOK c = true) →
      rowsUntilErr expectedGlue f r cs id = some (specRowsW r f.tips cs id, false)
  | [], _, _ => rfl
  | c :: cs, id, h => by
    have hc := h c (by simp)
    have ih := rows_wbinary f hw hb r hr cs (id + 1) (fun x hx => h x (by simp [hx]))
    obtain ⟨w, hw0, hs⟩ := weighted0_shortcut_ok r c f.tips hc.1 hr hc.2
    have hrec : recOf expectedGlue f r c id = some (.ok ⟨id, 0, 0, 0, wSame0 r c f.tips⟩) := by
      unfold recOf
      rw [cli_mode_priority, hw, hb]
      simp [hw0, hs]
    unfold rowsUntilErr
    rw [hrec]
    simp only [rowText_binary f hb, ih, specRowsW]

/-- `--weighted --binary` (with or without `--rf`): `i⇥true|false`, true exactly when the compared
    tree has the reference's splits with the reference's lengths (an absent length counting 0) -/
theorem cli_wbinary_output (f : Flags) (hw : f.weighted = true) (hb : f.binary = true) (r : T) (cs : List T)
    (hr : unrootedOK r = true) (h : ∀ c ∈ cs, sameTaxa r c = true ∧ unrootedOK c = true) :
    cliOutput expectedGlue f r cs = some (String.join ("tree\tidentical\n" :: specRowsW r f.tips cs 0), false) := by
  unfold cliOutput
  rw [rows_wbinary f hw hb r hr cs 0 h, cli_header, hb]
  simp

/-- the rejection clause at the command: a first compared tree on other taxa makes the command
    fail, whatever the flags (in the modes whose rows are text) -/
theorem cli_difftaxa_fails (f : Flags) (r c : T) (cs : List T) (hr : reinitOk r = true) (hc : reinitOk c = true)
    (h : sameTaxa r c = false) (out : String × Bool) (ho : cliOutput expectedGlue f r (c :: cs) = some out) :
    out.2 = true := by
  have hd := different_taxa_err r c f.tips f.binary hr hc h
  have hz : compareWeighted0 r c f.tips f.binary = .err :=
    (different_taxa_err r.zeroLens c.zeroLens f.tips f.binary (by rw [reinitOk_zeroLens]; exact hr)
      (by rw [reinitOk_zeroLens]; exact hc) (by rw [sameTaxa_zeroLens]; exact h)).2.1
  have h1 : rowsUntilErr expectedGlue f r (c :: cs) 0 = some ([], true) := by
    unfold rowsUntilErr recOf
    rw [cli_mode_priority]
    cases hw : f.weighted <;> simp [hd.1, hz]
  unfold cliOutput at ho
  rw [h1] at ho
  simp at ho
  rw [← ho]

/-- `if cpus < 1 { cpus = 1 }`: at least one worker is started, so every item gets a record -/
theorem workersOf_pos (cpus : Int) : 1 ≤ workersOf cpus := by
  unfold workersOf
  split <;> omega

/-- the call protocol: with an indexable reference the caller that drains the channel gets exactly
    one record per item whatever `cpus` (0 and negative values included), and an item that carries
    the reader's error gets a record carrying an error -/
theorem compareCall_records (r : T) (items : List Item) (tips sc : Bool) (cpus : Int) (hr : reinitOk r = true) :
    compareCall (some r) items tips sc cpus = some (items.map fun it => compareItem r it tips sc) ∧
    compareItem r .readErr tips sc = .err ∧ compareWeightedItem r .readErr tips sc = .err ∧
    compareCall none items tips sc cpus = none := by
  have : (workersOf cpus == 0) = false := by have := workersOf_pos cpus; rw [beq_eq_false_iff_ne]; omega
  exact ⟨by simp [compareCall, hr, this], by simp [compareItem, hr], by simp [compareWeightedItem, hr], rfl⟩

end Gotree.C08

/-
  C19 — property theorems.

  General (all lists of registrations, no bound; `Reg` is the row type of the regenerated table):
    noConflict_any_order   ★  no conflict ⇒ in every order of the init() functions every flag reads its documented default
    conflict_breaks_one    ★  a conflict ⇒ in every order some flag reads another default (no lucky order)
    order_irrelevant_iff      the two together: the order is irrelevant exactly when there is no conflict
    isolation              ★  no conflict ⇒ dropping the registrations of one command changes what no other command reads
    isolation_add             … nor do the registrations that run later
    isolation_reads / sole_registrar_removed / readIsolated_of_two
                              the same for a command that reads a variable it binds to no option
    omitted_eq_explicit    ★  no conflict ⇒ `--flag=<documented default>` anywhere on the command line changes no
                              variable the command reads (any init order, any other options)
    explicit_default_no_effect / explicit_default_differs / conflict_observable   its core, and the converse
    same_effect ★ / table_same_effect   the clause "same EFFECT" under its explicit hypothesis `ReadsOnly body` (the command
                              computes what it does from the option variables alone); readsOnly_of_vars (any function of
                              finitely many reads is such a body); given_not_readsOnly (the hypothesis cannot be dropped:
                              `Changed` is not a function of the variables — findings F45, F55, table (f))
    aliasRegion, explicit_default_overrides_alias, noAlias_hpre   the region `hpre` excludes (an alias of the option given
                              earlier on the line), the conclusion is false there, and it is empty when no command sees two
                              flags on one variable (Spec `noAliasInCommand`; false today: finding F87, table_noAliasInCommand_partial)
    spec_of_decisions / decisions_of_spec   the two per-run decisions are exactly the Spec predicate `tableOK`
    help_default_is_used(_except)   with the model of cobra 1.5's flag resolution (`effective` = the flag the command
                              line sets, `shown` = the flag whose line --help prints): the printed default is the value used
  Per run, on the table regenerated from the live command tree (Gen/C19Flags.lean), decided by the kernel
  (the predicates over pairs of rows through the checks of Lemmas/C19Table.lean):
    table_noConflict ★, table_current_is_default ★, table_complete, table_usage_claims,
    table_shadowAgree_partial, table_help_default_is_used_partial (all but `download itol --format`, open finding F47),
    table_noAliasInCommand_partial (all but `reformat --input-format`, open finding F87),
    table_satisfies_spec, table_any_init_order, table_omitted_eq_explicit (the flagships instantiated:
    whatever the order of the init() functions, every flag of every command reads the default its
    help text shows, and spelling that default out changes nothing)
  Pinned variants (`decide` on concrete witnesses):
    F24 before 7e6fdde (`cutoff` bound by `compute consensus --freq-min` 0.5 and `brlen setmin --length` 0):
      noConflict_/finalValue_/current_is_default_/isolation_/explicitSame_/tableOK_pinned_fails, pinned_no_lucky_order
    F47 (open): tableOK_pinnedF47, shown_pinnedF47_fails, shadowAgree_pinnedF47_fails;   c6119d8: readIsolated_pinnedPanther_fails
  `gotree rename` (open finding F45, model Model/C19Rename):
    Rename.renameMode_explicit_default_partial, …_fails, renameMode_replace_default_fails,
    Rename.renameModeByValue_explicit_default (the proposed repair satisfies the full statement)
  Global options after parsing (model Model/C19PreRun of cmd/root.go PersistentPreRun, comparetrees clamp):
    PreRun.preRun_defaults, formatOf_unknown, seedOf_none_iff, reproducible_iff, clampThreads_default/_le/_idem
  Option glue of the anchored commands (Model/C19Glue): Glue.consensusAccepts_iff, consensus_default_accepted,
    divide_default_names, annotate_none_is_default, annotate_map_priority, setmin_default_noop, setmin_ge,
    commentTargets_default/_given, autoLength_default/_ge, topologiesNbTips_input/_default,
    writes_all_modelled (table (e) Gen/C19Writes.lean: every post-parse assignment to an option variable is modelled)
  Table (f) Gen/C19Changed.lean (every `Flags().Changed` test in a command body): Glue.changed_all_accounted;
    `gotree repopulate` (fixed by 4cde097): Repopulate.accepts_explicit_default, acceptsPinned_explicit_default_fails
  Shared I/O glue (Model/C19IO: cmd/root.go openWriteFile, closeWriteFile, readTree; io/utils OpenFile) and table (g)
    Gen/C19Sentinels.lean (every literal that glue and PersistentPreRun compare an option value with, regenerated):
    IO.openWrite_default, openWrite_stdout_iff, openWrite_file, closes_iff_file (the two sites agree: Close() exactly when a
    file was created), openRead_stdin_iff, openRead_default, predictOutput_default/_file, readTree_agrees, readTree_default,
    formatCases_agree, seedSentinel_agrees, sentinels_check (the models' literals ARE the source's)
  `gotree brlen setrand` (open finding F55 / SetrandMeanRangeGiven): Setrand.meanRange_explicit_default_partial, …_defaults_fails
-/
import Gotree.Lemmas.C19Table
import Gotree.Gen.C19Flags
import Gotree.Lemmas.C19Rename
import Gotree.Model.C19PreRun
import Gotree.Model.C19Glue
import Gotree.Gen.C19Writes
import Gotree.Gen.C19Changed
import Gotree.Model.C19IO
import Gotree.Gen.C19Sentinels

namespace Gotree.C19

/-- ★ Go's initialisation order is irrelevant exactly when the property holds (⇒ direction) -/
theorem noConflict_any_order (regs regs' : List Reg) (h : noConflict regs = true) (hp : regs'.Perm regs) :
    ∀ r ∈ regs, finalValue regs' r.var = some r.default := by
  intro r hr
  exact finalValue_of_noConflict ((noConflict_perm hp).trans h) (hp.mem_iff.mpr hr)

/-- ★ with a conflict *every* order leaves some option with a default that is not the documented one -/
theorem conflict_breaks_one (regs regs' : List Reg) (h : ¬ noConflict regs = true) (hp : regs'.Perm regs) :
    ∃ r ∈ regs, finalValue regs' r.var ≠ some r.default := by
  have ⟨r, hr, s, hs, hv, hd⟩ : ∃ r ∈ regs, ∃ s ∈ regs, r.var = s.var ∧ r.default ≠ s.default := by
    simpa [noConflict_iff] using h
  obtain ⟨q, _, _, hfd⟩ := finalValue_mem (hp.mem_iff.mpr hr)
  by_cases hdr : q.default = r.default
  · exact ⟨s, hs, by rw [← hv, hfd, hdr]; exact fun he => hd (Option.some.inj he)⟩
  · exact ⟨r, hr, by rw [hfd]; exact fun he => hdr (Option.some.inj he)⟩

/-- "Go's initialisation order is irrelevant exactly when the property holds" -/
theorem order_irrelevant_iff (regs : List Reg) :
    noConflict regs = true ↔
      ∀ regs' : List Reg, regs'.Perm regs → ∀ r ∈ regs, finalValue regs' r.var = some r.default := by
  refine ⟨fun h regs' => noConflict_any_order regs regs' h, fun h => Decidable.by_contra fun hc => ?_⟩
  obtain ⟨r, hr, hne⟩ := conflict_breaks_one regs regs hc (.refl _)
  exact hne (h regs (.refl _) r hr)

/-- ★ registering the options of command `c'` changes what no flag of another command reads -/
theorem isolation (regs : List Reg) (h : noConflict regs = true) (c' : String) :
    ∀ r ∈ regs, r.path ≠ c' → finalValue (without regs c') r.var = finalValue regs r.var :=
  fun r hr hne => finalValue_sub (fun _ hq => (List.mem_filter.mp hq).1) h
    (List.mem_filter.mpr ⟨hr, by simpa using hne⟩)

/-- the registrations that run later (another file's `init()`) do not change what the earlier ones read -/
theorem isolation_add (regs new : List Reg) (h : noConflict (regs ++ new) = true) :
    ∀ r ∈ regs, finalValue (regs ++ new) r.var = finalValue regs r.var :=
  fun _ hr => (finalValue_sub (fun _ => List.mem_append_left _) h hr).symm

/-- the same for a command that *reads* variable `v` without binding it (no row of its own for `v`):
    leaving out command `c'` changes nothing as long as some other command still registers `v` -/
theorem isolation_reads (regs : List Reg) (h : noConflict regs = true) (v : Nat) (c' : String)
    (hex : ∃ r ∈ regs, r.var = v ∧ r.path ≠ c') :
    finalValue (without regs c') v = finalValue regs v := by
  obtain ⟨r, hr, hv, hne⟩ := hex
  subst hv
  exact isolation regs h c' r hr hne

/-- and when `c'` was the only command registering `v`, the reader falls back to whatever an
    unregistered variable holds: `finalValue` answers `none` -/
theorem sole_registrar_removed (regs : List Reg) (v : Nat) (c' : String)
    (hall : ∀ r ∈ regs, r.var = v → r.path = c') : finalValue (without regs c') v = none := by
  rw [finalValue_eq, List.find?_eq_none.mpr, Option.map_none]
  intro q hq hv
  have hq := List.mem_filter.mp (List.mem_reverse.mp hq)
  simp [hall q hq.1 (eq_of_beq hv)] at hq

/-- the Spec's `seenBy` is the model's `finalValue`, with the Go zero value for an unregistered variable -/
theorem seenBy_eq (t : List Row) (v : Nat) (typ : String) : seenBy t v typ = (finalValue t v).getD (zeroOf typ) := by
  rw [finalValue_eq]; rfl

/-- the Spec predicate on a read holds as soon as the registrars agree and no single command is the
    only one to register the variable -/
theorem readIsolated_of_two (r0 : Row) (rest : List Row) (reader : String)
    (h : noConflict (r0 :: rest) = true) (hvar : ∀ r ∈ r0 :: rest, r.var = r0.var)
    (htwo : ∀ c : String, ∃ r ∈ r0 :: rest, r.path ≠ c) : readIsolated (r0 :: rest) reader = true := by
  simp only [readIsolated, List.all_eq_true, Bool.or_eq_true, beq_iff_eq, seenBy_eq]
  intro c _
  obtain ⟨r, hr, hne⟩ := htwo c
  exact .inr (congrArg (fun o : Option String => o.getD (zeroOf r0.typ))
    (isolation_reads (r0 :: rest) h r0.var c ⟨r, hr, hvar r hr, hne⟩))

/-- the two per-run decisions give the whole Spec predicate -/
theorem spec_of_decisions (t : List Row) (h1 : noConflict t = true)
    (h2 : t.all (fun r => r.current == r.default) = true) : tableOK t = true := by
  have hi : isolated t = true := by
    simp only [isolated, isolatedFrom, List.all_eq_true, Bool.or_eq_true, beq_iff_eq, readBy_eq]
    exact fun c _ r hr => Decidable.or_iff_not_imp_left.mpr (isolation t h1 c r hr)
  rw [tableOK, show defaultsUsed t = true from h2, sharedAgree_eq, h1, hi]; rfl

/-- and conversely the Spec predicate contains both decisions -/
theorem decisions_of_spec (t : List Row) (h : tableOK t = true) :
    noConflict t = true ∧ t.all (fun r => r.current == r.default) = true := by
  unfold tableOK at h
  simp only [Bool.and_eq_true] at h
  exact ⟨by rw [← sharedAgree_eq]; exact h.1.2, h.1.1⟩

/-! ### "leaving an option out has the same effect as passing the default value shown in its help text" -/

/-- if the variable of `r` holds the documented default of `r` once the `init()` functions ran, then
    passing `--r=<documented default>` on the command line — AFTER options `pre` NONE OF WHICH WRITES
    THE SAME VARIABLE (`hpre`; the excluded region is `aliasRegion`: an alias of `r` given earlier,
    see `explicit_default_overrides_alias`), before any options `post` — changes nothing the command can read -/
theorem explicit_default_no_effect (regs : List Reg) (r : Reg) (h : finalValue regs r.var = some r.default)
    (pre post : List (Reg × String)) (hpre : ∀ g ∈ pre, g.1.var ≠ r.var) :
    ∀ v, reads (atRun regs (pre ++ (r, r.default) :: post)) v = reads (atRun regs (pre ++ post)) v := by
  unfold reads atRun
  rw [parse_append, parse_append]
  have h1 : (parse (run regs []) pre).lookup r.var = some r.default := by
    rw [parse_untouched _ _ _ hpre]; exact h
  exact parse_congr (setFlag_same h1) post

/-- ★ without a conflict, omitting an option = passing its documented default, for every flag, every
    variable read, whatever order the `init()` functions ran in, and with any other options given —
    provided no option given BEFORE it writes the same variable (`hpre`; false in `aliasRegion`) -/
theorem omitted_eq_explicit (regs regs' : List Reg) (h : noConflict regs = true) (hp : regs'.Perm regs)
    (r : Reg) (hr : r ∈ regs) (pre post : List (Reg × String)) (hpre : ∀ g ∈ pre, g.1.var ≠ r.var) :
    ∀ v, reads (atRun regs' (pre ++ (r, r.default) :: post)) v = reads (atRun regs' (pre ++ post)) v :=
  explicit_default_no_effect regs' r (noConflict_any_order regs regs' h hp r hr) pre post hpre

/-- the region the hypothesis `hpre` excludes: an option given earlier on the line writes the variable of `r` -/
def aliasRegion (pre : List (Reg × String)) (r : Reg) : Prop := ∃ g ∈ pre, g.1.var = r.var

/-- and in that region the conclusion is FALSE as soon as the earlier option gave another value:
    the documented default of `r`, spelled out after an alias of `r`, overrides what the alias set
    (`reformat --format nexus --input-format newick`) -/
theorem explicit_default_overrides_alias (regs : List Reg) (g r : Reg) (x : String) (hv : g.var = r.var) (hx : x ≠ r.default) :
    aliasRegion [(g, x)] r ∧
    reads (atRun regs ([(g, x)] ++ [(r, r.default)])) r.var ≠ reads (atRun regs [(g, x)]) r.var := by
  refine ⟨⟨(g, x), by simp, hv⟩, ?_⟩
  unfold reads atRun
  simp only [List.singleton_append, parse, setFlag, List.lookup_cons, beq_self_eq_true, hv]
  intro he
  exact hx (Option.some.inj he).symm

/-- when no command sees two flags on one variable, options of ONE command never fall in that region:
    the flags of another name visible to the command of `r` write other variables -/
theorem noAlias_hpre (t : List Row) (h : noAliasInCommand t = true) (r : Row) (hr : r ∈ t)
    (pre : List (Reg × String))
    (hvis : ∀ g ∈ pre, g.1 ∈ t ∧ visibleTo r.path g.1 = true ∧ g.1.flag ≠ r.flag) :
    ∀ g ∈ pre, g.1.var ≠ r.var := by
  intro g hg hv
  obtain ⟨hgt, hgv, hne⟩ := hvis g hg
  have he := List.all_eq_true.mp h r hr
  rw [List.contains_nil, Bool.false_or, List.isEmpty_iff] at he
  have hmem : g.1 ∈ aliasesOf t r := List.mem_filter.mpr ⟨hgt, by simp [hv, hgv, hne]⟩
  simp [he] at hmem

/-- conversely a flag whose variable ended up with another value is one for which the explicit
    default is *not* the same as omitting it: the command reads something else -/
theorem explicit_default_differs (regs : List Reg) (r : Reg) (h : finalValue regs r.var ≠ some r.default) :
    reads (atRun regs [(r, r.default)]) r.var ≠ reads (atRun regs []) r.var := by
  unfold reads atRun
  simp only [parse, setFlag, List.lookup_cons, beq_self_eq_true]
  intro he
  exact h he.symm

/-- so with a conflict, in every initialisation order, some flag behaves differently when its
    documented default is spelled out -/
theorem conflict_observable (regs regs' : List Reg) (h : ¬ noConflict regs = true) (hp : regs'.Perm regs) :
    ∃ r ∈ regs, reads (atRun regs' [(r, r.default)]) r.var ≠ reads (atRun regs' []) r.var := by
  obtain ⟨r, hr, hne⟩ := conflict_breaks_one regs regs' h hp
  exact ⟨r, hr, explicit_default_differs regs' r hne⟩

/-! ### what the help of a command prints for a name vs. what the command line sets -/

/-- when every flag holds its documented default and a flag that hides an inherited one documents
    the same default, the default `path --help` prints for `--flag` (cobra 1.5: the nearest
    ancestor's line when the name is inherited) is the value the flag the command line sets holds -/
theorem help_default_is_used_except (ex : List (String × String)) (t : List Row)
    (h1 : shadowAgreeExcept ex t = true) (h2 : defaultsUsed t = true)
    (path flag : String) (hex : ex.contains (path, flag) = false)
    (e s : Reg) (he : effective t path flag = some e) (hs : shown t path flag = some s) :
    s.default = e.current := by
  have used : ∀ r ∈ t, r.default = r.current := fun r hr => (eq_of_beq (List.all_eq_true.mp h2 r hr)).symm
  unfold effective at he
  unfold shown at hs
  cases ho : ownRow t path flag <;> cases hn : nearest (inheritedRows t path flag) <;>
    simp only [ho, hn, Option.some.injEq, reduceCtorEq] at he hs
  · subst he hs
    exact used _ (List.mem_filter.mp (nearest_mem hn)).1
  · subst he hs
    exact used _ (List.mem_of_find?_eq_some ho)
  · rename_i r q
    subst he hs
    have hr := List.mem_of_find?_eq_some ho
    have hq := List.mem_filter.mp (nearest_mem hn)
    have hp := List.find?_some ho
    simp only [Bool.and_eq_true, beq_iff_eq] at hp
    have hsa := List.all_eq_true.mp h1 r hr
    rw [hp.1, hp.2, hex, Bool.false_or] at hsa
    have hh := List.all_eq_true.mp hsa q hq.1
    rw [show hides r q = true by simpa [hides, isAncestorPath, hp.1, hp.2, Bool.and_assoc] using hq.2] at hh
    exact (eq_of_beq hh).trans (used r hr)

theorem help_default_is_used (t : List Row) (h1 : shadowAgree t = true) (h2 : defaultsUsed t = true)
    (path flag : String) (e s : Reg) (he : effective t path flag = some e) (hs : shown t path flag = some s) :
    s.default = e.current :=
  help_default_is_used_except [] t h1 h2 path flag rfl e s he hs

/-! ### hypotheses are satisfiable on a non-trivial list: two commands sharing two variables with
    the same defaults, a third variable of its own -/

def exampleRegs : List Reg := [
  ⟨"gotree a", "input", "i", true, 0, "string", "stdin", "stdin"⟩,
  ⟨"gotree a", "cut", "c", false, 1, "float64", "0.5", "0.5"⟩,
  ⟨"gotree b", "input", "i", true, 0, "string", "stdin", "stdin"⟩,
  ⟨"gotree b", "out", "o", true, 2, "string", "stdout", "stdout"⟩,
  ⟨"gotree c", "cutoff", "c", false, 1, "float64", "0.5", "0.5"⟩]

example : noConflict exampleRegs = true := by decide +kernel
example : ∀ r ∈ exampleRegs, finalValue exampleRegs.reverse r.var = some r.default :=
  noConflict_any_order exampleRegs exampleRegs.reverse (by decide +kernel) (List.reverse_perm _)
example : tableOK exampleRegs = true := spec_of_decisions _ (by decide +kernel) (by decide +kernel)
/-- hypotheses of `help_default_is_used`, on a list where a sub-command re-registers an inherited name -/
example : shadowAgree (⟨"gotree", "input", "i", true, 0, "string", "stdin", "stdin"⟩ :: exampleRegs) = true ∧
    defaultsUsed (⟨"gotree", "input", "i", true, 0, "string", "stdin", "stdin"⟩ :: exampleRegs) = true ∧
    (shown (⟨"gotree", "input", "i", true, 0, "string", "stdin", "stdin"⟩ :: exampleRegs) "gotree a" "input").map (·.path) = some "gotree" ∧
    (effective (⟨"gotree", "input", "i", true, 0, "string", "stdin", "stdin"⟩ :: exampleRegs) "gotree a" "input").map (·.path) = some "gotree a" := by
  decide +kernel
/-- hypothesis of `isolation_reads`: variable 1 is registered by "gotree a" and by "gotree c" -/
example : ∃ r ∈ exampleRegs, r.var = 1 ∧ r.path ≠ "gotree a" :=
  ⟨⟨"gotree c", "cutoff", "c", false, 1, "float64", "0.5", "0.5"⟩, by simp [exampleRegs], rfl, by decide +kernel⟩
example : explicitSame exampleRegs ⟨"gotree a", "cut", "c", false, 1, "float64", "0.5", "0.5"⟩
    [(⟨"gotree a", "input", "i", true, 0, "string", "stdin", "stdin"⟩, "file.nw")] [0, 1, 2] = true := by decide +kernel

/-! ### per run: the table regenerated from the live command tree -/

open Gotree.Gen.C19Flags in
/-- ★ no variable is bound by two flags that document different defaults -/
theorem table_noConflict : noConflict Gotree.Gen.C19Flags.table = true :=
  noConflict_of_reusers (by decide +kernel)

open Gotree.Gen.C19Flags in
/-- ★ the runtime fact itself: before any parsing every flag holds its documented default -/
theorem table_current_is_default :
    Gotree.Gen.C19Flags.table.all (fun r => r.current == r.default) = true := by decide +kernel

/-- the table has the number of rows the generator counted (the chunks were put together completely) -/
theorem table_complete : Gotree.Gen.C19Flags.table.length = Gotree.Gen.C19Flags.nrows := by decide +kernel

/-- where the free text of a help sentence claims a numeric / boolean default, it is the one pflag prints -/
theorem table_usage_claims :
    Gotree.Gen.C19Flags.usageClaims.all (fun p => usageOK p.1 p.2 && Gotree.Gen.C19Flags.table.contains p.1) = true := by
  decide +kernel

/-- Help-level clause (cobra 1.5 lists the ancestor's line for a flag that hides an inherited one).
    Full statement, which does NOT hold on the current tree (open finding F47, see
    `shadowAgree_pinnedF47_fails`):   shadowAgree Gen.C19Flags.table = true
    Proved: every flag except `gotree download itol --format`. -/
theorem table_shadowAgree_partial :
    shadowAgreeExcept [("gotree download itol", "format")] Gotree.Gen.C19Flags.table = true :=
  shadowAgreeExcept_of_pairs _ _ table_noConflict (by decide +kernel)

/-- on the dumped state: for every command and option name except `download itol --format`, the default
    the help prints is the value the option the command line sets holds -/
theorem table_help_default_is_used_partial (path flag : String)
    (hex : [("gotree download itol", "format")].contains (path, flag) = false)
    (e s : Reg) (he : effective Gotree.Gen.C19Flags.table path flag = some e)
    (hs : shown Gotree.Gen.C19Flags.table path flag = some s) : s.default = e.current :=
  help_default_is_used_except _ _ table_shadowAgree_partial table_current_is_default path flag hex e s he hs

/-- Full statement, which does NOT hold on the current tree (open finding F87, see `noAlias_pinnedF87_fails`):
      noAliasInCommand Gen.C19Flags.table = true
    Proved: no command sees two flags on one variable, except `--input-format` of the `reformat` commands
    (bound to the variable of the root's persistent `--format`). -/
theorem table_noAliasInCommand_partial :
    noAliasInCommandExcept [("gotree reformat", "input-format")] Gotree.Gen.C19Flags.table = true :=
  noAliasInCommandExcept_of_check _ _ (by decide +kernel)

/-- the dumped state satisfies the whole Spec predicate (defaults used, shared variables agree, commands isolated) -/
theorem table_satisfies_spec : tableOK Gotree.Gen.C19Flags.table = true :=
  spec_of_decisions _ table_noConflict table_current_is_default

/-- whatever the order in which the `init()` functions ran, every flag of every command reads the
    default its help text shows — and that is the value dumped from the running program -/
theorem table_any_init_order (regs' : List Reg) (hp : regs'.Perm Gotree.Gen.C19Flags.table) :
    ∀ r ∈ Gotree.Gen.C19Flags.table, finalValue regs' r.var = some r.default ∧ r.current = r.default := by
  intro r hr
  refine ⟨noConflict_any_order _ _ table_noConflict hp r hr, ?_⟩
  have := List.all_eq_true.mp table_current_is_default r hr
  simpa using this

/-- the property on the dumped state: for every flag of every command, in every initialisation
    order, with any other options, passing the documented default changes no variable -/
theorem table_omitted_eq_explicit (regs' : List Reg) (hp : regs'.Perm Gotree.Gen.C19Flags.table)
    (r : Reg) (hr : r ∈ Gotree.Gen.C19Flags.table) (pre post : List (Reg × String))
    (hpre : ∀ g ∈ pre, g.1.var ≠ r.var) :
    ∀ v, reads (atRun regs' (pre ++ (r, r.default) :: post)) v = reads (atRun regs' (pre ++ post)) v :=
  omitted_eq_explicit _ regs' table_noConflict hp r hr pre post hpre

/-! ### "the same EFFECT": a command body that is a function of the option variables -/

/-- the body of a command, as far as its options are concerned, is a function of what it reads from
    the option variables (and of nothing else about the command line) -/
def ReadsOnly {β : Type} (body : Store → β) : Prop :=
  ∀ s s' : Store, (∀ v, reads s v = reads s' v) → body s = body s'

/-- `Flags().Changed`: was the flag on the command line? -/
def wasGiven (cl : List (Reg × String)) (r : Reg) : Bool := cl.any fun g => decide (g.1 = r)

/-- ★ the clause "same effect" under its explicit hypothesis: whatever a command computes from the
    option variables alone is the same with an option omitted and with its documented default
    spelled out (no conflict, any init order, any other options not aliasing it before) -/
theorem same_effect {β : Type} (body : Store → β) (hb : ReadsOnly body)
    (regs regs' : List Reg) (h : noConflict regs = true) (hp : regs'.Perm regs)
    (r : Reg) (hr : r ∈ regs) (pre post : List (Reg × String)) (hpre : ∀ g ∈ pre, g.1.var ≠ r.var) :
    body (atRun regs' (pre ++ (r, r.default) :: post)) = body (atRun regs' (pre ++ post)) :=
  hb _ _ (omitted_eq_explicit regs regs' h hp r hr pre post hpre)

/-- … instantiated on the regenerated table -/
theorem table_same_effect {β : Type} (body : Store → β) (hb : ReadsOnly body)
    (regs' : List Reg) (hp : regs'.Perm Gotree.Gen.C19Flags.table)
    (r : Reg) (hr : r ∈ Gotree.Gen.C19Flags.table) (pre post : List (Reg × String)) (hpre : ∀ g ∈ pre, g.1.var ≠ r.var) :
    body (atRun regs' (pre ++ (r, r.default) :: post)) = body (atRun regs' (pre ++ post)) :=
  same_effect body hb _ regs' table_noConflict hp r hr pre post hpre

/-- reading one variable, or any function of finitely many reads, is such a body -/
theorem readsOnly_of_vars {β : Type} (vars : List Nat) (f : List (Option String) → β) :
    ReadsOnly fun s => f (vars.map (reads s)) := by
  intro s s' h
  have : vars.map (reads s) = vars.map (reads s') := List.map_congr_left fun v _ => h v
  simp only [this]

/-- and the hypothesis cannot be dropped: whether an option was GIVEN is not a function of the
    variables — the two command lines leave every variable alike and differ in `Changed`
    (the mechanism of findings F45 and F55, and of every site of table (f)) -/
theorem given_not_readsOnly (regs : List Reg) (r : Reg) (h : finalValue regs r.var = some r.default) :
    (∀ v, reads (atRun regs [(r, r.default)]) v = reads (atRun regs []) v) ∧
    wasGiven [(r, r.default)] r ≠ wasGiven [] r := by
  refine ⟨fun v => ?_, by simp [wasGiven]⟩
  have := explicit_default_no_effect regs r h [] [] (by simp) v
  simpa using this

example : ReadsOnly fun s => (reads s 1, reads s 0) :=
  readsOnly_of_vars [1, 0] fun l => (l.headD none, (l.drop 1).headD none)

/-! ### pinned variant: F24 as it was before fix 7e6fdde (4-row excerpt of the old table) -/

/-- `cutoff` (variable 0) is bound by `compute consensus --freq-min` (0.5) and by `brlen setmin --length` (0);
    cmd/consensus.go is initialised before cmd/minbrlen.go -/
def pinnedF24 : List Reg := [
  ⟨"gotree compute consensus", "freq-min", "f", true, 0, "float64", "0.5", "0"⟩,
  ⟨"gotree compute consensus", "input", "i", true, 1, "string", "stdin", "stdin"⟩,
  ⟨"gotree brlen setmin", "length", "l", false, 0, "float64", "0", "0"⟩,
  ⟨"gotree brlen setmin", "input", "i", true, 1, "string", "stdin", "stdin"⟩]

theorem noConflict_pinned_fails : noConflict pinnedF24 = false := by decide +kernel

/-- the model reproduces what the old binary did: consensus read 0, not the documented 0.5 -/
theorem finalValue_pinned_fails :
    finalValue pinnedF24 0 = some "0" ∧ pinnedF24.map (·.current) = pinnedF24.map (fun r => (finalValue pinnedF24 r.var).getD "") := by
  decide +kernel

theorem current_is_default_pinned_fails : pinnedF24.all (fun r => r.current == r.default) = false := by decide +kernel

/-- and linking `brlen setmin` in changed what `compute consensus` reads -/
theorem isolation_pinned_fails :
    finalValue (without pinnedF24 "gotree brlen setmin") 0 = some "0.5" ∧ finalValue pinnedF24 0 = some "0" := by
  decide +kernel

/-- `compute consensus --freq-min=0.5` was not the same as `compute consensus` -/
theorem explicitSame_pinned_fails :
    explicitSame pinnedF24 ⟨"gotree compute consensus", "freq-min", "f", true, 0, "float64", "0.5", "0"⟩ [] [0, 1] = false := by
  decide +kernel

theorem tableOK_pinned_fails : tableOK pinnedF24 = false := by decide +kernel

/-- no reordering of the four registrations would have repaired it -/
theorem pinned_no_lucky_order (regs' : List Reg) (hp : regs'.Perm pinnedF24) :
    ∃ r ∈ pinnedF24, finalValue regs' r.var ≠ some r.default :=
  conflict_breaks_one _ _ (by decide +kernel) hp

/-! ### pinned witness of finding F87: `reformat --input-format` is an alias of the root's `--format` -/

def pinnedF87 : List Reg := [
  ⟨"gotree", "format", "", true, 0, "string", "newick", "newick"⟩,
  ⟨"gotree reformat", "input-format", "f", true, 0, "string", "newick", "newick"⟩,
  ⟨"gotree reformat", "output", "o", true, 1, "string", "stdout", "stdout"⟩]

/-- nothing is wrong with the registrations (same default, every flag holds it) … -/
theorem tableOK_pinnedF87 : tableOK pinnedF87 = true := by decide +kernel

/-- … but `reformat` sees two flags on variable 0, and `--format nexus --input-format newick` reads
    "newick" where `--format nexus` reads "nexus": the documented default spelled out is not "omitted" -/
theorem noAlias_pinnedF87_fails :
    noAliasInCommand pinnedF87 = false ∧
    reads (atRun pinnedF87 [(⟨"gotree", "format", "", true, 0, "string", "newick", "newick"⟩, "nexus"),
                            (⟨"gotree reformat", "input-format", "f", true, 0, "string", "newick", "newick"⟩, "newick")]) 0 = some "newick" ∧
    reads (atRun pinnedF87 [(⟨"gotree", "format", "", true, 0, "string", "newick", "newick"⟩, "nexus")]) 0 = some "nexus" := by
  decide +kernel

/-! ### pinned witness of finding F47: `download itol --format` hides the root's `--format` -/

def pinnedF47 : List Reg := [
  ⟨"gotree", "format", "", true, 0, "string", "newick", "newick"⟩,
  ⟨"gotree download itol", "format", "f", true, 1, "string", "pdf", "pdf"⟩,
  ⟨"gotree download itol", "output", "o", true, 2, "string", "stdout", "stdout"⟩]

/-- nothing is wrong at the level of the variables (no shared variable, every flag holds its default) … -/
theorem tableOK_pinnedF47 : tableOK pinnedF47 = true := by decide +kernel

/-- the model of cobra's resolution reproduces it: the command line sets the "pdf" flag, the help prints the "newick" one -/
theorem shown_pinnedF47_fails :
    (effective pinnedF47 "gotree download itol" "format").map (·.current) = some "pdf" ∧
    (shown pinnedF47 "gotree download itol" "format").map (·.default) = some "newick" := by decide +kernel

/-- … but the help of `download itol` shows `--format … (default "newick")` for an option whose value is "pdf" -/
theorem shadowAgree_pinnedF47_fails :
    shadowAgree pinnedF47 = false ∧
    shadowConflicts pinnedF47 = [(⟨"gotree download itol", "format", "f", true, 1, "string", "pdf", "pdf"⟩,
                                  ⟨"gotree", "format", "", true, 0, "string", "newick", "newick"⟩)] := by decide +kernel

/-! ### pinned witness of the defect repaired by c6119d8 (cmd/dlpanther.go:41 read `ncbioutput`) -/

/-- `ncbioutput` is registered by `download ncbitax --output` only; `download panther` reads it -/
def pinnedPanther : List Reg := [⟨"gotree download ncbitax", "output", "o", true, 0, "string", "stdout", "stdout"⟩]

theorem readIsolated_pinnedPanther_fails : readIsolated pinnedPanther "gotree download panther" = false := by decide +kernel

/-- … while a reader of a variable that several commands register alike is isolated -/
example : readIsolated [⟨"gotree stats", "output", "o", true, 7, "string", "stdout", "stdout"⟩,
    ⟨"gotree unroot", "output", "o", true, 7, "string", "stdout", "stdout"⟩] "gotree labels" = true := by decide +kernel

/-! ### `gotree rename`: the one command that asks whether an option was *given* (finding F45) -/

namespace Rename

/-- full statement (does NOT hold for the code as it is, see `renameMode_explicit_default_fails`):
      ∀ cl f, changed cl f = false → renameMode (cl ++ [(f, defaultOf f)]) = renameMode cl
    Proved part: every option except `--regexp`, and `--replace` when `--regexp` is not given. -/
theorem renameMode_explicit_default_partial (cl : CmdLine) (f : String) (h : changed cl f = false)
    (h1 : f ≠ "regexp") (h2 : f = "replace" → changed cl "regexp" = false) :
    renameMode (cl ++ [(f, defaultOf f)]) = renameMode cl := by
  simp only [renameMode, value_append_default cl f _ h, changed_append, beq_false_of_ne h1, Bool.or_false]
  by_cases hr : f = "replace"
  · simp [hr, h2 hr]
  · simp [beq_false_of_ne hr]

/-- the same for everything the driver compares runs by (`behaviour`: the branch and the values it reads) -/
theorem behaviour_explicit_default_partial (cl : CmdLine) (f : String) (h : changed cl f = false)
    (h1 : f ≠ "regexp") (h2 : f = "replace" → changed cl "regexp" = false) :
    behaviour (cl ++ [(f, defaultOf f)]) = behaviour cl := by
  unfold behaviour
  simp only [renameMode_explicit_default_partial cl f h h1 h2, value_append_default cl f _ h]

/-- the excluded region is a real difference: `rename -m m.txt --regexp none` is refused, `rename -m m.txt` renames -/
theorem renameMode_explicit_default_fails :
    renameMode [("map", "m.txt"), ("regexp", defaultOf "regexp")] = .errReplaceMissing ∧
    renameMode [("map", "m.txt")] = .map := by decide +kernel

/-- and so is the second one: with `--regexp` given, `--replace none` (its documented default) is not "omitted" -/
theorem renameMode_replace_default_fails :
    renameMode [("regexp", "Tip"), ("replace", defaultOf "replace")] = .regexp ∧
    renameMode [("regexp", "Tip")] = .errReplaceMissing := by decide +kernel

/-- the proposed repair (test the values, not `Changed`) satisfies the full statement -/
theorem renameModeByValue_explicit_default (cl : CmdLine) (f : String) (h : changed cl f = false) :
    renameModeByValue (cl ++ [(f, defaultOf f)]) = renameModeByValue cl := by
  unfold renameModeByValue
  simp only [value_append_default cl f _ h]

example : changed [("map", "m.txt"), ("auto", "true")] "length" = false ∧
    renameMode ([("map", "m.txt"), ("auto", "true")] ++ [("length", defaultOf "length")]) = .auto := by decide +kernel

end Rename

/-! ### `gotree brlen setrand`: the mean interval counts only when both options were *given* -/

namespace Setrand

/-- full statement (does NOT hold for the code as it is): spelling out documented defaults changes nothing,
      ∀ a b, meanRange a b defaultMin defaultMax = meanRange false false defaultMin defaultMax.
    Proved part: one of the two options alone, whatever its value. -/
theorem meanRange_explicit_default_partial (given : Bool) (lo hi : Rat) :
    meanRange given false lo hi = meanRange false false lo hi ∧
    meanRange false given lo hi = meanRange false false lo hi := by
  unfold meanRange
  cases given <;> simp

/-- the excluded region: both documented defaults spelled out select the interval, omitted they do not -/
theorem meanRange_explicit_defaults_fails :
    meanRange true true defaultMin defaultMax = some (defaultMin, defaultMax) ∧
    meanRange false false defaultMin defaultMax = none := by decide +kernel

end Setrand

/-! ### what the documented defaults of the global options mean (cmd/root.go PersistentPreRun) -/

namespace PreRun

/-- with the documented defaults: Newick input, seed from the clock -/
theorem preRun_defaults : preRun defaultFormat defaultSeed = ⟨.newick, none⟩ := by decide +kernel

/-- every text that is not one of the four names is silently the documented default -/
theorem formatOf_unknown (s : String) (h1 : s ≠ "nexus") (h2 : s ≠ "phyloxml") (h3 : s ≠ "nextstrain") :
    formatOf s = formatOf defaultFormat := by
  unfold formatOf defaultFormat
  split <;> simp_all

/-- the documented default of --seed is the only value that is not a seed: omitted and `--seed=-1`
    are both "clock", and no option value asks for the literal seed -1 -/
theorem seedOf_none_iff (s : Int) : seedOf s = none ↔ s = defaultSeed := by
  unfold seedOf defaultSeed
  by_cases h : s = -1 <;> simp [h]

theorem reproducible_iff (s : Int) : reproducible s = true ↔ s ≠ defaultSeed := by
  unfold reproducible
  rw [Option.isSome_iff_ne_none, ne_eq, seedOf_none_iff]

/-- the clamp of `compare trees` never touches the documented default of --threads, is idempotent and bounded -/
theorem clampThreads_default (maxcpus : Int) (h : 1 ≤ maxcpus) : clampThreads defaultThreads maxcpus = defaultThreads := by
  unfold clampThreads defaultThreads
  split <;> omega

theorem clampThreads_le (t maxcpus : Int) : clampThreads t maxcpus ≤ maxcpus := by
  unfold clampThreads
  split <;> omega

theorem clampThreads_idem (t maxcpus : Int) : clampThreads (clampThreads t maxcpus) maxcpus = clampThreads t maxcpus := by
  unfold clampThreads
  split <;> simp_all

end PreRun

/-! ### what the anchored commands do with the documented default (Model/C19Glue) -/

namespace Glue

theorem consensusAccepts_iff (f : Rat) : consensusAccepts f = true ↔ 1 / 2 ≤ f ∧ f ≤ 1 := by
  unfold consensusAccepts
  simp only [Bool.not_eq_true', Bool.or_eq_false_iff, decide_eq_false_iff_not, Rat.not_lt]

/-- the documented default of `compute consensus --freq-min` is accepted (it is the smallest accepted
    value), while the default the option took before fix 7e6fdde (0, from `brlen setmin --length`) is refused -/
theorem consensus_default_accepted : consensusAccepts defaultFreqMin = true ∧ consensusAccepts 0 = false := by decide +kernel

/-- with its documented default `divide` writes prefix_000.nw, prefix_001.nw, …; before fix 152b9fc it wrote stdout_000.nw … -/
theorem divide_default_names :
    divideNames defaultPrefix 3 = ["prefix_000.nw", "prefix_001.nw", "prefix_002.nw"] ∧
    divideNames "stdout" 2 = ["stdout_000.nw", "stdout_001.nw"] := by decide +kernel

/-- `annotate`: the file name "none" for the compared tree means the documented default "stdin";
    with a map file the compared tree is not read at all -/
theorem annotate_none_is_default (mapfile : String) : annotateSource mapfile "none" = annotateSource mapfile "stdin" := by
  unfold annotateSource
  split <;> simp

theorem annotate_map_priority (mapfile c c' : String) (h : mapfile ≠ "none") :
    annotateSource mapfile c = annotateSource mapfile c' := by
  unfold annotateSource
  simp [h]

/-- with its documented default 0, `brlen setmin` changes no branch of non-negative length (and -1 = "no length" becomes 0) -/
theorem setmin_default_noop (external internal isTip : Bool) (len : Rat) (h : 0 ≤ len) :
    setmin 0 external internal isTip len = len := by
  simp [setmin, Rat.not_lt.mpr h]

theorem setmin_ge (c : Rat) (isTip : Bool) (len : Rat) : c ≤ setmin c true true isTip len ∨ setmin c true true isTip len = len := by
  by_cases h : len < c <;> cases isTip <;> simp [setmin, h]

/-- neither --edges-only nor --nodes-only (the documented defaults) means BOTH kinds of comments,
    exactly as giving both; spelling the defaults out is the same as omitting them (value-based test) -/
theorem commentTargets_default : commentTargets false false = (true, true) ∧ commentTargets false false = commentTargets true true := by decide +kernel

theorem commentTargets_given (e n : Bool) (h : e = true ∨ n = true) : commentTargets e n = (e, n) := by
  unfold commentTargets
  rcases h with h | h <;> simp [h]

/-- the floor of `rename --length` leaves the documented default 10 alone -/
theorem autoLength_default : autoLength 10 = 10 := by decide +kernel

theorem autoLength_ge (l : Int) : 5 ≤ autoLength l ∧ (5 ≤ l → autoLength l = l) := by
  unfold autoLength
  split <;> omega

/-- `generate topologies`: with an input tree --nbtips (documented default 10) is not read at all -/
theorem topologiesNbTips_input (n m : Int) (k : Nat) : topologiesNbTips n (some k) = topologiesNbTips m (some k) := rfl

theorem topologiesNbTips_default (n : Int) : topologiesNbTips n none = n := rfl

/-- table (e), regenerated from the source each run: every assignment to an option variable made
    after parsing is one the models account for (a new one makes this decision fail) -/
theorem writes_all_modelled : Gotree.Gen.C19Writes.writes.all isModelled = true ∧ Gotree.Gen.C19Writes.problems = [] := by
  decide +kernel

/-- table (f), regenerated from the source each run: every test of whether an option was GIVEN
    (`Flags().Changed`) is accounted for by a model of that command's cascade and a recorded finding
    (a new one makes this decision fail: it is a place where the flag table cannot speak for the
    "same effect" clause) -/
theorem changed_all_accounted : Gotree.Gen.C19Changed.sites.all isAccounted = true ∧ Gotree.Gen.C19Changed.problems = [] := by
  decide +kernel

end Glue

/-! ### `gotree repopulate`: refuses the sentinel "none" (by value since fix 4cde097) -/

namespace Repopulate

/-- spelling the documented default out is the same as omitting the option, whether or not pflag saw the option -/
theorem accepts_explicit_default (given : Bool) : accepts given defaultGroups = accepts false defaultGroups := rfl

/-- pinned variant (before 4cde097, `Flags().Changed("id-groups")`): the default spelled out was accepted, omitted refused -/
theorem acceptsPinned_explicit_default_fails : acceptsPinned true defaultGroups = true ∧ acceptsPinned false defaultGroups = false := by decide +kernel

end Repopulate

/-! ### what the documented defaults "stdout" of --output and "stdin" of --input mean (Model/C19IO; cmd/root.go
    openWriteFile / closeWriteFile / readTree, io/utils OpenFile); table (g) Gen/C19Sentinels.lean -/

namespace IO

theorem openWrite_default : openWriteTarget defaultOutput = .stdout ∧ openWriteTarget "-" = .stdout := by decide +kernel

theorem openWrite_stdout_iff (f : String) : openWriteTarget f = .stdout ↔ f = "stdout" ∨ f = "-" := by
  unfold openWriteTarget stdoutNames
  by_cases h1 : f = "stdout" <;> by_cases h2 : f = "-" <;> simp [h1, h2]

theorem openWrite_file (f : String) (h1 : f ≠ "stdout") (h2 : f ≠ "-") : openWriteTarget f = .file f := by
  unfold openWriteTarget stdoutNames
  simp [h1, h2]

theorem closes_iff_file (f : String) : closesFile f = true ↔ openWriteTarget f = .file f := by
  unfold closesFile keepOpenNames openWriteTarget stdoutNames
  by_cases h1 : f = "stdout" <;> by_cases h2 : f = "-" <;> simp [h1, h2]

theorem openRead_stdin_iff (f : String) : openReadSource f = .stdin ↔ f = "" ∨ f = "stdin" ∨ f = "-" := by
  unfold openReadSource stdinNames
  by_cases h0 : f = "" <;> by_cases h1 : f = "stdin" <;> by_cases h2 : f = "-" <;> simp [h0, h1, h2]

theorem openRead_default : openReadSource defaultInput = .stdin := by decide +kernel

theorem predictOutput_default (printed : String) :
    predictOutput defaultOutput printed = "exit=0\nstdout:\n" ++ printed ∧ predictOutput "-" printed = predictOutput defaultOutput printed := by
  constructor <;> rfl

theorem predictOutput_file (f printed : String) (h1 : f ≠ "stdout") (h2 : f ≠ "-") :
    predictOutput f printed = outcomeInFile f printed := by
  unfold predictOutput
  rw [openWrite_file f h1 h2]

theorem readTree_agrees (f : String) : readTreeAccepts f = Glue.readTreeAccepts f := by
  unfold readTreeAccepts refusedTreeNames Glue.readTreeAccepts
  simp

theorem readTree_default : readTreeAccepts defaultInput = true ∧ readTreeAccepts "none" = false := by decide +kernel

theorem formatCases_agree :
    formatCases.all (fun p => p.1 == "*" || constName (PreRun.formatOf p.1) == p.2) = true ∧
    (formatCases.lookup "*") = some (constName (PreRun.formatOf "any other text")) ∧
    (formatCases.lookup PreRun.defaultFormat) = formatCases.lookup "*" := by decide +kernel

theorem seedSentinel_agrees (s : Int) : PreRun.seedOf s = none ↔ s = seedSentinel := PreRun.seedOf_none_iff s

theorem sentinels_check : Gotree.Gen.C19Sentinels.rows = expectedRows ∧ Gotree.Gen.C19Sentinels.problems = [] := by
  decide +kernel

example : openWriteTarget "out.nw" = .file "out.nw" ∧ closesFile "out.nw" = true ∧ closesFile "stdout" = false := by decide +kernel

end IO

end Gotree.C19

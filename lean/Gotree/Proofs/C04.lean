/-
  C04 — the property theorems (audited with `#print axioms`).
-/
import Gotree.Lemmas.C04Q
import Gotree.Lemmas.C04HM
import Gotree.Lemmas.C04Idx
import Gotree.Lemmas.C04Quart
import Gotree.Lemmas.C04Transport
import Gotree.Lemmas.C05
import Gotree.Model.C04Facts
import Gotree.Lemmas.C04Dump
import Gotree.Lemmas.C04Lit
import Gotree.Gen.C04Facts

namespace Gotree.C04
open Gotree


/-! ## the split index -/

/-- a rooted, multifurcating example: ((A,B)x,(C,D,E)y); — and the same tips on a tree whose
    root is the tip E: (E)--((A,B),C,D) -/
def exT : T := .node ⟨"", []⟩ 0
  [(⟨1, NIL, NIL, [], 0⟩, .node ⟨"x", []⟩ 0 [(⟨1, NIL, NIL, [], 1⟩, .leaf "A"), (⟨2, NIL, NIL, [], 2⟩, .leaf "B")]),
   (⟨3, NIL, NIL, [], 3⟩, .node ⟨"y", []⟩ 0 [(⟨1, NIL, NIL, [], 4⟩, .leaf "C"), (⟨1, NIL, NIL, [], 5⟩, .leaf "D"), (⟨1, NIL, NIL, [], 6⟩, .leaf "E")])]

def exTipRoot : T := .node ⟨"E", []⟩ 0
  [(⟨1, NIL, NIL, [], 0⟩, .node ⟨"", []⟩ 0
    [(⟨1, NIL, NIL, [], 1⟩, .node ⟨"", []⟩ 0 [(⟨1, NIL, NIL, [], 2⟩, .leaf "B"), (⟨2, NIL, NIL, [], 3⟩, .leaf "A")]),
     (⟨1, NIL, NIL, [], 4⟩, .leaf "D"), (⟨1, NIL, NIL, [], 5⟩, .leaf "C")])]

example : exT.tipNames = ["A", "B", "C", "D", "E"] ∧ exT.tipNames.Nodup := by decide +kernel
example : exTipRoot.tipNames = ["E", "B", "A", "D", "C"] ∧ exTipRoot.tipNames.Nodup ∧ exT.tipNames.Perm exTipRoot.tipNames := by
  refine ⟨by decide +kernel, by decide +kernel, ?_⟩
  exact List.isPerm_iff.mp (by decide +kernel)

/-- `ReinitIndexes` (the model the driver runs: ranks, bitsets, both tip counts and both
    additive hashes of every branch, computed by the two passes) equals the direct definition
    from the split of each branch — for every tree with unique tip names (any shape, rooted or
    not, multifurcations, single-child nodes, a tip at the root), and every name hash `H`. -/
theorem reinit_correct (H : String → UInt64) (t : T) (hn : t.tipNames.Nodup) (hne : t.tipNames ≠ []) :
    reinit H t = .ok (sortNames t.tipNames, t.splits.map fun s => specIdx H t.tipNames s.below) :=
  reinit_eq H t hn hne

/-- `reinitLit` — what the driver runs: `ReinitIndexes` with the bitsets filled statement by statement
    as `UpdateBitSet`/`fillRightBitSet` do (a stack of the bitsets of the branches above, `ClearAll` on
    entry, `Set` of the tip id in every member of the stack at a tip, push/pop around each child) — is
    `reinit`, for every tree and every `H`.  All theorems about `reinit`/`indexOf` are about it. -/
theorem reinitLit_eq (H : String → UInt64) (t : T) : reinitLit H t = reinit H t := by
  unfold reinitLit
  cases h : reinit H t with
  | err m => rfl
  | ok r =>
    cases reinit_ok h
    simp only
    rw [updateBitSet_eq, ← idxL_bits H _ _ t.kids (rootUp H t) (0, 0), zipWith_bits_self]

/-- `reinitLit2` — what the driver runs now: besides the stack-based bitsets, both hash passes statement by
    statement (`e.hashcoderight += …` over the children from 0; the loop over `prev.Neigh()` in slice order
    with the parent at `ppos`, skipping `cur`, reading the stored right fields of the children and the left
    fields of the branch above; the `prev.Tip()` addition) — is `reinit`, for every tree and every `H`:
    the order of the wrap-around additions is immaterial. -/
theorem reinitLit2_eq (H : String → UInt64) (t : T) : reinitLit2 H t = reinit H t := by
  unfold reinitLit2
  cases h : reinit H t with
  | err m => rfl
  | ok r =>
    cases reinit_ok h
    simp only
    rw [lit_records_eq]

/-- `reinitLit3` — what the driver runs: `UpdateTipIndex` entering the sorted names one by one (a name already
    entered is the error), then `ClearBitSets` / `UpdateBitSet` / `ComputeEdgeHashes` statement by statement,
    nothing taken from the summarised `reinit` — is `reinit`, for every tree and every `H`. -/
theorem reinitLit3_eq (H : String → UInt64) (t : T) : reinitLit3 H t = reinit H t := reinitLit3_eq_reinit H t

/-- `ReinitInternalIndexes` with the tip index left by an earlier `UpdateTipIndex` gives the indexes of
    `ReinitIndexes` as long as the tip names have not changed since (the index is still the sorted names). -/
theorem reinitInternal_eq (H : String → UInt64) (t : T) (hn : t.tipNames.Nodup) :
    reinitInternalLit H (sortNames t.tipNames) t = reinit H t :=
  reinitInternalLit_eq_reinit H t ((sortNames_perm _).nodup_iff.mpr hn)

/-- the literal `UpdateBitSet` alone: one bitset per branch, bit `rank x` set iff `x` is below -/
theorem updateBitSet_correct (rank : String → Nat) (n : Nat) (t : T) :
    updateBitSet rank n t.kids = t.splits.map fun s => mkBits n (s.below.map rank) :=
  updateBitSet_eq rank n t.kids

/-- every branch has its record, and it is `specIdx` of the branch's split -/
theorem indexOf_eq (H : String → UInt64) (t : T) (hn : t.tipNames.Nodup) (i : Nat) (hi : i < t.splits.length) :
    indexOf H t i = some (specIdx H t.tipNames (t.splits[i]).below) := by
  have hne : t.tipNames ≠ [] := by
    intro h
    have := (T.below_proper t t.splits[i] (List.getElem_mem hi)).2
    rw [h] at this; exact absurd this (Nat.not_lt_zero _)
  unfold indexOf
  rw [reinit_eq H t hn hne]
  simp [hi]

/-- `bitset_correct`: bit `j` of the branch's bitset is set iff the tip of rank `j` (position in
    the sorted tip names) lies below the branch. -/
theorem bitset_correct (H : String → UInt64) (t : T) (hn : t.tipNames.Nodup) (i : Nat) (hi : i < t.splits.length)
    (e : EdgeIdx) (he : indexOf H t i = some e) :
    e.bits.length = t.tipNames.length ∧
    ∀ (j : Nat) (hj : j < (sortNames t.tipNames).length),
      e.bits[j]? = some ((t.splits[i]).below.contains (sortNames t.tipNames)[j]) := by
  rw [indexOf_eq H t hn i hi] at he
  cases he
  refine ⟨by simp [specIdx, (sortNames_perm _).length_eq], ?_⟩
  intro j hj
  simp [specIdx, hj]

/-- `ntax_correct`: `NumTipsRight` / `NumTipsLeft` are the numbers of tips below / not below,
    and they add up to the number of tips. -/
theorem ntax_correct (H : String → UInt64) (t : T) (hn : t.tipNames.Nodup) (i : Nat) (hi : i < t.splits.length)
    (e : EdgeIdx) (he : indexOf H t i = some e) :
    e.nright = (t.splits[i]).below.length ∧ e.nleft = (compl t.tipNames (t.splits[i]).below).length ∧
    e.nleft + e.nright = t.tipNames.length := by
  rw [indexOf_eq H t hn i hi] at he
  cases he
  refine ⟨rfl, rfl, ?_⟩
  exact compl_length hn (below_sublist_tipNames t _ (List.getElem_mem hi))

/-- `topoDepth_correct`: `TopoDepth` never fails after `ReinitIndexes` and is the size of the
    light side of the split. -/
theorem topoDepth_correct (H : String → UInt64) (t : T) (hn : t.tipNames.Nodup) (i : Nat) (hi : i < t.splits.length)
    (e : EdgeIdx) (he : indexOf H t i = some e) :
    e.topoDepth = some (specTopoDepth t.tipNames (t.splits[i]).below) := by
  have hm := List.getElem_mem hi
  have hp := T.below_proper t _ hm
  have hl := compl_length hn (below_sublist_tipNames t _ hm)
  rw [indexOf_eq H t hn i hi] at he
  cases he
  unfold EdgeIdx.topoDepth specIdx specTopoDepth
  have h1 : ((compl t.tipNames t.splits[i].below).length == 0) = false := beq_eq_false_iff_ne.mpr (by omega)
  have h2 : (t.splits[i].below.length == 0) = false := beq_eq_false_iff_ne.mpr (by omega)
  simp only [h1, h2, Bool.or_self, Bool.false_eq_true, if_false, Nat.min_comm]

/-- The per-branch oracle of the driver (`branchOK`: bitset, both counts, depth) accepts what the model
    computes: oracle and model cannot disagree on a tree with unique tip names. -/
theorem model_passes_oracle (H : String → UInt64) (t : T) (hn : t.tipNames.Nodup) (i : Nat) (hi : i < t.splits.length)
    (e : EdgeIdx) (he : indexOf H t i = some e) :
    branchOK t.tipNames (t.splits[i]).below e.bits e.nleft e.nright (e.topoDepth.map fun (x : Nat) => (x : Int)) = true := by
  have htd := topoDepth_correct H t hn i hi e he
  rw [indexOf_eq H t hn i hi] at he
  cases he
  rw [htd]
  simp [branchOK, specIdx]

/-- `hash_sums`: the two-pass additive hashes are the sums of the name hashes over the tips
    below / not below the branch (wrap-around `uint64` sums). -/
theorem hash_sums (H : String → UInt64) (t : T) (hn : t.tipNames.Nodup) (i : Nat) (hi : i < t.splits.length)
    (e : EdgeIdx) (he : indexOf H t i = some e) :
    e.hright = sumH H (t.splits[i]).below ∧ e.hleft = sumH H (compl t.tipNames (t.splits[i]).below) := by
  rw [indexOf_eq H t hn i hi] at he
  cases he
  exact ⟨rfl, rfl⟩

/-- ★ `hashCode_split_invariant`: for every name hash `H`, two branches — of the same tree or of
    two trees on the same (uniquely named) taxa — that define the same split get the same
    `HashCode`, and `HashEquals` answers true: independent of the rooting, of the orientation of
    the branch (which side is "below") and of child order, since those only change the
    presentation `below` of the split. -/
theorem hashCode_split_invariant (H : String → UInt64) (t₁ t₂ : T)
    (hu₁ : t₁.tipNames.Nodup) (hu₂ : t₂.tipNames.Nodup) (hT : t₁.tipNames.Perm t₂.tipNames)
    (i j : Nat) (hi : i < t₁.splits.length) (hj : j < t₂.splits.length)
    (hs : sameSplit t₁.tipNames (t₁.splits[i]).below (t₂.splits[j]).below = true) :
    ∃ e₁ e₂, indexOf H t₁ i = some e₁ ∧ indexOf H t₂ j = some e₂ ∧
      e₁.hashCode = e₂.hashCode ∧ e₁.equals e₂ = true ∧ e₁.sameBipartition e₂ = true := by
  have S : Sides t₁.tipNames t₂.tipNames (t₁.splits[i]).below (t₂.splits[j]).below :=
    ⟨hu₁, hu₂, hT, below_sublist_tipNames t₁ _ (List.getElem_mem hi), below_sublist_tipNames t₂ _ (List.getElem_mem hj)⟩
  exact ⟨_, _, indexOf_eq H t₁ hu₁ i hi, indexOf_eq H t₂ hu₂ j hj, spec_hashCode_of_sameSplit H S hs,
    by rw [spec_equals_iff_sameSplit H S, hs], by rw [spec_sameBipartition H S, hs]⟩

-- the same side in another order, and the complementary side
example : sameSplit exT.tipNames (exT.splits[0]).below (exTipRoot.splits[1]).below = true := by decide +kernel
example : sameSplit exT.tipNames (exT.splits[3]).below (exTipRoot.splits[1]).below = true := by decide +kernel

/-- (A corollary of `hashCode_split_invariant`, nothing more: the edit hypothesis is used only to know that
    the tips are the same.  It is not evidence for "after any edit" — `reinit` is a function of the tree
    alone, every field being overwritten before it is read; stale state is a matter for the oracle.)
    Re-rooting, unrooting and rotating (the models of C05, tied to `Reroot`, `UnRoot`,
    `RotateInternalNodes` there) keep the hash code of every split: a branch of the edited tree and a
    branch of the original that define the same split have the same `HashCode`, are `HashEquals` and
    `SameBipartition` after `ReinitIndexes` on both. -/
theorem edits_keep_hashes (H : String → UInt64) (t t' : T) (hu : t.tipNames.Nodup)
    (hop : (∃ p, C05.reroot t p = .ok t' ∧ C05.lensOK t = true) ∨
           (t' = C05.unroot t ∧ C05.lensOK t = true ∧ C05.supsOK t = true) ∨
           (∃ draws, t' = C05.rotate t draws ∧ C05.lensOK t = true))
    (i j : Nat) (hi : i < t.splits.length) (hj : j < t'.splits.length)
    (hs : sameSplit t.tipNames (t.splits[i]).below (t'.splits[j]).below = true) :
    ∃ e e', indexOf H t i = some e ∧ indexOf H t' j = some e' ∧
      e.hashCode = e'.hashCode ∧ e.equals e' = true ∧ e.sameBipartition e' = true := by
  have hu5 : C05.uniq t = true := by simp [C05.uniq, hu]
  have hperm : t'.tipNames.Perm t.tipNames := by
    -- (the three facts are `reroot_preserves` / `unroot_preserves` / `rotate_preserves` of C05, re-derived here from
    --  C05's lemma library so that this module does not depend on C05's proof module and its tables)
    rcases hop with ⟨p, h, hl⟩ | ⟨rfl, hl, hsup⟩ | ⟨draws, rfl, hl⟩
    · have ht : t' = (C05.rerootP t p none []).1 := by
        unfold C05.reroot at h
        split at h
        · cases h
        · split at h <;> split at h <;> cases h <;> rfl
      subst ht
      obtain ⟨s, _⟩ := C05.rerootP_same p t none [] ((C05.uniq_iff t).1 hu5) ((C05.lensOK_iff t).1 hl)
      exact s.spec.1
    · exact (C05.unroot_same t ((C05.uniq_iff t).1 hu5) ((C05.lensOK_iff t).1 hl) ((C05.supsOK_iff t).1 hsup)).spec.1
    · exact (C05.rotate_same t draws ((C05.lensOK_iff t).1 hl)).spec.1
  exact hashCode_split_invariant H t t' hu (hperm.nodup_iff.mpr hu) hperm.symm i j hi hj hs
/-- `equals_iff_sameSplit`: `HashEquals` and `SameBipartition` hold exactly for branches that define
    the same split. -/
theorem equals_iff_sameSplit (H : String → UInt64) (t₁ t₂ : T)
    (hu₁ : t₁.tipNames.Nodup) (hu₂ : t₂.tipNames.Nodup) (hT : t₁.tipNames.Perm t₂.tipNames)
    (i j : Nat) (hi : i < t₁.splits.length) (hj : j < t₂.splits.length)
    (e₁ e₂ : EdgeIdx) (h₁ : indexOf H t₁ i = some e₁) (h₂ : indexOf H t₂ j = some e₂) :
    e₁.equals e₂ = sameSplit t₁.tipNames (t₁.splits[i]).below (t₂.splits[j]).below ∧
    e₁.sameBipartition e₂ = sameSplit t₁.tipNames (t₁.splits[i]).below (t₂.splits[j]).below := by
  have S : Sides t₁.tipNames t₂.tipNames (t₁.splits[i]).below (t₂.splits[j]).below :=
    ⟨hu₁, hu₂, hT, below_sublist_tipNames t₁ _ (List.getElem_mem hi), below_sublist_tipNames t₂ _ (List.getElem_mem hj)⟩
  rw [indexOf_eq H t₁ hu₁ i hi] at h₁
  rw [indexOf_eq H t₂ hu₂ j hj] at h₂
  cases h₁; cases h₂
  exact ⟨spec_equals_iff_sameSplit H S, spec_sameBipartition H S⟩

/-- `FindEdge` finds a branch exactly when the other tree (same taxa) has a branch with the same
    split whose lower node is of the same kind (tip / inner), and never reports an error. -/
theorem findEdge_correct (H : String → UInt64) (t₁ t₂ : T)
    (hu₁ : t₁.tipNames.Nodup) (hu₂ : t₂.tipNames.Nodup) (hT : t₁.tipNames.Perm t₂.tipNames)
    (i : Nat) (hi : i < t₁.splits.length) (e₁ : EdgeIdx) (h₁ : indexOf H t₁ i = some e₁)
    (r₂ : List String × List EdgeIdx) (h₂ : reinit H t₂ = .ok r₂) :
    findEdge e₁ (t₁.splits[i]).tip (r₂.2.zip (t₂.splits.map (·.tip))) =
      some (specFindEdge t₁.tipNames (t₁.splits[i]).below (t₁.splits[i]).tip t₂.splits) := by
  have hm := List.getElem_mem hi
  have hb := below_sublist_tipNames t₁ _ hm
  have hne₂ : t₂.tipNames ≠ [] := by
    intro h
    have h0 := (T.below_proper t₁ _ hm).2
    rw [hT.length_eq, h] at h0
    exact absurd h0 (Nat.not_lt_zero _)
  rw [indexOf_eq H t₁ hu₁ i hi] at h₁
  cases h₁
  rw [reinit_eq H t₂ hu₂ hne₂] at h₂
  cases h₂
  simp only [List.zip_map']
  exact findEdge_spec_level H t₂ _ hu₁ hu₂ hT hb (T.below_proper t₁ _ hm).1

/-- `CommonEdges` (the glue over `FindEdge`) on two indexed trees on the same uniquely named taxa:
    never an error; `common` counts the considered branches of the first tree (inner ones, or all with
    `tipEdges`) whose split is carried by a branch of the same kind in the second, `tree1` the others. -/
theorem commonEdges_correct (H : String → UInt64) (t₁ t₂ : T)
    (hu₁ : t₁.tipNames.Nodup) (hu₂ : t₂.tipNames.Nodup) (hT : t₁.tipNames.Perm t₂.tipNames) (hne : t₁.tipNames ≠ [])
    (r₁ r₂ : List String × List EdgeIdx) (h₁ : reinit H t₁ = .ok r₁) (h₂ : reinit H t₂ = .ok r₂) (tipEdges : Bool) :
    commonEdges t₁.tipNames t₂.tipNames (r₁.2.zip (t₁.splits.map (·.tip))) (r₂.2.zip (t₂.splits.map (·.tip))) tipEdges =
      some (specCommon t₁.tipNames tipEdges t₁.splits t₂.splits) := by
  have hne₂ : t₂.tipNames ≠ [] := fun h => hne (List.length_eq_zero_iff.mp (by rw [hT.length_eq, h]; rfl))
  rw [reinit_eq H t₁ hu₁ hne] at h₁
  rw [reinit_eq H t₂ hu₂ hne₂] at h₂
  cases h₁; cases h₂
  have hc : compareTipIndexes t₁.tipNames t₂.tipNames = true := by
    unfold compareTipIndexes
    have l2 : t₂.tipNames.length ≠ 0 := fun h => hne₂ (List.length_eq_zero_iff.mp h)
    simp only [Bool.and_eq_true, Bool.not_eq_true', Bool.or_eq_false_iff, beq_eq_false_iff_ne, ne_eq,
      not_false_eq_true, l2, bne_eq_false_iff_eq, hT.length_eq, and_self, List.all_eq_true, true_and]
    intro x hx; exact List.contains_iff_mem.mpr (hT.mem_iff.mp hx)
  unfold commonEdges
  simp only [hc, Bool.not_true, Bool.false_eq_true, if_false, List.zip_map']
  rw [commonEdgesLoop_spec H t₂ tipEdges hu₁ hu₂ hT t₁.splits
    (fun s hs => ⟨below_sublist_tipNames t₁ s hs, (T.below_proper t₁ s hs).1⟩) 0 0]
  have hle := List.length_filter_le (fun s => specFindEdge t₁.tipNames s.below s.tip t₂.splits)
    (t₁.splits.filter fun s => tipEdges || !s.tip)
  simp only [specCommon, Option.some.injEq, Prod.mk.injEq]
  omega

/-- the oracle's fast form of `sameSplit` (membership vectors) is `sameSplit` -/
theorem sameSplit_vec (all a b : List String) :
    sameSplit all a b = sameSplitV (memVec all a) (memVec all b) := sameSplit_eq_vec all a b

/-- F6 (before fix 6e33baa): `ReinitIndexes` on a tree whose root has a single neighbour
    dereferenced a nil branch; the repaired model indexes it. -/
theorem reinit_roottip_pinned_panics :
    reinitPinned fnv1a exTipRoot = none ∧ (∃ r, reinit fnv1a exTipRoot = .ok r) := by
  refine ⟨by decide +kernel, ?_⟩
  exact ⟨_, reinit_eq fnv1a exTipRoot (by decide +kernel) (by decide +kernel)⟩

/-! ## quartets -/

/-- ★ Quartets that `HashEquals` identifies (equal or conflicting: any of the 24
    presentations of the same four taxa) have the same `HashCode` — for all taxon
    indexes, distinct or not. -/
theorem q_hash_compat (a b : Quartet) (h : a.hashEquals b = true) : a.hashCode = b.hashCode := by
  unfold Quartet.hashCode
  rw [sorted4_of_perm (perm_of_hashEquals a b h)]

example : Quartet.hashEquals ⟨7, 2, 9, 4⟩ ⟨9, 2, 4, 7⟩ = true ∧ Quartet.distinct ⟨7, 2, 9, 4⟩ = true := by decide

/-- `q_equals_iff_same_taxa`: `HashEquals` holds exactly for quartets on the same four taxa
    (as multisets): any of the 24 presentations, equal or conflicting topology. -/
theorem q_equals_iff_same_taxa (a b : Quartet) : a.hashEquals b = true ↔ a.taxa.Perm b.taxa :=
  ⟨perm_of_hashEquals a b, hashEquals_of_perm a b⟩

/-- the executable form used by the oracle -/
theorem q_equals_eq_sameTaxa (a b : Quartet) : a.hashEquals b = a.sameTaxa b := by
  rw [Bool.eq_iff_iff, q_equals_iff_same_taxa, Quartet.sameTaxa, List.isPerm_iff]

/-- `Compare` answers EQUALS for the same two unordered pairs, CONFLICT for the same taxa paired
    differently, DIFF otherwise — for all quartets. -/
theorem q_compare_spec (a b : Quartet) : a.compare b = a.specCompare b := by
  unfold Quartet.specCompare
  rw [← q_equals_eq_sameTaxa]
  exact cmp_abs _ _ _ _ _ _

/-- Quartets are lawful keys of `hashmap.HashMap` (`IndexQuartets`): `HashEquals` is an equivalence
    and compatible with `HashCode`, so `hm_refines` applies to a quartet-keyed map. -/
theorem quartet_keys_lawful : KeyLaws Quartet.hashCode Quartet.hashEquals := by
  refine ⟨?_, ?_, ?_, q_hash_compat⟩
  · intro a; exact (q_equals_iff_same_taxa a a).mpr (List.Perm.refl _)
  · intro a b h; exact (q_equals_iff_same_taxa b a).mpr ((q_equals_iff_same_taxa a b).mp h).symm
  · intro a b c h1 h2
    exact (q_equals_iff_same_taxa a c).mpr (((q_equals_iff_same_taxa a b).mp h1).trans ((q_equals_iff_same_taxa b c).mp h2))

/-- `Tree.Quartets(false, ·)` (post-order "right" lists, pre-order "left" lists concatenated in
    neighbour order with the parent at `ppos`, one quartet set per branch whose two ends have three
    neighbours, `iterate`) delivers exactly the quartets of the tree — two tips away from the branch,
    two tips below it — as a multiset, for every tree with unique tip names whose root is not a tip. -/
theorem quartets_plain_correct (rank : String → Nat) (t : T) (hn : t.tipNames.Nodup) (hr : t.kids.length ≠ 1) :
    ((quartets rank false t).map Quartet.canon).Perm ((specQuartets rank false t).map Quartet.canon) :=
  quartets_eq rank false t hn hr

/-- The same for both modes of `Quartets`: with `specific` the quartets take one tip behind each of two
    other branches of the upper node and one tip below each of two child branches of the lower node
    (`iterate`'s eight nested loops over the branch groups, the parent's group being the "left" list). -/
theorem quartets_correct (rank : String → Nat) (specific : Bool) (t : T) (hn : t.tipNames.Nodup) (hr : t.kids.length ≠ 1) :
    ((quartets rank specific t).map Quartet.canon).Perm ((specQuartets rank specific t).map Quartet.canon) :=
  quartets_eq rank specific t hn hr

/-- an unrooted example with quartets: ((A,B),C,D,E) -/
def exU : T := .node ⟨"", []⟩ 0
  [(⟨1, NIL, NIL, [], 0⟩, .node ⟨"", []⟩ 0 [(⟨1, NIL, NIL, [], 1⟩, .leaf "A"), (⟨2, NIL, NIL, [], 2⟩, .leaf "B")]),
   (⟨1, NIL, NIL, [], 3⟩, .leaf "C"), (⟨1, NIL, NIL, [], 4⟩, .leaf "D"), (⟨1, NIL, NIL, [], 5⟩, .leaf "E")]

example : exU.tipNames.Nodup ∧ exU.kids.length ≠ 1 ∧
    (quartets (fun x => (sortNames exU.tipNames).idxOf x) false exU).length = 3 := by decide +kernel

/-- a root that is a tip: `postOrderQuartetSet` stops at the root and nothing is enumerated, whereas
    the same topology rooted on the inner node has its three quartets -/
theorem quartets_roottip_empty :
    quartets (fun x => (sortNames exTipRoot.tipNames).idxOf x) false exTipRoot = [] ∧
    quartets (fun x => (sortNames exU.tipNames).idxOf x) false exU ≠ [] := by
  decide +kernel

/-- F9 (before fix cf649d5): two presentations of one quartet that `HashEquals` identifies
    got different hash codes. -/
theorem q_hash_pinned_fails :
    Quartet.hashEquals ⟨1, 2, 3, 4⟩ ⟨3, 4, 1, 2⟩ = true ∧
    Quartet.hashCodePinned ⟨1, 2, 3, 4⟩ ≠ Quartet.hashCodePinned ⟨3, 4, 1, 2⟩ := by
  decide

/-! ## the hash map -/

/-- ★ `hashmap.HashMap` behaves like a plain association list: for every initial
    capacity (0 means one bucket since fix b2a7fc8), every rehash policy, every key type
    whose `HashEquals` is an equivalence compatible with `HashCode`, and every script of
    `PutValue` / `Value` / `KeyValues`, the replies are those of the association list
    (`KeyValues` up to order) — in particular no reply is a panic. -/
theorem hm_refines {κ ν : Type} {hash : κ → UInt64} {eqv : κ → κ → Bool} (L : KeyLaws hash eqv)
    (cap : Nat) (policy : Nat → Nat → Bool) (ops : List (HMOp κ ν)) :
    HMOut.simL (HM.run hash eqv policy ops (HM.new cap)) (Assoc.run eqv ops []) :=
  hm_new_refines L cap policy ops

/-- `EdgeIndex` scripts (`AddEdgeCount` / `PutEdgeValue` / `Value` / `Edges`) answer exactly like a
    plain map keyed by the key's equivalence class, for every capacity and rehash policy. -/
theorem ei_refines {κ : Type} {hash : κ → UInt64} {eqv : κ → κ → Bool} (L : KeyLaws hash eqv)
    (cap : Nat) (policy : Nat → Nat → Bool) (ops : List (EIOp κ)) :
    EI.run hash eqv policy ops (HM.new cap) = Assoc.runEI eqv ops [] :=
  ei_new_refines L cap policy ops

/-- `edgeIndex_counts`: after `AddEdgeCount` over any list of branches, looking a branch up finds
    the number of inserted branches equal to it and the sum of their lengths (nothing if none). -/
theorem edgeIndex_counts {κ : Type} {hash : κ → UInt64} {eqv : κ → κ → Bool} (L : KeyLaws hash eqv)
    (cap : Nat) (policy : Nat → Nat → Bool) (es : List (κ × Rat)) (k : κ) :
    EI.run hash eqv policy (es.map (fun e => EIOp.add e.1 e.2) ++ [.value k]) (HM.new cap) =
      List.replicate es.length EIOut.unit ++
        [.val (if countOf eqv k es = 0 then none else some ⟨(countOf eqv k es : Nat), lenOf eqv k es⟩)] := by
  rw [ei_refines L, runEI_adds]
  simp only [Assoc.runEI, get_addAll L, Assoc.get, merged]

/-- The keys of the split index are lawful: on the index records of the branches of trees on one
    set of uniquely named taxa (`specIdx` of a sub-list of the tips — what `ReinitIndexes` computes,
    theorem `indexOf_eq`), `HashEquals` is an equivalence and equal keys have equal `HashCode`.
    So `hm_refines`, `ei_refines` and `edgeIndex_counts` apply to `tree.EdgeIndex`. -/
theorem edge_keys_lawful (H : String → UInt64) (tips : List String) (hn : tips.Nodup) :
    KeyLaws (κ := { b : List String // b.Sublist tips })
      (fun b => (specIdx H tips b.1).hashCode)
      (fun b b' => (specIdx H tips b.1).equals (specIdx H tips b'.1)) :=
  have S (b b' : { b : List String // b.Sublist tips }) : Sides tips tips b.1 b'.1 := ⟨hn, hn, .refl _, b.2, b'.2⟩
  keyLaws_of_sameSplit tips (·.1) (fun b b' => spec_equals_iff_sameSplit H (S b b'))
    fun b b' => spec_hashCode_of_sameSplit H (S b b')

/-- `tree.EdgeIndex` as the driver runs it — keys are the index records of branches of trees on one set
    of uniquely named taxa, hashed by `HashCode`, compared by `HashEquals` — answers every script of
    `AddEdgeCount` / `PutEdgeValue` / `Value` / `Edges` exactly like a plain map keyed by the *split*
    (`sameSplit`), for every capacity and rehash policy. -/
theorem edgeIndex_on_trees (H : String → UInt64) (tips : List String) (hn : tips.Nodup)
    (cap : Nat) (policy : Nat → Nat → Bool) (ops : List (EIOp { b : List String // b.Sublist tips })) :
    EI.run EdgeIdx.hashCode EdgeIdx.equals policy
        (ops.map (EIOp.mapKey fun b => specIdx H tips b.1)) (HM.new cap) =
      Assoc.runEI (fun b b' => sameSplit tips b.1 b'.1) ops [] :=
  ei_new_on _ _ _ (fun b b' => spec_equals_iff_sameSplit H ⟨hn, hn, .refl _, b.2, b'.2⟩)
    (edge_keys_lawful H tips hn) cap policy ops

/-- `hashmap.HashMap` keyed by index records of branches (as `Compare`, the consensus and the supports use
    it, and as the driver runs it): every `PutValue` / `Value` / `KeyValues` / `Keys` script answers like a
    plain map keyed by the split, for every capacity and rehash policy. -/
theorem hashmap_on_trees {ν : Type} (H : String → UInt64) (tips : List String) (hn : tips.Nodup)
    (cap : Nat) (policy : Nat → Nat → Bool) (ops : List (HMOp { b : List String // b.Sublist tips } ν)) :
    HMOut.simL
      (HM.run EdgeIdx.hashCode EdgeIdx.equals policy (ops.map (HMOp.mapKey fun b => specIdx H tips b.1)) (HM.new cap))
      ((Assoc.run (fun b b' => sameSplit tips b.1 b'.1) ops []).map (HMOut.mapKey fun b => specIdx H tips b.1)) :=
  hm_new_on _ _ _ (fun b b' => spec_equals_iff_sameSplit H ⟨hn, hn, .refl _, b.2, b'.2⟩)
    (edge_keys_lawful H tips hn) cap policy ops

/-- Keys coming from SEVERAL trees on the same taxa (each with its own tip order — rotated, re-rooted or
    different trees): the index records of all their branches form a lawful key set — `HashEquals` is
    "same split of `tips`" and compatible with `HashCode`. -/
theorem tree_keys_lawful (H : String → UInt64) (tips : List String) (hn : tips.Nodup) :
    KeyLaws (κ := TreeKey tips) (fun k => (k.idx H).hashCode) (fun k k' => (k.idx H).equals (k'.idx H)) :=
  TreeKey.keyLaws H hn

/-- every branch of every tree on the taxa is such a key, and its record after `ReinitIndexes` is the key's -/
theorem branch_is_treeKey (H : String → UInt64) (tips : List String) (t : T) (hn : t.tipNames.Nodup)
    (hp : t.tipNames.Perm tips) (i : Nat) (hi : i < t.splits.length) :
    ∃ k : TreeKey tips, k.order = t.tipNames ∧ k.below = (t.splits[i]).below ∧ indexOf H t i = some (k.idx H) :=
  ⟨⟨t.tipNames, (t.splits[i]).below, hp, below_sublist_tipNames t _ (List.getElem_mem hi)⟩, rfl, rfl, indexOf_eq H t hn i hi⟩

/-- `tree.EdgeIndex` over the branches of any number of trees on the same uniquely named taxa (what the
    consensus, the supports and the driver's `several-trees` scripts do): every script answers like a plain
    map keyed by the split of `tips`, for every capacity and rehash policy. -/
theorem edgeIndex_across_trees (H : String → UInt64) (tips : List String) (hn : tips.Nodup)
    (cap : Nat) (policy : Nat → Nat → Bool) (ops : List (EIOp (TreeKey tips))) :
    EI.run EdgeIdx.hashCode EdgeIdx.equals policy (ops.map (EIOp.mapKey fun k => k.idx H)) (HM.new cap) =
      Assoc.runEI (fun k k' => sameSplit tips k.below k'.below) ops [] :=
  ei_new_on _ _ _ (TreeKey.equals_eq H hn) (tree_keys_lawful H tips hn) cap policy ops

/-- the same for `hashmap.HashMap` scripts (`PutValue` / `Value` / `KeyValues` / `Keys`) -/
theorem hashmap_across_trees {ν : Type} (H : String → UInt64) (tips : List String) (hn : tips.Nodup)
    (cap : Nat) (policy : Nat → Nat → Bool) (ops : List (HMOp (TreeKey tips) ν)) :
    HMOut.simL
      (HM.run EdgeIdx.hashCode EdgeIdx.equals policy (ops.map (HMOp.mapKey fun k => k.idx H)) (HM.new cap))
      ((Assoc.run (fun k k' => sameSplit tips k.below k'.below) ops []).map (HMOut.mapKey fun k => k.idx H)) :=
  hm_new_on _ _ _ (TreeKey.equals_eq H hn) (tree_keys_lawful H tips hn) cap policy ops

-- two trees with different tip orders (`exT`, `exTipRoot`): a branch of each as keys over `exT.tipNames`
example : ∃ a b : TreeKey exT.tipNames, a.order = exT.tipNames ∧ b.order = exTipRoot.tipNames ∧
    a.order ≠ b.order ∧ sameSplit exT.tipNames a.below b.below = true :=
  ⟨⟨exT.tipNames, (exT.splits[0]).below, List.Perm.refl _, by decide +kernel⟩,
   ⟨exTipRoot.tipNames, (exTipRoot.splits[1]).below, (List.isPerm_iff.mp (by decide +kernel)), by decide +kernel⟩,
   rfl, rfl, by decide +kernel, by decide +kernel⟩

/-- `IndexQuartets`: for every capacity (the code's 12 800 000 included) and rehash policy the map holds
    one entry per set of four taxa — first quartet met as key, last one as value (`specIndexQuartets`),
    up to the order of `KeyValues`. -/
theorem indexQuartets_plain_map (policy : Nat → Nat → Bool) (cap : Nat) (qs : List Quartet) :
    HMOut.simL (indexQuartets policy cap qs)
      (List.replicate qs.length HMOut.unit ++ [.kvs (specIndexQuartets qs)]) := by
  unfold indexQuartets specIndexQuartets
  rw [← assoc_run_puts]
  exact hm_refines quartet_keys_lawful cap policy _

/-- F36 (before fix b2a7fc8): a map created with capacity 0 panics on the first `PutValue`. -/
theorem hm_cap0_pinned_panics (hash : Nat → UInt64) (eqv : Nat → Nat → Bool) (policy : Nat → Nat → Bool) (k v : Nat) :
    HM.run hash eqv policy [.put k v] (HM.newPinned 0) = [.panic] := by
  simp [HM.run, HM.put, HM.newPinned]

/-! ## `Edge.DumpBitSet` and `gotree stats splits` -/

/-- `dumpBitSet_correct`: on a tree with unique tip names (any number of tips since fix 405e36d), after `ReinitIndexes`
    the dump of every branch (`Edge.DumpBitSet`, what `gotree stats splits` prints after the tree number) shows one
    digit per tip in the order of the header — the sorted names from the last to the first — '1' exactly for the
    tips below the branch, then a dot. -/
theorem dumpBitSet_correct (H : String → UInt64) (t : T) (hn : t.tipNames.Nodup)
    (i : Nat) (hi : i < t.splits.length) (e : EdgeIdx) (he : indexOf H t i = some e) :
    dumpBitSet (some e.bits) = specDumpLine t.tipNames (t.splits[i]).below := by
  rw [indexOf_eq H t hn i hi] at he
  cases he
  exact dumpBitSet_spec H _ _

/-- `statsSplits_correct`: the body of `gotree stats splits` for one tree with unique tip names prints the header
    (`Tree<TAB>` and the sorted names from the last to the first joined by `|`) and, per branch in `Edges()` order,
    the tree number, a tab and one aligned digit per tip followed by a dot — never an error. -/
theorem statsSplits_correct (id : Nat) (t : T) (hn : t.tipNames.Nodup) (hne : t.tipNames ≠ []) :
    statsSplits id t = .ok (specSplitsHeader t.tipNames ++ "\n" ++
      String.join (t.splits.map fun s => toString id ++ "\t" ++ specDumpLine t.tipNames s.below ++ "\n")) := by
  unfold statsSplits
  rw [reinitLit3_eq_reinit, reinit_eq fnv1a t hn hne]
  simp only [List.map_map]
  congr 3
  apply List.map_congr_left
  intro s _
  simp only [Function.comp]
  rw [dumpBitSet_spec]

-- five tips, the two lowest ranks below the branch
example : dumpBitSetL (some [true, true, false, false, false]) = ['0', '0', '0', '1', '1', '.'] := by decide
example : exT.tipNames.Nodup ∧ exT.tipNames ≠ [] := by decide +kernel

/-- Fix 405e36d changes nothing up to 64 tips: the pinned `DumpBitSet` (slice of `DumpAsBits`) printed the same. -/
theorem dumpBitSet_pinned_le64 (b : List Bool) (h1 : 1 ≤ b.length) (h2 : b.length ≤ 64) :
    dumpBitSetPinnedL (some b) = some (dumpBitSetL (some b)) := by
  rw [dumpBitSetPinnedL_le64 b h1 h2, dumpBitSetL_eq]

/-- the pinned `DumpBitSet` never panicked on the bitsets `ClearBitSets` creates: it returned `Len + 1` characters
    (one of them a dot per 64-bit word, hence too few digits above 64 tips) -/
theorem dumpBitSet_pinned_total (b : List Bool) (h1 : 1 ≤ b.length) :
    ∃ s, dumpBitSetPinnedL (some b) = some s ∧ s.length = b.length + 1 := by
  have hl : (dumpAsBitsL b).length = 65 * ((b.length + 63) / 64) := by
    unfold dumpAsBitsL; rw [flatMap_wordChars_length]; simp
  have hge : b.length + 1 ≤ (dumpAsBitsL b).length := by rw [hl]; omega
  refine ⟨(dumpAsBitsL b).drop ((dumpAsBitsL b).length - b.length - 1), ?_, ?_⟩
  · simp only [dumpBitSetPinnedL]
    rw [if_neg (by omega)]
  · rw [List.length_drop]; omega

/-- F95 (before fix 405e36d): above 64 tips `DumpBitSet` kept the last `Len+1` characters of a dump that holds one dot
    per 64-bit word, so one leading digit was lost per word above the first: with 65 tips the bitset of the branch
    above the tip of rank 64 and the empty bitset printed the same 66 characters — `gotree stats splits` showed that
    tip's own branch as all zeros.  The repaired model tells them apart. -/
theorem dumpBitSet_pinned_fails :
    dumpBitSetPinnedL (some (mkBits 65 [64])) = dumpBitSetPinnedL (some (mkBits 65 [])) ∧
    dumpBitSetL (some (mkBits 65 [64])) ≠ dumpBitSetL (some (mkBits 65 [])) ∧
    (dumpBitSetPinnedL (some (mkBits 65 [64]))).map (·.length) = some 66 ∧
    (dumpBitSetL (some (mkBits 65 [64]))).length = 66 := by
  refine ⟨by decide +kernel, by decide +kernel, by decide +kernel, by decide +kernel⟩

/-! ## node depths (`ComputeDepths`, the last step of `ReinitIndexes` / `ReinitInternalIndexes`) -/

/-- On a rooted tree (root with two neighbours) `ComputeDepths` — `computeDepthRecurRooted`: tips 0, else one more than
    the least depth among the children — gives every node its distance to the closest tip below it, whatever depths
    the nodes carried before. -/
theorem computeDepths_rooted (t : T) (hr : t.kids.length = 2) (before : List Int) :
    computeDepths t before = specDepths t := by
  simp [computeDepths, specDepths, hr, (depthRootedT_eq t).1]

/-- ((t3,t5),(t0,t4),t2) — what ((t2,t1),(t3,t5),(t0,t4)) becomes when t1 is removed -/
def exDepth : T := .node ⟨"", []⟩ 0
  [(⟨1, NIL, NIL, [], 0⟩, .node ⟨"", []⟩ 0 [(⟨1, NIL, NIL, [], 1⟩, .leaf "t3"), (⟨1, NIL, NIL, [], 2⟩, .leaf "t5")]),
   (⟨1, NIL, NIL, [], 3⟩, .node ⟨"", []⟩ 0 [(⟨1, NIL, NIL, [], 4⟩, .leaf "t0"), (⟨1, NIL, NIL, [], 5⟩, .leaf "t4")]),
   (⟨1, NIL, NIL, [], 6⟩, .leaf "t2")]

/-- F98 (before fix 7dc6678): on a tree that is not rooted `computeDepthUnRooted` filled only the depths that were
    still unset.  On fresh nodes it gave the distance to the closest tip (here 1 for the root, which touches t2); on
    nodes that carried the depths of the shape before the edit (root 2) it changed nothing.  The repaired model
    forgets them first. -/
theorem computeDepths_unrooted_pinned_fails :
    computeDepthsPinned exDepth [-1, -1, -1, -1, -1, -1, -1, -1] = specDepths exDepth ∧
    specDepths exDepth = [1, 1, 0, 0, 1, 0, 0, 0] ∧
    computeDepthsPinned exDepth [2, 1, 0, 0, 1, 0, 0, 0] = [2, 1, 0, 0, 1, 0, 0, 0] ∧
    computeDepths exDepth [2, 1, 0, 0, 1, 0, 0, 0] = specDepths exDepth := by decide +kernel

/-- since 7dc6678 the depths carried before the call do not matter, rooted or not (same number of nodes) -/
theorem computeDepths_forgets (t : T) (b b' : List Int) (h : b.length = b'.length) :
    computeDepths t b = computeDepths t b' := by
  have : (b.map fun _ => (-1 : Int)) = b'.map fun _ => (-1 : Int) := by
    rw [List.map_const', List.map_const', h]
  simp only [computeDepths, this]

/-! ## facts about the source, regenerated on every run (`vh gen-tables`, harness/c04/extract.go) -/

/-- Table (a) `Gen.C04Facts.reach`: every edit of the histories that the harness reads "straight after its own
    recompute" (and `ReinitIndexes` / `ReinitInternalIndexes` themselves) still reaches, through calls inside
    package tree, the index routines the model runs for it (`Facts.assumedReach`).  When this fails, an edit has
    stopped recomputing something: the `own-recompute` cases of `C04.index` are the replay (stale bitsets, counts
    or ranks are judged there against the splits of the edited tree). -/
theorem recompute_table_check :
    Facts.reachOK Gotree.Gen.C04Facts.reach = true ∧ Gotree.Gen.C04Facts.problems = [] := ⟨by decide +kernel, rfl⟩

/-- Table (b) `Gen.C04Facts.facts`: the one-line decisions the model copies by hand — the
    rehash test (`>=`, float64 product) and growth factor 2, `NewHashMap`'s size 0 → 1, the three-way choice of
    `Edge.HashCode`, `HashEquals`, `SameBipartition`, `TopoDepth`, the filter of `EdgeIndex.Edges`, the five
    compare-and-swap steps and the polynomial of `Quartet.HashCode`, `fnv.New64a`, the bytewise comparator of
    `SortedTips`, the capacity of `IndexQuartets`, the width `ClearBitSets` gives the bitsets — read today as
    `Facts.assumedFacts` says.  When this fails, the listed function was rewritten: the generated cases (hm / ei /
    pairs / quartet, every capacity and tie) look for a failing input; if none is found the model must be re-read. -/
theorem facts_table_check : Facts.factsDiff Gotree.Gen.C04Facts.facts = [] := by decide +kernel

/-- Table (c) `Gen.C04Facts.sem` / `hashCodeChain`: the expressions of `indexFor`, of the guard and value of
    `Edge.TopoDepth`, of the filter of `EdgeIndex.Edges` and the decision list of `Edge.HashCode`, handed over as terms
    and EVALUATED on probes (uint64 wrap-around for the hashes): they compute what `indexFor`, `EdgeIdx.topoDepth`,
    `eiKeep` and `EdgeIdx.hashCode` of the model compute.  An equivalent rewrite of the Go expression stays green; a
    change of meaning fails here and the hm / ei / pairs cases look for the failing input. -/
theorem sem_table_check :
    Facts.indexForOK (Facts.semLookup Gotree.Gen.C04Facts.sem "indexFor.ret") = true ∧
    Facts.topoDepthOK (Facts.semLookup Gotree.Gen.C04Facts.sem "Edge.TopoDepth.err")
      (Facts.semLookup Gotree.Gen.C04Facts.sem "Edge.TopoDepth.ret") = true ∧
    Facts.edgesKeepOK (Facts.semLookup Gotree.Gen.C04Facts.sem "EdgeIndex.Edges.keep") = true ∧
    Facts.hashCodeOK Gotree.Gen.C04Facts.hashCodeChain = true := by
  refine ⟨by decide +kernel, by decide +kernel, by decide +kernel, by decide +kernel⟩

end Gotree.C04

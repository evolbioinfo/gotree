/-
  C06 — the theorems that depend on the table regenerated from the source (`Gotree/Gen/C06Sites.lean`,
  harness/c06/extract.go).  Kept apart from `Proofs/C06.lean`, which other properties import: nothing outside
  C06 may import this module.
-/
import Gotree.Proofs.C06
import Gotree.Gen.C06Sites

namespace Gotree.C06
open Gotree

open Sites Gen.C06Sites in
/-- `RemoveTips` in the source: `rooted := t.Rooted()` before the loop, the loop over `t.Tips()`, one selection
    condition (its VALUE is `sites_select`), `removeTip(tip, rooted)`, after the loop `UpdateTipIndex()` BEFORE
    `ReinitInternalIndexes()`, and no reading of the cached tip index anywhere in `RemoveTips` / `removeTip`
    (they work from the tree: the model has no index argument) — what `removeTips` / `removeLoopR` / `workList` assume. -/
theorem sites_removeTips_check :
    rtPre = expRtPre ∧ rtRange = expRtRange ∧ rtSelect.length = 1 ∧
    rtCallArgs = expRtCallArgs ∧ rtPost = expRtPost ∧ rtIndexReads = [] := ⟨rfl, rfl, rfl, rfl, rfl, rfl⟩

open Sites Gen.C06Sites in
/-- the guard of the loop, EVALUATED: a listed tip that no longer has exactly one neighbour ends the call -/
theorem sites_removeTips_guard_sem :
    ([0, 1, 2, 3].all fun (d : Int) =>
      let p : Probe := { tdeg := d }
      rtGuards.map (fun g => (p.eval g.1, g.2)) == expRtGuard p) = true := by decide +kernel

open Sites Gen.C06Sites in
/-- `removeTip` in the source, textual part: the value given to the merged branch, who is connected below whom,
    the new root. -/
theorem sites_removeTip_check :
    tipIfs.length = 5 ∧ tipSetLength.map (·.2) = expLenArg ∧ tipSetSupport.map (·.2) = expSupArg := ⟨rfl, rfl, rfl⟩

open Sites Gen.C06Sites in
/-- `removeTip` in the source, EVALUATED on every probe (degrees 0-4, rooted or not, root or not, …): the five
    top-level tests are "not a tip", "the tip is the root", "error", case 1 (`deg = 1`) and case 2
    (`deg = 2` unless rooted and root); the chain of case 1 goes on while `deg = 1` below the root — what
    `finishNode`, `rootAfterLoss`, `removeTipR` do.  Any equivalent rewrite of these conditions keeps the theorem. -/
theorem sites_removeTip_cases_sem :
    (degs.all fun deg => [0, 1, 2].all fun (td : Int) => bools.all fun ti => bools.all fun ir => bools.all fun er =>
      bools.all fun ro =>
        let p : Probe := { tdeg := td, deg := deg, tipIsInternal := ti, isRoot := ir, err := er, rooted := ro }
        tipIfs.map p.eval == expTipIfs p && tipChain.map p.eval == expTipChain p) = true := by decide +kernel

open Sites Gen.C06Sites in
/-- the guards of `SetLength` / `SetSupport` on the merged branch, EVALUATED with the sentinels found in
    tree/edge.go: a length unless both are absent, a support unless both are absent or an end is a tip — `fuseEdge`;
    and the tests choosing the direction of `ConnectNodes` and the new root. -/
theorem sites_removeTip_fuse_sem :
    (vals.all fun a => vals.all fun b => [1, 2, 3].all fun (d1 : Int) => [1, 2, 3].all fun (d2 : Int) =>
      bools.all fun x => bools.all fun y =>
        let nl : Int := ((consts.lookup "NIL_LENGTH").bind litInt?).getD 0
        let ns : Int := ((consts.lookup "NIL_SUPPORT").bind litInt?).getD 0
        let p : Probe := { l1 := a, l2 := b, s1 := a, s2 := b, d1 := d1, d2 := d2, dir1 := x, dir2 := y, nilLen := nl, nilSup := ns }
        tipSetLength.map (fun g => p.eval g.1) == expLenGuard p &&
        tipSetSupport.map (fun g => p.eval g.1) == expSupGuard p &&
        tipConnectNodes.map (fun g => (p.eval g.1, g.2)) == expConnect p &&
        tipSetRoot.map (fun g => (p.eval g.1, g.2)) == expSetRoot p) = true := by decide +kernel

open Sites Gen.C06Sites in
/-- the sentinels of tree/edge.go are `-1`, the model's `NIL` -/
theorem sites_consts_check :
    (["NIL_SUPPORT", "NIL_LENGTH"].all fun n => (consts.lookup n).bind litRat? == some NIL) = true := by
  decide +kernel

open Sites Gen.C06Sites in
/-- cmd/prune.go in the source: the reads before the loop, the chain choosing the names, the flags with their
    defaults, the loops of `specificTips`; the loop body and the tests of `specificTips` EVALUATED: a failed input
    and a failed pruning end the command (`return`), the result is written at once; a node counts as a tip iff it
    has one neighbour, a tip of `ref` is listed iff unknown to `comp`. -/
theorem sites_prune_check :
    pruneReads = expPruneReads ∧ pruneRange = expPruneRange ∧ pruneChain = expPruneChain ∧
    pruneFlags = expPruneFlags ∧ specParams = expSpecParams ∧ specRanges = expSpecRanges ∧
    (bools.all fun er =>
      let p : Probe := { err := er }
      pruneBody.map (fun b => (b.1, b.2.map p.eval)) == expPruneBody p) = true ∧
    (degs.all fun d => bools.all fun k =>
      let p : Probe := { deg := d, ok := k }
      specConds.map p.eval == expSpecConds p) = true :=
  ⟨rfl, rfl, rfl, rfl, rfl, rfl, by decide +kernel, by decide +kernel⟩

open Sites in
/-- The selection condition FOUND IN THE SOURCE, evaluated: a tip is removed iff `(its name is listed) ≠ revert`,
    which is the decision `workList` / `toRemove` take and the complement of `kept`. -/
theorem sites_select (revert ok : Bool) :
    Gen.C06Sites.rtSelect.map (Ex.eval (ρSelect revert ok)) = [some (ok != revert)] := by
  cases revert <;> cases ok <;> decide +kernel

open Sites in
/-- The chain FOUND IN THE SOURCE, evaluated on the flags: the call it reaches is the one of the model's
    `PruneFlags.source` (priority -f > -c > --random > arguments). -/
theorem sites_source (f : PruneFlags) :
    pick (ρFlags f.tipfile.isSome f.comp.isSome (decide (f.random > 0))) Gen.C06Sites.pruneChain =
      some (callOf f.source) := by
  have key : ∀ a b c : Bool, pick (ρFlags a b c) Gen.C06Sites.pruneChain =
      some (callOf (if a then .file else if b then .comp else if c then .random else .args)) := by
    decide +kernel
  rw [key]
  unfold PruneFlags.source
  cases f.tipfile.isSome <;> cases f.comp.isSome <;> by_cases h : f.random > 0 <;> simp [h]

example : (⟨none, some t0, 3, ["a"], true⟩ : PruneFlags).source = .comp := by decide

end Gotree.C06

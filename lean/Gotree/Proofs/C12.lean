/-
  C12 — parsimony reconstruction is optimal: the property theorems.
  Everything is about the model functions the driver runs against the Go code
  (`runChar`, `upN`, `down`, `acctran`, `deltran` of Model/C12.lean); optimality is
  measured against ALL labellings (`LT`, `fits`, `changes` of Spec/C12.lean).
-/
import Gotree.Lemmas.C12Acc
import Gotree.Lemmas.C12Unamb
import Gotree.Lemmas.C12Root
import Gotree.Lemmas.C12Sitewise
import Gotree.Lemmas.C12RM
import Gotree.Lemmas.C12Text
import Gotree.Lemmas.C12Sites

namespace Gotree.C12
open Gotree

theorem runChar_steps (k : Nat) (tv : String → Vec) (algo : Algo) (t : T) (hr : rootOk t = true) :
    (runChar k tv algo t).1 = upN k tv t := by
  simp [runChar, (rootOk_kids hr).2]

/-- the reported steps are the Sankoff minimum the oracle computes -/
theorem steps_eq_minCost (k : Nat) (tv : String → Vec) (algo : Algo) (t : T)
    (hk : 0 < k) (hr : rootOk t = true) (ht : tipsOk k tv t = true) :
    (runChar k tv algo t).1 = minCost k tv t := by
  have h := Ok.of hr ht
  rw [runChar_steps k tv algo t hr]
  exact upN_eq_minCost k tv hk t h.kids h.s01'

/-- ★ The number of steps reported by the up-pass (any degree, any number of states) is a lower
    bound for the number of changes of EVERY labelling that respects the tip sets, and some
    labelling attains it. -/
theorem uppass_optimal (k : Nat) (tv : String → Vec) (algo : Algo) (t : T)
    (hk : 0 < k) (hr : rootOk t = true) (ht : tipsOk k tv t = true) :
    (∀ l : LT, fits k tv t l = true → (runChar k tv algo t).1 ≤ l.changes) ∧
    ∃ l : LT, fits k tv t l = true ∧ l.changes = (runChar k tv algo t).1 := by
  have h := Ok.of hr ht
  rw [steps_eq_minCost k tv algo t hk hr ht]
  exact ⟨fun l hl => minCost_le k tv t h.kids l hl, minCost_attained k tv hk t h.kids h.nz'⟩

/-- ★ The plain down-pass reports, at every inner node `v`, EXACTLY the states that occur at `v`
    in some most parsimonious labelling of the whole tree. -/
theorem downpass_exact (k : Nat) (tv : String → Vec) (t : T)
    (hk : 0 < k) (hr : rootOk t = true) (ht : tipsOk k tv t = true)
    (v : List Nat) (hin : innerAt t v = true) (vec : Vec)
    (hget : (runAlgo k tv .downpass t).get v = some vec) (s : Nat) (hs : s < k) :
    vec.at s ≠ 0 ↔
      ∃ l : LT, fits k tv t l = true ∧ l.changes = minCost k tv t ∧ l.get v = some s :=
  down_exact k tv hk t (Ok.of hr ht) v hin vec hget s hs

/-- The ORACLE's per-node optimal sets are what they are meant to be.  The second Sankoff pass `totA`
    (Spec; the driver reports a state `s` at an inner node `v` as optimal iff the slice entry equals `minCost`)
    characterises the most parsimonious labellings: the entry of `s` at `v` equals the minimum iff some most
    parsimonious labelling of the whole tree puts `s` at `v`. -/
theorem totA_exact (k : Nat) (tv : String → Vec) (t : T)
    (hk : 0 < k) (hr : rootOk t = true) (ht : tipsOk k tv t = true)
    (v : List Nat) (hin : innerAt t v = true) (tot : Vec)
    (hget : (totA k tv (vzero k) t).get v = some tot) (s : Nat) (hs : s < k) :
    tot.at s = minCost k tv t ↔
      ∃ l : LT, fits k tv t l = true ∧ l.changes = minCost k tv t ∧ l.get v = some s :=
  have h := Ok.of hr ht
  tot_exact k tv hk t h.kids h.nz v hin tot hget s hs

/-- DELTRAN is sound node by node: every state it reports at an inner node occurs there in some
    most parsimonious labelling (it only removes states from the down-pass sets). -/
theorem deltran_sound (k : Nat) (tv : String → Vec) (t : T)
    (hk : 0 < k) (hr : rootOk t = true) (ht : tipsOk k tv t = true)
    (v : List Nat) (hin : innerAt t v = true) (vec : Vec)
    (hget : (runAlgo k tv .deltran t).get v = some vec) (s : Nat) (hs : s < k) (hne : vec.at s ≠ 0) :
    ∃ l : LT, fits k tv t l = true ∧ l.changes = minCost k tv t ∧ l.get v = some s := by
  have h := Ok.of hr ht
  obtain ⟨vec0, hdv⟩ := Option.isSome_iff_exists.mp (down_get k tv t none v (innerAt_isSome hin))
  exact (down_exact k tv hk t h v hin vec0 hdv s hs).mp
    (deltran_sub k _ none (fun _ e => by cases e) (down_flat k tv t h.s01 none) v vec0 vec hdv hget s hs hne)

/-- ACCTRAN is sound: every state it reports at an inner node occurs there in some most
    parsimonious labelling of the whole tree. -/
theorem acctran_sound (k : Nat) (tv : String → Vec) (t : T)
    (hk : 0 < k) (hr : rootOk t = true) (ht : tipsOk k tv t = true)
    (v : List Nat) (hin : innerAt t v = true) (vec : Vec)
    (hget : (runAlgo k tv .acctran t).get v = some vec) (s : Nat) (hs : s < k) (hne : vec.at s ≠ 0) :
    ∃ l : LT, fits k tv t l = true ∧ l.changes = minCost k tv t ∧ l.get v = some s := by
  have hN : Narrows k none (upA k tv t) (runAlgo k tv .acctran t) := by
    simp only [runAlgo, acctran_eq]; exact deltran_narrows k none _
  exact acc_sound k tv hk t (Ok.of hr ht) _ hN v hin vec hget s hs hne

/-- When ACCTRAN reports exactly one state at every node (tips included), the labelling it
    spells out respects the tip sets and is itself most parsimonious. -/
theorem unambiguous_optimal_acctran (k : Nat) (tv : String → Vec) (t : T)
    (hk : 0 < k) (hr : rootOk t = true) (ht : tipsOk k tv t = true)
    (hall : allSingle k (runAlgo k tv .acctran t).flat = true) :
    fits k tv t (labelOf t ((runAlgo k tv .acctran t).flat.map (hd k))).1 = true ∧
    (labelOf t ((runAlgo k tv .acctran t).flat.map (hd k))).1.changes = minCost k tv t :=
  unamb_root k tv hk t (Ok.of hr ht) hall

/-- Tip states are never altered by the plain down-pass nor by DELTRAN: the slice of a leaf is
    the slice it was given (any tip set, ambiguous or not). -/
theorem tips_unaltered (k : Nat) (tv : String → Vec) (t : T) (algo : Algo)
    (ha : algo = .downpass ∨ algo = .deltran)
    (v : List Nat) (d : NodeD) (pp : Nat) (hleaf : sub t v = some (.node d pp [])) :
    (runAlgo k tv algo t).get v = some (tv d.name) := by
  have h1 := down_leaf_sub k tv t none v d pp hleaf
  rcases ha with rfl | rfl
  · exact A.get_of_sub _ v _ h1
  · exact A.get_of_sub _ v _ (deltran_leaf k _ none v _ h1)

/-- Tip states are never altered, by any of the algorithms and for any tip set (IUPAC ambiguity included):
    since fix a20daad ACCTRAN, too, leaves the slice of a leaf as it was given. -/
theorem tips_unaltered_all (k : Nat) (tv : String → Vec) (t : T) (algo : Algo)
    (v : List Nat) (d : NodeD) (pp : Nat) (hleaf : sub t v = some (.node d pp [])) :
    (runAlgo k tv algo t).get v = some (tv d.name) := by
  have hup := upA_leaf_sub k tv t v d pp hleaf
  cases algo with
  | downpass => exact tips_unaltered k tv t .downpass (Or.inl rfl) v d pp hleaf
  | deltran => exact tips_unaltered k tv t .deltran (Or.inr rfl) v d pp hleaf
  | acctran => exact A.get_of_sub _ v _ (acctran_leaf_sub k tv t none v d pp hleaf)
  | none => exact A.get_of_sub _ v _ hup

/-- one re-rooting step (the root moves to an inner child): same number of steps, and the
    hypotheses carry over to the re-rooted tree -/
theorem steps_moveRoot (k : Nat) (tv : String → Vec) (algo : Algo) (t : T)
    (hk : 0 < k) (hr : rootOk t = true) (ht : tipsOk k tv t = true) (i : Nat) (p : List Nat)
    (hp : okPath t (i :: p) = true) :
    (runChar k tv algo (moveRoot t i)).1 = (runChar k tv algo t).1 ∧
    rootOk (moveRoot t i) = true ∧ tipsOk k tv (moveRoot t i) = true ∧ okPath (moveRoot t i) p = true := by
  simp only [okPath, Bool.and_eq_true] at hp
  obtain ⟨hi, hp'⟩ := hp
  have hlen : 2 ≤ t.kids.length := by simpa [rootOk] using hr
  cases hki : t.kids[i]? with
  | none => simp [hki] at hi
  | some et =>
    match et, hki with
    | (e, .node d pp []), hki => simp [hki] at hi
    | (e, .node d pp (x :: xs)), hki =>
      have hr' : rootOk (moveRoot t i) = true := by
        match t, hki with
        | .node dt pt ks, hki =>
          simp only [T.kids_node] at hki
          rw [moveRoot_eq dt pt ks i e d pp (x :: xs) hki]
          simp [rootOk]
      have ht' := tipsOk_moveRoot k tv t ht i e d pp (x :: xs) hki hlen
      refine ⟨?_, hr', ht', hp'⟩
      rw [steps_eq_minCost k tv algo (moveRoot t i) hk hr' ht', steps_eq_minCost k tv algo t hk hr ht]
      exact minCost_moveRoot k tv hk t hlen (fun n hn => (tipsOk_spec k tv t ht n hn).2) i e d pp x xs hki

/-- The number of steps does not depend on the root: re-rooting on any inner node (along any
    path of inner nodes) leaves the reported number of steps unchanged. -/
theorem steps_root_invariant (k : Nat) (tv : String → Vec) (algo : Algo) (hk : 0 < k) :
    ∀ (p : List Nat) (t : T), rootOk t = true → tipsOk k tv t = true → okPath t p = true →
    (runChar k tv algo (rerootPath t p)).1 = (runChar k tv algo t).1
  | [], t, _, _, _ => by simp [rerootPath]
  | i :: p, t, hr, ht, hp => by
    obtain ⟨h1, hr', ht', hp'⟩ := steps_moveRoot k tv algo t hk hr ht i p hp
    simp only [rerootPath]
    rw [steps_root_invariant k tv algo hk p (moveRoot t i) hr' ht' hp', h1]

/-- A node with one child inserted on any branch (`subdivide`) changes neither the number of steps nor the
    hypotheses. -/
theorem steps_subdivide (k : Nat) (tv : String → Vec) (algo : Algo) (t : T) (q : List Nat)
    (hk : 0 < k) (hr : rootOk t = true) (ht : tipsOk k tv t = true) :
    (runChar k tv algo (subdivide t q)).1 = (runChar k tv algo t).1 ∧
    rootOk (subdivide t q) = true ∧ tipsOk k tv (subdivide t q) = true := by
  have hr' : rootOk (subdivide t q) = true := by
    match t, q, hr with
    | t, [], hr => simpa [subdivide] using hr
    | .node d p ks, i :: q, hr =>
      simp only [subdivide, rootOk, T.kids_node, subdivideL_length] at hr ⊢
      exact hr
  have ht' : tipsOk k tv (subdivide t q) = true := by
    match t, q, ht with
    | t, [], ht => simpa [subdivide] using ht
    | .node d p ks, i :: q, ht =>
      simp only [subdivide, tipsOk, T.kids_node, leavesL_subdivide] at ht ⊢
      exact ht
  refine ⟨?_, hr', ht'⟩
  rw [steps_eq_minCost k tv algo _ hk hr' ht', steps_eq_minCost k tv algo t hk hr ht]
  exact minCost_subdivide k tv hk t q

/-- Rooting ON A BRANCH: insert a node on the branch above the node addressed by `q`, then move the root there
    (or anywhere else along inner nodes): the reported number of steps is that of the original tree. -/
theorem steps_root_on_branch (k : Nat) (tv : String → Vec) (algo : Algo) (t : T) (q p : List Nat)
    (hk : 0 < k) (hr : rootOk t = true) (ht : tipsOk k tv t = true)
    (hp : okPath (subdivide t q) p = true) :
    (runChar k tv algo (rerootPath (subdivide t q) p)).1 = (runChar k tv algo t).1 := by
  obtain ⟨h1, hr', ht'⟩ := steps_subdivide k tv algo t q hk hr ht
  rw [steps_root_invariant k tv algo hk p (subdivide t q) hr' ht' hp, h1]

/-- When DELTRAN reports exactly one state at every node, the labelling it spells out respects the
    tip sets and is itself most parsimonious. -/
theorem unambiguous_optimal_deltran (k : Nat) (tv : String → Vec) (t : T)
    (hk : 0 < k) (hr : rootOk t = true) (ht : tipsOk k tv t = true)
    (hall : allSingle k (runAlgo k tv .deltran t).flat = true) :
    fits k tv t (labelOf t ((runAlgo k tv .deltran t).flat.map (hd k))).1 = true ∧
    (labelOf t ((runAlgo k tv .deltran t).flat.map (hd k))).1.changes = minCost k tv t :=
  del_root k tv hk t (Ok.of hr ht) hall

/-- When the plain down-pass reports exactly one state at every node, the labelling it spells out
    respects the tip sets and is itself most parsimonious. -/
theorem unambiguous_optimal_downpass (k : Nat) (tv : String → Vec) (t : T)
    (hk : 0 < k) (hr : rootOk t = true) (ht : tipsOk k tv t = true)
    (hall : allSingle k (runAlgo k tv .downpass t).flat = true) :
    fits k tv t (labelOf t ((runAlgo k tv .downpass t).flat.map (hd k))).1 = true ∧
    (labelOf t ((runAlgo k tv .downpass t).flat.map (hd k))).1.changes = minCost k tv t :=
  down_unamb k tv hk t (Ok.of hr ht) hall

/-- ASR vs ACR, step counts.  The same character coded over two alphabets — `k1` states with tip
    slices `tv1` (ACR: the sorted distinct states of the column) and `k2` states with tip slices `tv2`
    (ASR: A C G T - *) — such that `enc` maps tip states of the first coding to tip states of the
    second and `dec` does the converse: both runs report the same number of steps, whatever the
    algorithms. -/
theorem asr_sitewise_steps (k1 k2 : Nat) (tv1 tv2 : String → Vec) (enc dec : Nat → Nat)
    (algo1 algo2 : Algo) (t : T) (hk1 : 0 < k1) (hk2 : 0 < k2) (hr : rootOk t = true)
    (ht1 : tipsOk k1 tv1 t = true) (ht2 : tipsOk k2 tv2 t = true)
    (henc : ∀ s, s < k1 → enc s < k2) (hdec : ∀ s, s < k2 → dec s < k1)
    (h12 : ∀ n ∈ leavesL t.kids, TipMap k1 tv1 tv2 enc n)
    (h21 : ∀ n ∈ leavesL t.kids, TipMap k2 tv2 tv1 dec n) :
    (runChar k2 tv2 algo2 t).1 = (runChar k1 tv1 algo1 t).1 := by
  have h1 := Ok.of hr ht1
  have h2 := Ok.of hr ht2
  rw [steps_eq_minCost k2 tv2 algo2 t hk2 hr ht2, steps_eq_minCost k1 tv1 algo1 t hk1 hr ht1]
  have a := minCost_le_of_map k1 k2 tv1 tv2 enc hk1 henc t h1.kids h12 h1.nz'
  have b := minCost_le_of_map k2 k1 tv2 tv1 dec hk2 hdec t h2.kids h21 h2.nz'
  omega

/-- the annotated trees computed over two codings related by an injection correspond slice by slice -/
theorem runAlgo_relA (k1 k2 : Nat) (enc dec : Nat → Nat) (tv1 tv2 : String → Vec) (algo : Algo) (t : T)
    (C : Coding k1 k2 enc dec) (hk1 : 0 < k1) (hr : rootOk t = true) (ht1 : tipsOk k1 tv1 t = true)
    (hl : ∀ n ∈ leavesL t.kids, Rel k2 enc dec (tv1 n) (tv2 n)) :
    RelA k2 enc dec (runAlgo k1 tv1 algo t) (runAlgo k2 tv2 algo t) := by
  have h := Ok.of hr ht1
  exact runAlgo_rel C hk1 algo t (rootOk_kids hr).2
    fun n hn => ⟨hl n (T.leaves_of_kids_ne h.kids ▸ hn), h.nz n hn⟩

/-- ASR agrees site by site with ACR.  One character coded over two alphabets: `k1` states with tip
    slices `tv1` (ACR: the sorted distinct states of the column) and `k2` states with tip slices `tv2`
    (ASR: A C G T - *), `enc` an injection of the first into the second (`dec ∘ enc = id`) that carries
    every tip slice over (`Rel`: equal on the image, 0 elsewhere).  Then, for each of the algorithms,
    every slice of the second run is the transported slice of the first run — in particular a state
    outside the first alphabet is never reported — and the numbers of steps are equal. -/
theorem asr_sitewise (k1 k2 : Nat) (enc dec : Nat → Nat) (tv1 tv2 : String → Vec) (algo : Algo) (t : T)
    (C : Coding k1 k2 enc dec) (hk1 : 0 < k1) (hr : rootOk t = true) (ht1 : tipsOk k1 tv1 t = true)
    (hl : ∀ n ∈ leavesL t.kids, Rel k2 enc dec (tv1 n) (tv2 n)) :
    (∀ (v : List Nat) (vec1 vec2 : Vec), (runAlgo k1 tv1 algo t).get v = some vec1 →
        (runAlgo k2 tv2 algo t).get v = some vec2 →
        ∀ b, b < k2 → vec2.at b = if enc (dec b) = b then vec1.at (dec b) else 0) ∧
    (runChar k2 tv2 algo t).1 = (runChar k1 tv1 algo t).1 := by
  refine ⟨RelA.get k2 enc dec _ _ (runAlgo_relA k1 k2 enc dec tv1 tv2 algo t C hk1 hr ht1 hl), ?_⟩
  have hk2 : 0 < k2 := by have := C.henc 0 hk1; omega
  -- the second coding has non-empty 0/1 tip slices too, and the tip sets are carried both ways
  have ht2 : tipsOk k2 tv2 t = true := (tipsOk_iff k2 tv2 t).mpr fun n hn => by
    obtain ⟨h01, a, ha, hane⟩ := tipsOk_spec k1 tv1 t ht1 n hn
    refine ⟨fun b hb => ?_, enc a, C.henc a ha, by rw [(hl n hn).at_enc C a ha]; exact hane⟩
    rw [hl n hn b hb]
    split
    · exact h01 _ (C.hdec b hb)
    · omega
  refine asr_sitewise_steps k1 k2 tv1 tv2 enc dec algo algo t hk1 hk2 hr ht1 ht2 C.henc C.hdec ?_ ?_
  · intro n hn s hs hne'
    rw [(hl n hn).at_enc C s hs]; exact hne'
  · intro n hn s hs hne'
    rw [hl n hn s hs] at hne'
    split at hne'
    · exact hne'
    · exact absurd rfl hne'

/-- ASR agrees site by site with ACR, for the concrete entry points.  On an alignment whose column
    `j` is unambiguous (`A C G T -` only), the per-site run of `asr` (alphabet A C G T - *, slices
    `asrTipVec m j`) and the run of `acr` on that column (`colMap m j`: its own sorted alphabet, slices
    `acrTipVec`) report the same number of steps, and every slice of the ASR run is the slice of the ACR
    run transported along the injection `colEnc` of the column's alphabet into A C G T - *. -/
theorem asr_sitewise_column (t : T) (m : List (String × String)) (j : Nat) (algo : Algo)
    (hr : rootOk t = true) (hall : (t.tipNames.all fun n => (lookup m n).isSome) = true)
    (hp : plainCol m j = true) :
    (runChar 6 (asrTipVec m j) algo t).1 =
      (runChar (alphabet ((colMap m j).map (·.2))).length
        (acrTipVec (colMap m j) (alphabet ((colMap m j).map (·.2)))) algo t).1 ∧
    ∀ (v : List Nat) (vec1 vec2 : Vec),
      (runAlgo (alphabet ((colMap m j).map (·.2))).length
        (acrTipVec (colMap m j) (alphabet ((colMap m j).map (·.2)))) algo t).get v = some vec1 →
      (runAlgo 6 (asrTipVec m j) algo t).get v = some vec2 →
      ∀ b, b < 6 → vec2.at b =
        if colEnc (alphabet ((colMap m j).map (·.2))) (colDec (alphabet ((colMap m j).map (·.2))) b) = b
        then vec1.at (colDec (alphabet ((colMap m j).map (·.2))) b) else 0 := by
  obtain ⟨hall', hl⟩ := col_leaves_rel t m j hr hall hp
  obtain ⟨hk, ht1⟩ := acr_hyps t (colMap m j) hr hall'
  have h := asr_sitewise _ 6 _ _ _ (asrTipVec m j) algo t (col_coding m j hp hk) hk hr ht1 hl
  exact ⟨h.2, h.1⟩

/-- the `j`-th entry of the step list of `asr` is the step count of the per-site run, and the step
    count of `acr` is that of its run: with `asr_sitewise_column`, ASR's steps at an unambiguous
    site are ACR's steps on that column -/
theorem asr_acr_steps (t : T) (m : List (String × String)) (len j : Nat) (algo : Algo) (oa : AsrOut) (oc : AcrOut)
    (hr : rootOk t = true) (hj : j < len) (hp : plainCol m j = true)
    (ha : asr t m len algo = some oa) (hc : acr t (colMap m j) algo = some oc) :
    oa.steps.getD j 0 = oc.steps := by
  obtain ⟨hall, hA⟩ := asr_some t m len algo oa hr ha
  rw [(hA j hj).1, (acr_some t (colMap m j) algo oc hr hc).2.1]
  exact (asr_sitewise_column t m j algo hr hall hp).1

/-- … and the state NAMES written for every node (pre-order) are the same sets: `asr`'s output for an
    unambiguous site and `acr`'s output for that column agree node by node. -/
theorem asr_acr_sets (t : T) (m : List (String × String)) (len j : Nat) (algo : Algo) (oa : AsrOut) (oc : AcrOut)
    (hr : rootOk t = true) (hj : j < len) (hp : plainCol m j = true)
    (ha : asr t m len algo = some oa) (hc : acr t (colMap m j) algo = some oc) :
    SameSets oc.sets (oa.sets.getD j []) := by
  obtain ⟨hall, hA⟩ := asr_some t m len algo oa hr ha
  obtain ⟨hall2, _, hC⟩ := acr_some t (colMap m j) algo oc hr hc
  obtain ⟨hk, ht1⟩ := acr_hyps t (colMap m j) hr hall2
  rw [(hA j hj).2, hC]
  exact sameSets_of_rel m j hp hk _ _ (RelA.flat _ _ (runAlgo_relA _ 6 _ _ _ (asrTipVec m j) algo t
    (col_coding m j hp hk) hk hr ht1 (col_leaves_rel t m j hr hall hp).2))

/-- ASR vs ACR, state sets of the plain down-pass (partial: states of the first coding only).
    With `dec (enc a) = a`, state `a` is reported at an inner node by the run over the first coding
    iff `enc a` is reported there by the run over the second. -/
theorem asr_sitewise_downpass_tipmap (k1 k2 : Nat) (tv1 tv2 : String → Vec) (enc dec : Nat → Nat)
    (t : T) (hk1 : 0 < k1) (hk2 : 0 < k2) (hr : rootOk t = true)
    (ht1 : tipsOk k1 tv1 t = true) (ht2 : tipsOk k2 tv2 t = true)
    (henc : ∀ s, s < k1 → enc s < k2) (hdec : ∀ s, s < k2 → dec s < k1)
    (hinv : ∀ s, s < k1 → dec (enc s) = s)
    (h12 : ∀ n ∈ leavesL t.kids, TipMap k1 tv1 tv2 enc n)
    (h21 : ∀ n ∈ leavesL t.kids, TipMap k2 tv2 tv1 dec n)
    (v : List Nat) (hin : innerAt t v = true) (vec1 vec2 : Vec)
    (hg1 : (runAlgo k1 tv1 .downpass t).get v = some vec1)
    (hg2 : (runAlgo k2 tv2 .downpass t).get v = some vec2) (a : Nat) (ha : a < k1) :
    vec2.at (enc a) ≠ 0 ↔ vec1.at a ≠ 0 := by
  have h1 := Ok.of hr ht1
  have h2 := Ok.of hr ht2
  have hne := h1.kids
  have hle12 := minCost_le_of_map k1 k2 tv1 tv2 enc hk1 henc t hne h12 h1.nz'
  have hle21 := minCost_le_of_map k2 k1 tv2 tv1 dec hk2 hdec t hne h21 h2.nz'
  rw [downpass_exact k2 tv2 t hk2 hr ht2 v hin vec2 hg2 (enc a) (henc a ha),
      downpass_exact k1 tv1 t hk1 hr ht1 v hin vec1 hg1 a ha]
  constructor
  · intro ⟨l, hf, hc, hg⟩
    have hf' := fits_map k2 k1 tv2 tv1 dec hdec t l (T.leaves_of_kids_ne hne ▸ h21) hf
    refine ⟨l.map dec, hf', ?_, ?_⟩
    · have := LT.changes_map_le dec l
      have := minCost_le k1 tv1 t hne (l.map dec) hf'
      omega
    · rw [LT.get_map, hg]; simp [hinv a ha]
  · intro ⟨l, hf, hc, hg⟩
    have hf' := fits_map k1 k2 tv1 tv2 enc henc t l (T.leaves_of_kids_ne hne ▸ h12) hf
    refine ⟨l.map enc, hf', ?_, ?_⟩
    · have := LT.changes_map_le enc l
      have := minCost_le k2 tv2 t hne (l.map enc) hf'
      omega
    · rw [LT.get_map, hg]; simp

/-- The ACR entry point (`ParsimonyAcr`: alphabet = sorted distinct states of the map, one state
    per tip): whenever it accepts, the reported number of steps is optimal — no hypothesis on the
    tip states is left, every assignment of states to the tips is covered. -/
theorem acr_optimal (t : T) (m : List (String × String)) (algo : Algo) (out : AcrOut)
    (hr : rootOk t = true) (h : acr t m algo = some out) :
    (∀ l : LT, fits (alphabet (m.map (·.2))).length (acrTipVec m (alphabet (m.map (·.2)))) t l = true →
      out.steps ≤ l.changes) ∧
    ∃ l : LT, fits (alphabet (m.map (·.2))).length (acrTipVec m (alphabet (m.map (·.2)))) t l = true ∧
      l.changes = out.steps := by
  obtain ⟨hall, hs, _⟩ := acr_some t m algo out hr h
  obtain ⟨hk, ht⟩ := acr_hyps t m hr hall
  rw [hs]
  exact uppass_optimal _ _ algo t hk hr ht

/-- The returned name→states map (`buildInternalNamesToStatesMap`) says nothing else than the node
    comments: every entry is (name, or pre-order number when unnamed, of a node that is not a Go tip;
    the set of state names written at that node). -/
theorem acr_map_sound (t : T) (m : List (String × String)) (algo : Algo) (out : AcrOut)
    (h : acr t m algo = some out) (kv : String × List String) (hkv : kv ∈ out.map) :
    ∃ i, i < t.nodeNames.length ∧ (goTipFlags t).getD i false = false ∧
      kv.1 = (if t.nodeNames.getD i "" != "" then t.nodeNames.getD i "" else toString i) ∧
      kv.2 = out.sets.getD i [] := by
  unfold acr at h
  split at h
  · simp at h
  · simp only [Option.some.injEq] at h
    subst h
    simp only [] at hkv
    rcases mem_foldl_insertKV kv _ [] hkv with h' | h'
    · rw [List.mem_filterMap] at h'
      obtain ⟨i, hi, he⟩ := h'
      rw [List.mem_range] at hi
      refine ⟨i, hi, ?_⟩
      by_cases hf : (goTipFlags t).getD i false = true
      · rw [if_pos hf] at he; cases he
      · rw [if_neg hf] at he
        have hkv' := Option.some.inj he
        refine ⟨by simpa using hf, ?_, ?_⟩
        · rw [← hkv']
        · rw [← hkv']
    · cases h'

/-- The ASR entry point (`ParsimonyAsr`, nucleotides), PARTIAL: on every site whose characters are keys
    of `align.IupacCode` (upper-case IUPAC codes and `-`, hypothesis `iupacCol`) the reported number of
    steps is optimal for the tip sets "any of these states".  The full statement — for every character
    goalign accepts in a nucleotide alignment — is FALSE for the code as it is: `asr_noniupac_fails`
    (open known finding F59, AsrNonIupacCharEmptySet). -/
theorem asr_optimal_partial (t : T) (m : List (String × String)) (len j : Nat) (algo : Algo) (oa : AsrOut)
    (hr : rootOk t = true) (hj : j < len) (hp : iupacCol m j = true)
    (ha : asr t m len algo = some oa) :
    (∀ l : LT, fits 6 (asrTipVec m j) t l = true → oa.steps.getD j 0 ≤ l.changes) ∧
    ∃ l : LT, fits 6 (asrTipVec m j) t l = true ∧ l.changes = oa.steps.getD j 0 := by
  obtain ⟨hall, hA⟩ := asr_some t m len algo oa hr ha
  rw [(hA j hj).1]
  exact uppass_optimal 6 _ algo t (by omega) hr (asr_hyps t m j hr hall hp)

/-- The ASR entry point on a PROTEIN alignment (`align.ALL_AMINO` = `X` expanded to the 20 amino
    acids, `-` and `*` states of their own): on every site made of amino acids, `-`, `*` and `X`
    the reported number of steps is optimal. -/
theorem asrProt_optimal (t : T) (m : List (String × String)) (len j : Nat) (algo : Algo) (oa : AsrOut)
    (hr : rootOk t = true) (hj : j < len) (hp : aaCol m j = true)
    (ha : asrProt t m len algo = some oa) :
    (∀ l : LT, fits 22 (aaTipVec m j) t l = true → oa.steps.getD j 0 ≤ l.changes) ∧
    ∃ l : LT, fits 22 (aaTipVec m j) t l = true ∧ l.changes = oa.steps.getD j 0 := by
  obtain ⟨hall, hA⟩ := asrProt_some t m len algo oa hr ha
  rw [hA j hj]
  exact uppass_optimal 22 _ algo t (by omega) hr (asrProt_hyps t m j hr hall hp)

/- ## the random-resolution option (`randomResolve = true`), draws = an arbitrary stream `st` -/

/-- With random resolution the reported number of steps is still the minimum (whatever the draws). -/
theorem random_steps_optimal (k : Nat) (tv : String → Vec) (algo : Algo) (t : T) (st : List Nat)
    (hk : 0 < k) (hr : rootOk t = true) (ht : tipsOk k tv t = true) :
    (∀ l : LT, fits k tv t l = true → (runCharR k tv algo t st).1 ≤ l.changes) ∧
    ∃ l : LT, fits k tv t l = true ∧ l.changes = (runCharR k tv algo t st).1 := by
  have he : (runCharR k tv algo t st).1 = (runChar k tv algo t).1 := by
    simp [runCharR, runChar, (rootOk_kids hr).2]
  rw [he]
  exact uppass_optimal k tv algo t hk hr ht

/-- DOWNPASS / DELTRAN with random resolution: every state reported at an inner node occurs there in
    some most parsimonious labelling (whatever the draws). -/
theorem random_down_deltran_sound (k : Nat) (tv : String → Vec) (t : T) (st : List Nat) (algo : Algo)
    (halgo : algo = .downpass ∨ algo = .deltran)
    (hk : 0 < k) (hr : rootOk t = true) (ht : tipsOk k tv t = true)
    (v : List Nat) (hin : innerAt t v = true) (vec : Vec)
    (hget : (runAlgoR k tv algo t st).1.get v = some vec) (s : Nat) (hs : s < k) (hne : vec.at s ≠ 0) :
    ∃ l : LT, fits k tv t l = true ∧ l.changes = minCost k tv t ∧ l.get v = some s := by
  have h := Ok.of hr ht
  obtain ⟨vec0, hdv⟩ := Option.isSome_iff_exists.mp (down_get k tv t none v (innerAt_isSome hin))
  refine (down_exact k tv hk t h v hin vec0 hdv s hs).mp ?_
  rcases halgo with rfl | rfl
  · exact resolveA_sub k (down k tv none t) st v vec0 vec hdv hget s hs hne
  · exact deltranR_sub k _ none st (fun _ e => by cases e) (down_flat k tv t h.s01 none) v vec0 vec hdv hget s hs hne

theorem random_acctran_sound (k : Nat) (tv : String → Vec) (t : T) (st : List Nat)
    (hk : 0 < k) (hr : rootOk t = true) (ht : tipsOk k tv t = true)
    (v : List Nat) (hin : innerAt t v = true) (vec : Vec)
    (hget : (runAlgoR k tv .acctran t st).1.get v = some vec) (s : Nat) (hs : s < k) (hne : vec.at s ≠ 0) :
    ∃ l : LT, fits k tv t l = true ∧ l.changes = minCost k tv t ∧ l.get v = some s := by
  have hN : Narrows k none (upA k tv t) (runAlgoR k tv .acctran t st).1 := by
    simp only [runAlgoR, acctranR_eq]; exact deltranR_narrows k none _ st
  exact acc_sound k tv hk t (Ok.of hr ht) _ hN v hin vec hget s hs hne

/- ## the command-line glue (`cmd/acr.go`) -/

/-- The states file reader of `gotree acr`: a file with one line `name<TAB or comma>state` per entry
    (no tab or comma inside names and states) is read as exactly the map it describes — entries taken in
    order, a later line for the same name replacing an earlier one. -/
theorem states_file_roundtrip (es : List Entry) (h : ∀ e ∈ es, e.ok) :
    parseTipStates (es.map Entry.line) [] = some (es.foldl (fun acc e => insertKV (e.name, e.state) acc) []) :=
  parseTipStates_render es [] h

/-- … and a line that does not have exactly two columns, anywhere in the file, makes `acrCli` fail
    before any tree is looked at (whatever the trees and the — known — algorithm). -/
theorem states_file_bad (pre : List Entry) (bad : String) (post : List String) (algoS : String) (trees : List T)
    (hpre : ∀ e ∈ pre, e.ok) (hbad : (splitCols bad.toList).length ≠ 2) (halgo : (cliAlgo algoS).isSome = true) :
    (match acrCli algoS (pre.map Entry.line ++ bad :: post) trees with
     | .fail 0 => true
     | _ => false) = true := by
  unfold acrCli
  cases ha : cliAlgo algoS with
  | none => simp [ha] at halgo
  | some a => simp [parseTipStates_bad pre bad post [] hpre hbad]

example : (⟨"t0", '\t', "A"⟩ : Entry).ok :=
  ⟨Or.inl rfl, by unfold cleanChars; decide, by unfold cleanChars; decide⟩

example : (splitCols "a,b,c".toList).length ≠ 2 ∧ (splitCols "".toList).length ≠ 2 := by decide

/- ## a tree rooted at a tip (finding ParsimonyRootIsTip) -/

theorem rootOk_rootAtNeighbour (t : T) (h : tipRooted t = true) : rootOk (rootAtNeighbour t) = true := by
  match t, h with
  | .node d p [(e, .node dc pc [])], h => simp [tipRooted] at h
  | .node d p [(e, .node dc pc (x :: xs))], _ => simp [rootAtNeighbour, rootOk]
  | .node d p [], h => simp [tipRooted] at h
  | .node d p (_ :: _ :: _), h => simp [tipRooted] at h

/-- For the property a tree rooted at a tip is the same tree seen from the root's neighbour (`rootAtNeighbour t`,
    which is `moveRoot t 0`; the old root is one of its tips).  The steps computed from there — what `runChar` returns
    as soon as the switch `rootTipFixedInRepo` follows the proposed fix — are optimal. -/
theorem root_is_tip_fixed_optimal (k : Nat) (tv : String → Vec) (algo : Algo) (t : T)
    (hk : 0 < k) (htr : tipRooted t = true) (ht : tipsOk k tv (rootAtNeighbour t) = true) :
    (rootTipFixedInRepo = true → runChar k tv algo t = runCharAtNeighbour k tv algo t) ∧
    (∀ l : LT, fits k tv (rootAtNeighbour t) l = true → (runCharAtNeighbour k tv algo t).1 ≤ l.changes) ∧
    ∃ l : LT, fits k tv (rootAtNeighbour t) l = true ∧ l.changes = (runCharAtNeighbour k tv algo t).1 := by
  have hr := rootOk_rootAtNeighbour t htr
  refine ⟨fun hfix => ?_, ?_⟩
  · have hlen : t.kids.length = 1 := by
      match t, htr with
      | .node d p [(e, c)], _ => rfl
      | .node d p [], h => simp [tipRooted] at h
      | .node d p (_ :: _ :: _), h => simp [tipRooted] at h
    simp [runChar, hlen, hfix, htr]
  · have h := uppass_optimal k tv algo (rootAtNeighbour t) hk hr ht
    rw [runChar_steps k tv algo _ hr] at h
    exact h

def tipRootedWitness : T :=
  .node ⟨"r", []⟩ 0 [(EdgeD.blank, .node ⟨"", []⟩ 0 [(EdgeD.blank, T.leaf "a"), (EdgeD.blank, T.leaf "b"), (EdgeD.blank, T.leaf "c")])]

def tipRootedStates : String → Vec
  | "a" => [1, 0, 0] | "b" => [0, 1, 0] | "c" => [0, 0, 1] | _ => [1, 0, 0]

/-- Negative theorem, finding ParsimonyRootIsTip: on `((a,b,c))r;` with states A, B, C and r = A the pinned
    behaviour reports 0 steps and leaves every node but the root without state, while 2 changes are needed. -/
theorem root_is_tip_pinned_fails :
    tipRooted tipRootedWitness = true ∧
    runCharRootTipPinned 3 tipRootedStates tipRootedWitness = (0, [[1, 0, 0], [0, 0, 0], [0, 0, 0], [0, 0, 0], [0, 0, 0]]) ∧
    minCost 3 tipRootedStates (rootAtNeighbour tipRootedWitness) = 2 ∧
    tipsOk 3 tipRootedStates (rootAtNeighbour tipRootedWitness) = true ∧
    (runCharAtNeighbour 3 tipRootedStates .downpass tipRootedWitness).1 = 2 ∧
    rootAtNeighbour tipRootedWitness == moveRoot tipRootedWitness 0 := by
  decide +kernel

/- ## finding AsrNonIupacCharEmptySet (asr/parsimony.go:88), as a theorem about the model -/

def starTree : T :=
  .node ⟨"", []⟩ 0 [(EdgeD.blank, T.leaf "t0"), (EdgeD.blank, T.leaf "t1"), (EdgeD.blank, T.leaf "t2")]

/-- the column `?`, `N`, `T` as the code (and the model, `iupac`) reads it: `?` has NO state -/
def colAsCode : String → Vec
  | "t0" => tab 6 fun i => if (iupac '?').contains i then 1 else 0
  | "t1" => tab 6 fun i => if (iupac 'N').contains i then 1 else 0
  | _ => tab 6 fun i => if (iupac 'T').contains i then 1 else 0

/-- the same column as the property reads it: `?` = unknown = any nucleotide -/
def colAsMeant : String → Vec
  | "t0" => tab 6 fun i => if (specIupac '?').contains i then 1 else 0
  | "t1" => tab 6 fun i => if (specIupac 'N').contains i then 1 else 0
  | _ => tab 6 fun i => if (specIupac 'T').contains i then 1 else 0

/-- Negative theorem (the excluded region of `uppass_optimal` is `tipsOk`: every tip set non-empty).
    On the star tree with the column `? N T` the model — like `gotree asr` — reports 1 step, while
    no change at all is needed when `?` is read as "any nucleotide"; the hypothesis `tipsOk` fails
    precisely because the code gives `?` (and lower case letters, `X`, `U`, `O`, `.`) the empty set. -/
theorem asr_noniupac_fails :
    (runChar 6 colAsCode .downpass starTree).1 = 1 ∧ minCost 6 colAsMeant starTree = 0 ∧
    tipsOk 6 colAsCode starTree = false ∧ tipsOk 6 colAsMeant starTree = true ∧
    iupac 'a' = [] ∧ iupac 'U' = [] ∧ iupac 'X' = [] := by
  decide +kernel

/-- ACCTRAN leaves a tip that carries ONE state unaltered (the case of ACR and of unambiguous
    alignments): a special case of `tips_unaltered_all` since fix a20daad, kept as it was stated when ACCTRAN
    still intersected the tips with their parents. -/
theorem tips_unaltered_acctran (k : Nat) (tv : String → Vec) (t : T)
    (hr : rootOk t = true) (ht : tipsOk k tv t = true)
    (v : List Nat) (d : NodeD) (pp : Nat) (hleaf : sub t v = some (.node d pp []))
    (x : Nat) (hx : IsSingle k (tv d.name) x) (vec : Vec)
    (hget : (runAlgo k tv .acctran t).get v = some vec) (i : Nat) (hi : i < k) :
    vec.at i ≠ 0 ↔ (tv d.name).at i ≠ 0 := by
  have h := tips_unaltered_all k tv t .acctran v d pp hleaf
  rw [hget] at h
  cases h
  exact Iff.rfl

/-- ACCTRAN at a tip with ANY tip set (IUPAC ambiguity): what is written is a non-empty subset of the
    tip's own states — a state the tip does not allow is never reported.  (Since fix a20daad it is the tip's
    own set, `tips_unaltered_all`; before, the code narrowed the tip to its intersection with the parent's set.) -/
theorem acctran_tip_subset (k : Nat) (tv : String → Vec) (t : T)
    (hr : rootOk t = true) (ht : tipsOk k tv t = true)
    (v : List Nat) (d : NodeD) (pp : Nat) (hleaf : sub t v = some (.node d pp []))
    (hmem : d.name ∈ leavesL t.kids) (vec : Vec)
    (hget : (runAlgo k tv .acctran t).get v = some vec) :
    (∀ i, i < k → vec.at i ≠ 0 → (tv d.name).at i ≠ 0) ∧ ∃ i, i < k ∧ vec.at i ≠ 0 := by
  have h := tips_unaltered_all k tv t .acctran v d pp hleaf
  rw [hget] at h
  cases h
  obtain ⟨_, i0, hi0, hne0⟩ := tipsOk_spec k tv t ht d.name hmem
  exact ⟨fun i _ h => h, i0, hi0, hne0⟩

/-- with `--algo none` (up-pass only) every leaf keeps its tip slice -/
theorem tips_unaltered_none (k : Nat) (tv : String → Vec) (d : NodeD) (pp : Nat) :
    upA k tv (.node d pp []) = .node (tv d.name) [] := by
  simp [upA, upAL, upS]

/-- the column `R A A` (R = A or G) on the star tree -/
def colRAA : String → Vec
  | "t0" => [1, 0, 1, 0, 0, 0]
  | _ => [1, 0, 0, 0, 0, 0]

/-- Repaired finding AcctranAmbiguousTipNarrowed (fix a20daad in asr/parsimony.go), as a theorem about the
    PINNED variant `acctranPinned` (tip children intersected with their parent): on the star tree with the column
    `R A A` the ambiguous tip `R` = {A,G} was written as `A`; the model of the code as it is now keeps `{A,G}`,
    like the plain down-pass and DELTRAN. -/
theorem acctran_pinned_fails :
    (acctranPinned 6 none (upA 6 colRAA starTree)).get [0] = some [1, 0, 0, 0, 0, 0] ∧
    colRAA "t0" = [1, 0, 1, 0, 0, 0] ∧
    (runAlgo 6 colRAA .acctran starTree).get [0] = some (colRAA "t0") ∧
    (runAlgo 6 colRAA .downpass starTree).get [0] = some (colRAA "t0") ∧
    (runAlgo 6 colRAA .deltran starTree).get [0] = some (colRAA "t0") ∧
    tipsOk 6 colRAA starTree = true := by
  decide +kernel

/- the hypotheses are satisfiable on a non-trivial tree: ((a,b,c),d,(e,f)) with a polytomy,
   three states, an ambiguous tip -/
def exTree : T :=
  .node ⟨"", []⟩ 0 [
    (EdgeD.blank, .node ⟨"", []⟩ 0 [(EdgeD.blank, T.leaf "a"), (EdgeD.blank, T.leaf "b"), (EdgeD.blank, T.leaf "c")]),
    (EdgeD.blank, T.leaf "d"),
    (EdgeD.blank, .node ⟨"", []⟩ 0 [(EdgeD.blank, T.leaf "e"), (EdgeD.blank, T.leaf "f")])]

def exTv : String → Vec
  | "a" => [1, 0, 0] | "b" => [0, 1, 0] | "c" => [0, 0, 1] | "d" => [1, 1, 0] | "e" => [0, 0, 1] | _ => [0, 1, 0]

example : rootOk exTree = true ∧ tipsOk 3 exTv exTree = true ∧ (runChar 3 exTv .downpass exTree).1 = 3 := by
  decide +kernel

example : (sub exTree [0, 1]).map (fun c => (c.name, c.kids.length)) = some ("b", 0) ∧ (runAlgo 3 exTv .deltran exTree).get [0, 1] = some (exTv "b") := by
  decide +kernel

example : okPath exTree [0] = true ∧ (runChar 3 exTv .acctran (rerootPath exTree [0])).1 = 3 := by
  decide +kernel

/- rooting on the branch above tip `b` (path [0,1]): the new node is reached by the same path -/
example : okPath (subdivide exTree [0, 1]) [0, 1] = true ∧
    (rerootPath (subdivide exTree [0, 1]) [0, 1]).kids.length = 2 ∧
    (runChar 3 exTv .acctran (rerootPath (subdivide exTree [0, 1]) [0, 1])).1 = 3 := by
  decide +kernel

def exTv2 : String → Vec
  | "d" => [0, 1, 0] | n => exTv n

example : tipsOk 3 exTv2 exTree = true ∧ allSingle 3 (runAlgo 3 exTv2 .downpass exTree).flat = true := by decide +kernel

example : allSingle 3 (runAlgo 3 exTv2 .deltran exTree).flat = true := by decide +kernel

example : allSingle 3 (runAlgo 3 exTv2 .acctran exTree).flat = true := by decide +kernel

/- one alignment column A/G coded as ACR does (alphabet [A, G]) and as ASR does (A C G T - *) -/
def exCol1 : String → Vec
  | "a" => [1, 0] | "b" => [0, 1] | "c" => [0, 1] | "d" => [1, 0] | "e" => [0, 1] | _ => [1, 0]
def exCol2 : String → Vec
  | "a" => [1, 0, 0, 0, 0, 0] | "b" => [0, 0, 1, 0, 0, 0] | "c" => [0, 0, 1, 0, 0, 0]
  | "d" => [1, 0, 0, 0, 0, 0] | "e" => [0, 0, 1, 0, 0, 0] | _ => [1, 0, 0, 0, 0, 0]
def exEnc : Nat → Nat | 0 => 0 | _ => 2
def exDec : Nat → Nat | 2 => 1 | _ => 0

example : tipsOk 2 exCol1 exTree = true ∧ tipsOk 6 exCol2 exTree = true ∧
    (∀ s, s < 2 → exEnc s < 6) ∧ (∀ s, s < 6 → exDec s < 2) ∧ (∀ s, s < 2 → exDec (exEnc s) = s) ∧
    (∀ n ∈ leavesL exTree.kids, TipMap 2 exCol1 exCol2 exEnc n) ∧
    (∀ n ∈ leavesL exTree.kids, TipMap 6 exCol2 exCol1 exDec n) ∧
    (runChar 6 exCol2 .deltran exTree).1 = 3 := by
  decide +kernel

example : (∀ n ∈ leavesL exTree.kids, ∀ b, b < 6 →
    (exCol2 n).at b = if exEnc (exDec b) = b then (exCol1 n).at (exDec b) else 0) := by
  decide +kernel

/- an alignment with the unambiguous column 1 (`G G G A - A`): the hypotheses of
   `asr_sitewise_column` / `asr_acr_steps` hold -/
def exAln : List (String × String) :=
  [("a", "AG"), ("b", "RG"), ("c", "CG"), ("d", "CA"), ("e", "C-"), ("f", "NA")]

example : iupacCol exAln 0 = true := by decide +kernel

/- the wrappers accept the example (hypotheses `asr … = some _`, `acr … = some _` of `asr_acr_steps`,
   `asr_acr_sets`, `acr_optimal`, `asr_optimal_partial` are satisfiable) -/
example : (asr exTree exAln 2 .deltran).isSome = true ∧ (acr exTree (colMap exAln 1) .deltran).isSome = true ∧
    ((asr exTree exAln 2 .deltran).map fun o => o.steps) = some [2, 2, 0] ∧
    ((acr exTree (colMap exAln 1) .deltran).map fun o => o.steps) = some 2 := by decide +kernel

example : aaCol [("a", "MX"), ("b", "L-"), ("c", "L*")] 1 = true ∧ aaCodes 'X' = List.range 20 ∧ aaCodes 'V' = [19] := by
  decide +kernel

example : plainCol exAln 1 = true ∧ (exTree.tipNames.all fun n => (lookup exAln n).isSome) = true := by decide +kernel

example : innerAt exTree [0] = true ∧ (runAlgo 3 exTv .downpass exTree).get [0] = some [0, 1, 0] := by
  decide +kernel

/- ## random resolution never changes the step counts (multi-site ASR in lockstep included) -/

/-- ★ random resolution (`randomResolve = true`, any stream of draws, any number of sites) leaves the step counts
    of ParsimonyAsr untouched: they are those of the deterministic run, hence optimal wherever those are
    (`asr_optimal_partial`); the two runs also fail on the same inputs. -/
theorem asr_random_steps (t : T) (m : List (String × String)) (len : Nat) (algo : Algo) (st : List Nat) :
    (asrR t m len algo st).map (·.steps) = (asr t m len algo).map (·.steps) := by
  unfold asrR asr
  by_cases ha : (algo == Algo.none) = true
  · simp [ha]
  · by_cases hm : (!((lookedUp t).all fun n => (lookup m n).isSome)) = true
    · simp [ha, hm]
    · simp only [ha, hm, if_false, Bool.false_eq_true]
      by_cases h1 : (t.kids.length == 1) = true
      · by_cases h2 : (rootTipFixedInRepo && tipRooted t) = true
        · simp [h1, h2, runChar, runCharAtNeighbour, List.map_map, Function.comp_def]
        · simp [h1, h2, runChar, runCharRootTipPinned, List.map_map, Function.comp_def]
      · simp [h1, runChar, List.map_map, Function.comp_def]

/-- the same for ParsimonyAcr: the steps of a run with random resolution are those of the run without -/
theorem acr_random_steps (t : T) (m : List (String × String)) (algo : Algo) (st : List Nat) :
    (acrR t m algo st).map (·.steps) = (acr t m algo).map (·.steps) := by
  unfold acrR acr
  by_cases hm : (!((lookedUp t).all fun n => (lookup m n).isSome)) = true
  · simp [hm]
  · simp only [hm, if_false, Bool.false_eq_true, Option.map_some]
    congr 1
    unfold runCharR runChar
    by_cases h1 : (t.kids.length == 1) = true
    · by_cases h2 : (rootTipFixedInRepo && tipRooted t) = true
      · simp [h1, h2, runCharAtNeighbour]
      · simp [h1, h2, runCharRootTipPinned]
    · simp [h1]

/- ## random resolution of several sites in lockstep: the resolved sets -/

/-- ★ lockstep = site by site (Lemmas/C12RM.lean): at every site, the random second stage of ParsimonyAsr on the whole
    alignment is the single-character run of that site on some stream of draws -/
theorem asr_random_lockstep (te : T) (m : List (String × String)) (len : Nat) (algo : Algo) (st : List Nat) (j : Nat)
    (ha : algo ≠ .none) (hj : j < len) :
    ∃ st', (asrRAM te m len algo st).1.site j = (runAlgoR 6 (asrTipVec m j) algo te st').1 :=
  asrRAM_site te m len algo st j ha hj

/-- ★ ParsimonyAsr with random resolution, any number of sites, any draws, the three algorithms: every state left at
    an inner node `v` of site `j` occurs there in some most parsimonious labelling of that site -/
theorem asr_random_sets_sound (te : T) (m : List (String × String)) (len : Nat) (algo : Algo) (st : List Nat) (j : Nat)
    (ha : algo ≠ .none) (hj : j < len)
    (hr : rootOk te = true) (ht : tipsOk 6 (asrTipVec m j) te = true)
    (v : List Nat) (hin : innerAt te v = true) (vec : Vec)
    (hget : ((asrRAM te m len algo st).1.site j).get v = some vec) (s : Nat) (hs : s < 6) (hne : vec.at s ≠ 0) :
    ∃ l : LT, fits 6 (asrTipVec m j) te l = true ∧ l.changes = minCost 6 (asrTipVec m j) te ∧ l.get v = some s := by
  obtain ⟨st', h⟩ := asrRAM_site te m len algo st j ha hj
  rw [h] at hget
  cases algo with
  | none => exact absurd rfl ha
  | downpass => exact random_down_deltran_sound 6 _ te st' .downpass (Or.inl rfl) (by decide) hr ht v hin vec hget s hs hne
  | deltran => exact random_down_deltran_sound 6 _ te st' .deltran (Or.inr rfl) (by decide) hr ht v hin vec hget s hs hne
  | acctran => exact random_acctran_sound 6 _ te st' (by decide) hr ht v hin vec hget s hs hne

/- the hypotheses of `asr_random_sets_sound` on the example alignment (two sites, IUPAC codes at site 0) -/
example : (((asrRAM exTree exAln 2 .deltran [5, 7, 11]).1.site 0).get []).isSome = true ∧ innerAt exTree [] = true ∧
    rootOk exTree = true ∧ tipsOk 6 (asrTipVec exAln 0) exTree = true ∧ tipsOk 6 (asrTipVec exAln 1) exTree = true := by decide +kernel

/- ## The text left on the tree (Model/C12Fmt.lean: assignStatesToTree, assignSequencesToTree) and the driver's readers -/

/-- ★ `assignSequencesToTree`, model level: for an alphabet of one-character names without braces, the comment
    written for a node whose sites hold the slices `vs` is read back by the driver's reader as exactly the
    per-site state names of the model — any number of sites, any slices (the empty set is written `*`). -/
theorem asr_comment_roundtrip (chars : List Char) (hb : noBrace chars) (vs : List Vec) :
    readSeqSets (asrComment (vs.map (stateNames (chars.map String.singleton)))) =
      some (vs.map (stateNames (chars.map String.singleton))) := by
  obtain ⟨sites, hs, hall⟩ := stateNames_sites chars hb vs
  rw [hs]
  have hc : (sites.map (·.map String.singleton)).map (fun names => names.flatMap String.toList) = sites := by
    simp [List.map_map, Function.comp_def, flatMap_singletons]
  simp only [readSeqSets, asrComment, hc, String.toList_ofList, readSeqChars_render sites hall, List.reverse_nil,
    List.nil_append, Option.map_some]

/-- the two alphabets of ParsimonyAsr hold no brace: the hypothesis of `asr_comment_roundtrip` for the code's alphabets -/
theorem asr_alphabets_no_brace :
    asrAlphabet = ['A', 'C', 'G', 'T', '-', '*'].map String.singleton ∧ aaAlphabet = aaChars.map String.singleton ∧
    (['A', 'C', 'G', 'T', '-', '*'].all fun c => c != '{' && c != '}') = true ∧
    (aaChars.all fun c => c != '{' && c != '}') = true := by decide +kernel

/-- ★ `assignStatesToTree`, model level: the comment written for state names without `|` is read back as those names
    (in the order written); `*` stands for the empty set. -/
theorem acr_comment_roundtrip (names : List String) (hne : names ≠ []) (h : ∀ n ∈ names, noSep '|' n.toList) :
    readAcrComment (acrComment names) = names := by
  simp only [readAcrComment, acrComment, acrCommentChars, String.toList_ofList]
  rw [splitChars_join '|' (names.map String.toList) (by simpa using hne) (by
    intro n hn
    obtain ⟨m, hm, rfl⟩ := List.mem_map.mp hn
    exact h m hm)]
  simp [List.map_map, Function.comp_def]

example : acrComment ["A", "s10"] = "A|s10" ∧ readAcrComment "A|s10" = ["A", "s10"] ∧
    asrComment [["A"], ["A", "G"], ["*"]] = "A{AG}*" ∧ readSeqSets "A{AG}*" = some [["A"], ["A", "G"], ["*"]] ∧
    asrCommentsAfter ["old"] [["T"]] = ["old", "T"] ∧ acrCommentsAfter ["old"] ["B"] = ["B"] := by decide +kernel

/- ## The table regenerated from the source (Gotree/Gen/C12Sites.lean, written by harness/c12/extract.go on every
   run) against the facts the model is written from (Lemmas/C12Sites.lean).  When one of these decisions fails the
   check reports the theorem as broken and still runs the oracle on the code's output to look for a failing input. -/

/-- the integers behind ALGO_DELTRAN … ALGO_NONE in both packages are the ones the harness passes -/
theorem algoConstsCheck : Gen.C12.algoConsts = expectedConsts := by decide +kernel

/-- the `switch algo` of ParsimonyAcr and ParsimonyAsr, case by case -/
theorem dispatchCheck : Gen.C12.dispatch = expectedDispatch := by decide +kernel

/-- ★ read off the regenerated table, the passes each constant selects ARE the model's `runAlgo` (ASR: no case
    for ALGO_NONE, the default clause is an error); the only pass that is never random is DELTRAN's down-pass -/
theorem dispatch_runAlgo (k : Nat) (tv : String → Vec) (t : T) (algo : Algo) :
    interp Gen.C12.dispatch "acr" (algoConst algo) k tv t = some (runAlgo k tv algo t) ∧
    interp Gen.C12.dispatch "asr" (algoConst algo) k tv t = (if algo = .none then none else some (runAlgo k tv algo t)) ∧
    neverRandom Gen.C12.dispatch = [("acr", "ALGO_DELTRAN", "parsimonyDOWNPASS"), ("asr", "ALGO_DELTRAN", "parsimonyDOWNPASS")] := by
  rw [dispatchCheck]
  cases algo <;> refine ⟨?_, ?_, ?_⟩ <;> first | rfl | decide

/-- selection predicates (each comparison evaluated on probes), stored constants and counters of every pass
    function, in source order -/
theorem skeletonCheck : skelSig Gen.C12.skeleton = skelSig expectedSkeleton ∧ entrySig Gen.C12.entry = entrySig expectedEntry :=
  ⟨rfl, rfl⟩

/-- the comparison is semantic: equivalent spellings of a predicate or of a constant are the same row, a different
    predicate is not -/
example : atomSig ("_", ">", "1") = atomSig ("_", ">=", "2") ∧ atomSig ("_", ">", "1") = atomSig ("1", "<", "_") ∧
    atomSig ("_", "<", "_") = atomSig ("_", ">", "_") ∧ atomSig ("_", ":=", "0.0") = atomSig ("_", ":=", "0") ∧
    atomSig ("_", ">=", "1") = atomSig ("_", ">", "0") ∧ atomSig ("_", ">", "1") ≠ atomSig ("_", ">=", "1") ∧
    atomSig ("_", ">", "_") ≠ atomSig ("_", ">=", "_") := by decide +kernel

/-- cmd/acr.go, cmd/asr.go: `--algo` literals → constants agree with `cliAlgoL`, compared after `strings.ToLower`;
    what the default clause does (acr: logs and returns nil; asr: sets err); flag defaults; the library call -/
theorem cliCheck :
    cliAlgosOk Gen.C12.cliAlgos Gen.C12.flagDefaults = true ∧
    Gen.C12.cliTag = [("acr", "strings.ToLower(parsimonyAlgo)"), ("asr", "strings.ToLower(parsimonyAlgo)")] ∧
    Gen.C12.cliDefault = expectedCliDefault ∧ Gen.C12.flagDefaults = expectedFlagDefaults ∧
    Gen.C12.cliCalls = expectedCliCalls := ⟨by decide +kernel, rfl, rfl, rfl, rfl⟩

/-- the model's `iupac` is `align.IupacCode` read through the alphabet of ParsimonyAsr, on all 256 bytes -/
theorem iupacCheck :
    ((List.range 256).all fun b => iupac (Char.ofNat b) == genIupac b) = true ∧
    asrAlphabet = (genAlphabet Gen.C12.nucAlphabet).map (fun b => String.singleton (Char.ofNat b)) := by decide +kernel

/-- the model's `aaCodes` is the protein branch of the up-pass (ALL_AMINO expanded), on all 256 bytes -/
theorem aaCodesCheck :
    ((List.range 256).all fun b => aaCodes (Char.ofNat b) == genAaCodes b) = true ∧
    aaChars = (genAlphabet Gen.C12.aminoAlphabet).map Char.ofNat := by decide +kernel

end Gotree.C12

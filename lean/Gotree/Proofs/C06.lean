/-
  C06 — property theorems about the model functions the driver runs
  (`Gotree.C06.removeTip`, `removeTips`, `removeTipsPinned`, `PruneFlags.names`).
-/
import Gotree.Lemmas.C06Step
import Gotree.Lemmas.C06Literal
import Gotree.Lemmas.C06Rooted
import Gotree.Lemmas.C06Index
import Gotree.Lemmas.C06Stale

namespace Gotree.C06
open Gotree Gotree.C14

/-- a small tree used as non-vacuity witness: `((a:1,b:2)0.5:1,c:1,d:1,e:1);` -/
def t0 : T :=
  .node ⟨"", []⟩ 0 [
    (⟨1, 1/2, NIL, [], 0⟩, .node ⟨"", []⟩ 0 [(⟨1, NIL, NIL, [], 1⟩, T.leaf "a"), (⟨2, NIL, NIL, [], 2⟩, T.leaf "b")]),
    (⟨1, NIL, NIL, [], 3⟩, T.leaf "c"), (⟨1, NIL, NIL, [], 4⟩, T.leaf "d"), (⟨1, NIL, NIL, [], 5⟩, T.leaf "e")]

/-- a tree whose root is itself a tip (one neighbour): `((b,c,d,e))a;` — outside `wf` -/
def tRootTip : T :=
  .node ⟨"a", []⟩ 0 [(⟨1, NIL, NIL, [], 0⟩,
    .node ⟨"", []⟩ 0 [(⟨1, NIL, NIL, [], 1⟩, T.leaf "b"), (⟨1, NIL, NIL, [], 2⟩, T.leaf "c"),
      (⟨1, NIL, NIL, [], 3⟩, T.leaf "d"), (⟨1, NIL, NIL, [], 4⟩, T.leaf "e")])]

/-- ★ One tip removed (`removeTip`, tree.go:294) from a well-formed tree, at least
    3 tips remaining: the call succeeds, the tips are the others, the branches are
    exactly the restrictions of the old ones (as splits of the remaining tips), path
    lengths between remaining tips are unchanged, no single-child node is left. -/
theorem removeTip_induced (t : T) (x : String) (h₁ : wf t = true) (h₃ : 3 ≤ t.tipNames.length - 1) :
    ∃ t', removeTip x t = .ok t' ∧ t'.tipNames.Perm (t.tipNames.erase x) ∧
      splitsInduced t'.tipNames t t' ∧
      (lensOK t = true → ∀ a b, a ∈ t'.tipNames → b ∈ t'.tipNames → t'.dist a b = t.dist a b) ∧
      wf t' = true ∧ (lensOK t = true → lensOK t' = true) := by
  obtain ⟨hnd, hns, hroot⟩ := (wf_iff t).1 h₁
  obtain ⟨t', e1, hperm, hns', Pr⟩ := removeTipR_step false x t (fun h => by cases h) hns hnd (by omega)
  have R := ind_rootEff (Pr.ind t'.tipNames (fun h => absurd h hroot) (fun _ h => h)).1
  refine ⟨t', removeTipR_false x t ▸ e1, hperm, ⟨R.back, R.fwd⟩,
    fun hl a b ha hb => R.dist ((lensOK_iff t).1 hl) a b ha hb,
    (wf_iff t').2 ⟨hperm.nodup_iff.2 (hnd.erase x), hns', Pr.inner hroot⟩,
    fun hl => (lensOK_iff t').2 (R.lens ((lensOK_iff t).1 hl))⟩

example : wf t0 = true ∧ 3 ≤ t0.tipNames.length - 1 ∧ lensOK t0 = true := by decide

/-! ## `RemoveTips` as it is now (`removeTips` = `removeLoopR t.rooted …`), every root shape
    (hypotheses of DESIGN Appendix B: unique tips, no single-child inner node, ≥ 3 kept) -/

/-- ★ `removeTips_induced` for every root shape: `wfR` = unique tips ∧ no single-child inner node.
    When the root is a tip and is kept it stays the (tip) root; when it is removed its neighbour
    takes its place (0cfc52b) and the result has a root with ≥ 3 neighbours (`rootAfterOK`). -/
theorem removeTips_induced_roottip (t : T) (S : List String) (rev : Bool) (h₁ : wfR t = true)
    (h₃ : 3 ≤ (kept t S rev).length) :
    ∃ t', removeTips rev S t = .ok (t', sortNames t'.tipNames) ∧
      t'.tipNames.Perm (kept t S rev) ∧
      splitsInduced (kept t S rev) t t' ∧
      (lensOK t = true → ∀ a b, a ∈ kept t S rev → b ∈ kept t S rev → t'.dist a b = t.dist a b) ∧
      wfR t' = true ∧ noSingleAfterR t S rev t' = true ∧ (lensOK t = true → lensOK t' = true) := by
  obtain ⟨t', e, hk, hw, hroot, hI, _⟩ := removeTips_coreR t S rev h₁ h₃
  have R := ind_rootEff hI
  exact ⟨t', e, hk, ⟨R.back, R.fwd⟩, fun hl a b ha hb => R.dist ((lensOK_iff t).1 hl) a b ha hb,
    hw, by simp [noSingleAfterR, ((wfR_iff t').1 hw).2, hroot],
    fun hl => (lensOK_iff t').2 (R.lens ((lensOK_iff t).1 hl))⟩

/-- a tree whose root is a tip, satisfying the hypotheses, with the tip root removed or kept -/
example : wfR tRootTip = true ∧ wf tRootTip = false ∧ 3 ≤ (kept tRootTip ["a"] false).length ∧
    3 ≤ (kept tRootTip ["b", "zz"] false).length := by decide

/-- ★ `removeTips_oracle` for every root shape, on the Spec functions of the driver's oracle. -/
theorem removeTips_oracle_roottip (t : T) (S : List String) (rev : Bool) (h₁ : wfR t = true)
    (h₃ : 3 ≤ (kept t S rev).length) :
    ∃ t', removeTips rev S t = .ok (t', sortNames t'.tipNames) ∧
      tipsOK t S rev t' = true ∧
      (∀ a, a ∈ t'.usplitSet ↔ a ∈ restrictSplits t.tipNames (kept t S rev) t.usplitSet) ∧
      (lensOK t = true → distOK t S rev t' = true) ∧
      noSingleAfterR t S rev t' = true := by
  obtain ⟨hnd, _⟩ := (wfR_iff t).1 h₁
  obtain ⟨t', e1, hk, hind, hdist, _, hroot, _⟩ := removeTips_induced_roottip t S rev h₁ h₃
  refine ⟨t', e1, ?_, usplitSet_restrict t t' _ hnd hk hind, fun hl => ?_, hroot⟩
  · simp [tipsOK, sortS_congr hk]
  · simp only [distOK, List.all_eq_true, Bool.or_eq_true, beq_iff_eq]
    intro a ha b hb
    exact Or.inr (hdist hl a b (mem_sortS.1 ha) (mem_sortS.1 hb))

/-- ★ `removeTips_data` for every root shape. -/
theorem removeTips_data_roottip (t : T) (S : List String) (rev : Bool) (h₁ : wfR t = true)
    (h₃ : 3 ≤ (kept t S rev).length) (hl : lensOK t = true) :
    ∃ t', removeTips rev S t = .ok (t', sortNames t'.tipNames) ∧
      t'.usplits.Perm ((restrictU t (kept t S rev)).filter
        (fun s => decide (2 ≤ lightSize (kept t S rev) s.side))) ∧
      t'.tipLens.Perm (((restrictU t (kept t S rev)).filter
        (fun s => decide (lightSize (kept t S rev) s.side ≤ 1))).map (fun s => (s.side, s.len))) := by
  obtain ⟨t', e, hk, hw, _, hI, _⟩ := removeTips_coreR t S rev h₁ h₃
  exact ⟨t', e, data_of_ind_gen t t' _ ((wfR_iff t).1 h₁).1 hk (nd_all_any t' _ ((wfR_iff t').1 hw).1 hk) hI
    ((lensOK_iff t).1 hl)⟩

/-! ## the same for `wf` (root not a tip), the form other properties import -/

/-- ★ `RemoveTips` (tree.go:259) on a well-formed tree (unique tip names, no
    single-child inner node, the root is not a tip), any list of names `S`
    (names that are no tip are ignored; `rev` keeps instead of removing), at least
    3 tips kept.  The call succeeds and returns the tree induced on the kept tips:
    1. its tip set is exactly `kept t S rev`;
    2. its branches are exactly the restrictions of the branches of `t` with both
       sides non-empty, as splits of the kept tips;
    3. every path length between two kept tips is unchanged (lengths absent or ≥ 0);
    4. it is well-formed again (no single-child inner node, root not a tip);
    5. the refreshed index holds exactly the new tip names. -/
theorem removeTips_induced (t : T) (S : List String) (rev : Bool) (h₁ : wf t = true)
    (h₃ : 3 ≤ (kept t S rev).length) :
    ∃ t', removeTips rev S t = .ok (t', sortNames t'.tipNames) ∧
      t'.tipNames.Perm (kept t S rev) ∧
      splitsInduced (kept t S rev) t t' ∧
      (lensOK t = true → ∀ a b, a ∈ kept t S rev → b ∈ kept t S rev → t'.dist a b = t.dist a b) ∧
      wf t' = true ∧ (lensOK t = true → lensOK t' = true) := by
  obtain ⟨_, _, hroot⟩ := (wf_iff t).1 h₁
  obtain ⟨t', e, hk, hs, hd, hw, hr, hl⟩ := removeTips_induced_roottip t S rev (wfR_of_wf t h₁) h₃
  obtain ⟨hnd', hns'⟩ := (wfR_iff t').1 hw
  rw [noSingleAfterR_eq t t' S rev hroot] at hr
  simp only [noSingleAfter, Bool.and_eq_true, bne_iff_ne, ne_eq] at hr
  exact ⟨t', e, hk, hs, hd, (wf_iff t').2 ⟨hnd', hns', hr.1.2⟩, hl⟩

example : wf t0 = true ∧ 3 ≤ (kept t0 ["a", "zz"] false).length ∧ 3 ≤ (kept t0 ["b", "c", "e", "zz"] true).length := by
  decide

/-- ★ The same result stated with the Spec functions the driver's oracle evaluates on
    the implementation's output (`tipsOK`, `T.usplitSet` / `restrictSplits`, `distOK`,
    `noSingleAfter`): on the model they all hold.  Clause 2: the non-trivial split set of
    the result and `restrictSplits` of the original split set have the same members (both
    are duplicate-free and sorted by the same order).  `noSingleAfter` includes: an
    unrooted tree (root with ≥ 3 neighbours) does not end with a root of degree 2. -/
theorem removeTips_oracle (t : T) (S : List String) (rev : Bool) (h₁ : wf t = true)
    (h₃ : 3 ≤ (kept t S rev).length) :
    ∃ t', removeTips rev S t = .ok (t', sortNames t'.tipNames) ∧
      tipsOK t S rev t' = true ∧
      (∀ a, a ∈ t'.usplitSet ↔ a ∈ restrictSplits t.tipNames (kept t S rev) t.usplitSet) ∧
      (lensOK t = true → distOK t S rev t' = true) ∧
      noSingleAfter t t' = true := by
  obtain ⟨_, _, hroot⟩ := (wf_iff t).1 h₁
  obtain ⟨t', e, h1, h2, h3, hr⟩ := removeTips_oracle_roottip t S rev (wfR_of_wf t h₁) h₃
  exact ⟨t', e, h1, h2, h3, noSingleAfterR_eq t t' S rev hroot ▸ hr⟩

/-- ★ Lengths and supports of the whole result (`Spec.dataOK` up to the order of the
    lists): every non-trivial split of the pruned tree carries the sum of the lengths and
    the max of the supports of the branches of `t` that restrict to it, every tip branch
    the sum of the lengths — the unrooted split map of the result is `restrictU t kept`. -/
theorem removeTips_data (t : T) (S : List String) (rev : Bool) (h₁ : wf t = true)
    (h₃ : 3 ≤ (kept t S rev).length) (hl : lensOK t = true) :
    ∃ t', removeTips rev S t = .ok (t', sortNames t'.tipNames) ∧
      t'.usplits.Perm ((restrictU t (kept t S rev)).filter
        (fun s => decide (2 ≤ lightSize (kept t S rev) s.side))) ∧
      t'.tipLens.Perm (((restrictU t (kept t S rev)).filter
        (fun s => decide (lightSize (kept t S rev) s.side ≤ 1))).map (fun s => (s.side, s.len))) :=
  removeTips_data_roottip t S rev (wfR_of_wf t h₁) h₃ hl

/-- ★ Literal form of clauses 2 and 5, exactly as the oracle evaluates them (`splitsOK`,
    `dataOK`: equality of the sorted lists), whenever the rendering used as sort key tells the
    sides of the result apart (`sidesInj`, a Bool the driver evaluates per case, tag `sides-inj`;
    it can only fail for look-alike names such as a name containing ", "). -/
theorem removeTips_oracle_literal (t : T) (S : List String) (rev : Bool) (h₁ : wfR t = true)
    (h₃ : 3 ≤ (kept t S rev).length) :
    ∃ t', removeTips rev S t = .ok (t', sortNames t'.tipNames) ∧
      (sidesInj (t'.usplitsAll.map (·.side)) = true →
        splitsOK t S rev t' = true ∧ (lensOK t = true → dataOK t S rev t' = true)) := by
  obtain ⟨t', e1, _, hmem, _, _⟩ := removeTips_oracle_roottip t S rev h₁ h₃
  refine ⟨t', e1, fun hinj => ⟨?_, fun hl => ?_⟩⟩
  · have hI := (sidesInj_iff _).1 hinj
    have hsub : ∀ a ∈ t'.usplitSet, a ∈ t'.usplitsAll.map (·.side) := fun a ha =>
      ((List.filter_sublist (l := t'.usplitsAll)).map _).subset ha
    have := eq_of_same_members (usplitSet_nodup t') (restrictSplits_nodup _ _ _) (usplitSet_sorted t')
      (restrictSplits_sorted _ _ _) hmem
      ((sidesInj_iff _).2 fun a ha b hb e => hI a (hsub a ha) b (hsub b hb) e)
    simp [splitsOK, this]
  · obtain ⟨t'', e2, p1, p2⟩ := removeTips_data_roottip t S rev h₁ h₃ hl
    rw [e1] at e2
    cases e2
    have q1 := eq_of_perm_parts id (·.side) (fun _ => rfl) (by rw [List.map_id, List.map_id]; exact p1)
      (usplitsAll_sorted t') (restrictU_sorted t _) (C05.usplitsAll_sidesNodup t') hinj
    have q2 := eq_of_perm_parts (fun s => (s.side, s.len)) (·.1) (fun _ => rfl) p2
      (usplitsAll_sorted t') (restrictU_sorted t _) (C05.usplitsAll_sidesNodup t') hinj
    rw [List.map_id, List.map_id] at q1
    simp only [dataOK, Bool.and_eq_true]
    exact ⟨by rw [show t'.usplits = _ from q1]; exact list_usplit_beq_self _,
      by rw [show t'.tipLens = _ from q2]; exact beq_self_eq_true _⟩

/-- Pruning in two steps (the re-anchored histories of the correspondence, `gotree prune`
    applied to its own output): the second result is the induced subtree of the ORIGINAL tree on
    the tips finally kept — same tips, branches = restrictions of the original branches, original
    path lengths. -/
theorem removeTips_twice_induced (t : T) (S₁ S₂ : List String) (rev₁ rev₂ : Bool) (h₁ : wfR t = true)
    (t₁ : T) (ix₁ : Index) (e₁ : removeTips rev₁ S₁ t = .ok (t₁, ix₁))
    (h₃ : 3 ≤ (kept t₁ S₂ rev₂).length) (hk₁ : 3 ≤ (kept t S₁ rev₁).length) :
    ∃ t₂, removeTips rev₂ S₂ t₁ = .ok (t₂, sortNames t₂.tipNames) ∧
      t₂.tipNames.Perm (kept t₁ S₂ rev₂) ∧
      (∀ a ∈ kept t₁ S₂ rev₂, a ∈ kept t S₁ rev₁) ∧
      splitsInduced (kept t₁ S₂ rev₂) t t₂ ∧
      (lensOK t = true → ∀ a b, a ∈ kept t₁ S₂ rev₂ → b ∈ kept t₁ S₂ rev₂ → t₂.dist a b = t.dist a b) ∧
      wfR t₂ = true := by
  obtain ⟨t₁', e1', hk, hw, _, hI, _⟩ := removeTips_coreR t S₁ rev₁ h₁ hk₁
  rw [e₁] at e1'
  cases e1'
  obtain ⟨t₂, e2, fk, fw, _, fI, _⟩ := removeTips_coreR t₁ S₂ rev₂ hw h₃
  have hsub : ∀ a ∈ kept t₁ S₂ rev₂, a ∈ kept t S₁ rev₁ :=
    fun a ha => hk.mem_iff.1 (List.mem_filter.1 ha).1
  have R := RootEff.trans hsub (ind_rootEff hI) (ind_rootEff fI)
  exact ⟨t₂, e2, fk, hsub, ⟨R.back, R.fwd⟩, fun hl a b ha hb => R.dist ((lensOK_iff t).1 hl) a b ha hb, fw⟩

/-- ★ Clauses 2 and 5 literally as the oracle evaluates them, for every tree whose tip names
    are non-empty and free of ',' (`goodNames`, a Bool on the INPUT the driver evaluates, tag
    `good-names`): `toString` is injective on the sides of such trees (`C05.toString_sides_inj`). -/
theorem removeTips_oracle_literal_names (t : T) (S : List String) (rev : Bool) (h₁ : wfR t = true)
    (h₃ : 3 ≤ (kept t S rev).length) (hn : goodNames t = true) :
    ∃ t', removeTips rev S t = .ok (t', sortNames t'.tipNames) ∧
      splitsOK t S rev t' = true ∧ (lensOK t = true → dataOK t S rev t' = true) := by
  obtain ⟨t', e1, hlit⟩ := removeTips_oracle_literal t S rev h₁ h₃
  obtain ⟨t'', e2, hk, _⟩ := removeTips_induced_roottip t S rev h₁ h₃
  rw [e1] at e2
  cases e2
  have hg : ∀ x ∈ t'.tipNames, C05.goodName x := fun x hx =>
    (goodNames_iff t).1 hn x (List.mem_filter.1 (hk.mem_iff.1 hx)).1
  exact ⟨t', e1, hlit (sidesInj_of_goodNames t' hg)⟩

example : goodNames t0 = true ∧ goodNames tRootTip = true := by decide

example : wf t0 = true ∧ 3 ≤ (kept t0 ["b", "nosuch"] false).length ∧ lensOK t0 = true := by decide

/-! ## rooted inputs: the result is the ROOTED induced subtree -/

/-- a rooted binary witness: `((a,b),(c,(d,e)));` -/
def tRooted : T :=
  .node ⟨"", []⟩ 0 [
    (⟨1, NIL, NIL, [], 0⟩, .node ⟨"", []⟩ 0 [(⟨1, NIL, NIL, [], 1⟩, T.leaf "a"), (⟨1, NIL, NIL, [], 2⟩, T.leaf "b")]),
    (⟨1, NIL, NIL, [], 3⟩, .node ⟨"", []⟩ 0 [(⟨1, NIL, NIL, [], 4⟩, T.leaf "c"),
      (⟨1, NIL, NIL, [], 5⟩, .node ⟨"", []⟩ 0 [(⟨1, NIL, NIL, [], 6⟩, T.leaf "d"), (⟨1, NIL, NIL, [], 7⟩, T.leaf "e")])])]

/-- ★ Clause 7 (`rootedOK`), since 50ed682 for EVERY rooted input (root with two neighbours, unique
    tips, no single-child inner node, ≥ 3 kept): the result is the rooted induced subtree — its clades
    are exactly the proper non-empty restrictions of the original clades (so its root is the last
    common ancestor of the kept tips) and the depths of the kept tips change by a common offset. -/
theorem removeTips_rooted (t : T) (S : List String) (rev : Bool) (h₁ : wfR t = true)
    (h₃ : 3 ≤ (kept t S rev).length) (hr : t.rooted = true) :
    ∃ t', removeTips rev S t = .ok (t', sortNames t'.tipNames) ∧ rootedOK t S rev t' = true := by
  obtain ⟨t', e, hk, _, _, _, hI⟩ := removeTips_coreR t S rev h₁ h₃
  exact ⟨t', e, rootedOK_of_rootedEff t t' S rev ((wfR_iff t).1 h₁).1 hk (indR_rootedEff (hI hr))
    (fun hl => (lensOK_iff t).1 hl)⟩

example : wfR tRooted = true ∧ tRooted.rooted = true ∧ 3 ≤ (kept tRooted ["a"] false).length := by decide

/-- a rooted input with a multifurcation below the root: `(x,(a,b,(c,d)));` -/
def tRootedMulti : T :=
  .node ⟨"", []⟩ 0 [
    (⟨1, NIL, NIL, [], 0⟩, T.leaf "x"),
    (⟨2, NIL, NIL, [], 1⟩, .node ⟨"", []⟩ 0 [(⟨1, NIL, NIL, [], 2⟩, T.leaf "a"), (⟨1, NIL, NIL, [], 3⟩, T.leaf "b"),
      (⟨1, 1/2, NIL, [], 4⟩, .node ⟨"", []⟩ 0 [(⟨1, NIL, NIL, [], 5⟩, T.leaf "c"), (⟨1, NIL, NIL, [], 6⟩, T.leaf "d")])])]

example : wfR tRootedMulti = true ∧ tRootedMulti.rooted = true ∧ rootedBin tRootedMulti = false ∧
    3 ≤ (kept tRootedMulti ["x", "a"] false).length := by decide

/-- Before 50ed682 (`removeLoop` = the loop without the `rooted` flag): minus `x`, `a` the trifurcating
    node first becomes the root, then loses a child and is suppressed as if the tree were unrooted —
    the clade `{c,d}` and the root are lost.  With the flag the clade is kept under a root of degree 2. -/
theorem removeTips_rooted_pinned_fails :
    (match removeLoop (workList tRootedMulti ["x", "a"] false) tRootedMulti with
     | .ok t' => t'.kids.length == 3 && t'.tipNames == ["c", "d", "b"] &&
         !((t'.splits.map (·.below)).contains ["c", "d"])
     | .error _ => false) = true ∧
    (match removeLoopR true (workList tRootedMulti ["x", "a"] false) tRootedMulti with
     | .ok t' => t'.kids.length == 2 && t'.tipNames == ["b", "c", "d"] &&
         (t'.splits.map (·.below)).contains ["c", "d"]
     | .error _ => false) = true := by decide

/-- Names that are no tip of the tree are ignored. -/
theorem removeTips_ignores_absent (t : T) (S : List String) (rev : Bool) (y : String) (hy : y ∉ t.tipNames) :
    removeTips rev (y :: S) t = removeTips rev S t :=
  removeTips_congr rev t fun n hn => by
    have hny : n ≠ y := fun h => hy (h ▸ hn)
    simp [hny]

/-- Names that are no tip of the tree are ignored, wherever they stand in the list. -/
theorem removeTips_ignores_absent_any (t : T) (S : List String) (rev : Bool) :
    removeTips rev S t = removeTips rev (S.filter t.tipNames.contains) t :=
  removeTips_congr rev t fun n hn => by
    rw [Bool.eq_iff_iff]
    simp only [List.contains_eq_mem, decide_eq_true_eq, List.mem_filter]
    exact ⟨fun h => ⟨h, hn⟩, fun h => h.1⟩

/-- the hypotheses of `removeTips_twice_induced` and of `removeTips_index` are satisfiable:
    prune `t0` once, then keep everything -/
example : ∃ t₁ ix₁, removeTips false ["a"] t0 = .ok (t₁, ix₁) ∧ 3 ≤ (kept t₁ [] false).length ∧
    t₁.tipNames ≠ [] := by
  obtain ⟨t₁, e, hk, _⟩ := removeTips_induced_roottip t0 ["a"] false (by decide) (by decide)
  have hl : t₁.tipNames.length = 4 := by rw [hk.length_eq]; decide
  refine ⟨t₁, _, e, ?_, ?_⟩
  · have : kept t₁ [] false = t₁.tipNames := by
      unfold kept; exact List.filter_eq_self.2 (by simp)
    rw [this, hl]; decide
  · intro h0; rw [h0] at hl; simp at hl

/-- Look-ups by name reflect the new tip set: after a successful `RemoveTips` the
    index answers `ExistsTip` exactly for the tips of the new tree, and `NbTips`
    is their number (F12 repaired by a345ca7). -/
theorem removeTips_index (t : T) (S : List String) (rev : Bool) (t' : T) (ix : Index)
    (h : removeTips rev S t = .ok (t', ix)) (hne : t'.tipNames ≠ []) :
    (∀ n, existsTip ix n = some (decide (n ∈ t'.tipNames))) ∧ nbTips ix = some t'.tipNames.length ∧
      (∀ n, (tipIndexOf ix n).isSome = decide (n ∈ t'.tipNames)) := by
  obtain ⟨_, _, rfl⟩ := (removeTips_ok_iff ..).1 h
  have hlen : (sortNames t'.tipNames).length = t'.tipNames.length := (List.mergeSort_perm _ _).length_eq
  have hne' : (sortNames t'.tipNames).isEmpty = false := by
    cases hs : sortNames t'.tipNames with
    | nil => rw [hs] at hlen; exact absurd (List.length_eq_zero_iff.1 hlen.symm) hne
    | cons a r => rfl
  refine ⟨fun n => by simp [existsTip, hne', mem_sortNames6], by simp [nbTips, hne', hlen], fun n => ?_⟩
  by_cases hm : n ∈ t'.tipNames <;> simp [tipIndexOf, mem_sortNames6, hm]

/-- F12 as it was (before a345ca7 the index was not refreshed): on `t0` with the
    index `[a,b,c,d,e]`, after removing `a` the stale index still answers `a`. -/
theorem removeTipsPinned_fails :
    (match removeTipsPinned false ["a"] t0 ["a", "b", "c", "d", "e"] with
     | .ok (t', ix) => existsTip ix "a" == some true && !(t'.tipNames.contains "a") && nbTips ix == some 5 &&
         t'.tipNames.length == 4
     | .error _ => false) = true := by decide

/-- a tree with a single-child node below the root: `((a,b,c)),x;` — outside `wf` -/
def tSingle : T :=
  .node ⟨"", []⟩ 0 [
    (⟨1, NIL, NIL, [], 0⟩, .node ⟨"", []⟩ 0 [(⟨1, NIL, NIL, [], 1⟩,
      .node ⟨"", []⟩ 0 [(⟨1, NIL, NIL, [], 2⟩, T.leaf "a"), (⟨1, NIL, NIL, [], 3⟩, T.leaf "b"), (⟨1, NIL, NIL, [], 4⟩, T.leaf "c")])]),
    (⟨1, NIL, NIL, [], 5⟩, T.leaf "x")]

/-- Why `noSingle` is a hypothesis (observed on the real code, tag `single-root-left`): when the
    root loses its other child, a single-child node just below it becomes the root (case 1b) and,
    having one neighbour, counts as a tip with the empty name: 4 tips instead of the 3 kept. -/
theorem removeTips_single_root_witness :
    wf tSingle = false ∧ (kept tSingle ["x"] false).length = 3 ∧
    (match removeLoopR tSingle.rooted (workList tSingle ["x"] false) tSingle with
     | .ok t' => t'.tipNames.length == 4 && t'.tipNames.contains "" && t'.kids.length == 1
     | .error _ => false) = true := by decide

/-- A tip that is the root can be removed (0cfc52b): its neighbour takes its place and is
    treated like any node that lost a neighbour; before that commit the call failed
    (`removeTipPinnedRootTip`).  Keeping the tip root works in both. -/
theorem removeTip_root_tip_pinned_fails :
    (match removeTipPinnedRootTip "a" tRootTip with
     | .ok _ => false
     | .error e => e == Err.rootTip) = true ∧
    (match removeLoopR tRootTip.rooted (workList tRootTip ["a"] false) tRootTip with
     | .ok t' => t'.tipNames == ["b", "c", "d", "e"] && t'.kids.length == 4
     | .error _ => false) = true ∧
    (match removeLoopR tRootTip.rooted (workList tRootTip ["b"] false) tRootTip with
     | .ok t' => t'.tipNames == ["a", "c", "d", "e"]
     | .error _ => false) = true := by decide

/-- What the code does with a single-child node `S` just below the root (inputs outside the
    property: "pruning is only required to cope with trees free of single-child inner nodes"):
    when the root's other child, the tip `x`, is removed, case 1b makes `S` the root as it is;
    `S` has one neighbour, so it is a tip for Go and its (usually empty) name joins the tip set.
    Whichever side the tip hangs on.  The check keeps such inputs tie-only. -/
theorem removeTip_single_below_root (x : String) (d : NodeD) (p q : Nat) (e0 e1 : EdgeD) (S : T)
    (hS : S.kids.length = 1) (hx : x ∉ S.leaves) :
    removeTip x (.node d p [(e0, .node ⟨x, []⟩ q []), (e1, S)]) = .ok (.node S.d 0 S.kids) ∧
    removeTip x (.node d p [(e1, S), (e0, .node ⟨x, []⟩ q [])]) = .ok (.node S.d 0 S.kids) ∧
    (T.node S.d 0 S.kids).tipNames = S.name :: S.leaves := by
  have hnf := rmNode_notFound_of_not_mem x S hx
  obtain ⟨ds, ps, ks⟩ := S
  simp only [T.kids_node] at hS
  match ks, hS, hnf with
  | [(e, c)], _, hnf =>
    refine ⟨?_, ?_, ?_⟩
    · simp [removeTip, rmKids, rmNode]
    · simp only [removeTip, rmKids, hnf]
      simp [rmNode]
    · simp [T.tipNames, T.name, T.leaves, leavesL]

/-- merged branch: length = sum (absent counts 0; absent only if both are) -/
theorem fuse_length_sum (e1 e2 : EdgeD) (b : Bool) (h1 : lenOKe e1) (h2 : lenOKe e2) :
    (fuseEdge e1 e2 b).lenOr0 = e1.lenOr0 + e2.lenOr0 ∧
      ((fuseEdge e1 e2 b).len = NIL ↔ e1.len = NIL ∧ e2.len = NIL) := by
  refine ⟨fuse_lenOr0 h1 h2 b, ?_⟩
  constructor
  · intro h
    by_cases hn : (e1.len != NIL || e2.len != NIL) = true
    · have hs : 0 ≤ rmax 0 e1.len + rmax 0 e2.len := Rat.add_nonneg (rmax0_nonneg' _) (rmax0_nonneg' _)
      have : (fuseEdge e1 e2 b).len = rmax 0 e1.len + rmax 0 e2.len := by simp [fuseEdge, hn]
      rw [this] at h; rw [h] at hs; exact absurd hs (by decide)
    · simpa using hn
  · intro ⟨a, c⟩; simp [fuseEdge, a, c]

/-- merged branch: support = max of the two when both ends are inner nodes, none otherwise -/
theorem fuse_support_max (e1 e2 : EdgeD) :
    (fuseEdge e1 e2 true).sup = rmax e1.sup e2.sup ∧ (fuseEdge e1 e2 false).sup = NIL := by
  constructor
  · by_cases hn : (e1.sup != NIL || e2.sup != NIL) = true
    · simp [fuseEdge, hn]
    · have : e1.sup = NIL ∧ e2.sup = NIL := by simpa using hn
      simp [fuseEdge, this.1, this.2, rmax]
  · simp [fuseEdge]

/-- `gotree prune`: priority of the name sources, `-f` > `-c` > `--random` > arguments. -/
theorem prune_priority (f : PruneFlags) (ref : T) (sampled : List String) :
    (∀ l, f.tipfile = some l → f.names ref sampled = l) ∧
    (∀ c, f.tipfile = none → f.comp = some c → f.names ref sampled = specificTips ref c) ∧
    (f.tipfile = none → f.comp = none → f.random > 0 → f.names ref sampled = sampled) ∧
    (f.tipfile = none → f.comp = none → ¬ f.random > 0 → f.names ref sampled = f.args) := by
  refine ⟨fun l h => by simp [PruneFlags.names, h], fun c h1 h2 => by simp [PruneFlags.names, h1, h2],
    fun h1 h2 h3 => by simp [PruneFlags.names, h1, h2, h3], fun h1 h2 h3 => by simp [PruneFlags.names, h1, h2, h3]⟩

/-- `gotree prune` (model of `RunE`): whatever the source of names chosen by the flags, the
    result is the induced subtree of the reference tree on the kept tips (★ applied to `prune`). -/
theorem prune_induced (f : PruneFlags) (ref : T) (sampled : List String) (h₁ : wf ref = true)
    (h₃ : 3 ≤ (kept ref (f.names ref sampled) f.revert).length) :
    ∃ t', prune f ref sampled = .ok (t', sortNames t'.tipNames) ∧
      t'.tipNames.Perm (kept ref (f.names ref sampled) f.revert) ∧
      splitsInduced (kept ref (f.names ref sampled) f.revert) ref t' ∧
      wf t' = true := by
  obtain ⟨t', e, hk, hs, _, hw, _⟩ := removeTips_induced ref (f.names ref sampled) f.revert h₁ h₃
  exact ⟨t', e, hk, hs, hw⟩

/-- `prune -c comp` keeps exactly the tips of the reference tree that are tips of `comp`. -/
theorem prune_comp_keeps_common (ref comp : T) :
    kept ref (specificTips ref comp) false = ref.tipNames.filter comp.tipNames.contains := by
  unfold kept
  apply List.filter_congr
  intro n hn
  by_cases hc : n ∈ comp.tipNames <;> simp [specificTips, nodeTipNames, hn, hc]

/-- `gotree prune` on a whole input (several trees, any combination of -f / -c / --random /
    arguments / -r; `-o` or stdout only changes where the lines go): when every input tree
    satisfies the hypotheses, the command does not fail, writes exactly one tree per input tree,
    in order, and each is the induced subtree of its input for the names the flags select FOR THAT
    TREE (`-c`: the tips specific to that tree). -/
theorem pruneAll_induced (f : PruneFlags) : ∀ (refs : List T) (samples : List (List String)),
    AllGood f refs samples →
    (pruneAll f refs samples).2 = none ∧ (pruneAll f refs samples).1.length = refs.length ∧
      OutputsInduced f refs samples (pruneAll f refs samples).1
  | [], _, _ => by simp [pruneAll, OutputsInduced]
  | ref :: rest, samples, h => by
    obtain ⟨h1, h3, hr⟩ := h
    obtain ⟨t', e, hk, hs, _, hw, _⟩ := removeTips_induced_roottip ref (f.names ref (samples.headD [])) f.revert h1 h3
    obtain ⟨g1, g2, g3⟩ := pruneAll_induced f rest samples.tail hr
    have e' : prune f ref (samples.headD []) = .ok (t', sortNames t'.tipNames) := e
    simp only [pruneAll, e']
    exact ⟨g1, by simp [g2], hk, hs, hw, g3⟩

/-- the first tree that cannot be pruned stops the command: what was written before stays,
    nothing is written for that tree nor for the following ones -/
theorem pruneAll_stops (f : PruneFlags) (ref : T) (rest : List T) (samples : List (List String)) (e : Err)
    (h : prune f ref (samples.headD []) = .error e) :
    pruneAll f (ref :: rest) samples = ([], some e) := by
  simp only [pruneAll, h]

theorem pruneAll_continues (f : PruneFlags) (ref : T) (rest : List T) (samples : List (List String))
    (t' : T) (ix : Index) (h : prune f ref (samples.headD []) = .ok (t', ix)) :
    pruneAll f (ref :: rest) samples =
      (t' :: (pruneAll f rest samples.tail).1, (pruneAll f rest samples.tail).2) := by
  simp only [pruneAll, h]

/-- `--random n`: whatever names were sampled (distinct tips of the tree), exactly that many
    tips go, or stay with `-r` -/
theorem prune_random_count (t : T) (sampled : List String) (hnd : t.tipNames.Nodup)
    (hs : sampled.Nodup) (hsub : ∀ n ∈ sampled, n ∈ t.tipNames) :
    (kept t sampled true).length = sampled.length ∧
      (kept t sampled false).length = t.tipNames.length - sampled.length := by
  have h1 : (kept t sampled true).length = sampled.length := by
    apply List.Perm.length_eq
    apply perm_of_nodup_mem (hnd.filter _) hs
    intro x
    simp only [kept, List.mem_filter, beq_true, List.contains_eq_mem, decide_eq_true_eq]
    exact ⟨fun h => h.2, fun h => ⟨hsub x h, h⟩⟩
  refine ⟨h1, ?_⟩
  have c := filter_length_compl t.tipNames sampled.contains
  have e1 : t.tipNames.filter sampled.contains = kept t sampled true := by
    unfold kept; apply List.filter_congr; intro n _; simp
  have e2 : (t.tipNames.filter fun n => !sampled.contains n) = kept t sampled false := by
    unfold kept; apply List.filter_congr; intro n _; simp
  rw [e1, e2] at c
  omega

/-- the hypotheses of `pruneAll_induced` on two trees with different tip sets under `-c` (every tree
    keeps the tips it shares with the compared tree), and of `prune_random_count` -/
example : AllGood ⟨none, some tRooted, 0, ["zz"], false⟩ [t0, tRootedMulti] [] := by
  simp only [AllGood]; decide

example : t0.tipNames.Nodup ∧ ["b", "e"].Nodup ∧ ∀ n ∈ ["b", "e"], n ∈ t0.tipNames := by decide

/-- `specificTips ref comp` are exactly the tips of `ref` that `comp` does not have. -/
theorem specificTips_mem (ref comp : T) (n : String) :
    n ∈ specificTips ref comp ↔ n ∈ ref.tipNames ∧ n ∉ comp.tipNames := by
  simp [specificTips, nodeTipNames]

/- ## the branch indexes after pruning (`UpdateTipIndex`, `ReinitInternalIndexes` → `UpdateBitSet`) -/

/-- What the model of `UpdateBitSet` / `fillRightBitSet` computes: against an index without repetition that
    knows every tip below the root, the bitset of every branch (rows in `Edges()` order) is the characteristic
    vector of the tips below it — bit `tipid(q)` is set iff `q` is below the branch. -/
theorem bitsets_spec (ix : Index) (t : T) (hnd : ix.Nodup) (hall : ∀ n ∈ leavesL t.kids, n ∈ ix) :
    bitsets ix t = some (t.splits.map fun s => rowOf ix s.below) := by
  simp [bitsets, T.splits, fillK_spec ix hnd t.kids hall]

/-- ★ clause 6 for the branch indexes: after a successful `RemoveTips` (model), the refresh at its end
    (tip index first, bitsets against it) leaves on every branch of the pruned tree the split it induces on the
    NEW tip set, as a bitset of exactly as many bits as there are tips left. -/
theorem removeTips_bitsets (t : T) (S : List String) (rev : Bool) (t' : T) (ix : Index)
    (h : removeTips rev S t = .ok (t', ix)) :
    bitsetsAfter t' = some (t'.splits.map fun s => rowOf ix s.below) ∧ ix.length = t'.tipNames.length ∧
      (∀ q, q ∈ ix ↔ q ∈ t'.tipNames) := by
  obtain ⟨_, hnd', rfl⟩ := (removeTips_ok_iff ..).1 h
  have hnd : (sortNames t'.tipNames).Nodup := (List.mergeSort_perm _ _).nodup_iff.2 hnd'
  have hall : ∀ n ∈ leavesL t'.kids, n ∈ sortNames t'.tipNames := fun n hn =>
    mem_sortNames6.2 (by simp [T.tipNames, hn])
  refine ⟨?_, (List.mergeSort_perm _ _).length_eq, fun q => mem_sortNames6⟩
  simp [bitsetsAfter, updateTipIndex, (hasDup_false_iff _).2 hnd', bitsets_spec _ t' hnd hall]

/-- … and these rows satisfy the predicate the oracle applies to the implementation's raw bitsets
    (`Spec.bitsetsOK`, with `TipIndex(q)` = rank of `q` in the index): the model of the refresh meets the Spec. -/
theorem removeTips_bitsetsOK (t : T) (S : List String) (rev : Bool) (t' : T) (ix : Index)
    (h : removeTips rev S t = .ok (t', ix)) (rows : List (List Bool)) (hr : bitsetsAfter t' = some rows) :
    bitsetsOK t' ix ((List.range ix.length).map fun (i : Nat) => Int.ofNat i) (rows.map some) = true := by
  obtain ⟨h1, h2, _⟩ := removeTips_bitsets t S rev t' ix h
  rw [h1] at hr
  cases hr
  exact rows_bitsetsOK t' ix h2

/- ## histories on one in-memory tree (`C06.stale`, `Model/C06Stale.lean`) -/

/-- Index built, the tip `a` renamed `b` behind its back (`SetName`), then `RemoveTips`: the call sees the tree
    as it is.  The tips are the old ones with `b` for `a`; the old name `a`, still a key of the stale index, is
    no tip name any more and is IGNORED (`removeTips rev (a :: S) = removeTips rev S`), the new name `b`, unknown to
    the stale index, designates the tip.  (Seeded C06-7 took the tips from the index: `a` removed the tip.) -/
theorem stale_rename (t : T) (a b : String) (ha : a ∈ t.tipNames) (hb : b ∉ t.tipNames) :
    ∃ t₁, applyEdits [.rename a b] t = some t₁ ∧
      t₁.tipNames = t.tipNames.map (fun n => if n == a then b else n) ∧
      a ∉ t₁.tipNames ∧ b ∈ t₁.tipNames ∧
      (∀ S rev, staleRemove [.rename a b] rev (a :: S) t = some (removeTips rev S t₁)) ∧
      (∀ S rev, staleRemove [.rename a b] rev S t = some (removeTips rev S t₁)) := by
  have hab : a ≠ b := fun e => hb (e ▸ ha)
  have happ : applyEdits [.rename a b] t = some (mapTips (fun n => if n == a then b else n) t) := by
    simp [applyEdits, applyEdit, ha]
  have hna : a ∉ (mapTips (fun n => if n == a then b else n) t).tipNames := by
    rw [tipNames_mapTips]
    intro h
    obtain ⟨n, _, e⟩ := List.mem_map.1 h
    by_cases hna : n = a <;> simp [hna, hab.symm] at e
  refine ⟨_, happ, tipNames_mapTips _ t, hna, ?_, ?_, ?_⟩
  · rw [tipNames_mapTips]
    exact List.mem_map.2 ⟨a, ha, by simp⟩
  · intro S rev
    unfold staleRemove
    rw [happ]
    change some (removeTips rev (a :: S) _) = _
    rw [removeTips_ignores_absent _ S rev a hna]
  · intro S rev
    unfold staleRemove
    rw [happ]
    rfl

example : t0.tipNames = ["a", "b", "c", "d", "e"] ∧ "z" ∉ t0.tipNames := by decide

/-- `TipNode` after pruning (model `tipNodeOf`): for every name the new index answers, the node returned carries
    that name, has one neighbour and stands in `Tips()` of the pruned tree at the reported position; for any
    other name there is no answer.  The answers satisfy the predicate the oracle applies to the raw answers of
    the implementation (`Spec.tipNodesOK`). -/
theorem removeTips_tipNode (t : T) (S : List String) (rev : Bool) (t' : T) (ix : Index)
    (h : removeTips rev S t = .ok (t', ix)) :
    (∀ q, q ∈ t'.tipNames → ∃ pos, tipNodeOf ix t' q = some (q, 1, pos) ∧ t'.tipNames[pos]? = some q) ∧
    (∀ q, q ∉ t'.tipNames → tipNodeOf ix t' q = none) ∧
    tipNodesOK t' ix ix (ix.map fun _ => (1 : Int)) (ix.map fun q => Int.ofNat (t'.tipNames.idxOf q)) = true := by
  obtain ⟨_, _, hmem⟩ := removeTips_bitsets t S rev t' ix h
  refine ⟨fun q hq => ⟨t'.tipNames.idxOf q, ?_, ?_⟩, fun q hq => ?_, ?_⟩
  · have : q ∈ ix := (hmem q).2 hq
    simp [tipNodeOf, this]
  · have hlt : t'.tipNames.idxOf q < t'.tipNames.length := List.idxOf_lt_length_of_mem hq
    rw [List.getElem?_eq_getElem hlt, List.getElem_idxOf]
  · have : q ∉ ix := fun hq' => hq ((hmem q).1 hq')
    simp [tipNodeOf, this]
  · unfold tipNodesOK
    simp only [beq_self_eq_true, List.length_map, Bool.true_and]
    rw [zip_map_all, List.all_eq_true]
    intro q hq
    have hq' : q ∈ t'.tipNames := (hmem q).1 hq
    have hlt : t'.tipNames.idxOf q < t'.tipNames.length := List.idxOf_lt_length_of_mem hq'
    simp [List.getElem?_eq_getElem hlt, List.getElem_idxOf]

/-- `t0` minus `a` is `(c,d,e,b)`; against the new index `[b,c,d,e]` the four tip branches, in `Edges()` order,
    carry one bit each -/
example :
    (match removeLoopR t0.rooted (workList t0 ["a"] false) t0 with
     | .ok t' => t'.tipNames == ["c", "d", "e", "b"] &&
         bitsets ["b", "c", "d", "e"] t' == some [[false, true, false, false], [false, false, true, false],
           [false, false, false, true], [true, false, false, false]]
     | .error _ => false) = true := by decide

/-- the two refreshes in the other order (seeded C06-5: bitsets built against the index as it was before the
    call, `[a,b,c,d,e]`): on `t0` minus `a` the rows keep the old width 5 for 4 tips left, and bit `tipid` of a
    tip under the NEW index (`b` ↦ 0) is not the bit set on its branch -/
theorem removeTips_bitsets_swapped_fails :
    (match removeLoopR t0.rooted (workList t0 ["a"] false) t0 with
     | .ok t' =>
       t'.tipNames.length == 4 &&
       bitsetsAfterSwapped ["a", "b", "c", "d", "e"] t' == some [[false, false, true, false, false],
         [false, false, false, true, false], [false, false, false, false, true], [false, true, false, false, false]] &&
       bitsetsAfterSwapped ["a", "b", "c", "d", "e"] t' != bitsets ["b", "c", "d", "e"] t'
     | .error _ => false) = true := by decide

end Gotree.C06

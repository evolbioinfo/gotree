/-
  C14 — the theorems that depend on the table regenerated from the source (`Gotree/Gen/C14Sites.lean`,
  harness/c14/extract.go, `vh gen-tables`).  Kept apart from `Proofs/C14.lean`: when a change of the code breaks a
  row, the other theorems of C14 still build and are audited.  Nothing outside C14 may import this module.

  Two kinds of rows.  `facts`: the text of an expression (constants, defaults, flag names, formats, arguments) —
  `sitesCheck_*`.  `conds`: the PATH CONDITION under which a statement is reached, as a term (`Sites.Ex`) that is
  EVALUATED here on probes and compared with what the models do — `sitesSem_*`; a rewrite that keeps the value of
  the condition (guard clauses, `!(a >= b)` for `a < b`, turned operands, renamed variables) keeps these theorems.
-/
import Gotree.Proofs.C14
import Gotree.Gen.C14Sites

namespace Gotree.C14
open Gotree

/-- one fact of the table `Gen/C14Sites.lean` (regenerated from the working tree by harness/c14/extract.go on
    every run; receiver, arguments and named results are p0, p1, …; locals x0, x1, …) -/
def fact (key : String) : List String := (Gotree.Gen.C14Sites.facts.lookup key).getD ["<missing>"]

/-- constants and sentinels the models spell as literals: `Go.weight` tests `metric == 1`, `metric == 2`;
    `NIL = -1` (Core) -/
theorem sitesCheck_consts :
    fact "consts" = ["DISTANCE_METRIC_BRLEN = 0", "DISTANCE_METRIC_BOOTS = 1", "DISTANCE_METRIC_NONE = 2",
      "NIL_LENGTH = -1.0", "NIL_SUPPORT = -1.0"] :=
  rfl

/-- `pathLengths` as `Go.pathLengths` / `Go.weight` / `Metric.w` read it: a distance is written at
    `lengths[cur.Id()]`; the weight starts at 1.0; supports default to
    1.0, lengths to 0.0, every other metric value reads the length; the walk goes on with `curlength+l` -/
theorem sitesCheck_pathLengths :
    fact "pathLengths.switch" = ["DISTANCE_METRIC_BOOTS: Support() == NIL_SUPPORT 1.0", "DISTANCE_METRIC_NONE: 1.0",
      "default: Length() == NIL_LENGTH 0.0"] ∧
    fact "pathLengths.writes" = ["p2[p0.Id()] = p3"] ∧
    fact "pathLengths.recur" = ["pathLengths(x0, p0, p2, p3+x1, p4)"] ∧
    fact "pathLengths.define" = ["x0 := 1.0"] :=
  ⟨rfl, rfl, rfl, rfl⟩

/-- `ToDistanceMatrix` as `Go.toDistanceMatrix` reads it: `Tips()`, sorted by `Name() <`, numbered by
    `SetId(i)` in that order, one walk per tip from `prev = nil`, `curlength = 0` into its own row -/
theorem sitesCheck_toDistanceMatrix :
    fact "ToDistanceMatrix.compare" = ["x0[x1].Name() < x0[x2].Name()"] ∧
    fact "ToDistanceMatrix.calls" = ["x0[x1].SetId(x1)", "pathLengths(x0, nil, x1[x2], 0, p1)"] :=
  ⟨rfl, rfl⟩

/-- `AvgDistanceMatrix` as `Go.avgStepG` / `Go.avgFinish` read it: the divisor is a counter whose only write is
    `++` (theorem `avg_ignores_ids`), the tests are `!=`, the accumulation is `+=`, the end a `/=` -/
theorem sitesCheck_avg :
    fact "AvgDistanceMatrix.divisor" = ["float64(x0)"] ∧
    fact "AvgDistanceMatrix.divisor.writes" = ["x0++"] ∧
    fact "AvgDistanceMatrix.arith" = ["p2[x0][x1] += x2[x0][x1]", "p2[x0][x1] /= float64(x2)"] ∧
    fact "AvgDistanceMatrix.calls" = ["x0.Tree.ToDistanceMatrix(p0)", "x0.Tree.ToDistanceMatrix(p0)"] :=
  ⟨rfl, rfl, rfl, rfl⟩

/-- the calls of the flood: both directions from a branch, and onwards from a node with the same bag, threshold and
    `visited` (the conditions under which they are made are evaluated in `sitesSem_cut`, `sitesSem_cutRecur`) -/
theorem sitesCheck_cut :
    fact "CutEdgesMaxLength.calls" = ["p0.cutEdgesMaxLengthRecur(x0, x1.Left(), x1.Right(), p1, x2)",
      "p0.cutEdgesMaxLengthRecur(x0, x1.Right(), x1.Left(), p1, x2)"] ∧
    fact "cutEdgesMaxLengthRecur.calls" = ["p0.cutEdgesMaxLengthRecur(p1, x0, p2, p4, p5)"] :=
  ⟨rfl, rfl⟩

/-- `TipBag` as `Go.addTip` / `Go.bagNames` / `Go.bagRun` read it -/
theorem sitesCheck_tipbag :
    fact "AddTip.writes" = ["p0.tips[p1.Name()] = p1"] ∧
    fact "TipBag.Tips.calls" = ["sort.Strings(x0)"] :=
  ⟨rfl, rfl⟩

/-- the command-line glue as `Cli.metricOfFlag` / `Cli.matrixCmd` / `Cli.cutCmd` / `Cli.matrixText` / `Cli.bagLine`
    read it: spelling -> constant, an unknown spelling returns, `--avg` chooses the branch, flag names, short
    names and defaults (`-m brlen`, `-l 0.5`, `-i stdin`, `-o stdout`), `%.12f`, the id / size / names line -/
theorem sitesCheck_cli :
    fact "matrix.switch" = ["\"brlen\": DISTANCE_METRIC_BRLEN", "\"boot\": DISTANCE_METRIC_BOOTS",
      "\"none\": DISTANCE_METRIC_NONE", "default: return"] ∧
    fact "matrix.avgTest" = ["matrixavg"] ∧
    fact "matrix.calls" = ["openWriteFile(outtreefile)", "readTrees(intreefile)", "tree.AvgDistanceMatrix(x0, x1)",
      "x0.Tree.ToDistanceMatrix(x1)"] ∧
    fact "matrix.formats" = ["distance metric %s in not supported", "%d\n", "%.12f", "%d\n", "%.12f"] ∧
    fact "matrix.flags" = ["StringVarP &intreefile \"input\" \"i\" \"stdin\"", "StringVarP &metric \"metric\" \"m\" \"brlen\"",
      "BoolVar &matrixavg \"avg\" \"\" false", "StringVarP &outtreefile \"output\" \"o\" \"stdout\""] ∧
    fact "cut.calls" = ["openWriteFile(outtreefile)", "readTrees(intreefile)", "x0.Tree.CutEdgesMaxLength(cutlengthmax)"] ∧
    fact "cut.formats" = ["%d\t%d\t"] ∧
    fact "cut.flags" = ["Float64VarP &cutlengthmax \"max-length\" \"l\" 0.5", "StringVarP &outtreefile \"output\" \"o\" \"stdout\""] :=
  ⟨rfl, rfl, rfl, rfl, rfl, rfl, rfl, rfl⟩

/-! ### evaluated rows -/

open Sites in
/-- the path conditions of the statements whose key is `k` (or `k#i`), in source order -/
def condsOf (k : String) : List Ex :=
  (Gotree.Gen.C14Sites.conds.filter fun r => r.1 == k || startsWithS r.1 (k ++ "#")).map (·.2)

def probeRats : List Rat := [-1, 0, 1 / 2, 1]
def probeBools : List Bool := [false, true]

open Sites in
/-- `pathLengths`, EVALUATED: a distance is written iff the node is a tip and is not the start (`prev != nil`);
    otherwise the walk goes on to every neighbour but the one it came from — `Go.pathLengths`
    (`nd.neigh.length == 1 && prev.isSome`, `some cb.1 != prev`) -/
theorem sitesSem_pathLengths :
    (probeBools.all fun tip => [0, 3].all fun (prev : Rat) => [3, 4].all fun (child : Rat) =>
      let p : Probe := { vals := [("p1", prev), ("x", child)], atoms := [("Tip()", tip)] }
      (condsOf "pathLengths.write").map (·.eval p) == [some (tip && prev != 0)] &&
      (condsOf "pathLengths.recur").map (·.eval p) == [some (!(tip && prev != 0) && child != prev)]) = true := by
  decide +kernel

open Sites in
/-- `CutEdgesMaxLength`, EVALUATED on every probe (visited or not, length and threshold in {-1, 0, 1/2, 1} — ties and
    the sentinel included —, bag size 0-2, tip ends): an unvisited branch STRICTLY shorter than the threshold is
    flooded in both directions and its bag kept iff it has a tip; an unvisited branch that is not shorter gives one
    bag per tip end — `Go.cutStep`, `compL` -/
theorem sitesSem_cut :
    (probeBools.all fun vis => probeRats.all fun len => probeRats.all fun thr => [0, 1, 2].all fun (size : Rat) =>
      probeBools.all fun lt => probeBools.all fun rt =>
      let p : Probe := { vals := [(".Length()", len), (".Size()", size), ("p1", thr), ("p3", 0)],
                         atoms := [("Id()]", vis), ("Left().Tip()", lt), ("Right().Tip()", rt)] }
      let short := decide (len < thr)
      (condsOf "cut.flood").map (·.eval p) == [some (!vis && short), some (!vis && short)] &&
      (condsOf "cut.keepBag").map (·.eval p) ==
        [some (!vis && short && decide (size > 0)), some (!vis && !short && lt), some (!vis && !short && rt)] &&
      (condsOf "cut.tipEnd").map (·.eval p) == [some (!vis && !short && lt), some (!vis && !short && rt)]) = true := by
  decide +kernel

open Sites in
/-- `cutEdgesMaxLengthRecur`, EVALUATED: a tip is collected whenever it is reached; a branch is crossed — and
    marked visited — iff it does not lead back to where the flood came from and is STRICTLY shorter than the
    threshold — `Go.cutRecur` (`nb.1 != prev && b.d.len < maxlen`) -/
theorem sitesSem_cutRecur :
    ([0, 5].all fun (cur : Rat) => probeBools.all fun tip => [4, 6].all fun (prev : Rat) => [6, 7].all fun (next : Rat) =>
      probeRats.all fun len => probeRats.all fun thr =>
      let p : Probe := { vals := [(".Length()", len), ("p4", thr), ("p3", prev), ("p2", cur), ("x", next)],
                         atoms := [("Tip()", tip)] }
      let cross := cur != 0 && next != prev && decide (len < thr)
      (condsOf "recur.addTip").map (·.eval p) == [some (cur != 0 && tip)] &&
      (condsOf "recur.cross").map (·.eval p) == [some cross] &&
      (condsOf "recur.mark").map (·.eval p) == [some cross]) = true := by
  decide +kernel

open Sites in
/-- `AvgDistanceMatrix`, EVALUATED: a later tree (no error record, not the first) is refused iff its number of tips
    differs or, the numbers being equal, a name differs at some position; it is added iff the numbers are equal
    (after the names were compared) — `Go.avgStepG false` -/
theorem sitesSem_avg :
    ([0, 1].all fun (terr : Rat) => [0, 1].all fun (mat : Rat) => [2, 3].all fun (n1 : Rat) => [2, 3].all fun (n2 : Rat) =>
      [7, 8].all fun (nm1 : Rat) => [7, 8].all fun (nm2 : Rat) =>
      let p : Probe := { vals := [("len(p3)", n1), ("len(", n2), ("[", nm2), (".Name()", nm1), (".Err", terr), ("p2", mat)] }
      let later := terr == 0 && mat != 0
      (condsOf "avg.reject").map (·.eval p) == [some (later && n2 != n1), some (later && n2 == n1 && nm1 != nm2)] &&
      (condsOf "avg.add").map (·.eval p) == [some (later && n2 == n1)]) = true := by
  decide +kernel

open Sites in
/-- `TipBag.AddTip`, EVALUATED: nil is refused, a node that is not a tip is refused, a new name is stored, a name
    already there is refused iff it belongs to another node — `Go.addTip` -/
theorem sitesSem_addTip :
    ([0, 5].all fun (node : Rat) => probeBools.all fun tip => probeBools.all fun ok => [5, 6].all fun (other : Rat) =>
      let p : Probe := { vals := [("p1", node), ("x", other)], atoms := [("Tip()", tip), ("x", ok)] }
      (condsOf "addTip.store").map (·.eval p) == [some (node != 0 && tip && !ok)] &&
      (condsOf "addTip.reject").map (·.eval p) ==
        [some (node == 0), some (node != 0 && !tip), some (node != 0 && tip && ok && other != node)]) = true := by
  decide +kernel

end Gotree.C14

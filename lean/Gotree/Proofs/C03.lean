/-
  C03 — property theorems about the model functions the driver runs
  (`Gotree.C03.nodes / tips / edges / internalEdges / tipEdges`, the transliterations of
  `nodesRecur / tipsRecur / edgesRecur / internalEdgesRecur / tipEdgesRecur` of tree/tree.go)
  and about the Spec's plain walk (`allPaths`, `subtreeAt`, `isTipAt`) the oracle uses.
  All statements quantify over every tree value `t : T` (any size, any degrees, rooted or
  not, single-child nodes and degenerate roots included).
-/
import Gotree.Lemmas.C03
import Gotree.Lemmas.C03Ops
import Gotree.Lemmas.C03More
import Gotree.Lemmas.C03Text
import Gotree.Model.C01

namespace Gotree.C03
open Gotree

/-! ### the enumerations list exactly what the plain walk meets -/

/-- `Nodes()` lists the nodes of the plain walk, in pre-order -/
theorem nodes_paths (t : T) : (nodes t).map (·.path) = allPaths t :=
  nodesRecur_paths t []

/-- `Edges()` lists one branch per non-root node (the branch above it), in the same order -/
theorem edges_paths (t : T) : (edges t).map (·.path) = (allPaths t).tail := by
  cases t with
  | node d pp k => simp [edges, allPaths, allPathsFrom, edgesLoop_paths k [] 0]

/-- ★ branches = nodes − 1 -/
theorem edges_nodes (t : T) : (edges t).length + 1 = (nodes t).length := by
  have h1 := congrArg List.length (edges_paths t)
  have h2 := congrArg List.length (nodes_paths t)
  simp only [List.length_map, List.length_tail] at h1 h2
  cases t with
  | node d pp k =>
    have : (allPaths (.node d pp k)).length ≥ 1 := by simp [allPaths, allPathsFrom]
    omega

/-- no node is listed twice by `Nodes()`, no branch twice by `Edges()` -/
theorem nodes_nodup (t : T) : ((nodes t).map (·.path)).Nodup ∧ ((edges t).map (·.path)).Nodup := by
  rw [nodes_paths, edges_paths]
  have h : (allPaths t).Nodup := allPathsFrom_nodup t []
  exact ⟨h, h.sublist (List.tail_sublist _)⟩

/-- each listed node is the node of the tree at its path, with its data -/
theorem nodes_valid (t : T) : ∀ r ∈ nodes t, ∃ s, subtreeAt t r.path = some s ∧ s.d = r.d :=
  nodesRecur_valid t t [] rfl

/-- ★ each listed branch is a (parent, child) link of the tree VALUE: it sits in the kids of the node at
    the parent path, carries that link's data, and its lower end is the child's subtree.  This is
    validity of the listed paths; it says nothing about `Left()/Right()` of the heap: the
    transliteration assumes that a branch with `left == n` leads to a kid (Model/C03.lean, header).
    Orientation of the real heap is judged per step by `graphProblems` on the raw pointer graph. -/
theorem edges_oriented (t : T) : ∀ r ∈ edges t, Oriented t r := by
  cases t with
  | node d pp k => exact edgesLoop_oriented (.node d pp k) k [] d pp [] rfl

/-! ### tips, internal and external branches -/

/-- ★ `Tips()` = the listed nodes having exactly one neighbour (a non-root node without child,
    or a root with exactly one child), in the same order -/
theorem tips_are_leaves (t : T) : tips t = (nodes t).filter (fun r => isTipAt t r.path) :=
  tipsRecur_filter t t [] rfl

/-- `TipEdges()` = the listed branches whose lower end is a tip -/
theorem tipEdges_are_tip_branches (t : T) :
    tipEdges t = (edges t).filter (fun r => isTipAt t r.path) := by
  cases t with
  | node d pp k => exact tipEdgesLoop_filter (.node d pp k) k [] d pp [] rfl

/-- `InternalEdges()` = the listed branches whose lower end is not a tip -/
theorem internalEdges_are_inner_branches (t : T) :
    internalEdges t = (edges t).filter (fun r => !isTipAt t r.path) := by
  cases t with
  | node d pp k => exact internalLoop_filter (.node d pp k) k [] d pp [] rfl

/-- ★ all branches = internal + external ones (as multisets of branch identities) -/
theorem edges_partition (t : T) : (edges t).Perm (internalEdges t ++ tipEdges t) := by
  rw [internalEdges_are_inner_branches, tipEdges_are_tip_branches]
  have h := List.filter_append_perm (fun r : EdgeRef => !isTipAt t r.path) (edges t)
  simpa using h.symm

/-- the counts of the statement -/
theorem edges_count (t : T) : (edges t).length = (internalEdges t).length + (tipEdges t).length := by
  simpa using (edges_partition t).length_eq

/-! ### the oracle the driver evaluates holds of the model's own enumerations -/

/-- a listed branch as the public API shows it when the heap is the tree: `Left()` is the parent -/
def obsOfEdge (r : EdgeRef) : ObsEdge := ⟨some r.path, some r.path.dropLast, some r.path⟩

/-- The Spec predicate `enumProblems` (what the driver evaluates on the implementation's five
    enumerations after every step) finds nothing wrong with the model's enumerations, for every tree:
    the oracle asks nothing the transliterated code does not deliver. -/
theorem enum_oracle_holds (t : T) :
    enumProblems t ((nodes t).map (fun r => some r.path)) ((tips t).map (fun r => some r.path))
      ((edges t).map obsOfEdge) ((internalEdges t).map obsOfEdge) ((tipEdges t).map obsOfEdge) = [] := by
  have hid : ∀ l : List EdgeRef, (l.map obsOfEdge).filterMap (·.id) = l.map (·.path) := fun l => by
    induction l <;> simp_all [obsOfEdge]
  have hn : ((nodes t).map (fun r => some r.path)).filterMap id = allPaths t := by
    rw [← nodes_paths]; simp [List.filterMap_map]
  have ht : ((tips t).map (fun r => some r.path)).filterMap id = (allPaths t).filter (isTipAt t) := by
    rw [tips_are_leaves, ← nodes_paths]; simp [List.filterMap_map, List.filter_map, Function.comp_def]
  have hx : (tipEdges t).map (·.path) = (allPaths t).tail.filter (isTipAt t) := by
    rw [tipEdges_are_tip_branches, ← edges_paths]; simp [List.filter_map, Function.comp_def]
  have hr : ∀ l : List Path, sameBag l l = true := fun l => sameBag_of_perm (.refl l)
  have c5 : (((edges t).map obsOfEdge).length + 1 == ((nodes t).map (fun r => some r.path)).length) = true := by
    simpa using edges_nodes t
  have c6 : sameBag (allPaths t).tail
      ((internalEdges t).map (·.path) ++ (allPaths t).tail.filter (isTipAt t)) = true := by
    rw [← hx, ← edges_paths, ← List.map_append]; exact sameBag_of_perm ((edges_partition t).map _)
  -- the nine tests of `enumProblems`, each rewritten to one of the facts above
  simp [enumProblems, hid, hn, ht, hx, hr, c5, c6, edges_paths, obsOfEdge, -List.length_map]

/-! ### the transliterations equal Core's spec-level definitions -/

theorem nodes_eq_core (t : T) : (nodes t).map (·.d.name) = t.nodeNames := nodesRecur_names t []

theorem tips_eq_core (t : T) : (tips t).map (·.d.name) = t.tipNames := by
  cases t with
  | node d pp k =>
    simp [tips, tipsRecur, T.tipNames, T.name, tipsLoop_names k [] 0]
    split <;> simp_all

theorem edges_eq_core (t : T) : (edges t).map (·.e) = t.edges := by
  cases t with
  | node d pp k => simp [edges, T.edges, T.splits, edgesLoop_data k [] 0]

theorem tipEdges_eq_core (t : T) : (tipEdges t).map (·.e) = t.tipEdges := by
  cases t with
  | node d pp k => simp [tipEdges, T.tipEdges, T.splits, tipEdgesLoop_data k [] 0]

theorem internalEdges_eq_core (t : T) : (internalEdges t).map (·.e) = t.internalEdges := by
  cases t with
  | node d pp k => simp [internalEdges, T.internalEdges, T.splits, internalLoop_data k [] 0]

/-! ### the repaired defect F8, on a variant of the model -/

/-- with the pre-eb1b1d0 recursion (`internalEdgesRecur` continuing through `edgesRecur`)
    `InternalEdges` lists tip branches too and the partition fails (18-node witness: 15 ≠ 7) -/
theorem internalEdges_pinned_fails :
    ¬ (edges witness18).Perm (internalEdgesPinned witness18 ++ tipEdges witness18) := by
  intro h
  have := h.length_eq
  revert this
  decide

/-! ### the repaired defect F39 (331c4ae), with the pinned writer variant kept by C01 -/

/-- what `UnRoot` leaves of a rooted two-tip tree: a root that is a tip -/
def witnessRootTip : T := T.node ⟨"t0", []⟩ 0 [(EdgeD.blank, T.leaf "t1")]

/-- before 331c4ae the writer printed no parentheses for a root with a single neighbour
    (`t1t0;`): the text, re-read, is not the tree; the repaired writer's text (`(t1)t0;`) is -/
theorem rootTipNewick_pinned_fails :
    textProblems witnessRootTip (String.ofList (Gotree.Newick.writePinned Gotree.Newick.goCodec witnessRootTip)) ≠ [] ∧
    textProblems witnessRootTip (Gotree.Newick.writeStr Gotree.Newick.goCodec witnessRootTip) = [] := by
  decide +kernel

/-! ### the pointer-graph oracle (`graphProblems`, `graphIsTree`) on concrete graphs

  No general theorem links `graphProblems` to `T` (it is an oracle evaluated on the real heap after
  every step); these examples only show that it accepts the graph of a tree, reads it as that tree,
  and names the defect of graphs that are not trees oriented away from node 0. -/

/-- `((a,b),c);` : node 0 the root, 1 the inner node, 2 3 4 the tips; branches 0:0–1, 1:1–2, 2:1–3, 3:0–4 -/
def exGraph : Graph :=
  [some [⟨1, 0, 0, 1⟩, ⟨4, 3, 0, 4⟩], some [⟨0, 0, 0, 1⟩, ⟨2, 1, 1, 2⟩, ⟨3, 2, 1, 3⟩],
   some [⟨1, 1, 1, 2⟩], some [⟨1, 2, 1, 3⟩], some [⟨0, 3, 0, 4⟩]]

def exGraphTree : T := T.node ⟨"", []⟩ 0 [inn [lf "a", lf "b"], lf "c"]

example : graphProblems exGraph = [] ∧ graphIsTree exGraph exGraphTree = true := by decide

/-- branch 1 turned towards the root (what a missing `ReorderEdges` leaves) -/
example : graphProblems (exGraph.set 2 (some [⟨1, 1, 2, 1⟩]) |>.set 1 (some [⟨0, 0, 0, 1⟩, ⟨2, 1, 2, 1⟩, ⟨3, 2, 1, 3⟩])) =
    ["a branch does not point away from the root"] := by decide

/-- node 2 forgot its neighbour (one `delNeighbor` too many): asymmetric adjacency -/
example : "adjacency is not symmetric (no back-pointer with the same branch)" ∈
    graphProblems (exGraph.set 2 (some [])) := by decide

/-! ### the Newick text describes the tree -/

/-- ★ `write_describes`: for every tree whose names, comments and numbers can be told apart in a
    Newick text (`textWF`: no metacharacter in a name, no `]` in a comment, branch comments only
    after a length, numbers printed without metacharacter or `/` and denoting their value), the
    text that the writer model of C01 (transliteration of `Node.Newick` / `Tree.Newick`; the driver
    ties it byte for byte to the implementation's text on every step) writes, re-read by the
    reference reader of the oracle, is that tree: same shape and child order, names or supports,
    comments, lengths.  Any codec `C` (number printing) that satisfies `textWF` is allowed. -/
theorem write_describes (C : Gotree.Newick.Codec) (t : T) (h : textWF C t = true) :
    textProblems t (Gotree.Newick.writeStr C t) = [] :=
  textProblems_write C t h

/-- the region `write_describes` excludes is not empty (open finding F85, class
    NewickUnquotedMetacharName): the writer prints a name containing a metacharacter unquoted, and
    the text `(x,y:1,b:1);` of the 2-tip tree below, re-read, has three tips -/
def witnessMetaName : T :=
  T.node ⟨"", []⟩ 0 [(⟨1, NIL, NIL, [], 0⟩, T.leaf "x,y"), (⟨1, NIL, NIL, [], 1⟩, T.leaf "b")]

theorem unquoted_metachar_name_fails :
    textWF Gotree.Newick.goCodec witnessMetaName = false ∧ hasMetaName witnessMetaName = true ∧
    textProblems witnessMetaName (Gotree.Newick.writeStr Gotree.Newick.goCodec witnessMetaName) ≠ [] := by
  decide +kernel

/-! ### CollapseClade (model `collapseClade` over `lcaT` = LeastCommonAncestorRecur, tied exactly) -/

/-- a successful `CollapseClade` replaces exactly ONE node, which is not the root, by a tip carrying the
    given name (on the same branch, at the same position among its parent's children) and touches nothing
    else; which node: the one `lcaT` (LeastCommonAncestorRecur) finds for the given names that exist -/
theorem collapseClade_ok (strict : Bool) (name : String) (tips : List String) (t t' : T)
    (h : collapseClade strict name tips t = .ok t') :
    ∃ p r, p ≠ [] ∧ lcaT ((tips.filter fun x => x != "" && t.nodeNames.contains x).eraseDups) false [] t = .ok r ∧
      r.found = some p ∧ (strict = true → r.diff = 0) ∧ t' = modAt (fun _ _ => T.leaf name) true p t := by
  unfold collapseClade at h
  split at h
  · cases h
  · simp only at h
    split at h
    · cases h
    · split at h
      · cases h
      · rename_i r hr
        split at h
        · cases h
        · rename_i p hp
          split at h
          · cases h
          · split at h
            · cases h
            · rename_i h1 h2
              simp only [Gotree.C05.Res.ok.injEq] at h
              refine ⟨p, r, ?_, hr, hp, ?_, h.symm⟩
              · intro hpe; subst hpe; simp at h2
              · intro hs; subst hs
                simpa using h1

/-! ### Annotate (model `annotate`: the index built once, `lcaT` on the current names; tied exactly) -/

/-- `Annotate(lines, comment = true)`: a successful call leaves the tip names (as a multiset) and the absence
    of single-child nodes as they were — it only appends comments, at the nodes found by name or by `lcaT`.
    (In renaming mode tips may be renamed and the tip index is left stale; the driver then compares the
    model's tree exactly and treats the index as out of date, `indexInSync`.) -/
theorem annotate_comment_inv (lines : List (List String)) (t t' : T) (h : annotate true lines t = .ok t') :
    t'.tipNames.Perm t.tipNames ∧ t'.noSingle = t.noSingle := by
  unfold annotate at h
  split at h
  · cases h
  · have hs := annotateLoop_comment_inv t lines t t' h
    exact ⟨hs.keeps.tips, hs.ns⟩

/-! ### AddBipartition (model `addBipAt`, tied exactly on every generated case) -/

/-- the refusal clause of `AddBipartition`: fewer than two branches, or all but at most one of the
    node's branches ("the bipartition already exists") -/
theorem addBip_refuses (isRoot : Bool) (S : List Nat) (len sup : Rat) (t : T)
    (h : S.length ≤ 1 ∨ t.kids.length + (if isRoot then 0 else 1) ≤ S.length + 1) :
    (match addBipNode isRoot S len sup t with | .err => true | _ => false) = true := by
  obtain ⟨d, p, k⟩ := t
  obtain ⟨ng, e, hk, hc⟩ := neigh_spec isRoot k p
  have hng := filterMap_id_length ng
  rw [hk] at hng
  simp only [T.kids_node] at h
  simp only [addBipNode, e]
  rw [if_pos]
  simp only [Bool.or_eq_true, decide_eq_true_eq]
  cases isRoot
  · simp only [Bool.false_eq_true, if_false] at h; omega
  · have := hc.2 rfl
    simp only [if_true] at h; omega

/-- ★ what `AddBipartition` computes at its node: the children are split into those that stay (`A`) and
    those grouped below the new node (`B`, re-attached by fresh branches that keep length, support and
    p-value, each with its parent as last neighbour); either the new node hangs below n as its last child
    (`inner`), or — the parent's branch being among the selected ones — n hangs below the new node as ITS last
    child (`outer`).  Nothing is lost and nothing is duplicated: `A ++ B` is a permutation of the children. -/
theorem addBip_node_spec (isRoot : Bool) (S : List Nat) (len sup : Rat) (d : NodeD) (p : Nat) (k : Kids)
    (hnd : S.Nodup) :
    match addBipNode isRoot S len sup (.node d p k) with
    | .err => True
    | .inner n' => ∃ (A B : Kids) (pp m : Nat), (A ++ B).Perm k ∧
        n' = .node d pp (A ++ [(⟨len, sup, NIL, [], -1⟩,
          .node ⟨"", []⟩ m (B.map fun ec => (freshE ec.1, reparent ec.2)))])
    | .outer n2 => ∃ (A B : Kids) (pp : Nat), (A ++ B).Perm k ∧
        n2 = .node ⟨"", []⟩ pp ((B.map fun ec => (freshE ec.1, reparent ec.2)) ++
          [(⟨len, sup, NIL, [], -1⟩, .node d A.length A)]) := by
  have h := addBipNode_sized isRoot S len sup d p k hnd
  revert h
  cases addBipNode isRoot S len sup (.node d p k) with
  | err => exact id
  | inner n' => exact fun ⟨A, B, pp, m, hp, _, _, _, e⟩ => ⟨A, B, pp, m, hp, e⟩
  | outer n2 => exact fun ⟨A, B, pp, hp, _, _, e⟩ => ⟨A, B, pp, hp, e⟩

/-- ★ `AddBipartition` keeps the tips: for distinct slots, a successful call at any node of any tree leaves
    the tip names as they were (as a multiset) -/
theorem addBip_tips (S : List Nat) (len sup : Rat) (p : List Nat) (t t' : T) (hnd : S.Nodup)
    (h : addBipAt S len sup p t = some t') : t'.tipNames.Perm t.tipNames :=
  (addBipAt_keeps hnd h).tips

/-- `AddBipartition` creates no single-child node (distinct slots) -/
theorem addBip_noSingle (S : List Nat) (len sup : Rat) (p : List Nat) (t t' : T) (hnd : S.Nodup)
    (h : addBipAt S len sup p t = some t') (hk : t.noSingle = true) : t'.noSingle = true :=
  (addBipAt_keeps hnd h).ns hk

/-- a node `x` with four children below the root: the two branches of `b c` grouped below `x`; the parent's
    branch and `d` grouped (the new node takes x's place as the LAST child of the root, x hangs below it);
    the same with the slots in the other order (order of the new node's children = order of the slots) -/
def bipEx : T := T.node ⟨"r", []⟩ 0 [(EdgeD.blank, T.leaf "a"),
  (⟨2, 1/2, NIL, ["c"], 7⟩, T.node ⟨"x", []⟩ 0 [(EdgeD.blank, T.leaf "b"), (EdgeD.blank, T.leaf "c"), (EdgeD.blank, T.leaf "d"), (EdgeD.blank, T.leaf "e")]),
  (EdgeD.blank, T.leaf "f")]

example : ((addBipAt [1, 2] 1 (3/4) [1] bipEx).map (·.tipNames)) = some ["a", "d", "e", "b", "c", "f"] := by decide +kernel
example : ((addBipAt [0, 3] 1 (3/4) [1] bipEx).map (·.tipNames)) = some ["a", "f", "d", "b", "c", "e"] := by decide +kernel
example : ((addBipAt [3, 0] 1 (3/4) [1] bipEx).map (·.nodeNames)) = some ["r", "a", "f", "", "d", "x", "b", "c", "e"] := by decide +kernel

/-! ### histories: the invariant is closed under every composed operation model -/

/-- the driver evaluates the invariant as the Boolean `InvB` -/
theorem InvB_iff (ns : Bool) (t : T) : InvB ns t = true ↔ Inv ns t := by
  cases ns <;> simp [InvB, Inv, uniqueTipsB]

/-- closure, one operation: from a tree satisfying the invariant (and the operation's
    precondition: only pruning has one), a SUCCESSFUL edit yields a tree satisfying it, with the
    promise updated by `promised` (dropped exactly by re-rooting a rooted tree at another node;
    restored by RemoveSingleNodes) -/
theorem op_ok (ns : Bool) (op : EditOp) (t t' : T) (h : Inv ns t) (hp : opPre ns op t = true)
    (ho : applyOp op t = .ok t') : Inv (promised ns op t) t' := by
  cases op with
  | reroot p => exact reroot_inv ho h
  | rerootFirst =>
    simp only [applyOp] at ho
    split at ho
    · cases ho
    · exact reroot_inv ho h
  -- the edits that permute the tips
  | unroot => cases ho; exact Keeps.inv ⟨unroot_tips t, unroot_noSingle t⟩ h
  | sortTips => cases ho; exact Keeps.inv ⟨sortT_tips t, (sortT_noSingle t).trans⟩ h
  | rotate ds => cases ho; exact Keeps.inv ⟨rotate_tips t ds, (rotate_noSingle t ds).trans⟩ h
  | rotateOne p ds => cases ho; exact Keeps.inv ⟨rotateOne_tips p ds t, (rotateOne_noSingle p ds t).trans⟩ h
  | clone => cases ho; exact (Keeps.of_eq ⟨Gotree.C15.zeroPpos_tipNames t, zeroPpos_noSingle t⟩).inv h
  | removeSingle =>
    cases ho
    exact ⟨(Gotree.C15.removeSingle_tips' t).nodup_iff.mpr h.1, fun _ => Gotree.C15.removeSingle_noSingle' t⟩
  | removeEdges rr rt ids | collapseLen l rr rt | collapseSup x rr =>
    cases ho
    exact Keeps.inv ⟨Gotree.C07.removeEdges_tipNames _ _ _ t, removeEdges_noSingle _ _ _ t⟩ h
  | collapseDepth mn mx rr rt =>
    simp only [applyOp, Gotree.C07.collapseDepth, Gotree.C07.depth_never_errs t, Bool.false_eq_true, if_false] at ho
    cases ho
    exact Keeps.inv ⟨Gotree.C07.removeEdges_tipNames _ _ _ t, removeEdges_noSingle _ _ _ t⟩ h
  -- the data edits are one `mapData` each; `by intro; rfl` (the node function keeps the name) is
  -- elaborated after the function has been read off the goal
  | clearLengths | clearSupports | clearComments | scaleLengths | roundLengths0 | addLength | clearPvalues
  | clearNodeComments | clearEdgeComments | clearTermEdgeComments | scaleSupports | roundSupports0 =>
    cases ho; exact (Keeps.of_eq (mapData_inv _ _ (by intro; rfl) t)).inv h
  | annotate comment lines =>
    cases (show comment = true from hp)
    obtain ⟨h1, h2⟩ := annotate_comment_inv lines t t' ho
    exact Keeps.inv ⟨h1, h2.trans⟩ h
  -- the renamings: whatever the new names, the tip-index rebuild at the end refuses duplicates
  | relabel names => exact tipIndex_inv (setNames_noSingle names t) ho h
  | rename m =>
    simp only [applyOp, renameMap] at ho
    split at ho
    · cases ho
    · exact tipIndex_inv (mapNames_noSingle _ t) ho h
  | renameAuto internals tips length =>
    simp only [applyOp, renameAuto] at ho
    split at ho
    · cases ho
    · exact tipIndex_inv (setNames_noSingle _ t) ho h
  | shuffle draws =>
    simp only [applyOp, shuffle] at ho
    split at ho
    · cases ho
    · split at ho
      · cases ho
      · exact tipIndex_inv (setNames_noSingle _ t) ho h
  | quotes add internals tips =>
    simp only [applyOp, quotes] at ho
    split at ho
    · cases ho
    · exact tipIndex_inv (mapSel_noSingle _ _ t) ho h
  | reinit =>
    simp only [applyOp, reinit] at ho
    split at ho
    · cases ho
    · split at ho
      · cases ho
      · cases ho; exact h
  -- the edits that change the set of tips, each under its precondition
  | subTree p =>
    simp only [applyOp] at ho
    split at ho
    · rename_i n hn
      cases ho
      simp only [opPre, hn, bne_iff_ne, ne_eq] at hp
      exact subTree_inv hn hp h
    · cases ho
  | prune rev names =>
    simp only [opPre, Bool.and_eq_true, bne_iff_ne, ne_eq, decide_eq_true_eq] at hp
    have hwf := (Gotree.C06.wf_iff t).2 ⟨h.1, h.2 hp.1.1, hp.1.2⟩
    obtain ⟨t₂, he, _, _, _, hwf₂, _⟩ := Gotree.C06.removeTips_induced t names rev hwf hp.2
    simp only [applyOp, he] at ho
    cases ho
    exact ⟨((Gotree.C06.wf_iff _).1 hwf₂).1, fun _ => ((Gotree.C06.wf_iff _).1 hwf₂).2.1⟩
  | merge t2 =>
    simp only [opPre, Bool.and_eq_true, decide_eq_true_eq, Bool.or_eq_true, Bool.not_eq_true'] at hp
    simp only [applyOp] at ho
    split at ho
    · rename_i t₂ hm
      cases ho
      exact ⟨merge_nodup_c03 hm h.1 hp.1, fun hn =>
        merge_noSingle hm (h.2 hn) (hp.2.resolve_left (by simp [show ns = true from hn]))⟩
    · cases ho
  | resolve ds =>
    simp only [opPre, Bool.or_eq_true, Bool.not_eq_true', decide_eq_true_eq] at hp
    simp only [applyOp] at ho
    split at ho
    · rename_i t₂ hr
      cases ho
      exact ⟨(Gotree.C07.resolve_tipNames t _ ds hr).nodup_iff.mpr h.1, fun hn => binary_noSingle _
        ((Gotree.C07.resolve_refines (fun _ => ()) (fun _ _ _ => rfl) t _ ds hr).2.2.2.2 (h.2 hn)
          (hp.resolve_left (by simp [show ns = true from hn])))⟩
    · cases ho
  | insertIdentical groups =>
    simp only [opPre, List.all_eq_true, Bool.not_eq_true', List.contains_eq_mem, decide_eq_false_iff_not] at hp
    simp only [applyOp] at ho
    split at ho
    · rename_i t₂ hi
      cases ho
      exact ⟨insertIdentical_nodup_c03 hi h.1 hp, fun hn => insertIdentical_ns hi (h.2 hn)⟩
    · cases ho
  | outgroup remove strict S =>
    refine ⟨?_, fun hn => outgroup_noSingle ho (h.2 hn)⟩
    cases remove with
    | true => exact outgroup_remove_nodup ho h.1
    | false =>
      simp only [opPre, Bool.false_or, Bool.and_eq_true] at hp
      exact (Gotree.C05.P.outgroup_preserves t t' strict S ((Gotree.C05.uniq_iff t).2 h.1) hp.1 hp.2 ho).1.nodup_iff.mpr h.1
  | midpoint =>
    simp only [opPre, Bool.and_eq_true] at hp
    exact Keeps.inv ⟨(Gotree.C05.P.midpoint_preserves t t' ((Gotree.C05.uniq_iff t).2 h.1) hp.1 hp.2 ho).2.1,
      midpoint_noSingle ho⟩ h
  | collapseClade strict name tips =>
    simp only [opPre, Bool.not_eq_true', List.contains_eq_mem, decide_eq_false_iff_not] at hp
    obtain ⟨p, r, hpne, _, _, _, rfl⟩ := collapseClade_ok strict name tips t t' ho
    cases p with
    | nil => exact absurd rfl hpne
    | cons i q => exact ⟨(replaceAt_inv name i q t h.1 hp).1, fun hn => (replaceAt_inv name i q t h.1 hp).2 (h.2 hn)⟩
  | addBip p S l sp =>
    simp only [applyOp] at ho
    split at ho
    · rename_i t₂ hb
      cases ho
      exact (addBipAt_keeps (of_decide_eq_true hp) hb).inv h
    · cases ho
  | graftTree tip g =>
    simp only [opPre, Bool.and_eq_true, decide_eq_true_eq, List.all_eq_true, Bool.not_eq_true',
      Bool.or_eq_true, bne_iff_ne, ne_eq, List.contains_eq_mem, decide_eq_false_iff_not] at hp
    simp only [applyOp] at ho
    split at ho
    · rename_i t₂ hgr
      cases ho
      exact graft_inv hgr hp.1.1 hp.1.2 (fun hn => hp.2.resolve_left (by simp [show ns = true from hn])) h
    · cases ho
  | graftEdge name k =>
    simp only [opPre, Bool.not_eq_true', List.contains_eq_mem, decide_eq_false_iff_not] at hp
    simp only [applyOp] at ho
    split at ho
    · rename_i hk
      cases ho
      exact ⟨(Gotree.C16.tipNames_applyAt _ name (graftF_leaves name) t k hk).nodup_iff.mpr
        (List.nodup_cons.mpr ⟨hp, h.1⟩), fun hn => graftEdge_noSingle name k t (h.2 hn)⟩
    · cases ho
  | nni k undo =>
    simp only [applyOp] at ho
    split at ho
    · cases ho; exact h
    · split at ho
      · cases ho
      · rename_i r hr
        have hmem : r ∈ Gotree.C17.rearrangements t := List.mem_of_getElem? hr
        split at ho
        · cases ho
        · rename_i t1 ha
          cases undo with
          | true =>
            obtain ⟨t₁, ha', hu'⟩ := Gotree.C17.undo_apply t r hp hmem
            cases ha.symm.trans ha'
            simp only [if_true, hu'] at ho
            cases ho; exact h
          | false =>
            cases ho
            exact ⟨(Gotree.C17.apply_wf t _ r hp hmem ha).2.2.2 h.1,
              fun hn => Gotree.C17.apply_noSingle_tree t _ r hp hmem ha (h.2 hn)⟩

/-- Orientation is not lost by treating trees as values: in C05's model with explicit orientation
    flags (`OT`: every branch says whether its `left` is the end nearer the root), `t.root = n`
    followed by `ReorderEdges(n, nil, nil)` — on a correctly oriented heap — yields exactly the
    correctly oriented heap of the tree value the history continues with, every branch pointing
    away from the new root (re-export of C05's `reroot_oriented` for the `reroot` step of `applyOp`). -/
theorem reroot_step_oriented (t t' : T) (p : List Nat) (h : applyOp (.reroot p) t = .ok t') :
    (Gotree.C05.rerootO t p).1 = Gotree.C05.orient t' ∧ (∀ f ∈ (Gotree.C05.rerootO t p).1.flags, f = true) ∧
      (Gotree.C05.rerootO t p).1.wrong = [] := by
  have ht := Gotree.C03.reroot_ok (by simpa [applyOp] using h)
  subst ht
  obtain ⟨h1, _, h3, h4⟩ := Gotree.C05.P.reroot_oriented t p
  exact ⟨h1, h3, h4⟩

/-- ★ every finite history of successful edits, from any tree with unique tip names (single-child
    nodes allowed unless `ns₀` promises their absence), ends in a tree that satisfies the invariant.
    WHAT THIS IS: the side conditions of the property's quantifier (unique tip names; no single-child
    inner node, which pruning needs) are re-established by every composed operation model, so the
    per-tree theorems of this file apply at every step.  It states none of the heap clauses
    (connected, acyclic, symmetric, oriented): those cannot fail for a value of `T` and are judged on
    the real heap by the oracle.  The second conjunct (`edges_nodes`) holds of every tree,
    independently of the history; it is kept because DESIGN Appendix B fixed this statement.  `preAll` is the property's quantifier
    (pruning only on trees free of single-child inner nodes, keeping at least three tips). -/
theorem history_inv (t₀ : T) (ops : List EditOp) (ns₀ : Bool) (h₀ : Inv ns₀ t₀)
    (hp : preAll ns₀ t₀ ops = true) :
    ∀ t, runOps t₀ ops = .ok t →
      Inv (promisedAfter ns₀ t₀ ops) t ∧ (edges t).length + 1 = (nodes t).length := by
  induction ops generalizing t₀ ns₀ with
  | nil =>
    intro t h
    simp only [runOps, Gotree.C05.Res.ok.injEq] at h
    subst h
    exact ⟨h₀, edges_nodes _⟩
  | cons op r ih =>
    intro t h
    simp only [runOps] at h
    simp only [preAll, Bool.and_eq_true] at hp
    cases ho : applyOp op t₀ with
    | ok t₁ =>
      simp only [ho] at h hp
      simp only [promisedAfter, ho]
      exact ih t₁ (promised ns₀ op t₀) (op_ok ns₀ op t₀ t₁ h₀ hp.1 ho) hp.2 t h
    | err m => simp [ho] at h
    | panic m => simp [ho] at h

/-! ### the statements are not vacuous -/

def eL (l : Rat) (id : Int) : EdgeD := ⟨l, NIL, NIL, [], id⟩

/-- a rooted multifurcating tree with unique tips, no single-child node, one zero-length inner branch -/
def exHist : T :=
  T.node ⟨"", []⟩ 0
    [(eL 1 0, T.node ⟨"", []⟩ 0 [(eL 1 1, T.leaf "a"), (eL 2 2, T.leaf "b"), (eL 1 3, T.leaf "c")]),
     (eL 2 4, T.node ⟨"", []⟩ 0
        [(eL 0 5, T.node ⟨"", []⟩ 0 [(eL 1 6, T.leaf "d"), (eL 1 7, T.leaf "e")]),
         (eL 3 8, T.leaf "f"),
         (eL 1 9, T.node ⟨"", []⟩ 0 [(eL 2 10, T.leaf "g"), (eL 1 11, T.leaf "h")])])]

def exOps : List EditOp :=
  [.unroot, .collapseLen 0 false false, .rerootFirst, .sortTips, .prune false ["a", "zz"], .reroot [2],
   .rotate [0, 0, 1, 0, 1, 2, 0, 1], .removeEdges true false [9], .clone, .removeSingle, .resolve [0, 1, 0, 2, 4, 1], .nni 1 false, .nni 0 true]

/-- a second rooted tree with other tip names, for `Merge` -/
def exSecond : T :=
  T.node ⟨"", []⟩ 0 [(eL 1 0, T.leaf "x"), (eL 1 1, T.node ⟨"", []⟩ 0 [(eL 1 2, T.leaf "y"), (eL 1 3, T.leaf "z")])]

/-- the hypotheses of `write_describes` hold of the example tree with Go's number printing -/
example : textWF Gotree.Newick.goCodec exHist = true := by decide +kernel

/-- every precondition (`opPre`) is satisfiable, with the promise on, and the operation succeeds -/
example :
    (∀ op ∈ ([.outgroup false true ["g", "h"], .outgroup true false ["d", "e"], .midpoint,
              .graftTree "a" exSecond, .graftEdge "new" 3, .insertIdentical [["b", "b2", "b3"]],
              .collapseDepth 1 2 false false, .collapseSup (1/2) false, .subTree [1], .rename [("a", "A")],
              .shuffle [0, 1, 0, 3, 2, 1, 0, 4], .quotes true false true, .renameAuto true true 4, .relabel ["r"],
              .reinit, .clone, .removeSingle, .clearLengths true false, .clearSupports, .clearComments,
              .scaleLengths (3/4) true true, .roundLengths0 true true, .rotateOne [1] [0, 0, 1, 2], .rotateOne [] [0, 0],
              .addLength (1/2) true false, .clearPvalues, .clearNodeComments, .clearEdgeComments, .clearTermEdgeComments,
              .scaleSupports (1/2), .roundSupports0, .collapseClade true "cc" ["d", "e"], .annotate true [["k", "a"], ["l", "g", "h"]],
              .addBip [1] [1, 3] 1 (1/2), .addBip [1] [0, 2] 1 (1/2)] : List EditOp),
      opPre true op exHist = true ∧ (match applyOp op exHist with | .ok t => InvB (promised true op exHist) t | _ => false) = true) := by
  decide +kernel

example : preAll true exHist [.merge exSecond, .unroot] = true ∧
    (match runOps exHist [.merge exSecond, .unroot] with | .ok t => InvB true t && t.tipNames.length == 11 | _ => false) = true := by
  decide +kernel

example : InvB true exHist = true ∧ preAll true exHist exOps = true ∧
    (match runOps exHist exOps with | .ok t => InvB (promisedAfter true exHist exOps) t | _ => false) = true := by
  decide +kernel


example : (nodes witness18).length = 18 ∧ (edges witness18).length = 17 ∧
    (internalEdges witness18).length = 7 ∧ (tipEdges witness18).length = 10 ∧ (tips witness18).length = 10 := by
  decide

end Gotree.C03

/-
  C11 — property theorems about the worker-pool transition system of Model/C11.lean
  (the functions `stepFn`, `exec`, `drain`, `runToEnd` are the ones the driver executes).
-/
import Gotree.Lemmas.C11Pools
import Gotree.Lemmas.C11Order
import Gotree.Lemmas.C11Collect
import Gotree.Lemmas.C11HashMapSpec
import Gotree.Lemmas.C11Ascii

namespace Gotree.C11

variable {α β : Type}

/-- ★ No infinite run: the interleaving relation is well-founded — under EVERY schedule, for every
    pool shape `F` (leaky or not), every per-item function, every number of workers and every input,
    the pool stops after finitely many steps.  No fairness assumption. -/
theorem pool_no_infinite_run (F : PoolFacts) (f : α → β) (stops : α → Bool) :
    WellFounded (fun s' s => Step F f stops s s') := by
  apply Subrelation.wf (r := InvImage (· < ·) (mu (α := α) (β := β)))
  · intro s' s h
    obtain ⟨i, c, h⟩ := h
    exact stepFn_mu h
  · exact InvImage.wf _ Nat.lt_wfRel.wf



/-! ## Maximal runs of a clean pool

  A statement named `…_anycap` holds for every capacity of the input channel, the unbuffered one included
  (`cap = 0`: the producer's send and a worker's receive are one rendezvous step, Model/C11.lean).  The
  statement of the same name without the suffix, where there is one, carries the hypothesis `1 ≤ cap`,
  which nothing needs: it is an instance, and it carries the description (`runToEnd_complete_anycap` has
  no such instance). -/

section
open Classical

/-- `pool_normal_form_complete` for every capacity of the input channel, 0 (unbuffered: rendezvous) included -/
theorem pool_normal_form_complete_anycap {F : PoolFacts} (hF : F.exitsWithoutDone = [] ∧ F.unsyncSharedWrites = [] ∧ F.producerLeaks = [])
    {f : α → β} {stops : α → Bool} {w : Nat} (hw : 1 ≤ w) {cap : Nat} {inp : List α}
    (hE : F.earlyExits = [] ∨ ∀ x ∈ inp, stops x = false) {s : PState α β}
    (hR : Reachable F f stops (init w cap inp) s) (hT : Terminal F f stops s) :
    s.closed = true ∧ s.out.Perm (inp.map f) :=
  have h := Final.of_terminal hF hR hT
  ⟨h.closed, h.out_perm hw hE⟩

/-- `pool_thread_count_independent` for every capacity of the input channel, 0 (unbuffered: rendezvous) included -/
theorem pool_thread_count_independent_anycap (F : PoolFacts) (hF : F.exitsWithoutDone = [] ∧ F.unsyncSharedWrites = [] ∧ F.producerLeaks = [])
    (f : α → β) (stops : α → Bool) (w : Nat) (hw : 1 ≤ w) (cap cap₁ : Nat) (inp : List α)
    (hE : F.earlyExits = [] ∨ ∀ x ∈ inp, stops x = false) (s s₁ : PState α β)
    (hR : Reachable F f stops (init w cap inp) s) (hT : Terminal F f stops s)
    (hR₁ : Reachable F f stops (init 1 cap₁ inp) s₁) (hT₁ : Terminal F f stops s₁) :
    s.out.Perm s₁.out :=
  (pool_normal_form_complete_anycap hF hw hE hR hT).2.trans
    (pool_normal_form_complete_anycap hF (Nat.le_refl 1) hE hR₁ hT₁).2.symm

/-- `pool_single_worker_sequential` for every capacity of the input channel, 0 (unbuffered: rendezvous) included -/
theorem pool_single_worker_sequential_anycap (F : PoolFacts) (hF : F.exitsWithoutDone = [] ∧ F.unsyncSharedWrites = [] ∧ F.producerLeaks = [])
    (hE : F.earlyExits = []) (f : α → β) (stops : α → Bool) (cap : Nat) (inp : List α) (s : PState α β)
    (hR : Reachable F f stops (init 1 cap inp) s) (hT : Terminal F f stops s) :
    s.closed = true ∧ s.out.reverse = inp.map f := by
  have h := Final.of_terminal hF hR hT
  obtain ⟨hi, hp, _⟩ := h.delivered (Nat.le_refl 1) (h.dropped_nil (.inl hE))
  -- the stream is delivered ++ held by the worker ++ in the channel ++ not yet sent, and the last three are empty
  obtain ⟨p, hws, hord⟩ := reachable_ordInv hE hR
  rw [h.finished p (by simp [hws]), hi, hp] at hord
  rw [h.out, ← List.map_reverse]
  exact ⟨h.closed, by simpa [Phase.items] using congrArg (List.map f) hord⟩

/-- Safety at EVERY reachable state (not only at the end) of a clean pool: what the consumer has
    received so far is exactly `f` of the items delivered so far (one result per item, computed from
    that item), the delivered items are a sub-multiset of the input, nothing has panicked, and once the
    result channel is closed every worker has finished. -/
theorem pool_safe (F : PoolFacts) (hF : F.exitsWithoutDone = [] ∧ F.unsyncSharedWrites = [] ∧ F.producerLeaks = [])
    (f : α → β) (stops : α → Bool) (w cap : Nat) (inp : List α) (s : PState α β)
    (hR : Reachable F f stops (init w cap inp) s) :
    s.out = s.done.map f ∧ (∀ a, s.done.count a ≤ inp.count a) ∧ s.panicked = false ∧
    (s.closed = true → ∀ p ∈ s.workers, p = Phase.finished) := by
  have hI := reachable_inv hR
  refine ⟨(reachable_invClean ⟨hF.1, hF.2.1⟩ hR).out, fun a => ?_, hI.nopanic, fun hc p hp => ?_⟩
  · have := hI.cons a
    omega
  · have := sumMap_eq_zero_iff.mp (hI.wg.symm.trans (hI.closed hc)) p hp
    cases p <;> simp [Phase.notFinished] at this ⊢

/-- `pool_no_deadlock` for every capacity of the input channel, 0 (unbuffered: rendezvous) included -/
theorem pool_no_deadlock_anycap (F : PoolFacts) (hF : F.exitsWithoutDone = [] ∧ F.unsyncSharedWrites = [] ∧ F.producerLeaks = [])
    (f : α → β) (stops : α → Bool) (w cap : Nat) (inp : List α) (s : PState α β)
    (hR : Reachable F f stops (init w cap inp) s) (hc : s.closed = false) : ∃ s', Step F f stops s s' :=
  -- a state where nothing moves is closed
  Classical.byContradiction fun hno => by
    have := (Final.of_terminal hF hR fun s' hs => hno ⟨s', hs⟩).closed
    rw [hc] at this; cases this

/-- No send on a closed channel, for every pool shape (leaky or racy included). -/
theorem pool_no_send_on_closed (F : PoolFacts) (f : α → β) (stops : α → Bool) (w cap : Nat) (inp : List α) (s : PState α β)
    (hR : Reachable F f stops (init w cap inp) s) : s.panicked = false :=
  (reachable_inv hR).nopanic

/-- `error_reaches_caller` for every capacity of the input channel, 0 (unbuffered: rendezvous) included -/
theorem error_reaches_caller_anycap {F : PoolFacts} (hF : F.exitsWithoutDone = [] ∧ F.unsyncSharedWrites = [] ∧ F.producerLeaks = [])
    {f : α → β} {stops : α → Bool} {w : Nat} (hw : 1 ≤ w) {cap : Nat} {inp : List α} {s : PState α β}
    (hR : Reachable F f stops (init w cap inp) s) (hT : Terminal F f stops s) :
    (F.earlyExits = [] → ∀ x ∈ inp, f x ∈ s.out) ∧
    (F.earlyExits ≠ [] → (s.closed = true ∧ (s.errSet = true ↔ ∃ x ∈ inp, stops x = true))) :=
  have h := Final.of_terminal hF hR hT
  ⟨fun hE _ hx => (h.out_perm hw (.inl hE)).mem_iff.mpr (List.mem_map_of_mem hx), fun hE => ⟨h.closed, h.errSet_iff hw hE⟩⟩

/-- ★ Every maximal run from `init w inp` — any `w ≥ 1`, any input list with error items anywhere, any
    schedule — of a pool whose extracted facts show no exit without `Done` and no unsynchronised
    shared write, and whose workers do not leave the loop early (Compare, CompareWeighted, TBE) or
    meet no item that makes them leave, ends with the result channel closed and with exactly the
    sequential results, as a multiset: the output is a permutation of `inp.map f`. -/
theorem pool_normal_form_complete (F : PoolFacts) (hF : F.exitsWithoutDone = [] ∧ F.unsyncSharedWrites = [] ∧ F.producerLeaks = [])
    (f : α → β) (stops : α → Bool) (w : Nat) (hw : 1 ≤ w) (cap : Nat) (hcap : 1 ≤ cap) (inp : List α)
    (hE : F.earlyExits = [] ∨ ∀ x ∈ inp, stops x = false) (s : PState α β)
    (hR : Reachable F f stops (init w cap inp) s) (hT : Terminal F f stops s) :
    s.closed = true ∧ s.out.Perm (inp.map f) :=
  pool_normal_form_complete_anycap hF hw hE hR hT

/-- Thread-count (and schedule, and channel-capacity) independence, as the property states it: the
    results of a maximal run with `w` workers are, as a multiset, those of a maximal run with ONE worker. -/
theorem pool_thread_count_independent (F : PoolFacts) (hF : F.exitsWithoutDone = [] ∧ F.unsyncSharedWrites = [] ∧ F.producerLeaks = [])
    (f : α → β) (stops : α → Bool) (w : Nat) (hw : 1 ≤ w) (cap cap₁ : Nat) (hcap : 1 ≤ cap) (hcap₁ : 1 ≤ cap₁) (inp : List α)
    (hE : F.earlyExits = [] ∨ ∀ x ∈ inp, stops x = false) (s s₁ : PState α β)
    (hR : Reachable F f stops (init w cap inp) s) (hT : Terminal F f stops s)
    (hR₁ : Reachable F f stops (init 1 cap₁ inp) s₁) (hT₁ : Terminal F f stops s₁) :
    s.out.Perm s₁.out :=
  pool_thread_count_independent_anycap F hF f stops w hw cap cap₁ inp hE s s₁ hR hT hR₁ hT₁

/-- The single-threaded run IS the sequential computation: with one worker, every maximal run of a
    recording pool (whatever the interleaving with the producer and the closer) delivers `f x` for the
    items of the stream in the order of the stream. -/
theorem pool_single_worker_sequential (F : PoolFacts) (hF : F.exitsWithoutDone = [] ∧ F.unsyncSharedWrites = [] ∧ F.producerLeaks = [])
    (hE : F.earlyExits = []) (f : α → β) (stops : α → Bool) (cap : Nat) (hcap : 1 ≤ cap) (inp : List α) (s : PState α β)
    (hR : Reachable F f stops (init 1 cap inp) s) (hT : Terminal F f stops s) :
    s.closed = true ∧ s.out.reverse = inp.map f :=
  pool_single_worker_sequential_anycap F hF hE f stops cap inp s hR hT

/-- Freedom from deadlock: a reachable state of a clean pool whose result channel is not yet closed
    can always move (the consumer draining). -/
theorem pool_no_deadlock (F : PoolFacts) (hF : F.exitsWithoutDone = [] ∧ F.unsyncSharedWrites = [] ∧ F.producerLeaks = [])
    (f : α → β) (stops : α → Bool) (w cap : Nat) (hcap : 1 ≤ cap) (inp : List α) (s : PState α β)
    (hR : Reachable F f stops (init w cap inp) s) (hc : s.closed = false) : ∃ s', Step F f stops s s' :=
  pool_no_deadlock_anycap F hF f stops w cap inp s hR hc

/-- The error reaches the caller.  (a) A pool that records (no early exit: Compare, CompareWeighted):
    the record `f x` of every item, erroneous ones included, is delivered.  (b) A pool that stops
    (FBP): if some item of the stream is erroneous, every maximal run ends — channel closed, caller
    released — with the shared error set; and it is set only then. -/
theorem error_reaches_caller (F : PoolFacts) (hF : F.exitsWithoutDone = [] ∧ F.unsyncSharedWrites = [] ∧ F.producerLeaks = [])
    (f : α → β) (stops : α → Bool) (w : Nat) (hw : 1 ≤ w) (cap : Nat) (hcap : 1 ≤ cap) (inp : List α) (s : PState α β)
    (hR : Reachable F f stops (init w cap inp) s) (hT : Terminal F f stops s) :
    (F.earlyExits = [] → ∀ x ∈ inp, f x ∈ s.out) ∧
    (F.earlyExits ≠ [] → (s.closed = true ∧ (s.errSet = true ↔ ∃ x ∈ inp, stops x = true))) :=
  error_reaches_caller_anycap hF hw hR hT

/-! ## The defects as theorems -/

/-- F16 as a theorem: as soon as the extracted facts contain ONE exit path that skips `wg.Done()`
    there is an input and a schedule after which nothing can move and the result channel is not
    closed — the caller ranging over it blocks forever.  (`x₀` is any item on which the workers take
    their early exits, e.g. an erroneous tree; it is not needed when the leaking exit is the end of
    the loop.) -/
theorem pool_leak_deadlocks (F : PoolFacts) (h : F.exitsWithoutDone ≠ []) (f : α → β) (stops : α → Bool)
    (x₀ : α) (hx₀ : stops x₀ = true) :
    ∃ (inp : List α) (s : PState α β), Reachable F f stops (init 1 1 inp) s ∧ Terminal F f stops s ∧ s.closed = false := by
  obtain ⟨e, he⟩ := List.exists_mem_of_ne_nil _ h
  obtain ⟨hmem, hdone⟩ := List.mem_filter.mp he
  have hdone : e.done = false := by simpa using hdone
  cases hre : e.isRangeEnd
  · -- an early exit leaks: one erroneous item, on which the only worker leaves without `Done`
    have hmemE : e ∈ F.earlyExits := List.mem_filter.mpr ⟨hmem, by simp [hre]⟩
    obtain ⟨k, hk, hke⟩ := List.getElem_of_mem hmemE
    have hget : F.shape.early[k]? = some false := by
      simp only [PoolFacts.shape, List.getElem?_map]
      rw [List.getElem?_eq_getElem hk, hke, Option.map_some, hdone]
    let s1 : PState α β := { (init 1 1 [x₀] : PState α β) with pending := [], inp := [x₀] }
    let s2 : PState α β := { s1 with inp := [], workers := [.holding x₀] }
    let s3 : PState α β := { s2 with workers := [.leaked], dropped := [x₀], errSet := true }
    have h3 : Reachable F f stops (init 1 1 [x₀]) s3 :=
      .step (.step (.step .refl ⟨2, 0, step_of_fires rfl (.produce rfl rfl rfl Nat.zero_lt_one)⟩)
        ⟨0, 0, step_of_fires (s := s1) rfl (.recv rfl rfl)⟩) ⟨0, k, step_of_fires (s := s2) rfl (.early rfl hx₀ hget)⟩
    exact ⟨_, _, .step h3 ⟨2, 0, step_of_fires (s := s3) rfl (.prodEnd rfl rfl rfl)⟩,
      terminal_of_stuck rfl (Nat.succ_ne_zero 0) fun p hp => .inr (.inl (List.mem_singleton.mp hp)), rfl⟩
  · -- the end of the loop leaks: empty stream; the producer leaves, and if it closed the channel the only
    -- worker leaves without `Done`, else it waits forever
    have hR : F.shape.rangeEndDone = false := by
      refine Bool.eq_false_iff.mpr fun hall => ?_
      simpa [hre, hdone] using List.all_eq_true.mp hall e hmem
    cases hpc : F.shape.producerCloses
    · exact ⟨[], _, .step .refl ⟨2, 0, step_of_fires rfl (.prodEnd rfl rfl rfl)⟩,
        terminal_of_stuck rfl (Nat.succ_ne_zero 0) fun p hp =>
          .inr (.inr ⟨List.mem_singleton.mp hp, rfl, by simp [hpc, init]⟩), rfl⟩
    · let s1 : PState α β := { (init 1 1 [] : PState α β) with prod := false, srcOpen := !F.shape.producerCloses && true }
      have h2 : Fires F.shape f stops s1 0 0 { s1 with workers := s1.workers.set 0 (.gone F.shape.rangeEndDone) } :=
        .rangeEnd rfl rfl (fun h => nomatch h.2) (by simp [s1, hpc])
      rw [hR] at h2
      exact ⟨[], _, .step (.step .refl ⟨2, 0, step_of_fires rfl (.prodEnd rfl rfl rfl)⟩) ⟨0, 0, step_of_fires rfl h2⟩,
        terminal_of_stuck rfl (Nat.succ_ne_zero 0) fun p hp => .inr (.inl (List.mem_singleton.mp hp)), rfl⟩

/-- The same for the producer: if the goroutine feeding the input channel has an exit path that skips
    its `close` (ReadMultiTrees returning after a parse error, say), the workers wait on the open,
    empty channel forever and the result channel is never closed. -/
theorem producer_leak_deadlocks (F : PoolFacts) (h : F.producerLeaks ≠ []) (f : α → β) (stops : α → Bool) :
    ∃ (s : PState α β), Reachable F f stops (init 1 1 []) s ∧ Terminal F f stops s ∧ s.closed = false :=
  have hpc : F.shape.producerCloses = false := by simpa [PoolFacts.shape] using h
  ⟨_, .step .refl ⟨2, 0, step_of_fires rfl (.prodEnd rfl rfl rfl)⟩,
    terminal_of_stuck rfl (Nat.succ_ne_zero 0) fun p hp =>
      .inr (.inr ⟨List.mem_singleton.mp hp, rfl, by simp [hpc, init]⟩), rfl⟩

end

/-! ## The functions the driver runs -/

/-- ★ for the function the driver executes: whatever schedule it is given, `runToEnd` ends in a
    state reachable in the LTS where nothing can move — so the theorems above apply to its result. -/
theorem runToEnd_maximal (F : PoolFacts) (f : α → β) (stops : α → Bool) (w cap : Nat) (inp : List α) (sched : List (Nat × Nat)) :
    Reachable F f stops (init w cap inp) (runToEnd F.shape f stops w cap inp sched) ∧
    Terminal F f stops (runToEnd F.shape f stops w cap inp sched) :=
  ⟨drain_reachable _ (exec_reachable sched Reachable.refl), drain_terminal F _ _ (Nat.le_refl _)⟩

/-- the driver's run of a clean recording pool: closed, and exactly the sequential results -/
theorem runToEnd_complete_anycap (F : PoolFacts) (hF : F.exitsWithoutDone = [] ∧ F.unsyncSharedWrites = [] ∧ F.producerLeaks = [])
    (f : α → β) (stops : α → Bool) (w : Nat) (hw : 1 ≤ w) (cap : Nat) (inp : List α)
    (hE : F.earlyExits = [] ∨ ∀ x ∈ inp, stops x = false) (sched : List (Nat × Nat)) :
    (runToEnd F.shape f stops w cap inp sched).closed = true ∧
    (runToEnd F.shape f stops w cap inp sched).out.Perm (inp.map f) :=
  let ⟨hR, hT⟩ := runToEnd_maximal F f stops w cap inp sched
  pool_normal_form_complete_anycap hF hw hE hR hT

/-! ## The regenerated table (Gotree/Gen/C11Goroutines.lean, rewritten from /repo on every run)

  The decisions are evaluated by the kernel alone (`decide +kernel`): the elaborator's own evaluation of the
  same term costs several times as much and adds nothing.  Where a decision takes prefixes of names, the
  characters are first read off the bytes (`asciiChars_eq`, Lemmas/C11Ascii.lean). -/

open Gotree.Gen.C11

/-- table decision: no exit path of any pool worker of tree/algo.go, support/*.go skips `wg.Done()` (F16) -/
theorem table_exitsWithoutDone_nil : Gotree.Gen.C11.exitsWithoutDone = [] := by decide +kernel

/-- table decision: no goroutine writes a captured variable without a mutex, an atomic, or ownership
    through the received item (F17: `err`, `sup.progress`; F18: `compEdges`) -/
theorem table_unsyncSharedWrites_nil : Gotree.Gen.C11.unsyncSharedWrites = [] := by decide +kernel

/-- table decision: every pool worker is accounted for by a `wg.Add` before it starts (the LTS starts
    with the counter at the number of workers), and every goroutine that feeds or closes a channel
    closes it on every path (no `return` before its `close`) -/
theorem table_add_and_close :
    (Gotree.Gen.C11.goroutines.filter (fun g => g.counted && !g.addOK)).map (·.line) = [] ∧
    Gotree.Gen.C11.goroutines.flatMap (·.returnsBeforeClose) = [] ∧
    ReadMultiTrees_go0.producerLeaks = [] ∧ TBE_go0.producerLeaks = [] := by decide +kernel

/-- table decision (harness/c11/globals.go): below the goroutines of the four pools — through every function of the
    parsed packages they call, to any depth, interface methods included — no PACKAGE-LEVEL variable of the module is
    written (assigned, incremented, or the receiver of a method that may write it) without a mutex or an atomic
    operation.  This is the fact a worker can break without capturing anything (a hasher, cache or counter made
    package-level in a callee); the only rows of the unchanged tree are the atomic counter of the `verif` yield hook. -/
theorem table_no_unsync_global_write :
    (Gotree.Gen.C11.globalWrites.filter (fun gw => gw.2.unsync)).map (fun gw => (gw.1, gw.2.var, gw.2.line)) = [] := by decide +kernel

/-- table decision (harness/c11/chans.go): the capacity of every channel made in the scoped functions was read
    (`a * threads + b`), and the two input channels whose capacity the driver's model runs take from the table are
    there: the tree channel of `ReadMultiTrees`, the edge channel of `TBE`.  Their VALUES are not pinned: the
    theorems hold for every capacity, a changed buffer size changes the model run only. -/
theorem table_channel_capacities :
    Gotree.Gen.C11.chanCapsUnparsed = [] ∧
    (Gotree.Gen.C11.chanCaps.any fun c => c.1 == "ReadMultiTrees" && c.2.2.1 == "tree.Trees") = true ∧
    (Gotree.Gen.C11.chanCaps.any fun c => c.1 == "TBE" && c.2.2.1 == "*tree.Edge") = true := by decide +kernel

/-- table decision: every goroutine the model and the driver name (workers, closers, producers of the four pools) was
    found in the source; a missing one is replaced by a leaky placeholder so that the driver still builds and the
    cases still run (the oracle can then exhibit a failing input), and is listed here -/
theorem table_no_missing_goroutine : Gotree.Gen.C11.missingGoroutines = [] := by decide +kernel

/-- table decision: every write an exported method of `*hashmap.HashMap` makes through its receiver
    (PutValue, and rehash below it) happens with the write lock held -/
theorem table_hashmap_writes_locked :
    (Gotree.Gen.C11.hashMapWrites.filter (fun mw => match mw.2.sync with | .mutex => false | _ => true)).map (·.2.line) = [] := by
  decide +kernel


/-- table decision: `HashMap.Value` and `HashMap.PutValue` (the two methods the pools use, hashmap.go:47,62)
    touch the state behind their receiver only with the lock held, reads included. -/
theorem table_hashmap_value_put_locked :
    ((Gotree.Gen.C11.hashMapAccesses.filter (fun ma => ma.1 == "HashMap.Value" || ma.1 == "HashMap.PutValue")).all
      (fun ma => match ma.2.sync with | .mutex => true | _ => false)) = true ∧
    (Gotree.Gen.C11.hashMapAccesses.any (fun ma => ma.1 == "HashMap.Value")) = true ∧
    (Gotree.Gen.C11.hashMapAccesses.any (fun ma => ma.1 == "HashMap.PutValue" && ma.2.write)) = true := by decide +kernel

/-- OUTSIDE the property's statement (it names tree comparison, weighted comparison, FBP and TBE), shown in
    the table and reviewed: the two other pools driven by the thread option.  `compute roccurve` is clean;
    every defect row (exit without `wg.Done`, return before `close`, unsynchronised write, race pair)
    may only belong to `compute edgetrees` (cmd/edgetrees.go: its workers returned on an error without
    `wg.Done()` and wrote the shared `err` unsynchronised — the F16/F17 pattern, repaired in /repo 279357c). -/
theorem table_other_pools_reviewed :
    ((Gotree.Gen.C11.otherGoroutines.filter (fun g =>
        !g.exitsWithoutDone.isEmpty || !g.unsyncSharedWrites.isEmpty || !g.returnsBeforeClose.isEmpty)).all
      (fun g => g.fn == "edgeTreesCmd")) = true ∧
    racePairs (Gotree.Gen.C11.otherGoroutines.filter (fun g => g.fn != "edgeTreesCmd")) = [] ∧
    (Gotree.Gen.C11.otherGoroutines.any (fun g => g.fn == "roccurveCmd" && g.counted)) = true ∧
    (Gotree.Gen.C11.otherGoroutines.any (fun g => g.fn == "edgeTreesCmd" && g.counted)) = true := by decide +kernel

/-- table decision ("the consumer drains", the assumption built into the send step of the LTS): in
    cmd/comparetrees.go the channels returned by `tree.Compare` and `tree.CompareWeighted` are each ranged
    over by the caller, and every "empty the channel" loop inside names that same channel (F38 drained the
    other, nil, one).  Syntactic. -/
theorem table_callers_drain :
    Gotree.Gen.C11.compareCallers.length = 2 ∧
    (Gotree.Gen.C11.compareCallers.all (fun c => c.2.2.1 && c.2.2.2.all (fun d => d == c.2.1))) = true ∧
    (Gotree.Gen.C11.compareCallers.any (fun c => c.1 == "CompareWeighted" && !c.2.2.2.isEmpty)) = true := by decide +kernel

/-- table decision: EVERY exported method of `*hashmap.HashMap` (Keys and KeyValues included, since
    ade4233) touches the state behind its receiver only with the lock held -/
theorem table_hashmap_all_locked :
    ((Gotree.Gen.C11.hashMapAccesses.filter (fun ma => (ma.1.toList.take 8) == "HashMap.".toList)).all
      (fun ma => match ma.2.sync with | .mutex => true | _ => false)) = true := by
  simp only [← asciiChars_eq]
  decide +kernel

/-- table decision: every exported method of `*support.Supporter` (the progress counter and the stop
    flag shared by the FBP/TBE workers and the caller, F17) touches its fields only with the lock held -/
theorem table_supporter_locked :
    ((Gotree.Gen.C11.hashMapAccesses.filter (fun ma => (ma.1.toList.take 10) == "Supporter.".toList)).all
      (fun ma => match ma.2.sync with | .mutex => true | _ => false)) = true ∧
    (Gotree.Gen.C11.hashMapAccesses.any (fun ma => ma.1 == "Supporter.IncrementProgress" && ma.2.write)) = true ∧
    (Gotree.Gen.C11.hashMapAccesses.any (fun ma => ma.1 == "Supporter.Canceled")) = true := by
  simp only [← asciiChars_eq]
  decide +kernel

/-- table decision: in each pool the goroutine that closes the result channel is started after the
    workers (after their `wg.Add`), so its `wg.Wait()` cannot return before they are accounted for -/
theorem table_closer_after_workers :
    Compare_worker0.line < Compare_closer0.line ∧ CompareWeighted_worker0.line < CompareWeighted_closer0.line ∧
    FBP_worker0.line < FBP_closer0.line := by decide +kernel

/-- table decision: the per-item pools have exactly the shape the driver runs (`shapeRecord`), and the
    FBP pool is a clean pool whose workers have early exits (the character of `shapeStop`) -/
theorem table_shapes :
    comparePool.shape = shapeRecord ∧ compareWeightedPool.shape = shapeRecord ∧ tbePool.shape = shapeRecord ∧
    (fbpPool.shape.rangeEndDone = true ∧ fbpPool.shape.early.all id = true ∧
     fbpPool.shape.early.isEmpty = false ∧ fbpPool.shape.pureCompute = true ∧ fbpPool.shape.producerCloses = true) := by decide +kernel

/-- table decision: every result channel is closed by a goroutine that first waits for the WaitGroup -/
theorem table_close_after_wait :
    (Compare_closer0.closes.all (fun c => c.2.2)) = true ∧ (CompareWeighted_closer0.closes.all (fun c => c.2.2)) = true ∧
    (FBP_closer0.closes.all (fun c => c.2.2)) = true ∧
    Compare_closer0.waits = true ∧ CompareWeighted_closer0.waits = true ∧ FBP_closer0.waits = true := by decide +kernel

/-- table decision: the workers of each pool send only on the channel that pool's closer closes (so
    "closed after every worker is done" is about the right channel) -/
theorem table_sends_on_closed_channel :
    Compare_worker0.sends.all (fun s => Compare_closer0.closes.any (fun c => c.1 == s.1)) = true ∧
    CompareWeighted_worker0.sends.all (fun s => CompareWeighted_closer0.closes.any (fun c => c.1 == s.1)) = true ∧
    FBP_worker0.sends.all (fun s => FBP_closer0.closes.any (fun c => c.1 == s.1)) = true ∧
    TBE_worker0.sends = [] := by decide +kernel

/-- table decision: no read/write race between goroutines is visible in the table: whenever one goroutine
    writes a captured variable and another one (or another instance of the same `go` statement started
    in a loop) reads overlapping memory, both hold a lock, both are atomic, or both touch only the
    cell owned through the item they received -/
theorem table_no_read_write_race : Gotree.Gen.C11.readWriteRaces = [] := by decide +kernel

/-- table decision: the only calls involving captured variables that the extractor did NOT analyse
    are the reviewed ones: bit-set comparison in the external bitset module (read-only), the quartet
    comparison beyond the depth limit (not reachable from these pools), and the parsers the reader
    goroutine hands its own reader to.  A new entry here means: review it. -/
theorem table_unfollowed_reviewed :
    (Gotree.Gen.C11.goroutines.flatMap (·.unfollowed)).all (fun u =>
      ["(*github.com/fredericlemoine/bitset.BitSet).EqualOrComplement(", "(*tree.Quartet).Compare(", "io/"].any
        (fun p => (u.toList.take p.length) == p.toList)) = true := by
  simp only [String.length, ← asciiChars_eq]
  decide +kernel

section AnyCap
open Classical

/-- `extracted_record_pools_complete` for every capacity of the input channel, 0 (unbuffered: rendezvous) included -/
theorem extracted_record_pools_complete_anycap (F : PoolFacts)
    (hF : F = comparePool ∨ F = compareWeightedPool ∨ F = tbePool)
    (f : α → β) (stops : α → Bool) (w : Nat) (hw : 1 ≤ w) (cap : Nat) (inp : List α) (s : PState α β)
    (hR : Reachable F f stops (init w cap inp) s) (hT : Terminal F f stops s) :
    s.closed = true ∧ s.out.Perm (inp.map f) := by
  have h : (F.exitsWithoutDone = [] ∧ F.unsyncSharedWrites = [] ∧ F.producerLeaks = []) ∧ F.earlyExits = [] := by
    rcases hF with rfl | rfl | rfl <;> decide
  exact pool_normal_form_complete_anycap h.1 hw (Or.inl h.2) hR hT

/-- `driver_runs_extracted_compare` for every capacity of the input channel, 0 (unbuffered: rendezvous) included -/
theorem driver_runs_extracted_compare_anycap (f : α → β) (stops : α → Bool) (w : Nat) (hw : 1 ≤ w) (cap : Nat)
    (inp : List α) (sched : List (Nat × Nat)) :
    (runToEnd shapeRecord f stops w cap inp sched).closed = true ∧
    (runToEnd shapeRecord f stops w cap inp sched).out.Perm (inp.map f) :=
  table_shapes.1 ▸ runToEnd_complete_anycap comparePool (by decide) f stops w hw cap inp (Or.inl (by decide)) sched

/-- table decision: the extracted FBP pool generates the same transition relation as `shapeStop`
    (same flags; all of its early exits reach `Done`; it has some) -/
theorem table_fbp_similar_stop : fbpPool.shape.similar stopFacts.shape :=
  ⟨by decide, by decide, by decide, by decide,
   fun e he => List.all_eq_true.mp (by decide : fbpPool.shape.early.all id = true) e he,
   fun e he => List.all_eq_true.mp (by decide : stopFacts.shape.early.all id = true) e he⟩

/-- `driver_runs_extracted_fbp` for every capacity of the input channel, 0 (unbuffered: rendezvous) included -/
theorem driver_runs_extracted_fbp_anycap (f : α → β) (stops : α → Bool) (w : Nat) (hw : 1 ≤ w) (cap : Nat)
    (inp : List α) (sched : List (Nat × Nat)) :
    Reachable fbpPool f stops (init w cap inp) (runToEnd shapeStop f stops w cap inp sched) ∧
    Terminal fbpPool f stops (runToEnd shapeStop f stops w cap inp sched) ∧
    (runToEnd shapeStop f stops w cap inp sched).closed = true ∧
    ((runToEnd shapeStop f stops w cap inp sched).errSet = true ↔ ∃ x ∈ inp, stops x = true) ∧
    ((∀ x ∈ inp, stops x = false) → (runToEnd shapeStop f stops w cap inp sched).out.Perm (inp.map f)) := by
  -- `shapeStop` is the shape of `stopFacts`, whose transition relation is that of the extracted pool
  have hsim := Shape.similar_symm table_fbp_similar_stop
  have hm : Reachable stopFacts f stops (init w cap inp) (runToEnd shapeStop f stops w cap inp sched) ∧ _ :=
    runToEnd_maximal stopFacts f stops w cap inp sched
  have hR := reachable_congr hsim hm.1
  have hT := terminal_congr hsim hm.2
  have he := (error_reaches_caller_anycap (by decide) hw hR hT).2 (by decide)
  exact ⟨hR, hT, he.1, he.2, fun hno =>
    (pool_normal_form_complete_anycap (by decide) hw (Or.inr hno) hR hT).2⟩

end AnyCap

/-- ★ instantiated: for the pools of `tree.Compare`, `tree.CompareWeighted` and the `support.TBE` fan-out AS
    EXTRACTED FROM THE SOURCE (workers and the goroutine feeding them), every maximal run (any `w ≥ 1`,
    any channel capacity, any stream, any schedule) ends closed with a permutation of the sequential results. -/
theorem extracted_record_pools_complete (F : PoolFacts)
    (hF : F = comparePool ∨ F = compareWeightedPool ∨ F = tbePool)
    (f : α → β) (stops : α → Bool) (w : Nat) (hw : 1 ≤ w) (cap : Nat) (hcap : 1 ≤ cap) (inp : List α) (s : PState α β)
    (hR : Reachable F f stops (init w cap inp) s) (hT : Terminal F f stops s) :
    s.closed = true ∧ s.out.Perm (inp.map f) :=
  extracted_record_pools_complete_anycap F hF f stops w hw cap inp s hR hT

/-- the driver's run of the extracted `Compare` pool is its run of `shapeRecord` -/
theorem driver_runs_extracted_compare (f : α → β) (stops : α → Bool) (w : Nat) (hw : 1 ≤ w) (cap : Nat) (hcap : 1 ≤ cap)
    (inp : List α) (sched : List (Nat × Nat)) :
    (runToEnd shapeRecord f stops w cap inp sched).closed = true ∧
    (runToEnd shapeRecord f stops w cap inp sched).out.Perm (inp.map f) :=
  driver_runs_extracted_compare_anycap f stops w hw cap inp sched

/-- the driver's run of `shapeStop` is a maximal run of the FBP pool AS EXTRACTED FROM THE SOURCE: it
    ends with the caller released, and with the shared error set exactly when the stream contains
    an erroneous tree; without one, the collector receives exactly the sequential results. -/
theorem driver_runs_extracted_fbp (f : α → β) (stops : α → Bool) (w : Nat) (hw : 1 ≤ w) (cap : Nat) (hcap : 1 ≤ cap)
    (inp : List α) (sched : List (Nat × Nat)) :
    Reachable fbpPool f stops (init w cap inp) (runToEnd shapeStop f stops w cap inp sched) ∧
    Terminal fbpPool f stops (runToEnd shapeStop f stops w cap inp sched) ∧
    (runToEnd shapeStop f stops w cap inp sched).closed = true ∧
    ((runToEnd shapeStop f stops w cap inp sched).errSet = true ↔ ∃ x ∈ inp, stops x = true) ∧
    ((∀ x ∈ inp, stops x = false) → (runToEnd shapeStop f stops w cap inp sched).out.Perm (inp.map f)) :=
  driver_runs_extracted_fbp_anycap f stops w hw cap inp sched

/-! ## What the caller sees: the collectors

  The theorems above are about the multiset of the workers' messages.  FBP's caller sees the supports
  computed by the collector from those messages; TBE's caller sees, per bootstrap tree, one raw support
  per reference branch.  Both are invariant under permutation of the messages (Lemmas/C11Collect.lean),
  so they do not depend on the schedule either — stated for the functions the driver runs, with the
  shapes EXTRACTED from the source (`FBP_worker0.facts.shape`, `tbePool.shape` are the driver's
  `extractedShape "fbp"`, `extractedShape "tbe"`). -/

section Collectors
open Classical

/-- FBP: for a stream without erroneous tree the supports the collector computes are the same under
    every schedule, every worker count and channel capacity: those of the sequential run. -/
theorem fbp_supports_schedule_independent (ref : T) (stops : (Nat × Item) → Bool) (w : Nat) (hw : 1 ≤ w) (cap : Nat)
    (inp : List (Nat × Item)) (hno : ∀ x ∈ inp, stops x = false) (sched : List (Nat × Nat)) (ntrees : Nat) :
    fbpSupports ref (runToEnd FBP_worker0.facts.shape (fun x : Nat × Item => fbpFound ref x.2) stops w cap inp sched).out ntrees =
    fbpSupports ref (inp.map fun x => fbpFound ref x.2) ntrees := by
  have h := (runToEnd_complete_anycap FBP_worker0.facts (by decide) (fun x : Nat × Item => fbpFound ref x.2) stops w hw cap inp
    (Or.inr hno) sched).2
  exact fbpSupports_perm ref h ntrees

/-- TBE: for one bootstrap tree `b`, the raw supports collected after the fan-out over the reference
    branches are the same under every schedule, worker count and capacity: every branch is there, with
    the value the sequential per-branch function gives it. -/
theorem tbe_fanout_schedule_independent (r b : T) (sups : List Rat) (w : Nat) (hw : 1 ≤ w) (cap : Nat) (sched : List (Nat × Nat)) :
    tbeCollect r.splits.length (runToEnd tbePool.shape (tbeItemFn r b) (fun _ => false) w cap (tbeItems r sups) sched).out =
    tbeCollect r.splits.length ((tbeItems r sups).map (tbeItemFn r b)) := by
  have h := (runToEnd_complete_anycap tbePool (by decide) (tbeItemFn r b) (fun _ => false) w hw cap (tbeItems r sups)
    (Or.inl (by decide)) sched).2
  exact (tbeCollect_perm h.symm (tbeItems_keys_nodup r b sups) _).symm

/-- FBP with an erroneous tree anywhere in the stream: under every schedule the driver's run of the
    extracted pool ends with the caller released and the error set (the supports are then unspecified). -/
theorem fbp_error_schedule_independent (f : α → β) (stops : α → Bool) (w : Nat) (hw : 1 ≤ w) (cap : Nat)
    (inp : List α) (hbad : ∃ x ∈ inp, stops x = true) (sched : List (Nat × Nat)) :
    (runToEnd FBP_worker0.facts.shape f stops w cap inp sched).closed = true ∧
    (runToEnd FBP_worker0.facts.shape f stops w cap inp sched).errSet = true := by
  obtain ⟨hR, hT⟩ := runToEnd_maximal FBP_worker0.facts f stops w cap inp sched
  have h := (error_reaches_caller_anycap (by decide) hw hR hT).2 (by decide)
  exact ⟨h.1, h.2.mpr hbad⟩

/-- ★ TBE, the whole call: for every stream (erroneous trees at any position included), every worker count,
    every capacity of the edge channel and every FAMILY of schedules (one per bootstrap tree), the outer loop
    of `support.TBE` run with the pool shape extracted from the source computes exactly what the one-thread
    loop `tbeSeq` computes: the same error for the first erroneous tree, otherwise the same raw supports and
    the same `nboot`. -/
theorem tbe_schedule_independent (ref : T) (w : Nat) (hw : 1 ≤ w) (cap : Nat) (scheds : Nat → List (Nat × Nat)) :
    ∀ (items : List Item) (k : Nat) (sups : List Rat),
      tbeOuter tbePool.shape ref w cap scheds items k sups = tbeSeq ref items k sups := by
  intro items
  induction items with
  | nil => intro k sups; rfl
  | cons it rest ih =>
    intro k sups
    cases hb : it.bad ref with
    | some c => simp [tbeOuter, tbeSeq, hb]
    | none =>
      cases it with
      | err => simp [Item.bad] at hb
      | tree b =>
        have hc := (runToEnd_complete_anycap tbePool (by decide) (tbeItemFn ref b) (fun _ => false) w hw cap (tbeItems ref sups)
          (Or.inl (by decide)) (scheds k)).1
        have hp := pool_no_send_on_closed tbePool (tbeItemFn ref b) (fun _ => false) w cap (tbeItems ref sups) _
          (runToEnd_maximal tbePool (tbeItemFn ref b) (fun _ => false) w cap (tbeItems ref sups) (scheds k)).1
        have hf := tbe_fanout_schedule_independent ref b sups w hw cap (scheds k)
        simp only [tbeOuter, tbeSeq, hb, hc, hp, hf, Bool.not_true, Bool.or_self, Bool.false_eq_true, if_false]
        cases tbeCollect ref.splits.length ((tbeItems ref sups).map (tbeItemFn ref b)) with
        | none => rfl
        | some sups' => exact ih (k + 1) sups'

/-- TBE: an erroneous tree ANYWHERE in the stream makes the call fail, under every schedule: the error
    reaches the caller (the call never returns supports computed without that tree). -/
theorem tbe_error_reaches_caller (ref : T) (w : Nat) (hw : 1 ≤ w) (cap : Nat) (scheds : Nat → List (Nat × Nat))
    (items : List Item) (hbad : ∃ it ∈ items, it.isBad ref = true) :
    ∃ c, tbeCall tbePool.shape ref w cap scheds items = .error c := by
  unfold tbeCall
  rw [tbe_schedule_independent ref w hw cap scheds]
  suffices h : ∀ (items : List Item) (k : Nat) (sups : List Rat), (∃ it ∈ items, it.isBad ref = true) →
      ∃ c, tbeSeq ref items k sups = .error c by
    obtain ⟨c, hc⟩ := h items 0 _ hbad
    exact ⟨c, by rw [hc]⟩
  intro items
  induction items with
  | nil => intro k sups h; obtain ⟨it, hm, _⟩ := h; cases hm
  | cons it rest ih =>
    intro k sups h
    cases hb : it.bad ref with
    | some c => exact ⟨c, by simp [tbeSeq, hb]⟩
    | none =>
      have hrest : ∃ it' ∈ rest, it'.isBad ref = true := by
        obtain ⟨it', hm, hbad'⟩ := h
        rcases List.mem_cons.mp hm with e | hr
        · subst e; simp [Item.isBad, hb] at hbad'
        · exact ⟨it', hr, hbad'⟩
      cases it with
      | err => simp [Item.bad] at hb
      | tree b =>
        simp only [tbeSeq, hb]
        cases tbeCollect ref.splits.length ((tbeItems ref sups).map (tbeItemFn ref b)) with
        | none => exact ⟨"lost-branch", rfl⟩
        | some sups' => exact ih (k + 1) sups' hrest

-- the hypothesis of `tbe_error_reaches_caller` is satisfiable: an item carrying an error is erroneous for every reference
example (ref : T) : ∃ it ∈ [Item.tree ref, Item.err], it.isBad ref = true := ⟨.err, by simp, rfl⟩

/-- TBE's moved-taxa tallies, one bootstrap tree: the accumulators after the fan-out — own cells of every branch
    (raw support, sumNbClosestBranches, movedperbranch row) and the tallies shared under the mutex
    (movedspeciestmp, nbranchclose, folded into movedspecies) — are the same under every schedule, worker count
    and capacity: sums of rationals over the multiset of the workers' messages.  (Over float64 the order of the
    additions under the mutex may change the last bit: class TbeMovedTaxaFloatOrder.) -/
theorem tbe_tallies_fanout_schedule_independent (r b : T) (cutoff : Rat) (acc : Gotree.C10.Acc) (w : Nat) (hw : 1 ≤ w) (cap : Nat)
    (sched : List (Nat × Nat)) :
    tallyCollect r acc (runToEnd tbePool.shape (tallyItemFn r b cutoff) (fun _ => false) w cap (tallyItems r acc) sched).out =
    tallyCollect r acc ((tallyItems r acc).map (tallyItemFn r b cutoff)) := by
  have h := (runToEnd_complete_anycap tbePool (by decide) (tallyItemFn r b cutoff) (fun _ => false) w hw cap (tallyItems r acc)
    (Or.inl (by decide)) sched).2
  exact (tallyCollect_perm r acc h.symm (tallyItems_keys_nodup r b cutoff acc)).symm

/-- … and over the whole stream of bootstrap trees, for every family of schedules -/
theorem tbe_tallies_schedule_independent (ref : T) (cutoff : Rat) (w : Nat) (hw : 1 ≤ w) (cap : Nat) (scheds : Nat → List (Nat × Nat)) :
    ∀ (boots : List T) (k : Nat) (acc : Gotree.C10.Acc),
      tallyOuter tbePool.shape ref cutoff w cap scheds boots k acc = tallySeq ref cutoff boots acc := by
  intro boots
  induction boots with
  | nil => intro k acc; rfl
  | cons b rest ih =>
    intro k acc
    simp only [tallyOuter, tallySeq, tbe_tallies_fanout_schedule_independent ref b cutoff acc w hw cap (scheds k)]
    cases tallyCollect ref acc ((tallyItems ref acc).map (tallyItemFn ref b cutoff)) with
    | none => rfl
    | some acc' => exact ih (k + 1) acc'

/-- the progress counter (one increment per tree whose iteration completes = one message of the model): on a
    stream without erroneous tree every schedule of the extracted FBP pool completes every tree exactly once -/
theorem fbp_progress_schedule_independent (ref : T) (stops : (Nat × Item) → Bool) (w : Nat) (hw : 1 ≤ w) (cap : Nat)
    (inp : List (Nat × Item)) (hno : ∀ x ∈ inp, stops x = false) (sched : List (Nat × Nat)) :
    (runToEnd FBP_worker0.facts.shape (fun x : Nat × Item => fbpFound ref x.2) stops w cap inp sched).out.length = inp.length := by
  have h := (runToEnd_complete_anycap FBP_worker0.facts (by decide) (fun x : Nat × Item => fbpFound ref x.2) stops w hw cap inp
    (Or.inr hno) sched).2
  simpa using h.length_eq

/-- TBE counts every tree of a stream it accepts: `nboot` (and the progress counter) is the number of trees -/
theorem tbe_counts_every_tree (ref : T) : ∀ (items : List Item) (k : Nat) (sups s : List Rat) (k' : Nat),
    tbeSeq ref items k sups = .ok (s, k') → k' = k + items.length := by
  intro items
  induction items with
  | nil => intro k sups s k' h; simp [tbeSeq] at h; simp [h.2]
  | cons it rest ih =>
    intro k sups s k' h
    cases hb : it.bad ref with
    | some c => simp [tbeSeq, hb] at h
    | none =>
      cases it with
      | err => simp [Item.bad] at hb
      | tree b =>
        simp only [tbeSeq, hb] at h
        cases hc : tbeCollect ref.splits.length ((tbeItems ref sups).map (tbeItemFn ref b)) with
        | none => simp [hc] at h
        | some sups' =>
          simp only [hc] at h
          have := ih (k + 1) sups' s k' h
          simp only [List.length_cons]; omega

/-- "Tree by tree": when the items carry distinct identifiers that the per-item function copies into its
    result (the tree id of `BipartitionStats`), every maximal run of a clean recording pool delivers
    exactly one result per identifier of the stream. -/
theorem pool_one_record_per_id (F : PoolFacts) (hF : F.exitsWithoutDone = [] ∧ F.unsyncSharedWrites = [] ∧ F.producerLeaks = [])
    (f : α → β) (stops : α → Bool) (w : Nat) (hw : 1 ≤ w) (cap : Nat) (inp : List α)
    (hE : F.earlyExits = [] ∨ ∀ x ∈ inp, stops x = false)
    (key : α → Nat) (keyOut : β → Nat) (hkey : ∀ x, keyOut (f x) = key x) (hn : (inp.map key).Nodup)
    (s : PState α β) (hR : Reachable F f stops (init w cap inp) s) (hT : Terminal F f stops s) :
    (s.out.map keyOut).Perm (inp.map key) ∧ (s.out.map keyOut).Nodup := by
  have hp := (pool_normal_form_complete_anycap hF hw hE hR hT).2
  have h1 : (s.out.map keyOut).Perm (inp.map key) := by
    have := hp.map keyOut
    simpa [List.map_map, Function.comp_def, hkey] using this
  exact ⟨h1, (h1.nodup_iff).mpr hn⟩

/-- The ORDER in which the caller receives the results of a recording pool (every shape without early
    exit, clean or not; every schedule): the input channel is a queue and each of the `w` workers holds
    at most one item, so the result of the item at position `k` of the stream is never delivered before
    `k - w + 1` others: if it is the `j`-th delivery (`s.done.reverse` is the delivery order), `k < j + w`.
    This is the schedule-DEPENDENT observation the driver compares with the order in which the real
    pools deliver their records (`orderOK`); with one worker the order is the order of the stream
    (`pool_single_worker_sequential`). -/
theorem pool_arrival_window (F : PoolFacts) (hE : F.earlyExits = []) (f : α → β) (stops : α → Bool) (w cap : Nat)
    (inp : List α) (hn : inp.Nodup) (s : PState α β) (hR : Reachable F f stops (init w cap inp) s)
    (j k : Nat) (x : α) (hj : s.done.reverse[j]? = some x) (hk : inp[k]? = some x) : k < j + w := by
  have hI := reachable_inv hR
  have hW := reachable_win hn hR
  have hd : s.dropped = [] := hI.droppedEarly (by simp [PoolFacts.shape, hE])
  have := hW.win j x k hj hk
  rw [hd] at this
  simpa using this

end Collectors

/-! ## The repaired defects, on the shapes the pinned tree had -/


theorem fbp_pinned_fails :
    ∃ (inp : List Nat) (s : PState Nat Nat), Reachable fbpPinned id (fun _ => true) (init 1 1 inp) s ∧
      Terminal fbpPinned id (fun _ => true) s ∧ s.closed = false :=
  pool_leak_deadlocks fbpPinned (by decide) id (fun _ => true) 0 rfl


/-- two workers, two trees: the record of tree 1 is computed from the edges of tree 2 -/
theorem compareWeighted_pinned_fails :
    (runToEnd compareWeightedPinned.shape id (fun _ => false) 2 1 [1, 2] [(3, 0), (0, 0), (3, 0), (1, 0), (0, 2)]).closed = true ∧
    ¬ (runToEnd compareWeightedPinned.shape id (fun _ => false) 2 1 [1, 2] [(3, 0), (0, 0), (3, 0), (1, 0), (0, 2)]).out.Perm ([1, 2].map id) := by
  have h : (runToEnd compareWeightedPinned.shape id (fun _ => false) 2 1 [1, 2] [(3, 0), (0, 0), (3, 0), (1, 0), (0, 2)]).out = [2, 2] := by decide
  refine ⟨by decide, ?_⟩
  rw [h]
  intro hp
  have := hp.mem_iff (a := 1)
  simp at this


theorem reader_leak_fails :
    ∃ (s : PState Nat Nat), Reachable readerPinned id (fun _ => false) (init 1 1 []) s ∧
      Terminal readerPinned id (fun _ => false) s ∧ s.closed = false :=
  producer_leak_deadlocks readerPinned (by decide) id (fun _ => false)

/-! ## The shared hash map (`hashmap/hashmap.go`, Model/C11HashMap.lean)

  Every exported method holds the map's lock for its whole body (`table_hashmap_all_locked`), so a
  concurrent history is an interleaving of WHOLE calls: a list of operations.  The theorems below are
  about every such list, every initial capacity (powers of two or not — the callers pass `2·#edges`),
  every load factor and every hash function. -/

/-- `NewHashMap` establishes the representation invariant (for a size of 0 too: one bucket) -/
theorem hashmap_new_wf {κ ν : Type} [DecidableEq κ] (hash : κ → Nat) (size lfNum lfDen : Nat) :
    HM.WF hash (HM.new size lfNum lfDen : HM.HMap κ ν) ∧ HM.entries (HM.new size lfNum lfDen : HM.HMap κ ν) = [] :=
  ⟨HM.new_wf hash size lfNum lfDen, HM.new_entries size lfNum lfDen⟩

/-- `Value` never indexes outside `mapArray` and answers the association-list lookup -/
theorem hashmap_value_is_lookup {κ ν : Type} [DecidableEq κ] (hash : κ → Nat) (m : HM.HMap κ ν) (hw : HM.WF hash m) (k : κ) :
    HM.value hash m k = .ok (HM.lookup (HM.entries m) k) := HM.value_eq hw k

/-- `PutValue` (with its `rehash`) never panics, keeps the invariant, is the association-list update, and
    adds the key to `Keys` exactly when it was not stored -/
theorem hashmap_putValue_spec {κ ν : Type} [DecidableEq κ] (hash : κ → Nat) (m : HM.HMap κ ν) (hw : HM.WF hash m) (k : κ) (v : ν) :
    ∃ m', HM.putValue hash m k v = .ok m' ∧ HM.WF hash m' ∧
      (∀ k', HM.lookup (HM.entries m') k' = if k' = k then some v else HM.lookup (HM.entries m) k') ∧
      ((HM.entries m').map Prod.fst).Perm
        (if k ∈ (HM.entries m).map Prod.fst then (HM.entries m).map Prod.fst else k :: (HM.entries m).map Prod.fst) :=
  HM.putValue_spec hw k v

/-- `rehash` alone: no panic, the invariant holds of the result (doubled or unchanged), same entries up to order -/
theorem hashmap_rehash_spec {κ ν : Type} [DecidableEq κ] (hash : κ → Nat) (m : HM.HMap κ ν) (hw : HM.WF hash m) :
    ∃ m', HM.rehash hash m = .ok m' ∧ HM.WF hash m' ∧ (HM.entries m').Perm (HM.entries m) := HM.rehash_spec hw

/-- `Keys` / `KeyValues`: no index error, no nil cell, every entry once -/
theorem hashmap_keys_complete {κ ν : Type} [DecidableEq κ] (hash : κ → Nat) (m : HM.HMap κ ν) (hw : HM.WF hash m) :
    HM.keys m = .ok ((HM.entries m).map (fun kv => some kv.1)) ∧ HM.keyValues m = .ok ((HM.entries m).map some) :=
  ⟨HM.keys_eq hw, HM.cells_eq hw⟩

/-- ★ the model of the hash map meets the Spec of a history (`HM.historyOK`, the oracle of `C11.hmseq`):
    for every list of calls on a new map -/
theorem hashmap_history_meets_spec (hash : Nat → Nat) (size lfNum lfDen : Nat) (ops : List (HM.Op Nat Int)) :
    HM.historyOK [] ops (HM.runOps hash (HM.new size lfNum lfDen) ops) = true :=
  HM.runOps_meets_spec ops (HM.new_wf hash size lfNum lfDen) (by rw [HM.new_entries])

/-- ★ schedule-independence of the filling of a shared map: two interleavings of `PutValue` calls that agree
    key by key (goroutines owning disjoint keys, each in its own order) never panic and leave maps that
    answer every `Value` alike -/
theorem hashmap_interleaving_independent {κ ν : Type} [DecidableEq κ] (hash : κ → Nat) (size lfNum lfDen : Nat)
    (ops1 ops2 : List (κ × ν))
    (h : ∀ k, ops1.filter (fun o => decide (o.1 = k)) = ops2.filter (fun o => decide (o.1 = k))) :
    ∃ m1 m2, HM.putAll hash (HM.new size lfNum lfDen) ops1 = some m1 ∧ HM.putAll hash (HM.new size lfNum lfDen) ops2 = some m2 ∧
      ∀ k, HM.value hash m1 k = HM.value hash m2 k :=
  HM.putAll_interleaving (HM.new_wf hash size lfNum lfDen) ops1 ops2 h

/-- after any list of `PutValue` calls a `Value` answers the LAST value put for its key -/
theorem hashmap_value_after_puts {κ ν : Type} [DecidableEq κ] (hash : κ → Nat) (size lfNum lfDen : Nat) (ops : List (κ × ν)) :
    ∃ m', HM.putAll hash (HM.new size lfNum lfDen) ops = some m' ∧ ∀ k, HM.value hash m' k = .ok (HM.lastPut ops k) := by
  obtain ⟨m', h1, hw, hl⟩ := HM.putAll_spec ops (HM.new_wf hash size lfNum lfDen (κ := κ) (ν := ν))
  refine ⟨m', h1, fun k => ?_⟩
  rw [HM.value_eq hw, hl k, HM.new_entries]
  cases HM.lastPut ops k <;> simp [HM.lookup]

/-- the repaired defect F36 (b2a7fc8) on the pinned shape: without the `size == 0 → 1` guard of `NewHashMap`
    the first `PutValue` on a map created with size 0 indexes an empty bucket array -/
theorem hashmap_new_pinned_fails :
    HM.putValue (fun k : Nat => k) ({ arr := [], capacity := 0, lfNum := 3, lfDen := 4, total := 0 } : HM.HMap Nat Int) 5 1 = .panic := by
  decide

-- the hypotheses are satisfiable on a map that has collided, rehashed and overwritten
example : HM.runOps (HM.intKeyHash 3) (HM.new 3 3 4) [.put 1 10, .put 4 40, .put 2 20, .put 1 11, .get 1, .get 4, .get 9, .keys] =
    [.unit, .unit, .unit, .unit, .val (some 11), .val (some 40), .val none, .keys [some 2, some 1, some 4]] := by decide

/-! ## The hypotheses are satisfiable -/

example : shapeRecord.clean := by simp [Shape.clean, shapeRecord]
example : shapeStop.clean := by simp [Shape.clean, shapeStop]
example : (runToEnd shapeRecord (fun n : Nat => n * 10) (fun _ => false) 2 1 [1, 2, 3] [(3, 0), (1, 0), (3, 0), (0, 0), (1, 0), (2, 0)]).closed = true := by decide
example : (runToEnd shapeStop (fun n : Nat => n) (fun n => n == 2) 2 2 [1, 2, 3] [(3, 0), (3, 0), (1, 0), (0, 0), (1, 0), (0, 0)]).errSet = true := by decide

-- a rendezvous run (capacity 0): two workers, three items, every send is a hand-over to a waiting worker
example : (runToEnd shapeRecord (fun n : Nat => n * 10) (fun _ => false) 2 0 [1, 2, 3] [(1, 0), (0, 0), (1, 0), (0, 0)]).closed = true ∧
    (runToEnd shapeRecord (fun n : Nat => n * 10) (fun _ => false) 2 0 [1, 2, 3] [(1, 0), (0, 0), (1, 0), (0, 0)]).out.length = 3 := by decide

end Gotree.C11

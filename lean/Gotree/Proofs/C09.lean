/-
  C09 — the property theorems (DESIGN §6 C09).  Everything is about the model
  functions of `Gotree/Model/C09.lean` that the driver runs against the code
  (`consensus`, and inside it `countAll`/`addCount`, `selectEntries`, `floorCut`,
  `applyEntry`, `insertSplit`, `setTipLen`).

  Vocabulary (Model/C09.lean, "Vocabulary"): for a collection `ts`, `index ts` is the
  edge index the counting loop builds, `count ts k` the number of trees containing the
  bipartition with bitset `k` (naive table over the branch lists of the unrooted
  trees), `freq = count / n`, `meanLen` the mean of the lengths of the branch over the
  trees containing it, `selected ord ts c` the rows inserted into the star tree.
  `ord` is the iteration order of the hash map (`KeyValues()`): any permutation.

  Inventory
    thresholds        threshold_floor, cutoff_range_err
    counting          consensus_inserts_selected, index_is_frequency_table, index_complete,
                      count_le_trees
    ★ selection       selected_exact
    values            support_eq_freq, length_eq_mean, applyEntry_values, tip_length_update
    invariance        count_order_independent, count_perm, count_presentation_independent,
                      child_order_independent, reroot_independent, rooting_independent,
                      rooting_tip_independent, consensus_presentation_independent,
                      consensus_order_independent, consensus_presentation_meets_oracle,
                      consensus_reroot_independent (arbitrary re-rooting paths, C05's `reroot`)
    rejection         different_taxa_err
    insertion         consensus_splits_partial (one insertion keeps everything, adds at most the
                      new branch), Lemmas: insertSplit_adds (it does add it when compatible)
    ★★ the whole      consensus_splits (for compatible rows), selected_compatible (they are),
                      consensus_exact, consensus_exact_spec (in the Spec's terms)
    bridge to Spec    spec_count_bridge, spec_row_bridge, spec_len_bridge
    ★★★ oracle        consensus_meets_oracle (splitsOK, supportsOK, lengthsOK of the model's output)
    F34               root_split_pinned_fails
    single-child      single_child_pinned_fails (pinned variant of the defect repaired by 5dad91e)
    tip-rooted inputs consensus_tip_root, consensus_tip_rooted_meets_oracle, tip_rooted_accepted (5a3a76a)
    float64 product   fma_cut_exact, consensus_fma_cut (abstract rounding: monotone, fixes every integer — NOT
                      the driver's `roundF64`, which fixes only 0 ≤ k < 2^53), consensusCut_floorCut,
                      float_product_pinned_fails; for the rounding the driver runs: cutNow_exact,
                      consensusNow_eq_consensus (thresholds in [0,1], fewer than 2^52 trees)
    non-finite thr.   consensusThr_fin, nonfinite_threshold_rejected, nan_threshold_pinned_fails (def0221)
    oracle clause     oracle_lengths_where_defined
    error records     (the channel `<-chan tree.Trees` with `Trees.Err` items, Model/C09Items.lean)
                      consensusItems_trees, consensusItems_bad_never_ok, consensusItems_input_err,
                      consensusItems_taxa_before_record, skip_bad_items_wrong,
                      consumedItems_range, consumedItems_all (what has been read from the channel)
    output text       newick_text_witness (Model/C09Text.lean: the writer and the lexer the driver applies
                      to the text written by cmd/consensus.go)
    source facts      in Proofs/C09Tables.lean (nothing in this file depends on a generated table)
  `consensus_splits_partial` is, despite its name, the complete one-step lemma `insertSplit_spec`
  (not a partial result); the whole loop is `consensus_exact` / `consensus_meets_oracle`.

  Hypotheses are `Bool` predicates the driver evaluates and reports as tags:
  `domB` (hyp-dom), `lensOK` (hyp-lensok), `noRepeat` (hyp-norepeat, a consequence of
  `domB`), `selOK` (hyp-selok, a consequence of `domB` and `1/2 ≤ c`), `C09S.keysOK` (hyp-keys).
-/
import Gotree.Lemmas.C09
import Gotree.Lemmas.C09Rooting
import Gotree.Lemmas.C09Loop
import Gotree.Lemmas.C09Dom
import Gotree.Lemmas.C09Bridge
import Gotree.Lemmas.C09BridgeLen
import Gotree.Lemmas.C09Oracle
import Gotree.Lemmas.C09Reroot
import Gotree.Lemmas.C09Float
import Gotree.Lemmas.C09Items
import Gotree.Model.C09Text

namespace Gotree.C09
open Gotree

/-! ### thresholds -/

/-- `⌊c·n⌋ < k ↔ c < k/n`: comparing a count with the truncated product is
    comparing the frequency with the threshold. -/
theorem threshold_floor (c : Rat) (n k : Nat) (hc : 0 ≤ c) (hn : 0 < n) :
    floorCut c n < k ↔ c < (k : Rat) / (n : Rat) :=
  floorCut_lt_iff_freq c n k hc hn

/-- Thresholds outside `[1/2, 1]` are rejected, whatever the collection. -/
theorem cutoff_range_err (ord : List Entry → List Entry) (ts : List T) (c : Rat)
    (h : c < 1/2 ∨ 1 < c) : consensus ord ts c = .err "range" := by
  unfold consensus consensusG
  have : (decide (c < 1/2) || decide (c > 1)) = true := by
    rcases h with h | h <;> simp [h]
  rw [if_pos this]

/-! ### what is counted -/

/-- When the counting loop succeeds, `Consensus` inserts exactly the rows
    `selected ord ts c` of the index into the star tree of the first tree. -/
theorem consensus_inserts_selected (ord : List Entry → List Entry) (ts : List T) (c : Rat)
    (hc : 1/2 ≤ c ∧ c ≤ 1) (hdeg : ∀ t ∈ ts, 2 ≤ t.kids.length)
    (cn : Counted) (h : countAll true true ts = .ok (some cn)) :
    consensus ord ts c =
      match applyAll cn.alltips ts.length (starOf cn.first) (selected ord ts c) with
      | .ok r => .ok r
      | .error w => .err w := by
  obtain ⟨_, hn, hidx, _, _⟩ := countAll_index ts cn h
  unfold consensus consensusG consensusCore
  rw [map_rerootTip_of_deg ts hdeg, if_neg (by simp [range_ok hc]), if_neg (by simp [any_deg_lt hdeg]), h]
  simp only [selected, hn, hidx]
  rfl

/-- The index is the naive frequency table: each row carries the number of trees
    containing its bipartition and the sum of the lengths of that branch. -/
theorem index_is_frequency_table (ts : List T) (hr : noRepeat ts = true) (x : Entry) (hx : x ∈ index ts) :
    x.count = count ts x.key ∧ x.len = lenM (univOf ts) (trees ts) x.key ∧ 0 < x.count :=
  let h := buildIdx_entry (univOf ts) (trees ts) (noRepeat_trees ts hr) x hx
  ⟨h.1, h.2, (buildIdx_inv (univOf ts) (trees ts)).pos x hx⟩

/-- Every bipartition of every tree has a row, and no bipartition has two. -/
theorem index_complete (ts : List T) :
    (∀ u ∈ trees ts, ∀ kl ∈ edgeKeys (univOf ts) u, ∃ x ∈ index ts, eqc (univOf ts) x.key kl.1 = true) ∧
    ((index ts).map (·.key)).Pairwise (fun a b => eqc (univOf ts) a b = false) :=
  ⟨fun u hu kl hkl => buildIdx_cover _ _ u hu kl hkl, buildIdx_distinct _ _⟩

/-- A bipartition is in at most all the trees. -/
theorem count_le_trees (ts : List T) (k : List String) : count ts k ≤ ts.length := by
  have := countM_le (univOf ts) (trees ts) k
  simpa [count, trees] using this

/-! ### ★ selection -/

/-- ★ A row is inserted iff its bipartition's frequency is strictly greater than
    the threshold or it occurs in every tree. -/
theorem selected_exact (ord : List Entry → List Entry) (hord : ∀ l, (ord l).Perm l)
    (ts : List T) (hne : ts ≠ []) (c : Rat) (hc : 1/2 ≤ c ∧ c ≤ 1)
    (hr : noRepeat ts = true) (x : Entry) :
    x ∈ selected ord ts c ↔
      x ∈ index ts ∧ (c < freq ts x.key ∨ count ts x.key = ts.length) := by
  have hn : 0 < ts.length := List.length_pos_iff.2 hne
  have hc0 : (0 : Rat) ≤ c := Rat.le_trans (by decide +kernel) hc.1
  unfold selected selectEntries
  rw [List.mem_filter, (hord (index ts)).mem_iff, keep_iff c ts.length hc0 hn]
  constructor
  · rintro ⟨hx, hk⟩
    have hcount := (index_is_frequency_table ts hr x hx).1
    refine ⟨hx, ?_⟩
    unfold freq
    rw [← hcount]
    rcases hk with ⟨h1, _⟩ | h1
    · exact Or.inl h1
    · exact Or.inr h1
  · rintro ⟨hx, hk⟩
    have hcount := (index_is_frequency_table ts hr x hx).1
    have hle := count_le_trees ts x.key
    refine ⟨hx, ?_⟩
    unfold freq at hk
    rw [← hcount] at hk hle
    rcases hk with h1 | h1
    · exact Or.inl ⟨h1, hle⟩
    · exact Or.inr h1

/-! ### support and length -/

/-- The support handed to `AddBipartition` is the frequency of the bipartition. -/
theorem support_eq_freq (ts : List T) (hr : noRepeat ts = true) (x : Entry) (hx : x ∈ index ts) :
    (x.count : Rat) / (ts.length : Rat) = freq ts x.key := by
  unfold freq; rw [(index_is_frequency_table ts hr x hx).1]

/-- The length handed to `AddBipartition` / `SetLength` is the mean of the lengths
    of the branch over the trees containing the bipartition. -/
theorem length_eq_mean (ts : List T) (hr : noRepeat ts = true) (x : Entry) (hx : x ∈ index ts) :
    x.len / (x.count : Rat) = meanLen ts x.key := by
  obtain ⟨h1, h2, _⟩ := index_is_frequency_table ts hr x hx
  unfold meanLen; rw [h1, h2, ← h1]

/-- What one iteration of the insertion loop does with a row of the index: an
    inner bipartition is inserted with (mean length, frequency); a tip branch
    gets the mean length. -/
theorem applyEntry_values (ts : List T) (hr : noRepeat ts = true) (x : Entry) (hx : x ∈ index ts)
    (alltips : List String) (star : T) :
    (2 ≤ (alltips.filter x.key.contains).length →
      applyEntry alltips ts.length star x =
        insertSplit (alltips.filter x.key.contains) (meanLen ts x.key) (freq ts x.key) star) ∧
    (∀ a, alltips.filter x.key.contains = [a] → star.tipNames.contains a = true →
      applyEntry alltips ts.length star x = .ok (setTipLen a (meanLen ts x.key) star)) := by
  have hs := support_eq_freq ts hr x hx
  have hl := length_eq_mean ts hr x hx
  constructor
  · intro h2
    unfold applyEntry
    simp only [hs, hl]
    rw [if_neg (by omega)]
  · intro a ha hmem
    unfold applyEntry
    simp only [hl, ha, List.length_singleton, Nat.lt_add_one, if_true, hmem]

/-! ### order of the trees -/

/-- Permuting the trees does not change the table: every row of one index has a
    row in the other with the same bipartition, the same count and the same
    length sum (the stored key may be the complementary presentation). -/
theorem count_order_independent (all : List String) (us us' : List T) (hp : us.Perm us')
    (x : Entry) (hx : x ∈ buildIdx all us) :
    ∃ y ∈ buildIdx all us', eqc all y.key x.key = true ∧ y.count = x.count ∧ y.len = x.len :=
  inv_perm (buildIdx_inv all us) (buildIdx_inv all us') (flatMap_perm all hp) x hx

/-- … and neither the count nor the length sum of any bipartition. -/
theorem count_perm (all : List String) (us us' : List T) (hp : us.Perm us') (k : List String) :
    countM all us k = countM all us' k ∧ lenM all us k = lenM all us' k :=
  ⟨hp.countP_eq _, sumR_perm (hp.map _)⟩

/-! ### child order and rooting of the input trees -/

/-- The table depends on each tree only through its branch list up to order and
    complement: if the trees of two collections correspond one to one with
    equivalent branch lists (`LEq`), every row of one index has a row in the other
    with the same bipartition, count and length sum. -/
theorem count_presentation_independent (all : List String) (us us' : List T)
    (h : F2 (fun u u' => LEq all (edgeKeys all u) (edgeKeys all u')) us us')
    (x : Entry) (hx : x ∈ buildIdx all us) :
    ∃ y ∈ buildIdx all us', eqc all y.key x.key = true ∧ y.count = x.count ∧ y.len = x.len :=
  inv_equiv (buildIdx_inv all us) (buildIdx_inv all us') (flat_LEq all h) x hx

/-- The same from the equivalence of the two flattened branch lists (which also covers a
    permutation of the trees, `flatMap_perm`, and any combination). -/
theorem count_presentation_independent_flat (all : List String) (us us' : List T)
    (h : LEq all (us.flatMap (edgeKeys all)) (us'.flatMap (edgeKeys all)))
    (x : Entry) (hx : x ∈ buildIdx all us) :
    ∃ y ∈ buildIdx all us', eqc all y.key x.key = true ∧ y.count = x.count ∧ y.len = x.len :=
  inv_equiv (buildIdx_inv all us) (buildIdx_inv all us') h x hx

/-- Reordering the children of every node (any function `f` that permutes each
    child list) gives the same branch list. -/
theorem child_order_independent (all : List String) (f : Kids → Kids) (hf : ∀ k, (f k).Perm k) (t : T) :
    LEq all (edgeKeys all t) (edgeKeys all (rotT f t)) :=
  LEq.of_perm (rot_keys all f hf t).symm

/-- Moving the root to a neighbouring inner node (`Reroot` by one branch) gives an
    equivalent branch list: the moved branch is seen from its other side. -/
theorem reroot_independent (all : List String) (t : T) (i : Nat) (h3 : 3 ≤ t.kids.length)
    (hnd : (leavesL t.kids).Nodup) (hall : ∀ x ∈ all, x ∈ leavesL t.kids) :
    LEq all (edgeKeys all t) (edgeKeys all (moveRoot t i)) :=
  moveRoot_LEq all t i h3 hnd hall

/-- A rooted presentation (the root placed on a branch `e`, its length shared
    between the two root branches) is counted, after `unroot`, as the unrooted tree:
    the root bipartition once, with the whole length (repaired F34). -/
theorem rooting_independent (all : List String) (dr d1 d2 : NodeD) (pr p1 p2 p1' : Nat) (k1 k2 : Kids)
    (e e1 e2 : EdgeD) (hk1 : k1 ≠ []) (hlen : e1.len ≠ NIL ∨ e2.len ≠ NIL)
    (hsum : max0 e1.len + max0 e2.len = e.len) :
    edgeKeys all (unroot (.node dr pr [(e1, .node d1 p1 k1), (e2, .node d2 p2 k2)])) =
      edgeKeys all (.node d1 p1' (k1 ++ [(e, .node d2 p2 k2)])) :=
  unroot_rooting_keys all dr d1 d2 pr p1 p2 p1' k1 k2 e e1 e2 hk1 hlen hsum

/-- The same when the first child of the root is a tip (a tip hanging off the root). -/
theorem rooting_tip_independent (all : List String) (dr d1 d2 : NodeD) (pr p1 p2 p2' p1' : Nat) (k2 : Kids)
    (e e1 e2 : EdgeD) (hlen : e1.len ≠ NIL ∨ e2.len ≠ NIL)
    (hsum : max0 e1.len + max0 e2.len = e.len) :
    edgeKeys all (unroot (.node dr pr [(e1, .node d1 p1 []), (e2, .node d2 p2 k2)])) =
      edgeKeys all (.node d2 p2' (k2 ++ [(e, .node d1 p1' [])])) :=
  unroot_rooting_tip_keys all dr d1 d2 pr p1 p2 p2' p1' k2 e e1 e2 hlen hsum

/- the hypotheses of `reroot_independent` hold on the first example tree, for its tip index -/
example : 3 ≤ exU1.kids.length ∧ (leavesL exU1.kids).Nodup ∧
    ∀ x ∈ univOf exColl, x ∈ leavesL exU1.kids := by decide +kernel
example : (moveRoot exU1 0).tipNames = ["a", "b", "c", "d", "e"] := by decide +kernel

/-! ### differing taxa -/

/-- A collection in which some tree has other tips than the first one is rejected
    (`norm` = single-child nodes removed, then unrooted; all trees with unique tip names
    and a root of degree ≥ 2 also after `norm`). -/
theorem different_taxa_err (ord : List Entry → List Entry) (t : T) (r : List T) (c : Rat)
    (hc : 1/2 ≤ c ∧ c ≤ 1)
    (hdeg : ∀ u ∈ t :: r, 2 ≤ u.kids.length ∧ 2 ≤ (norm u).kids.length)
    (hnd : ∀ u ∈ t :: r, (norm u).tipNames.Nodup)
    (hdiff : ∃ u ∈ r, ¬ (norm u).tipNames.Perm (norm t).tipNames) :
    consensus ord (t :: r) c = .err "taxa" := by
  unfold consensus consensusG consensusCore
  rw [map_rerootTip_of_deg (t :: r) (fun u hu => (hdeg u hu).1), if_neg (by simp [range_ok hc]),
    if_neg (by simp [any_deg_lt fun u hu => (hdeg u hu).1]),
    countAll_taxa t r (fun u hu => (hdeg u hu).2) hnd hdiff]

/-! ### the consensus tree has exactly the selected rows as branches -/

/-- `consensus_splits`, for rows that are pairwise compatible (`selOK`, a `Bool`
    the driver evaluates on every valid case: every selected row is a tip branch or
    has two tips on each side, no two rows have the same side, the inner ones are
    pairwise compatible and different).  Then `Consensus` succeeds and in its result
    `r` (`LoopInv`): every branch is a tip branch or an inner branch whose side is a
    side of a selected inner row and that carries exactly that row's
    `(len/count, count/n)` — which are the mean length and the frequency by
    `length_eq_mean` / `support_eq_freq`, and the selected rows are those with
    frequency above the threshold or in every tree by `selected_exact`; every
    selected inner row has its branch; every tip branch of a selected tip row has
    the row's mean length; the leaves are those of the first tree. -/
theorem consensus_splits (ord : List Entry → List Entry) (ts : List T) (c : Rat)
    (hc : 1/2 ≤ c ∧ c ≤ 1) (hdeg : ∀ t ∈ ts, 2 ≤ t.kids.length)
    (cn : Counted) (hcn : countAll true true ts = .ok (some cn)) (hdeg1 : 2 ≤ cn.first.kids.length)
    (hsel : selOK (starOf cn.first).tipNames cn.alltips (selected ord ts c) = true) :
    ∃ r, consensus ord ts c = .ok r ∧
      LoopInv (starOf cn.first).tipNames r
        (innerRows cn.alltips ts.length (selected ord ts c)) (tipRows cn.alltips (selected ord ts c)) := by
  obtain ⟨_, _, _, hfirst, halt, hnd, h2⟩ := countAll_index ts cn hcn
  obtain ⟨r, hr, inv⟩ := consensus_loop cn.first cn.alltips ts.length (selected ord ts c) hnd hdeg1 h2
    (by rw [halt, hfirst]) hsel
  refine ⟨r, ?_, inv⟩
  rw [consensus_inserts_selected ord ts c hc hdeg cn hcn, hr]

/- the hypotheses hold on the example collection (majority rule: two inner rows) -/
example : (match countAll true true exColl with
    | .ok (some cn) => decide (2 ≤ cn.first.kids.length) &&
        selOK (starOf cn.first).tipNames cn.alltips (selected id exColl (1/2))
    | _ => false) = true := by decide +kernel
example : (match countAll true true exColl with
    | .ok (some cn) => innerRows cn.alltips exColl.length (selected id exColl (1/2))
    | _ => []) = [(["a", "b"], 2, 2/3), (["d", "e"], 1, 1)] := by decide +kernel

/-! ### ★★ the full statement on the property's domain -/

/-- With a threshold in `[1/2, 1]`, the rows selected from a collection of the
    domain are pairwise compatible (two bipartitions each in more than half of the
    trees share a tree, whose clades are nested or disjoint): `selOK` holds. -/
theorem selected_compatible (ord : List Entry → List Entry) (hord : ∀ l, (ord l).Perm l) (ts : List T) (c : Rat)
    (hc : 1/2 ≤ c ∧ c ≤ 1) (hdom : domB ts = true) :
    selOK (leavesL (norm ts.head!).kids) (leavesL (norm ts.head!).kids) (selected ord ts c) = true :=
  selOK_of_dom ord hord ts c hc (dom_of_domB ts hdom)

/-- ★★ `Consensus` on a collection of the property's domain (`domB`: non-empty, after
    `norm` every root of degree ≥ 3, no single-child inner node, unique leaves, the
    same leaves in every tree) and a threshold in `[1/2, 1]`, for every
    iteration order `ord` of the hash map: it succeeds, and in the result `r`
    * every branch is a tip branch, or an inner branch whose side is a side of a row
      `x` of the index with `c < freq x ∨ count x = n`, carrying the mean length and
      the frequency of `x`;
    * every such row with at least two tips on its stored side has its inner branch;
    * the tip branch of every such row with one tip has the row's mean length;
    * the leaves are the leaves of the first tree;
    * there are exactly as many inner branches as selected rows with two tips on their
      stored side (no bipartition twice, none missing). -/
theorem consensus_exact (ord : List Entry → List Entry) (hord : ∀ l, (ord l).Perm l) (ts : List T) (c : Rat)
    (hc : 1/2 ≤ c ∧ c ≤ 1) (hdom : domB ts = true) :
    ∃ r, consensus ord ts c = .ok r ∧
      (∀ s ∈ r.splits, (∃ a, s.below = [a]) ∨
        (s.tip = false ∧ ∃ x ∈ index ts, (c < freq ts x.key ∨ count ts x.key = ts.length) ∧
          2 ≤ (rowNames (leavesL (norm ts.head!).kids) x).length ∧
          SameSide (leavesL (norm ts.head!).kids) s.below (rowNames (leavesL (norm ts.head!).kids) x) ∧
          s.e.len = meanLen ts x.key ∧ s.e.sup = freq ts x.key)) ∧
      (∀ x ∈ index ts, (c < freq ts x.key ∨ count ts x.key = ts.length) →
        2 ≤ (rowNames (leavesL (norm ts.head!).kids) x).length →
        ∃ s ∈ r.splits, s.tip = false ∧
          SameSide (leavesL (norm ts.head!).kids) s.below (rowNames (leavesL (norm ts.head!).kids) x) ∧
          s.e.len = meanLen ts x.key ∧ s.e.sup = freq ts x.key) ∧
      (∀ x ∈ index ts, (c < freq ts x.key ∨ count ts x.key = ts.length) →
        ∀ a, rowNames (leavesL (norm ts.head!).kids) x = [a] →
        ∀ s ∈ r.splits, s.below = [a] → s.tip = true → s.e.len = meanLen ts x.key) ∧
      (leavesL r.kids).Perm (leavesL (norm ts.head!).kids) ∧
      ni r.splits = ((selected ord ts c).filter fun x =>
        decide (2 ≤ (rowNames (leavesL (norm ts.head!).kids) x).length)).length := by
  have hd := dom_of_domB ts hdom
  obtain ⟨cn, hcn, hdeg1, htips, halltips⟩ := dom_counted ts hd
  have hsel := selOK_of_dom ord hord ts c hc hd
  obtain ⟨r, hr, inv⟩ := consensus_splits ord ts c hc (deg_of_domB ts hdom) cn hcn hdeg1
    (by rw [htips, halltips]; exact hsel)
  rw [htips, halltips] at inv
  have hnr := hd.norepeat
  have hsx := selected_exact ord hord ts hd.ne c hc hnr
  have hcount := inner_count _ _ ts.length (selected ord ts c) r _ (fun a h => h) hsel inv
  refine ⟨r, hr, ?_, ?_, ?_, inv.perm, by rw [hcount]; unfold innerRows; rw [List.length_map]⟩
  · intro s hs
    rcases inv.j1 s hs with h | ⟨htip, p, hp, hss, hl, hsu⟩
    · exact Or.inl h
    · right
      obtain ⟨x, hx, hx2, rfl⟩ := mem_innerRows.1 hp
      obtain ⟨hxi, hxs⟩ := (hsx x).1 hx
      exact ⟨htip, x, hxi, hxs, hx2, hss, by rw [hl]; exact length_eq_mean ts hnr x hxi,
        by rw [hsu]; exact support_eq_freq ts hnr x hxi⟩
  · intro x hxi hxs h2x
    have hx := (hsx x).2 ⟨hxi, hxs⟩
    obtain ⟨s, hs, htip, hss, hl, hsu⟩ := inv.j2 _ (mem_innerRows.2 ⟨x, hx, h2x, rfl⟩)
    exact ⟨s, hs, htip, hss, by rw [hl]; exact length_eq_mean ts hnr x hxi,
      by rw [hsu]; exact support_eq_freq ts hnr x hxi⟩
  · intro x hxi hxs a ha s hs hb htip
    have hx := (hsx x).2 ⟨hxi, hxs⟩
    have := inv.j3 _ (mem_tipRows_of hx ha) s hs hb htip
    rw [this]; exact length_eq_mean ts hnr x hxi

/- the example collection is in the domain -/
example : domB exColl = true := by decide +kernel
/- … and so is the collection with single-child inner nodes (they are removed by `norm`) -/
example : domB exSingle = true ∧ ¬ (∀ t ∈ exSingle, okBelowL t.kids = true) := by decide +kernel

/-! ### the consensus does not depend on the presentation of the collection -/

/-- Two collections of the domain, with as many trees, whose flattened branch lists are
    equivalent (`LEq`: the same bipartitions with the same lengths — which holds when
    the trees are permuted (`flatMap_perm`), or correspond one to one (`flat_LEq`) with
    their children reordered (`child_order_independent`), their root moved
    (`reroot_independent`) or placed on a branch (`rooting_independent`)), over the
    same tip index: both
    runs succeed, with any bucket orders, and every inner branch of one result has a
    counterpart in the other on the same bipartition with the same length and the
    same support. -/
theorem consensus_presentation_independent (ord ord' : List Entry → List Entry)
    (hord : ∀ l, (ord l).Perm l) (hord' : ∀ l, (ord' l).Perm l) (ts ts' : List T) (c : Rat)
    (hc : 1/2 ≤ c ∧ c ≤ 1) (hdom : domB ts = true) (hdom' : domB ts' = true)
    (hu : univOf ts' = univOf ts) (hlen : ts.length = ts'.length)
    (hE : LEq (univOf ts) ((trees ts).flatMap (edgeKeys (univOf ts)))
      ((trees ts').flatMap (edgeKeys (univOf ts)))) :
    ∃ r r', consensus ord ts c = .ok r ∧ consensus ord' ts' c = .ok r' ∧
      ∀ s ∈ r.splits, (∀ a, s.below ≠ [a]) →
        ∃ s' ∈ r'.splits, s'.tip = false ∧
          SameSide (leavesL (norm ts.head!).kids) s'.below s.below ∧
          s'.e.len = s.e.len ∧ s'.e.sup = s.e.sup := by
  obtain ⟨r, hr, P1, _, _, _, _⟩ := consensus_exact ord hord ts c hc hdom
  obtain ⟨r', hr', _, P2', _, _, _⟩ := consensus_exact ord' hord' ts' c hc hdom'
  refine ⟨r, r', hr, hr', ?_⟩
  have hd := dom_of_domB ts hdom
  have hd' := dom_of_domB ts' hdom'
  have hT := hd.nodup _ hd.head_mem
  have hT' := hd'.nodup _ hd'.head_mem
  have hut := hd.mem_univOf
  have hut' : ∀ a, a ∈ univOf ts ↔ a ∈ leavesL (norm ts'.head!).kids := fun a => by
    rw [← hu]; exact hd'.mem_univOf a
  have hsel := selOK_of_dom ord hord ts c hc hd
  generalize leavesL (norm ts.head!).kids = tips at *
  generalize leavesL (norm ts'.head!).kids = tips' at *
  have hmm : ∀ a, a ∈ tips ↔ a ∈ tips' := fun a => (hut a).symm.trans (hut' a)
  have hperm : tips.Perm tips' := (List.perm_ext_iff_of_nodup hT hT').2 hmm
  have hnr := hd.norepeat
  have hnr' := hd'.norepeat
  intro s hs hns
  rcases P1 s hs with ⟨a, ha⟩ | ⟨_, x, hx, hxs, hx2, hss, hl, hsu⟩
  · exact absurd ha (hns a)
  · -- the corresponding row of the other index
    have hidx' : index ts' = buildIdx (univOf ts) (trees ts') := by
      unfold index; rw [hu]
    obtain ⟨y, hy, hye, hyc, hyl⟩ := count_presentation_independent_flat (univOf ts)
      (trees ts) (trees ts') hE x hx
    rw [← hidx'] at hy
    have fx := support_eq_freq _ hnr x hx
    have fy := support_eq_freq _ hnr' y hy
    have mx := length_eq_mean _ hnr x hx
    have my := length_eq_mean _ hnr' y hy
    have cx := (index_is_frequency_table _ hnr x hx).1
    have cy := (index_is_frequency_table _ hnr' y hy).1
    have hfreq : freq ts' y.key = freq ts x.key := by
      rw [← fx, ← fy, hyc, hlen]
    have hmean : meanLen ts' y.key = meanLen ts x.key := by
      rw [← mx, ← my, hyc, hyl]
    have hsely : c < freq ts' y.key ∨ count ts' y.key = ts'.length := by
      rcases hxs with h | h
      · exact Or.inl (by rw [hfreq]; exact h)
      · exact Or.inr (by rw [← cy, hyc, cx, h, hlen])
    -- sizes
    have hxsel : x ∈ selected ord ts c := (selected_exact ord hord _ hd.ne c hc hnr x).2 ⟨hx, hxs⟩
    have hxN := selOK_size hsel hxsel
    have hYX : SameSide tips' (rowNames tips' y) (rowNames tips' x) :=
      rowNames_sameSide hut' x y ((eqc_iff _ _ _).1 hye)
    have hlenx : (rowNames tips' x).length = (rowNames tips x).length := (rowNames_perm hperm x).length_eq.symm
    have hy2 : 2 ≤ (rowNames tips' y).length := by
      have : (rowNames tips' y).length = (rowNames tips' x).length ∨
          (rowNames tips' y).length + (rowNames tips' x).length = tips'.length :=
        sameSide_length hT' (hT'.filter _) (hT'.filter _)
          (fun a ha => (List.mem_filter.1 ha).1) (fun a ha => (List.mem_filter.1 ha).1) hYX
      have hNN : tips'.length = tips.length := hperm.length_eq.symm
      rw [hlenx, hNN] at this
      omega
    obtain ⟨s', hs', htip', hss', hl', hsu'⟩ := P2' y hy hsely hy2
    refine ⟨s', hs', htip', ?_, by rw [hl', hl, hmean], by rw [hsu', hsu, hfreq]⟩
    -- compose the sides
    have e1 : SameSide tips s'.below (rowNames tips' y) := SameSide.of_mem_iff (fun a => (hmm a).symm) hss'
    have e2 : SameSide tips (rowNames tips' y) (rowNames tips' x) := SameSide.of_mem_iff (fun a => (hmm a).symm) hYX
    have e3 : SameSide tips (rowNames tips' x) (rowNames tips x) :=
      Or.inl fun a _ => (rowNames_perm hperm x).mem_iff.symm
    exact (e1.trans' e2).trans' (e3.trans' hss.symm')

/-- In particular the order of the trees does not matter: for a permutation `ts'` of
    `ts` both runs succeed and every inner branch of one result has a counterpart in
    the other on the same bipartition, with the same length and the same support. -/
theorem consensus_order_independent (ord ord' : List Entry → List Entry)
    (hord : ∀ l, (ord l).Perm l) (hord' : ∀ l, (ord' l).Perm l) (ts ts' : List T) (hp : ts.Perm ts') (c : Rat)
    (hc : 1/2 ≤ c ∧ c ≤ 1) (hdom : domB ts = true) (hdom' : domB ts' = true) :
    ∃ r r', consensus ord ts c = .ok r ∧ consensus ord' ts' c = .ok r' ∧
      ∀ s ∈ r.splits, (∀ a, s.below ≠ [a]) →
        ∃ s' ∈ r'.splits, s'.tip = false ∧
          SameSide (leavesL (norm ts.head!).kids) s'.below s.below ∧
          s'.e.len = s.e.len ∧ s'.e.sup = s.e.sup := by
  have hd := dom_of_domB ts hdom
  have hd' := dom_of_domB ts' hdom'
  have hu : univOf ts' = univOf ts := by
    rw [hd.univOf_eq, hd'.univOf_eq]
    exact sortN_eq_of_perm (hd.same _ ((hp.map norm).mem_iff.2 hd'.head_mem))
  exact consensus_presentation_independent ord ord' hord hord' ts ts' c hc hdom hdom' hu hp.length_eq
    (LEq.of_perm (flatMap_perm _ (hp.map norm)))

/-! ### the theorems' table is the Spec's table (the oracle's) -/

/-- Bridge to the Spec the oracle evaluates: on the domain, the number of trees
    whose `T.usplitsAll` (Spec/Splits.lean) contains the canonical side of a set of
    tips `k` is the model-side count of the bitset of `k` (branch lists of the
    normed trees, up to complement). -/
theorem spec_count_bridge (ts : List T) (hdom : domB ts = true) (k : List String) (hk : k.Nodup) :
    C09S.count ts (canonSide (C09S.taxa ts) k) = count ts (bits (univOf ts) k) := by
  obtain ⟨h1, h2, h3, h4, h5⟩ := bridge_hyps_norm ts (dom_of_domB ts hdom)
  exact spec_count_eq_norm ts k hk h1 h2 h3 h4 h5

/-- … in particular for the rows of the index: the Spec's count and frequency of
    the canonical side of a row are the row's `count` and `freq` of
    `selected_exact` / `consensus_exact`. -/
theorem spec_row_bridge (ts : List T) (hdom : domB ts = true) (x : Entry) (hx : x ∈ index ts) :
    C09S.count ts (canonSide (C09S.taxa ts) x.key) = count ts x.key ∧
    C09S.freq ts (canonSide (C09S.taxa ts) x.key) = freq ts x.key := by
  obtain ⟨hk, hb⟩ := (dom_of_domB ts hdom).key hx
  have hc := spec_count_bridge ts hdom x.key hk
  rw [hb] at hc
  exact ⟨hc, by unfold C09S.freq freq; rw [hc]⟩

/-- The same for the lengths: when every branch length is absent or non-negative
    (`lensOK`), the Spec's length sum and mean length of the canonical side of a row
    are the row's `lenM` and `meanLen`.  (For a rooted input, and around a single-child
    node, the Spec fuses the branches of one bipartition with `fuseLen`, the code adds
    them with the `max(0,·)` rule of `UnRoot` / `RemoveSingleNodes`.) -/
theorem spec_len_bridge (ts : List T) (hdom : domB ts = true) (hl : lensOK ts = true) (x : Entry)
    (hx : x ∈ index ts) :
    C09S.lenSum ts (canonSide (C09S.taxa ts) x.key) = lenM (univOf ts) (trees ts) x.key ∧
    C09S.meanLen ts (canonSide (C09S.taxa ts) x.key) = meanLen ts x.key := by
  have hd := dom_of_domB ts hdom
  obtain ⟨hk, hb⟩ := hd.key hx
  obtain ⟨h1, h2, h3, h4, h5⟩ := bridge_hyps_norm ts hd
  have hs := spec_lenSum_eq_norm ts x.key hk h1 h2 h3 h4 h5 hd.norepeat hl
  rw [hb] at hs
  refine ⟨hs, ?_⟩
  unfold C09S.meanLen meanLen
  rw [hs, (spec_row_bridge ts hdom x hx).1]

/-- ★★ `consensus_exact` in the Spec's own terms (the quantities the oracle
    evaluates on the implementation's output): on the domain — single-child inner
    nodes and rooted inputs included — every inner branch of the model's consensus is
    a side of a row whose canonical side `cs` satisfies the Spec's selection rule
    `C09S.isSelected ts c cs`, and it carries `C09S.freq ts cs` as support and
    `C09S.meanLen ts cs` as length (lengths absent or ≥ 0); every row selected by the
    Spec's rule with two tips on its stored side has its branch. -/
theorem consensus_exact_spec (ord : List Entry → List Entry) (hord : ∀ l, (ord l).Perm l) (ts : List T) (c : Rat)
    (hc : 1/2 ≤ c ∧ c ≤ 1) (hdom : domB ts = true) (hl : lensOK ts = true) :
    ∃ r, consensus ord ts c = .ok r ∧
      (∀ s ∈ r.splits, (∃ a, s.below = [a]) ∨
        (s.tip = false ∧ ∃ x ∈ index ts,
          C09S.isSelected ts c (canonSide (C09S.taxa ts) x.key) = true ∧
          SameSide (leavesL (norm ts.head!).kids) s.below (rowNames (leavesL (norm ts.head!).kids) x) ∧
          s.e.len = C09S.meanLen ts (canonSide (C09S.taxa ts) x.key) ∧
          s.e.sup = C09S.freq ts (canonSide (C09S.taxa ts) x.key))) ∧
      (∀ x ∈ index ts, C09S.isSelected ts c (canonSide (C09S.taxa ts) x.key) = true →
        2 ≤ (rowNames (leavesL (norm ts.head!).kids) x).length →
        ∃ s ∈ r.splits, s.tip = false ∧
          SameSide (leavesL (norm ts.head!).kids) s.below (rowNames (leavesL (norm ts.head!).kids) x) ∧
          s.e.len = C09S.meanLen ts (canonSide (C09S.taxa ts) x.key) ∧
          s.e.sup = C09S.freq ts (canonSide (C09S.taxa ts) x.key)) := by
  obtain ⟨r, hr, P1, P2, _, _, _⟩ := consensus_exact ord hord ts c hc hdom
  have hsel : ∀ x ∈ index ts, (C09S.isSelected ts c (canonSide (C09S.taxa ts) x.key) = true ↔
      (c < freq ts x.key ∨ count ts x.key = ts.length)) := by
    intro x hx
    obtain ⟨h1, h2⟩ := spec_row_bridge ts hdom x hx
    unfold C09S.isSelected
    rw [h1, h2]
    simp
  refine ⟨r, hr, ?_, ?_⟩
  · intro s hs
    rcases P1 s hs with h | ⟨htip, x, hx, hxs, _, hss, hlen, hsup⟩
    · exact Or.inl h
    · right
      refine ⟨htip, x, hx, (hsel x hx).2 hxs, hss, ?_, ?_⟩
      · rw [hlen, (spec_len_bridge ts hdom hl x hx).2]
      · rw [hsup, (spec_row_bridge ts hdom x hx).2]
  · intro x hx hxs h2
    obtain ⟨s, hs, htip, hss, hlen, hsup⟩ := P2 x hx ((hsel x hx).1 hxs) h2
    refine ⟨s, hs, htip, hss, ?_, ?_⟩
    · rw [hlen, (spec_len_bridge ts hdom hl x hx).2]
    · rw [hsup, (spec_row_bridge ts hdom x hx).2]

example : lensOK exColl = true ∧ lensOK exSingle = true := by decide +kernel

/- a collection with a differing taxon (e renamed z in the second tree) is rejected -/
example : (consensus id [exU1, exRoot [exInner 1 [exTip "a" 1, exTip "b" 1], exTip "c" 2,
    exInner (1/2) [exTip "d" 1, exTip "z" 3]]] (1/2)).cls = "err" := by decide +kernel
example : (consensus id exColl (3/2)).cls = "err" ∧ (consensus id exColl (1/4)).cls = "err" := by decide +kernel

/-! ### the hypotheses are satisfiable on a non-trivial collection; concrete values -/

/- rooted and normed, binary and multifurcating, a tip hanging off the root -/
example : exColl.map (·.rooted) = [false, true, true] := by decide +kernel
example : noRepeat exColl = true := by decide +kernel
example : ∀ u ∈ exColl, 2 ≤ u.kids.length ∧ 2 ≤ (norm u).kids.length := by decide +kernel
example : ∀ u ∈ exColl, (norm u).tipNames.Nodup := by decide +kernel
/- de|abc is in all three trees, ab|cde in two of them: the majority consensus has both,
   the strict one and the one at threshold 2/3 (frequency = threshold) only the first -/
example : outValues (consensus id exColl (1/2)) =
    some [(["a", "b"], 2/3, 2), (["d", "e"], 1, 1)] := by decide +kernel
example : outSplits (consensus id exColl (2/3)) = some [["d", "e"]] := by decide +kernel
example : outSplits (consensus id exColl 1) = some [["d", "e"]] := by decide +kernel

/-! ### F34 (repaired by 8466f11): the pinned variant drops a split present in every rooted tree -/

/-- On three rooted trees `((a,b),(c,d))` the model of the code before the fix
    (rooted inputs not normed: both root branches counted, count 6 > 3) loses
    the bipartition ab|cd, which the repaired code keeps with support 1 and the
    mean of the fused root-branch lengths (3 + 1 + 4)/3. -/
theorem root_split_pinned_fails :
    outSplits (consensusPinned id exF34 1) = some [] ∧
    outValues (consensus id exF34 1) = some [(["c", "d"], 1, 8/3)] := by decide +kernel

/-! ### insertion of one bipartition (DESIGN Appendix F)

What ONE insertion does to any tree with unique tips.  The composition over the loop — the selected
bipartitions are pairwise compatible (pigeonhole on trees), so no insertion is refused or fails, and
the `IsNew` branch of each step is the bipartition of the row — is `consensus_splits` /
`consensus_exact` above. -/

/-- One run of `insertSplit names len sup` (LeastCommonAncestorUnrooted + the checks of
    Consensus + AddBipartition) that succeeds: every branch of the tree is still there
    with the same tips below, length, support and kind (`Keeps`); every branch of the
    result is one of those or is new, and a new branch carries exactly `(len, sup)`,
    joins two inner nodes, and has below it either exactly the tips of `names` or
    `n - |names|` tips none of which is in `names` (i.e. the complementary side); the
    leaves are unchanged; at most one inner branch more. -/
theorem consensus_splits_partial (names : List String) (len sup : Rat) (t t' : T)
    (hnd : t.tipNames.Nodup) (hdeg : t.kids.length ≠ 1) (hn : names.Nodup)
    (h : insertSplit names len sup t = .ok t') :
    Keeps t.splits t'.splits ∧
    (∀ s' ∈ t'.splits, Old t.splits s' ∨
      IsNew (names.filter t.tipNames.contains) (names.filter t.tipNames.contains).length
        t.tipNames.length len sup s') ∧
    (leavesL t'.kids).Perm (leavesL t.kids) ∧ (2 ≤ t.kids.length → 2 ≤ t'.kids.length) ∧
    ni t'.splits ≤ ni t.splits + 1 :=
  insertSplit_spec names len sup t t' hnd hdeg hn h

/-- The tip-length update of the loop (`t.br[0].SetLength(mean)`) changes the length
    of the tip branch of `a` and nothing else in the split list. -/
theorem tip_length_update (a : String) (v : Rat) (t : T) :
    (setTipLen a v t).splits = t.splits.map (setLenEntry a v) :=
  setTipLen_splits a v t

/- the hypotheses are satisfiable and the insertion does create the branch: de|abc into the
   star tree of the first example tree, then ab|cde (stored as its root side) into the result -/
example : (starOf (unroot exU1)).tipNames.Nodup ∧ (starOf (unroot exU1)).kids.length ≠ 1 := by decide +kernel
example : (match insertSplit ["d", "e"] 1 1 (starOf (unroot exU1)) with
    | .ok r => (r.splits.filter (!·.tip)).map (fun s => (s.below, s.e.len, s.e.sup))
    | .error _ => []) = [(["d", "e"], 1, 1)] := by decide +kernel
example : (match insertSplit ["d", "e"] 1 1 (starOf (unroot exU1)) with
    | .ok r => (match insertSplit ["c", "d", "e"] 2 (2/3) r with
      | .ok r' => (r'.splits.filter (!·.tip)).map (fun s => (s.below, s.e.len, s.e.sup))
      | .error _ => [])
    | .error _ => []) = [(["c", "d", "e"], 2, 2/3), (["d", "e"], 1, 1)] := by decide +kernel

/-! ### single-child inner nodes (repaired by 5dad91e): the pinned variant counts both branches -/

/-- On two trees `(((a,b):_):2,c,d)` with a single-child node above the clade `(a,b)`,
    the model of the code before the fix (single-child nodes kept: the two branches
    around the node are both counted, count 4 > 2) loses the bipartition ab|cd, which
    the repaired code keeps with support 1 and the mean of the added lengths
    ((1+2) + (3+2))/2. -/
theorem single_child_pinned_fails :
    outSplits (consensusPinnedSingles id exSingle (1/2)) = some [] ∧
    outValues (consensus id exSingle (1/2)) = some [(["a", "b"], 1, 4)] := by decide +kernel

/-! ### ★★★ the Spec oracle holds of the model's output -/

/-- The three Spec predicates the driver evaluates on the *implementation's* output
    (`C09S.splitsOK`, `supportsOK`, `lengthsOK`: the result read through `T.usplits` /
    `T.usplitsAll` of Spec/Splits.lean) are theorems of the *model's* output: on the domain
    (`domB`, rooted inputs and single-child nodes included), lengths absent or ≥ 0, threshold
    in `[1/2, 1]`, any bucket order, the model of `Consensus` succeeds and its tree has the
    taxa of the collection, its non-trivial unrooted splits are exactly the Spec's selected
    splits (`expectedSplits`), each with the Spec's frequency as support and the Spec's mean
    length, and every tip branch has the Spec's mean length.  `keysOK` (the printing by which
    `canonSet` sorts distinguishes the sides; it fails only for names containing ", ") is
    needed for the literal list equality in `splitsOK`. -/
theorem consensus_meets_oracle (ord : List Entry → List Entry) (hord : ∀ l, (ord l).Perm l) (ts : List T) (c : Rat)
    (hc : 1/2 ≤ c ∧ c ≤ 1) (hdom : domB ts = true) (hl : lensOK ts = true) (hkeys : C09S.keysOK ts = true) :
    ∃ r, consensus ord ts c = .ok r ∧
      C09S.splitsOK ts c r = true ∧ C09S.supportsOK ts r = true ∧ C09S.lengthsOK ts r = true := by
  have hd := dom_of_domB ts hdom
  obtain ⟨cn, hcn, hdeg1, htips, halltips⟩ := dom_counted ts hd
  have hsel := selOK_of_dom ord hord ts c hc hd
  obtain ⟨r, hr, inv⟩ := consensus_splits ord ts c hc (deg_of_domB ts hdom) cn hcn hdeg1
    (by rw [htips, halltips]; exact hsel)
  rw [htips, halltips] at inv
  have hnr := hd.norepeat
  have hsx := selected_exact ord hord ts hd.ne c hc hnr
  have hcount := inner_count _ _ ts.length (selected ord ts c) r _ (fun a h => h) hsel inv
  refine ⟨r, hr, ?_⟩
  have hfm := hd.head_mem
  have hT := hd.nodup _ hfm
  have hN3 : 3 ≤ (leavesL (norm ts.head!).kids).length := by
    have := leavesL_len (norm ts.head!).kids; have := hd.deg _ hfm; omega
  have hut := hd.mem_univOf
  have sameLeaves : ∀ u ∈ trees ts, ∀ a, a ∈ leavesL u.kids ↔ a ∈ leavesL (norm ts.head!).kids :=
    fun u hu a => (hd.same u hu).mem_iff
  generalize htd : leavesL (norm ts.head!).kids = tips at *
  obtain ⟨b1, b2, b3, b4, b5⟩ := bridge_hyps_norm ts hd
  have htaxa : (C09S.taxa ts).Perm tips :=
    (List.perm_ext_iff_of_nodup b5 hT).2 fun a => (b4 a).symm.trans (hut a)
  have selIff : ∀ x ∈ index ts, (C09S.isSelected ts c (canonSide (C09S.taxa ts) x.key) = true ↔
      (c < freq ts x.key ∨ count ts x.key = ts.length)) := by
    intro x hx
    obtain ⟨h1, h2⟩ := spec_row_bridge ts hdom x hx
    unfold C09S.isSelected
    rw [h1, h2]
    simp
  apply oracle_of_inv ts c tips ts.length (selected ord ts c) r hT hN3 htaxa inv hcount hsel
  · -- rowSpec
    intro x hx
    obtain ⟨hxi, hxs⟩ := (hsx x).1 hx
    refine ⟨(hd.key hxi).1, (selIff x hxi).2 hxs, ?_, ?_, ?_⟩
    · rw [support_eq_freq ts hnr x hxi, (spec_row_bridge ts hdom x hxi).2]
    · rw [length_eq_mean ts hnr x hxi, (spec_len_bridge ts hdom hl x hxi).2]
    · -- the canonical side occurs in some tree
      have hc1 := (spec_row_bridge ts hdom x hxi).1
      have hpos := (index_is_frequency_table ts hnr x hxi).2.2
      rw [(index_is_frequency_table ts hnr x hxi).1, ← hc1] at hpos
      unfold C09S.count at hpos
      obtain ⟨t, ht⟩ := List.exists_mem_of_length_pos hpos
      obtain ⟨ht1, ht2⟩ := List.mem_filter.1 ht
      exact mem_allSides.2 ⟨t, ht1, (usplitsAll_any t _).1 ht2⟩
  · -- rowComplete
    intro a ha hsa
    obtain ⟨t, ht, s0, hs0, rfl⟩ := mem_allSides.1 ha
    have htn := b1 t ht
    have hmem := b3 t ht
    have hbip : HasBip t.tipNames t.splits s0.below := ⟨s0, hs0, Or.inl fun _ _ => Iff.rfl⟩
    obtain ⟨s1, hs1, hss1⟩ := (hasBip_norm t s0.below htn).1 hbip
    obtain ⟨x, hx, hxe⟩ := (index_complete ts).1 (norm t) (List.mem_map.2 ⟨t, ht, rfl⟩)
      (bits (univOf ts) s1.below, s1.e.len) (by
        unfold edgeKeys; exact List.mem_map.2 ⟨s1, hs1, rfl⟩)
    have hmu : ∀ a, a ∈ t.tipNames ↔ a ∈ univOf ts := fun a => (hmem a).trans (b4 a).symm
    obtain ⟨hkx, hb⟩ := hd.key hx
    have hs0nd : s0.below.Nodup := (below_sublist_L t.kids s0 hs0).nodup (leavesL_nodup_of_tipNames htn)
    have hs1u : SameSide (univOf ts) s1.below x.key := by
      have := (eqc_iff _ _ _).1 hxe
      rw [← hb] at this
      exact (eqc_bits_iff _ _ _).1 this
    have hcs : canonSide (C09S.taxa ts) x.key = canonSide t.tipNames s0.below := by
      have htp : t.tipNames.Perm (C09S.taxa ts) := (List.perm_ext_iff_of_nodup htn b5).2 hmem
      rw [canonSide_perm_all htp]
      have hne' : C09S.taxa ts ≠ [] := by
        intro h; rw [h] at htaxa; have := htaxa.length_eq; simp at this; omega
      rw [canonSide_eq_iff _ _ _ _ b5 b5 (fun _ => Iff.rfl) hne' hkx hs0nd]
      have h1 : SameSide (C09S.taxa ts) s1.below x.key := SameSide.of_mem_iff b4 hs1u
      have h2 : SameSide (C09S.taxa ts) s1.below s0.below := SameSide.of_mem_iff hmem hss1
      exact h1.symm'.trans' h2
    refine ⟨x, (hsx x).2 ⟨hx, (selIff x hx).1 (by rw [hcs]; exact hsa)⟩, hcs⟩
  · -- tipRow
    intro a ha
    obtain ⟨s0, hs0, hs0b⟩ := leaf_entry (norm ts.head!).kids a (by rw [htd]; exact ha)
    obtain ⟨x, hx, hxe⟩ := (index_complete ts).1 (norm ts.head!) hfm
      (bits (univOf ts) s0.below, s0.e.len) (by unfold edgeKeys; exact List.mem_map.2 ⟨s0, hs0, rfl⟩)
    rw [hs0b] at hxe
    -- the tip branch is in every tree
    have hcnt : count ts x.key = ts.length := by
      unfold count countM
      have hlen : (trees ts).length = ts.length := by simp [trees]
      rw [← hlen, List.countP_eq_length]
      intro u hu
      obtain ⟨s, hs, hsb⟩ := leaf_entry u.kids a ((sameLeaves u hu a).2 ha)
      rw [hasSplit_iff]
      exact ⟨s, hs, by rw [hsb]; exact (eqc_iff _ _ _).1 hxe⟩
    have hxsel : x ∈ selected ord ts c := (hsx x).2 ⟨hx, Or.inr hcnt⟩
    refine ⟨x, hxsel, ?_⟩
    have hss : SameSide tips (rowNames tips x) [a] := names_sameSide hut ((eqc_iff _ _ _).1 hxe)
    have hsz : (rowNames tips x).length = 1 := by
      have hsl : (rowNames tips x).length = [a].length ∨ (rowNames tips x).length + [a].length = tips.length :=
        sameSide_length hT (by simp : [a].Nodup) (hT.filter _ : (rowNames tips x).Nodup)
          (fun y hy => by simp only [List.mem_singleton] at hy; subst hy; exact ha)
          (fun y hy => (List.mem_filter.1 hy).1) hss
      simp only [List.length_singleton] at hsl
      have := selOK_size hsel hxsel
      omega
    obtain ⟨b, hb⟩ := List.length_eq_one_iff.1 hsz
    rw [hb] at hss ⊢
    have hbin : b ∈ tips := by
      have : b ∈ rowNames tips x := by rw [hb]; simp
      exact (List.mem_filter.1 this).1
    rw [sameSide_singletons hN3 hT hbin hss]
  · exact hkeys


/-! ### rooting: moves of the root along arbitrary paths -/

/-- The consensus of another presentation `ts'` of the collection `ts` — tree by tree the
    same tips and the same unrooted split map `T.usplitsAll` (`SameU`) — meets the Spec of
    `ts`: the same non-trivial splits, supports and lengths (as the oracle reads them). -/
theorem consensus_presentation_meets_oracle (ord' : List Entry → List Entry) (hord' : ∀ l, (ord' l).Perm l)
    (ts ts' : List T) (c : Rat) (hc : 1/2 ≤ c ∧ c ≤ 1) (hsame : F2 SameU ts ts')
    (hdom' : domB ts' = true) (hl' : lensOK ts' = true)
    (hkeys : C09S.keysOK ts = true) (hkeys' : C09S.keysOK ts' = true) :
    ∃ r', consensus ord' ts' c = .ok r' ∧
      C09S.splitsOK ts c r' = true ∧ C09S.supportsOK ts r' = true ∧ C09S.lengthsOK ts r' = true := by
  obtain ⟨r', hr', ho⟩ := consensus_meets_oracle ord' hord' ts' c hc hdom' hl' hkeys'
  exact ⟨r', hr', oracle_congr hsame c r' hkeys ho⟩

/-- Root moves along arbitrary paths: if every tree of `ts'` is `Reroot` (C05's model: a
    fold of `moveRoot` along a child-index path) of the corresponding tree of `ts`, the
    consensus of `ts'` meets the Spec of `ts`. -/
theorem consensus_reroot_independent (ord' : List Entry → List Entry) (hord' : ∀ l, (ord' l).Perm l)
    (ts ts' : List T) (c : Rat) (hc : 1/2 ≤ c ∧ c ≤ 1)
    (hre : F2 (fun t t' => t.tipNames.Nodup ∧ LensGood t.splits ∧ ∃ p, C05.reroot t p = .ok t') ts ts')
    (hdom' : domB ts' = true) (hl' : lensOK ts' = true)
    (hkeys : C09S.keysOK ts = true) (hkeys' : C09S.keysOK ts' = true) :
    ∃ r', consensus ord' ts' c = .ok r' ∧
      C09S.splitsOK ts c r' = true ∧ C09S.supportsOK ts r' = true ∧ C09S.lengthsOK ts r' = true := by
  have hs : F2 SameU ts ts' := by
    clear hdom' hl' hkeys hkeys'
    induction hre with
    | nil => exact F2.nil
    | cons h _ ih =>
      obtain ⟨hu, hg, p, hp⟩ := h
      exact F2.cons (reroot_usplitsAll _ _ p hu hg hp) ih
  exact consensus_presentation_meets_oracle ord' hord' ts ts' c hc hs hdom' hl' hkeys hkeys'


/-! ### input trees rooted at a tip (5a3a76a) -/

/-- `Consensus` first moves a tip root to its neighbour: the consensus of a collection is the
    consensus of the collection so re-rooted (`rerootTip` is the identity on every tree whose
    root has two neighbours or more, and idempotent). -/
theorem consensus_tip_root (ord : List Entry → List Entry) (ts : List T) (c : Rat) :
    consensus ord ts c = consensus ord (ts.map rerootTip) c := by
  unfold consensus consensusG
  rw [List.map_map]
  have : ts.map (rerootTip ∘ rerootTip) = ts.map rerootTip :=
    List.map_congr_left fun t _ => rerootTip_idem t
  rw [this]

/-- Tip-rooted inputs meet the Spec: if the collection re-rooted at the neighbours of its tip
    roots is in the domain, the consensus of the collection *as given* has exactly the Spec's
    selected splits of the collection as given (tip root counted as a taxon), with the Spec's
    supports and lengths. -/
theorem consensus_tip_rooted_meets_oracle (ord : List Entry → List Entry) (hord : ∀ l, (ord l).Perm l)
    (ts : List T) (c : Rat) (hc : 1/2 ≤ c ∧ c ≤ 1)
    (hu : ∀ t ∈ ts, t.tipNames.Nodup ∧ LensGood t.splits)
    (hdom : domB (ts.map rerootTip) = true) (hl : lensOK (ts.map rerootTip) = true)
    (hkeys : C09S.keysOK ts = true) (hkeys' : C09S.keysOK (ts.map rerootTip) = true) :
    ∃ r, consensus ord ts c = .ok r ∧
      C09S.splitsOK ts c r = true ∧ C09S.supportsOK ts r = true ∧ C09S.lengthsOK ts r = true := by
  have hs : F2 SameU ts (ts.map rerootTip) := by
    clear hdom hl hkeys hkeys'
    induction ts with
    | nil => exact F2.nil
    | cons a l ih =>
      exact F2.cons (rerootTip_sameU a (hu a (by simp)).1 (hu a (by simp)).2)
        (ih fun t ht => hu t (by simp [ht]))
  rw [consensus_tip_root]
  exact consensus_presentation_meets_oracle ord hord ts _ c hc hs hdom hl hkeys hkeys'

/-- A witness: two trees rooted at the tip `a` are accepted (before 5a3a76a the first one alone
    was rejected, "No tip named a in the index"); the clade (d,e) has support 1 and the mean
    length (1+3)/2, and the branch of the former root `a` the mean length (2+4)/2. -/
theorem tip_rooted_accepted :
    outValues (consensus id exTipRoot (1/2)) = some [(["d", "e"], 1, 2)] ∧
    (match consensus id exTipRoot (1/2) with
     | .ok r => (r.splits.filter (·.tip)).map (fun s => (s.below, s.e.len))
     | _ => []) = [(["a"], 3), (["b"], 1), (["c"], 1), (["d"], 1), (["e"], 2)] := by decide +kernel


/-! ### the float64 product of the threshold (tree/algo.go:353) -/

/-- The repaired cut `m := int(c*float64(n)); if FMA(c, n, -m) < 0 { m-- }` is the exact `⌊c·n⌋`
    for every rounding of the product that is monotone and fixes the integers (float64
    round-to-nearest below 2^53 is one). -/
theorem fma_cut_exact (rnd : Rat → Rat) (hmono : ∀ a b : Rat, a ≤ b → rnd a ≤ rnd b)
    (hint : ∀ k : Int, rnd (k : Rat) = (k : Rat)) (c : Rat) (n : Nat) (hc : 0 ≤ c) :
    fmaCutG rnd c n = floorCut c n :=
  fmaCutG_eq_floorCut rnd hmono hint c n hc

/-- … hence `Consensus` with the repaired cut is the `consensus` of the theorems. -/
theorem consensus_fma_cut (rnd : Rat → Rat) (hmono : ∀ a b : Rat, a ≤ b → rnd a ≤ rnd b)
    (hint : ∀ k : Int, rnd (k : Rat) = (k : Rat)) (ord : List Entry → List Entry) (ts : List T) (c : Rat) :
    consensusCut (fmaCutG rnd) ord ts c = consensus ord ts c :=
  consensusCut_eq _ ord ts c fun hc _ => fmaCutG_eq_floorCut rnd hmono hint c _ hc

/-- `consensusCut floorCut` (the driver's tie model is `consensusCut cutNow`) is `consensus`. -/
theorem consensusCut_floorCut (ord : List Entry → List Entry) (ts : List T) (c : Rat) :
    consensusCut floorCut ord ts c = consensus ord ts c := rfl

/-- The defect: with the threshold `fl(2/3) = 6004799503160661/2^53 < 2/3` and three trees, the
    float64 product rounds up to 2 (exact floor 1, repaired cut 1); the bipartition ab|cde, in two
    of the three trees (frequency 2/3 > threshold), is not in the consensus computed with the
    float64 cut, and is in the consensus with the exact cut. -/
theorem float_product_pinned_fails :
    floatCut exFloatC 3 = 2 ∧ floorCut exFloatC 3 = 1 ∧ fmaCut exFloatC 3 = 1 ∧ exFloatC < 2/3 ∧
    outSplits (consensusFloat id exFloat exFloatC) = some [["d", "e"]] ∧
    outSplits (consensus id exFloat exFloatC) = some [["a", "b"], ["d", "e"]] := by decide +kernel

/-- The length clause the driver evaluates split by split (`lengthsOKWhereDefined`) follows from
    the clause `consensus_meets_oracle` proves (`lengthsOK`). -/
theorem oracle_lengths_where_defined (ts : List T) (r : T) (h : C09S.lengthsOK ts r = true) :
    C09S.lengthsOKWhereDefined ts r = true := lengthsOK_whereDefined ts r h

/-! ### the cut of the code as it is, with the driver's own float64 rounding -/

/-- `cutNow` — the float64 product rounded by `roundF64` (the rounding the driver runs and checks
    against Go's arithmetic on every case), truncated and corrected with the exact sign of
    `c·n - m` — is the exact `⌊c·n⌋` for thresholds in `[0, 1]` and fewer than 2^52 trees. -/
theorem cutNow_exact (c : Rat) (n : Nat) (hc0 : 0 ≤ c) (hc1 : c ≤ 1) (hn : n < 4503599627370496) :
    cutNow c n = floorCut c n := fmaCut_eq_floorCut c n hc0 hc1 hn

/-- The driver's tie model `consensusNow` (= `consensusCut cutNow`) IS the `consensus` of the
    theorems, for every collection of fewer than 2^52 trees. -/
theorem consensusNow_eq_consensus (ord : List Entry → List Entry) (ts : List T) (c : Rat)
    (hn : ts.length < 4503599627370496) : consensusNow ord ts c = consensus ord ts c :=
  consensusCut_eq cutNow ord ts c fun h0 h1 => cutNow_exact c _ h0 h1 hn

/-! ### thresholds that are not finite numbers (def0221) -/

/-- A finite threshold: `consensusThr` is `consensus`. -/
theorem consensusThr_fin (ord : List Entry → List Entry) (ts : List T) (c : Rat)
    (hn : ts.length < 4503599627370496) : consensusThr ord ts (.fin c) = consensus ord ts c :=
  consensusNow_eq_consensus ord ts c hn

/-- NaN and ±Inf are rejected with the range error, whatever the collection. -/
theorem nonfinite_threshold_rejected (ord : List Entry → List Entry) (ts : List T) :
    consensusThr ord ts .nan = .err "range" ∧ ∀ b, consensusThr ord ts (.inf b) = .err "range" :=
  ⟨rfl, fun _ => rfl⟩

/-- The defect repaired by def0221: with the check `cutoff < 0.5 || cutoff > 1` a NaN threshold
    passes, every row of the index is selected; on three copies of `((a,b),c,d)` the call
    succeeded (with the split ab|cd) instead of being rejected. -/
theorem nan_threshold_pinned_fails :
    outValues (consensusThrPinnedNaN id [exNaN, exNaN, exNaN] .nan) = some [(["a", "b"], 1, 1)] ∧
    (consensusThr id [exNaN, exNaN, exNaN] .nan).cls = "err" := by decide +kernel

example : (0 : Rat) ≤ exFloatC ∧ exFloatC ≤ 1 ∧ (3 : Nat) < 4503599627370496 ∧
    cutNow exFloatC 3 = 1 ∧ floatCut exFloatC 3 = 2 := by decide +kernel
example : exColl.length < 4503599627370496 := by decide

/-! ### the hypotheses of the oracle theorems are satisfiable -/

-- `consensus_meets_oracle` on `exColl` (three trees, rooted and unrooted, five taxa)
example : domB exColl = true ∧ lensOK exColl = true := by decide +kernel
example : C09S.keysOK exColl = true := keysOK_of_sidesN _ (by decide +kernel)
-- `consensus_reroot_independent`: `exCollRe` = `exColl` re-rooted along the paths [0], [1], [1,0]
example : F2 (fun t t' => t.tipNames.Nodup ∧ LensGood t.splits ∧ ∃ p, C05.reroot t p = .ok t') exColl exCollRe :=
  exCollRe_hyp
example : domB exCollRe = true ∧ lensOK exCollRe = true := by decide +kernel
example : C09S.keysOK exCollRe = true := keysOK_of_sidesN _ (by decide +kernel)
example : exCollRe.map (fun t => (t.kids.length, t.tipNames)) =
    [(3, ["c", "d", "e", "a", "b"]), (3, ["b", "a", "c", "e", "d"]), (3, ["c", "b", "a", "d", "e"])] := by decide +kernel
-- `consensus_presentation_meets_oracle`: the same pair of collections
example : F2 SameU exColl exCollRe := by
  have h := exCollRe_hyp
  generalize exColl = a at h
  generalize exCollRe = b at h
  induction h with
  | nil => exact F2.nil
  | cons h _ ih =>
    obtain ⟨hu, hg, p, hp⟩ := h
    exact F2.cons (reroot_usplitsAll _ _ p hu hg hp) ih
-- `consensus_tip_rooted_meets_oracle` on `exTipRoot` (two trees rooted at the tip `a`)
example : (∀ t ∈ exTipRoot, t.tipNames.Nodup ∧ LensGood t.splits) := fun t ht =>
  ⟨by revert t; decide +kernel, lensGood_of_lensOK exTipRoot (by decide +kernel) t ht⟩
example : domB (exTipRoot.map rerootTip) = true ∧ lensOK (exTipRoot.map rerootTip) = true := by decide +kernel
example : C09S.keysOK exTipRoot = true := keysOK_of_sidesN _ (by decide +kernel)
example : C09S.keysOK (exTipRoot.map rerootTip) = true := keysOK_of_sidesN _ (by decide +kernel)

/-! ### the channel with error records (tree/algo.go:284-290) -/

/-- A channel that only holds trees: `consensusItems` is the tie model `consensusNow`
    (hence `consensus` below 2^52 trees, `consensusNow_eq_consensus`). -/
theorem consensusItems_trees (ord : List Entry → List Entry) (ts : List T) (c : Rat) :
    consensusItems ord (ts.map Item.tree) c = consensusNow ord ts c := by
  unfold consensusItems consensusItemsCut consensusNow consensusCut
  rw [splitItems_trees]

/-- A channel holding an error record never yields a consensus tree, whatever the trees, the
    threshold and the place of the record. -/
theorem consensusItems_bad_never_ok (ord : List Entry → List Entry) (items : List Item) (c : Rat)
    (h : items.any Item.isBad = true) : ∀ r, consensusItems ord items c ≠ .ok r := by
  intro r
  obtain ⟨ts, m, e⟩ := splitItems_some_of_bad items h
  unfold consensusItems consensusItemsCut
  rw [e]
  by_cases hr : (decide (c < 1/2) || decide (c > 1)) = true
  · rw [if_pos hr]; intro h; cases h
  · rw [if_neg hr]
    simp only
    split
    · intro h; cases h
    · split <;> (intro h; cases h)

/-- On the property's domain (or when the record comes first) the error returned is the error of
    the FIRST error record, whatever follows it in the channel. -/
theorem consensusItems_input_err (ord : List Entry → List Entry) (pre : List T) (m : String)
    (rest : List Item) (c : Rat) (hc : 1/2 ≤ c ∧ c ≤ 1) (hdom : pre = [] ∨ domB pre = true) :
    consensusItems ord (pre.map Item.tree ++ Item.bad m :: rest) c = .err ("input:" ++ m) := by
  unfold consensusItems consensusItemsCut
  rw [splitItems_append_bad, if_neg (by simp [range_ok hc])]
  simp only
  rcases hdom with rfl | hdom
  · rfl
  · have hdeg := deg_of_domB pre hdom
    rw [map_rerootTip_of_deg pre hdeg, if_neg (by simp [any_deg_lt hdeg])]
    obtain ⟨cn, hcn⟩ := countAll_of_dom pre (dom_of_domB pre hdom)
    rw [hcn]

/-- Negative witness: a variant that skips error records (`continue` instead of `return`) answers
    with the consensus of the readable trees — accepted where the code and the property reject. -/
theorem skip_bad_items_wrong :
    (consensusItemsSkip id (exColl.map Item.tree ++ [Item.bad "unreadable"]) (1/2)).cls = "ok" ∧
    consensusItems id (exColl.map Item.tree ++ [Item.bad "unreadable"]) (1/2) = .err "input:unreadable" ∧
    consensusItems id (Item.bad "unreadable" :: exColl.map Item.tree) (1/2) = .err "input:unreadable" :=
  ⟨by decide +kernel, consensusItems_input_err id exColl _ [] _ (by decide +kernel) (Or.inr (by decide +kernel)),
   consensusItems_input_err id [] _ _ _ (by decide +kernel) (Or.inl rfl)⟩

/- the hypotheses are satisfiable: `exColl` is in the domain, an error record in the middle -/
example : consensusItems id ((exColl.take 2).map Item.tree ++ Item.bad "e" :: (exColl.drop 2).map Item.tree) (2/3)
    = .err "input:e" :=
  consensusItems_input_err id _ _ _ _ (by decide +kernel) (Or.inr (by decide +kernel))
example : consumedItems (exColl.map Item.tree ++ [Item.bad "unreadable"]) (1/2) = 4 ∧
    consumedItems (exColl.map Item.tree) (1/4) = 0 := by decide +kernel

/-! ### the first obstacle in channel order decides -/

/-- The first obstacle in channel order decides: a tree with other tips than the first one, placed in
    front of the first error record, gives the taxa error, not the record's (hypotheses of
    `different_taxa_err` on the trees in front of the record). -/
theorem consensusItems_taxa_before_record (ord : List Entry → List Entry) (t : T) (r : List T) (m : String)
    (rest : List Item) (c : Rat) (hc : 1/2 ≤ c ∧ c ≤ 1)
    (hdeg : ∀ u ∈ t :: r, 2 ≤ u.kids.length ∧ 2 ≤ (norm u).kids.length)
    (hnd : ∀ u ∈ t :: r, (norm u).tipNames.Nodup)
    (hdiff : ∃ u ∈ r, ¬ (norm u).tipNames.Perm (norm t).tipNames) :
    consensusItems ord ((t :: r).map Item.tree ++ Item.bad m :: rest) c = .err "taxa" := by
  unfold consensusItems consensusItemsCut
  rw [splitItems_append_bad]
  simp only
  rw [map_rerootTip_of_deg (t :: r) (fun u hu => (hdeg u hu).1), if_neg (by simp [range_ok hc]),
    if_neg (by simp [any_deg_lt fun u hu => (hdeg u hu).1]),
    countAll_taxa t r (fun u hu => (hdeg u hu).2) hnd hdiff]


/-! ### how much of the channel `Consensus` has read when it returns -/

/-- A threshold outside [1/2, 1]: nothing is taken from the channel. -/
theorem consumedItems_range (items : List Item) (c : Rat) (h : c < 1/2 ∨ c > 1) :
    consumedItems items c = 0 := by
  unfold consumedItems
  rw [if_pos (by simpa using h)]

/-- In the domain every item is taken from the channel: on a clean run (only trees), and when an
    error record follows trees of the domain (or comes first) — the drain loop — whatever stands
    behind the record. -/
theorem consumedItems_all (pre : List T) (c : Rat) (hc : 1/2 ≤ c ∧ c ≤ 1) (hdom : pre = [] ∨ domB pre = true) :
    consumedItems (pre.map Item.tree) c = pre.length ∧
    ∀ m rest, consumedItems (pre.map Item.tree ++ Item.bad m :: rest) c = pre.length + 1 + rest.length := by
  have h1 := range_ok hc
  have hfr : firstRefused (pre.map rerootTip) = none := by
    rcases hdom with rfl | hdom
    · rfl
    · rw [map_rerootTip_of_deg pre (deg_of_domB pre hdom)]
      exact firstRefused_none_of_dom pre (dom_of_domB pre hdom)
  constructor
  · unfold consumedItems
    rw [if_neg (by simp [h1]), splitItems_trees]
    simp only [hfr, List.length_map]
  · intro m rest
    unfold consumedItems
    rw [if_neg (by simp [h1]), splitItems_append_bad]
    simp only [hfr, List.length_append, List.length_map, List.length_cons]
    omega

example : consumedItems (exColl.map Item.tree) (1/2) = 3 :=
  (consumedItems_all exColl _ (by decide +kernel) (Or.inr (by decide +kernel))).1

/-! ### the text written by cmd/consensus.go -/

/-- The Newick text of a consensus (`consensus id [exU1, exU1] (1/2)`, text `(c:2,(a:1,b:1)1:1,(d:1,e:3)1:0.5);`), read back by the lexer the
    driver applies to the command's output, gives the writer's tokens; a text with another child
    order, a missing support or another length does not agree. -/
theorem newick_text_witness :
    (match consensus id [exU1, exU1] (1/2) with
     | .ok m =>
       C09L.showToks (C09L.newickToks m) == "(c:2,(a:1,b:1)1:1,(d:1,e:3)1:0.5);" &&
       C09L.lexNewick (C09L.showToks (C09L.newickToks m)) == C09L.newickToks m &&
       C09L.textAgrees (C09L.showToks (C09L.newickToks m)) m &&
       !C09L.textAgrees (C09L.showToks (C09L.newickToks m).reverse) m &&
       !C09L.textAgrees (C09L.showToks ((C09L.newickToks m).filter fun t => match t with | .sup _ => false | _ => true)) m
     | _ => false) = true := by decide +kernel

end Gotree.C09

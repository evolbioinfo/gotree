/-
  C16 — the property theorems (DESIGN §6 C16, Appendix B).  Everything is about the
  functions of `Gotree/Model/C16.lean` that the driver runs against the Go code
  (`run`, `allTopologies`); the predicates are those of `Gotree/Spec/C16.lean`
  that the driver evaluates on the implementation's own output.

  Hypotheses (all `Bool`, all evaluated and tagged by the driver):
  `g.min rooted ≤ n` (tag hyp-min), `drawsInRange g n rooted ints` (every value is one
  `rand.Intn(k)` can return at that call; tag hyp-draws-in-range), `lensNonneg lens`
  (`gostats.Exp ≥ 0`; tag hyp-lens-nonneg).
-/
import Gotree.Lemmas.C16Nodup
import Gotree.Lemmas.C16Oracle
import Gotree.Lemmas.C16Script
import Gotree.Lemmas.C16Keys
import Gotree.Lemmas.C16Index
import Gotree.Lemmas.C16Extra
import Gotree.Lemmas.C16Enum
import Gotree.Lemmas.C16Depth
import Gotree.Model.C16Cli
import Gotree.Spec.C16Doc
import Gotree.Lemmas.C16Table
import Gotree.Lemmas.C16CliRun
import Gotree.Lemmas.C16TopoCli
import Gotree.Spec.C16Cli
import Gotree.Model.C16DepthGoU
import Gotree.Lemmas.C16DepthDist
import Gotree.Gen.C16Source

namespace Gotree.C16
open Gotree

/-! ### the hypotheses are satisfiable on non-trivial instances -/

example : GenKind.uniform.min false ≤ 6 ∧ drawsInRange .uniform 6 false [0, 2, 4, 1] = true ∧
    lensNonneg [1/2, 0, 3, 1/8] = true := by decide +kernel
example : GenKind.yule.min true ≤ 5 ∧ drawsInRange .yule 5 true [1, 2, 0] = true := by decide
example : (run .uniform 5 false [0, 2, 1] [1, 2, 3]).isOk = true := by decide +kernel
example : (run .yule 5 true [1, 0, 3] []).isOk = true := by decide +kernel
example : GenKind.balanced.min false ≤ 3 := by decide
example : GenKind.caterpillar.min true ≤ 5 ∧ lensNonneg [1, 0, 2, 1/3] = true := by decide +kernel
example : (run .caterpillar 5 true [] [1, 2, 3]).isOk = true := by decide +kernel
example : (run .balanced 3 false [] [1, 2, 3, 1/2]).isOk = true := by decide +kernel
-- the enumeration: default names, and four caller-supplied pairwise different names
example : (if false then 2 else 3) ≤ 5 ∧ (([] : List String) = [] ∨ (([] : List String).length = 5 ∧ ([] : List String).Nodup)) := by
  decide
example : ["A", "b_2", "10", "Tip1"].length = 4 ∧ ["A", "b_2", "10", "Tip1"].Nodup := by decide
example : (allTopologies 4 false ["A", "b_2", "10", "Tip1"]).isOk = true := by decide +kernel
example : (allTopologies 4 true).isOk = true := by decide +kernel

/-! ### ★ gen_ok -/

/-- ★ For every size from the minimum on, every rootedness, every sequence of integer draws
    that `rand.Intn` can return and all non-negative exponential lengths, each random binary
    generator returns a tree (no error, no panic) that is binary, whose tips are exactly
    `Tip0 … Tip(ntips-1)` (each once), with the requested rootedness, every branch carrying a
    non-negative length, and whose tip index (as left by `ReinitIndexes`) lists exactly the tips. -/
theorem gen_ok (g : GenKind) (n : Nat) (rooted : Bool) (ints : List Nat) (lens : List Rat)
    (hg : g ≠ .star) (h : g.min rooted ≤ n)
    (hd : drawsInRange g n rooted ints = true) (hl : lensNonneg lens = true) :
    ∃ o, run g (n : Int) rooted ints lens = .ok o ∧ o.t.binary = true ∧
      o.t.tipNames.Perm (tipNamesUpTo (g.ntips n)) ∧ o.t.rooted = rooted ∧ lensOk o.t = true ∧
      indexReady o = true := by
  cases g with
  | uniform => exact uniform_ok n rooted ints lens h hd hl
  | yule => exact yule_ok n rooted ints lens h hd hl
  | caterpillar => exact caterpillar_ok n rooted lens h hl
  | balanced => obtain ⟨o, h1, h2, _⟩ := balanced_ok n rooted lens h hl; exact ⟨o, h1, h2⟩
  | star => exact absurd rfl hg

/-- the tips of a generated tree are pairwise different, and `ExistsTip` answers `true` exactly
    for `Tip0 … Tip(ntips-1)` -/
theorem gen_unique_and_indexed (g : GenKind) (n : Nat) (rooted : Bool) (ints : List Nat) (lens : List Rat)
    (hg : g ≠ .star) (h : g.min rooted ≤ n)
    (hd : drawsInRange g n rooted ints = true) (hl : lensNonneg lens = true) :
    ∃ o, run g (n : Int) rooted ints lens = .ok o ∧ o.t.tipNames.Nodup ∧
      ∀ name, o.existsTip name = some (decide (name ∈ tipNamesUpTo (g.ntips n))) := by
  obtain ⟨o, h1, _, hp, _, _, hix⟩ := gen_ok g n rooted ints lens hg h hd hl
  refine ⟨o, h1, hp.nodup_iff.mpr (tipNamesUpTo_nodup _), ?_⟩
  intro name
  exact existsTip_of_ready o (g.ntips n) hp hix (ntips_pos g n rooted h) name

/-- The model's result passes the very predicate the driver evaluates as ORACLE on what the Go
    code returns (`genTreeOK`: names, uniqueness, lengths, binary, rootedness, and the shape of the
    caterpillar / balanced / star generators), for all five generators. -/
theorem gen_meets_oracle (g : GenKind) (n : Nat) (rooted : Bool) (ints : List Nat) (lens : List Rat)
    (h : g.min rooted ≤ n) (hd : drawsInRange g n rooted ints = true) (hl : lensNonneg lens = true) :
    ∃ o, run g (n : Int) rooted ints lens = .ok o ∧ genTreeOK g n rooted o.t = true := by
  cases g with
  | uniform =>
    obtain ⟨o, h1, hb, hp, hr, hlo, _⟩ := uniform_ok n rooted ints lens h hd hl
    refine ⟨o, h1, ?_⟩
    simp only [genTreeOK, GenKind.ntips, genTreeOK_common o.t n hp hlo, hb, hr, beq_self_eq_true, Bool.and_self]
  | yule =>
    obtain ⟨o, h1, hb, hp, hr, hlo, _⟩ := yule_ok n rooted ints lens h hd hl
    refine ⟨o, h1, ?_⟩
    simp only [genTreeOK, GenKind.ntips, genTreeOK_common o.t n hp hlo, hb, hr, beq_self_eq_true, Bool.and_self]
  | caterpillar =>
    obtain ⟨o, h1, hb, hp, hr, hlo, _⟩ := caterpillar_ok n rooted lens h hl
    obtain ⟨o', h1', hs⟩ := caterpillar_shape_lemma n rooted lens h hl
    have : o' = o := res_ok_inj (h1'.symm.trans h1)
    subst this
    refine ⟨o', h1, ?_⟩
    simp only [genTreeOK, GenKind.ntips, genTreeOK_common o'.t n hp hlo, hb, hr, hs, beq_self_eq_true, Bool.and_self]
  | balanced =>
    obtain ⟨o, h1, ⟨hb, hp, hr, hlo, _⟩, hs⟩ := balanced_ok n rooted lens h hl
    refine ⟨o, h1, ?_⟩
    simp only [genTreeOK, GenKind.ntips, genTreeOK_common o.t _ hp hlo, hb, hr, hs, beq_self_eq_true, Bool.and_self]
  | star =>
    obtain ⟨o, h1, hp, hlo, _, hs⟩ := star_ok n h
    refine ⟨o, h1, ?_⟩
    simp only [genTreeOK, GenKind.ntips, genTreeOK_common o.t n hp hlo, hs, Bool.and_self]

/-- The draw protocol: a call with size `n` reads exactly the first `nintsZ` integer draws and the
    first `nlens` exponential values (the script the harness replays, whose length the driver
    compares with these numbers on every case) — changing anything beyond them changes nothing. -/
theorem gen_reads_only_script (g : GenKind) (n : Int) (rooted : Bool) (ints ints' : List Nat) (lens lens' : List Rat)
    (hi : ∀ j, j < g.nintsZ n rooted → ints'.getD j 0 = ints.getD j 0)
    (hl : ∀ j, j < g.nlens n rooted → lens'.getD j 0 = lens.getD j 0) :
    run g n rooted ints' lens' = run g n rooted ints lens := by
  have hint : ∀ i, g = .uniform ∨ g = .yule → 2 ≤ i → i < n.toNat → ints'.getD (i - 2) 0 = ints.getD (i - 2) 0 := by
    intro i hg h2 hin
    apply hi
    rcases hg with rfl | rfl <;> simp only [GenKind.nintsZ] <;> split <;> omega
  cases g with
  | uniform =>
    exact (insertionGen_congr _ _ n rooted lens lens' (fun j hj => hl j (by simpa [GenKind.nlens, baseLens] using hj))
      (fun i s h2 hin => uniformStep_congr ints ints' lens lens' i s (hint i (Or.inl rfl) h2 hin))
      (uniformStep_li ints lens)).symm
  | yule =>
    exact (insertionGen_congr _ _ n rooted lens lens' (fun j hj => hl j (by simpa [GenKind.nlens, baseLens] using hj))
      (fun i s h2 hin => yuleStep_congr ints ints' lens lens' i s (hint i (Or.inr rfl) h2 hin))
      (yuleStep_li ints lens)).symm
  | caterpillar =>
    exact (insertionGen_congr _ _ n rooted lens lens' (fun j hj => hl j (by simpa [GenKind.nlens, baseLens] using hj))
      (fun i s _ _ => caterStep_congr lens lens' i s) (caterStep_li lens)).symm
  | balanced =>
    simp only [run, balanced]
    by_cases h1 : n < 1
    · simp [h1]
    · by_cases h2 : (n < 2 && !rooted) = true
      · simp [h1, h2]
      · have hnl : GenKind.nlens .balanced n rooted = 2 * (2 ^ n.toNat - 1) := by
          have : (decide (n < 1) || (decide (n < 2) && !rooted)) = false := by simp [h1]; simpa using h2
          simp [GenKind.nlens, this]
        rw [hnl] at hl
        have hf : n.toNat - 1 + 1 = n.toNat := by omega
        have := (balKids_congr lens lens' (n.toNat - 1) 0 0 (fun j _ hj => hl j (by rw [hf] at hj; omega))).1
        simp only [h1, h2, if_false, Bool.false_eq_true, this]
  | star => rfl

/-- "Indexes ready for use", in full: on the tree every generator returns, the C04 model of the
    final `ReinitIndexes` succeeds and gives every branch exactly the record its split prescribes
    (bitset over the sorted tip names, both taxon counts, both additive name hashes — hence
    `HashCode`, `TopoDepth`, `HashEquals`, by the C04 theorems), for every name hash `H`; and the
    tip index kept by the C16 model is C04's rank list. -/
theorem gen_index_complete (g : GenKind) (n : Nat) (rooted : Bool) (ints : List Nat) (lens : List Rat)
    (H : String → UInt64) (h : g.min rooted ≤ n) (hd : drawsInRange g n rooted ints = true)
    (hl : lensNonneg lens = true) :
    ∃ o, run g (n : Int) rooted ints lens = .ok o ∧
      o.reinit H = .ok (C04.sortNames o.t.tipNames, o.t.splits.map fun s => C04.specIdx H o.t.tipNames s.below) ∧
      o.index = some (C04.sortNames o.t.tipNames) := by
  have key : ∀ o : Out, o.t.tipNames.Perm (tipNamesUpTo (g.ntips n)) → indexReady o = true →
      o.reinit H = .ok (C04.sortNames o.t.tipNames, o.t.splits.map fun s => C04.specIdx H o.t.tipNames s.below) ∧
      o.index = some (C04.sortNames o.t.tipNames) := by
    intro o hp hix
    refine ⟨reinit_of_perm H o _ (ntips_pos g n rooted h) hp, ?_⟩
    unfold indexReady at hix
    rw [← sortNames_eq_C04]
    simpa using hix
  by_cases hg : g = .star
  · subst hg
    obtain ⟨o, h1, hp, _, hix, _⟩ := star_ok n h
    have h1' : run .star (n : Int) rooted ints lens = .ok o := h1
    exact ⟨o, h1', key o hp hix⟩
  · obtain ⟨o, h1, _, hp, _, _, hix⟩ := gen_ok g n rooted ints lens hg h hd hl
    exact ⟨o, h1, key o hp hix⟩

/-- `gen_meets_oracle` for the oracle predicate the driver evaluates (`genTreeOK2`: as
    `genTreeOK`, but the balanced shape of an unrooted tree may be seen from any node, so that the
    place where the tree is hung is not part of the claim) -/
theorem gen_meets_oracle2 (g : GenKind) (n : Nat) (rooted : Bool) (ints : List Nat) (lens : List Rat)
    (h : g.min rooted ≤ n) (hd : drawsInRange g n rooted ints = true) (hl : lensNonneg lens = true) :
    ∃ o, run g (n : Int) rooted ints lens = .ok o ∧ genTreeOK2 g n rooted o.t = true := by
  obtain ⟨o, h1, h2⟩ := gen_meets_oracle g n rooted ints lens h hd hl
  exact ⟨o, h1, genTreeOK2_of_genTreeOK g n rooted o.t h2⟩

/-! ### node depths (what `ComputeDepths` leaves in `Node.Depth()`)

   `depthsOf` (Spec/C16Depth) is the specification the driver compares `Node.Depth()` of every node
   of every returned tree with: branches to the closest tip, below the node in a rooted tree,
   anywhere in an unrooted one.  Proved here: one value per node, and the rule of the rooted case. -/

/-- one depth per node, in `Nodes()` order -/
theorem depths_one_per_node (t : T) : (depthsOf t).length = t.size := by
  unfold depthsOf
  split
  · exact depthsR_length t
  · split
    · cases t with
      | node d p ks => simp [T.size, depthsUL_length]; omega
    · exact depthsU_length none t

/-- the rooted rule: a tip has depth 0; an inner node is one branch further from a tip than the
    closest of its children -/
theorem downDepth_rule (d : NodeD) (p : Nat) (k : EdgeD × T) (ks : Kids) :
    downDepth (.node d p []) = 0 ∧
    (∀ et ∈ k :: ks, downDepth (.node d p (k :: ks)) ≤ 1 + downDepth et.2) ∧
    ∃ et ∈ k :: ks, downDepth (.node d p (k :: ks)) = 1 + downDepth et.2 := by
  obtain ⟨m, hm, hle, ⟨w, hw, hwm⟩⟩ := downMin_spec (k :: ks) (by simp)
  refine ⟨by simp [downDepth], ?_, ?_⟩
  · intro et het
    simp only [downDepth, hm, Option.getD_some]
    have := hle et het; omega
  · exact ⟨w, hw, by simp only [downDepth, hm, Option.getD_some, hwm]⟩

/-- `computeDepthRecurRooted` (model `goDepthR`, the Go recursion with its `-1` sentinel, statement by
    statement) leaves in every node of a rooted tree the specified depth: the list read back with
    `Node.Depth()` in `Nodes()` order passes the depth oracle -/
theorem computeDepths_rooted_meets_spec (t : T) (h : t.rooted = true) :
    goComputeDepthsRooted t = (depthsOf t).map (fun (x : Nat) => (x : Int)) ∧ depthsOK t (goComputeDepthsRooted t) = true := by
  have h1 : goComputeDepthsRooted t = (depthsOf t).map (fun (x : Nat) => (x : Int)) := by
    rw [goComputeDepthsRooted, (goDepthR_spec t).2]; simp [depthsOf, h]
  exact ⟨h1, by simp [depthsOK, h1]⟩

example : (T.node ⟨"", []⟩ 0 [(EdgeD.blank, T.leaf "a"), (EdgeD.blank, .node ⟨"", []⟩ 0 [(EdgeD.blank, T.leaf "b"), (EdgeD.blank, T.leaf "c")])]).rooted = true := by
  decide

/-! ### unrooted trees: `computeDepthUnRooted` (model `goComputeDepthsUnrooted`: the reset of 7dc6678, then the
   level-by-level loop, statement by statement) and what "depth" means

   Oracle of every unrooted case: `tipDistOKInt (adjOf t) depths` on the implementation's own output.
   `depth_is_distance_to_closest_tip`: a list of depths that passes it gives, for EVERY node, the number of
   branches of a shortest walk to a node with one neighbour (`IsTipDist`), on any neighbour table.
   Full statement wanted for the model (not proved: needs the invariant of the level loop — after pass k the
   nodes at distance ≤ k are filled, `nodes` is exactly the set at distance k, fuel suffices):
     ∀ t, ¬t.rooted → ∃ ds, goComputeDepthsUnrooted t stale = some ds ∧ tipDistOKInt (adjOf t) ds = true
   proved below for every unrooted binary topology of 4, 5, 6 tips and generator outputs (`_partial`), and
   checked on every unrooted case of every run (tie `depths-go-unrooted`). -/

/-- ★ depths passing the oracle predicate are, node by node, the distance in branches to the closest tip -/
theorem depth_is_distance_to_closest_tip (adj : List (List Nat)) (dep : List Nat) (h : tipDistOK adj dep = true)
    (v : Nat) (hv : v < adj.length) : IsTipDist adj v (dep.getD v 0) :=
  tipDistOK_sound adj dep h v hv

/-- the distance to the closest tip is unique: two lists passing the oracle agree on every node -/
theorem depth_oracle_determines_depths (adj : List (List Nat)) (d1 d2 : List Nat) (h1 : tipDistOK adj d1 = true)
    (h2 : tipDistOK adj d2 = true) (v : Nat) (hv : v < adj.length) : d1.getD v 0 = d2.getD v 0 :=
  Nat.le_antisymm ((tipDistOK_sound adj d1 h1 v hv).2 _ (tipDistOK_sound adj d2 h2 v hv).1)
    ((tipDistOK_sound adj d2 h2 v hv).2 _ (tipDistOK_sound adj d1 h1 v hv).1)

/-- partial: the model of `computeDepthUnRooted` stops within its fuel and its depths pass the oracle
    (hence are the distances to the closest tip) and equal the two-pass Spec `depthsOf`, on all 3 + 15 +
    105 unrooted topologies of 4, 5, 6 tips and on unrooted generator outputs (kernel evaluation) -/
theorem computeDepthUnRooted_meets_spec_partial :
    ([4, 5, 6].all fun (n : Nat) =>
      match allTopologies (n : Int) false with
      | .ok ts => ts.all fun t =>
          match goComputeDepthsUnrooted t with
          | some ds => tipDistOKInt (adjOf t) ds && depthsOK t ds
          | none => false
      | _ => false) = true ∧
    ([run .caterpillar 7 false [] [], run .balanced 3 false [] [], run .uniform 8 false [0, 2, 1, 5, 3, 0] [],
      run .yule 8 false [1, 0, 3, 2, 4, 1] [], run .star 5 false [] []].all fun r =>
      match r with
      | .ok o => !o.t.rooted &&
          (match goComputeDepthsUnrooted o.t with
           | some ds => tipDistOKInt (adjOf o.t) ds && depthsOK o.t ds
           | none => false)
      | _ => false) = true := by
  constructor <;> decide +kernel

/-- before 7dc6678 the loop kept the depths computed earlier: with stale depths (here: those of the
    tree while it was rooted elsewhere, all 7) nothing is filled and the stale values are reported;
    the reset makes the result independent of them -/
theorem computeDepthUnRooted_stale_pinned_fails :
    (match run .caterpillar 5 false [] [] with
     | .ok o =>
       (match goComputeDepthsUnrootedPinned o.t (List.replicate o.t.size 7) with
        | some ds => !tipDistOKInt (adjOf o.t) ds
        | none => true) &&
       goComputeDepthsUnrooted o.t (List.replicate o.t.size 7) == goComputeDepthsUnrooted o.t [] &&
       (match goComputeDepthsUnrooted o.t (List.replicate o.t.size 7) with
        | some ds => tipDistOKInt (adjOf o.t) ds
        | none => false)
     | _ => false) = true := by
  decide +kernel

/-! ### gen_rejects -/

/-- Sizes below the minimum (negative ones included) are answered by an error — never by a
    panic, never by a tree — whatever the draws. -/
theorem gen_rejects (g : GenKind) (n : Int) (rooted : Bool) (ints : List Nat) (lens : List Rat)
    (h : n < (g.min rooted : Int)) : (run g n rooted ints lens).isErr = true := by
  cases g with
  | uniform => exact insertionGen_rejects _ n rooted lens h
  | yule => exact insertionGen_rejects _ n rooted lens h
  | caterpillar => exact insertionGen_rejects _ n rooted lens h
  | balanced =>
    cases rooted with
    | true =>
      have : n < 1 := by simpa [GenKind.min] using h
      simp [run, balanced, this, Res.isErr]
    | false =>
      have h2 : n < 2 := by simpa [GenKind.min] using h
      by_cases h1 : n < 1
      · simp [run, balanced, h1, Res.isErr]
      · simp [run, balanced, h1, h2, Res.isErr]
  | star =>
    have : n < 2 := by simpa [GenKind.min] using h
    simp [run, star, this, Res.isErr]

/-! ### the documented minimum and the effective one

   `GenKind.docMin` is what the guards of the code and their messages document; `GenKind.min` is
   the size from which a call succeeds (hypothesis of `gen_ok`, bound of `gen_rejects`).  Since
   f417e91 (found by this check's audit) they coincide. -/

/-- the documented minimum is the effective one: no size is documented as valid and then rejected -/
theorem documented_minimum (g : GenKind) (n : Int) (rooted : Bool) :
    g.docMin rooted = g.min rooted ∧ docGap g n rooted = false := by
  have hmin : g.docMin rooted = g.min rooted := by cases g <;> cases rooted <;> rfl
  refine ⟨hmin, ?_⟩
  unfold docGap
  rw [hmin]
  by_cases h : ((g.min rooted : Nat) : Int) ≤ n
  · have : ¬ n < ((g.min rooted : Nat) : Int) := by omega
    simp [h, this]
  · simp [h]

/-- before f417e91 the guards documented 2 tips for the unrooted insertion generators: that call
    passed them and ended in the unrelated error of `RerootFirst`; now it is refused by the guard -/
theorem two_tips_unrooted_doc_pinned_fails :
    (match insertionGenDoc2 (yuleStep [] []) 2 false [] with | .err m => m == errNoDeg3 | _ => false) = true ∧
    (match insertionGen (yuleStep [] []) 2 false [] with | .err m => m == errLess3All | _ => false) = true := by
  decide +kernel

/-- from the documented minimum on, outside that region, every call succeeds (`gen_ok` restated with
    the documented bound) -/
theorem gen_ok_documented (g : GenKind) (n : Nat) (rooted : Bool) (ints : List Nat) (lens : List Rat)
    (hg : g ≠ .star) (h : g.docMin rooted ≤ n) (hgap : docGap g (n : Int) rooted = false)
    (hd : drawsInRange g n rooted ints = true) (hl : lensNonneg lens = true) :
    ∃ o, run g (n : Int) rooted ints lens = .ok o ∧ o.t.binary = true ∧
      o.t.tipNames.Perm (tipNamesUpTo (g.ntips n)) ∧ o.t.rooted = rooted ∧ lensOk o.t = true ∧
      indexReady o = true := by
  have hmin : g.min rooted ≤ n := by
    unfold docGap at hgap
    have h' : ((g.docMin rooted : Nat) : Int) ≤ (n : Int) := by omega
    simp only [h', decide_true, Bool.true_and, decide_eq_false_iff_not] at hgap
    omega
  exact gen_ok g n rooted ints lens hg hmin hd hl

/-! ### shapes -/

/-- the caterpillar generator returns a caterpillar: the inner nodes form a path (rooted: a
    ladder from the root; unrooted: the root is an inner node with at most two inner neighbours) -/
theorem caterpillar_shape (n : Nat) (rooted : Bool) (lens : List Rat) (h : GenKind.caterpillar.min rooted ≤ n)
    (hl : lensNonneg lens = true) :
    ∃ o, run .caterpillar (n : Int) rooted [] lens = .ok o ∧ caterShape rooted o.t = true :=
  caterpillar_shape_lemma n rooted lens h hl

/-- the balanced generator returns the complete binary tree of the requested depth (rooted: two
    complete halves of height `d-1`; unrooted: re-hung on the root of one half) -/
theorem balanced_shape (d : Nat) (rooted : Bool) (lens : List Rat) (h : GenKind.balanced.min rooted ≤ d)
    (hl : lensNonneg lens = true) :
    ∃ o, run .balanced (d : Int) rooted [] lens = .ok o ∧ balancedShape rooted d o.t = true := by
  obtain ⟨o, h1, _, h3⟩ := balanced_ok d rooted lens h hl
  exact ⟨o, h1, h3⟩

/-- the star generator returns a single inner node carrying the `n` tips `Tip0 … Tip(n-1)`, all
    branches of length 1 (≥ 0), index ready -/
theorem star_shape (n : Nat) (h : 2 ≤ n) :
    ∃ o, run .star (n : Int) false [] [] = .ok o ∧ starShape n o.t = true ∧
      o.t.tipNames.Perm (tipNamesUpTo n) ∧ lensOk o.t = true ∧ indexReady o = true := by
  obtain ⟨o, h1, h2, h3, h4, h5⟩ := star_ok n h
  exact ⟨o, h1, h5, h2, h3, h4⟩

/-- the star written by `gotree generate startree` (every branch length redrawn with Exp, in
    `Edges()` order): with non-negative Exp values it passes the oracle predicate — star shape,
    names `Tip0 … Tip(n-1)`, lengths ≥ 0 — and its index is ready -/
theorem starCli_ok (n : Nat) (lens : List Rat) (h2 : 2 ≤ n) (hl : lensNonneg lens = true) :
    ∃ o, starCli (n : Int) lens = .ok o ∧ genTreeOK2 .star n false o.t = true ∧ indexReady o = true := by
  have h1 : ¬ ((n : Int) < 2) := by omega
  refine ⟨_, by simp only [starCli, h1, if_false]; rfl, ?_⟩
  have hlen : ((List.range ((n : Int).toNat)).map fun i => (newEdge (lenAt lens i), T.leaf (tipName i))).length = n := by simp
  have hp : (finishOut (.node newNodeD 0 ((List.range ((n : Int).toNat)).map fun i =>
      (newEdge (lenAt lens i), T.leaf (tipName i))))).t.tipNames.Perm (tipNamesUpTo n) := by
    have hn1 : (n == 1) = false := by simp; omega
    simp only [finishOut, T.tipNames, T.kids_node, hlen, hn1]
    rw [leavesL_map_leaf (fun i => newEdge (lenAt lens i)) tipName]
    simp [tipNamesUpTo]
  have hlo : lensOk (finishOut (.node newNodeD 0 ((List.range ((n : Int).toNat)).map fun i =>
      (newEdge (lenAt lens i), T.leaf (tipName i))))).t = true := by
    rw [lensOk_eq]
    exact edgesAllL_map_leaf nonneg (fun i => newEdge (lenAt lens i)) tipName
      (by intro i; simp only [nonneg, newEdge]; exact decide_eq_true (lenAt_nonneg lens hl i)) _
  refine ⟨?_, indexReady_of_perm _ n hp⟩
  unfold genTreeOK2
  simp only [GenKind.ntips, genTreeOK_common _ n hp hlo, Bool.true_and]
  simp [starShape, finishOut, T.isLeaf, T.leaf]

theorem starCli_rejects (n : Int) (lens : List Rat) (h : n < 2) : (starCli n lens).isErr = true := by
  simp [starCli, h, Res.isErr]

/-! ### ★ the enumeration -/

/-- ★ the enumerator returns (2n-5)!! unrooted / (2n-3)!! rooted trees (with the default names
    `names = []`, or with `n` caller-supplied names) -/
theorem allTopologies_count (n : Nat) (rooted : Bool) (names : List String) (h : (if rooted then 2 else 3) ≤ n)
    (hn : names = [] ∨ names.length = n) :
    ∃ ts, allTopologies (n : Int) rooted names = .ok ts ∧
      ts.length = if rooted then dfact (2 * n - 3) else dfact (2 * n - 5) := by
  refine ⟨_, allTopologies_enum h hn, ?_⟩
  rw [List.length_map, enumRaw_length h]; rfl

/-- every enumerated tree is a binary tree whose tips are exactly the `n` names (`Tip1 … Tipn` by
    default), with a root of degree 3 (unrooted) or 2 (rooted; since 7eca7b6 the start node above
    the root is removed from the returned copy) -/
theorem allTopologies_wellformed (n : Nat) (rooted : Bool) (names : List String) (h : (if rooted then 2 else 3) ≤ n)
    (hn : names = [] ∨ names.length = n) :
    ∃ ts, allTopologies (n : Int) rooted names = .ok ts ∧
      ∀ t ∈ ts, t.tipNames.Perm (topoNames names n) ∧ binaryL t.kids = true ∧
        t.kids.length = (if rooted then 2 else 3) := by
  exact ⟨_, allTopologies_enum h hn, enum_wf h⟩

/-- The enumerator never returns the same topology twice, for every `n` (default names, or `n`
    pairwise different caller-supplied names): the families of leaf sets below the branches
    (`belowFam`, the tree seen from its root) are pairwise different as sets of sets
    (`pairwiseDistinct`/`famEq` of the Spec).  For the rooted enumeration this family IS the
    rooted labelled topology (its set of clades).  For the unrooted one see
    `allTopologies_nodup_unrooted`. -/
theorem allTopologies_nodup (n : Nat) (rooted : Bool) (names : List String) (h : (if rooted then 2 else 3) ≤ n)
    (hn : names = [] ∨ (names.length = n ∧ names.Nodup)) :
    ∃ ts, allTopologies (n : Int) rooted names = .ok ts ∧ pairwiseDistinct (ts.map belowFam) = true := by
  refine ⟨_, allTopologies_enum h (hn.imp id (·.1)), ?_⟩
  rw [pairwiseDistinct_iff, List.pairwise_map]
  refine (enum_pairwise h (topoName_inj names n hn)).imp ?_
  intro a b hab
  cases rooted with
  | true => exact hab
  | false => exact fun hfe => hab (uSame_of_famEq _ hfe)

/-- Unrooted enumeration: no two returned trees have the same set of splits, where a split is a
    leaf set up to complement (`USame`: every leaf set below a branch of one tree is, as a set, a
    leaf set below a branch of the other or the complement of one).  The proof uses that all
    trees are seen from the node joining the first three tips, so a leaf set below a branch never
    holds two of these and its complement always does. -/
theorem allTopologies_nodup_unrooted (n : Nat) (names : List String) (h : 3 ≤ n)
    (hn : names = [] ∨ (names.length = n ∧ names.Nodup)) :
    ∃ ts, allTopologies (n : Int) false names = .ok ts ∧
      ts.Pairwise (fun a b => ¬ USame (topoNames names n) (belowFam a) (belowFam b)) := by
  exact ⟨_, allTopologies_enum (rooted := false) h (hn.imp id (·.1)),
    enum_pairwise (rooted := false) h (topoName_inj names n hn)⟩

/-- the enumerator rejects sizes below 3 (unrooted) / 2 (rooted) by an error, and a list of names
    whose length is not the requested number of tips -/
theorem allTopologies_rejects (n : Int) (rooted : Bool) (names : List String)
    (h : n < (if rooted then 2 else 3) ∨ (names ≠ [] ∧ (names.length : Int) ≠ n)) :
    (allTopologies n rooted names).isErr = true := by
  unfold allTopologies
  split
  · rfl
  · split
    · rfl
    · rename_i h1 h2
      rcases h with h | ⟨hne, hl⟩
      · exfalso
        cases rooted with
        | false => have : n < 3 := by simpa using h
                   simp [this] at h1
        | true => have : n < 2 := by simpa using h
                  simp [this] at h2
      · have hpos : names.length > 0 := List.length_pos_iff.mpr hne
        simp [hpos, hl, Res.isErr]

/-- the kernel-evaluable predicate `topoCheck` of the Spec (count, well-formed trees, pairwise different
    families `cladeFam`) on the model's enumeration, sizes 3 … 6 (unrooted) and 2 … 5 (rooted): instances of
    `topoCheck_of_le`, which holds at every accepted size -/
theorem allTopologies_nodup_partial :
    ([3, 4, 5, 6].all (topoCheck false) && [2, 3, 4, 5].all (topoCheck true)) = true := by
  have hu : ∀ n, 3 ≤ n → topoCheck false n = true := fun n h => topoCheck_of_le (rooted := false) h
  have hr : ∀ n, 2 ≤ n → topoCheck true n = true := fun n h => topoCheck_of_le (rooted := true) h
  simp [hu, hr]

/-! ### the enumeration oracle: numeric canonical form

   `topoKeyN` turns the family of leaf sets below the branches into one number; the driver
   evaluates `topoOKN` (count, well-formed trees, pairwise different keys) on every enumeration
   the Go code returns, of any size.  The four theorems below say that this Bool oracle is
   exactly the mathematical claim: equal keys ⇔ same topology, an accepted list is pairwise
   different (whatever produced it), and the model's own enumeration is accepted for every `n`. -/

/-- rooted: two trees on the reference tips get the same key iff they have the same set of clades -/
theorem topoKeyN_rooted_iff_famEq (all : List String) (a b : T) (ha : a.tipNames.Perm all) (hb : b.tipNames.Perm all) :
    topoKeyN all true a = topoKeyN all true b ↔ famEq (belowFam a) (belowFam b) = true := by
  rw [famEq_iff]
  exact topoKeyN_rooted_iff all a b (famIn_of_tips all a ha) (famIn_of_tips all b hb)

/-- unrooted: two trees on the (pairwise different) reference tips get the same key iff they have
    the same set of splits (leaf sets up to complement) -/
theorem topoKeyN_unrooted_iff_uSame (all : List String) (hn : all.Nodup) (a b : T) (ha : a.tipNames.Perm all)
    (hb : b.tipNames.Perm all) :
    topoKeyN all false a = topoKeyN all false b ↔ USame all (belowFam a) (belowFam b) :=
  topoKeyN_unrooted_iff all hn a b (famIn_of_tips all a ha) (famIn_of_tips all b hb)

/-- soundness of the oracle: a list of trees accepted by `topoOKN` — whatever produced it — has the
    right number of trees, each a binary tree on the requested tips, no topology twice -/
theorem topoOKN_sound (n : Nat) (rooted : Bool) (names : List String) (hn : (topoNames names n).Nodup) (ts : List T)
    (h : topoOKN n rooted ts names = true) :
    ts.length = topoCount n rooted ∧ (∀ t ∈ ts, topoTreeOK n rooted t names = true) ∧
    ts.Pairwise (fun a b => if rooted then ¬ FamEq (belowFam a) (belowFam b)
      else ¬ USame (topoNames names n) (belowFam a) (belowFam b)) := by
  unfold topoOKN at h
  simp only [Bool.and_eq_true, List.all_eq_true, beq_iff_eq] at h
  exact ⟨h.1.1, h.1.2, (distinctNat_keys_iff _ rooted hn ts
    (fun t ht => famIn_of_treeOK n rooted names t (h.1.2 t ht))).mp h.2⟩

/-- the model's enumeration passes the oracle for every `n` (default names or `n` pairwise
    different caller-supplied names) -/
theorem allTopologies_meets_oracle (n : Nat) (rooted : Bool) (names : List String) (h : (if rooted then 2 else 3) ≤ n)
    (hn : names = [] ∨ (names.length = n ∧ names.Nodup)) :
    ∃ ts, allTopologies (n : Int) rooted names = .ok ts ∧ topoOKN n rooted ts names = true := by
  have hinj := topoName_inj names n hn
  have hall : (topoNames names n).Nodup := namesUpTo_nodup (topoName names) n n hinj (Nat.le_refl n)
  refine ⟨_, allTopologies_enum h (hn.imp id (·.1)), ?_⟩
  unfold topoOKN
  simp only [Bool.and_eq_true, List.all_eq_true, beq_iff_eq, List.length_map]
  refine ⟨⟨enumRaw_length h, fun t ht => ?_⟩, ?_⟩
  · obtain ⟨w1, w2, w3⟩ := enum_wf h t ht
    unfold topoTreeOK
    simp only [Bool.and_eq_true]
    exact ⟨⟨sameNames_of_perm _ _ w1, w2⟩, by cases rooted <;> simp [w3]⟩
  · exact (distinctNat_keys_iff (topoNames names n) rooted hall _
      (fun t ht => famIn_of_tips _ t (enum_wf h t ht).1)).mpr (enum_pairwise h hinj)

/-! ### exhaustiveness: every labelled binary topology is enumerated

   Together with `allTopologies_nodup` / `_nodup_unrooted` this is "each topology exactly once"
   without appeal to the classical count of labelled binary trees (which becomes a corollary of
   `allTopologies_count`).  Proof: prune the last tip of the given tree, find the smaller tree in
   the enumeration (induction), re-insert the tip on the matching branch (`Lemmas/C16Surj`). -/

/-- ROOTED: every rooted binary tree on the `n` names (root with two children, every inner node with
    two children, tips = the names) has the same set of clades as one of the enumerated trees -/
theorem allTopologies_exhaustive_rooted (n : Nat) (names : List String) (h : 2 ≤ n)
    (hn : names = [] ∨ (names.length = n ∧ names.Nodup)) :
    ∃ ts, allTopologies (n : Int) true names = .ok ts ∧
      ∀ t : T, t.kids.length = 2 → binaryL t.kids = true → (leavesL t.kids).Perm (topoNames names n) →
        ∃ t' ∈ ts, FamEq (belowFam t) (belowFam t') := by
  refine ⟨_, allTopologies_enum (rooted := true) h (hn.imp id (·.1)), fun t hdeg hbin hleaves => ?_⟩
  simpa only [belowFam_eq] using
    enum_exhaustive (rooted := true) h (topoName_inj names n hn) t hdeg hbin hleaves (fun hh => by cases hh)

/-- UNROOTED: every binary tree on the `n` names, drawn from the node that joins the first three names
    (root with three children, every other inner node with two, no leaf set below a branch holding two
    of the first three names — every unrooted binary tree has exactly one such drawing), has the same
    family of leaf sets as one of the enumerated trees -/
theorem allTopologies_exhaustive_unrooted (n : Nat) (names : List String) (h : 3 ≤ n)
    (hn : names = [] ∨ (names.length = n ∧ names.Nodup)) :
    ∃ ts, allTopologies (n : Int) false names = .ok ts ∧
      ∀ t : T, t.kids.length = 3 → binaryL t.kids = true → (leavesL t.kids).Perm (topoNames names n) →
        Q3 (topoName names 0) (topoName names 1) (topoName names 2) (belowFam t) →
        ∃ t' ∈ ts, FamEq (belowFam t) (belowFam t') := by
  refine ⟨_, allTopologies_enum (rooted := false) h (hn.imp id (·.1)), fun t hdeg hbin hleaves hq => ?_⟩
  rw [belowFam_eq] at hq
  simpa only [belowFam_eq] using
    enum_exhaustive (rooted := false) h (topoName_inj names n hn) t hdeg hbin hleaves (fun _ => hq)

/-- UNROOTED, any drawing: every binary tree on the `n` names drawn from ANY node of degree three
    (root with three children, every other inner node with two) has the same set of splits — leaf
    sets up to complement, `USame` — as one of the enumerated trees.  (The tree is first re-drawn from
    the node joining the first three names, `median_drawing`, which keeps the split set.) -/
theorem allTopologies_exhaustive_unrooted_any (n : Nat) (names : List String) (h : 3 ≤ n)
    (hn : names = [] ∨ (names.length = n ∧ names.Nodup)) :
    ∃ ts, allTopologies (n : Int) false names = .ok ts ∧
      ∀ t : T, t.kids.length = 3 → binaryL t.kids = true → (leavesL t.kids).Perm (topoNames names n) →
        ∃ t' ∈ ts, USame (topoNames names n) (belowFam t) (belowFam t') := by
  have hinj := topoName_inj names n hn
  have hall : (topoNames names n).Nodup := namesUpTo_nodup (topoName names) n n hinj (Nat.le_refl n)
  have h' : (if false then 2 else 3) ≤ n := h
  have ne : ∀ i j, i < 3 → j < 3 → i ≠ j → topoName names i ≠ topoName names j :=
    fun i j hi hj hij e => hij (hinj i j (by omega) (by omega) e)
  refine ⟨_, allTopologies_enum h' (hn.imp id (·.1)), fun t hdeg hbin hleaves => ?_⟩
  have hU : U3 (topoNames names n) t := ⟨hdeg, hbin, hleaves⟩
  obtain ⟨t₂, hU2, hq2, hus⟩ := median_drawing (topoNames names n) hall _ _ _ (ne 0 1 (by omega) (by omega) (by omega))
    (ne 0 2 (by omega) (by omega) (by omega)) (ne 1 2 (by omega) (by omega) (by omega)) t hU
  obtain ⟨t', ht', hfe⟩ := enum_exhaustive h' hinj t₂ hU2.deg hU2.bin hU2.leaves (fun _ => hq2)
  refine ⟨t', ht', ?_⟩
  simp only [belowFam_eq]
  exact USame.trans (famIn_of_U3 hU) (fun S hS y hy => (enum_leaves h' t' ht').subset (belowsL_sub _ S hS y hy)) hus
    (uSame_of_famEq _ hfe)

/-- the hypotheses of the two theorems are satisfiable: the caterpillars ((Tip1,Tip2),(Tip3,Tip4)) and
    ((Tip4,Tip1),Tip2,Tip3) -/
example : (leavesL (T.node ⟨"", []⟩ 0 [(EdgeD.blank, .node ⟨"", []⟩ 0 [(EdgeD.blank, T.leaf "Tip1"), (EdgeD.blank, T.leaf "Tip2")]),
    (EdgeD.blank, .node ⟨"", []⟩ 0 [(EdgeD.blank, T.leaf "Tip3"), (EdgeD.blank, T.leaf "Tip4")])]).kids) =
    ["Tip1", "Tip2", "Tip3", "Tip4"] := by decide

/-! ### the other constructors of treegen.go -/

/-- `StarTreeFromName`: with at least two names, a star carrying exactly these names in this order,
    all lengths 1; index ready when the names are pairwise different; fewer than two names: error -/
theorem starFromNames_ok (names : List String) (h : 2 ≤ names.length) :
    ∃ o, starFromNames names = .ok o ∧ starFromNamesOK names o.t = true ∧ o.t.tipNames = names ∧
      (names.Nodup → o.index = some (sortNames names)) := by
  have h1 : ¬ names.length < 2 := by omega
  refine ⟨finishOut (starOf (names.map fun x => (1, x))), by simp [starFromNames, h1], ?_, ?_, ?_⟩
  · have := starIs_starOf (names.map fun x => ((1 : Rat), x))
    simpa [starFromNamesOK, finishOut, List.map_map, Function.comp_def] using this
  · have := starOf_tipNames (names.map fun x => ((1 : Rat), x)) (by simpa using h)
    simpa [finishOut, List.map_map, Function.comp_def] using this
  · intro hn
    have ht := starOf_tipNames (names.map fun x => ((1 : Rat), x)) (by simpa using h)
    have ht' : (starOf (names.map fun x => ((1 : Rat), x))).tipNames = names := by
      simpa [List.map_map, Function.comp_def] using ht
    simp [finishOut, updateTipIndex, ht', hasDup_false_of_nodup _ hn]

theorem starFromNames_rejects (names : List String) (h : names.length < 2) : (starFromNames names).isErr = true := by
  simp [starFromNames, h, Res.isErr]

/-- `StarTreeFromTree`: a star with one tip per terminal branch of the input, same names, same
    lengths (absent ones included), same order — whatever the shape of the input -/
theorem starFromTree_ok (tin : T) (h : 2 ≤ (tipEdgesOf tin).length) (hn : ((tipEdgesOf tin).map (·.1)).Nodup) :
    ∃ o, starFromTree tin = .ok o ∧ starFromTreeOK tin o.t = true ∧ o.t.tipNames = (tipEdgesOf tin).map (·.1) := by
  have hlen : (tin.splits.filter (·.tip)).length = (tipEdgesOf tin).length := by simp [tipEdgesOf]
  have h1 : ¬ (tin.splits.filter (·.tip)).length < 2 := by omega
  have ht := starOf_tipNames ((tin.splits.filter (·.tip)).map fun s => (s.e.len, s.below.headD "")) (by simpa using (hlen ▸ h))
  have ht' : (starOf ((tin.splits.filter (·.tip)).map fun s => (s.e.len, s.below.headD ""))).tipNames =
      (tipEdgesOf tin).map (·.1) := by
    simpa [tipEdgesOf, List.map_map, Function.comp_def] using ht
  refine ⟨⟨starOf ((tin.splits.filter (·.tip)).map fun s => (s.e.len, s.below.headD "")),
    some (sortNames ((tipEdgesOf tin).map (·.1)))⟩, ?_, ?_, ht'⟩
  · simp only [starFromTree, h1, if_false, finishChecked, updateTipIndex, ht', hasDup_false_of_nodup _ hn,
      Bool.false_eq_true]
  · have := starIs_starOf ((tin.splits.filter (·.tip)).map fun s => (s.e.len, s.below.headD ""))
    simpa [starFromTreeOK, tipEdgesOf, List.map_map, Function.comp_def] using this

/-- `BipartitionTree`: two sides of at least two names, all pairwise different: the tree whose
    only inner branch separates them, all lengths 1, index ready -/
theorem bipartitionTree_ok (left right : List String) (hl : 2 ≤ left.length) (hr : 2 ≤ right.length)
    (hd : (left ++ right).Nodup) :
    ∃ o, bipartitionTree left right = .ok o ∧ twoStarOK left right o.t = true ∧ o.t.tipNames = right ++ left ∧
      o.index = some (sortNames (right ++ left)) := by
  have hdis := (List.nodup_append.mp hd).2.2
  have hany : right.any left.contains = false := by
    rw [List.any_eq_false]
    intro x hx hc
    simp only [List.contains_eq_mem, decide_eq_true_eq] at hc
    exact hdis x hc x hx rfl
  have hlen : (decide (left.length ≤ 1) || decide (right.length ≤ 1)) = false := by simp; omega
  have ht := twoStar_tipNames left right (by omega) (by omega)
  have hn : (right ++ left).Nodup := (List.perm_append_comm).nodup_iff.mp hd
  refine ⟨⟨twoStar left right, some (sortNames (right ++ left))⟩, ?_, twoStarOK_twoStar left right (by omega) (by omega), ht, rfl⟩
  simp only [bipartitionTree, hlen, hany, Bool.false_eq_true, if_false, finishChecked, updateTipIndex, ht,
    hasDup_false_of_nodup _ hn]

/-- a side with fewer than two names, or a name on both sides, is an error -/
theorem bipartitionTree_rejects (left right : List String)
    (h : left.length ≤ 1 ∨ right.length ≤ 1 ∨ ∃ x, x ∈ left ∧ x ∈ right) :
    (bipartitionTree left right).isErr = true := by
  unfold bipartitionTree
  split
  · rfl
  · split
    · rfl
    · rename_i h1 h2
      exfalso
      rcases h with h | h | ⟨x, hx, hy⟩
      · apply h1; simp [h]
      · apply h1; simp [h]
      · apply h2
        rw [List.any_eq_true]
        exact ⟨x, hy, by simpa using hx⟩

/-- `EdgeTree` on a branch of a tree with pairwise different tip names: the tree whose only inner
    branch separates the tips below that branch from the others -/
theorem edgeTree_ok (tin : T) (k : Nat) (hk : k < tin.splits.length) (hn : tin.tipNames.Nodup) :
    ∃ o, edgeTree tin k = .ok o ∧
      twoStarOK (tin.tipNames.filter fun x => !(tin.splits[k]).below.contains x)
        (tin.tipNames.filter fun x => (tin.splits[k]).below.contains x) o.t = true := by
  have hm : tin.splits[k] ∈ tin.splits := List.getElem_mem hk
  have hprop := T.below_proper tin _ hm
  have hsub := (below_sublist_tipNames tin _ hm).subset
  -- something is below the branch …
  have hr : 1 ≤ (tin.tipNames.filter fun x => (tin.splits[k]).below.contains x).length := by
    obtain ⟨x, hx⟩ := List.exists_mem_of_length_pos hprop.1
    have : x ∈ tin.tipNames.filter fun x => (tin.splits[k]).below.contains x := by
      simp [List.mem_filter, hsub hx, hx]
    exact List.length_pos_of_mem this
  -- … and something is not
  have hl : 1 ≤ (tin.tipNames.filter fun x => !(tin.splits[k]).below.contains x).length := by
    apply Nat.pos_of_ne_zero
    intro h0
    have hnil := List.length_eq_zero_iff.mp h0
    have hall : tin.tipNames ⊆ (tin.splits[k]).below := by
      intro x hx
      have : x ∉ tin.tipNames.filter fun x => !(tin.splits[k]).below.contains x := by rw [hnil]; simp
      simp only [List.mem_filter, hx, true_and, Bool.not_eq_true', List.contains_eq_mem, decide_eq_false_iff_not] at this
      exact Classical.not_not.mp this
    have := hn.length_le_of_subset hall
    omega
  refine ⟨finishOut (twoStar (tin.tipNames.filter fun x => !(tin.splits[k]).below.contains x)
    (tin.tipNames.filter fun x => (tin.splits[k]).below.contains x)), by simp only [edgeTree, List.getElem?_eq_getElem hk], ?_⟩
  exact twoStarOK_twoStar _ _ hl hr

/-- which inputs these constructors reject, read off the inputs alone (the predicates the driver uses
    as oracle; the model is only used for the tie) -/
theorem extra_rejections (names left right : List String) (tin : T) :
    (starFromNames names).isErr = starnMustReject names ∧
    (starFromTree tin).isErr = startMustReject tin ∧
    (bipartitionTree left right).isErr = bipartMustReject left right := by
  refine ⟨?_, ?_, ?_⟩
  · unfold starFromNames starnMustReject
    split <;> simp_all [Res.isErr]
  · have hlen : (tin.splits.filter (·.tip)).length = (tipEdgesOf tin).length := by simp [tipEdgesOf]
    unfold startMustReject
    by_cases h2 : (tipEdgesOf tin).length < 2
    · have : (tin.splits.filter (·.tip)).length < 2 := hlen ▸ h2
      simp [starFromTree, this, h2, Res.isErr]
    · have h2' : ¬ (tin.splits.filter (·.tip)).length < 2 := hlen ▸ h2
      have ht := starOf_tipNames ((tin.splits.filter (·.tip)).map fun s => (s.e.len, s.below.headD "")) (by simp; omega)
      have ht' : (starOf ((tin.splits.filter (·.tip)).map fun s => (s.e.len, s.below.headD ""))).tipNames =
          (tipEdgesOf tin).map (·.1) := by
        simpa [tipEdgesOf, List.map_map, Function.comp_def] using ht
      simp only [starFromTree, h2', if_false, finishChecked, updateTipIndex, ht', h2, decide_false, Bool.false_or]
      cases hasDup ((tipEdgesOf tin).map (·.1)) <;> simp [Res.isErr]
  · unfold bipartMustReject
    by_cases hl : left.length ≤ 1
    · simp [bipartitionTree, hl, Res.isErr]
    · by_cases hr : right.length ≤ 1
      · simp [bipartitionTree, hr, Res.isErr]
      · by_cases hany : right.any left.contains = true
        · -- a common name: a duplicate of left ++ right
          have hd : hasDup (left ++ right) = true := by
            apply hasDup_true_of_not_nodup
            intro hn
            obtain ⟨x, hx, hc⟩ := List.any_eq_true.mp hany
            simp only [List.contains_eq_mem, decide_eq_true_eq] at hc
            exact (List.nodup_append.mp hn).2.2 x hc x hx rfl
          simp [bipartitionTree, hany, hd, hl, hr, Res.isErr]
        · have hany' : right.any left.contains = false := by simpa using hany
          have ht := twoStar_tipNames left right (by omega) (by omega)
          have hp : hasDup (right ++ left) = hasDup (left ++ right) := hasDup_perm List.perm_append_comm
          simp only [bipartitionTree, hany', Bool.false_eq_true, if_false, finishChecked, updateTipIndex, ht, hp,
            hl, hr, decide_false, Bool.false_or]
          cases hasDup (left ++ right) <;> simp [Res.isErr]

/-! ### the command loop (`uniformTree` … `starTree` of cmd/*.go; model `genCli`) -/

/-- the call the command makes for its `i`-th tree, with the `i`-th block of draws -/
def cliCall (g : GenKind) (n : Int) (rooted : Bool) (ints : Nat → List Nat) (lens : Nat → List Rat) (i : Nat) : Res Out :=
  if g == .star then starCli n (lens i) else run g n rooted (ints i) (lens i)

/-- `gotree generate <cmd>` with a valid size, a creatable output and admissible draws: exit status 0,
    nothing logged, exactly the requested number of trees, every one of them passing the oracle
    predicate of the library call -/
theorem generate_cli_ok (g : GenKind) (n : Nat) (rooted : Bool) (r : GenReq) (ints : Nat → List Nat) (lens : Nat → List Rat)
    (h : g.min rooted ≤ n) (hd : ∀ i, drawsInRange g n rooted (ints i) = true) (hl : ∀ i, lensNonneg (lens i) = true)
    (hs : g = .star → rooted = false) :
    let out := genCli r true (cliCall g n rooted ints lens)
    out.exit = 0 ∧ out.logged = false ∧ out.trees.length = r.nbtrees.toNat ∧
    ∀ t ∈ out.trees, genTreeOK2 g n rooted t = true := by
  have hok : ∀ i, ∃ o, cliCall g n rooted ints lens i = .ok o ∧ genTreeOK2 g n rooted o.t = true := by
    intro i
    by_cases hg : g = .star
    · subst hg
      have h2 : 2 ≤ n := by simpa [GenKind.min] using h
      obtain ⟨o, h1, h3, _⟩ := starCli_ok n (lens i) h2 (hl i)
      rw [hs rfl]
      exact ⟨o, by simp [cliCall, h1], h3⟩
    · obtain ⟨o, h1, h3⟩ := gen_meets_oracle2 g n rooted (ints i) (lens i) h (hd i) (hl i)
      exact ⟨o, by simp [cliCall, hg, h1], h3⟩
  have hloop := cliLoop_ok (cliCall g n rooted ints lens) (fun t => genTreeOK2 g n rooted t = true) r.nbtrees.toNat 0 []
    (fun j _ _ => hok j) (by simp)
  simp only [genCli, Bool.not_true, Bool.and_false, Bool.false_eq_true, if_false]
  exact ⟨hloop.1, hloop.2.1, by simpa using hloop.2.2.1, hloop.2.2.2⟩

/-- a rejected size with at least one tree asked for: the first call fails, nothing is written, the
    error is logged and the exit status is 1 (`RunE`, table row `entry`) -/
theorem generate_cli_rejects (g : GenKind) (n : Int) (rooted : Bool) (r : GenReq) (creatable : Bool)
    (ints : Nat → List Nat) (lens : Nat → List Rat)
    (h : n < (g.min rooted : Int)) (hn : 0 < r.nbtrees) :
    genCli r creatable (cliCall g n rooted ints lens) = ⟨1, true, []⟩ := by
  unfold genCli
  split
  · rfl
  · have hf : (cliCall g n rooted ints lens 0).isOk = false := by
      by_cases hg : g = .star
      · subst hg
        have : n < 2 := by simpa [GenKind.min] using h
        simp [cliCall, starCli, this, Res.isOk]
      · have := gen_rejects g n rooted (ints 0) (lens 0) h
        simp only [cliCall, hg, beq_iff_eq, if_false]
        cases hr : run g n rooted (ints 0) (lens 0) with
        | ok o => rw [hr] at this; simp [Res.isErr] at this
        | err m => rfl
        | panic m => rfl
    obtain ⟨k, hk⟩ : ∃ k, r.nbtrees.toNat = k + 1 := ⟨r.nbtrees.toNat - 1, by omega⟩
    rw [hk]
    exact cliLoop_first_fails _ k 0 hf

/-- an output file that cannot be created: the error is returned before any generator call -/
theorem generate_cli_uncreatable (r : GenReq) (gen : Nat → Res Out) (h : r.toFile = true) :
    genCli r false gen = ⟨1, true, []⟩ := by
  simp [genCli, h]

/-- zero (or a negative number of) trees asked for: the loop body never runs — nothing is written,
    nothing is rejected, whatever the size -/
theorem generate_cli_zero (r : GenReq) (gen : Nat → Res Out) (h : r.nbtrees ≤ 0) :
    genCli r true gen = ⟨0, false, []⟩ := by
  have : r.nbtrees.toNat = 0 := by omega
  simp [genCli, this, cliLoop]

example : GenKind.yule.min true ≤ 5 ∧ (∀ _i : Nat, drawsInRange .yule 5 true [1, 2, 0] = true) ∧
    (⟨5, true, 2, "stdout", some 7, 1⟩ : GenReq).nbtrees.toNat = 2 :=
  ⟨by decide, fun _ => by decide, by decide⟩

/-! ### the command `generate topologies` (model `topoCli`) -/

/-- without `-i`: a valid `-l n` and an output that can be opened: exit status 0, nothing logged, the
    (2n-5)!! / (2n-3)!! trees of the enumeration are written -/
theorem topologies_cli_ok (n : Nat) (rooted : Bool) (h : (if rooted then 2 else 3) ≤ n) :
    ∃ ts, topoCli (n : Int) rooted .absent true = ⟨0, false, ts⟩ ∧ allTopologies (n : Int) rooted [] = .ok ts ∧
      ts.length = if rooted then dfact (2 * n - 3) else dfact (2 * n - 5) := by
  obtain ⟨ts, h1, hc⟩ := allTopologies_count n rooted [] h (Or.inl rfl)
  exact ⟨ts, topoCli_of_ok _ rooted .absent ts (by intro h; cases h) h1, h1, hc⟩

/-- with `-i`: the number of tips is the number of tip names of the input tree, whatever `-l` says -/
theorem topologies_cli_ok_names (l : List String) (m : Int) (rooted : Bool) (h : (if rooted then 2 else 3) ≤ l.length) :
    ∃ ts, topoCli m rooted (.names l) true = ⟨0, false, ts⟩ ∧ allTopologies (l.length : Int) rooted l = .ok ts ∧
      ts.length = if rooted then dfact (2 * l.length - 3) else dfact (2 * l.length - 5) := by
  obtain ⟨ts, h1, hc⟩ := allTopologies_count l.length rooted l h (Or.inr rfl)
  exact ⟨ts, topoCli_of_ok m rooted (.names l) ts (by intro h; cases h) h1, h1, hc⟩

/-- every failure ends with exit status 1, an error logged and nothing written: a size below the
    minimum (taken from `-l`, or from the input tree when `-i` is given), an input that cannot be read,
    an output that cannot be opened -/
theorem topologies_cli_rejects (n : Int) (rooted : Bool) (inp : TopoInput) (creatable : Bool)
    (h : (inp.args n).1 < (if rooted then 2 else 3) ∨ inp = .unreadable ∨ creatable = false) :
    topoCli n rooted inp creatable = ⟨1, true, []⟩ := by
  rcases h with h | h | h
  · exact topoCli_of_err n rooted inp creatable (allTopologies_rejects _ rooted _ (Or.inl h))
  · subst h; rfl
  · subst h; exact topoCli_uncreatable n rooted inp

example : (if true then 2 else 3) ≤ ["A", "b_2", "10"].length := by decide

/-! ### the option model (`parseGenArgs`): what it computes -/

/-- no option: the defaults — 10 tips (depth 3 for balancedtree), one tree, unrooted, standard output, no seed -/
theorem options_defaults (bal : Bool) :
    parseGenArgs bal [] (GenReq.default bal) = some (GenReq.default bal) ∧
    (GenReq.default bal).size = (if bal then 3 else 10) ∧ (GenReq.default bal).nbtrees = 1 ∧
    (GenReq.default bal).rooted = false ∧ (GenReq.default bal).toFile = false ∧ (GenReq.default bal).seed = none := by
  refine ⟨by simp [parseGenArgs], ?_⟩
  cases bal <;> decide

/-- a value option spelled in two words sets its field; the remaining words are read from there -/
theorem options_value_step (bal : Bool) (f v : String) (rest : List String) (r : GenReq) (k : FlagKind)
    (hs : splitFlag f = (f, none)) (hk : flagKind bal f = k) (hr : k ≠ .rooted) (hu : k ≠ .unknown) :
    parseGenArgs bal (f :: v :: rest) r = (setFlag k v r).bind (parseGenArgs bal rest) := by
  subst hk
  rw [parseGenArgs]
  simp only [hs]

/-- `-r` / `--rooted` consumes one word -/
theorem options_rooted_step (bal : Bool) (f : String) (rest : List String) (r : GenReq)
    (hs : splitFlag f = (f, none)) (hk : flagKind bal f = .rooted) :
    parseGenArgs bal (f :: rest) r = parseGenArgs bal rest { r with rooted := true } := by
  cases rest with
  | nil =>
    have hnil : parseGenArgs bal [] { r with rooted := true } = some { r with rooted := true } := by simp [parseGenArgs]
    rw [hnil, parseGenArgs]
    simp only [hs, hk]
  | cons b rest =>
    rw [parseGenArgs]
    simp only [hs, hk]

/-- the size option given twice: the last one counts -/
theorem options_size_twice_last_counts (bal : Bool) (f v1 v2 : String) (rest : List String) (r : GenReq) (x1 x2 : Int)
    (hs : splitFlag f = (f, none)) (hk : flagKind bal f = .size) (h1 : v1.toInt? = some x1) (h2 : v2.toInt? = some x2) :
    parseGenArgs bal (f :: v1 :: f :: v2 :: rest) r = parseGenArgs bal (f :: v2 :: rest) r := by
  rw [options_value_step bal f v1 _ r .size hs hk (by intro h; cases h) (by intro h; cases h)]
  rw [options_value_step bal f v2 _ r .size hs hk (by intro h; cases h) (by intro h; cases h)]
  simp only [setFlag, h1, h2, Option.map_some, Option.bind_some]
  rw [options_value_step bal f v2 _ _ .size hs hk (by intro h; cases h) (by intro h; cases h)]
  simp only [setFlag, h2, Option.map_some, Option.bind_some]

/-- a word that is not an option of the command is a usage error -/
theorem options_unknown_is_usage_error (bal : Bool) (f : String) (rest : List String) (r : GenReq)
    (hk : flagKind bal (splitFlag f).1 = .unknown) : parseGenArgs bal (f :: rest) r = none := by
  cases rest with
  | nil =>
    rw [parseGenArgs]
    split <;> simp_all
  | cons b rest =>
    rw [parseGenArgs]
    split <;> simp_all

/-! ### facts about the source, regenerated on every run (`harness/c16/extract.go` → `Gotree/Gen/C16Source.lean`)

   The hand-written model assumes: the leading rejections of the six generator functions (operator,
   bound, rootedness condition, message, order), the rate of every `gostats.Exp` call (the harness
   replays the draws with it), the options of `gotree generate …` (names, shorthands, defaults,
   variables), which library function each command calls and that its error reaches the exit status
   (`RunE`), and the two spellings of "standard output".  Each is re-decided here against the table
   extracted from the working tree; when a decision fails the cases still run, so that the oracle can
   exhibit a failing input (a guard moved from 3 to 4 rejects the valid size 3, …). -/

/-- the guards of tree/treegen.go are the ones the model was written from (the source text of the
    conditions is not compared: `depth < 2 && !rooted` and `!rooted && depth < 2` are the same row) -/
theorem sourceGuardsCheck : Gotree.Gen.C16.guards.map Guard.sem = expectedGuards.map Guard.sem := rfl

/-- what the extracted guards MEAN is what the model does: for every generator, size, rootedness and
    draws, when a leading `if` of the source fires the model returns that error with that message,
    and when none fires the size is at least `GenKind.min` (so `gen_ok` applies) -/
theorem source_guards_decide_as_model (g : GenKind) (n : Int) (rooted : Bool) (ints : List Nat) (lens : List Rat) :
    match firstFiring (guardsOf Gotree.Gen.C16.guards g.goName) n rooted with
    | some m => run g n rooted ints lens = .err m
    | none => (g.min rooted : Int) ≤ n := by
  rw [firstFiring_congr _ _ sourceGuardsCheck]
  cases g with
  | uniform =>
    simp only [GenKind.goName, guardsOf_uniform]
    by_cases h : n < 3
    · simp [firstFiring, Guard.fires, Cmp.holds, h, run, uniform, insertionGen]
    · simp [firstFiring, Guard.fires, Cmp.holds, h, GenKind.min]; omega
  | yule =>
    simp only [GenKind.goName, guardsOf_yule]
    by_cases h : n < 3
    · simp [firstFiring, Guard.fires, Cmp.holds, h, run, yule, insertionGen]
    · simp [firstFiring, Guard.fires, Cmp.holds, h, GenKind.min]; omega
  | caterpillar =>
    simp only [GenKind.goName, guardsOf_caterpillar]
    by_cases h : n < 3
    · simp [firstFiring, Guard.fires, Cmp.holds, h, run, caterpillar, insertionGen]
    · simp [firstFiring, Guard.fires, Cmp.holds, h, GenKind.min]; omega
  | balanced =>
    simp only [GenKind.goName, guardsOf_balanced]
    by_cases h1 : n < 1
    · simp [firstFiring, Guard.fires, Cmp.holds, h1, run, balanced]
    · by_cases h2 : n < 2
      · cases rooted <;> simp [firstFiring, Guard.fires, Cmp.holds, h1, h2, run, balanced, GenKind.min] <;> omega
      · cases rooted <;> simp [firstFiring, Guard.fires, Cmp.holds, h1, h2, GenKind.min] <;> omega
  | star =>
    simp only [GenKind.goName, guardsOf_star]
    by_cases h : n < 2
    · simp [firstFiring, Guard.fires, Cmp.holds, h, run, star]
    · simp [firstFiring, Guard.fires, Cmp.holds, h, GenKind.min]; omega

/-- the same for the size guards of the enumerator (the third row, on the number of names, is an
    `other` row: it never fires here; `allTopologies_rejects` covers it) -/
theorem source_guards_decide_as_model_topo (n : Int) (rooted : Bool) (names : List String) :
    match firstFiring (guardsOf Gotree.Gen.C16.guards "AllTopologies") n rooted with
    | some m => allTopologies n rooted names = .err m
    | none => ((if rooted then 2 else 3 : Nat) : Int) ≤ n := by
  rw [firstFiring_congr _ _ sourceGuardsCheck]
  simp only [guardsOf_topo]
  cases rooted
  · by_cases h : n < 3
    · simp [firstFiring, Guard.fires, Cmp.holds, h, allTopologies]
    · simp [firstFiring, Guard.fires, Cmp.holds, h]; omega
  · by_cases h : n < 2
    · have h3 : n < 3 := by omega
      simp [firstFiring, Guard.fires, Cmp.holds, h, h3, allTopologies]
    · simp [firstFiring, Guard.fires, Cmp.holds, h]; omega

/-- every `gostats.Exp` of the generators and of `generate startree` has rate 10 -/
theorem sourceRatesCheck : Gotree.Gen.C16.rates = expectedRates := rfl

/-- the options of the generate commands are the ones of the option model: every row of the
    extracted table is the expected one, and each expected row agrees with `flagKind` (both
    spellings) and `GenReq.default` -/
theorem sourceFlagsCheck :
    Gotree.Gen.C16.flags = expectedFlags ∧ (genFlags expectedFlags).all Flag.agrees = true :=
  ⟨rfl, by decide +kernel⟩

/-- each command calls the generator the model runs for it, through `RunE`; "stdout" and "-" are the
    two names of standard output -/
theorem sourceCallsCheck :
    sameFacts Gotree.Gen.C16.calls expectedCalls = true ∧ sameFacts Gotree.Gen.C16.outputs expectedOutputs = true := by
  decide +kernel

/-! ### pinned variants: the repaired defects, as theorems about the old behaviour -/

/-- F6/F21 (before 6e33baa): the 2-tip unrooted call of the insertion generators crashed -/
theorem twotip_unrooted_pinned_fails :
    (match insertionGenPinned (yuleStep [] []) 2 false [] with | .panic _ => true | _ => false) = true ∧
    (insertionGen (yuleStep [] []) 2 false []).isErr = true := by
  decide +kernel

/-- before 254a41c: the unrooted balanced tree of depth 1 was returned rooted at a tip: not binary -/
theorem balanced_depth1_unrooted_pinned_fails :
    (match balancedPinned 1 false [1, 1] with
     | .ok o => !o.t.binary && rootIsTip o.t && genTreeOK .balanced 1 false o.t == false
     | _ => false) = true ∧
    (balanced 1 false [1, 1]).isErr = true := by
  decide +kernel

/-- before 7eca7b6: every tree of the rooted enumeration kept the start node above the root (a root
    with ONE neighbour: `Rooted()` false, one tip too many); now the root has two -/
theorem rooted_topologies_pinned_fails :
    ((allTopoRecPinned (topoName []) 2 (topoInit (topoName []) true).1 1).all (fun t => t.kids.length == 1 && !t.rooted)) = true ∧
    ((allTopoRec (topoName []) 2 (topoInit (topoName []) true).1 1).all (fun t => t.rooted)) = true := by
  decide +kernel

end Gotree.C16

/-
  C05 — the property theorems (audited with #print axioms by bin/check).
  All statements are about the model functions the driver runs (`Gotree/Model/C05.lean`)
  and the Spec predicates the oracle evaluates (`Gotree/Spec/C05.lean`, `Spec/Splits.lean`).
  `List.Perm` of `usplits` / `tipLens` means: the same splits with the same lengths and
  supports (as a multiset; the lists themselves are sorted by a printing of the side).
-/
import Gotree.Lemmas.C05Cli
import Gotree.Lemmas.C05Deg
import Gotree.Lemmas.C05Half
import Gotree.Lemmas.C05Keys
import Gotree.Lemmas.C05Orient
import Gotree.Lemmas.C05Index
import Gotree.Lemmas.C05History

/- The property theorems live in `Gotree.C05.P` (the shared lemma file already uses the
   plain names `C05.moveRoot_dist` … for its general versions). -/
namespace Gotree.C05.P
open Gotree Gotree.C05

/-! ## a tree on which every hypothesis below holds -/

def mkE (len sup : Rat) (id : Int) : EdgeD := ⟨len, sup, NIL, [], id⟩

/-- `((A:1,B:2)7/8:1/2,C:0,(D:1,E:1):3);` — unrooted, five tips, a zero length -/
def exT : T :=
  .node ⟨"", []⟩ 0 [
    (mkE (1/2) (7/8) 0, .node ⟨"", []⟩ 0 [(mkE 1 NIL 1, T.leaf "A"), (mkE 2 NIL 2, T.leaf "B")]),
    (mkE 0 NIL 3, T.leaf "C"),
    (mkE 3 NIL 4, .node ⟨"", []⟩ 0 [(mkE 1 NIL 5, T.leaf "D"), (mkE 1 NIL 6, T.leaf "E")])]

example : uniq exT = true ∧ lensOK exT = true := by decide +kernel

/-! ## ★ one-edge root move -/

/-- ★ `moveRoot_dist`: a one-edge root move preserves every tip-to-tip distance. -/
theorem moveRoot_dist (t : T) (i : Nat) (a b : String) (hu : uniq t = true)
    (ha : a ∈ t.tipNames) (hb : b ∈ t.tipNames) : (moveRoot t i).dist a b = t.dist a b :=
  Gotree.C05.moveRoot_distW EdgeD.lenOr0 t i ((uniq_iff t).1 hu) a b ha hb

/-- ★ `moveRoot_splits`: a one-edge root move preserves the tip set and the unrooted split
    map: every split with its length and support, every tip branch with its length. -/
theorem moveRoot_splits (t : T) (i : Nat) (hu : uniq t = true) (hl : lensOK t = true) :
    (moveRoot t i).tipNames.Perm t.tipNames ∧ (moveRoot t i).usplits.Perm t.usplits ∧
    (moveRoot t i).tipLens.Perm t.tipLens :=
  ⟨moveRoot_tips t i, moveRoot_usplits t i ((uniq_iff t).1 hu) ((lensOK_iff t).1 hl),
   moveRoot_tipLens t i ((uniq_iff t).1 hu) ((lensOK_iff t).1 hl)⟩

example : (moveRoot exT 0).dist "A" "D" = 11/2 ∧ exT.dist "A" "D" = 11/2 := by decide +kernel

/-! ## ★ Reroot -/

/-- ★ `reroot_preserves`: `Reroot` on any node, when it succeeds, preserves the tip set, the
    unrooted split map (lengths, supports) and every tip-to-tip distance. -/
theorem reroot_preserves (t t' : T) (p : List Nat) (hu : uniq t = true) (hl : lensOK t = true)
    (h : reroot t p = .ok t') :
    t'.tipNames.Perm t.tipNames ∧ t'.usplits.Perm t.usplits ∧ t'.tipLens.Perm t.tipLens ∧
    ∀ a b, a ∈ t.tipNames → b ∈ t.tipNames → t'.dist a b = t.dist a b :=
  (reroot_same t t' p h ((uniq_iff t).1 hu) ((lensOK_iff t).1 hl)).spec

/-- `Reroot` refuses exactly the nodes with fewer than two neighbours. -/
theorem reroot_refuses_tips (t n : T) (p : List Nat) (h : nodeAt t p = some n) :
    (∃ t', reroot t p = .ok t') ↔ 2 ≤ (if p.isEmpty then n.kids.length else n.kids.length + 1) := by
  unfold reroot
  rw [h]
  simp only
  by_cases h2 : (if p.isEmpty then n.kids.length else n.kids.length + 1) < 2
  · rw [if_pos h2]
    constructor
    · rintro ⟨t', h⟩; cases h
    · intro h3; omega
  · rw [if_neg h2]
    constructor
    · intro _; omega
    · intro _; exact ⟨_, rfl⟩

example : ∃ t', reroot exT [2] = .ok t' ∧ t'.dist "A" "D" = exT.dist "A" "D" := ⟨_, rfl, by decide +kernel⟩

/-! ## UnRoot, reorderings, outgroup rooting: the tree itself is kept -/

/-- `UnRoot` preserves the tip set, the unrooted splits (the two root branches counting as one
    branch: lengths added, larger support) and every tip-to-tip distance. -/
theorem unroot_preserves (t : T) (hu : uniq t = true) (hl : lensOK t = true) (hs : supsOK t = true) :
    (unroot t).tipNames.Perm t.tipNames ∧ (unroot t).usplits.Perm t.usplits ∧
    (unroot t).tipLens.Perm t.tipLens ∧
    ∀ a b, a ∈ t.tipNames → b ∈ t.tipNames → (unroot t).dist a b = t.dist a b :=
  (unroot_same t ((uniq_iff t).1 hu) ((lensOK_iff t).1 hl) ((supsOK_iff t).1 hs)).spec

/-- a ROOTED witness of the hypotheses of `unroot_preserves` (`exT` is unrooted, `UnRoot` leaves it
    alone): `((A:1,B:2)7/8:1/2,(D:1,E:1)1/2:3);` — the two root branches become one branch of length
    7/2 carrying the larger support -/
def exRooted : T :=
  .node ⟨"", []⟩ 0 [
    (mkE (1/2) (7/8) 0, .node ⟨"", []⟩ 0 [(mkE 1 NIL 1, T.leaf "A"), (mkE 2 NIL 2, T.leaf "B")]),
    (mkE 3 (1/2) 3, .node ⟨"", []⟩ 0 [(mkE 1 NIL 4, T.leaf "D"), (mkE 1 NIL 5, T.leaf "E")])]

example : uniq exRooted = true ∧ lensOK exRooted = true ∧ supsOK exRooted = true ∧ exRooted.rooted = true ∧
    (unroot exRooted).rooted = false ∧
    (unroot exRooted).edges.map (fun e => (e.len, e.sup)) = [(1, NIL), (2, NIL), (7/2, 7/8), (1, NIL), (1, NIL)] ∧
    (unroot exRooted).dist "A" "D" = exRooted.dist "A" "D" := by decide +kernel

/-- `RotateInternalNodes` preserves the tree, whatever the draws. -/
theorem rotate_preserves (t : T) (draws : List Nat) (hl : lensOK t = true) :
    (rotate t draws).tipNames.Perm t.tipNames ∧ (rotate t draws).usplits.Perm t.usplits ∧
    (rotate t draws).tipLens.Perm t.tipLens ∧
    ∀ a b, a ∈ t.tipNames → b ∈ t.tipNames → (rotate t draws).dist a b = t.dist a b :=
  (rotate_same t draws ((lensOK_iff t).1 hl)).spec

/-- `SortNeighborsByTips` preserves the tree. -/
theorem sort_preserves (t : T) (hl : lensOK t = true) :
    (sortT t).tipNames.Perm t.tipNames ∧ (sortT t).usplits.Perm t.usplits ∧
    (sortT t).tipLens.Perm t.tipLens ∧
    ∀ a b, a ∈ t.tipNames → b ∈ t.tipNames → (sortT t).dist a b = t.dist a b :=
  (sortT_same t ((lensOK_iff t).1 hl)).spec

/-- `RerootOutGroup` without removal, whenever it succeeds (strict or not, clade or not),
    preserves the tip set, the unrooted splits — the cut branch counting as one branch with
    its full length and its support — and every tip-to-tip distance. -/
theorem outgroup_preserves (t t' : T) (strict : Bool) (S : List String)
    (hu : uniq t = true) (hl : lensOK t = true) (hs : supsOK t = true)
    (h : rerootOutGroup false strict S t = .ok t') :
    t'.tipNames.Perm t.tipNames ∧ t'.usplits.Perm t.usplits ∧ t'.tipLens.Perm t.tipLens ∧
    ∀ a b, a ∈ t.tipNames → b ∈ t.tipNames → t'.dist a b = t.dist a b :=
  (outgroup_same t t' strict S h ((uniq_iff t).1 hu) ((lensOK_iff t).1 hl) ((supsOK_iff t).1 hs)).spec

example : uniq exT = true ∧ lensOK exT = true ∧ supsOK exT = true := by decide +kernel
example : (rerootOutGroup false true ["B", "A"] exT).cls = "ok" := by decide +kernel

/-- `RerootMidPoint`, whenever it succeeds, preserves the tip set, the unrooted splits (the
    cut branch counting as one branch with its full length and its support) and every
    tip-to-tip distance, and the new root has exactly two children.
    (The halfway clause is `midpoint_halfway` below.) -/
theorem midpoint_preserves (t t' : T) (hu : uniq t = true) (hl : lensOK t = true) (hs : supsOK t = true)
    (h : rerootMidPoint t = .ok t') :
    t'.kids.length = 2 ∧
    t'.tipNames.Perm t.tipNames ∧ t'.usplits.Perm t.usplits ∧ t'.tipLens.Perm t.tipLens ∧
    ∀ a b, a ∈ t.tipNames → b ∈ t.tipNames → t'.dist a b = t.dist a b :=
  have := midpoint_same t t' h ((uniq_iff t).1 hu) ((lensOK_iff t).1 hl) ((supsOK_iff t).1 hs)
  ⟨this.2, this.1.spec⟩

example : (rerootMidPoint exT).cls = "ok" := by decide +kernel

/-- `midpoint_halfway`: after a successful `RerootMidPoint` on a tree whose lengths are all
    present and non-negative (zero lengths and ties between longest paths included), the root
    has two children and lies halfway along a longest tip-to-tip path: there are two tips at
    the largest tip-to-tip distance `diam t` of the input tree, still at that distance from each
    other, each at `diam t / 2` from the new root.  This is the Spec predicate `halfwayOK` the
    oracle evaluates on the implementation's output.  (It holds for the repaired code, 23d32a8;
    for the code before the repair see `midpoint_farend_pinned_fails`.) -/
theorem midpoint_halfway (t t' : T) (hu : uniq t = true) (hl : allLens t = true) (hs : supsOK t = true)
    (h : rerootMidPoint t = .ok t') : halfwayOK t t' = true :=
  midpoint_halfway_core t t' h ((uniq_iff t).1 hu) ((allLens_iff t).1 hl) ((supsOK_iff t).1 hs)

example : allLens exT = true := by decide +kernel

/-- The same six statements in the vocabulary of the oracle: on every tree with unique tips,
    lengths and supports absent or non-negative and distinct sort keys, the Spec predicate
    `preserved` — the one the driver evaluates on the implementation's output — holds between
    the input and the result of every operation of the model. -/
theorem ops_preserved (t : T) (hu : uniq t = true) (hl : lensOK t = true) (hs : supsOK t = true)
    (hk : keysOK t = true) :
    (∀ p t', reroot t p = .ok t' → preserved t t' = true) ∧
    preserved t (unroot t) = true ∧
    (∀ draws, preserved t (rotate t draws) = true) ∧
    preserved t (sortT t) = true ∧
    (∀ strict S t', rerootOutGroup false strict S t = .ok t' → preserved t t' = true) ∧
    (∀ t', rerootMidPoint t = .ok t' → preserved t t' = true) := by
  have hu' := (uniq_iff t).1 hu
  have hl' := (lensOK_iff t).1 hl
  have hs' := (supsOK_iff t).1 hs
  refine ⟨?_, ?_, ?_, ?_, ?_, ?_⟩
  · intro p t' h
    exact preserved_of_same (reroot_same t t' p h hu' hl') hk
  · exact preserved_of_same (unroot_same t hu' hl' hs') hk
  · intro draws; exact preserved_of_same (rotate_same t draws hl') hk
  · exact preserved_of_same (sortT_same t hl') hk
  · intro strict S t' h; exact preserved_of_same (outgroup_same t t' strict S h hu' hl' hs') hk
  · intro t' h; exact preserved_of_same (midpoint_same t t' h hu' hl' hs').1 hk

/- `keysOK` holds on every generated tree (driver tag `hyp-keysok`); it cannot be decided by
   kernel reduction here because `List.mergeSort` is defined by well-founded recursion. -/

/-! ## ★ the outgroup is a root clade -/

/-- ★ `outgroup_clade`: whenever `RerootOutGroup(remove = false)` succeeds on an outgroup that
    is one side of a split of the tree (`isSide`; in strict mode no hypothesis is needed, success
    itself implies it, see `outgroup_strict_refuses`), the root has exactly two children, they
    hang on the two equal halves `halfEdge e` of one branch `e` (length halved — an absent length
    stays absent, a zero length stays zero —, support copied to both), and the tips below one of
    them are exactly the outgroup (the given names that are tips of the tree).  Together with
    `outgroup_preserves` — the two halves fuse back into a branch of the input tree with its
    length and support — this is the clause "the outgroup is exactly one of the two clades
    below the root, the separating branch being cut into two equal halves". -/
theorem outgroup_clade (t t' : T) (strict : Bool) (S : List String)
    (hu : uniq t = true) (hl : lensOK t = true) (hs : supsOK t = true)
    (hside : strict = true ∨ isSide t S = true)
    (h : rerootOutGroup false strict S t = .ok t') :
    ∃ (e : EdgeD) (cA cB : T) (first : Bool),
      t'.kids = (if first then [(halfEdge e, cA), (halfEdge e, cB)] else [(halfEdge e, cB), (halfEdge e, cA)]) ∧
      cA.leaves.Perm (outTips t S) := by
  obtain ⟨e, cA, cB, first, hk, _, hp⟩ :=
    outgroup_structure_side t t' strict S h ((uniq_iff t).1 hu) ((lensOK_iff t).1 hl) ((supsOK_iff t).1 hs)
  exact ⟨e, cA, cB, first, hk, hp hside⟩

/-- the hypothesis `isSide` is satisfiable (here obtained from a strict success, since
    `usplitsAll` sorts with `List.mergeSort`, which kernel reduction cannot unfold) -/
example : isSide exT ["A", "B"] = true := by
  have hc : (rerootOutGroup false true ["A", "B"] exT).cls = "ok" := by decide +kernel
  cases h : rerootOutGroup false true ["A", "B"] exT with
  | ok t' =>
    exact outgroup_strict_side exT t' _ h ((uniq_iff _).1 (by decide +kernel))
      ((lensOK_iff _).1 (by decide +kernel)) ((supsOK_iff _).1 (by decide +kernel))
  | err m => rw [h] at hc; simp [Res.cls] at hc
  | panic m => rw [h] at hc; simp [Res.cls] at hc

/-- `outgroup_clade` in the vocabulary of the oracle: under the same hypotheses, and when no two
    branches of the unrooted tree carry the same split (`branchesDistinct`: no node with exactly
    two neighbours), the Spec predicate `cladeOK` — two root clades, one exactly the outgroup, both
    root branches of length l/2 where l is the (fused) length of that split in the input, each
    carrying its support — holds on the result; and `insideOK` holds in every mode. -/
theorem outgroup_clade_oracle (t t' : T) (strict : Bool) (S : List String)
    (hu : uniq t = true) (hl : lensOK t = true) (hs : supsOK t = true)
    (h : rerootOutGroup false strict S t = .ok t') :
    insideOK t S t' = true ∧
    ((strict = true ∨ isSide t S = true) → branchesDistinct t = true → cladeOK t S t' = true) :=
  ⟨insideOK_of t t' strict S h ((uniq_iff t).1 hu) ((lensOK_iff t).1 hl) ((supsOK_iff t).1 hs),
   fun hside hD => cladeOK_of t t' strict S h ((uniq_iff t).1 hu) ((lensOK_iff t).1 hl) ((supsOK_iff t).1 hs)
     hside ((branchesDistinct_iff t).1 hD)⟩

/-- the hypothesis `branchesDistinct` follows from a structural one: distinct tip names and no
    node with exactly one child (`T.noSingle`: no node with exactly two neighbours; the root of a
    rooted tree does not count, `UnRoot` removes it) -/
theorem branchesDistinct_of_noSingle (t : T) (hu : uniq t = true) (hns : t.noSingle = true) :
    branchesDistinct t = true :=
  Gotree.C05.branchesDistinct_of_noSingle t ((uniq_iff t).1 hu) hns

/-- `outgroup_clade_oracle` with structural hypotheses only -/
theorem outgroup_clade_structural (t t' : T) (strict : Bool) (S : List String)
    (hu : uniq t = true) (hl : lensOK t = true) (hs : supsOK t = true) (hns : t.noSingle = true)
    (hside : strict = true ∨ isSide t S = true)
    (h : rerootOutGroup false strict S t = .ok t') : cladeOK t S t' = true :=
  (outgroup_clade_oracle t t' strict S hu hl hs h).2 hside (branchesDistinct_of_noSingle t hu hns)

example : exT.noSingle = true := by decide

/-- `outgroup_clade`, removal requested: when `RerootOutGroup(remove = true)` succeeds on an
    outgroup that is one side of a split (or in strict mode), the outgroup is absent and
    everything else is intact: the tips are exactly the tips that are not in the outgroup, and
    all their pairwise distances are those of the input tree. -/
theorem outgroup_removed (t t' : T) (strict : Bool) (S : List String)
    (hu : uniq t = true) (hl : lensOK t = true) (hs : supsOK t = true)
    (hside : strict = true ∨ isSide t S = true)
    (h : rerootOutGroup true strict S t = .ok t') :
    t'.tipNames.Perm (t.tipNames.filter (fun x => !(outTips t S).contains x)) ∧
    ∀ a b, a ∈ t'.tipNames → b ∈ t'.tipNames → t'.dist a b = t.dist a b :=
  outgroup_remove_same t t' strict S h ((uniq_iff t).1 hu) ((lensOK_iff t).1 hl) ((supsOK_iff t).1 hs) hside

example : (rerootOutGroup true true ["A", "B"] exT).cls = "ok" := by decide +kernel

/-- `outgroup_removed`, split sets and oracle vocabulary: moreover the non-trivial sides of the
    result are exactly the restrictions, to the remaining tips, of the non-trivial sides of the
    input (those that stay non-trivial); and when the sort keys of the result are distinct the
    Spec predicate `removedOK` — what the oracle evaluates — holds. -/
theorem outgroup_removed_restriction (t t' : T) (strict : Bool) (S : List String)
    (hu : uniq t = true) (hl : lensOK t = true) (hs : supsOK t = true)
    (hside : strict = true ∨ isSide t S = true)
    (h : rerootOutGroup true strict S t = .ok t') :
    (∀ K : List String, K.Perm t'.tipNames → ∀ a, a ∈ t'.usplits.map (·.side) ↔
      a ∈ ((t.usplits.map (·.side)).map (fun σ => canonSide K (σ.filter K.contains))).filter
        (fun a => decide (2 ≤ lightSize K a))) ∧
    (keysOK t' = true → removedOK t (outTips t S) t' = true) :=
  ⟨(outgroup_remove_full t t' strict S h ((uniq_iff t).1 hu) ((lensOK_iff t).1 hl) ((supsOK_iff t).1 hs) hside).2.2,
   fun hk => removedOK_of t t' strict S h ((uniq_iff t).1 hu) ((lensOK_iff t).1 hl) ((supsOK_iff t).1 hs) hside hk⟩

/-- `outgroup_removed_any`: removal requested, ANY outgroup — in particular one that is not a side
    of a split, in non-strict mode, where the code removes everything below the ancestor of the
    outgroup.  Whenever `RerootOutGroup(remove = true)` succeeds: the outgroup is absent from the
    result; the tips that disappeared are exactly one side of a split of the input (one root clade, it
    contains the outgroup); the surviving tips keep all their pairwise distances; the non-trivial
    splits of the result are the restrictions of those of the input; and the branches of
    the result are exactly — same leaves below, same length, support and other data — the branches
    of a tree `tn` that is the input up to rooting (`Same`: the input unrooted and re-rooted), minus
    branches that have all or none of the surviving tips below them.  These are the clauses of the
    oracle `removedAnyOK`; its last clause `survivorsDataOK` (the same data after fusing, on both
    sides, the branches that carry the same restricted split) is not derived from this in Lean. -/
theorem outgroup_removed_any (t t' : T) (strict : Bool) (S : List String)
    (hu : uniq t = true) (hl : lensOK t = true) (hs : supsOK t = true)
    (h : rerootOutGroup true strict S t = .ok t') :
    t'.tipNames.Nodup ∧ t'.tipNames ≠ [] ∧
    (∀ x ∈ t'.tipNames, x ∈ t.tipNames ∧ x ∉ outTips t S) ∧
    canonSide t.tipNames (t.tipNames.filter (fun x => !t'.tipNames.contains x)) ∈ t.usplitsAll.map (·.side) ∧
    (∀ a b, a ∈ t'.tipNames → b ∈ t'.tipNames → t'.dist a b = t.dist a b) ∧
    (∀ K : List String, K.Perm t'.tipNames → ∀ a, a ∈ t'.usplits.map (·.side) ↔
      a ∈ ((t.usplits.map (·.side)).map (fun σ => canonSide K (σ.filter K.contains))).filter
        (fun a => decide (2 ≤ lightSize K a))) ∧
    (∃ (tn : T) (rest : List SplitE), Same t tn ∧ tn.splits.Perm (rest ++ t'.splits) ∧
      ∀ s ∈ rest, (∀ x ∈ t'.tipNames, x ∈ s.below) ∨ (∀ x ∈ t'.tipNames, x ∉ s.below)) :=
  outgroup_remove_any t t' strict S h ((uniq_iff t).1 hu) ((lensOK_iff t).1 hl) ((supsOK_iff t).1 hs)

/-- a non-side outgroup, removed in non-strict mode: `{D, C}` in `exT` takes `E` away with it -/
example : (match rerootOutGroup true false ["D", "C"] exT with
      | .ok u => u.tipNames == ["A", "B"]
      | _ => false) = true ∧
    (rerootOutGroup true true ["D", "C"] exT).cls = "err" := by decide +kernel

/-- `outgroup_strict_refuses`: an outgroup that is not one side of a split of the tree (a
    "non-monophyletic" outgroup, in the unrooted sense) is refused in strict mode. -/
theorem outgroup_strict_refuses (t : T) (S : List String)
    (hu : uniq t = true) (hl : lensOK t = true) (hs : supsOK t = true) (hns : isSide t S = false) :
    ∀ t', rerootOutGroup false true S t ≠ .ok t' := by
  intro t' h
  have := outgroup_strict_side t t' S h ((uniq_iff t).1 hu) ((lensOK_iff t).1 hl) ((supsOK_iff t).1 hs)
  rw [this] at hns; cases hns

/-- the same with the outgroup removed (`-r`): a strict success means the outgroup is one side of a
    split, and what was removed is exactly the outgroup -/
theorem outgroup_strict_refuses_removing (t t' : T) (S : List String)
    (hu : uniq t = true) (hl : lensOK t = true) (hs : supsOK t = true)
    (h : rerootOutGroup true true S t = .ok t') :
    isSide t S = true ∧ (t.tipNames.filter (fun x => !t'.tipNames.contains x)).Perm (outTips t S) :=
  outgroup_strict_side_rm t t' S h ((uniq_iff t).1 hu) ((lensOK_iff t).1 hl) ((supsOK_iff t).1 hs)

/-- a non-side outgroup on a tree satisfying the hypotheses: `{D, C}` in `exT` (that `isSide exT ["D","C"]` is
    `false` follows from the refusal, by `outgroup_strict_refuses_removing` / `outgroup_strict_side`; it is
    not evaluated in the kernel because `usplitsAll` sorts with `mergeSort`) -/
example : (rerootOutGroup false true ["D", "C"] exT).cls = "err" ∧ (rerootOutGroup true true ["D", "C"] exT).cls = "err" ∧
    (rerootOutGroup false false ["D", "C"] exT).cls = "ok" := by decide +kernel

/-! ### Non-strict mode: when is the rooting refused?  (deviation from the statement)

The statement reads "an outgroup that is not monophyletic is refused in strict mode and otherwise ends
up inside one root clade".  `outgroup_nonstrict_inside` proves the second half for every SUCCESSFUL
rooting.  Success itself is not guaranteed: the code — and the model — refuse in non-strict mode when the
common ancestor of the outgroup (seen from the first tip outside it) has several branches without
outgroup tips (finding OutgroupNonStrictMultifurcationRefused, tree/algo.go `len(n.br)-len(edges) != 1`).
The full statement one would like,

    uniq t → noSingle t → ¬dupNodeNames t → outTips t S ≠ [] → ¬ all tips named →
      ∃ t', rerootOutGroup false false S t = .ok t'

is FALSE for the code as it is (`outgroup_nonstrict_polytomy_refused` below); what holds is the list of
causes of a refusal: -/

/-- `outgroup_nonstrict_refusals_partial`: in non-strict mode the model refuses only for one of these
    causes: two nodes with the same name; no given name is a tip; every tip is named (no tip is left to
    start from); a tree of two nodes; the ancestor of the outgroup is a multifurcation (the deviation);
    with removal, fewer than two branches at the node that remains. -/
theorem outgroup_nonstrict_refusals_partial (rm : Bool) (t : T) (S : List String) (m : String)
    (h : rerootOutGroup rm false S t = .err m) :
    m = "dupnames" ∨ (m = "none" ∧ effOutgroup (unroot t) S = []) ∨
    (m = "all" ∧ tempRootNeighbour (unroot t) (effOutgroup (unroot t) S) = none) ∨ m = "no common ancestor" ∨
    (m = "multifurcated" ∧ effOutgroup (unroot t) S ≠ []) ∨ (m = "roottip" ∧ rm = true) :=
  outgroup_err_nonstrict h

/-- `(a:1,b:1,c:1,d:1);` -/
def starT : T :=
  .node ⟨"", []⟩ 0 [(mkE 1 NIL 0, T.leaf "a"), (mkE 1 NIL 1, T.leaf "b"), (mkE 1 NIL 2, T.leaf "c"), (mkE 1 NIL 3, T.leaf "d")]

/-- `(a:1,b:1,c:1,(d:1,e:1):1);` -/
def star2T : T :=
  .node ⟨"", []⟩ 0 [(mkE 1 NIL 0, T.leaf "a"), (mkE 1 NIL 1, T.leaf "b"), (mkE 1 NIL 2, T.leaf "c"),
    (mkE 1 NIL 3, .node ⟨"", []⟩ 0 [(mkE 1 NIL 4, T.leaf "d"), (mkE 1 NIL 5, T.leaf "e")])]

def errIs (r : Res T) (m : String) : Bool := match r with | .err m' => m' == m | _ => false

/-- the deviation, on the model: non-strict rooting on `{a, b}` is refused on both trees ("multifurcated"),
    while `{D, C}` in `exT` — not a side either, but its ancestor has one free branch only — is accepted -/
theorem outgroup_nonstrict_polytomy_refused :
    errIs (rerootOutGroup false false ["a", "b"] starT) "multifurcated" = true ∧
    errIs (rerootOutGroup false false ["a", "b"] star2T) "multifurcated" = true ∧
    errIs (rerootOutGroup true false ["a", "b"] star2T) "multifurcated" = true ∧
    (rerootOutGroup false false ["D", "C"] exT).cls = "ok" ∧
    uniq starT = true ∧ starT.noSingle = true := by decide +kernel

/-! ### the hypothesis `keysOK` from the names alone -/

/-- `keysOK_of_plainNames`: when every tip name is non-empty and free of ',' the printing by which the
    split list is sorted tells the sides apart — the hypothesis `keysOK` of the literal-equality theorems
    (`ops_preserved`, `outgroup_removed_restriction`, `cli_written_trees`) holds.  (`keysOK` itself cannot be
    evaluated in the kernel, `plainNames` can.) -/
theorem keysOK_of_plainNames (t : T) (h : plainNames t = true) : keysOK t = true :=
  Gotree.C05.keysOK_of_plainNames t h

example : plainNames exT = true ∧ keysOK exT = true :=
  ⟨by decide +kernel, Gotree.C05.keysOK_of_plainNames exT (by decide +kernel)⟩

/-- `outgroup_nonstrict_inside`: in non-strict mode a successful rooting — monophyletic
    outgroup or not — leaves the whole outgroup inside one of the two root clades, the root
    again sitting in the middle of one branch. -/
theorem outgroup_nonstrict_inside (t t' : T) (S : List String)
    (hu : uniq t = true) (hl : lensOK t = true) (hs : supsOK t = true)
    (h : rerootOutGroup false false S t = .ok t') :
    ∃ (e : EdgeD) (cA cB : T) (first : Bool),
      t'.kids = (if first then [(halfEdge e, cA), (halfEdge e, cB)] else [(halfEdge e, cB), (halfEdge e, cA)]) ∧
      ∀ x ∈ outTips t S, x ∈ cA.leaves := by
  obtain ⟨e, cA, cB, first, hk, hin, _⟩ :=
    outgroup_structure t t' false S h ((uniq_iff t).1 hu) ((lensOK_iff t).1 hl) ((supsOK_iff t).1 hs)
  exact ⟨e, cA, cB, first, hk, hin⟩

/-- `outgroup_ignores_absent_names`: the result depends on the given names only through those
    that are tips of the (unrooted) tree, each counted once. -/
theorem outgroup_ignores_absent_names (rm strict : Bool) (S S' : List String) (t : T)
    (h : effOutgroup (unroot t) S' = effOutgroup (unroot t) S) :
    rerootOutGroup rm strict S' t = rerootOutGroup rm strict S t := by
  unfold rerootOutGroup rerootOutGroupWith outgroupPlan
  rw [h]

/-- in particular names that are not tips can be dropped, or added -/
theorem outgroup_drop_absent (rm strict : Bool) (S : List String) (t : T) :
    rerootOutGroup rm strict (S.filter (unroot t).tipNames.contains) t = rerootOutGroup rm strict S t :=
  outgroup_ignores_absent_names rm strict S _ t (by
    unfold effOutgroup
    rw [List.filter_filter]
    congr 1
    apply List.filter_congr
    intro x _
    simp)

example : (rerootOutGroup false true ["B", "zz", "A", "B"] exT).cls = "ok" ∧
    (rerootOutGroup false true ["A", "C"] exT).cls = "err" ∧
    (rerootOutGroup false false ["A", "C"] exT).cls = "ok" := by decide +kernel

/-- What `UnRoot` does with a node that has exactly two neighbours: when the first root child has
    exactly one child, that child becomes the root of a tree whose root has two neighbours again —
    the result is still "rooted" (`Tree.Rooted()`), although tips, splits, lengths and distances are
    kept (`unroot_preserves` needs no hypothesis on such nodes).  Without such nodes the result is
    never rooted (`unroot_noSingle`). -/
theorem unroot_single_child_stays_rooted (d d1 d2 : NodeD) (p p1 p2 : Nat) (e1 e2 : EdgeD) (k : EdgeD × T) (k2 : Kids) :
    (unroot (.node d p [(e1, .node d1 p1 [k]), (e2, .node d2 p2 k2)])).rooted = true := by
  rw [unroot_rooted]; rfl

theorem unroot_result_not_rooted (t : T) (h : t.noSingle = true) : (unroot t).rooted = false := by
  have := (unroot_noSingle t h).2
  simp [T.rooted, this]

/-- `UnRoot` does nothing to a tree that is not rooted. -/
theorem unroot_not_rooted (t : T) (h : t.rooted = false) : unroot t = t := by
  unfold unroot
  split
  · simp [T.rooted] at h
  · rfl


/-! ## orientation (`SetRoot`, `ReorderEdges`, `Parent`, `ParentEdge`, `RerootFirst`) -/

/-- After `Reroot` every branch points away from the root: `t.root = n; ReorderEdges(n, nil, …)`
    applied to a correctly oriented heap yields the correctly oriented heap of the re-rooted
    tree (`orient` gives every branch the flag "left is the end nearer the root"), and the branches
    reported as reversed are exactly those that pointed the wrong way after `t.root = n`. -/
theorem reroot_oriented (t : T) (path : List Nat) :
    (rerootO t path).1 = orient (rerootP t path none []).1 ∧
    (rerootO t path).2 = (setRootO (orient t) path none).wrong ∧
    (∀ f ∈ (rerootO t path).1.flags, f = true) ∧ (rerootO t path).1.wrong = [] := by
  refine ⟨rerootO_oriented t path, rerootO_reversed t path, ?_, ?_⟩
  · rw [rerootO_oriented]; exact flags_orient _
  · rw [rerootO_oriented]; exact wrong_orient _

/-- `Reroot(n)` inverts exactly the branches on the path from the old root to `n` (any path that
    exists in the tree), and `ReorderEdges` reports them from `n` outwards -/
theorem reroot_reverses_path (t : T) (path : List Nat) (hv : (edgesAlong t path).length = path.length) :
    (rerootO t path).2 = (edgesAlong t path).reverse :=
  rerootO_reversed_path t path (by rw [edgesAlong_eq] at hv; exact hv)

example : (edgesAlong exT [0, 1]).length = 2 ∧ (rerootO exT [0, 1]).2.map (·.id) = [2, 0] := by decide +kernel

/-- whatever the orientation before, `ReorderEdges` from the root leaves every branch pointing away
    from the root, changes nothing else, and reports exactly the branches it inverted -/
theorem reorder_orients (o : OT) : o.reorder.1 = orient o.erase ∧ o.reorder.2 = o.wrong :=
  ⟨reorder_fst o, reorder_snd o⟩

/-- in a correctly oriented heap `Parent()` / `ParentEdge()` find no parent for the root and exactly
    the parent for every other node -/
theorem parents_after_reorder (o : OT) :
    ∃ rest, o.reorder.1.parents none = "none" :: rest ∧ ∀ s ∈ rest, s = "parent" := by
  rw [reorder_fst]; exact parents_of_oriented _

/-- `RerootFirst` is `Reroot` on the first node with three neighbours: it preserves the tree -/
theorem rerootFirst_preserves (t t' : T) (hu : uniq t = true) (hl : lensOK t = true)
    (h : rerootFirst t = .ok t') :
    t'.tipNames.Perm t.tipNames ∧ t'.usplits.Perm t.usplits ∧ t'.tipLens.Perm t.tipLens ∧
    ∀ a b, a ∈ t.tipNames → b ∈ t.tipNames → t'.dist a b = t.dist a b := by
  unfold rerootFirst at h
  split at h
  · cases h
  · exact reroot_preserves t t' _ hu hl h

example : (rerootFirst exT).cls = "ok" ∧ (rerootO exT [0]).2.map (·.id) = [0] := by decide +kernel

/-! ## the command line (`gotree reroot outgroup|midpoint`, `unroot`, `rotate rand|sort`) -/

/-- the tip file (-l) wins over the arguments; with neither the command fails -/
theorem cli_tips_priority (ls args : List String) :
    cliTips (some ls) args = .ok (parseTipsFile ls) ∧
    (args ≠ [] → cliTips none args = .ok args) ∧ (cliTips none []).cls = "err" := by
  refine ⟨rfl, ?_, rfl⟩
  intro h; cases args with
  | nil => exact absurd rfl h
  | cons a r => rfl

/-- `reroot outgroup` (outgroup kept) and `reroot midpoint` on a file of several trees: the trees
    written are, in order, the results for a prefix of the input trees, and each of them is the
    corresponding input tree (tips, splits, lengths, supports, distances: `preserved`).  (That the
    command ends "ok" exactly when every tree was written is the third clause of `cliLoop_spec`.) -/
theorem cli_written_trees (kind : CliKind) (strict : Bool) (file : Option (List String)) (args : List String)
    (draws : List Nat) (trees : List T) (hk : kind = .outgroup ∨ kind = .midpoint)
    (hyp : ∀ t ∈ trees, uniq t = true ∧ lensOK t = true ∧ supsOK t = true ∧ keysOK t = true) :
    (cliRun kind false strict file args draws trees).1.length ≤ trees.length ∧
    (∀ (i : Nat) (u : T), (cliRun kind false strict file args draws trees).1[i]? = some u →
      ∃ t, trees[i]? = some t ∧ preserved t u = true) := by
  have ops := fun t (ht : t ∈ trees) =>
    ops_preserved t (hyp t ht).1 (hyp t ht).2.1 (hyp t ht).2.2.1 (hyp t ht).2.2.2
  rcases hk with rfl | rfl
  · simp only [cliRun]
    cases htips : cliTips file args with
    | ok tips =>
      obtain ⟨h1, h2, _⟩ := cliLoop_spec (rerootOutGroup false strict tips) trees
      refine ⟨h1, fun i u hu => ?_⟩
      obtain ⟨t, ht, hop⟩ := h2 i u hu
      exact ⟨t, ht, (ops t (List.mem_of_getElem? ht)).2.2.2.2.1 strict tips u hop⟩
    | err m => simp
    | panic m => simp
  · simp only [cliRun]
    obtain ⟨h1, h2, _⟩ := cliLoop_spec rerootMidPoint trees
    refine ⟨h1, fun i u hu => ?_⟩
    obtain ⟨t, ht, hop⟩ := h2 i u hu
    exact ⟨t, ht, (ops t (List.mem_of_getElem? ht)).2.2.2.2.2 u hop⟩

/-- `unroot`, `rotate rand` (whatever the seed) and `rotate sort` write exactly one tree per input
    tree, each being the corresponding input tree (`preserved`), and end "ok". -/
theorem cli_written_trees_total (kind : CliKind) (rm strict : Bool) (file : Option (List String)) (args : List String)
    (draws : List Nat) (trees : List T) (hk : kind = .unroot ∨ kind = .rotateRand ∨ kind = .rotateSort)
    (hyp : ∀ t ∈ trees, uniq t = true ∧ lensOK t = true ∧ supsOK t = true ∧ keysOK t = true) :
    (cliRun kind rm strict file args draws trees).2 = "ok" ∧
    (cliRun kind rm strict file args draws trees).1.length = trees.length ∧
    (∀ (i : Nat) (u : T), (cliRun kind rm strict file args draws trees).1[i]? = some u →
      ∃ t, trees[i]? = some t ∧ preserved t u = true) := by
  have ops := fun t (ht : t ∈ trees) =>
    ops_preserved t (hyp t ht).1 (hyp t ht).2.1 (hyp t ht).2.2.1 (hyp t ht).2.2.2
  rcases hk with rfl | rfl | rfl
  · simp only [cliRun, List.length_map, true_and]
    exact map_written trees (fun t ht => (ops t ht).2.1)
  · simp only [cliRun, true_and]
    obtain ⟨h1, h2⟩ := cliRotate_spec trees draws
    refine ⟨h1, fun i u hu => ?_⟩
    obtain ⟨t, ds, ht, rfl⟩ := h2 i u hu
    exact ⟨t, ht, (ops t (List.mem_of_getElem? ht)).2.2.1 ds⟩
  · simp only [cliRun, List.length_map, true_and]
    exact map_written trees (fun t ht => (ops t ht).2.2.2.1)

/-! ## the repaired defects, as theorems about the variants of the model that reproduce them -/

/-- `(a:0,b:0,(c:0,d:0):0);` -/
def zeroT : T :=
  .node ⟨"", []⟩ 0 [(mkE 0 NIL 0, T.leaf "a"), (mkE 0 NIL 1, T.leaf "b"),
    (mkE 0 NIL 2, .node ⟨"", []⟩ 0 [(mkE 0 NIL 3, T.leaf "c"), (mkE 0 NIL 4, T.leaf "d")])]

/-- `((a:1,b:1)7/8:0,c:1,d:1);` -/
def f11T : T :=
  .node ⟨"", []⟩ 0 [(mkE 0 (7/8) 0, .node ⟨"", []⟩ 0 [(mkE 1 NIL 1, T.leaf "a"), (mkE 1 NIL 2, T.leaf "b")]),
    (mkE 1 NIL 3, T.leaf "c"), (mkE 1 NIL 4, T.leaf "d")]

/-- `((t3:9/8,t2:15/8)7/8:9/4,t0:0,t1:0);` -/
def farT : T :=
  .node ⟨"", []⟩ 0 [(mkE (9/4) (7/8) 0, .node ⟨"", []⟩ 0 [(mkE (9/8) NIL 1, T.leaf "t3"), (mkE (15/8) NIL 2, T.leaf "t2")]),
    (mkE 0 NIL 3, T.leaf "t0"), (mkE 0 NIL 4, T.leaf "t1")]

/-- lengths and supports of the root branches of a result -/
def rootEdges (r : Res T) : List (Rat × Rat) :=
  match r with
  | .ok u => u.kids.map (fun k => (k.1.len, k.1.sup))
  | _ => []

/-- a Boolean test of a successful result -/
def okAnd (r : Res T) (f : T → Bool) : Bool :=
  match r with
  | .ok u => f u
  | _ => false

/-- F10 (before 87d290a): midpoint rooting of an all-zero tree indexes `potentialedges[-1]`;
    the repaired code reports an error. -/
theorem midpoint_allzero_pinned_fails :
    (rerootMidPointPinned zeroT).cls = "panic" ∧ (rerootMidPoint zeroT).cls = "err" := by decide +kernel

/-- F11 (before 7c83b91): on a zero-length separating branch the two root branches lost the
    length (absent instead of 0) and the support; the repaired code keeps both. -/
theorem outgroup_zerocut_pinned_fails :
    rootEdges (rerootOutGroupPinned false false ["a", "b"] f11T) = [(NIL, NIL), (NIL, NIL)] ∧
    rootEdges (rerootOutGroup false false ["a", "b"] f11T) = [(0, 7/8), (0, 7/8)] := by decide +kernel

/-- `MidpointZeroLengthFarEnd` (before 23d32a8): when the longest path stops at an inner node
    reached towards the root, the walk started from the wrong end of its first branch: the root
    is not halfway (63/16 and 3/16 from the two ends of the longest path, of length 33/8); the
    repaired code puts it at 33/16 from both. -/
theorem midpoint_farend_pinned_fails :
    okAnd (rerootMidPointFarEndPinned farT) (fun u =>
      !halfwayOK farT u && u.rootDist "t2" == 63/16 && u.rootDist "t0" == 3/16) = true ∧
    okAnd (rerootMidPoint farT) (fun u =>
      halfwayOK farT u && u.rootDist "t2" == 33/16 && u.rootDist "t0" == 33/16 && u.dist "t2" "t0" == 33/8) = true ∧
    diam farT = 33/8 := by decide +kernel

/-! ## The derived indexes after a history of operations

`Reroot`, `UnRoot`, `RerootOutGroup`, `RerootMidPoint` end by recomputing the tip index and / or the
bitsets of all branches from the tree (`UpdateTipIndex`, `ClearBitSets`, `UpdateBitSet`), so the indexes
after a history `runSteps` are `indexOf` of the resulting tree. -/

/-- `UpdateBitSet` / `fillRightBitSet`: in `Edges()` order every branch receives exactly the numbers of
    the tips below it, whatever the numbering. -/
theorem index_bitsets_are_splits (tid : String → Nat) (t : T) :
    bitsets tid t = t.splits.map (fun s => s.below.map tid) := bitsets_eq tid t

/-- `UpdateTipIndex` (sorted tips, `tipid = i`): a tip is numbered by the number of tip names strictly
    smaller than its own. -/
theorem index_tipid_is_rank (t : T) (x : String) (hx : x ∈ t.tipNames) :
    idxOfName x (sortNames t.tipNames) = tipRank t.tipNames x := tipid_rank _ x hx

/-- Whatever the history, the indexes the model recomputes at its end satisfy the Spec predicate the
    oracle evaluates on the implementation's indexes (`indexOK`): the index counts the tips of the
    resulting tree, numbers each by its rank, and every branch carries the bitset of the tips below it. -/
theorem index_after_history (steps : List Step) (t u : T) (_h : (runSteps steps t).2 = .ok u) :
    indexOK u (indexOf u).nb ((indexOf u).ids.map Int.ofNat) ((indexOf u).bits.map some) [] = true :=
  indexOK_indexOf u

/-- a history of three steps on `exT` (reroot below the first root child, outgroup rooting with removal,
    midpoint): it succeeds, two tips are gone, and the bitsets are those of the three tips left -/
example : (match (runSteps [.reroot [0], .outgroup true false ["D", "E"], .midpoint] exT).2 with
    | .ok u => (indexOf u).nb == 3 && (indexOf u).ids.length == 3 && (indexOf u).bits.length == u.splits.length
    | _ => false) = true := by decide +kernel

/-- `history_preserves`: any history of root moves and reorderings on one tree — `Reroot` at any node of the
    tree as it is then, `UnRoot`, `RerootOutGroup` without removal (strict or not, any outgroup),
    `RerootMidPoint`, `SortNeighborsByTips`, `RerootFirst`, `RotateInternalNodes` with any draws —, when every
    step succeeds, preserves the tip set, the unrooted splits with lengths and supports and every tip-to-tip
    distance.  `historyOK` (evaluated by the driver, tag `hyp-historyok`): no step removes tips and the tree
    before every step has lengths and supports absent or non-negative. -/
theorem history_preserves (steps : List Step) (t u : T) (hu : uniq t = true) (hh : historyOK steps t = true)
    (h : (runSteps steps t).2 = .ok u) :
    u.tipNames.Perm t.tipNames ∧ u.usplits.Perm t.usplits ∧ u.tipLens.Perm t.tipLens ∧
    ∀ a b, a ∈ t.tipNames → b ∈ t.tipNames → u.dist a b = t.dist a b :=
  (history_same steps t u hh ((uniq_iff t).1 hu) h).spec

example : historyOK [.reroot [0], .outgroup false false ["D", "E"], .midpoint, .unroot, .sort] exT = true ∧
    (runSteps [.reroot [0], .outgroup false false ["D", "E"], .midpoint, .unroot, .sort] exT).1 = 5 := by decide +kernel

end Gotree.C05.P

/-
  C15 — the property theorems that depend on the tables regenerated from the source
  (`Gotree.Gen.C15Fields`: table (d) fields/copies; `Gotree.Gen.C15Guards`: table (e) sentinels and guard
  constants), and on the model functions instantiated with table (d) (`clone`, `subTree`, `cliSubtree`,
  `cliSubtreeAll` of `Gotree/Model/C15Gen.lean`).  Kept apart from `Proofs/C15.lean` so that nothing
  another property imports depends on a `Gen` module of C15.  Nothing outside C15 may import this file.
  Every `theorem` here is audited with `#print axioms` by bin/check, like those of `Proofs/C15.lean`.
-/
import Gotree.Proofs.C15
import Gotree.Model.C15Gen
import Gotree.Gen.C15Guards
import Gotree.Model.C15Guards

namespace Gotree.C15
open Gotree Gotree.C14


/-! ## table (d): decided on the table regenerated from the source -/

/-- every field the α dump / the Newick writer reads is copied by `CopyNode` / `CopyEdge`
    (hypothesis of `clone_eq`; broken by reverting b0dbbc9 = F20) -/
theorem table_observable_copied : allObservableFieldsCopied Gotree.Gen.C15.fields = true := by decide +kernel

/-- table (d): EVERY field of `Node`, `Edge` and `Tree` found in the source has a reviewed policy
    (`fieldPolicy`: must be copied / structural, rebuilt with copies / recomputed by the copy), no reviewed
    field is missing from the source, and every must-copy field — `rootdepth` (8aafdfc), depths, tip counts,
    hash codes, bitset included — is copied -/
theorem table_all_fields_reviewed : allFieldsReviewed Gotree.Gen.C15.fields = true := by decide +kernel

/-- pinned variant (before 8aafdfc): `CopyNode` without `rootdepth` — the decision fails -/
theorem table_rootdepth_pinned_fails :
    allFieldsReviewed (Gotree.Gen.C15.fields.map fun f =>
      if f.owner == "Node" && f.name == "rootdepth" then { f with treat := .notCopied } else f) = false := by decide +kernel

/-- ★ every slice / pointer / map field of a copied node or branch is freshly allocated (or left
    at the fresh value of `NewNode`/`NewEdge` and filled by `ConnectNodes` with copies only):
    no cell of the copy is a cell of the source, so no edit of one can write into the other
    (the frame argument is at field granularity — DESIGN §6 C15) -/
theorem copy_fresh : allRefFieldsFresh Gotree.Gen.C15.fields Gotree.Gen.C15.recurFacts = true := by decide +kernel

/-- table (d) read as a copy plan: none of the three reference fields CopyNode / CopyEdge assign
    (node comments, branch comments, bitset) is shared — decided on the regenerated table -/
theorem clone_plan_fresh : Heap.planOf Gotree.Gen.C15.fields = Heap.Plan.none := by decide +kernel

/-- ★ independence of copies on the heap: `Clone` / `SubTree` (the heap program `Heap.cloneOps`, driven
    by the regenerated table) builds the copy of the tree `t` found at path `sp` of the source in
    cells of its own; then under ANY history of heap edits of the copy the source keeps every cell
    content and its set of cells, and under any history of heap edits of the source the copy does.
    This closes `twin_unchanged_partial` for all edits that are heap programs. -/
theorem twin_unchanged (t : T) (sp : List Nat) (src : Heap.Addr) (h0 : Heap.H) (hsrc : Heap.Alloc h0 src)
    (progs : List (Heap.H → List Heap.Op)) :
    let h1 := Heap.exec src h0.next (Heap.cloneOps Gotree.Gen.C15.fields t sp) h0
    let cp := h0.next
    (Heap.SameOn h0 h1 src ∧ Heap.Disjoint h1 cp src) ∧
    (Heap.SameOn h1 (Heap.run (progs.map (Heap.runProg cp)) h1) src ∧
      Heap.Disjoint (Heap.run (progs.map (Heap.runProg cp)) h1) cp src) ∧
    (Heap.SameOn h1 (Heap.run (progs.map (Heap.runProg src)) h1) cp ∧
      Heap.Disjoint (Heap.run (progs.map (Heap.runProg src)) h1) src cp) :=
  Heap.clone_then_edit_frame _ clone_plan_fresh t sp src h0 hsrc progs

/-- … the same for `SubTree` at any node (`b` = the node is the root of the source; it only matters
    for where the source's cells are read) -/
theorem twin_unchanged_subtree (t : T) (sp : List Nat) (b : Bool) (src : Heap.Addr) (h0 : Heap.H)
    (hsrc : Heap.Alloc h0 src) (progs : List (Heap.H → List Heap.Op)) :
    let h1 := Heap.exec src h0.next (Heap.cloneOpsAt Gotree.Gen.C15.fields t sp b) h0
    let cp := h0.next
    (Heap.SameOn h0 h1 src ∧ Heap.Disjoint h1 cp src) ∧
    (Heap.SameOn h1 (Heap.run (progs.map (Heap.runProg cp)) h1) src ∧
      Heap.Disjoint (Heap.run (progs.map (Heap.runProg cp)) h1) cp src) ∧
    (Heap.SameOn h1 (Heap.run (progs.map (Heap.runProg src)) h1) cp ∧
      Heap.Disjoint (Heap.run (progs.map (Heap.runProg src)) h1) src cp) :=
  Heap.subtree_then_edit_frame _ clone_plan_fresh t sp b src h0 hsrc progs

/-- `(a,b);` on the heap: Tree struct 13 [root 0, tip index 12]; root 0 [comments 1, neigh 2, br 3];
    tips 4 and 8; branches 14 and 17 [left, right, comments, bitset] -/
def exCells : List (Nat × List Nat) :=
  [(13, [0, 12]), (12, []), (0, [1, 2, 3]), (1, []), (2, [4, 8]), (3, [14, 17]),
   (4, [5, 6, 7]), (5, []), (6, [0]), (7, [14]), (8, [9, 10, 11]), (9, []), (10, [0]), (11, [17]),
   (14, [0, 4, 15, 16]), (15, []), (16, []), (17, [0, 8, 18, 19]), (18, []), (19, [])]

def exTree : T := .node ⟨"", []⟩ 0 [(EdgeD.blank, T.leaf "a"), (EdgeD.blank, T.leaf "b")]

/- a whole run of the copy program on that heap (kernel-evaluated): 18 cells are allocated (20 … 37), the
   copy's root 20 is wired [21, 22, 23], its neighbours are the two new tips 27 and 34, the first new branch
   24 joins 20 and 27; the structure below 20 is the structure below the source's root 0 up to renaming;
   and no cell of the source has changed -/
example :
    let h0 := Heap.ofCells exCells
    let h1 := Heap.exec 13 h0.next (Heap.cloneOpsAt Gotree.Gen.C15.fields exTree [0] true) h0
    h0.next = 20 ∧ h1.next = 38 ∧ h1.ptrs 20 = [21, 22, 23] ∧ h1.ptrs 22 = [27, 34] ∧ h1.ptrs 24 = [20, 27, 25, 26] ∧
    Heap.isoFrom h1 20 exCells 0 = true ∧ (List.range 20).all (fun a => h1.ptrs a == h0.ptrs a) = true := by
  decide +kernel

/-- pinned variant of the plan (own breakage "CopyNode shares the comment slice"): the copy stores a
    path INTO THE SOURCE for its comment array, so the copy program is not one that stores only its
    own cells -/
theorem clone_plan_shared_fails :
    Heap.planOf (Gotree.Gen.C15.fields.map fun f =>
      if f.owner == "Node" && f.name == "comment" then { f with treat := .shared } else f) ≠ Heap.Plan.none ∧
    (Heap.copyNodeOps ⟨true, false, false⟩ (T.leaf "a") [0] true none 0).1.any (fun o => !o.freshRefs) = true := by
  decide +kernel

/-- ★ … in particular for the table of the current source -/
theorem clone_eq (t : T) : clone t = zeroPpos t := cloneBy_eq _ table_observable_copied t

/-- nothing any enumeration or text reads depends on the parent positions: same split list
    (names below every branch, branch data incl. comments), same tips, same node names in
    pre-order, same distances -/
theorem clone_same_observations (t : T) :
    (clone t).splits = t.splits ∧ (clone t).tipNames = t.tipNames ∧ (clone t).nodeNames = t.nodeNames ∧
    (clone t).d = t.d ∧ ∀ a b, (clone t).dist a b = t.dist a b := by
  rw [clone_eq]
  exact ⟨zeroPpos_splits t, zeroPpos_tipNames t, zeroPpos_nodeNames t, zeroPpos_d t, zeroPpos_dist t⟩

/-- ★ "same text, including comments": for the writer model of C01 (`Newick.write`, any float codec),
    the Newick text of the clone is the text of its source (the writer never reads a parent position) -/
theorem clone_same_text (C : Newick.Codec) (t : T) : Newick.write C (clone t) = Newick.write C t := by
  rw [clone_eq, write_zeroPpos]

/-- … and likewise the text of an extracted subtree is the text of what hangs below the node -/
theorem subtree_same_text (C : Newick.Codec) (t : T) (path : List Nat) (n sub : T)
    (hn : nodeAt t path = some n) (hs : subTree t path = some sub) : Newick.write C sub = Newick.write C n := by
  have hsub : sub = zeroPpos n := subTreeBy_eq table_observable_copied hn hs
  rw [hsub, write_zeroPpos]

/-- the derived state of a clone: `UpdateTipIndex` gives the clone the tip ids of its source, and the
    bitsets `CopyEdge` clones are the ones `ReinitIndexes` would compute on the clone -/
theorem clone_derived (t : T) : tipIndex (clone t) = tipIndex t ∧ bitsets (clone t) = bitsets t := by
  rw [clone_eq]; exact zeroPpos_derived t

/-- the model's clone meets the Spec used as oracle -/
theorem cloneOK_holds (t : T) : cloneOK t (clone t) = true := by
  have : zeroPpos (clone t) = zeroPpos t := by rw [clone_eq, zeroPpos_idem]
  simp only [cloneOK, this]
  exact beq_refl_T _

/-- pinned variant (F20, before b0dbbc9): `CopyEdge` without the comments -/
def pinnedFields : Table :=
  Gotree.Gen.C15.fields.map fun f => if f.owner == "Edge" && f.name == "comment" then { f with treat := .notCopied } else f

def witnessF20 : T :=
  .node ⟨"", []⟩ 0 [(⟨1, NIL, NIL, ["c"], 0⟩, T.leaf "a"), (⟨1, NIL, NIL, [], 1⟩, T.leaf "b")]

theorem clone_pinned_fails :
    allObservableFieldsCopied pinnedFields = false ∧ (cloneBy pinnedFields witnessF20).edges ≠ witnessF20.edges := by
  decide +kernel

/-! ## SubTree -/

/-- ★ the subtree extracted at a node: path lengths between the leaves below that node are
    those of the source tree (unique tip names) -/
theorem subtree_dist (t : T) (path : List Nat) (n sub : T) (hn : nodeAt t path = some n)
    (hs : subTree t path = some sub) (hu : t.tipNames.Nodup) (a b : String)
    (ha : a ∈ leavesL n.kids) (hb : b ∈ leavesL n.kids) : sub.dist a b = t.dist a b := by
  have hsub : sub = zeroPpos n := subTreeBy_eq table_observable_copied hn hs
  have hk : (leavesL t.kids).Nodup := by
    exact T.nodup_leavesL_of_tipNames hu
  rw [hsub, zeroPpos_dist, dist_def, dist_def]
  exact nodeAt_dist EdgeD.lenOr0 path t n hn hk a b ha hb

/-- ★ … and its tips are exactly the leaves below the node (plus the node itself when it has a
    single child: a root with one neighbour is a tip) -/
theorem subtree_tips (t : T) (path : List Nat) (n sub : T) (hn : nodeAt t path = some n)
    (hs : subTree t path = some sub) : sub.tipNames = subTips n ∧ zeroPpos sub = zeroPpos n := by
  have hsub : sub = zeroPpos n := subTreeBy_eq table_observable_copied hn hs
  rw [hsub, zeroPpos_tipNames, zeroPpos_idem]
  exact ⟨rfl, rfl⟩

/-- … of an extracted subtree (`ReinitIndexes`): those of what hangs below the node, read as a tree -/
theorem subtree_derived (t : T) (path : List Nat) (n sub : T) (hn : nodeAt t path = some n)
    (hs : subTree t path = some sub) : tipIndex sub = tipIndex n ∧ bitsets sub = bitsets n := by
  have h := (subtree_tips t path n sub hn hs).2
  have h1 := zeroPpos_derived sub
  have h2 := zeroPpos_derived n
  rw [h] at h1
  exact ⟨h1.1.symm.trans h2.1, h1.2.symm.trans h2.2⟩

/-- … with the branch data of the source -/
theorem subtree_edges (t : T) (path : List Nat) (n sub : T) (hn : nodeAt t path = some n)
    (hs : subTree t path = some sub) : sub.splits = n.splits := by
  have := (subtree_tips t path n sub hn hs).2
  rw [← zeroPpos_splits sub, this, zeroPpos_splits]

/-- the model's subtree meets the Spec used as oracle -/
theorem subTreeOK_holds (t : T) (path : List Nat) (n sub : T) (hn : nodeAt t path = some n)
    (hs : subTree t path = some sub) (hu : t.tipNames.Nodup) : subTreeOK t n sub = true := by
  simp only [subTreeOK, Bool.and_eq_true]
  refine ⟨sameNames_of_perm (by rw [(subtree_tips t path n sub hn hs).1]), distAgree_of fun a ha b hb => ?_⟩
  exact (subtree_dist t path n sub hn hs hu a b ha hb).symm

/-- `gotree subtree -n '^name$'` prints something only when exactly one node carries the name and it
    is not a tip; then it prints the copy of what hangs below it -/
theorem cliSubtree_spec (t : T) (name : String) (sub : T) (h : cliSubtree t name = some sub) :
    ∃ n, nodesNamed t name = [(false, n)] ∧ zeroPpos sub = zeroPpos n := by
  unfold cliSubtree cliSubtreeBy at h
  split at h
  · rename_i n hn
    injection h with h
    exact ⟨n, hn, by rw [← h, copyRecBy_eq table_observable_copied, zeroPpos_idem]⟩
  · cases h

example : (insertIdentical true witnessF37 [["c", "n1", "n2"], ["m", "a"]]).2 = none ∧
    (insertIdentical true witnessF37 [["c", "n1", "n2"], ["m", "a"]]).1.tipNames = ["m", "a", "b", "n1", "c", "n2", "d"] := by
  decide +kernel
example : okTips (graft true witnessF37 "b" exXY) = ["a", "x", "y", "c", "d"] := by decide +kernel
example : okTips (merge true true witnessF37 exXY) = ["a", "b", "c", "d", "x", "y"] := by decide +kernel
example : (subTree witnessF37 [1, 0]).map T.tipNames = some ["c", "d"] ∧
    (nodeAt witnessF37 [1, 0]).map (fun n => leavesL n.kids) = some ["c", "d"] := by decide +kernel

/-- `gotree subtree` on several trees prints at most one tree per input tree, each the subtree of a node of
    some input tree with that name -/
theorem cliSubtreeAll_length (ts : List T) (name : String) : (cliSubtreeAll ts name).length ≤ ts.length := by
  unfold cliSubtreeAll
  exact List.length_filterMap_le _ _

/-! ## table (e): sentinels and guard constants regenerated from the source -/

/-- the sentinels of tree/edge.go are the ones of the model (`NIL`, `EdgeD.blank`, `zeroEdge`) -/
theorem sentinels_check :
    Gotree.Gen.C15.sentinels = expectedSentinels ∧ modelSentinels = expectedSentinels := by decide +kernel

/-- every comparison with a constant in Rooted, Tip, Merge, InsertIdenticalTips, InsertIdenticalTip and
    removeSingleNodesRecur, and every constant given to SetLength / math.Max there, is the one the model
    was written from (`Model/C15Guards.lean` names the model definition behind each row).  A changed
    operator or constant (`> 1` → `> 2`, `== 0.0` → `<= 0.0`, `Max(0, …)` → `Max(1, …)`) breaks this decision;
    the failing input is then searched by the oracle as usual. -/
theorem guards_check : Gotree.Gen.C15.guards = expectedGuards := by decide +kernel

end Gotree.C15

/-
  C02 — the property theorems (DESIGN §6 C02, Appendix B).

  Everything is about the model functions the driver runs against the code:
  `Readers.newickOne / multiNewick / nexusOne / nexusMulti / phyloxml* / nextstrain*`
  (Model/C02Readers.lean), `reinit`, `walkAll` (Model/C02.lean).  The readers are
  defined without fuel: that Lean accepted `Newick.run`, `Nexus.tokens`,
  `Readers.multiLoop` (well-founded recursion on the remaining input) and the
  structural folds is the termination part of the property; what remains is stated
  here.  `crashed` = the model's outcome is `panic` or `hang`.
-/
import Gotree.Lemmas.C02Readers
import Gotree.Lemmas.C02Chan
import Gotree.Lemmas.C02onC01
import Gotree.Lemmas.C02NewickEq
import Gotree.Gen.C02Goroutine
import Gotree.Gen.C02Dispatch
import Gotree.Model.C02Dispatch
import Gotree.Model.C02Files
import Gotree.Lemmas.C02Writers
import Gotree.Lemmas.C02WritersP

namespace Gotree.C02
open Gotree

/-! ### ★ the readers never panic, for every byte string -/

/-- ★ `newick.NewParser(r).Parse()` -/
theorem newick_no_panic (b : List UInt8) : (Readers.newickOne b).crashed = false := by
  fun_cases Readers.newickOne b
  · exact absurd ‹_› (Newick.parse_no_panic b _)
  · rfl
  · rfl

/-- ★ the same for the Newick model of C01 (`Gotree.Newick.parse`, used by C01/C13; the driver of C02 runs it
    next to its own model against the code): no panic for any codec and any input -/
theorem newick_no_panic_C01 (C : Gotree.Newick.Codec) (b : List UInt8) (m : String) :
    Gotree.Newick.parse C (decodeLossy b) ≠ .panic m := OnC01.parse_no_panic C _ m

/-- ★ the two Newick models are observationally equal: C01's `Gotree.Newick.parse` (with the codec made of
    C02's `ParseFloat` transcription) and C02's `Newick.parse` give, on every byte string, the same outcome
    class and the same delivered tree — `ok t` ↦ `ok ⟨t, false⟩`, `err` ↦ `err`, `panic` ↦ `panic` — wherever
    C01's model does not give up with `unrep` (a NaN/±Inf would have to be stored in a `Rat` field). -/
theorem newick_models_agree (b : List UInt8) :
    NewickEq.RelOutT (Gotree.Newick.parse NewickEq.myCodec (decodeLossy b)) (Newick.parse b) :=
  NewickEq.parse_agree (decodeLossy b)

/-- … and they stand at the same place of the input afterwards (`parseR`: one `Parser` reused for the next
    tree of the line, 3850fd2): `ok (t, rest)` ↦ `ok ⟨t, false, rest⟩` -/
theorem newick_models_agree_rest (b : List UInt8) :
    NewickEq.RelOut (Gotree.Newick.parseR NewickEq.myCodec (decodeLossy b)) (Newick.parse b) :=
  NewickEq.parseR_agree (decodeLossy b)

/-- … in particular the outcome classes agree -/
theorem newick_models_same_class (b : List UInt8) :
    (∀ t, Gotree.Newick.parse NewickEq.myCodec (decodeLossy b) = .ok t → (Newick.parse b).cls = .ok) ∧
    (∀ m, Gotree.Newick.parse NewickEq.myCodec (decodeLossy b) = .err m → (Newick.parse b).cls = .err) := by
  have h := newick_models_agree b
  constructor
  · intro t ht; rw [ht] at h; obtain ⟨r, h'⟩ := h; rw [h']; rfl
  · intro m hm; rw [hm] at h; obtain ⟨m', h'⟩ := h; rw [h']; rfl

/-- the Nexus parser neither panics nor hangs, whatever the Newick parser it is given does short of panicking -/
theorem nexus_parse_total (b : List UInt8) : (∀ m, Nexus.parse b ≠ .panic m) ∧ Nexus.parse b ≠ .hang :=
  ⟨fun m => Nexus.parseCharsWith_no_panic _ (fun cs m => Newick.run_no_panic {} cs (Or.inl rfl) m) _ m,
   Nexus.parseCharsWith_halts _ _⟩

/-- ★ `ReadTreeReader(FORMAT_NEXUS)` and `ReadMultiTrees(FORMAT_NEXUS)` -/
theorem nexus_no_panic (b : List UInt8) :
    (Readers.nexusOne b).crashed = false ∧ (Readers.nexusMulti b).crashed = false := by
  have h := nexus_parse_total b
  constructor
  · fun_cases Readers.nexusOne b
    · exact absurd ‹_› h.2
    · exact absurd ‹_› (h.1 _)
    all_goals rfl
  · fun_cases Readers.nexusMulti b
    · exact absurd ‹_› h.2
    · exact absurd ‹_› (h.1 _)
    all_goals rfl

/-- "every loop leaves on EOF": whatever the control point of the Nexus parser, the EOF token the
    scanner returns at the end of the input halts it within three deliveries -/
theorem nexus_eof_halts (s : Nexus.St) : (Nexus.atEOF {} s).halt.isSome = true := Nexus.eof_halts s

/-- the scanner yields at most one token per character of the input (the parser, a fold over the tokens,
    then makes one control step per token and three more at the end of the input: `Nexus.runToks`) -/
theorem nexus_steps_linear (b : List UInt8) : (Nexus.tokens (decodeLossy b)).length ≤ (decodeLossy b).length :=
  Nexus.tokens_length_le _

/-- `ReadMultiTrees(FORMAT_NEWICK)`, for EVERY sequence of chunks `bufio.ReadLine` may return
    (any buffer size, any splitting): the reader goroutine never panics and always closes the channel -/
theorem multi_no_panic (chunks : List Readers.Chunk) : (Readers.multiNewick chunks).crashed = false :=
  Readers.multiNewickWith_not_crashed chunks

/-- the records sent by the reader goroutine are numbered 0, 1, 2, …, there is at least one, and only the
    last one may carry an error (the reader stops at the first error) -/
theorem multi_records_shape (chunks : List Readers.Chunk) (rs : List Readers.Rec) (h : Readers.multiNewick chunks = .ok rs) :
    Readers.ids rs = List.range rs.length ∧ Readers.errOnlyLast rs = true ∧ rs ≠ [] :=
  Readers.multiNewick_shape chunks rs h

/-- the reader goroutine and the consumer's `range` (channel of capacity 10): whatever the schedule, the
    range ends and the consumer has received exactly the records of the reader model, in order -/
theorem channel_delivers_all (sched : List Chan.Actor) (recs : List Readers.Rec) :
    Chan.done (Chan.simulate sched recs) = true ∧ (Chan.simulate sched recs).got = recs :=
  Chan.simulate_correct sched recs

/-- the shape of the goroutine of `utils.ReadMultiTrees`, extracted from the working tree on every run
    (harness/c02/extract.go → Gen/C02Goroutine.lean), is the one the channel model assumes: a channel of that
    capacity, every send on it, no `return` and no `panic` inside the goroutine, one `close`, as last statement;
    a change of that shape (e.g. a `return` before the `close`) makes this decision fail -/
theorem reader_goroutine_shape :
    Gen.C02.chanCap = Chan.cap ∧ Gen.C02.goStatements = 1 ∧ Gen.C02.returnsInGoroutine = 0 ∧ Gen.C02.panicCalls = 0 ∧
    Gen.C02.closeCalls = 1 ∧ Gen.C02.lastStmtIsClose = true ∧ Gen.C02.sendsElsewhere = 0 ∧ Gen.C02.returnsTheChannel = true := by
  decide

/-- no deadlock: unless the range has ended, the producer or the consumer can move -/
theorem channel_progress (s : Chan.Sys Readers.Rec) (h : Chan.done s = false) :
    (Chan.step true .producer s).isSome = true ∨ (Chan.step true .consumer s).isSome = true :=
  Chan.progress s h

/-- every step decreases `2·|to send| + |buffer| + [not closed]`: no infinite run under any schedule -/
theorem channel_no_infinite_run (a : Chan.Actor) (s s' : Chan.Sys Readers.Rec) (h : Chan.step true a s = some s') :
    Chan.mu s' < Chan.mu s := Chan.step_mu true a s s' h

/-- `fileutils.Readln` in a `for err == nil` loop: it returns at most one line per chunk of `ReadLine`
    (the loop ends; defined without fuel) -/
theorem readLines_bounded (cs : List Readers.Chunk) : (Readers.readLines cs).length ≤ cs.length := by
  induction h : cs.length using Nat.strongRecOn generalizing cs with
  | _ n ih =>
    rw [Readers.readLines]
    split
    · rename_i hf
      have hlt := Readers.readln_rest_lt cs hf
      have := ih _ (by omega) (Readers.readln cs).2.2 rfl
      simp only [List.length_cons]; omega
    · simp

/-- `cladeToTree` of PhyloXML on every decoded clade structure: the two pointer fields (`*(c.BranchLength)`,
    `*(c.Confidence)`) are dereferenced in the model where the Go code dereferences them, and the tests the code
    makes protect every dereference.  (Only from the DECODED structure: encoding/xml is outside the model, see
    `partial_theorems`.)  `nextstrain.cladeToTree` has no pointer, index or map expression at all: its model has no
    panic site, so the last two conjuncts hold by the shape of the definitions and say no more than that. -/
theorem clades_no_panic (ps : List Readers.Clade) (v : String) (n : Readers.NsNode) :
    (Readers.phyloxmlOne ps).crashed = false ∧ (Readers.phyloxmlMulti ps).crashed = false ∧
    (Readers.nextstrainOne v n).crashed = false ∧ (Readers.nextstrainMulti v n).crashed = false := by
  refine ⟨?_, ?_, ?_, ?_⟩
  · fun_cases Readers.phyloxmlOne ps
    all_goals first | rfl | exact absurd ‹_› (Readers.pxTree_no_panic _ _)
  · fun_cases Readers.phyloxmlMulti ps
    all_goals first | rfl | (rw [‹Readers.pxRecs _ 0 = _›]; rfl) | exact absurd ‹_› (Readers.pxRecs_no_panic _ 0 _)
  · fun_cases Readers.nextstrainOne v n <;> rfl
  · fun_cases Readers.nextstrainMulti v n <;> rfl

/-! ### ★ every delivered tree is usable -/

/-- `ReinitIndexes` never panics, on ANY tree value (roots with 0 or 1 neighbours,
    single-child nodes, duplicate names included). -/
theorem reinit_no_panic (t : T) : reinit t ≠ .panic := by
  unfold reinit reinitWith
  split
  · simp
  · split
    · simp
    · rw [hashRight_false_ok]; simp

/-- indexing succeeds exactly when there is at least one tip and no two tips share a name -/
theorem reinit_ok_characterised (t : T) : reinit t = .ok ↔ (hasDup t.tipNames = false ∧ t.tipNames.length ≠ 0) :=
  reinit_ok_iff t

/-- the traversals are consistent on any tree: #branches + 1 = #nodes, #tips ≤ #nodes -/
theorem traversals_consistent (t : T) : nEdges t + 1 = nNodes t ∧ t.tipNames.length ≤ nNodes t :=
  ⟨edges_nodes t, tipNames_le_nodes t⟩

/-- ★ every tree VALUE can be traversed and indexed without a crash — whatever produced it.  This is all
    `delivered_usable` ever said: usability does not depend on which reader delivered the tree (the readers'
    outputs are tree values), so no hypothesis about the reader is needed.  Writing a tree back is not
    modelled here: the harness calls `Newick()`, `Nexus()` and `WritePhyloXML` on every delivered tree and the
    oracle requires that they return. -/
theorem delivered_usable (t : T) : reinit t ≠ .panic ∧ walkAll t = .ok :=
  ⟨reinit_no_panic t, walkAll_ok t⟩

/-- … instantiated at the readers, in the words of the property -/
theorem newick_delivered_usable (b : List UInt8) (rs : List Readers.Rec) (_h : Readers.newickOne b = .ok rs) :
    ∀ r ∈ rs, ∀ t nf, r.tree = some (t, nf) → reinit t ≠ .panic ∧ walkAll t = .ok :=
  fun _ _ t _ _ => delivered_usable t

/-- "either reports an error or delivers trees", multi-tree Newick: the reader never ends without a record
    (oracle clause `reportsOrDelivers`; the other stream readers: `nexus_multi_reports_or_delivers` …) -/
theorem multi_reports_or_delivers (chunks : List Readers.Chunk) (rs : List Readers.Rec) (h : Readers.multiNewick chunks = .ok rs) :
    rs ≠ [] := (Readers.multiNewick_shape chunks rs h).2.2

/-- … the Nexus stream reader (since 78cdd07 a document without any tree is reported as an error record) -/
theorem nexus_multi_reports_or_delivers (b : List UInt8) (rs : List Readers.Rec) (h : Readers.nexusMulti b = .ok rs) : rs ≠ [] := by
  unfold Readers.nexusMulti at h
  split at h
  · cases h
  · cases h
  · cases h; simp
  · cases h; simp
  · rename_i ts hne _
    cases h
    cases ts with
    | nil => exact absurd rfl (hne)
    | cons t r => simp [Readers.ofNTrees]

/-- … the PhyloXML stream reader -/
theorem phyloxml_multi_reports_or_delivers (ps : List Readers.Clade) (rs : List Readers.Rec) (h : Readers.phyloxmlMulti ps = .ok rs) : rs ≠ [] := by
  unfold Readers.phyloxmlMulti at h
  split at h
  · cases h; simp
  · rename_i p tl
    split at h
    · rename_i rs' hr
      cases h
      unfold Readers.pxRecs at hr
      split at hr
      · cases hr
      · split at hr
        · cases hr; simp
        · rename_i hne; exact absurd hr (by intro h'; exact hne _ h')
      · split at hr
        · cases hr; simp
        · rename_i hne; exact absurd hr (by intro h'; exact hne _ h')
    · cases h
    · cases h

/-- … the Nextstrain stream reader (always exactly one record) -/
theorem nextstrain_multi_reports_or_delivers (v : String) (n : Readers.NsNode) (rs : List Readers.Rec)
    (h : Readers.nextstrainMulti v n = .ok rs) : rs ≠ [] := by
  unfold Readers.nextstrainMulti at h
  split at h <;> (cases h; simp)

/-- "never kills the process": the packages of the readers (io/newick, io/nexus, io/fileutils, io/utils, io/phyloxml,
    io/nextstrain) hold no call of os.Exit / log.Fatal* / log.Panic* / ExitWithMessage — counted in the working tree on
    every run (harness/c02/extract.go → Gen/C02Goroutine.lean) -/
theorem readers_never_exit : Gen.C02.exitCalls = 0 := by decide

/-- "either reports an error or delivers trees", single-tree entry points: `ok` always comes with a record -/
theorem single_reports_or_delivers (b : List UInt8) (ps : List Readers.Clade) (v : String) (n : Readers.NsNode) :
    (∀ rs, Readers.newickOne b = .ok rs → rs ≠ []) ∧ (∀ rs, Readers.nexusOne b = .ok rs → rs ≠ []) ∧
    (∀ rs, Readers.phyloxmlOne ps = .ok rs → rs ≠ []) ∧ (∀ rs, Readers.nextstrainOne v n = .ok rs → rs ≠ []) := by
  refine ⟨?_, ?_, ?_, ?_⟩
  · intro rs h; unfold Readers.newickOne at h; split at h <;> (try cases h) <;> simp
  · intro rs h; unfold Readers.nexusOne at h; split at h <;> (try cases h) <;> simp
  · intro rs h; unfold Readers.phyloxmlOne at h
    split at h
    · cases h
    · split at h <;> (try cases h) <;> simp
  · intro rs h; unfold Readers.nextstrainOne at h
    split at h
    · cases h
    · split at h <;> (try cases h) <;> simp

/-! ### the entry points with their `switch format` (Model/C02Dispatch.lean) -/

/-- ★ the two entry points of io/utils/readtrees.go, for EVERY format code (the four constants and anything else:
    the `default` branch) and every input: no panic, no hang -/
theorem entry_points_total (inp : Readers.Input) (format : Int) :
    (Readers.readTreeReader inp format).crashed = false ∧ (Readers.readMultiTrees inp format).crashed = false := by
  constructor
  · fun_cases Readers.readTreeReader inp format
    all_goals first
      | rfl
      | exact newick_no_panic _
      | exact (nexus_no_panic _).1
      | exact (clades_no_panic _ "" default).1
      | exact (clades_no_panic [] _ _).2.2.1
  · fun_cases Readers.readMultiTrees inp format
    all_goals first
      | rfl
      | exact multi_no_panic _
      | exact (nexus_no_panic _).2
      | exact (clades_no_panic _ "" default).2.1
      | exact (clades_no_panic [] _ _).2.2.2

/-- "either reports an error or delivers trees", at the entry points and for every format code: an `ok` outcome
    always comes with at least one record (for a code that is none of the four constants: `ReadTreeReader` returns
    an error, `ReadMultiTrees` sends exactly one record, which carries the error) -/
theorem entry_points_report_or_deliver (inp : Readers.Input) (format : Int) :
    (∀ rs, Readers.readTreeReader inp format = .ok rs → rs ≠ []) ∧
    (∀ rs, Readers.readMultiTrees inp format = .ok rs → rs ≠ []) := by
  constructor
  · fun_cases Readers.readTreeReader inp format
    all_goals first
      | (intro _ h; cases h; done)
      | exact (single_reports_or_delivers inp.bytes [] "" default).1
      | exact (single_reports_or_delivers inp.bytes [] "" default).2.1
      | exact (single_reports_or_delivers [] _ "" default).2.2.1
      | exact (single_reports_or_delivers [] [] _ _).2.2.2
  · fun_cases Readers.readMultiTrees inp format
    all_goals first
      | exact fun rs h => by cases h; exact List.cons_ne_nil _ _
      | exact multi_reports_or_delivers _
      | exact nexus_multi_reports_or_delivers _
      | exact phyloxml_multi_reports_or_delivers _
      | exact nextstrain_multi_reports_or_delivers _ _

/-- the `default` branches: a format code outside 0..3 is reported, by an error resp. by one error record -/
theorem unsupported_format_reported (inp : Readers.Input) (format : Int) (h : format < 0 ∨ format > 3) :
    (Readers.readTreeReader inp format).cls = "err" ∧
    (match Readers.readMultiTrees inp format with | .ok [r] => r.tree.isNone && r.id == 0 | _ => false) = true := by
  have h0 : (format == 0) = false := by simp; omega
  have h1 : (format == 1) = false := by simp; omega
  have h2 : (format == 2) = false := by simp; omega
  have h3 : (format == 3) = false := by simp; omega
  constructor
  · simp [Readers.readTreeReader, h0, h1, h2, h3, Readers.ROut.cls]
  · simp [Readers.readMultiTrees, h0, h1, h2, h3]

/-- the command line never reaches those `default` branches: whatever word follows `--format`, PersistentPreRun
    leaves one of the four constants in `treeformat`; and the driver's `formatOfFlag` names that constant -/
theorem cmd_format_in_range (v : String) :
    0 ≤ Readers.formatCode v ∧ Readers.formatCode v ≤ 3 ∧ Readers.formatName (Readers.formatCode v) = Readers.formatOfFlag v := by
  unfold Readers.formatCode Readers.formatOfFlag
  by_cases a : v = "newick"
  · subst a; decide
  · by_cases b : v = "nexus"
    · subst b; decide
    · by_cases c : v = "phyloxml"
      · subst c; decide
      · by_cases d : v = "nextstrain"
        · subst d; decide
        · simp [a, b, c, d, Readers.formatName]

/-- the shape of the three switches, regenerated from the working tree on every run (harness/c02/extract2.go →
    Gen/C02Dispatch.lean): the four constants in iota order, the case labels of `switch format` in ReadTreeReader and
    in ReadMultiTrees with the parser package each case calls and a `default`, the words of `switch rootInputFormat`
    in cmd/root.go with the constant each selects, the default of the `--format` flag -/
theorem reader_dispatch_shape :
    Gen.C02.formatConsts = Readers.formatConsts ∧ Gen.C02.singleSwitch = Readers.dispatchTable ∧
    Gen.C02.multiSwitch = Readers.dispatchTable ∧ Gen.C02.cmdFormatSwitch = Readers.cmdFormatTable ∧
    Gen.C02.cmdFormatFlagDefault = "newick" := by decide

/-- … and `formatCode` is that table read with the constants numbered by `formatConsts` -/
theorem formatCode_is_the_table :
    Readers.cmdFormatTable.all (fun p =>
      (if p.1 == "default" then Readers.formatCode "anything else" else Readers.formatCode p.1) ==
        (Readers.formatConsts.idxOf p.2 : Int)) = true := by decide

/-- a comparison `x <op> lit` extracted from the source, evaluated -/
def evalCmp (g : String × Int) (x : Int) : Option Bool :=
  if g.1 == ">" then some (decide (x > g.2)) else if g.1 == ">=" then some (decide (x ≥ g.2))
  else if g.1 == "<" then some (decide (x < g.2)) else if g.1 == "<=" then some (decide (x ≤ g.2))
  else if g.1 == "==" then some (x == g.2) else if g.1 == "!=" then some (x != g.2) else none

/-- the guards of the two index expressions of `ReadUntilSemiColon` in the working tree MEAN what the model
    transcribes (`i > 0` for the scan back, `len(ln) > 0` around it): every comparison of `i` / of `len(ln)` with a
    literal found in the function is evaluated on probes and must agree with `> 0` — so `i >= 1` stays green, the
    pinned `i >= 0` of F5 (`readUntilSemiColon_pinned_fails`) does not -/
theorem readUntilSemiColon_guards :
    Gen.C02.rusIndexGuards ≠ [] ∧ Gen.C02.rusLenGuards ≠ [] ∧
    (Gen.C02.rusIndexGuards.all fun g => ([-2, -1, 0, 1, 2, 3, 17] : List Int).all fun x => evalCmp g x == some (decide (x > 0))) = true ∧
    (Gen.C02.rusLenGuards.all fun g => ([0, 1, 2, 3, 17] : List Int).all fun x => evalCmp g x == some (decide (x > 0))) = true := by
  decide

/-! ### the file-level entry points (Model/C02Files.lean): GetReader, ReadTree, cmd readTrees / readTree -/

/-- `utils.GetReader` never panics, whatever the name leads to (nothing, a directory, an empty or one-byte file,
    the standard input, a network source) and whatever gzip makes of the content -/
theorem getReader_total (f : Files.FileIn) (m : String) : Files.getReader f ≠ .panic m := by
  unfold Files.getReader
  split
  · simp
  · split
    · split <;> simp
    · simp

/-- a missing file, and a `.gz` name whose content gzip refuses (an empty file, a one-byte file, a directory, text),
    are reported as errors by `GetReader` -/
theorem getReader_refusals (f : Files.FileIn) :
    (Files.rawSource f = none → ∃ m, Files.getReader f = .err m) ∧
    (Files.hasSuffix f.name ".gz" = true → f.gz = none → ∃ m, Files.getReader f = .err m) := by
  constructor
  · intro h; exact ⟨"open", by simp [Files.getReader, h]⟩
  · intro hs hg
    unfold Files.getReader
    split
    · exact ⟨_, rfl⟩
    · simp [hs, hg]

/-- ★ `utils.ReadTree`, cmd `readTrees`, cmd `readTree`: total for every file case, every format code, and every
    way the decoded structures are attached to the bytes -/
theorem file_entry_points_total (f : Files.FileIn) (mk : List UInt8 → Readers.Input) (format : Int) :
    (Files.readTree f mk format).crashed = false ∧ (Files.readTrees f mk format).crashed = false ∧
    (Files.cmdReadTree f mk format).crashed = false := by
  have hp := getReader_total f
  have h1 : (Files.readTree f mk format).crashed = false := by
    unfold Files.readTree
    split
    · rfl
    · rename_i m h; exact absurd h (hp m)
    · exact (entry_points_total _ format).1
  refine ⟨h1, ?_, ?_⟩
  · unfold Files.readTrees
    split
    · rfl
    · rename_i m h; exact absurd h (hp m)
    · exact (entry_points_total _ format).2
  · unfold Files.cmdReadTree
    split
    · exact h1
    · rfl

/-- … and an `ok` outcome always comes with a record -/
theorem file_entry_points_report_or_deliver (f : Files.FileIn) (mk : List UInt8 → Readers.Input) (format : Int) :
    (∀ rs, Files.readTree f mk format = .ok rs → rs ≠ []) ∧ (∀ rs, Files.readTrees f mk format = .ok rs → rs ≠ []) := by
  constructor
  · intro rs h
    unfold Files.readTree at h
    split at h
    · cases h
    · cases h
    · exact (entry_points_report_or_deliver _ format).1 rs h
  · intro rs h
    unfold Files.readTrees at h
    split at h
    · cases h
    · cases h
    · exact (entry_points_report_or_deliver _ format).2 rs h

/-- the file cases of `getReader_refusals`, on concrete names -/
example : (match Files.getReader { name := "t.nw.gz", entry := .file [], gz := none } with | .err _ => true | _ => false) = true := by decide
example : (match Files.getReader { name := "t.nw.gz", entry := .file [0x1f], gz := none } with | .err _ => true | _ => false) = true := by decide
example : (match Files.getReader { name := "t.nw", entry := .dir } with | .ok [] => true | _ => false) = true := by decide
example : (match Files.getReader { name := "t.nw", entry := .missing } with | .err _ => true | _ => false) = true := by decide
example : Files.sourceOf "-" = .stdin ∧ Files.sourceOf "https://x" = .http ∧ Files.sourceOf "itol://1" = .itol ∧ Files.sourceOf "a/b.nw" = .path := by decide

/-- `fileutils.Readln` before fix 34f70d2 (`readlnRaw`): an unterminated last line that fills the buffer exactly came
    with the error and was dropped by the callers' `for err == nil` loop; the current model returns it -/
theorem readln_pinned_drops_last_line :
    (Readers.readlnRaw [⟨[97, 98], true⟩]).2.1 = true ∧ Readers.readln [⟨[97, 98], true⟩] = ([97, 98], false, []) := by
  constructor <;> rfl

/-! ### written back (Model/C02Writers.lean) -/

/-- what `phyloxml.WritePhyloXML` writes for ANY tree value: its `<clade>` / `</clade>` lines are well nested, every
    other line stands inside a clade, and there is exactly one clade per node of the tree -/
theorem phyloxml_written_well_nested (t : T) :
    Writers.wellNested (Writers.phylogenyLines t) 0 = true ∧ Writers.nOpen (Writers.phylogenyLines t) = nNodes t := by
  constructor
  · have h := Writers.wellNested_node 1 none t [] 0
    simpa [Writers.phylogenyLines, Writers.wellNested] using h
  · exact Writers.nOpen_node 1 none t

/-- ★ "written back without crashing", with the index expressions of the writers as explicit panic sites
    (Model/C02WritersP.lean: `n.br[i]` of Node.Newick, `n.Edges()[i]` of phyloxml.writeClade, on nodes that keep
    their neighbours and their branches in two separate lists): on the structure `ConnectNodes` builds for ANY tree
    value the writers do not panic, and they write what the tree-value models write (`Tree.Nexus()` adds no index
    expression to `Tree.Newick()`: it ranges over `Tips()`) -/
theorem written_back_no_panic (t : T) :
    Writers.newickP (Writers.P.ofT t) = .ok (Writers.newickText t).toList ∧
    Writers.pxNodeP 1 none (Writers.P.ofT t) = .ok (Writers.phylogenyLines t) :=
  ⟨Writers.newickP_ofT t, Writers.pxNodeP_ofT 1 none t⟩

/-- … in the words of the property: every tree value can be traversed, indexed and written back without a crash -/
theorem delivered_usable_and_written (t : T) :
    reinit t ≠ .panic ∧ walkAll t = .ok ∧
    (∀ m, Writers.newickP (Writers.P.ofT t) ≠ .panic m) ∧ (∀ m, Writers.pxNodeP 1 none (Writers.P.ofT t) ≠ .panic m) := by
  refine ⟨reinit_no_panic t, walkAll_ok t, ?_, ?_⟩
  · intro m; rw [(written_back_no_panic t).1]; simp
  · intro m; rw [(written_back_no_panic t).2]; simp

/-- the panic sites are live: a node with one child and no branch (a structure `ConnectNodes` never builds) -/
theorem writers_misaligned_panic :
    Writers.newickP (.node ⟨"", []⟩ [.node ⟨"a", []⟩ [] []] []) = .panic Writers.idxPanic ∧
    Writers.pxNodeP 1 none (.node ⟨"", []⟩ [.node ⟨"a", []⟩ [] []] []) = .panic Writers.idxPanic := by
  constructor <;> rfl

/-- `Tree.Nexus()` declares as many taxa as it lists, and no more than the tree has nodes -/
theorem nexus_written_ntax (t : T) : t.tipNames.length ≤ nNodes t := tipNames_le_nodes t

example : Writers.nexusText (.node ⟨"", []⟩ 0 [(EdgeD.blank, T.leaf "a"), (EdgeD.blank, T.leaf "b")]) =
    "#NEXUS\nBEGIN TAXA;\n DIMENSIONS NTAX=2;\n TAXLABELS a b;\nEND;\nBEGIN TREES;\n  TREE tree1 = (a,b);\nEND;\n" := by decide

/-! ### the behaviours before the fixes (negative theorems on the pinned variants) -/

/-- F3, before fix 214ace7: at the end of the input inside a `[` comment the loop of `consumeComment`
    neither consumes input nor leaves — no amount of fuel is enough. -/
theorem nexus_comment_diverges_pinned (fuel : Nat) (s : Nexus.St) (hc : s.ctl = .mainComment) (hh : s.halt = none) :
    Nexus.eofFuel { f3 := true } fuel s = none := Nexus.comment_diverges_pinned fuel s hc hh

/-- F4, before fix b145a71: `FORMAT MISSING=` followed by the end of the input indexes an empty literal -/
theorem nexus_missing_pinned_fails :
    (Nexus.step { f4 := true } { ctl := .dFmtMsVal {} false } Nexus.eofTok).halt =
      some (.panic "index out of range [0] with length 0") := rfl

/-- F5, before fix b11db41: a blank-only line makes `ReadUntilSemiColon` index `ln[-1]` -/
theorem readUntilSemiColon_pinned_fails :
    (Readers.readUntilSemiColon true [⟨[32], false⟩] []).isPanic = true := by decide

/-- F6, before fix 6e33baa: `(a);` — a root with a single neighbour — panics in `ComputeEdgeHashes`. -/
theorem reinit_pinned_fails :
    reinitPinned (.node ⟨"", []⟩ 0 [(EdgeD.blank, T.leaf "a")]) = .panic := by decide

/-- F1, before fix 6ae5e49: the lexers used NUL as end-of-input sentinel, so a NUL character ended the input -/
theorem scan_nul_pinned_truncates :
    (Newick.scanNulPinned false ['\x00', 'a']).tok = .eof ∧ (Newick.scan false ['\x00', 'a']).tok = .ident := by
  constructor <;> rfl

/-- a producer that returns without `close` (own breakage B5): under every schedule the consumer's range
    never ends -/
theorem channel_without_close_never_ends (recs : List Readers.Rec) (sched : List Chan.Actor) :
    Chan.done (Chan.run false sched (Chan.init recs)) = false := Chan.no_close_deadlocks recs sched

/-- own breakage B4: without the `if c.Confidence != nil` test an inner clade without confidence crashes -/
theorem phyloxml_conf_unchecked_fails :
    (Readers.pxTreeWith { confUnchecked := true }
      (.mk "" "" "" none none [.mk "" "" "" none none [.mk "a" "" "" none none []], .mk "b" "" "" none none []])).isPanic = true := by
  decide

/-! ### the hypotheses / witnesses are not vacuous -/

/-- the pinned machine really is in the comment loop, not halted, after the tokens of `#NEXUS\n[x` -/
example :
    let s := ([⟨.nexus, "#NEXUS".toList⟩, ⟨.endofline, []⟩, ⟨.openbrack, ['[']⟩, ⟨.ident, ['x']⟩] : List Nexus.Token).foldl
      (Nexus.deliver { f3 := true }) {}
    s.halt.isNone = true ∧ (match s.ctl with | .mainComment => true | _ => false) = true := by
  constructor <;> rfl

/-- the current machine halts with an error on the same input -/
example :
    (match (Nexus.runToks {} [⟨.nexus, "#NEXUS".toList⟩, ⟨.endofline, []⟩, ⟨.openbrack, ['[']⟩, ⟨.ident, ['x']⟩]).halt with
     | some (.err _) => true | _ => false) = true := rfl

/-- the current code on the F5 and F6 witnesses -/
example : (Readers.readUntilSemiColon false [⟨[32], false⟩] []).isPanic = false := by decide
example : reinit (.node ⟨"", []⟩ 0 [(EdgeD.blank, T.leaf "a")]) = .ok := by decide

/-- hypotheses of `delivered_usable` / `multi_records_shape` on concrete deliveries (the readers defined by
    well-founded recursion do not reduce in the kernel; that they deliver several trees on real streams is
    what the driver reports under the tags `delivered`, `delivered-many`) -/
def exClade (a b : String) : Readers.Clade :=
  .mk "" "" "" none none [.mk a "" "" (some 1) none [], .mk "" b "" (some (1/2)) (some 1) [.mk "x" "" "" none none [], .mk "" "" "y" none none []]]

example :
    (match Readers.phyloxmlMulti [exClade "a" "b", exClade "c" "d", .mk "" "" "" none none []] with
     | .ok rs => rs.length == 3 && (rs.map (·.tree.isSome)) == [true, true, false]
     | _ => false) = true := by decide

example : (match Readers.multiNewick [] with | .ok [r] => r.tree.isNone && r.id == 0 | _ => false) = true := by decide

example : reinit (.node ⟨"", []⟩ 0 [(EdgeD.blank, T.leaf "a"), (EdgeD.blank, T.leaf "b")]) = .ok := by decide
example : reinit (.node ⟨"", []⟩ 0 [(EdgeD.blank, T.leaf "a"), (EdgeD.blank, T.leaf "a")]) = .err := by decide
example : reinit (.node ⟨"r", []⟩ 0 []) = .err := by decide


end Gotree.C02

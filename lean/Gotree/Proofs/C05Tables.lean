/-
  C05 — the theorems about tables regenerated from the source (`vh gen-tables`).  Kept apart from
  `Proofs/C05.lean` because other properties import that file: a code change that breaks a table must
  not stop their builds.  Nothing outside C05 may import this module.
-/
import Gotree.Proofs.C05
import Gotree.Model.C05Source
import Gotree.Gen.C05Source

namespace Gotree.C05.P
open Gotree Gotree.C05

/-! ## The facts about the source the model relies on (regenerated by `vh gen-tables`) -/

/-- The tables extracted from the working tree (call-graph reachability of the index / orientation
    routines, comparison operators of the selection predicates, constant factors, the method and the
    arguments each command uses, the flags and their defaults) are the ones the model was written for
    (`Gotree/Model/C05Source.lean` says which definition rests on which row). -/
theorem source_facts_check :
    Gotree.Gen.C05Source.reaches = Source.reaches ∧ Gotree.Gen.C05Source.cmps = Source.cmps ∧
    Gotree.Gen.C05Source.factors = Source.factors ∧ Gotree.Gen.C05Source.commands = Source.commands ∧
    Gotree.Gen.C05Source.flags = Source.flags := ⟨rfl, rfl, rfl, rfl, rfl⟩

end Gotree.C05.P

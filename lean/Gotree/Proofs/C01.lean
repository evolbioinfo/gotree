/-
  C01 — the property theorems (every `theorem` here is audited with `#print axioms`).

  All statements are about the model functions the driver runs against the Go code
  (`Newick.parse`, `Newick.write`, at CHARACTER level: the lexer is inside), for an arbitrary
  `FloatCodec` (no axiom; `ratCodec` of Lemmas/C01Codec.lean is a lawful instance, i.e. the hypotheses are satisfiable).
-/
import Gotree.Lemmas.StrLit
import Gotree.Lemmas.C01Lit
import Gotree.Lemmas.C01Witness
import Gotree.Lemmas.C01Buf

namespace Gotree.C01
open Gotree Gotree.Newick

/-- One Parser, several trees: calling `Parse()` repeatedly on the concatenation of the texts of WF01 trees
    delivers the trees one by one, then the error of the exhausted input. -/
theorem parseMany_writes (C : FloatCodec) (ts : List T) (h : ∀ t ∈ ts, WF01 C.isFloat C.dom t = true) :
    Newick.parseMany C.toCodec (ts.flatMap (Newick.write C.toCodec)) =
      ts.map (fun t => Newick.Outcome.ok t.normIds) ++ [.err "found …, expected ("] := by
  induction ts with
  | nil =>
    rw [List.flatMap_nil, parseMany_step]
    rfl
  | cons t ts ih =>
    have hP := parseR_write C t (ts.flatMap (Newick.write C.toCodec)) (wf01_wf01r _ _ t (h t (List.mem_cons_self ..)))
    rw [List.flatMap_cons, parseMany_step, hP]
    simp only [ih (fun t' ht' => h t' (List.mem_cons_of_mem _ ht')), List.map_cons, List.cons_append]

/-- Several trees in one text, each followed by any run of blanks (spaces, tabs, line ends — as when a line of a
    multi-tree file holds several trees, or blanks follow the last `;`): the `More()` / `Parse()` loop of
    ReadMultiTrees delivers exactly these trees, in order, and stops without an error. -/
theorem parseWhileMore_writes_sep (C : FloatCodec) (sep : T → List Char) (hsep : ∀ u, (sep u).all isWhitespace = true)
    (t : T) (ts : List T) (h : ∀ u ∈ t :: ts, WF01 C.isFloat C.dom u = true) :
    Newick.parseWhileMore C.toCodec ((t :: ts).flatMap (fun u => Newick.write C.toCodec u ++ sep u)) =
      (t :: ts).map (fun u => Newick.Outcome.ok u.normIds) := by
  induction ts generalizing t with
  | nil =>
    have hP := parseR_write C t (sep t) (wf01_wf01r _ _ t (h t (List.mem_cons_self ..)))
    have hk := skipWs_ws C.toCodec (sep t) [] (hsep t) (by intro c r hc; cases hc)
    rw [List.append_nil] at hk
    simp only [List.flatMap_cons, List.flatMap_nil, List.map_cons, List.map_nil, List.append_nil]
    rw [parseWhileMore_step, hP]
    simp [Newick.more, scanIW, hk, scan]
  | cons t2 ts ih =>
    obtain ⟨r2, hw2⟩ := write_head C.toCodec _ _ t2 (h t2 (List.mem_cons_of_mem _ (List.mem_cons_self ..)))
    have hrest : (t2 :: ts).flatMap (fun u => Newick.write C.toCodec u ++ sep u) =
        '(' :: (r2 ++ sep t2 ++ ts.flatMap (fun u => Newick.write C.toCodec u ++ sep u)) := by
      simp [List.flatMap_cons, hw2]
    have hflat : (t :: t2 :: ts).flatMap (fun u => Newick.write C.toCodec u ++ sep u) =
        Newick.write C.toCodec t ++ (sep t ++ (t2 :: ts).flatMap (fun u => Newick.write C.toCodec u ++ sep u)) := by
      simp [List.flatMap_cons]
    have hP := parseR_write C t (sep t ++ (t2 :: ts).flatMap (fun u => Newick.write C.toCodec u ++ sep u))
      (wf01_wf01r _ _ t (h t (List.mem_cons_self ..)))
    -- `More()` skips the blanks and sees the `(` of the next tree
    have hnl : NoLeadWs ((t2 :: ts).flatMap (fun u => Newick.write C.toCodec u ++ sep u)) := by
      rw [hrest]; intro c r hc; cases hc; decide
    have hskip := skipWs_ws C.toCodec (sep t) _ (hsep t) hnl
    have hmore : Newick.more C.toCodec (sep t ++ (t2 :: ts).flatMap (fun u => Newick.write C.toCodec u ++ sep u)) = true := by
      simp only [Newick.more, scanIW, hskip]
      rw [hrest, scan_openpar]
      simp
    rw [hflat, parseWhileMore_step, hP]
    simp only [hmore, hskip, if_true, List.map_cons]
    rw [ih t2 (fun u hu => h u (List.mem_cons_of_mem _ hu))]
    simp

/-- `Parser.More` + `Parse` in the loop of `ReadMultiTrees` (3850fd2): on the concatenation of the texts of
    WF01 trees the loop delivers exactly these trees and stops without an error. -/
theorem parseWhileMore_writes (C : FloatCodec) (t : T) (ts : List T) (h : ∀ u ∈ t :: ts, WF01 C.isFloat C.dom u = true) :
    Newick.parseWhileMore C.toCodec ((t :: ts).flatMap (Newick.write C.toCodec)) =
      (t :: ts).map (fun u => Newick.Outcome.ok u.normIds) := by
  simpa using parseWhileMore_writes_sep C (fun _ => []) (fun _ => rfl) t ts h

/-- the hypotheses are satisfiable: two copies of `exTree`, each followed by a blank and a line end -/
example : Newick.parseWhileMore ratCodec.toCodec ([exTree, exTree].flatMap (fun u => Newick.write ratCodec.toCodec u ++ " \n".toList)) =
    [exTree, exTree].map (fun u => Newick.Outcome.ok u.normIds) :=
  parseWhileMore_writes_sep ratCodec (fun _ => " \n".toList) (by intro u; decide) exTree [exTree] (by
    intro u hu
    have : u = exTree := by simpa using hu
    subst this; exact exTree_wf)

/-- The error a failed `ParseFloat` of an `x/y` label leaves in parseIter's named result (model: `stale`) is what
    `Parse` returns when nothing overwrites it before the `;` — `(a(b))x/y;` is refused, `(a(b))xy;` is read —
    and a later Pop clears it: `((a,b)x/y,c);` is read.  (Witnesses by kernel evaluation; the code's rule, kept.) -/
theorem stale_err_witness :
    (match Newick.parseStr goCodec "(a(b))x/y;" with | .err _ => true | _ => false) = true ∧
    (match Newick.parseStr goCodec "(a(b))xy;" with | .ok _ => true | _ => false) = true ∧
    (match Newick.parseStr goCodec "((a,b)x/y,c);" with | .ok _ => true | _ => false) = true := by decide +kernel

/-- ★ Reading back what the writer wrote gives the same tree: same shape, child order, names, lengths,
    supports, p-values, node comments and branch comments; only the branch ids are renumbered in creation
    order and the parent positions are 0 (`T.normIds`).  Character level, any size, any degree. -/
theorem parse_write (C : FloatCodec) (t : T) (h : WF01 C.isFloat C.dom t = true) :
    Newick.parse C.toCodec (Newick.write C.toCodec t) = .ok t.normIds :=
  parse_write_gen C t (wf01_wf01r _ _ t h)

/-- Corollary: writing, reading and writing again gives byte-identical text. -/
theorem write_parse_write (C : FloatCodec) (t t' : T) (h : WF01 C.isFloat C.dom t = true)
    (hp : Newick.parse C.toCodec (Newick.write C.toCodec t) = .ok t') :
    Newick.write C.toCodec t' = Newick.write C.toCodec t := by
  rw [parse_write C t h] at hp
  cases hp
  exact write_normIds C.toCodec t

/-- The oracle the driver evaluates on the implementation's output holds of the model's round trip:
    for every WF01 tree the model re-reads a tree for which `roundTripOK` is true. -/
theorem roundtrip_oracle (C : FloatCodec) (t : T) (h : WF01 C.isFloat C.dom t = true) :
    ∃ t', Newick.parse C.toCodec (Newick.write C.toCodec t) = .ok t' ∧
      roundTripOK t t' (Newick.writeStr C.toCodec t) (Newick.writeStr C.toCodec t') = true := by
  refine ⟨t.normIds, parse_write C t h, ?_⟩
  simp [roundTripOK, sameTree_normIds, Newick.writeStr, write_normIds]

/-- Corollary: on WF01 trees the text determines the tree (up to ids / parent positions): everything the
    property lists survives, because two trees with the same text are `sameTree`. -/
theorem write_injective_on_WF01 (C : FloatCodec) (t₁ t₂ : T) (h₁ : WF01 C.isFloat C.dom t₁ = true)
    (h₂ : WF01 C.isFloat C.dom t₂ = true) (hw : Newick.write C.toCodec t₁ = Newick.write C.toCodec t₂) :
    t₁.normIds = t₂.normIds ∧ sameTree t₁ t₂ = true := by
  have e1 := parse_write C t₁ h₁
  have e2 := parse_write C t₂ h₂
  rw [hw, e2] at e1
  have heq : t₂.normIds = t₁.normIds := by injection e1
  refine ⟨heq.symm, ?_⟩
  have s1 := sameTree_normIds t₁
  have s2 := sameTree_normIds t₂
  rw [heq] at s2
  exact sameTree_euclid t₁ t₂ _ s1 s2

/-- (not a flagship statement) `goDom x` IS the second and third codec law for the value `x`, checked by
    evaluation: for the numbers this theorem restates its hypothesis.  The statement with content is
    `parse_write_goS` below, whose codec takes these two laws from `goFloatCodec` through `goDomS_goDom`. -/
theorem parse_write_go (t : T) (h : WF01 goCodec.isFloat goDom t = true) :
    Newick.parse goCodec (Newick.write goCodec t) = .ok t.normIds :=
  parse_write goFloatCodec t h

/-- ★ for the executable codec with ALL FOUR laws proved: `goDomS x` only says that the shortest-digit search
    for `|x|` ended on a candidate it checked (and that the decimal magnitude is inside the reader's window);
    that the text `goFormatFloat x` is then accepted by the model of `ParseFloat` and read back as `x` is
    theorem `goDomS_goDom` (render → read, digit by digit).  The driver evaluates this hypothesis on every
    case (tag `godom`) and reports a float64 value outside `goDomS` as a broken tie. -/
theorem parse_write_goS (t : T) (h : WF01 goCodec.isFloat goDomS t = true) :
    Newick.parse goCodec (Newick.write goCodec t) = .ok t.normIds :=
  parse_write goFloatCodecS t h

/-- the four codec laws of the executable codec, as one statement -/
theorem goCodec_laws :
    (∀ x : Rat, goCodec.fmt x ≠ [] ∧ (goCodec.fmt x).all numClean = true) ∧
    (∀ x : Rat, goDomS x = true → goCodec.isFloat (goCodec.fmt x) = true) ∧
    (∀ x : Rat, goDomS x = true → goCodec.parse (goCodec.fmt x) = some x) ∧
    (∀ l : List Char, goCodec.isFloat l = true → l.all (fun c => c != '/') = true) :=
  ⟨goFormatFloat_clean, goFloatCodecS.fmt_isFloat, goFloatCodecS.parse_fmt, goCodec_isFloat_noSlash⟩

/-- the model of `ParseFloat` on what the model of `FormatFloat` writes for `n · 10^p`: the nearest float64 -/
theorem goParseFloat_of_render (n : Nat) (p : Int) (h0 : 0 < n) (h1 : n < 10 ^ 400)
    (hlo : -330 ≤ (numDecDigits n : Int) + p) (hhi : (numDecDigits n : Int) + p ≤ 311) :
    goParseFloat (renderFixed 400 n p) = (match roundF64 (scale10 ((n : Nat) : Rat) p) with | none => .bad | some q => .fin q) :=
  (goParseFloat_render n p h0 h1 hlo hhi).1

/-- the first and the fourth law of the executable codec hold for all inputs -/
theorem goCodec_unconditional_laws :
    (∀ x : Rat, goCodec.fmt x ≠ [] ∧ (goCodec.fmt x).all numClean = true) ∧
    (∀ l : List Char, goCodec.isFloat l = true → l.all (fun c => c != '/') = true) :=
  ⟨goFormatFloat_clean, goCodec_isFloat_noSlash⟩

/-! ### the node stack, literally -/

/-- The machine that keeps parseIter's variables `node` / `edge` (their nil-ness) and the nil edge of the
    stack elements explicitly (Model/C01Lit.lean) computes, for EVERY input, what `Newick.parse` computes:
    the nil tests the functional machine derives from the shape of the stack are the code's. -/
theorem parse_literal_stack (C : Codec) (inp : List Char) : Lit.parseL C inp = Newick.parse C inp :=
  Lit.parseL_eq_parse C inp

/-- the loop itself, from the initial state -/
theorem run_literal_stack (C : Codec) (inp : List Char) :
    Lit.eraseO (Lit.runL C {} inp) = Newick.run C {} inp := Lit.runL_eq_run C inp

/-! ### the unscan buffer, literally -/

/-- The machine that keeps the Parser object — the reader and the three fields of `p.buf` (token, literal, flag),
    `scan` answering from the buffer when the flag is set, `unscan` setting it (Model/C01Buf.lean) — computes, for
    EVERY input, what the positional `Newick.parse` computes: handing on "the input before the token" is what the
    one-token buffer does. -/
theorem parse_literal_buffer (C : Codec) (inp : List Char) : (Buf.parseB C (Buf.fresh inp)).1 = Newick.parse C inp := by
  have h := Buf.parseB_rel C (Buf.fresh inp) inp (Buf.agrees_fresh C inp)
  rw [parse_eq_parseR]
  cases hr : Newick.parseR C inp with
  | ok tr =>
    obtain ⟨t, r⟩ := tr
    rw [hr] at h
    obtain ⟨b', hb', _⟩ := h
    rw [hb']; rfl
  | _ => rw [hr] at h; exact h

/-- The Parser object ACROSS calls: whenever it stands at a position of the positional model (`Buf.Agrees`: nothing
    buffered and the reader there, or a non-blank token buffered that began there), `Parse()` returns what `parseR`
    returns and leaves the Parser at the position `parseR` hands on, and `More()` answers `Newick.more` and leaves it
    at the next non-blank character. -/
theorem parser_object_simulation (C : Codec) (b : Buf.PBuf) (p : List Char) (h : Buf.Agrees C b p) :
    (match Newick.parseR C p with
     | .ok (t, r) => ∃ b', Buf.parseB C b = (.ok t, b') ∧ Buf.Agrees C b' r
     | .err m => (Buf.parseB C b).1 = .err m
     | .panic m => (Buf.parseB C b).1 = .panic m
     | .unrep m => (Buf.parseB C b).1 = .unrep m) ∧
    (Buf.moreB C b).1 = Newick.more C p ∧ Buf.Agrees C (Buf.moreB C b).2 (skipWs C p) :=
  ⟨Buf.parseB_rel C b p h, Buf.moreB_rel C b p h⟩

/-- The `More()` / `Parse()` loop of ReadMultiTrees on one Parser object delivers, for EVERY text, what the positional
    `parseWhileMore` delivers (the fuel `length + 1` is never exhausted). -/
theorem parseWhileMore_literal_buffer (C : Codec) (inp : List Char) :
    Buf.parseWhileMoreB C (inp.length + 1) (Buf.fresh inp) = Newick.parseWhileMore C inp :=
  Buf.parseWhileMoreB_eq C _ _ inp (Buf.agrees_fresh C inp) (by omega)

/-! ### defect F1 (repaired by 6ae5e49): regression theorems -/

/-- The scanner as it is now returns a name containing NUL whole … -/
theorem scan_nul_whole (C : Codec) (r : List Char) :
    (scan C false ('a' :: '\x00' :: 'b' :: ',' :: r)).2.1 = ['a', '\x00', 'b'] := by
  simp [scan, isWhitespace, isIdent, List.takeWhile]

/-- … while the scanner pinned before the fix cut it at the NUL (and swallowed the NUL). -/
theorem scanPinned_nul_fails (C : Codec) (r : List Char) :
    (scanPinned C false ('a' :: '\x00' :: 'b' :: ',' :: r)).2.1 = ['a'] ∧
    (scanPinned C false ('a' :: '\x00' :: 'b' :: ',' :: r)).2.2 = 'b' :: ',' :: r := by
  simp [scanPinned, isWhitespace, isIdent, List.takeWhile, List.dropWhile, dropNul]

/-! ### fix 331c4ae (writer, root with a single neighbour) -/

example : WF01r ratCodec.isFloat ratCodec.dom root1 = true := by decide +kernel
example : String.ofList (Newick.write ratCodec.toCodec root1) = "((a,b)1r2:1r1)R[rc];" := by decide +kernel
example : roundTripModel goCodec root1 = true := control_go.2.2.2

/-! ### every clause of the quantifier is needed — for the codec the driver runs -/

/-- Thirteen trees that each drop ONE clause of WF01 and on which the model's own round trip, with the
    executable codec `goCodec`, fails (tip with trailing / leading blank, numeric and float/float inner name,
    two branch comments, branch comment without length, name + support, p-value without support, support on
    a tip branch, `]` in a comment, metacharacter in a name — also inside quotes —, numeric root name). -/
theorem quantifier_clauses_needed :
    roundTripModel goCodec (root3 (leafE NIL "x ")) = false ∧
    roundTripModel goCodec (root3 (leafE NIL " x")) = false ∧
    roundTripModel goCodec (root3 (innerAB ⟨NIL, NIL, NIL, [], 0⟩ ⟨"12", []⟩)) = false ∧
    roundTripModel goCodec (root3 (innerAB ⟨NIL, NIL, NIL, [], 0⟩ ⟨"0.5/0.25", []⟩)) = false ∧
    roundTripModel goCodec (root3 (innerAB ⟨1, NIL, NIL, ["x", "y"], 0⟩ ⟨"", []⟩)) = false ∧
    roundTripModel goCodec (root3 (innerAB ⟨NIL, NIL, NIL, ["x"], 0⟩ ⟨"", []⟩)) = false ∧
    roundTripModel goCodec (root3 (innerAB ⟨NIL, 1/2, NIL, [], 0⟩ ⟨"N", []⟩)) = false ∧
    roundTripModel goCodec (root3 (innerAB ⟨NIL, NIL, 1/2, [], 0⟩ ⟨"", []⟩)) = false ∧
    roundTripModel goCodec (root3 (⟨NIL, 1/2, NIL, [], 0⟩, T.leaf "x")) = false ∧
    roundTripModel goCodec (root3 (innerAB ⟨NIL, NIL, NIL, [], 0⟩ ⟨"", ["a]b"]⟩)) = false ∧
    roundTripModel goCodec (root3 (leafE NIL "x:y")) = false ∧
    roundTripModel goCodec (root3 (leafE NIL "'x,y'")) = false ∧
    roundTripModel goCodec (.node ⟨"1e5", []⟩ 0 [leafE NIL "a", leafE NIL "b"]) = false := by decide +kernel

/-- The ROOT name clause, explicitly (routed from C09): a root named "7.0" — with two children, or as a tip
    root with a single child — is written `(a,b)7.0;` / `((a,b))7.0;`; the reader takes the label after the
    last `)` for a support, the root has no branch, so the value is dropped and the name is lost.  Outside the
    quantifier (`innerNameOK` applies to the root: not numeric-looking); a root named "7.0x" survives. -/
theorem needs_nonnumeric_root_name_go :
    roundTripModel goCodec (.node ⟨"7.0", []⟩ 0 [leafE NIL "a", leafE NIL "b"]) = false ∧
    roundTripModel goCodec (.node ⟨"7.0", []⟩ 0 [innerAB ⟨NIL, NIL, NIL, [], 0⟩ ⟨"", []⟩]) = false ∧
    WF01 goCodec.isFloat isF64 (.node ⟨"7.0", []⟩ 0 [leafE NIL "a", leafE NIL "b"]) = false ∧
    roundTripModel goCodec (.node ⟨"7.0x", []⟩ 0 [leafE NIL "a", leafE NIL "b"]) = true := by decide +kernel


/-! ### the hypotheses of the theorems for the executable codec are satisfiable -/

/-- `exTreeGo` carries 0.1, 0.30000000000000004, a sub-normal (1e-320), the largest float64, 1e21, -1.25 -/
example : WF01 goCodec.isFloat isF64 exTreeGo = true := exTreeGo_wf64
example : WF01 goCodec.isFloat goDomS exTreeGo = true := exTreeGo_wf
example : Newick.parse goCodec (Newick.write goCodec exTreeGo) = .ok exTreeGo.normIds :=
  parse_write_goS exTreeGo exTreeGo_wf
example : ((Newick.write goCodec exTreeGo).take 60) =
    "((a:17976931348623157000000000000000000000000000000000000000".toList := by
  rw [String.toList_lit (by rfl)]; decide +kernel

/-- Non-vacuity of `parse_write_goS`: a WF01 tree of genuinely non-dyadic-short float64 values inside `goDomS`. -/
theorem parse_write_goS_nonvacuous :
    ∃ t : T, WF01 goCodec.isFloat goDomS t = true ∧ WF01 goCodec.isFloat isF64 t = true ∧
      Newick.parse goCodec (Newick.write goCodec t) = .ok t.normIds :=
  ⟨exTreeGo, exTreeGo_wf, exTreeGo_wf64, parse_write_goS exTreeGo exTreeGo_wf⟩

/-! ### the hypotheses are satisfiable (lawful codec `ratCodec`, a non-trivial tree) -/

example : WF01 ratCodec.isFloat ratCodec.dom exTree = true := exTree_wf
example : String.ofList (Newick.write ratCodec.toCodec exTree) =
    "((a:1r2,b c,100:0r1)9r10/1r20[c1][c;2]:3r1[bc],(c:2r1[k],d)N1/x,e:-5r4)root[rc];" := by
  refine (congrArg String.ofList ?_).trans String.ofList_toList
  rw [String.toList_lit (by rfl)]; decide +kernel
example : Newick.parse ratCodec.toCodec (Newick.write ratCodec.toCodec exTree) = .ok exTree.normIds :=
  parse_write ratCodec exTree exTree_wf

/-- Non-vacuity, as a theorem: there is a lawful codec and a WF01 tree with a multifurcation, comments,
    a support with p-value and non-integer values for which the round trip holds. -/
theorem parse_write_nonvacuous :
    ∃ (C : FloatCodec) (t : T), WF01 C.isFloat C.dom t = true ∧
      Newick.parse C.toCodec (Newick.write C.toCodec t) = .ok t.normIds :=
  ⟨ratCodec, exTree, exTree_wf, parse_write ratCodec exTree exTree_wf⟩

end Gotree.C01

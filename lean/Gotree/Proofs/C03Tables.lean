/-
  C03 — the theorems that depend on the table regenerated from the source (Gotree/Gen/C03Source.lean).
  Kept apart from Proofs/C03.lean: nothing may import this module, so a changed or stale table can
  only fail here.
-/
import Gotree.Proofs.C03
import Gotree.Gen.C03Source
import Gotree.Lemmas.C03Source

namespace Gotree.C03
open Gotree

/-! ### facts about the SOURCE the models assume, regenerated on every run (harness/c03/extract.go) -/

/-- The table regenerated from tree/*.go of the working tree (calls, assigned fields, degree tests of 51
    functions: enumerations, degree predicates, pointer helpers, anchored edits) is the reviewed one. -/
theorem source_facts_check : Gotree.Gen.C03.facts = reviewedFacts := rfl

/-- What the models take from it: the observers (five enumerations, `Tip`, `Nneigh`, `Rooted`, the two
    Newick writers) assign no field of the tree — observing a step does not change it —; each
    enumeration goes through its own recursion only (F8 was `internalEdgesRecur` continuing through
    `edgesRecur`); the degree constants are those of `isTipAt`, `T.rooted`, `firstDeg3`, `resolve`,
    `removeSingle` and of the transliterated branch recursions. -/
theorem source_observers_check :
    observersPure Gotree.Gen.C03.facts = true ∧ recursionsClosed Gotree.Gen.C03.facts = true ∧
      degreeConstants Gotree.Gen.C03.facts = true := by decide +kernel

/-- the three predicates are not vacuous: the pinned `internalEdgesRecur` (calling `edgesRecur`), an
    enumeration that stores, and a `Tip` that tests `<= 1` are each refused -/
example :
    recursionsClosed [⟨"Tree.internalEdgesRecur", true, ["edgesRecur"], [], [(">=", 2)]⟩] = false ∧
    observersPure [⟨"Tree.Edges", true, ["edgesRecur"], ["br"], []⟩] = false ∧
    degreeConstants [⟨"Node.Tip", true, [], [], [("<=", 1)]⟩] = false := by decide

end Gotree.C03

/-
  C15 — property theorems (every `theorem` here is audited with `#print axioms` by bin/check).

  All statements are about the model functions the driver runs against the code
  (`graft`, `merge`, `insertIdentical`, `removeSingle`, `subTreeBy`, `cloneBy` of
  `Gotree/Model/C15.lean`), for all trees — no bound on size.
-/
import Gotree.Lemmas.C15Copy
import Gotree.Lemmas.C15Graft
import Gotree.Lemmas.C15Single
import Gotree.Lemmas.C15InsertAll
import Gotree.Lemmas.C15Holds
import Gotree.Lemmas.C15Text
import Gotree.Lemmas.C15HeapCopy
import Gotree.Model.C15HeapEdits
import Gotree.Lemmas.C15Cmd

namespace Gotree.C15
open Gotree Gotree.C14

/-- the frame argument on an abstract heap (see `Lemmas/C15Heap.lean`): two trees that reach
    disjoint sets of allocated cells — what `copy_fresh` decides for a copy and its source, and what
    the harness observes right after `Clone`/`SubTree` — stay disjoint under any history of local
    edits of the first one, and the second one keeps every cell content and its set of cells; so
    anything computed from the cells it reaches (α dump, Newick text) is unchanged.
    PARTIAL with respect to the Go code: that each edit operation is `Local` is assumed
    (tested by the aliasing histories), not proved. -/
theorem twin_unchanged_partial {α : Type} (r r' : Heap.Addr) (obs : Heap.H → α)
    (hobs : ∀ h h', Heap.SameOn h h' r' → obs h' = obs h)
    (es : List (Heap.H → Heap.H)) (h : Heap.H) (hes : ∀ e ∈ es, Heap.Local r e ∧ Heap.KeepsAlloc r e)
    (ha : Heap.Alloc h r) (ha' : Heap.Alloc h r') (hd : Heap.Disjoint h r r') :
    obs (Heap.run es h) = obs h ∧ Heap.Disjoint (Heap.run es h) r r' :=
  ⟨Heap.observe_frame obs hobs es h hes ha ha' hd, (Heap.history_frame es h hes ha ha' hd).2.2⟩

/- `Local` is inhabited: overwriting the root cell's data, allocating a cell below the root -/
example (r : Heap.Addr) (v : Nat) : Heap.Local r (Heap.setData r v) ∧ Heap.KeepsAlloc r (Heap.setData r v) :=
  Heap.setData_local r v
example (r : Heap.Addr) : Heap.Local r (Heap.allocChild r) ∧ Heap.KeepsAlloc r (Heap.allocChild r) :=
  Heap.allocChild_local r

/-- ★ every edit that reaches the cells it writes, and the references it stores, by navigating
    from its own tree (or by allocating) is local: it leaves every other allocated cell alone and
    whatever it reaches afterwards it reached before or has allocated.  (`Heap.Op`: store a scalar,
    store reference fields / slice elements, allocate; operands = paths of reference fields from
    the root of the edited tree, or cells allocated by the edit; the program may depend on the
    whole heap.)  `Model/C15HeapEdits.lean` lists the Go statements of the edit operations in
    this form. -/
theorem heap_edit_local (r : Heap.Addr) (prog : Heap.H → List Heap.Op) :
    Heap.Local r (Heap.runProg r prog) ∧ Heap.KeepsAlloc r (Heap.runProg r prog) :=
  Heap.runProg_local r prog

/-- the anchored operations themselves, written statement by statement as heap programs
    (`Model/C15HeapEdits.lean`; the driver runs them on the real pointer graph and compares with the
    graph after the real call): each is local to the frame it navigates from — the receiver and its
    argument — so none of them can change a tree that shares no cell with them -/
theorem anchored_ops_local (f : Heap.Addr) :
    (∀ parN kn idx tr kt, Heap.Local f (Heap.runProg f (Heap.graftProg parN kn idx tr kt))) ∧
    Heap.Local f (Heap.runProg f Heap.mergeProg) ∧
    (∀ parN kn, Heap.Local f (Heap.runProg f (Heap.insertZeroProg parN kn))) ∧
    (∀ parN kn idx, Heap.Local f (Heap.runProg f (Heap.insertCherryProg parN kn idx))) ∧
    (∀ (t : T) P b, ∀ p ∈ Heap.rsProgs t P b, Heap.Local f (Heap.runProg f p)) ∧
    (∀ slots, ∀ p ∈ Heap.rerootProgs slots, Heap.Local f (Heap.runProg f p)) :=
  ⟨fun _ _ _ _ _ => (Heap.runProg_local f _).1, (Heap.runProg_local f _).1, fun _ _ => (Heap.runProg_local f _).1,
   fun _ _ _ => (Heap.runProg_local f _).1, fun _ _ _ _ _ => (Heap.runProg_local f _).1,
   fun _ _ _ => (Heap.runProg_local f _).1⟩

/-! ## Clone -/

/-- ★ a clone is the source with every parent position reset (the copy is built parent-first);
    for any table that copies the observable fields -/
theorem cloneBy_eq (tb : Table) (h : allObservableFieldsCopied tb = true) (t : T) : cloneBy tb t = zeroPpos t :=
  copyRecBy_eq h t

/-- `UpdateTipIndex` on unique tip names: ids = positions in the sorted tip names, no error -/
theorem tipIndex_unique (t : T) (h : t.tipNames.Nodup) : tipIndex t = (sortN t.tipNames, true) :=
  tipIndex_of_nodup t h

/-! ## Merge -/

/-- ★ merging two rooted trees under a new root: path lengths inside the first tree unchanged -/
theorem merge_dist (i1 i2 : Bool) (t t2 t' : T) (h : merge i1 i2 t t2 = .ok t') (a b : String)
    (ha : a ∈ t.tipNames) (hb : b ∈ t.tipNames) : t'.dist a b = t.dist a b :=
  merge_dist_left h a b ha hb

/-- ★ … and inside the second tree -/
theorem merge_dist_second (i1 i2 : Bool) (t t2 t' : T) (h : merge i1 i2 t t2 = .ok t') (a b : String)
    (ha : a ∈ t2.tipNames) (hb : b ∈ t2.tipNames) : t'.dist a b = t2.dist a b :=
  merge_dist_right h a b ha hb

/-- … and a tip of the first and a tip of the second tree are joined through the two old roots
    (the two new root branches carry no length) -/
theorem merge_dist_cross (i1 i2 : Bool) (t t2 t' : T) (h : merge i1 i2 t t2 = .ok t') (a b : String)
    (ha : a ∈ t.tipNames) (hb : b ∈ t2.tipNames) : t'.dist a b = t.rootDist a + t2.rootDist b := by
  obtain ⟨hr, hr2, hd, rfl⟩ := merge_ok h
  have hdj := merge_disjoint hr hr2 hd
  rw [T.tipNames_of_rooted hr] at ha
  rw [T.tipNames_of_rooted hr2] at hb
  have hblank : EdgeD.lenOr0 EdgeD.blank = 0 := by decide
  simp only [dist_def, T.kids_node, splitsL, T.splitsBelow_node, List.append_nil]
  rw [distW_cons, distW_append, distW_cons, hblank,
    distW_right_out _ (splitsL t.kids) a b (out_of_subL _ _ fun h0 => hdj b h0 hb),
    distW_left_out _ (splitsL t2.kids) a b (out_of_subL _ _ (hdj a ha))]
  simp only [ite_self, Rat.zero_add]
  rfl

/-- ★ the tips of the merged tree are those of the two trees, in that order; a successful merge
    implies both trees were rooted and shared no tip name -/
theorem merge_tips (i1 i2 : Bool) (t t2 t' : T) (h : merge i1 i2 t t2 = .ok t') :
    t'.tipNames = t.tipNames ++ t2.tipNames ∧ t.rooted = true ∧ t2.rooted = true ∧
    (∀ x ∈ t.tipNames, x ∉ t2.tipNames) ∧ t'.rooted = true := by
  obtain ⟨hr, hr2, hd, ht'⟩ := merge_ok h
  refine ⟨merge_tipNames h, hr, hr2, fun x hx hx2 => ?_, by rw [ht']; rfl⟩
  have := List.any_eq_false.mp hd x hx
  simp [hx2] at this

/-- the branch data of both trees are untouched and in place: the branches of the merged tree are
    the two new (empty) root branches followed by the branches of the first resp. second tree -/
theorem merge_edges (i1 i2 : Bool) (t t2 t' : T) (h : merge i1 i2 t t2 = .ok t') :
    t'.edges = EdgeD.blank :: (t.edges ++ EdgeD.blank :: t2.edges) := by
  obtain ⟨_, _, _, rfl⟩ := merge_ok h
  simp [T.edges, T.splits, splitsL]

/-- the model's merge meets the Spec used as oracle (incl. "under a new root": the root has two
    children, carrying the two trees) -/
theorem mergeOK_holds (i1 i2 : Bool) (t t2 t' : T) (h : merge i1 i2 t t2 = .ok t') : mergeOK t t2 t' = true := by
  have htips := merge_tipNames h
  have hl := fun a ha b hb => (merge_dist_left h a b ha hb).symm
  have hr := fun a ha b hb => (merge_dist_right h a b ha hb).symm
  obtain ⟨hr1, hr2, _, rfl⟩ := merge_ok h
  simp only [mergeOK, Bool.and_eq_true, T.kids_node]
  refine ⟨⟨⟨sameNames_of_perm (by rw [htips]), distAgree_of hl⟩, distAgree_of hr⟩, ?_⟩
  simp only [Bool.or_eq_true, Bool.and_eq_true]
  left
  rw [T.leaves_node_ne _ _ (rooted_kids_ne hr1), T.leaves_node_ne _ _ (rooted_kids_ne hr2),
    T.tipNames_of_rooted hr1, T.tipNames_of_rooted hr2]
  exact ⟨sameNames_of_perm (List.Perm.refl _), sameNames_of_perm (List.Perm.refl _)⟩

/-- merge is refused when a tip name is shared -/
theorem merge_common_err (t t2 : T) (x : String) (hx : x ∈ t.tipNames) (hx2 : x ∈ t2.tipNames) :
    ∀ t', merge true true t t2 ≠ .ok t' := by
  intro t' h
  exact (merge_tips _ _ _ _ _ h).2.2.2.1 x hx hx2

/-! ## GraftTreeOnTip -/

/-- ★ grafting a tree in place of a tip: path lengths between the other tips of the host unchanged
    (`a`, `b` any names other than the replaced tip and the leaves of the graft) -/
theorem graft_dist (idx : Bool) (t g t' : T) (tip : String) (h : graft idx t tip g = .ok t') (a b : String)
    (ha : a ≠ tip) (hb : b ≠ tip) (hag : a ∉ graftLeaves g) (hbg : b ∉ graftLeaves g) :
    t'.dist a b = t.dist a b := by
  obtain ⟨_, k', hk, rfl⟩ := graft_ok h
  exact (graftKids_splits t.kids k' hk).2.dist_out EdgeD.lenOr0 ha hb hag hbg

/-- ★ … and path lengths between two leaves of the graft are those inside the graft
    (names of the graft not used by the host) -/
theorem graft_dist_inside (idx : Bool) (t g t' : T) (tip : String) (h : graft idx t tip g = .ok t') (a b : String)
    (ha : a ∈ graftLeaves g) (hb : b ∈ graftLeaves g) (hat : a ∉ t.tipNames) (hbt : b ∉ t.tipNames) :
    t'.dist a b = g.dist a b := by
  obtain ⟨_, k', hk, rfl⟩ := graft_ok h
  simpa [dist_def, asGraft] using (graftKids_splits t.kids k' hk).2.dist_in EdgeD.lenOr0 ha hb
    (out_of_subL _ _ fun h => hat (T.leavesL_sublist_tipNames _ |>.subset h)) (out_of_subL _ _ fun h => hbt (T.leavesL_sublist_tipNames _ |>.subset h))

/-- ★ the tips after the graft: the old ones minus the replaced tip, plus the leaves of the graft -/
theorem graft_tips (idx : Bool) (t g t' : T) (tip : String) (h : graft idx t tip g = .ok t') :
    t'.tipNames.Perm (t.tipNames.erase tip ++ graftLeaves g) :=
  graft_tipNames h

/-- ★ a tip of the host and a leaf of the graft are joined through the branch of the replaced tip
    and the root of the graft -/
theorem graft_dist_cross (idx : Bool) (t g t' : T) (tip : String) (h : graft idx t tip g = .ok t')
    (hu : t.tipNames.Nodup) (a b : String) (hat : a ≠ tip) (hag : a ∉ graftLeaves g)
    (hb : b ∈ graftLeaves g) (hbt : b ∉ t.tipNames) : t'.dist a b = t.dist a tip + g.rootDist b := by
  obtain ⟨_, k', hk, rfl⟩ := graft_ok h
  simpa [dist_def, asGraft, rootDist_eq, T.splits] using (graftKids_splits t.kids k' hk).2.dist_cross EdgeD.lenOr0
    (T.nodup_leavesL_of_tipNames hu) hat hag hb (out_of_subL _ _ fun h => hbt (T.leavesL_sublist_tipNames _ |>.subset h))

theorem mem_graftLeaves_of_kids {g : T} {a : String} (h : a ∈ leavesL g.kids) : a ∈ graftLeaves g := by
  have hne : g.kids ≠ [] := by intro h0; simp [h0, leavesL] at h
  simpa [graftLeaves, asGraft, T.leaves_node_ne _ _ hne] using h

/-- the model's graft meets the Spec used as oracle (unique host tips, graft names new to the host) -/
theorem graftOK_holds (idx : Bool) (t g t' : T) (tip : String) (h : graft idx t tip g = .ok t')
    (hu : t.tipNames.Nodup) (hdis : ∀ x ∈ graftLeaves g, x ∉ t.tipNames) : graftOK t tip g t' = true := by
  have hhost : ∀ a ∈ t.tipNames.erase tip, a ≠ tip ∧ a ∉ graftLeaves g := fun a ha => by
    have := (List.Nodup.mem_erase_iff hu).mp ha
    exact ⟨this.1, fun hg => hdis a hg this.2⟩
  simp only [graftOK, Bool.and_eq_true]
  refine ⟨⟨⟨sameNames_of_perm (graft_tips idx t g t' tip h), distAgree_of fun a ha b hb => ?_⟩,
    distAgree_of fun a ha b hb => ?_⟩, ?_⟩
  · exact (graft_dist idx t g t' tip h a b (hhost a ha).1 (hhost b hb).1 (hhost a ha).2 (hhost b hb).2).symm
  · have ha' := mem_graftLeaves_of_kids ha
    have hb' := mem_graftLeaves_of_kids hb
    exact (graft_dist_inside idx t g t' tip h a b ha' hb' (hdis a ha') (hdis b hb')).symm
  · simp only [List.all_eq_true, beq_iff_eq]
    intro a ha b hb
    have hb' := mem_graftLeaves_of_kids hb
    exact graft_dist_cross idx t g t' tip h hu a b (hhost a ha).1 (hhost a ha).2 hb' (hdis b hb')

/-- the branch data (length, support, p-value, comments, id) of host and graft are untouched: the
    branches after the graft are those of the host (the tip's branch now carries the graft) and
    those of the graft -/
theorem graft_edges (idx : Bool) (t g t' : T) (tip : String) (h : graft idx t tip g = .ok t') :
    t'.edges.Perm (t.edges ++ g.edges) := by
  obtain ⟨_, k', hk, rfl⟩ := graft_ok h
  simpa [edges_def, edgesL, asGraft] using (graftKids_splits t.kids k' hk).2.edges

/-- the graft is refused when the tip is absent -/
theorem graft_absent_err (idx : Bool) (t g : T) (tip : String) (h : tip ∉ t.tipNames) :
    ∀ t', graft idx t tip g ≠ .ok t' := by
  intro t' h'
  obtain ⟨_, k', hk, _⟩ := graft_ok h'
  exact h ((T.leavesL_sublist_tipNames _).subset (graftKids_tip_mem _ _ hk))

/-! ## InsertIdenticalTip(s) -/

def okTips : Except String T → List String
  | .ok t => t.tipNames
  | .error _ => []

/-- ★ one `InsertIdenticalTip(old, new)`: path lengths between all other names unchanged; the new tip
    is exactly as far from everything as the tip it was put next to — in particular at distance 0
    from it —; the tips are the old ones plus the new name.
    Hypotheses: unique tip names, the tip index holds them. -/
theorem insertIdenticalTip_dist (t t' : T) (tips : List String) (old new : String)
    (h : insertOne t tips old new = .ok t') (hu : t.tipNames.Nodup) (hsub : ∀ x ∈ t.tipNames, x ∈ tips) :
    (∀ a b, a ≠ new → b ≠ new → t'.dist a b = t.dist a b) ∧
    (∀ x, x ≠ new → t'.dist new x = t.dist old x) ∧ t'.dist new old = 0 ∧
    t'.tipNames.Perm (new :: t.tipNames) ∧ old ∈ t.tipNames := by
  have st := insertOne_step h hu hsub
  have hne : old ≠ new := fun h0 => (insertOne_ok h).1 (hsub _ (h0 ▸ st.old_mem))
  refine ⟨st.out, st.twin, ?_, st.perm, st.old_mem⟩
  rw [st.twin old hne]
  exact distW_self _ _ _

/-- … and the branches are the old ones plus one or two new branches of length 0 -/
theorem insertIdenticalTip_edges (t t' : T) (tips : List String) (old new : String)
    (h : insertOne t tips old new = .ok t') :
    t'.edges.Perm (zeroEdge :: t.edges) ∨ t'.edges.Perm (zeroEdge :: zeroEdge :: t.edges) := by
  obtain ⟨_, k', hk, rfl⟩ := insertOne_ok h
  simpa [edges_def, edgesL] using (insKids_splits t.kids k' hk).2.edges

theorem insert_inv (t t' : T) (groups : List (List String))
    (h : insertIdentical true t groups = (t', none)) (hu : t.tipNames.Nodup)
    (hne : ∀ g ∈ groups, "" ∉ g) : ∃ tips', Inv t t' tips' groups.flatten groups := by
  have := insertGroups_inv groups [] t t.tipNames t' (Inv.start hu _) hne
    (fun g hg x hx => List.mem_flatten.mpr ⟨g, hg, hx⟩) (by simpa using insertIdentical_ok h)
  simpa using this

/-- ★ `InsertIdenticalTips(groups)`, when it succeeds: every path length between pre-existing tips
    is unchanged (unique tip names, no empty name in a group) -/
theorem insertIdentical_dist (t t' : T) (groups : List (List String))
    (h : insertIdentical true t groups = (t', none)) (hu : t.tipNames.Nodup)
    (hne : ∀ g ∈ groups, "" ∉ g) (a b : String) (ha : a ∈ t.tipNames) (hb : b ∈ t.tipNames) :
    t'.dist a b = t.dist a b := by
  obtain ⟨_, hI⟩ := insert_inv t t' groups h hu hne
  exact hI.keep a ha b hb

/-- ★ … all members of a group (the existing tip and the new ones) are at distance 0 from each other -/
theorem insertIdentical_zero (t t' : T) (groups : List (List String))
    (h : insertIdentical true t groups = (t', none)) (hu : t.tipNames.Nodup)
    (hne : ∀ g ∈ groups, "" ∉ g) (g : List String) (hg : g ∈ groups) (x y : String) (hx : x ∈ g) (hy : y ∈ g) :
    t'.dist x y = 0 := by
  obtain ⟨_, hI⟩ := insert_inv t t' groups h hu hne
  exact (hI.zero g hg x hx y hy).1

/-- ★ … and the tips afterwards are exactly the old tips and the names of the groups, each once -/
theorem insertIdentical_tips (t t' : T) (groups : List (List String))
    (h : insertIdentical true t groups = (t', none)) (hu : t.tipNames.Nodup)
    (hne : ∀ g ∈ groups, "" ∉ g) :
    t'.tipNames.Nodup ∧ ∀ x, x ∈ t'.tipNames ↔ (x ∈ t.tipNames ∨ x ∈ groups.flatten) := by
  obtain ⟨_, hI⟩ := insert_inv t t' groups h hu hne
  refine ⟨hI.nodup, fun x => ⟨hI.only x, fun hx => ?_⟩⟩
  rcases hx with hx | hx
  · exact hI.sub x hx
  · obtain ⟨g, hg, hxg⟩ := List.mem_flatten.mp hx
    exact (hI.zero g hg x hxg x hxg).2

/-- … also when the call FAILS half-way (the insertions made before the failing group stay in the
    tree): no path length between pre-existing tips has moved, every pre-existing tip is still there,
    tip names are still unique -/
theorem insertIdentical_dist_always (t t' : T) (groups : List (List String)) (r : Option String)
    (h : insertIdentical true t groups = (t', r)) (hu : t.tipNames.Nodup) (hne : ∀ g ∈ groups, "" ∉ g) :
    (∀ a ∈ t.tipNames, ∀ b ∈ t.tipNames, t'.dist a b = t.dist a b) ∧ (∀ a ∈ t.tipNames, a ∈ t'.tipNames) ∧
    t'.tipNames.Nodup := by
  unfold insertIdentical at h
  split at h
  · injection h with h1 _
    subst h1
    exact ⟨fun _ _ _ _ => rfl, fun _ ha => ha, hu⟩
  · obtain ⟨_, _, hI, _⟩ := insertGroups_spec groups [] t t.tipNames t' r (Inv.start hu _) hne
      (fun g hg x hx => List.mem_flatten.mpr ⟨g, hg, hx⟩) (by simpa using h)
    exact ⟨hI.keep, hI.sub, hI.nodup⟩

/-- "one existing member each": a (first) group with no member, or with more than one member, among
    the tips is refused, and the tree is left as it was -/
theorem insertIdentical_refused (t : T) (g : List String) (gs : List (List String))
    (hne : "" ∉ g) (h : existing t.tipNames g ≠ 1) :
    (insertIdentical true t (g :: gs)).1 = t ∧ (insertIdentical true t (g :: gs)).2 ≠ none := by
  unfold insertIdentical
  split
  · exact ⟨rfl, by simp⟩
  · have := insertGroups_refuse t t.tipNames g gs hne h
    simp only [if_true]
    exact ⟨by rw [this.1], this.2⟩

/-- `((a,b)S,(c,d)S,e);` — the witness of the open finding F79 -/
def witnessF79 : T :=
  .node ⟨"", []⟩ 0 [
    (⟨1, NIL, NIL, [], 0⟩, .node ⟨"S", []⟩ 0 [(⟨1, NIL, NIL, [], 1⟩, T.leaf "a"), (⟨1, NIL, NIL, [], 2⟩, T.leaf "b")]),
    (⟨1, NIL, NIL, [], 3⟩, .node ⟨"S", []⟩ 0 [(⟨1, NIL, NIL, [], 4⟩, T.leaf "c"), (⟨1, NIL, NIL, [], 5⟩, T.leaf "d")]),
    (⟨1, NIL, NIL, [], 6⟩, T.leaf "e")]

/-- F79 (open, class `InsertIdenticalDuplicateInnerLabels`), negative theorem on the witness: the tips are
    pairwise different, the group `[a, n]` has exactly one existing member and the insertion itself goes
    through (`groupsAcceptable`), yet the model — as the code, because of `NewNodeIndex` over ALL named
    nodes — refuses and leaves the tree as it was -/
theorem insertIdentical_duplicate_inner_labels_refused :
    witnessF79.tipNames.Nodup ∧ dupInnerLabels witnessF79 = true ∧
    groupsAcceptable witnessF79 [["a", "n"]] = true ∧
    (insertIdentical true witnessF79 [["a", "n"]]).2 ≠ none ∧
    (insertIdentical true witnessF79 [["a", "n"]]).1.tipNames = witnessF79.tipNames := by
  decide +kernel

/-- PARTIAL (F79): acceptable groups are accepted by the model only outside the excluded region —
    when no two named nodes of the host (inner nodes included) share a label; there
    `InsertIdenticalTips` is the insertion procedure itself -/
theorem insertIdentical_accepts_partial (t : T) (groups : List (List String))
    (hl : hasDup (t.nodeNames.filter (· != "")) = false) (ha : groupsAcceptable t groups = true) :
    (insertIdentical true t groups).2 = none := by
  unfold insertIdentical
  simp only [hl, Bool.false_eq_true, if_false, if_true]
  simpa [groupsAcceptable] using ha

/-- the model's result meets the Spec used as oracle -/
theorem insertOK_holds (t t' : T) (groups : List (List String))
    (h : insertIdentical true t groups = (t', none)) (hu : t.tipNames.Nodup)
    (hne : ∀ g ∈ groups, "" ∉ g) : insertOK t groups t' = true := by
  obtain ⟨_, hI⟩ := insert_inv t t' groups h hu hne
  simp only [insertOK, Bool.and_eq_true]
  refine ⟨⟨?_, distAgree_of fun a ha b hb => (hI.keep a ha b hb).symm⟩, ?_⟩
  · apply sameNames_of_perm
    have hn : (t.tipNames ++ newNames t.tipNames groups).Nodup := by
      rw [List.nodup_append]
      refine ⟨hu, dedupS_nodup _, fun a ha b hb hab => ?_⟩
      subst hab
      exact ((mem_newNames _ _ a).mp hb).2 ha
    rw [List.perm_ext_iff_of_nodup hI.nodup hn]
    intro x
    constructor
    · intro hx
      by_cases hxt : x ∈ t.tipNames
      · exact List.mem_append_left _ hxt
      · exact List.mem_append_right _ ((mem_newNames _ _ x).mpr ⟨(hI.only x hx).resolve_left hxt, hxt⟩)
    · intro hx
      rcases List.mem_append.mp hx with hx | hx
      · exact hI.sub x hx
      · obtain ⟨g, hg, hxg⟩ := List.mem_flatten.mp ((mem_newNames _ _ x).mp hx).1
        exact (hI.zero g hg x hxg x hxg).2
  · simp only [List.all_eq_true, beq_iff_eq]
    intro g hg a ha b hb
    exact (hI.zero g hg a ha b hb).1

/-- `(a:0)r;` — the two-node tree: a root that is a tip above one leaf with a zero-length branch -/
def witnessTwoNode : T := .node ⟨"r", []⟩ 0 [(⟨0, NIL, NIL, [], 0⟩, T.leaf "a")]

/-- pinned variant (before e4eb1d8, found by this check): the zero-length rule applied below a root
    that is a tip hangs the new tip on the root, and the root `r` is no longer a tip; the current
    rule builds the cherry and keeps it -/
theorem insert_pinned_fails :
    witnessTwoNode.tipNames = ["r", "a"] ∧
    okTips (insertOnePinned witnessTwoNode ["r", "a"] "a" "n") = ["a", "n"] ∧
    okTips (insertOne witnessTwoNode ["r", "a"] "a" "n") = ["r", "n", "a"] ∧
    (insertIdentical true witnessTwoNode [["a", "n"]]).1.tipNames = ["r", "n", "a"] := by
  decide +kernel

/-! ## command-line glue -/

/-- what `gotree graft` does (cmd/graft.go:67 drops the error of `GraftTreeOnTip`): with a tip name
    the host does not have, the host is printed unchanged (and the exit status is 0 — checked by the
    CLI tier against `cliGraft`) -/
theorem cliGraft_absent_tip (host g : T) (tip : String) (h : tip ∉ host.tipNames) : cliGraft host tip g = host := by
  unfold cliGraft
  cases hg : graft true host tip g with
  | ok t => exact absurd hg (graft_absent_err true host g tip h t)
  | error m => rfl

/-- … and otherwise prints the grafted tree, to which all the `graft_*` theorems apply -/
theorem cliGraft_ok (host g t' : T) (tip : String) (h : graft true host tip g = .ok t') : cliGraft host tip g = t' := by
  simp [cliGraft, h]

/-- `gotree merge` prints a tree exactly when `Merge` accepts, and then that tree -/
theorem cliMerge_spec (a b : T) : (cliMerge a b = none ↔ ∀ t', merge true true a b ≠ .ok t') ∧
    ∀ t', cliMerge a b = some t' ↔ merge true true a b = .ok t' := by
  unfold cliMerge
  cases h : merge true true a b with
  | ok t => simp
  | error m => simp

/-! ## RemoveSingleNodes -/

/-- ★ removing the single-child nodes leaves every path length unchanged
    (branch lengths absent or ≥ 0) -/
theorem removeSingle_dist (t : T) (h : lengthsOK t = true) (a b : String) :
    (removeSingle t).dist a b = t.dist a b := by
  have h2 := (lengthsOK_iff _).mp (removeSingle_lengthsOK t h)
  rw [lengthsOK_iff] at h
  simp only [T.dist]
  rw [distW_congr EdgeD.lenOr0 wPos a b _ (fun s hs => lenOr0_eq_wPos _ (h2 s hs)),
    distW_congr EdgeD.lenOr0 wPos a b _ (fun s hs => lenOr0_eq_wPos _ (h s hs))]
  exact (removeSingle_fuses t).distW wPos_fuse a b

/-- ★ … keeps the tips -/
theorem removeSingle_tips (t : T) : (removeSingle t).tipNames.Perm t.tipNames := removeSingle_tips' t

/-- ★ … and leaves no single-child inner node (chains included); admissible lengths stay admissible -/
theorem removeSingle_noSingle (t : T) :
    (removeSingle t).noSingle = true ∧ (lengthsOK t = true → lengthsOK (removeSingle t) = true) :=
  ⟨removeSingle_noSingle' t, removeSingle_lengthsOK t⟩

/-- … keeps the tip ids (the tip index is not rebuilt, and need not be) -/
theorem removeSingle_tipIndex (t : T) : tipIndex (removeSingle t) = tipIndex t :=
  tipIndex_congr (removeSingle_tips' t)

/-- … and changes nothing at all when there is no single-child node -/
theorem removeSingle_id (t : T) (h : t.noSingle = true) : removeSingle t = t := removeSingleBy_id _ t h

/-- … hence is idempotent -/
theorem removeSingle_idem (t : T) : removeSingle (removeSingle t) = removeSingle t :=
  removeSingle_id _ (removeSingle_noSingle' t)

/-- … and keeps the unrooted split map (`Spec/Splits.lean`): every split with its length and its
    support — the two branches around a removed node are fused as the Spec fuses two entries with the
    same side (lengths add, absent only if both are; support = the larger, absent = -1).  This is the
    observation the driver adds to `obs_C15` for this operation. -/
theorem removeSingle_usplits (t : T) (h : lengthsOK t = true) :
    (removeSingle t).usplits.Perm t.usplits ∧ (removeSingle t).usplitsAll.Perm t.usplitsAll :=
  have hall : (removeSingle t).usplitsAll.Perm t.usplitsAll :=
    usplitsAll_perm_of_ufold (removeSingle_tips' t)
      (((removeSingle_fuses t).ueqv t.tipNames ((lengthsOK_iff t).mp h)).eq [] (fun _ h => nomatch h) (by simp [SidesNodup]))
  ⟨usplits_perm_of (removeSingle_tips' t) hall, hall⟩

/-- the model's result meets the Spec used as oracle -/
theorem removeSingleOK_holds (t : T) (h : lengthsOK t = true) : removeSingleOK t (removeSingle t) = true := by
  simp only [removeSingleOK, Bool.and_eq_true]
  exact ⟨⟨sameNames_of_perm (removeSingle_tips' t), distAgree_of fun a _ b _ => (removeSingle_dist t h a b).symm⟩,
    removeSingle_noSingle' t⟩

/-- `((a:1,b:1):2,((c:1,d:1)):3);` — the witness of F37 -/
def witnessF37 : T :=
  .node ⟨"", []⟩ 0 [
    (⟨2, NIL, NIL, [], 0⟩, .node ⟨"", []⟩ 0 [(⟨1, NIL, NIL, [], 1⟩, T.leaf "a"), (⟨1, NIL, NIL, [], 2⟩, T.leaf "b")]),
    (⟨3, NIL, NIL, [], 3⟩, .node ⟨"", []⟩ 0 [
      (⟨NIL, NIL, NIL, [], 4⟩, .node ⟨"", []⟩ 0 [(⟨1, NIL, NIL, [], 5⟩, T.leaf "c"), (⟨1, NIL, NIL, [], 6⟩, T.leaf "d")])])]

/-- pinned variant (F37, before 7b2ddfc): the length rule that needs BOTH lengths loses the 3 -/
theorem removeSingle_pinned_fails :
    witnessF37.dist "a" "c" = 7 ∧ (removeSinglePinned witnessF37).dist "a" "c" = 4 ∧
    (removeSingle witnessF37).dist "a" "c" = 7 := by
  decide +kernel

/-! ### the hypotheses are satisfiable on non-trivial trees -/

example : lengthsOK witnessF37 = true ∧ witnessF37.noSingle = false ∧ witnessF37.tipNames.Nodup := by decide +kernel
def exXY : T := .node ⟨"", []⟩ 0 [(⟨1, NIL, NIL, [], 0⟩, T.leaf "x"), (⟨2, NIL, NIL, [], 1⟩, T.leaf "y")]

/-! ## the commands on their whole input: group file as text, the states of `-g`, several trees -/

/-- the group file format is faithful: groups of clean names (no ",", no end-of-line character), none of
    them empty, written one per line are read back by the model of `readIdenticalGroupFile` as they were -/
theorem readGroupFile_render (gs : List (List String)) (hne : ∀ g ∈ gs, g ≠ [])
    (hc : ∀ g ∈ gs, ∀ n ∈ g, cleanName n = true) : readGroupFile (renderGroups gs) = gs := by
  unfold readGroupFile readGroupFileBy renderGroups
  show List.map _ (readLines _) = gs
  rw [String.toList_ofList]
  have e : (gs.flatMap fun g => joinC ',' (g.map String.toList) ++ ['\n']) =
      ((gs.map fun g => joinC ',' (g.map String.toList)).flatMap fun l => l ++ ['\n']) := by
    simp [List.flatMap_map]
  rw [e, readLines_terminated]
  · rw [List.map_map]
    conv => rhs; rw [← List.map_id gs]
    apply List.map_congr_left
    intro g hg
    simp only [Function.comp, id]
    rw [splitC_joinC]
    · simp [List.map_map, Function.comp_def, String.ofList_toList]
    · simpa using hne g hg
    · intro i hi
      simp only [List.mem_map] at hi
      obtain ⟨n, hn, rfl⟩ := hi
      exact (cleanName_spec (hc g hg n hn)).1
  · intro l hl
    simp only [List.mem_map] at hl
    obtain ⟨g, hg, rfl⟩ := hl
    have hclean : ∀ i ∈ g.map String.toList, '\n' ∉ i ∧ '\r' ∉ i := fun i hi => by
      obtain ⟨n, hn, rfl⟩ := List.mem_map.mp hi
      exact (cleanName_spec (hc g hg n hn)).2
    exact ⟨joinC_not_mem _ _ _ (by decide) fun i hi => (hclean i hi).1,
      joinC_not_mem _ _ _ (by decide) fun i hi => (hclean i hi).2⟩

/-- the other spellings of the same file (CRLF, no final newline), the blank line that becomes the group
    `[""]` (refused later: "" is no tip), the empty file, a line with a single name -/
theorem readGroupFile_variants :
    readGroupFile "a,b\r\nc,d\r\n" = [["a", "b"], ["c", "d"]] ∧
    readGroupFile "a,b\nc,d" = [["a", "b"], ["c", "d"]] ∧
    readGroupFile "a,b\n\n" = [["a", "b"], [""]] ∧
    readGroupFile "" = [] ∧ readGroupFile "a\n" = [["a"]] ∧
    readGroupFile "a,b\r" = [["a", "b\r"]] := by decide +kernel

/-- F99 (repaired by /repo 34f70d2), pinned variant: an unterminated last line that fills the
    4096-byte buffer of `bufio.Reader` exactly (length k·4096, k ≥ 1) was LOST (`fileutils.Readln` returned it
    together with `io.EOF`); the code as it is now (`readLinesBy false`) delivers it, as it delivers any other
    non-empty unterminated last line -/
theorem readLines_unterminated_full_dropped (l : List Char) (h : '\n' ∉ l) (hne : l ≠ [])
    (hm : l.length % 4096 = 0) : readLinesBy true l = [] ∧ readLinesBy false l = [l] := by
  constructor
  · rw [readLinesBy_unterminated true l h hne]; simp [bufSize, hm]
  · rw [readLinesBy_unterminated false l h hne]; simp

theorem readLines_unterminated_kept (d : Bool) (l : List Char) (h : '\n' ∉ l) (hne : l ≠ [])
    (hm : l.length % 4096 ≠ 0) : readLinesBy d l = [l] := by
  rw [readLinesBy_unterminated d l h hne]; simp [bufSize, hm]

/-- … on a concrete witness: the group file `a,n` followed by 4093 `x` (4096 bytes, no final newline) yielded NO
    group with the pinned reader — `gotree repopulate` printed the trees unchanged with exit 0 — and yields its
    one group now (corpus/C15-readln-buffer-multiple.txt) -/
theorem readGroupFile_pinned_fails :
    readGroupFileBy true (String.ofList ("a,n".toList ++ List.replicate 4093 'x')) = [] ∧
    readGroupFile (String.ofList ("a,n".toList ++ List.replicate 4093 'x')) =
      [["a", String.ofList ('n' :: List.replicate 4093 'x')]] := by
  have hw := readLines_unterminated_full_dropped ("a,n".toList ++ List.replicate 4093 'x')
      (by intro hm
          rcases List.mem_append.1 hm with h | h
          · revert h; decide
          · exact absurd (List.eq_of_mem_replicate h) (by decide))
      (List.append_ne_nil_of_left_ne_nil (by decide) _)
      (by rw [List.length_append, List.length_replicate]; rfl)
  constructor
  · unfold readGroupFileBy
    rw [String.toList_ofList, hw.1]
    rfl
  · unfold readGroupFile readGroupFileBy
    rw [String.toList_ofList, hw.2]
    have hs : splitC ',' ("a,n".toList ++ List.replicate 4093 'x') = [['a'], 'n' :: List.replicate 4093 'x'] := by
      show splitC ',' (['a'] ++ ',' :: ('n' :: List.replicate 4093 'x')) = _
      rw [splitC_append _ _ _ (by decide), splitC_of_not_mem]
      intro hm
      rcases List.mem_cons.1 hm with h | h
      · exact absurd h (by decide)
      · exact absurd (List.eq_of_mem_replicate h) (by decide)
    simp only [List.map_cons, List.map_nil, hs]

/-- `-g` not given: error exit, nothing printed -/
theorem cliRepopulateFile_absent (ts : List T) : cliRepopulateFile .absent ts = ([], false) := rfl

/-- the trees printed are a prefix of the input; exit 0 exactly when every tree was printed … -/
theorem cliRepopulateFile_prefix (ga : GroupArg) (ts : List T) :
    (cliRepopulateFile ga ts).1.length ≤ ts.length ∧
    ((cliRepopulateFile ga ts).2 = true → (cliRepopulateFile ga ts).1.length = ts.length) := by
  unfold cliRepopulateFile
  cases groupsOf ga with
  | none => simp
  | some gs => exact repopulateLoop_length gs ts

/-- … and then EVERY tree of the input (not only the first) got exactly the requested tips, at distance 0
    from their models, with all other path lengths unchanged (`insertOK`, the Spec used as oracle) -/
theorem cliRepopulateFile_ok (txt : String) (ts outs : List T)
    (h : cliRepopulateFile (.file txt) ts = (outs, true))
    (hu : ∀ t ∈ ts, t.tipNames.Nodup) (hne : ∀ g ∈ readGroupFile txt, "" ∉ g) :
    outs.length = ts.length ∧ ∀ p ∈ ts.zip outs, insertOK p.1 (readGroupFile txt) p.2 = true := by
  obtain ⟨hl, hz⟩ := repopulateLoop_ok (readGroupFile txt) ts outs h
  refine ⟨hl, fun p hp => ?_⟩
  exact insertOK_holds p.1 p.2 _ (hz p hp) (hu p.1 (List.of_mem_zip hp).1) hne

/-- cmd/repopulate.go:57–59 overwrites the error of `readIdenticalGroupFile`: with a group file that cannot
    be opened every tree (unique tip names, no two named nodes with the same label) is printed UNCHANGED
    and the exit status is 0 — a command-line matter outside the property, stated, tied, not judged -/
theorem cliRepopulateFile_missing_silent (ts : List T) (hu : ∀ t ∈ ts, t.tipNames.Nodup)
    (hl : ∀ t ∈ ts, hasDup (t.nodeNames.filter (· != "")) = false) :
    cliRepopulateFile .missing ts = (ts, true) := by
  show repopulateLoop [] ts = (ts, true)
  induction ts with
  | nil => rfl
  | cons t r ih =>
    have h1 : (tipIndex t).2 = true := by rw [tipIndex_unique t (hu t (by simp))]
    have h2 : insertIdentical true t [] = (t, none) := by
      unfold insertIdentical
      simp [hl t (by simp), insertGroups]
    unfold repopulateLoop
    simp only [h1, Bool.not_true, Bool.false_eq_true, if_false, h2]
    rw [ih (fun t ht => hu t (List.mem_cons_of_mem _ ht)) (fun t ht => hl t (List.mem_cons_of_mem _ ht))]

/-- `gotree collapse single` on several trees: one tree printed per input tree, each meeting the Spec -/
theorem cliCollapseSingleAll_spec (ts : List T) (h : ∀ t ∈ ts, lengthsOK t = true) :
    (cliCollapseSingleAll ts).length = ts.length ∧
    ∀ p ∈ ts.zip (cliCollapseSingleAll ts), removeSingleOK p.1 p.2 = true := by
  refine ⟨by simp [cliCollapseSingleAll], ?_⟩
  induction ts with
  | nil => simp [cliCollapseSingleAll]
  | cons t r ih =>
    intro p hp
    simp only [cliCollapseSingleAll, List.map_cons, List.zip_cons_cons, List.mem_cons] at hp
    rcases hp with rfl | hp
    · exact removeSingleOK_holds t (h t (by simp))
    · exact ih (fun t ht => h t (List.mem_cons_of_mem _ ht)) p hp

/-- completeness on the whole input: groups acceptable for EVERY tree of the input (unique tip names, no
    two named nodes with the same label — the region outside F79) are accepted: exit 0, so by
    `cliRepopulateFile_prefix` / `cliRepopulateFile_ok` every tree is printed with the requested tips -/
theorem cliRepopulateFile_accepts (txt : String) (ts : List T) (hu : ∀ t ∈ ts, t.tipNames.Nodup)
    (hl : ∀ t ∈ ts, hasDup (t.nodeNames.filter (· != "")) = false)
    (ha : ∀ t ∈ ts, groupsAcceptable t (readGroupFile txt) = true) :
    (cliRepopulateFile (.file txt) ts).2 = true := by
  show (repopulateLoop (readGroupFile txt) ts).2 = true
  apply repopulateLoop_accepts
  intro t ht
  exact ⟨by rw [tipIndex_unique t (hu t ht)], insertIdentical_accepts_partial t _ (hl t ht) (ha t ht)⟩

example : let ts := [witnessF37, witnessF37]
    (∀ t ∈ ts, t.tipNames.Nodup) ∧ (∀ t ∈ ts, hasDup (t.nodeNames.filter (· != "")) = false) ∧
    (∀ t ∈ ts, groupsAcceptable t (readGroupFile "c,n1,n2\r\nm,a\r\n") = true) ∧
    (∀ g ∈ readGroupFile "c,n1,n2\r\nm,a\r\n", "" ∉ g) := by decide +kernel

end Gotree.C15

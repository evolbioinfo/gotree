/-
  C20 — the theorems that depend on the regenerated source table (`Gotree/Gen/C20Sites.lean`, written by
  harness/c20/extract.go on every run).  They live apart from `Proofs/C20.lean` so that a change of the
  code that breaks a table row leaves the property theorems building; nothing may import this module.
-/
import Gotree.Proofs.C20
import Gotree.Lemmas.C20Table
import Gotree.Gen.C20Sites

namespace Gotree.C20
open Gotree

/-! ## facts about the source, regenerated on every run (`harness/c20/extract.go` → `Gotree/Gen/C20Sites.lean`)

   The model was written by reading cmd/sample.go, cmd/prune.go, tree/tree.go, tree/node.go and
   tree/treegen.go.  What it took from them — which bound every `rand.Intn` has relative to its loop
   counter, the comparison operators of the fill / store tests, the order of the option tests of
   `prune`, which slices are swapped, what is appended to `edges`, the option defaults, the seed
   sentinel — is extracted again from the working tree and re-decided here.  When the decision fails
   the check still runs the fibre enumeration on the real code to look for a concrete biased input. -/

/-- the extracted facts are the ones the model was written from (`tableOK`, Model/C20Table.lean) -/
theorem sourceSitesCheck : tableOK Gotree.Gen.C20.sites Gotree.Gen.C20.options Gotree.Gen.C20.consumers = true := by decide +kernel

/-- what the extracted draw sites MEAN is the model's draw script: the single `Intn` of an iteration of
    each reservoir / rotation loop, read from the source with the counter steps that precede it,
    gives exactly `sampleCmdScript` (both modes), the script of `prune --random` and `rotScript` -/
theorem source_scripts_as_model (k n : Nat) :
    let nr := siteEvs Gotree.Gen.C20.sites "sample.noreplace"
    let rp := siteEvs Gotree.Gen.C20.sites "sample.replace"
    let rt := siteEvs Gotree.Gen.C20.sites "randomTips"
    let rn := siteEvs Gotree.Gen.C20.sites "RotateNeighbors"
    sampleCmdScript k false n = resScript (scriptBound (drawsOf (counterOf nr) nr 0)) k n ∧
    sampleCmdScript k true n
      = (List.range n).flatMap (fun t => List.replicate k (scriptBound (drawsOf (counterOf rp) rp 0) t)) ∧
    (∀ t : T, pruneSelectionScript false false (k + 1) t.tipNames.length
      = resScript (scriptBound (drawsOf (counterOf rt) rt 0)) (k + 1) t.tipNames.length) ∧
    rotScript n = (List.range n).map (scriptBound (drawsOf (counterOf rn) rn 0)) := by
  intro nr rp rt rn
  have h1 : drawsOf (counterOf nr) nr 0 = [("Intn", .counter 1)] := by decide +kernel
  have h2 : drawsOf (counterOf rp) rp 0 = [("Intn", .counter 1)] := by decide +kernel
  have h3 : drawsOf (counterOf rt) rt 0 = [("Intn", .counter 1)] := by decide +kernel
  have h4 : drawsOf (counterOf rn) rn 0 = [("Intn", .counter 1)] := by decide +kernel
  rw [h1, h2, h3, h4, scriptBound_counter]
  refine ⟨?_, ?_, ?_, ?_⟩
  · simp [sampleCmdScript]
  · simp [sampleCmdScript, replScript]
  · intro t; simp [pruneSelectionScript]
  · simp [rotScript]

/-- the draws of RandomUniformBinaryTree in source order, 0 standing for one `gostats.Exp` (one Float64), are the
    model's script: the first iteration and one later iteration -/
theorem source_utree_script :
    let ut := siteEvs Gotree.Gen.C20.sites "RandomUniformBinaryTree"
    (drawsOf "" ut 0).map (fun d => if d.1 == "Intn" then 1 else 0) = [0, 0] ++ [1, 0, 0, 0] ∧
    utreeScript true 3 = [0, 0] ++ [2, 0, 0, 0] ∧ utreeScript false 4 = [0] ++ [1, 0, 0, 0] ++ [3, 0, 0, 0] := by
  decide +kernel

/-- the option defaults of the model (`gotree sample` without `-n`, `gotree prune` without `--random`) are the
    ones registered in the source -/
theorem source_defaults :
    optIs Gotree.Gen.C20.options "cmd/sample.go" "nbtrees" "Int" (toString sampleDefaultN) = true ∧
    optIs Gotree.Gen.C20.options "cmd/prune.go" "random" "Int" (toString pruneDefaultRandom) = true ∧
    (∀ (args : List String) (t : T) (d : List Nat), pruneSelection none none pruneDefaultRandom args t d = args) := by
  refine ⟨by decide +kernel, by decide +kernel, ?_⟩
  intro args t d
  simp [pruneSelection, pruneDefaultRandom]

/-- `Intn(len(edges))`: the appends of the source (one in the first iteration, one more when `rooted`,
    two per grafted tip) give the bounds `2i-3` / `2i-2` of `utreeBounds` -/
theorem source_utree_bounds (rooted : Bool) (n : Nat) :
    utreeBounds rooted n = (List.range' 2 (n - 2)).map fun i =>
      initAppends (siteEvs Gotree.Gen.C20.sites "RandomUniformBinaryTree") rooted
        + graftAppends (siteEvs Gotree.Gen.C20.sites "RandomUniformBinaryTree") * (i - 2) := by
  have h : initAppends (siteEvs Gotree.Gen.C20.sites "RandomUniformBinaryTree") false = 1 ∧
      initAppends (siteEvs Gotree.Gen.C20.sites "RandomUniformBinaryTree") true = 2 ∧
      graftAppends (siteEvs Gotree.Gen.C20.sites "RandomUniformBinaryTree") = 2 := by decide +kernel
  rw [utreeBounds_eq]
  cases rooted <;> simp [h.1, h.2.1, h.2.2]

end Gotree.C20

/-
  C13 — property theorems (every `theorem` here is audited with #print axioms).
  The statements are about the model functions the driver runs against the Go code
  (`readMultiNewick`, `readFirst`, `readMulti`, `Nex.parse`, `Px.decode`, …).
-/
import Gotree.Lemmas.StrLit
import Gotree.Lemmas.C13
import Gotree.Lemmas.C13Px
import Gotree.Lemmas.C13Nex
import Gotree.Lemmas.C13NexTr
import Gotree.Lemmas.C13Ex
import Gotree.Lemmas.C13C01
import Gotree.Lemmas.C13Multi
import Gotree.Lemmas.C13Tips
import Gotree.Lemmas.C13Dec
import Gotree.Lemmas.C13Cli
import Gotree.Lemmas.C13Foreign
import Gotree.Lemmas.C13Std
import Gotree.Lemmas.C13Flags

namespace Gotree.C13
open Gotree

/- ## multi-tree Newick files -/

/-- ★ Structure of the multi-tree reader, for EVERY input text: the records are the parse results of
    the chunks of the file (text up to a ';' ENDING a line — the code's own splitting, `chunks`), in file
    order, with consecutive identifiers from 0; since fix 3850fd2 every tree of a chunk is parsed
    (`chunkGo` inside `deliver`); reading stops at the first text that does not parse, and that error is
    reported with its identifier; text left after the last chunk is reported as an error too.
    So no chunk, and no tree of a chunk, is silently skipped.  (With the reader before 3850fd2 the
    statement held with ONE parse per chunk: "no chunk skipped" said nothing about a second tree on a
    line — `multi_sameline_drops_second`.) -/
theorem multi_no_skip (C : NewickCodec) (doc : Txt) :
    readMultiNewick C doc = deliver C (tail doc) (chunks doc) 0 := by
  unfold readMultiNewick chunks tail
  exact multiGo_eq_deliver C _ [] 0

/-- The whole-line model is exact whatever way `bufio.Reader.ReadLine` cuts over-long lines into
    `isPrefix` chunks: the loop of ReadUntilSemiColon / ReadMultiTrees transcribed on the chunk stream
    (`multiGoC`) gives the records of the model the driver runs, for every chunking of every line. -/
theorem readline_chunking_irrelevant (C : NewickCodec) (doc : Txt) (stream : List (Txt × Bool))
    (h : IsChunkStream (splitLines doc) stream) : multiGoC C stream [] 0 = readMultiNewick C doc :=
  multiGoC_eq C (splitLines doc) stream h [] 0

theorem write_line (C : NewickCodec) (L : NewickLaws C) (t : T) (h : L.wf t = true) :
    oneLine (C.write t) ∧ lastNonBlank (C.write t) = ';' := by
  simpa using writes_line C L [t] (by simp) (by simpa using h)

/-- ★ `multi_delivers_all`: the file made of the Newick texts of well-formed trees, one per line, is
    read back as exactly these trees (as the Newick parser returns them), in order, with identifiers
    0, 1, 2, … -/
theorem multi_delivers_all (C : NewickCodec) (L : NewickLaws C) (ts : List T) (hne : ts ≠ [])
    (h : ∀ t ∈ ts, L.wf t = true) :
    readMultiNewick C (unlines (ts.map C.write)) = recsOfTrees (ts.map L.norm) 0 := by
  have hl : ∀ l ∈ ts.map C.write, oneLine l ∧ lastNonBlank l = ';' := by
    intro l hl
    obtain ⟨t, ht, rfl⟩ := List.mem_map.1 hl
    exact write_line C L t (h t ht)
  rw [readMultiNewick_lines C _ hl]
  apply deliver_ok _ _ _ _ (parse_writes C L ts h)
  · intro c hc
    obtain ⟨t, ht, rfl⟩ := List.mem_map.1 hc
    exact singleTree_write C L t (h t ht)
  · left; simpa using hne

/-- the same in the words of the Spec: every tree is delivered, in file order, with consecutive
    identifiers, equal in shape, names, lengths and supports -/
theorem multi_delivers_all_spec (C : NewickCodec) (L : NewickLaws C) (ts : List T) (hne : ts ≠ [])
    (h : ∀ t ∈ ts, L.wf t = true) :
    recsAre ts (readMultiNewick C (unlines (ts.map C.write))) 0 = true := by
  rw [multi_delivers_all C L ts hne h]
  apply recsAre_recsOfTrees
  rw [List.map_map]
  apply List.map_congr_left
  intro t ht
  exact L.norm_strip t (h t ht)

/-- a broken tree in the middle of the file: the trees before it are delivered, then the error is
    reported with the next identifier (and reading stops) — none is silently skipped -/
theorem multi_error_reported (C : NewickCodec) (L : NewickLaws C) (ts : List T) (bad : Txt) (rest : List Txt)
    (h : ∀ t ∈ ts, L.wf t = true) (hb : oneLine bad ∧ lastNonBlank bad = ';') (hp : C.parse bad = none)
    (hr : ∀ l ∈ rest, oneLine l ∧ lastNonBlank l = ';') :
    readMultiNewick C (unlines (ts.map C.write ++ bad :: rest)) =
      recsOfTrees (ts.map L.norm) 0 ++ [⟨ts.length, .err⟩] := by
  have hl : ∀ l ∈ ts.map C.write ++ bad :: rest, oneLine l ∧ lastNonBlank l = ';' := by
    intro l hl
    rcases List.mem_append.1 hl with h1 | h1
    · obtain ⟨t, ht, rfl⟩ := List.mem_map.1 h1
      exact write_line C L t (h t ht)
    · rcases List.mem_cons.1 h1 with h2 | h2
      · rw [h2]; exact hb
      · exact hr l h2
  rw [readMultiNewick_lines C _ hl]
  have := deliver_err C [] (ts.map C.write) (ts.map L.norm) bad rest 0
    (parse_writes C L ts h)
    (by
      intro c hc
      obtain ⟨t, ht, rfl⟩ := List.mem_map.1 hc
      exact singleTree_write C L t (h t ht)) hp
  simpa using this

/-- F5 (repaired by b11db41) as a theorem about the pinned loop: on a buffer made of blanks only the
    old `for (…) && i >= 0` walked to index -1 (`none` = the index panic, in the reader goroutine);
    the current loop stops at index 0 and answers a blank. -/
theorem blank_only_line_pinned_panics :
    lastNonBlankRevPinned "  \t".toList.reverse = none ∧ lastNonBlank "  \t".toList = ' ' := by decide

/-- The defect repaired by 7ce7b93 as a theorem about the pinned reader: for the file
    `(a:0.5,(b:1,c:0)0.75,d);` followed by an unterminated `(c,d` the pinned loop delivers ONE record
    and nothing about the truncated tree; the current one delivers the tree and then an error record
    with identifier 1. -/
theorem multi_unterminated_pinned_fails :
    (multiGoPinned exCodec (splitLines (exText ++ "\n(c,d".toList)) [] 0).map (fun r => (r.id, r.out.isOk)) = [(0, true)] ∧
    (readMultiNewick exCodec (exText ++ "\n(c,d".toList)).map (fun r => (r.id, r.out.isOk)) = [(0, true), (1, false)] := by
  decide +kernel

/-- `multi_delivers_all` with a free layout: each tree may be preceded by empty and blank-only lines
    and by blanks, cut anywhere into several lines, followed by blanks (`ItemOK`); the last line of the
    file may lack its line end (`final = false`).  Every tree is delivered, in order, identifiers
    0, 1, 2, … (needs the two stream laws of the parser: `NewickStreamLaws`, theorems for C01's model). -/
theorem multi_delivers_all_layout (C : NewickCodec) (L : NewickStreamLaws C) (items : List (T × List Txt))
    (hne : items ≠ []) (hw : ∀ it ∈ items, L.wf it.1 = true) (hi : ∀ it ∈ items, ItemOK C it.1 it.2)
    (doc : Txt)
    (hdoc : doc = unlines (items.flatMap (·.2)) ∨
      ∃ init l, items.flatMap (·.2) = init ++ [l] ∧ l ≠ [] ∧ doc = unlines init ++ l) :
    readMultiNewick C doc = recsOfTrees (items.map fun it => L.norm it.1) 0 := by
  have hlines : ∀ l ∈ items.flatMap (·.2), oneLine l := by
    intro l hl
    obtain ⟨it, hit, hl'⟩ := List.mem_flatMap.1 hl
    exact (hi it hit).oneLine l hl'
  have hsplit : splitLines doc = items.flatMap (·.2) := by
    rcases hdoc with rfl | ⟨init, l, he, hl, rfl⟩
    · exact splitLines_unlines _ hlines
    · rw [he]
      apply splitLines_noFinal init l
      · intro x hx; exact hlines x (by rw [he]; simp [hx])
      · exact (hlines l (by rw [he]; simp)).1
      · exact hl
  obtain ⟨cs, h1, h2, h3, h4⟩ := chunks_items C L.toNewickLaws items hw hi
  rw [multi_no_skip]
  unfold chunks tail
  rw [hsplit, h1, h2]
  apply deliver_ok
  · apply List.ext_getElem
    · simp [h3]
    · intro i hi1 hi2
      have hi' : i < items.length := by simpa [h3] using hi1
      have hc : i < cs.length := by simpa using hi1
      obtain ⟨ws₀, body, bl, hb, hcs, hws, _⟩ := h4 i hi' hc
      simp only [List.getElem_map, hcs]
      exact parse_chunk C L (items[i]).1 (hw _ (List.getElem_mem hi')) ws₀ body bl hb hws
  · intro c hc
    obtain ⟨i, hi1, rfl⟩ := List.getElem_of_mem hc
    have hi' : i < items.length := by simpa [h3] using hi1
    obtain ⟨ws₀, body, bl, hb, hcs, hws, hbl⟩ := h4 i hi' hi1
    obtain ⟨body', hb', hbody⟩ := L.write_shape (items[i]).1 (hw _ (List.getElem_mem hi'))
    have hbe : body' = body := List.append_cancel_right (hb'.symm.trans hb)
    subst hbe
    rw [hcs]
    apply singleTree_of (ws₀ ++ body') bl
    · intro x hx
      rcases List.mem_append.1 hx with h | h
      · have := hws x h
        constructor <;> (intro e; subst e; simp [isNewickWs] at this)
      · exact ⟨(hbody x h).2.2.1, (hbody x h).2.2.2⟩
    · intro x hx
      have := hbl x hx
      simp only [isBlank, Bool.or_eq_true, beq_iff_eq] at this
      rcases this with e | e <;> (subst e; decide)
  · left
    intro hc
    apply hne
    have : cs.length = 0 := by rw [hc]; rfl
    rw [h3] at this
    exact List.length_eq_zero_iff.1 this

/- ## first tree = head of the multi-tree reader -/

/-- Newick: when the first tree is on its own lines (`newickFirstHyp`), parsing the stream directly
    gives what the multi-tree reader delivers first -/
theorem first_eq_head_newick (C : NewickCodec) (L : NewickStreamLaws C) (doc : Txt) (h : newickFirstHyp doc = true) :
    readFirstNewick C doc = headOut (readMultiNewick C doc) := by
  have := first_head_go C L doc true [] [] [] [] (fun _ => rfl) rfl (by simp) (fun _ => rfl) (by simp) h
  simpa [readMultiNewick, splitLines] using this

/-- ★ `first_eq_head`, all four input formats: `ReadTreeReader` returns the first record of
    `ReadMultiTrees` (an empty record list being the "no tree" error); where the model does not
    follow the parser (`none`) it does not for both. -/
theorem first_eq_head (E : Env) (L : NewickStreamLaws E.C) (d : Doc) (h : firstOwnLines d = true) :
    readFirst E d = (readMulti E d).map headOut := by
  cases d with
  | newick s =>
    simp only [readFirst, readMulti, Option.map]
    rw [first_eq_head_newick E.C L s h]
  | nexus s =>
    simp only [readFirst, readMulti]
    cases hp : Nex.parse E.C s with
    | ok dd =>
      cases dd with
      | nil => rfl
      | cons x r => rfl
    | err => rfl
    | unsupported => rfl
  | phyloxml x =>
    cases x with
    | none => rfl
    | some x =>
      simp only [readFirst, readMulti]
      cases hp : Px.decode E.N x with
      | ok cs =>
        cases cs with
        | nil => rfl
        | cons c r => rfl
      | err => rfl
      | unsupported => rfl
  | nextstrain n =>
    cases n with
    | none => rfl
    | some n => rfl

/-- F19 (repaired by af86682) as a theorem about the pinned variant: with the shadowed result
    variable the single-tree reader reports "no tree" on a PhyloXML document whose first (and only)
    phylogeny the multi-tree reader delivers. -/
theorem first_eq_head_pinned_fails :
    ∃ (E : Env) (d : Doc), firstOwnLines d = true ∧
      (readFirstPinned E d).map Out.isOk = some false ∧ ((readMulti E d).map headOut).map Out.isOk = some true :=
  ⟨⟨⟨fun _ => [], fun _ => none⟩, ⟨fun _ => [], fun _ => none⟩⟩,
   .phyloxml (some (Px.encode ⟨fun _ => [], fun _ => none⟩
      [.node ⟨"", []⟩ 0 [(EdgeD.blank, T.leaf "a"), (EdgeD.blank, T.leaf "b")]])),
   by decide⟩

/- ## Several trees on one line (fix 3850fd2)

   Before the fix the reader asked the Newick parser for ONE tree per chunk (text up to a ';' ending a
   line): text after the first ';' of the line was dropped without an error — the negation of "none is
   silently skipped" (`readMultiNewickOne`, the pinned reader).  Since the fix every tree of the chunk is
   parsed (`chunkGo`). -/

/-- the PINNED reader: a line `a;b` (`a` the text of a first tree, `b` anything that ends with ';' — e.g.
    further trees) is read exactly like the line `a;`: the first tree of the line is delivered and the rest
    of the line is dropped WITHOUT an error record.  (The whole line is one chunk, the parser was asked
    for one tree per chunk and stops at the first ';' — law `parse_prefix`.) -/
theorem multi_sameline_drops_second (C : NewickCodec) (L : NewickStreamLaws C) (a b rest : Txt)
    (ha : ∀ c ∈ a, c ≠ ';' ∧ c ≠ '[' ∧ c ≠ '\n') (hb : ∀ c ∈ b, c ≠ '\n')
    (hl : lastNonBlank (a ++ ';' :: b) = ';') :
    readMultiNewickOne C (a ++ ';' :: b ++ '\n' :: rest) = readMultiNewickOne C (a ++ ';' :: '\n' :: rest) := by
  have h1 : oneLine (a ++ ';' :: b) := by
    refine ⟨?_, ?_⟩
    · intro c hc
      rcases List.mem_append.1 hc with h | h
      · exact (ha c h).2.2
      · rcases List.mem_cons.1 h with h | h
        · rw [h]; decide
        · exact hb c h
    · intro hlast
      -- the last character would be '\r', which is not a blank: the last non-blank character is not ';'
      have : (a ++ ';' :: b).reverse.head? = some '\r' := by rw [List.head?_reverse]; exact hlast
      unfold lastNonBlank at hl
      cases hr : (a ++ ';' :: b).reverse with
      | nil => rw [hr] at this; cases this
      | cons c r =>
        rw [hr] at this hl
        simp only [List.head?_cons, Option.some.injEq] at this
        subst this
        cases r <;> simp [lastNonBlankRev, isBlank] at hl
  have h2 : oneLine (a ++ [';']) := by
    refine ⟨?_, by simp⟩
    intro c hc
    rcases List.mem_append.1 hc with h | h
    · exact (ha c h).2.2
    · simp only [List.mem_singleton] at h; rw [h]; decide
  have e1 : a ++ ';' :: b ++ '\n' :: rest = (a ++ ';' :: b) ++ '\n' :: rest := by simp
  have e2 : a ++ ';' :: '\n' :: rest = (a ++ [';']) ++ '\n' :: rest := by simp
  unfold readMultiNewickOne
  rw [e1, e2, splitLines_cons _ _ h1, splitLines_cons _ _ h2]
  exact multiGoOne_sameline C L a b _ 0 (fun c hc => ⟨(ha c hc).1, (ha c hc).2.1⟩) hl

/-- the CURRENT reader: two well-formed trees written on ONE line are both delivered, identifiers 0 and 1 -/
theorem multi_sameline_delivers_both (C : NewickCodec) (L : NewickStreamLaws C) (t₁ t₂ : T)
    (h₁ : L.wf t₁ = true) (h₂ : L.wf t₂ = true) :
    readMultiNewick C (C.write t₁ ++ C.write t₂ ++ ['\n']) = [⟨0, .ok (L.norm t₁)⟩, ⟨1, .ok (L.norm t₂)⟩] := by
  obtain ⟨b₂, e₂, _⟩ := L.write_shape t₂ h₂
  obtain ⟨hone, hlast⟩ : oneLine (C.write t₁ ++ C.write t₂) ∧ lastNonBlank (C.write t₁ ++ C.write t₂) = ';' := by
    simpa using writes_line C L.toNewickLaws [t₁, t₂] (by simp) (by simp [h₁, h₂])
  have h2 := chunkGo_many C L [t₁, t₂] (by simp) (by simp [h₁, h₂]) ((C.write t₁ ++ C.write t₂).length + 1) 0
    (by rw [e₂]; simp only [List.length_cons, List.length_nil, List.length_append]; omega)
  simp only [List.map_cons, List.map_nil, List.flatten_cons, List.flatten_nil, List.append_nil] at h2
  unfold readMultiNewick
  have hsp : splitLines (C.write t₁ ++ C.write t₂ ++ ['\n']) = [C.write t₁ ++ C.write t₂] := by
    have := splitLines_cons (C.write t₁ ++ C.write t₂) [] hone
    simpa [splitLines, splitLinesGo] using this
  rw [hsp]
  simp only [multiGo, List.nil_append, hlast, beq_self_eq_true, if_true]
  rw [h2]
  simp [recsOfTrees]

/-- ★ `multi_delivers_all` for the reader since 3850fd2, ANY number of trees per line: the file whose
    lines each hold the texts of one or more well-formed trees, one after the other, is read back as
    exactly these trees, in order, identifiers 0, 1, 2, … -/
theorem multi_delivers_all_lines (C : NewickCodec) (L : NewickStreamLaws C) (groups : List (List T))
    (hne : groups ≠ []) (hg : ∀ g ∈ groups, g ≠ [] ∧ ∀ t ∈ g, L.wf t = true) :
    readMultiNewick C (unlines (groups.map fun g => (g.map C.write).flatten)) =
      recsOfTrees (groups.flatten.map L.norm) 0 := by
  have hl : ∀ l ∈ groups.map (fun g => (g.map C.write).flatten), oneLine l ∧ lastNonBlank l = ';' := by
    intro l hl
    obtain ⟨g, hgm, rfl⟩ := List.mem_map.1 hl
    exact writes_line C L.toNewickLaws g (hg g hgm).1 (hg g hgm).2
  rw [readMultiNewick_lines C _ hl]
  exact deliver_groups C L groups hg 0 (Or.inl hne)

/-- a witness on C01's Newick model: `(a,b);(c,d);` on ONE line gave one record (the first tree,
    no error) with the pinned reader; the current reader delivers both trees, as for two lines -/
theorem multi_sameline_witness :
    let tipsOf := fun (recs : List Rec) => recs.map fun r => match r.out with | .ok t => some t.tipNames | .err => none
    tipsOf (readMultiNewickOne (c01Codec Newick.ratCodec) "(a,b);(c,d);\n".toList) = [some ["a", "b"]] ∧
    tipsOf (readMultiNewick (c01Codec Newick.ratCodec) "(a,b);(c,d);\n".toList) = [some ["a", "b"], some ["c", "d"]] ∧
    tipsOf (readMultiNewick (c01Codec Newick.ratCodec) "(a,b);\n(c,d);\n".toList) = [some ["a", "b"], some ["c", "d"]] ∧
    tipsOf (readMultiNewick (c01Codec Newick.ratCodec) "(a,b);x;\n(c,d);\n".toList) = [some ["a", "b"], none] := by
  decide +kernel

/-- records that match a non-empty list of expected trees come from a non-empty list of delivered trees (an input
    without any tree is one error record since fix 78cdd07, so the chain theorems are about at least one tree) -/
theorem recsAre_ne_nil (ts : List T) (hne : ts ≠ []) (us : List T) (i : Nat)
    (h : recsAre ts (recsOfTrees us i) i = true) : us ≠ [] := by
  intro e
  subst e
  cases ts with
  | nil => exact hne rfl
  | cons t r => simp [recsOfTrees, recsAre] at h


/- ## PhyloXML documents in forms gotree's writer never emits

   `Px.encodeAlt` (Model/C13PxForms.lean) is a SPECIFICATION of input documents: every node name written
   in the style `sty` chooses for it — `<name>`, `<taxonomy><scientific_name>`, `<taxonomy><code>`, code and
   scientific name (the scientific name is taken), `<name>` next to a taxonomy (the name is taken), `<name>`
   twice (the last is taken) — unknown elements `junk` in front of the fields of every clade, and white space
   `padL`, `padR` around every number. -/

/-- the reader model on such a document (element level): decoding gives, for each tree, a clade
    structure from which `cladeToTree` builds a tree with the same shape, names, lengths and supports —
    whatever style is chosen for each name and whatever unknown elements are interspersed. -/
theorem phyloxml_forms_roundtrip (N : NumCodec) (NL : NumLaws N) (sty : String → Px.NameStyle) (junk : List Px.Xml)
    (hj : Px.junkOK junk = true) (padL padR : Txt) (hpl : Px.padOK padL = true) (hpr : Px.padOK padR = true) (ts : List T) (h : ∀ t ∈ ts, pxOK NL.dom t = true) :
    Px.decode N (Px.encodeAlt N sty junk padL padR ts) = .ok (ts.map (cladeAlt sty none)) ∧
    ∀ t ∈ ts, ∃ t', Px.phyloOut (cladeAlt sty none t) = .ok t' ∧ strip t' = strip t := by
  constructor
  · simp only [Px.decode, Px.encodeAlt]
    induction ts with
    | nil => rfl
    | cons t r ih =>
      have hp := h t (by simp)
      have hk : pxKids NL.dom t.kids = true := by
        simp only [pxOK, Bool.and_eq_true] at hp; exact hp.2
      have hc := dec_encAlt_clade N NL sty junk hj padL padR hpl hpr none t ⟨by simp [blOf], by simp [confOf]⟩ hk
      have htag : (Px.encCladeAlt N sty junk padL padR none t).tag? = some "clade" := by
        cases t with
        | node d p k => rw [encCladeAlt_eq]; rfl
      have h1 : Px.decPhylogeny N (Px.encPhylogenyAlt N sty junk padL padR t) = .ok (cladeAlt sty none t) := by
        have b1 : Px.parseBoolOk "true" = true := by decide
        have b2 : Px.parseBoolOk "false" = true := by decide
        unfold Px.decPhylogeny Px.encPhylogenyAlt
        by_cases hr : t.rooted = true <;>
          simp [hr, Px.Xml.kids, Px.decKids, htag, hc, b1, b2]
      have h2 := ih (fun x hx => h x (by simp [hx]))
      have htag' : (Px.encPhylogenyAlt N sty junk padL padR t).tag? = some "phylogeny" := rfl
      simp only [List.map_cons, Px.decPhylogenies, htag', beq_self_eq_true, if_true, h1, h2]
  · intro t ht
    have hp := h t ht
    simp only [pxOK, Bool.and_eq_true] at hp
    refine ⟨renumber (cladeAlt sty none t).toT, ?_, ?_⟩
    · simp [Px.phyloOut, tipsNamed_cladeAlt sty NL.dom none t hp.1 hp.2]
    · rw [strip_renumber, toT_alt, strip_toT NL.dom none t hp.2]

/-- the same through the reader entry point: every tree of the document is delivered, in order,
    identifiers 0, 1, …, equal in what the formats keep -/
theorem phyloxml_forms_chain (E : Env) (NL : NumLaws E.N) (sty : String → Px.NameStyle) (junk : List Px.Xml)
    (hj : Px.junkOK junk = true) (padL padR : Txt) (hpl : Px.padOK padL = true) (hpr : Px.padOK padR = true) (ts : List T) (hne : ts ≠ []) (h : ∀ t ∈ ts, pxOK NL.dom t = true) :
    ∃ recs, readMulti E (.phyloxml (some (Px.encodeAlt E.N sty junk padL padR ts))) = some recs ∧ recsAre ts recs 0 = true := by
  obtain ⟨hd, ht⟩ := phyloxml_forms_roundtrip E.N NL sty junk hj padL padR hpl hpr ts h
  refine ⟨recsOfOuts (pxIterate (ts.map (cladeAlt sty none))) 0, by
    cases ts with
    | nil => exact absurd rfl hne
    | cons t r => simp [readMulti, hd], ?_⟩
  simp only [pxIterate, List.map_map]
  clear hd h hne
  generalize (0 : Nat) = i
  induction ts generalizing i with
  | nil => rfl
  | cons t r ih =>
    obtain ⟨t', h1, h2⟩ := ht t (by simp)
    simp only [List.map_cons, Function.comp, recsOfOuts, h1, recsAre, Out.keptEq, beq_self_eq_true,
      Bool.true_and, Bool.and_eq_true]
    exact ⟨(sameKept_iff t' t).2 h2, ih (fun x hx => ht x (by simp [hx])) (i + 1)⟩

/-- `phyloxml_roundtrip` (element level): decoding the element tree that `WritePhyloXML` produces
    gives, for each tree, the clade structure of that tree; `cladeToTree` then succeeds and returns a
    tree with the same shape, names, lengths and supports. -/
theorem phyloxml_roundtrip (N : NumCodec) (NL : NumLaws N) (ts : List T) (h : ∀ t ∈ ts, pxOK NL.dom t = true) :
    Px.decode N (Px.encode N ts) = .ok (ts.map (cladeOf none)) ∧
    ∀ t ∈ ts, ∃ t', Px.phyloOut (cladeOf none t) = .ok t' ∧ strip t' = strip t := by
  have h' := phyloxml_forms_roundtrip N NL (fun _ => .name) [] rfl [] [] rfl rfl ts h
  simpa only [encodeAlt_name, cladeAlt_name, funext (cladeAlt_name none)] using h'

/-- the same through the reader entry point and in the words of the Spec: every tree written is
    delivered, in order, identifiers 0, 1, …, equal in what the formats keep -/
theorem phyloxml_chain (E : Env) (NL : NumLaws E.N) (ts : List T) (hne : ts ≠ []) (h : ∀ t ∈ ts, pxOK NL.dom t = true) :
    ∃ recs, readMulti E (.phyloxml (some (Px.encode E.N ts))) = some recs ∧ recsAre ts recs 0 = true := by
  simpa only [encodeAlt_name] using phyloxml_forms_chain E NL (fun _ => .name) [] rfl [] [] rfl rfl ts hne h

/-- The law of the number codec, GENERAL: the decimal codec (`FormatFloat 'f' -1` as exact decimal
    expansion / decimal `ParseFloat`) reads back every rational whose expansion is finite (`decDom`:
    within the printer's 1100 digits — every float64 qualifies): `parse (TrimSpace (fmt q)) = q`. -/
theorem decimal_codec_law (q : Rat) (h : decDom q = true) : decCodec.parse (Px.trim (decCodec.fmt q)) = some q :=
  decCodec_parse_fmt q h

/-- PhyloXML round trip with the decimal codec, no assumption left on numbers: every length and
    support only has to have a finite decimal expansion -/
theorem phyloxml_chain_decimal (C : NewickCodec) (ts : List T) (hne : ts ≠ []) (h : ∀ t ∈ ts, pxOK decDom t = true) :
    ∃ recs, readMulti ⟨C, decCodec⟩ (.phyloxml (some (Px.encode decCodec ts))) = some recs ∧ recsAre ts recs 0 = true :=
  phyloxml_chain ⟨C, decCodec⟩ decNumLaws ts hne h

/- ## Nexus round trip -/

/-- `nexus_roundtrip` without translate table, CHARACTER level, in terms of the label state the
    writer's loop ends in (`stateLoop`): the document `WriteNexus` emits is lexed and parsed back into
    exactly the trees written (as the Newick parser returns them), named tree0, tree1, … -/
theorem nexus_roundtrip_plain_state (C : NewickCodec) (L : NewickLaws C) (ts : List T)
    (hn : (stateLoop (enumFrom 0 ts) {}).map.length ≤ 9223372036854775807)
    (hlen : (stateLoop (enumFrom 0 ts) {}).map.length = (stateLoop (enumFrom 0 ts) {}).slice.length)
    (hl : ∀ l ∈ (stateLoop (enumFrom 0 ts) {}).slice, labelOK l = true)
    (hnd : hasDup (stateLoop (enumFrom 0 ts) {}).slice = false)
    (hw : ∀ t ∈ ts, L.wf t = true)
    (hs : ∀ t ∈ ts, treeTextOK (C.write t) = true)
    (ht : ∀ t ∈ ts, okTaxa (stateLoop (enumFrom 0 ts) {}).slice t = true) :
    ∃ d, Nex.parse C (writeNexus C false (enumFrom 0 ts)) = .ok d ∧ recsAre ts (recsOfTrees (d.map (·.2)) 0) 0 = true := by
  have hp := parse_plain C L (enumFrom 0 ts) hn hlen (fun l h => labelOK_tokLabel l (hl l h)) hnd
    (fun it h => hw it.2 (enumFrom_snd_mem 0 ts it h)) (fun it h => hs it.2 (enumFrom_snd_mem 0 ts it h)) (fun it h => ht it.2 (enumFrom_snd_mem 0 ts it h))
  refine ⟨_, hp, ?_⟩
  apply recsAre_recsOfTrees
  simp only [List.map_map]
  have : ∀ (i : Nat) (l : List T), (∀ t ∈ l, L.wf t = true) →
      List.map (strip ∘ (fun x : String × T => x.2) ∘ fun it : Nat × T => ("tree" ++ toString it.1, L.norm it.2)) (enumFrom i l) = l.map strip := by
    intro i l
    induction l generalizing i with
    | nil => intro _; rfl
    | cons t r ih =>
      intro hwf
      simp only [enumFrom, List.map_cons, Function.comp, List.cons.injEq]
      exact ⟨L.norm_strip t (hwf t (by simp)), ih (i + 1) (fun x hx => hwf x (by simp [hx]))⟩
  exact this 0 ts hw

/-- `nexus_roundtrip` (no translate table), CHARACTER level for the document: for trees with
    legal, pairwise different tip labels on one common tip set, whose Newick text the codec round-trips
    (`L.wf`) and the Nexus lexer leaves intact (`treeTextOK`), reading the document that `WriteNexus`
    emits delivers every tree, in order, equal in shape, names, lengths and supports. -/
theorem nexus_roundtrip_plain (C : NewickCodec) (L : NewickLaws C) (ts : List T)
    (hw : ∀ t ∈ ts, L.wf t = true) (hs : ∀ t ∈ ts, treeTextOK (C.write t) = true)
    (htips : ∀ t ∈ ts, tipsOK t = true) (hst : sameTaxa ts = true) :
    ∃ d, Nex.parse C (writeNexus C false (enumFrom 0 ts)) = .ok d ∧
      recsAre ts (recsOfTrees (d.map (·.2)) 0) 0 = true := by
  have h := nexusState_ok ts (fun t ht => by
    have := htips t ht
    simp only [tipsOK, Bool.and_eq_true, Bool.not_eq_true', decide_eq_true_eq] at this
    exact ⟨this.1.1, this.1.2, this.2⟩) hst
  obtain ⟨h1, h2, h3, h4, h5⟩ := h
  exact nexus_roundtrip_plain_state C L ts h1 h2 h3 h4 hw hs h5

/-- the same through the reader entry point `ReadMultiTrees(FORMAT_NEXUS)` -/
theorem nexus_chain_plain (E : Env) (L : NewickLaws E.C) (ts : List T) (hne : ts ≠ [])
    (hw : ∀ t ∈ ts, L.wf t = true) (hs : ∀ t ∈ ts, treeTextOK (E.C.write t) = true)
    (htips : ∀ t ∈ ts, tipsOK t = true) (hst : sameTaxa ts = true) :
    ∃ recs, readMulti E (.nexus (writeNexus E.C false (enumFrom 0 ts))) = some recs ∧ recsAre ts recs 0 = true := by
  obtain ⟨d, hd, hr⟩ := nexus_roundtrip_plain E.C L ts hw hs htips hst
  have hdne : d.map (·.2) ≠ [] := recsAre_ne_nil ts hne _ 0 hr
  refine ⟨_, ?_, hr⟩
  cases d with
  | nil => exact absurd rfl hdne
  | cons x r => simp [readMulti, hd]

/-- `Tree.Nexus()` (tree/tree.go): the single-tree Nexus document is read back — by both reader entry
    points — as that tree (labels in `Tips()` order, NTAX = number of tips, tree name "tree1") -/
theorem treeNexus_roundtrip (E : Env) (L : NewickLaws E.C) (t : T)
    (hw : L.wf t = true) (hs : treeTextOK (E.C.write t) = true) (ht : tipsOK t = true) :
    readMulti E (.nexus (treeNexus E.C t)) = some [⟨0, .ok (L.norm t)⟩] ∧
    readFirst E (.nexus (treeNexus E.C t)) = some (.ok (L.norm t)) ∧
    strip (L.norm t) = strip t := by
  have h := parse_treeNexus E.C L t hw hs ht
  exact ⟨by simp [readMulti, h, recsOfTrees], by simp [readFirst, h], L.norm_strip t hw⟩

/-- `nexus_roundtrip` WITH a translate table, CHARACTER level for the document, in terms of the
    writer's label state and of the trees it actually writes (`writtenList`: clones renamed to
    indices): if the labels and index texts are single Nexus tokens, the written trees' Newick texts
    round-trip through the codec and survive the Nexus lexer, and renaming them back through the
    table gives the original trees (`backOK`, a statement about the pure renaming functions), then
    reading the document delivers every tree, in order, equal in shape, names, lengths, supports. -/
theorem nexus_roundtrip_translate_state (C : NewickCodec) (L : NewickLaws C) (ts : List T)
    (hst : nexusTrStateOK ts = true)
    (hw : ∀ w ∈ writtenList (enumFrom 0 ts) {}, L.wf w.2 = true)
    (hs : ∀ w ∈ writtenList (enumFrom 0 ts) {}, treeTextOK (C.write w.2) = true) :
    ∃ d, Nex.parse C (writeNexus C true (enumFrom 0 ts)) = .ok d ∧
      recsAre ts (recsOfTrees (d.map (·.2)) 0) 0 = true := by
  simp only [nexusTrStateOK, Bool.and_eq_true, decide_eq_true_eq, beq_iff_eq, List.all_eq_true,
    Bool.not_eq_true'] at hst
  obtain ⟨⟨⟨⟨h1, h2⟩, h3⟩, h4⟩, h5⟩ := hst
  exact parse_tr C L (enumFrom 0 ts) ts h1 h2
    (fun l hl => ⟨labelOK_tokLabel l (h3 l hl).1, labelOK_tokLabel _ (h3 l hl).2⟩) h4 hw hs h5

/-- the variant with a translate table through the reader entry point `ReadMultiTrees(FORMAT_NEXUS)`, in the words of
    the Spec (without table: `nexus_chain_plain`) -/
theorem nexus_chain_translate (E : Env) (L : NewickLaws E.C) (ts : List T) (hne : ts ≠ [])
    (hst : nexusTrStateOK ts = true)
    (hw : ∀ w ∈ writtenList (enumFrom 0 ts) {}, L.wf w.2 = true)
    (hs : ∀ w ∈ writtenList (enumFrom 0 ts) {}, treeTextOK (E.C.write w.2) = true) :
    ∃ recs, readMulti E (.nexus (writeNexus E.C true (enumFrom 0 ts))) = some recs ∧ recsAre ts recs 0 = true := by
  obtain ⟨d, hd, hr⟩ := nexus_roundtrip_translate_state E.C L ts hst hw hs
  have hdne : d.map (·.2) ≠ [] := recsAre_ne_nil ts hne _ 0 hr
  refine ⟨_, ?_, hr⟩
  cases d with
  | nil => exact absurd rfl hdne
  | cons x r => simp [readMulti, hd]

/-- `nexus_roundtrip` WITH a translate table, from conditions on the input trees only (character
    level for the document): trees on one common tip set, tip labels legal and pairwise different, a
    name that is not a tip name is not a decimal numeral; `M` is the map the writer builds (tips of
    the first tree, numbered from 0 in order of appearance), the trees it writes are `renameT M t`,
    whose Newick texts must round-trip through the codec (`L.wf`) and survive the Nexus lexer
    (`treeTextOK`).  Then reading the document delivers every tree, in order, with its original names,
    equal in shape, names, lengths and supports.

    PARTIAL: the hypothesis `innerNamesDistinct` (non-empty node names pairwise different) is the
    excluded region.  The full statement — the same without `hd` — is FALSE for the code as it is:
    see `nexus_translate_repeated_inner_name_fails` (open finding F60). -/
theorem nexus_roundtrip_translate_partial (C : NewickCodec) (L : NewickLaws C) (t0 : T) (rest : List T)
    (htips : ∀ t ∈ t0 :: rest, tipsOK t = true) (hst : sameTaxa (t0 :: rest) = true)
    (hd : ∀ t ∈ t0 :: rest, innerNamesDistinct t = true)
    (hnum : ∀ t ∈ t0 :: rest, nonTipNamesNotNumeral t = true)
    (hw : ∀ t ∈ t0 :: rest, L.wf (renameT (mapFrom 0 t0.tipNames) t) = true)
    (hs : ∀ t ∈ t0 :: rest, treeTextOK (C.write (renameT (mapFrom 0 t0.tipNames) t)) = true) :
    ∃ d, Nex.parse C (writeNexus C true (enumFrom 0 (t0 :: rest))) = .ok d ∧
      recsAre (t0 :: rest) (recsOfTrees (d.map (·.2)) 0) 0 = true := by
  have hn : ∀ t ∈ t0 :: rest, namesOK t = true := fun t ht => by
    simp only [namesOK, Bool.and_eq_true]; exact ⟨hd t ht, hnum t ht⟩
  obtain ⟨h1, h2⟩ := nexusTrState_ok t0 rest htips hst hn
  apply nexus_roundtrip_translate_state C L (t0 :: rest) h1
  · intro w hw'
    rw [h2] at hw'
    obtain ⟨it, hit, rfl⟩ := List.mem_map.1 hw'
    exact hw it.2 (enumFrom_snd_mem 0 _ it hit)
  · intro w hw'
    rw [h2] at hw'
    obtain ⟨it, hit, rfl⟩ := List.mem_map.1 hw'
    exact hs it.2 (enumFrom_snd_mem 0 _ it hit)

/-- The taxa block of `WriteNexus`'s document, as the oracle `taxaBlockOK` reads it back from the text
    (written without translate table; the lemma `taxaBlock_written` covers both; the trees may be on different tip sets): TAXLABELS names every
    tip of every tree exactly once and NTAX is their number. -/
theorem nexus_taxa_block (C : NewickCodec) (L : NewickLaws C) (ts : List T)
    (hn : (stateLoop (enumFrom 0 ts) {}).map.length ≤ 9223372036854775807)
    (hlab : ∀ t ∈ ts, t.tipNames.all labelOK = true)
    (hw : ∀ it ∈ enumFrom 0 ts, L.wf it.2 = true) :
    taxaBlockOK ts (writeNexus C false (enumFrom 0 ts)) = true :=
  taxaBlock_written C L false ts hn hlab (by simpa using hw) (by intro h; cases h)

/- ## Nexus documents the writer never emits: what the parser skips -/

/-- a comment between the commands of a TREES block is skipped -/
theorem nexus_comment_in_trees_block_skipped (f : Nat) (c r : List Nex.Tok) (a : Nex.TreesAcc)
    (h : ∀ t ∈ c, t ≠ .closebrack) :
    Nex.parseTrees (f + 1) (.openbrack :: (c ++ .closebrack :: r)) a = Nex.parseTrees f r a :=
  parseTrees_comment f c r a h

/-- a comment between the commands of a TAXA block is skipped -/
theorem nexus_comment_in_taxa_block_skipped (f : Nat) (c r : List Nex.Tok) (n : Int) (labs : List String)
    (h : ∀ t ∈ c, t ≠ .closebrack) :
    Nex.parseTaxa (f + 1) (.openbrack :: (c ++ .closebrack :: r)) n labs = Nex.parseTaxa f r n labs :=
  parseTaxa_comment f c r n labs h

/-- a command the TREES block does not know (`TITLE x;` …) is skipped up to its `;` -/
theorem nexus_unknown_command_skipped (f : Nat) (w : String) (c r : List Nex.Tok) (a : Nex.TreesAcc)
    (h : ∀ t ∈ c, t ≠ .endcmd) :
    Nex.parseTrees (f + 1) (.ident w :: (c ++ .endcmd :: r)) a = Nex.parseTrees f r a :=
  parseTrees_unknown_command f w c r a h

/-- a comment inside the TRANSLATE command, where an entry could start, is skipped (the table read so
    far, `m`, is kept) -/
theorem nexus_comment_in_translate_skipped (c r : List Nex.Tok) (m : List (String × String))
    (h : ∀ t ∈ c, t ≠ .closebrack) :
    Nex.parseTransl (.openbrack :: (c ++ .closebrack :: r)) m = Nex.parseTransl r m :=
  parseTransl_comment c r m h

/-- a block the parser does not know (`BEGIN FIGTREE; … END;`) is skipped as a whole -/
theorem nexus_unknown_block_skipped (f : Nat) (b b' e : String) (c r : List Nex.Tok) (st : Nex.PState)
    (h : ∀ t ∈ c, ∀ l, t ≠ .kw .end_ l) :
    Nex.parseLoop (f + 1) (.kw .begin_ b :: .ident b' :: .endcmd :: (c ++ .kw .end_ e :: .endcmd :: r)) st =
      Nex.parseLoop f r st :=
  parseLoop_unknown_block f b b' e c r st h

/-- Fix 82a8873 in general: a TREES block (`cs` = its TREE commands, each a name and the tokens of a tree
    text) met in ANY parser state appends its trees to those of the blocks before it … -/
theorem nexus_trees_block_appended (f : Nat) (b t e : String) (cs : List Cmd) (h : ∀ c ∈ cs, c.ok)
    (hf : 2 * cs.length + 2 ≤ f) (r : List Nex.Tok) (st : Nex.PState) :
    Nex.parseLoop (f + 1) (.kw .begin_ b :: .kw .trees t :: .endcmd :: .eol :: (cmdsToks cs ++ .kw .end_ e :: .endcmd :: r)) st =
      Nex.parseLoop f r { st with trees := some (st.trees.getD [] ++ cs.map fun c => (c.name, c.body)) } :=
  parseLoop_trees_block f b t e cs h hf r st

/-- … whereas the parser before the fix forgot them (general form of `several_trees_blocks_pinned_fails`) -/
theorem nexus_trees_block_pinned_overwrites (f : Nat) (b t e : String) (cs : List Cmd) (h : ∀ c ∈ cs, c.ok)
    (hf : 2 * cs.length + 2 ≤ f) (r : List Nex.Tok) (st : Nex.PState) :
    Nex.parseLoopPinned (f + 1) (.kw .begin_ b :: .kw .trees t :: .endcmd :: .eol :: (cmdsToks cs ++ .kw .end_ e :: .endcmd :: r)) st =
      Nex.parseLoopPinned f r { st with trees := some (cs.map fun c => (c.name, c.body)) } :=
  parseLoopPinned_trees_block f b t e cs h hf r st

/-- OBSERVATION (not a property violation, recorded with the integrator): gotree's Nexus lexer has no
    quoting.  A quoted label keeps its quotes as part of the name; a blank inside a quoted label splits it,
    so that a TRANSLATE entry or a TAXLABELS list with such a label makes the whole file fail; in a tree
    text the blank disappears (`'a x'` is read as the name `'ax'`).  The code agrees with the model on these
    documents (generator branches quoted-labels, quoted-labels-blank). -/
theorem nexus_quoted_labels_observation :
    let tips := fun (doc : String) => match Nex.parse (c01Codec Newick.ratCodec) doc.toList with
      | .ok d => some (d.map fun (x : String × T) => x.2.tipNames)
      | _ => none
    tips "#NEXUS\nBEGIN TREES;\n TRANSLATE 1 'a', 2 'b', 3 c;\n TREE t = (1,2,3);\nEND;\n" = some [["'a'", "'b'", "c"]] ∧
    tips "#NEXUS\nBEGIN TREES;\n TRANSLATE 1 'a x', 2 b, 3 c;\n TREE t = (1,2,3);\nEND;\n" = none ∧
    tips "#NEXUS\nBEGIN TAXA;\n TAXLABELS 'a x' b c;\nEND;\nBEGIN TREES;\n TREE t = ('a x',b,c);\nEND;\n" = none ∧
    tips "#NEXUS\nBEGIN TREES;\n TREE t = ('a x',b,c);\nEND;\n" = some [["'ax'", "b", "c"]] := by
  dsimp only
  rw [String.toList_lit (by rfl), String.toList_lit (by rfl), String.toList_lit (by rfl), String.toList_lit (by rfl)]
  decide +kernel

/- ## The `gotree reformat` glue (cmd/reformat*.go) -/

/-- a file whose trees are all delivered: exit status 0 and the writer's document of exactly these
    trees, with the identifiers the reader gave them -/
theorem reformat_good (E : Env) (out : OutFmt) (tr : Bool) (ts : List T) :
    reformatGlue E out tr (recsOfTrees ts 0) =
      (true, match out with
        | .newick => Px.joinT (fun t => E.C.write t ++ ['\n']) ts
        | .nexus => writeNexus E.C tr (enumFrom 0 ts)
        | .phyloxml => Px.render E.N ts) :=
  reformatGlue_good E out tr ts

/-- a broken tree after `ts` good ones is reported by a non-zero exit status; `reformat newick` has
    written the trees before it, `reformat nexus|phyloxml` nothing -/
theorem reformat_error (E : Env) (out : OutFmt) (tr : Bool) (ts : List T) (rest : List Rec) :
    reformatGlue E out tr (recsOfTrees ts 0 ++ ⟨ts.length, .err⟩ :: rest) =
      (false, match out with
        | .newick => Px.joinT (fun t => E.C.write t ++ ['\n']) ts
        | _ => []) :=
  reformatGlue_error E out tr ts rest

theorem recsAre_congr (ts us : List T) (recs : List Rec) (i : Nat) (h : us.map strip = ts.map strip)
    (hr : recsAre us recs i = true) : recsAre ts recs i = true := by
  induction ts generalizing us recs i with
  | nil =>
    cases us with
    | nil => exact hr
    | cons _ _ => simp at h
  | cons t ts ih =>
    cases us with
    | nil => simp at h
    | cons u us =>
      cases recs with
      | nil => simp [recsAre] at hr
      | cons r rs =>
        simp only [List.map_cons, List.cons.injEq] at h
        simp only [recsAre, Bool.and_eq_true] at hr ⊢
        refine ⟨⟨hr.1.1, ?_⟩, ih us rs (i + 1) h.2 hr.2⟩
        cases hro : r.out with
        | err => rw [hro] at hr; simp [Out.keptEq] at hr
        | ok x =>
          rw [hro] at hr
          simp only [Out.keptEq] at hr ⊢
          exact (sameKept_iff x t).2 (((sameKept_iff x u).1 hr.1.2).trans h.1)

/-- `gotree reformat nexus -i trees.nw` followed by reading the result: the whole CLI conversion
    newick → nexus → trees, as composition of the multi-tree reader, the glue, the writer and the Nexus
    reader.  The conditions on the re-read trees `L.norm t` are what `nexus_roundtrip_plain` asks of the
    trees it is given. -/
theorem reformat_newick_to_nexus_roundtrip (E : Env) (L : NewickLaws E.C) (ts : List T) (hne : ts ≠ [])
    (hw : ∀ t ∈ ts, L.wf t = true) (hwn : ∀ t ∈ ts, L.wf (L.norm t) = true)
    (hs : ∀ t ∈ ts, treeTextOK (E.C.write (L.norm t)) = true)
    (htips : ∀ t ∈ ts, tipsOK (L.norm t) = true) (hst : sameTaxa (ts.map L.norm) = true) :
    (reformatGlue E .nexus false (readMultiNewick E.C (unlines (ts.map E.C.write)))).1 = true ∧
    ∃ recs, readMulti E (.nexus (reformatGlue E .nexus false (readMultiNewick E.C (unlines (ts.map E.C.write)))).2) = some recs ∧
      recsAre ts recs 0 = true := by
  rw [multi_delivers_all E.C L ts hne hw, reformatGlue_good]
  refine ⟨rfl, ?_⟩
  obtain ⟨recs, h1, h2⟩ := nexus_chain_plain E L (ts.map L.norm) (by simpa using hne)
    (by intro t ht; obtain ⟨u, hu, rfl⟩ := List.mem_map.1 ht; exact hwn u hu)
    (by intro t ht; obtain ⟨u, hu, rfl⟩ := List.mem_map.1 ht; exact hs u hu)
    (by intro t ht; obtain ⟨u, hu, rfl⟩ := List.mem_map.1 ht; exact htips u hu) hst
  refine ⟨recs, h1, recsAre_congr ts (ts.map L.norm) recs 0 ?_ h2⟩
  rw [List.map_map]
  apply List.map_congr_left
  intro t ht
  exact L.norm_strip t (hw t ht)

/- ## Composition with property C01: its verified Newick model as the codec

   `c01Codec F` is `Gotree.Newick.write` / `Gotree.Newick.parse` of Model/C01 (the codec the driver runs,
   with the Go-like float codec); `c01Laws F` derives the three base laws from C01's theorem
   `parse_write`, so the statements below have NO assumption on the Newick code left — only the float
   codec laws `F : FloatCodec` (C01's trust in strconv) and the decidable conditions on the trees. -/

/-- `multi_delivers_all` for C01's Newick model -/
theorem multi_delivers_all_c01 (F : Newick.FloatCodec) (ts : List T) (hne : ts ≠ [])
    (h : ∀ t ∈ ts, (C01.WF01 F.isFloat F.dom t && plainText (Newick.write F.toCodec t)) = true) :
    readMultiNewick (c01Codec F) (unlines (ts.map (Newick.write F.toCodec))) = recsOfTrees (ts.map T.normIds) 0 :=
  multi_delivers_all (c01Codec F) (c01Laws F) ts hne h

/-- `nexus_roundtrip` (no translate table) for C01's Newick model, character level end to end -/
theorem nexus_roundtrip_plain_c01 (F : Newick.FloatCodec) (ts : List T)
    (hw : ∀ t ∈ ts, (C01.WF01 F.isFloat F.dom t && plainText (Newick.write F.toCodec t)) = true)
    (hs : ∀ t ∈ ts, treeTextOK (Newick.write F.toCodec t) = true)
    (htips : ∀ t ∈ ts, tipsOK t = true) (hst : sameTaxa ts = true) :
    ∃ d, Nex.parse (c01Codec F) (writeNexus (c01Codec F) false (enumFrom 0 ts)) = .ok d ∧
      recsAre ts (recsOfTrees (d.map (·.2)) 0) 0 = true :=
  nexus_roundtrip_plain (c01Codec F) (c01Laws F) ts hw hs htips hst

/-- `nexus_roundtrip` with translate table for C01's Newick model (hypotheses on the writer's state
    and the renamed trees as in `nexus_roundtrip_translate_state`) -/
theorem nexus_roundtrip_translate_c01 (F : Newick.FloatCodec) (ts : List T)
    (hst : nexusTrStateOK ts = true)
    (hw : ∀ w ∈ writtenList (enumFrom 0 ts) {}, (C01.WF01 F.isFloat F.dom w.2 && plainText (Newick.write F.toCodec w.2)) = true)
    (hs : ∀ w ∈ writtenList (enumFrom 0 ts) {}, treeTextOK (Newick.write F.toCodec w.2) = true) :
    ∃ d, Nex.parse (c01Codec F) (writeNexus (c01Codec F) true (enumFrom 0 ts)) = .ok d ∧
      recsAre ts (recsOfTrees (d.map (·.2)) 0) 0 = true :=
  nexus_roundtrip_translate_state (c01Codec F) (c01Laws F) ts hst hw hs

/-- ★ `first_eq_head` for C01's Newick model, all four input formats: NO assumption on the Newick
    parser is left — its two stream laws (stops at the first ';', skips white space after a delimiter)
    are theorems about `Gotree.Newick.parse` (`c01_parse_prefix`, `c01_parse_ws_skip`,
    Lemmas/C13C01.lean). -/
theorem first_eq_head_c01 (F : Newick.FloatCodec) (N : NumCodec) (d : Doc) (h : firstOwnLines d = true) :
    readFirst ⟨c01Codec F, N⟩ d = (readMulti ⟨c01Codec F, N⟩ d).map headOut :=
  first_eq_head ⟨c01Codec F, N⟩ (c01StreamLaws F) d h

/-- the layout theorem for C01's Newick model: no assumption on the Newick code -/
theorem multi_delivers_all_layout_c01 (F : Newick.FloatCodec) (items : List (T × List Txt))
    (hne : items ≠ []) (hw : ∀ it ∈ items, (c01Laws F).wf it.1 = true)
    (hi : ∀ it ∈ items, ItemOK (c01Codec F) it.1 it.2) :
    readMultiNewick (c01Codec F) (unlines (items.flatMap (·.2))) = recsOfTrees (items.map fun it => it.1.normIds) 0 :=
  multi_delivers_all_layout (c01Codec F) (c01StreamLaws F) items hne hw hi _ (Or.inl rfl)

/-- several trees per line, for C01's Newick model: no assumption on the Newick code -/
theorem multi_delivers_all_lines_c01 (F : Newick.FloatCodec) (groups : List (List T)) (hne : groups ≠ [])
    (hg : ∀ g ∈ groups, g ≠ [] ∧ ∀ t ∈ g, (c01Laws F).wf t = true) :
    readMultiNewick (c01Codec F) (unlines (groups.map fun g => (g.map (c01Codec F).write).flatten)) =
      recsOfTrees (groups.flatten.map T.normIds) 0 :=
  multi_delivers_all_lines (c01Codec F) (c01StreamLaws F) groups hne hg

/-- The region `innerNamesDistinct` excludes (open finding F60), as a negative theorem on a concrete witness (C01's Newick model,
    its lawful codec `ratCodec`): for `((a:1,b:1)X:1,(c:1,d:1)X:1,e:1);` — two inner nodes named X, tips
    and labels fine — the document written WITH a translate table is rejected by the reader
    (`tree.Rename` indexes every named node and refuses the repeated name; the writer ignores that error
    and writes the tree unrenamed under a TRANSLATE table), while without translate table the same tree
    comes back unchanged. -/
theorem nexus_translate_repeated_inner_name_fails :
    (Nex.parse (c01Codec Newick.ratCodec) (writeNexus (c01Codec Newick.ratCodec) true [(0, dupTree)])).isErr = true ∧
    (match Nex.parse (c01Codec Newick.ratCodec) (writeNexus (c01Codec Newick.ratCodec) false [(0, dupTree)]) with
     | .ok [(_, t)] => sameKept t dupTree
     | _ => false) = true ∧
    tipsOK dupTree = true ∧ nonTipNamesNotNumeral dupTree = true ∧ innerNamesDistinct dupTree = false := by
  decide +kernel

/- ## The repair of open finding F60, proved ahead of time (variant model `Model/C13Tips.lean`)

   Writer and reader rename the TIPS only through the translate table (`renameTips`; the reader then runs
   `UpdateTipIndex`) instead of calling `tree.Rename`.  Everything else is the code as it is. -/

/-- `nexus_roundtrip` with a translate table for the tips-only variant: the hypothesis
    `innerNamesDistinct` of `nexus_roundtrip_translate_partial` is GONE (and `nonTipNamesNotNumeral` too):
    any inner names, repeated or numeral-like, survive. -/
theorem nexus_roundtrip_translate_tipsOnly (C : NewickCodec) (L : NewickLaws C) (t0 : T) (rest : List T)
    (htips : ∀ t ∈ t0 :: rest, tipsOK t = true) (hst : sameTaxa (t0 :: rest) = true)
    (hw : ∀ t ∈ t0 :: rest, L.wf (renameTips (mapFrom 0 t0.tipNames) t) = true)
    (hs : ∀ t ∈ t0 :: rest, treeTextOK (C.write (renameTips (mapFrom 0 t0.tipNames) t)) = true) :
    ∃ d, Nex.parseTips C (writeNexusTips C true (enumFrom 0 (t0 :: rest))) = .ok d ∧
      recsAre (t0 :: rest) (recsOfTrees (d.map (·.2)) 0) 0 = true :=
  parseTips_writeTips C L t0 rest htips hst hw hs

/-- the variant changes nothing without a translate table: same text as `writeNexus` -/
theorem writeNexusTips_plain (C : NewickCodec) (its : List (Nat × T)) :
    writeNexusTips C false its = writeNexus C false its := by
  have h : ∀ (its : List (Nat × T)) (s : WState) (buf : Txt),
      writeNexusLoopTips C false its s buf = writeNexusLoop C false its s buf := by
    intro its
    induction its with
    | nil => intro s buf; rfl
    | cons it r ih =>
      intro s buf
      simp only [writeNexusLoopTips, writeNexusLoop, writeNexusStep, writtenTreeTips, writtenTree, Bool.false_eq_true,
        if_false]
      exact ih _ _
  unfold writeNexusTips writeNexus
  rw [h]

/-- the witness of F60 under the repair: `((a:1,b:1)X:1,(c:1,d:1)X:1,e:1);` written with a translate
    table by the tips-only variant is read back unchanged (C01's Newick model, `ratCodec`) -/
theorem nexus_translate_repeated_inner_name_tipsOnly_ok :
    (match Nex.parseTips (c01Codec Newick.ratCodec) (writeNexusTips (c01Codec Newick.ratCodec) true [(0, dupTree)]) with
     | .ok [(_, t)] => sameKept t dupTree
     | _ => false) = true := by
  decide +kernel

/-- The defect repaired by 6a194b0 as a theorem about the pinned reader
    `Nex.parseAllTaxa` on a concrete witness (C01's Newick model): the list `(a,b,(c,d));`, `(a,b,c);` — both
    trees well-formed, tip sets different — written as ONE Nexus document (TAXA block = the union a b c d) was
    refused, with and without translate table (every label of the TAXA block had to be in every tree);
    the current reader delivers both trees.  (`sameTaxa` stays a hypothesis of the general
    `nexus_roundtrip_*` theorems; the oracle runs on such lists.) -/
theorem nexus_list_differing_taxa_fails :
    let t1 : T := .node ⟨"", []⟩ 0 [(EdgeD.blank, T.leaf "a"), (EdgeD.blank, T.leaf "b"),
      (EdgeD.blank, .node ⟨"", []⟩ 0 [(EdgeD.blank, T.leaf "c"), (EdgeD.blank, T.leaf "d")])]
    let t2 : T := .node ⟨"", []⟩ 0 [(EdgeD.blank, T.leaf "a"), (EdgeD.blank, T.leaf "b"), (EdgeD.blank, T.leaf "c")]
    let C := c01Codec Newick.ratCodec
    let back := fun (r : Nex.PRes Nex.NexDoc) => match r with
      | .ok [(_, u1), (_, u2)] => sameKept u1 t1 && sameKept u2 t2
      | _ => false
    sameTaxa [t1, t2] = false ∧
    (Nex.parseAllTaxa C (writeNexus C false [(0, t1), (1, t2)])).isErr = true ∧
    (Nex.parseAllTaxa C (writeNexus C true [(0, t1), (1, t2)])).isErr = true ∧
    back (Nex.parse C (writeNexus C false [(0, t1), (1, t2)])) = true ∧
    back (Nex.parse C (writeNexus C true [(0, t1), (1, t2)])) = true := by
  decide +kernel

/-- The defect repaired by 82a8873 as a theorem about the pinned parser: a document with two TREES
    blocks (one tree, then two) is read as THREE trees by the current parser and as the last TWO by the
    pinned one, without any error. -/
theorem several_trees_blocks_pinned_fails :
    let doc := "#NEXUS\nBEGIN TREES;\n TREE t1 = (a,b,c);\nEND;\nBEGIN TREES;\n TREE t2 = (a,c,b);\n TREE t3 = (b,a,c);\nEND;\n".toList
    (match Nex.parse (c01Codec Newick.ratCodec) doc with | .ok d => d.map (·.1) | _ => []) = ["t1", "t2", "t3"] ∧
    (match Nex.parsePinnedBlocks (c01Codec Newick.ratCodec) doc with | .ok d => d.map (·.1) | _ => []) = ["t2", "t3"] := by
  rw [String.toList_lit (by rfl)]
  decide +kernel

/- ## Nexus documents of other programs (standard form)

   `writeNexusStd` (Model/C13Std.lean) is a SPECIFICATION of input documents, not a model of gotree code:
   lower-case keywords, tabs, one taxon label per line, a TRANSLATE table numbered from 1 with commas
   between the entries and the `;` on its own line, trees `tree treeN = [&U] <newick>;`, an empty line
   between the blocks (FigTree / BEAST / MrBayes style).  gotree's writer never emits this layout. -/

/-- gotree's Nexus reader (`Nex.parse`) on a standard-form document with taxa `labels` and the trees
    `ts` (written with their tips replaced by the table's numbers): it delivers every tree, in order,
    equal to the original on shape, names, lengths and supports.  Hypotheses: the labels are legal and
    pairwise different, every tree has exactly these tips, the conditions of
    `nexus_roundtrip_translate_partial` on the other names (`namesOK`, the F60 region excluded), and the
    Newick codec's conditions on the numbered trees. -/
theorem nexus_std_roundtrip (C : NewickCodec) (L : NewickLaws C) (labels : List String) (ts : List T)
    (hn : labels.length ≤ 9223372036854775807)
    (hlab : labels.all labelOK = true)
    (hnd : hasDup labels = false)
    (hset : ∀ t ∈ ts, sameSet t.tipNames labels = true)
    (htnd : ∀ t ∈ ts, hasDup t.tipNames = false)
    (hnames : ∀ t ∈ ts, namesOK t = true)
    (hw : ∀ t ∈ ts, L.wf (renameT (stdMap 1 labels) t) = true)
    (hs : ∀ t ∈ ts, treeTextOK (C.write (renameT (stdMap 1 labels) t)) = true) :
    ∃ d, Nex.parse C (writeNexusStd C labels ts) = .ok d ∧ recsAre ts (recsOfTrees (d.map (·.2)) 0) 0 = true :=
  parse_std C L labels ts hn (by simpa [List.all_eq_true] using hlab) hnd hset htnd hnames hw hs

/-- `nexus_std_roundtrip` with C01's Newick model -/
theorem nexus_std_roundtrip_c01 (F : Newick.FloatCodec) (labels : List String) (ts : List T)
    (hn : labels.length ≤ 9223372036854775807)
    (hlab : labels.all labelOK = true)
    (hnd : hasDup labels = false)
    (hset : ∀ t ∈ ts, sameSet t.tipNames labels = true)
    (htnd : ∀ t ∈ ts, hasDup t.tipNames = false)
    (hnames : ∀ t ∈ ts, namesOK t = true)
    (hw : ∀ t ∈ ts, (c01Laws F).wf (renameT (stdMap 1 labels) t) = true)
    (hs : ∀ t ∈ ts, treeTextOK ((c01Codec F).write (renameT (stdMap 1 labels) t)) = true) :
    ∃ d, Nex.parse (c01Codec F) (writeNexusStd (c01Codec F) labels ts) = .ok d ∧
      recsAre ts (recsOfTrees (d.map (·.2)) 0) 0 = true :=
  nexus_std_roundtrip (c01Codec F) (c01Laws F) labels ts hn hlab hnd hset htnd hnames hw hs

/-- with the decimal number codec: no assumption left on numbers -/
theorem phyloxml_forms_chain_decimal (C : NewickCodec) (sty : String → Px.NameStyle) (junk : List Px.Xml)
    (hj : Px.junkOK junk = true) (padL padR : Txt) (hpl : Px.padOK padL = true) (hpr : Px.padOK padR = true) (ts : List T) (hne : ts ≠ []) (h : ∀ t ∈ ts, pxOK decDom t = true) :
    ∃ recs, readMulti ⟨C, decCodec⟩ (.phyloxml (some (Px.encodeAlt decCodec sty junk padL padR ts))) = some recs ∧
      recsAre ts recs 0 = true :=
  phyloxml_forms_chain ⟨C, decCodec⟩ decNumLaws sty junk hj padL padR hpl hpr ts hne h

/-- what the reader does NOT follow: the tag and the attributes of a clade element play no role in
    decoding it, so a branch length given as the ATTRIBUTE `branch_length="…"` of `<clade>` (legal
    PhyloXML) is lost — the harness tags such documents `attr-length` and compares model against code only -/
theorem phyloxml_clade_attributes_ignored (N : NumCodec) (tag tag' : String) (a a' : List (String × String))
    (k : List Px.Xml) : Px.decClade N (.elem tag a k) = Px.decClade N (.elem tag' a' k) := by
  rw [Px.decClade, Px.decClade]

/-- the `rooted` attribute of `<phylogeny>`: any Go boolean (`1 t T TRUE true True 0 f F FALSE false False`,
    blanks around it, or the empty value) is accepted and its value plays no role in what is read … -/
theorem phyloxml_rooted_value_irrelevant (N : NumCodec) (tag : String) (v v' : String) (k : List Px.Xml)
    (hv : Px.parseBoolOk v = true) (hv' : Px.parseBoolOk v' = true) :
    Px.decPhylogeny N (.elem tag [("rooted", v)] k) = Px.decPhylogeny N (.elem tag [("rooted", v')] k) := by
  simp [Px.decPhylogeny, hv, hv', Px.Xml.kids]

/-- … anything else makes `xml.Unmarshal`, hence the reader, fail -/
theorem phyloxml_rooted_invalid_fails (N : NumCodec) (tag : String) (v : String) (k : List Px.Xml)
    (hv : Px.parseBoolOk v = false) : Px.decPhylogeny N (.elem tag [("rooted", v)] k) = .err := by
  simp [Px.decPhylogeny, hv]

/- ## PhyloXML with the float codec of property C01

   `numOf F` turns a float codec of C01 into this property's number codec; the driver's `goNum` is
   `numOf Newick.goCodec` (`goNum_eq`).  C01's three codec laws give the law needed here (`c01NumLaws`), so
   the PhyloXML theorems hold under exactly the assumption C01 makes on `strconv`, and without any
   assumption for C01's `ratCodec`. -/

theorem phyloxml_chain_c01 (C : NewickCodec) (F : Newick.FloatCodec) (ts : List T) (hne : ts ≠ [])
    (h : ∀ t ∈ ts, pxOK F.dom t = true) :
    ∃ recs, readMulti ⟨C, numOf F.toCodec⟩ (.phyloxml (some (Px.encode (numOf F.toCodec) ts))) = some recs ∧
      recsAre ts recs 0 = true :=
  phyloxml_chain ⟨C, numOf F.toCodec⟩ (c01NumLaws F) ts hne h

theorem phyloxml_forms_chain_c01 (C : NewickCodec) (F : Newick.FloatCodec) (sty : String → Px.NameStyle)
    (junk : List Px.Xml) (hj : Px.junkOK junk = true) (padL padR : Txt) (hpl : Px.padOK padL = true)
    (hpr : Px.padOK padR = true) (ts : List T) (hne : ts ≠ []) (h : ∀ t ∈ ts, pxOK F.dom t = true) :
    ∃ recs, readMulti ⟨C, numOf F.toCodec⟩ (.phyloxml (some (Px.encodeAlt (numOf F.toCodec) sty junk padL padR ts))) = some recs ∧
      recsAre ts recs 0 = true :=
  phyloxml_forms_chain ⟨C, numOf F.toCodec⟩ (c01NumLaws F) sty junk hj padL padR hpl hpr ts hne h

/-- PhyloXML round trip for the codecs the DRIVER runs (`goNum` = C01's executable model of
    FormatFloat/ParseFloat, law proved on C01's structural domain `goDomS`, which the driver evaluates on
    every number of every case): no assumption on numbers beyond `goDomS` -/
theorem phyloxml_chain_go (C : NewickCodec) (ts : List T) (hne : ts ≠ []) (h : ∀ t ∈ ts, pxOK Newick.goDomS t = true) :
    ∃ recs, readMulti ⟨C, goNum⟩ (.phyloxml (some (Px.encode goNum ts))) = some recs ∧ recsAre ts recs 0 = true :=
  phyloxml_chain ⟨C, goNum⟩ goNumLaws ts hne h

theorem phyloxml_forms_chain_go (C : NewickCodec) (sty : String → Px.NameStyle)
    (junk : List Px.Xml) (hj : Px.junkOK junk = true) (padL padR : Txt) (hpl : Px.padOK padL = true)
    (hpr : Px.padOK padR = true) (ts : List T) (hne : ts ≠ []) (h : ∀ t ∈ ts, pxOK Newick.goDomS t = true) :
    ∃ recs, readMulti ⟨C, goNum⟩ (.phyloxml (some (Px.encodeAlt goNum sty junk padL padR ts))) = some recs ∧
      recsAre ts recs 0 = true :=
  phyloxml_forms_chain ⟨C, goNum⟩ goNumLaws sty junk hj padL padR hpl hpr ts hne h

/- ## Nextstrain

   gotree only READS Nextstrain JSON.  `nsOf div t` (Model/C13NsSpec.lean) is the specification of the
   document (decoded: name, divergence, children) that describes the tree `t` when its root has the
   divergence `div`: the divergence of a node is its parent's plus the branch length. -/

/-- the Nextstrain reader model returns the tree the document describes: same shape, names and branch
    lengths (differences of divergences), through both entry points — for every tree whose tips are
    named and that carries no supports (`nsNodeOK`: the format has no place for them) -/
theorem nextstrain_reads_tree (E : Env) (div : Rat) (t : T) (h : nsNodeOK t = true) :
    ∃ t', readMulti E (.nextstrain (some (nsOf div t))) = some [⟨0, .ok t'⟩] ∧
      readFirst E (.nextstrain (some (nsOf div t))) = some (.ok t') ∧
      strip t' = strip t ∧ recsAre [t] [⟨0, .ok t'⟩] 0 = true := by
  have hs : strip (renumber (nsOf div t).toT) = strip t := by rw [strip_renumber, ns_strip div t h]
  refine ⟨renumber (nsOf div t).toT, ?_, ?_, hs, ?_⟩
  · simp [readMulti, Ns.firstTree, ns_tipsNamed div t h]
  · simp [readFirst, Ns.firstTree, ns_tipsNamed div t h]
  · simp only [recsAre, Out.keptEq, beq_self_eq_true, Bool.true_and, Bool.and_true]
    exact (sameKept_iff _ _).2 hs

/- ## the hypotheses are satisfiable on a non-trivial tree

   `exTree` = `(a:0.5,(b:1,c:0)0.75,d);` (unrooted, multifurcating root, an inner branch with support, a
   zero and an absent length); `exCodec`/`exLaws` a Newick codec with the five laws proved
   (Lemmas/C13Ex.lean); `exNumLaws` the decimal codec on the values used. -/

example : exLaws.toNewickLaws.wf exTree = true := by decide +kernel

/-- multi_delivers_all / multi_delivers_all_spec -/
example : recsAre [exTree, exTree] (readMultiNewick exCodec (unlines ([exTree, exTree].map exCodec.write))) 0 = true :=
  multi_delivers_all_spec exCodec exLaws.toNewickLaws [exTree, exTree] (by simp)
    (by intro t ht; simp at ht; subst ht; decide +kernel)

/-- first_eq_head (Newick): a wrapped first tree with a blank line in front and a second tree on the
    same line satisfies the hypothesis -/
example : firstOwnLines (.newick "\n (a:0.5,\n(b:1,c:0)0.75,d);(x,y);\n(z,w);\n".toList) = true := by
  rw [String.toList_lit (by rfl)]; decide +kernel

example : readFirst ⟨exCodec, decCodec⟩ (.newick "\n (a:0.5,\n(b:1,c:0)0.75,d);(x,y);\n(z,w);\n".toList) =
    (readMulti ⟨exCodec, decCodec⟩ (.newick "\n (a:0.5,\n(b:1,c:0)0.75,d);(x,y);\n(z,w);\n".toList)).map headOut :=
  first_eq_head ⟨exCodec, decCodec⟩ exLaws _ (by rw [String.toList_lit (by rfl)]; decide +kernel)

/-- phyloxml_roundtrip -/
example : pxOK exNumLaws.dom exTree = true := by decide +kernel

example : ∃ recs, readMulti ⟨exCodec, decCodec⟩ (.phyloxml (some (Px.encode decCodec [exTree, exTree]))) = some recs ∧
    recsAre [exTree, exTree] recs 0 = true :=
  phyloxml_chain ⟨exCodec, decCodec⟩ exNumLaws [exTree, exTree] (by simp)
    (by intro t ht; simp at ht; subst ht; decide +kernel)

/-- nexus_roundtrip_plain -/
example : treeTextOK (exCodec.write exTree) = true ∧ tipsOK exTree = true ∧ sameTaxa [exTree, exTree] = true := by
  decide +kernel

example : ∃ d, Nex.parse exCodec (writeNexus exCodec false (enumFrom 0 [exTree, exTree])) = .ok d ∧
    recsAre [exTree, exTree] (recsOfTrees (d.map (·.2)) 0) 0 = true :=
  nexus_roundtrip_plain exCodec exLaws.toNewickLaws [exTree, exTree]
    (by intro t ht; simp at ht; subst ht; decide +kernel)
    (by intro t ht; simp at ht; subst ht; decide +kernel)
    (by intro t ht; simp at ht; subst ht; decide +kernel)
    (by decide +kernel)

/-- the C01-composed statements: `exTree` is in C01's quantifier and its text is plain, for C01's
    lawful float codec `ratCodec` -/
example : (C01.WF01 Newick.ratCodec.isFloat Newick.ratCodec.dom exTree &&
    plainText (Newick.write Newick.ratCodec.toCodec exTree)) = true := by decide +kernel

/-- nexus_roundtrip_translate_partial: all hypotheses hold for `[exTree, exTree]` with C01's codec (`ratCodec`) -/
example : ∃ d, Nex.parse (c01Codec Newick.ratCodec) (writeNexus (c01Codec Newick.ratCodec) true (enumFrom 0 [exTree, exTree])) = .ok d ∧
    recsAre [exTree, exTree] (recsOfTrees (d.map (·.2)) 0) 0 = true :=
  nexus_roundtrip_translate_partial (c01Codec Newick.ratCodec) (c01Laws Newick.ratCodec) exTree [exTree]
    (by intro t ht; simp at ht; subst ht; decide +kernel)
    (by decide +kernel)
    (by intro t ht; simp at ht; subst ht; decide +kernel)
    (by intro t ht; simp at ht; subst ht; decide +kernel)
    (by intro t ht; simp at ht; subst ht; decide +kernel)
    (by intro t ht; simp at ht; subst ht; decide +kernel)

/-- multi_delivers_all_layout: an empty line, a blank-only line, a leading blank, the tree wrapped
    after a comma, a trailing blank -/
example : ItemOK exCodec exTree ["".toList, "  ".toList, " (a:0.5,".toList, "(b:1,c:0)0.75,d); ".toList] where
  oneLine := by
    intro l hl
    simp only [List.mem_cons, List.not_mem_nil, or_false] at hl
    rcases hl with h | h | h | h <;> (subst h; exact ⟨by decide +kernel, by decide +kernel⟩)
  shape := ⟨["".toList, "  ".toList, " (a:0.5,".toList], "(b:1,c:0)0.75,d)".toList, " ".toList, "   ".toList,
    "(a:0.5,(b:1,c:0)0.75,d)".toList, by decide +kernel, by decide +kernel, by decide +kernel, by decide +kernel, by decide +kernel⟩

/-- nexus_std_roundtrip: all hypotheses hold for the taxa `[d, a, c, b]` (another order than the trees')
    and `[exTree, exTree]` with C01's codec (`ratCodec`) -/
example : ∃ d, Nex.parse (c01Codec Newick.ratCodec) (writeNexusStd (c01Codec Newick.ratCodec) ["d", "a", "c", "b"] [exTree, exTree]) = .ok d ∧
    recsAre [exTree, exTree] (recsOfTrees (d.map (·.2)) 0) 0 = true :=
  nexus_std_roundtrip_c01 Newick.ratCodec ["d", "a", "c", "b"] [exTree, exTree]
    (by decide +kernel) (by decide +kernel) (by decide +kernel)
    (by intro t ht; simp at ht; subst ht; decide +kernel)
    (by intro t ht; simp at ht; subst ht; decide +kernel)
    (by intro t ht; simp at ht; subst ht; decide +kernel)
    (by intro t ht; simp at ht; subst ht; decide +kernel)
    (by intro t ht; simp at ht; subst ht; decide +kernel)

/-- phyloxml_forms_chain_decimal: the hypotheses hold for `exTree` with a style that depends on the
    name, two unknown elements (one of them with a `<name>` of its own, nested, which is not followed), a blank
    before and a line end and a tab after every number -/
example : ∃ recs, readMulti ⟨exCodec, decCodec⟩ (.phyloxml (some (Px.encodeAlt decCodec
      (fun n => if n == "a" then .sciCode else if n == "b" then .nameTax else if n == "c" then .twice else .code)
      [.elem "color" [] [Px.el "red" "255"], .elem "events" [] [Px.el "name" "x"]] " ".toList "\n\t".toList [exTree, exTree]))) = some recs ∧
    recsAre [exTree, exTree] recs 0 = true :=
  phyloxml_forms_chain_decimal exCodec _ _ (by decide +kernel) _ _ (by decide +kernel) (by decide +kernel) [exTree, exTree] (by simp)
    (by intro t ht; simp at ht; subst ht; decide +kernel)

/-- nextstrain_reads_tree: the hypothesis holds for `(a:0.5,(b:1,c:0):0.75,d:2);`-like trees (all lengths, no support) -/
example : nsNodeOK (.node ⟨"", []⟩ 0 [(exE (1/2) NIL, T.leaf "a"),
    (exE (3/4) NIL, .node ⟨"in", []⟩ 0 [(exE 1 NIL, T.leaf "b"), (exE 0 NIL, T.leaf "c")]),
    (exE 2 NIL, T.leaf "d")]) = true := by decide +kernel

/-- phyloxml_chain_c01: the hypothesis holds for `exTree` with C01's `ratCodec` (no assumption on numbers) -/
example : ∃ recs, readMulti ⟨exCodec, numOf Newick.ratCodec.toCodec⟩
      (.phyloxml (some (Px.encode (numOf Newick.ratCodec.toCodec) [exTree, exTree]))) = some recs ∧
    recsAre [exTree, exTree] recs 0 = true :=
  phyloxml_chain_c01 exCodec Newick.ratCodec [exTree, exTree] (by simp)
    (by intro t ht; simp at ht; subst ht; decide +kernel)

/-- phyloxml_chain_go: the hypothesis holds for `exTree` (its numbers 0.5, 1, 0, 0.75 are in `goDomS`) -/
example : ∃ recs, readMulti ⟨exCodec, goNum⟩ (.phyloxml (some (Px.encode goNum [exTree, exTree]))) = some recs ∧
    recsAre [exTree, exTree] recs 0 = true :=
  phyloxml_chain_go exCodec [exTree, exTree] (by simp) (by intro t ht; simp at ht; subst ht; decide +kernel)

/-- multi_delivers_all_lines: two trees on the first line, one on the second -/
example : readMultiNewick exCodec (unlines ([[exTree, exTree], [exTree]].map fun g => (g.map exCodec.write).flatten)) =
    recsOfTrees ([[exTree, exTree], [exTree]].flatten.map exLaws.norm) 0 :=
  multi_delivers_all_lines exCodec exLaws [[exTree, exTree], [exTree]] (by simp)
    (by
      intro g hg
      simp only [List.mem_cons, List.not_mem_nil, or_false] at hg
      rcases hg with h | h <;> subst h
      · exact ⟨by simp, by intro t ht; simp at ht; subst ht; decide +kernel⟩
      · exact ⟨by simp, by intro t ht; simp at ht; subst ht; decide +kernel⟩)

/- ## white space after the last tree -/

/-- blank-only lines after the last line of ANY multi-tree Newick file change nothing: the reader delivers
    exactly the records of the file without them (no spurious "unterminated tree" record — the test is
    `strings.TrimSpace(line) != ""` — and no record lost).  `ls` are the lines of the file (any content:
    good, broken or unterminated trees), `tl` lines of blanks and tabs. -/
theorem multi_trailing_blank_lines_ignored (C : NewickCodec) (ls tl : List Txt) (hls : ∀ l ∈ ls, oneLine l)
    (htl : ∀ l ∈ tl, ∀ c ∈ l, isBlank c = true) :
    readMultiNewick C (unlines (ls ++ tl)) = readMultiNewick C (unlines ls) :=
  readMultiNewick_trailing_blank_lines C ls tl hls htl

/-- the same for blanks after the last line end, without a line end of their own -/
theorem multi_trailing_blanks_nonl_ignored (C : NewickCodec) (ls : List Txt) (b : Txt) (hls : ∀ l ∈ ls, oneLine l)
    (hb : ∀ c ∈ b, isBlank c = true) :
    readMultiNewick C (unlines ls ++ b) = readMultiNewick C (unlines ls) :=
  readMultiNewick_trailing_blanks_nonl C ls b hls hb

/-- multi_trailing_blank_lines_ignored: the hypotheses hold for the file `exText` followed by the lines
    " \t" and "" -/
example : readMultiNewick exCodec (unlines ([exText] ++ [" \t".toList, []])) = readMultiNewick exCodec (unlines [exText]) :=
  multi_trailing_blank_lines_ignored exCodec [exText] [" \t".toList, []]
    (by intro l hl; simp at hl; subst hl; exact ⟨by decide +kernel, by decide +kernel⟩)
    (by intro l hl; simp at hl; rcases hl with rfl | rfl <;> decide +kernel)

/- ## the regenerated tables and the format flag

   `Gotree/Gen/C13Tables.lean` is rewritten from the working tree on every run by harness/c13/extract.go
   (go/parser): the facts about the source that the hand-written model assumes.  The theorems below
   re-decide them; when one no longer checks, the run still looks for a concrete failing input (the generator
   draws its key-word labels and flag values from the same extraction). -/

/-- `Nex.keywordOf` IS the switch of `scanIdent` as it stands in the source: for every literal, the model's
    key word is the token of the first row of the regenerated table that matches its upper-case form, and no
    key word (IDENT) when no row matches.  A word added to, removed from or re-targeted in the lexer breaks
    this theorem. -/
theorem lexer_keyword_table_check (s : String) :
    Nex.keywordOf s = Nex.keywordOfTable Gen.C13.lexerKeywords s :=
  Nex.keywordOf_table s

/-- `Nex.isIdent` / `Nex.isWs` are `isIdent` / `isWhitespace` of nexus_token.go: the characters compared there -/
theorem lexer_chars_table_check (c : Char) :
    Nex.isIdent c = Nex.identOfTable Gen.C13.identStops Gen.C13.whitespaceChars c ∧
    Nex.isWs c = Nex.wsOfTable Gen.C13.whitespaceChars c :=
  ⟨Nex.isIdent_table c, Nex.isWs_table c⟩

/-- the rest of the lexer's shape: default token IDENT, the switch is on `strings.ToUpper`, `isIdent` excludes
    white space, and the punctuation switch of `Scan` is the one `Nex.scanGo` follows.  (The base and size given
    to `ParseInt` are in the table for information only: IDENT and NUMERIC tokens are names alike, so another
    base changes no observation of this property.) -/
theorem lexer_shape_table_check :
    Gen.C13.lexerDefault = "IDENT" ∧ Gen.C13.lexerSwitchOnToUpper = true ∧
    Gen.C13.identExcludesWhitespace = true ∧ Gen.C13.lexerPunct = assumedPunct := by decide +kernel

/-- the xml tags `Px.decode` looks for are the struct tags of io/phyloxml, the order name / scientific name /
    code of `Px.Clade.label` is the if-chain of cladeToTree, and the support is read exactly for clades that have
    children (the guard of SetSupport evaluated on 0, 1, 2, 3 children; its spelling is in the table for information) -/
theorem phyloxml_tags_table_check :
    Gen.C13.xmlTags = assumedXmlTags ∧ Gen.C13.cladeNameOrder = assumedNameOrder ∧
    Gen.C13.supportGuardProbes = assumedSupportProbes := by decide +kernel

/-- `readMulti` / `readFirst` dispatch as `ReadMultiTrees` / `ReadTreeReader` do: four constants in iota
    order, each reaching the parser of its package -/
theorem reader_dispatch_table_check :
    Gen.C13.formatConsts = assumedFormatConsts ∧ Gen.C13.multiReaders = assumedMultiReaders ∧
    Gen.C13.firstReaders = assumedFirstReaders := by decide +kernel

/-- `formatOfFlag` IS the switch on `rootInputFormat` of cmd/root.go, default included, for every string -/
theorem format_flag_table_check (s : String) :
    (formatOfFlag s).constName = tableLookup Gen.C13.formatFlags Gen.C13.formatDefault s :=
  formatOfFlag_table s

/-- `reformatGlue` calls the writer the command calls; all three commands read with the multi-tree reader;
    `--translate` (false by default) is WriteNexus's second argument; the flag defaults of `gotree reformat` -/
theorem reformat_glue_table_check :
    Gen.C13.reformatGlue = assumedReformat ∧ Gen.C13.reformatFlags = assumedReformatFlags := by decide +kernel

/-- what the flag selects: each of the three other readers by exactly its word; EVERY other string — another
    letter case, an abbreviation, the empty string — silently selects the Newick reader -/
theorem format_flag_selects (s : String) :
    (formatOfFlag s = .nexus ↔ s = "nexus") ∧ (formatOfFlag s = .phyloxml ↔ s = "phyloxml") ∧
    (formatOfFlag s = .nextstrain ↔ s = "nextstrain") ∧
    (s ≠ "nexus" → s ≠ "phyloxml" → s ≠ "nextstrain" → formatOfFlag s = .newick) :=
  ⟨formatOfFlag_nexus s, formatOfFlag_phyloxml s, formatOfFlag_nextstrain s, formatOfFlag_other s⟩

/-- `gotree reformat newick --format <s>` with a value that is none of the three other words runs the Newick
    multi-tree reader on the file whatever the file holds (a Nexus file given with `--format NEXUS` is parsed as
    Newick): the command is the Newick reader followed by the glue -/
theorem reformat_flag_unknown_reads_newick (E : Env) (s : String) (text : Txt) (x : Option Px.Xml) (n : Option Ns.Node)
    (h1 : s ≠ "nexus") (h2 : s ≠ "phyloxml") (h3 : s ≠ "nextstrain") :
    reformatNewickFlag E s text x n = some (reformatGlue E .newick false (readMultiNewick E.C text)) := by
  simp [reformatNewickFlag, formatOfFlag_other s h1 h2 h3, docForFlag, readMulti]

/-- with the documented word the command is that format's multi-tree reader followed by the glue -/
theorem reformat_flag_documented (E : Env) (text : Txt) (x : Option Px.Xml) (n : Option Ns.Node) :
    reformatNewickFlag E "nexus" text x n = (readMulti E (.nexus text)).map (reformatGlue E .newick false) ∧
    reformatNewickFlag E "newick" text x n = (readMulti E (.newick text)).map (reformatGlue E .newick false) ∧
    reformatNewickFlag E "phyloxml" text x n = (readMulti E (.phyloxml x)).map (reformatGlue E .newick false) ∧
    reformatNewickFlag E "nextstrain" text x n = (readMulti E (.nextstrain n)).map (reformatGlue E .newick false) :=
  ⟨rfl, rfl, rfl, rfl⟩

/-- the whole command on a Newick file whose trees each end their line, for every flag value that reaches
    the Newick reader (the documented "newick" as well as NEXUS, nwk, the empty string …): exit status 0 and
    every tree written back, in order — composition of the flag switch, `multi_delivers_all` and the glue -/
theorem reformat_flag_newick_file (E : Env) (L : NewickLaws E.C) (ts : List T) (hne : ts ≠ [])
    (hw : ∀ t ∈ ts, L.wf t = true) (s : String) (x : Option Px.Xml) (n : Option Ns.Node)
    (h1 : s ≠ "nexus") (h2 : s ≠ "phyloxml") (h3 : s ≠ "nextstrain") :
    reformatNewickFlag E s (unlines (ts.map E.C.write)) x n =
      some (true, Px.joinT (fun t => E.C.write t ++ ['\n']) (ts.map L.norm)) := by
  rw [reformat_flag_unknown_reads_newick E s _ x n h1 h2 h3, multi_delivers_all E.C L ts hne hw, reformatGlue_good]

/-- observation (a user error, not counted as a defect: an error IS reported): the Nexus document gotree
    itself writes for two trees, given back with `--format NEXUS`, is read as Newick and the command fails
    without writing anything; with `--format nexus` it succeeds (corpus/C13-format-flag.txt) -/
theorem reformat_flag_wrong_case_fails :
    reformatNewickFlag ⟨exCodec, decCodec⟩ "NEXUS" (writeNexus exCodec false [(0, exTree), (1, exTree)]) none none = some (false, []) ∧
    (reformatNewickFlag ⟨exCodec, decCodec⟩ "nexus" (writeNexus exCodec false [(0, exTree), (1, exTree)]) none none).map (·.1)
      = some true := by
  constructor <;> decide +kernel

/-- reformat_flag_newick_file: the hypotheses hold for two copies of `exTree` and the value "nwk" -/
example : reformatNewickFlag ⟨exCodec, decCodec⟩ "nwk" (unlines ([exTree, exTree].map exCodec.write)) none none =
    some (true, Px.joinT (fun t => exCodec.write t ++ ['\n']) ([exTree, exTree].map exLaws.toNewickLaws.norm)) :=
  reformat_flag_newick_file ⟨exCodec, decCodec⟩ exLaws.toNewickLaws [exTree, exTree] (by simp)
    (by intro t ht; simp at ht; subst ht; decide +kernel) "nwk" none none (by decide +kernel) (by decide +kernel) (by decide +kernel)

/-- format_flag_selects / reformat_flag_unknown_reads_newick: the hypotheses hold for "NEXUS" -/
example : formatOfFlag "NEXUS" = .newick ∧ formatOfFlag "nexus" = .nexus ∧ formatOfFlag "" = .newick := by decide +kernel

end Gotree.C13

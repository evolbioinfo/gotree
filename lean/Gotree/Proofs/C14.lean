/-
  C14 — the property theorems (DESIGN §6 C14).  Everything is about the model
  of `Gotree/Model/C14.lean`; the Spec predicates are those of `Gotree/Spec/C14.lean`
  that the driver also evaluates on the implementation's own output.

  `hu : t.tipNames.Nodup` is the hypothesis "tip names are unique".
-/
import Gotree.Lemmas.C14Invar
import Gotree.Lemmas.C14Avg
import Gotree.Lemmas.C14Walk
import Gotree.Lemmas.C14CutLoop
import Gotree.Lemmas.C14Doc
import Gotree.Lemmas.C14Bag
import Gotree.Lemmas.C14CliThr

namespace Gotree.C14
open Gotree

/-! ### the hypotheses are satisfiable on non-trivial trees -/

example : exT.tipNames = ["A", "B", "C", "D"] := by decide
example : exT.tipNames.Nodup := by decide
example : exTipRoot.tipNames = ["D", "A", "B", "C"] := by decide
example : exTipRoot.tipNames.Nodup := by decide
example : "A" ∈ exT.tipNames ∧ "C" ∈ exT.tipNames ∧ "A" ≠ "C" := by decide

/-! ### distance matrix -/

/-- Every entry the walk from tip `a` writes for another tip `b` is the sum of
    the branch weights over the branches separating `a` from `b`. -/
theorem row_eq_pathsum (w : EdgeD → Rat) (t : T) (hu : t.tipNames.Nodup) (a b : String)
    (ha : a ∈ t.tipNames) (hb : b ∈ t.tipNames) (hab : a ≠ b) :
    (row w t a).lookup b = some (distW w t.splits a b) :=
  row_lookup w t hu a b ha hb hab

/- concrete instances (kernel-evaluated): A–C crosses 1, 1/2 and 3; seen from the
   tip-rooted tree, A–D crosses 1, 1/2 and 1 -/
example : (row Metric.brlen.w exT "A").lookup "C" = some (9/2) := by decide +kernel
example : distW Metric.brlen.w exT.splits "A" "C" = 9/2 := by decide +kernel
example : (row Metric.brlen.w exTipRoot "A").lookup "D" = some (5/2) := by decide +kernel
example : (row Metric.brlen.w exTipRoot "D").lookup "B" = some (7/2) := by decide +kernel

/-- The model's matrix meets the Spec that is used as oracle. -/
theorem matrix_eq_pathsum (m : Metric) (t : T) (hu : t.tipNames.Nodup) :
    matrixOK m t (matrix m t).1 (matrix m t).2 = true := by
  unfold matrixOK
  rw [Bool.and_eq_true, beq_iff_eq, beq_iff_eq]
  exact ⟨rfl, matrix_spec m t hu⟩

/-- The matrix is `n × n` for `n` the number of tips (gives their meaning to the
    `getD` statements below). -/
theorem matrix_square (m : Metric) (t : T) :
    (matrix m t).1.length = t.tipNames.length ∧
    (matrix m t).2.length = t.tipNames.length ∧
    ∀ r ∈ (matrix m t).2, r.length = t.tipNames.length := by
  have hl : (matrix m t).1.length = t.tipNames.length := (sortNames_perm t.tipNames).length_eq
  have h := matrix_isSquare m t
  exact ⟨hl, hl ▸ h.length, fun r hr => hl ▸ h.row_length r hr⟩

theorem matrix_symmetric (m : Metric) (t : T) (hu : t.tipNames.Nodup) (i j : Nat) :
    ((matrix m t).2.getD i []).getD j 0 = ((matrix m t).2.getD j []).getD i 0 := by
  rw [matrix_spec m t hu,
    entry_map_map _ (fun a b => if a == b then 0 else pathSum m t a b),
    entry_map_map _ (fun a b => if a == b then 0 else pathSum m t a b)]
  cases (sortNames t.tipNames)[i]? <;> cases (sortNames t.tipNames)[j]? <;> try rfl
  rename_i a b
  by_cases h : a = b
  · simp [h]
  · have h1 : (a == b) = false := by simpa using h
    have h2 : (b == a) = false := by simpa using Ne.symm h
    simp only [h1, h2, Bool.false_eq_true, if_false]
    exact pathSum_comm m t a b

theorem matrix_zero_diag (m : Metric) (t : T) (i : Nat) :
    ((matrix m t).2.getD i []).getD i 0 = 0 := by
  have : (matrix m t).2 = (sortNames t.tipNames).map fun a => (sortNames t.tipNames).map
      ((fun a b => if a == b then 0 else ((row m.w t a).lookup b).getD 0) a) := rfl
  rw [this, entry_map_map]
  cases (sortNames t.tipNames)[i]? <;> simp

/-- Rows and columns are the tips in increasing name order. -/
theorem matrix_rows_sorted (m : Metric) (t : T) :
    (matrix m t).1 = sortNames t.tipNames ∧
    (sortNames t.tipNames).Pairwise (· ≤ ·) ∧
    (sortNames t.tipNames).Perm t.tipNames :=
  ⟨rfl, sortNames_sorted _, sortNames_perm _⟩

/-! ### average -/

/-- When `AvgDistanceMatrix` succeeds on a non-empty list of trees: the names are
    the sorted tips of the first tree, every tree has the same sorted tips, the
    result is `n × n` and each entry is the mean of the entries of the
    individual matrices. -/
theorem avg_is_mean (m : Metric) (ts : List T) (hne : ts ≠ []) (names : List String)
    (M : List (List Rat)) (h : avgMatrix m ts = some (names, M)) :
    names = sortNames (ts.head hne).tipNames ∧
    (∀ u ∈ ts, sortNames u.tipNames = names) ∧
    M.length = names.length ∧ (∀ r ∈ M, r.length = names.length) ∧
    ∀ i j : Nat, (M.getD i []).getD j 0 =
      (ts.map fun u => ((matrix m u).2.getD i []).getD j 0).sum / ((ts.length : Nat) : Rat) := by
  cases ts with
  | nil => exact absurd rfl hne
  | cons t ts =>
    rw [avgMatrix_cons] at h
    split at h
    · rename_i hall
      simp only [Option.some.injEq, Prod.mk.injEq] at h
      obtain ⟨h1, h2⟩ := h
      simp only [List.all_eq_true, beq_iff_eq] at hall
      have hsame : ∀ u ∈ ts, (matrix m u).1.length = names.length := fun u hu => by
        rw [hall u hu, h1]
      obtain ⟨hsq, hent⟩ := sumM_spec m names.length ts (matrix m t).2
        (h1 ▸ matrix_isSquare m t) hsame
      have hsq' := div_square _ ((ts.length + 1 : Nat) : Rat) hsq
      rw [h2] at hsq'
      refine ⟨h1.symm, ?_, hsq'.length, hsq'.row_length, fun i j => ?_⟩
      · intro u hu
        rcases List.mem_cons.1 hu with rfl | hu
        · exact h1
        · exact (hall u hu).trans h1
      · rw [← h2, div_entry, hent i j]
        simp only [List.map_cons, List.sum_cons, List.length_cons]
    · exact absurd h (by simp)

/-- Different taxa are rejected, and only they. -/
theorem avg_different_taxa_err (m : Metric) (ts : List T) :
    avgMatrix m ts = none ↔
      ∃ hne : ts ≠ [], ∃ u ∈ ts, sortNames u.tipNames ≠ sortNames (ts.head hne).tipNames := by
  cases ts with
  | nil => simp [avgMatrix]
  | cons t ts =>
    rw [avgMatrix_cons]
    constructor
    · intro h
      split at h
      · exact absurd h (by simp)
      · rename_i hall
        simp only [Bool.not_eq_true, List.all_eq_false, beq_iff_eq] at hall
        obtain ⟨u, hu, hne⟩ := hall
        exact ⟨by simp, u, by simp [hu], hne⟩
    · rintro ⟨_, u, hu, hne⟩
      rcases List.mem_cons.1 hu with rfl | hu
      · exact absurd rfl hne
      · have : ¬ (ts.all fun u => (matrix m u).1 == (matrix m t).1) = true := by
          simp only [Bool.not_eq_true, List.all_eq_false, beq_iff_eq]
          exact ⟨u, hu, hne⟩
        simp [this]

/-- two different trees on the same taxa are accepted (so the hypothesis of
    `avg_is_mean` is satisfiable on a list of distinct trees) -/
example : avgMatrix .brlen [exT, exTipRoot] ≠ none := by
  rw [Ne, avg_different_taxa_err]
  rintro ⟨_, u, hu, hne⟩
  have hp : exTipRoot.tipNames.Perm exT.tipNames := by decide
  simp only [List.mem_cons, List.not_mem_nil, or_false] at hu
  rcases hu with rfl | rfl
  · exact hne rfl
  · exact hne (sortNames_eq_of_perm hp)

/-! ### cut -/

/-- Two tips share a bag iff every branch separating them is shorter than the threshold. -/
theorem cut_components (thr : Rat) (t : T) (hu : t.tipNames.Nodup) (a b : String)
    (ha : a ∈ t.tipNames) (hb : b ∈ t.tipNames) :
    sameBag (cut thr t) a b = pathShort thr t a b :=
  cut_sameBag thr t hu a b ha hb

/- concrete instances (kernel-evaluated), threshold 2: B (length 2) and C (length 3)
   are cut off, A and D stay together, also when D is the root -/
example : cut 2 exT = [["A", "D"], ["B"], ["C"]] := by decide +kernel
example : cut 2 exTipRoot = [["D", "A"], ["B"], ["C"]] := by decide +kernel
example : sameBag (cut 2 exT) "A" "D" = true ∧ pathShort 2 exT "A" "D" = true ∧
    sameBag (cut 2 exT) "A" "B" = false ∧ pathShort 2 exT "A" "B" = false := by decide +kernel

/-- The bags partition the tips. -/
theorem cut_partition (thr : Rat) (t : T) :
    ((cut thr t).flatten).Perm t.tipNames ∧ ∀ g ∈ cut thr t, g ≠ [] :=
  ⟨cut_perm thr t, cut_nonempty thr t⟩

/-- The model's cut meets the Spec that is used as oracle. -/
theorem cutOK_holds (thr : Rat) (t : T) (hu : t.tipNames.Nodup) :
    cutOK thr t (cut thr t) = true := by
  simp only [cutOK, Bool.and_eq_true, List.all_eq_true, beq_iff_eq]
  refine ⟨⟨sortNames_eq_of_perm (cut_partition thr t).1, fun g hg => ?_⟩, fun a ha b hb => ?_⟩
  · cases g with
    | nil => exact absurd rfl ((cut_partition thr t).2 _ hg)
    | cons x g => rfl
  · exact cut_components thr t hu a b ha hb

/-! ## invariances, monotonicity, more on the average

  `C05.moveRoot t i` is the one-edge root move of C05's model (`Reroot` is a sequence of
  them); `Reord t t'` says `t'` is `t` with the children of any nodes, at any depth, listed in
  another order (and any parent positions). -/

/-- a non-trivial reordering: the two cherries of `exT` swapped at the root and inside -/
def exTReord : T :=
  .node ⟨"", []⟩ 0 [
    (mkE 1 4, T.leaf "D"),
    (mkE (1/2) 0, .node ⟨"", []⟩ 1 [(mkE 2 2, T.leaf "B"), (mkE 1 1, T.leaf "A")]),
    (mkE 3 3, T.leaf "C")]

/-- the hypothesis of the two `_reorder` theorems is satisfiable on a non-trivial pair -/
example : Reord exT exTReord := by
  unfold exT exTReord
  refine Reord.node _ 0 0 (k₂ := [
    (mkE (1/2) 0, .node ⟨"", []⟩ 1 [(mkE 2 2, T.leaf "B"), (mkE 1 1, T.leaf "A")]),
    (mkE 3 3, T.leaf "C"), (mkE 1 4, T.leaf "D")]) ?_ ?_
  · refine .cons _ ?_ (.cons _ ?_ (.cons _ ?_ .nil))
    · exact Reord.node _ 0 1 (k₂ := [(mkE 1 1, T.leaf "A"), (mkE 2 2, T.leaf "B")])
        (.cons _ (Reord.node _ 0 0 .nil (List.Perm.refl _)) (.cons _ (Reord.node _ 0 0 .nil (List.Perm.refl _)) .nil))
        (List.Perm.swap _ _ _)
    · exact Reord.node _ 0 0 .nil (List.Perm.refl _)
    · exact Reord.node _ 0 0 .nil (List.Perm.refl _)
  · exact (List.perm_append_comm (l₁ := [_]) (l₂ := [_, _]))

/-- The matrix does not depend on where the root is: a one-edge root move (hence any
    re-rooting, a sequence of them) leaves names, row order and every entry unchanged. -/
theorem matrix_moveRoot (m : Metric) (t : T) (i : Nat) (hu : t.tipNames.Nodup) :
    matrix m (C05.moveRoot t i) = matrix m t :=
  matrix_congr m t _ hu (C05.moveRoot_tips t i) (fun a ha b hb => C05.moveRoot_distW m.w t i hu a b ha hb)

/- the hypothesis is satisfiable where the root really moves, onto a tip even -/
example : (C05.moveRoot exT 0).tipNames = ["C", "D", "A", "B"] ∧ (C05.moveRoot exT 0).kids.length = 3 := by decide
example : (C05.moveRoot exT 2).tipNames = ["D", "A", "B", "C"] ∧ (C05.moveRoot exT 2).kids.length = 1 := by decide

/-- The matrix does not depend on the order of the children, at any depth. -/
theorem matrix_reorder (m : Metric) {t t' : T} (h : Reord t t') (hu : t.tipNames.Nodup) :
    matrix m t' = matrix m t :=
  matrix_congr m t t' hu h.tipNames (fun a _ b _ => reord_distW m.w h a b)

/-- The bags do not depend on where the root is: the same pairs of tips share a bag, and the
    bags cover the same tips. -/
theorem cut_moveRoot (thr : Rat) (t : T) (i : Nat) (hu : t.tipNames.Nodup) :
    (∀ a ∈ t.tipNames, ∀ b ∈ t.tipNames,
      sameBag (cut thr (C05.moveRoot t i)) a b = sameBag (cut thr t) a b) ∧
    (cut thr (C05.moveRoot t i)).flatten.Perm (cut thr t).flatten :=
  ⟨fun a ha b hb => cut_sameBag_moveRoot thr t i hu a b ha hb,
   (cut_perm thr _).trans ((C05.moveRoot_tips t i).trans (cut_perm thr t).symm)⟩

/-- The bags do not depend on the order of the children either. -/
theorem cut_reorder (thr : Rat) {t t' : T} (h : Reord t t') (hu : t.tipNames.Nodup) :
    (∀ a ∈ t.tipNames, ∀ b ∈ t.tipNames, sameBag (cut thr t') a b = sameBag (cut thr t) a b) ∧
    (cut thr t').flatten.Perm (cut thr t).flatten := by
  have hp := h.tipNames
  refine ⟨fun a ha b hb => ?_, (cut_perm thr _).trans (hp.trans (cut_perm thr t).symm)⟩
  rw [cut_sameBag thr t' (hp.nodup_iff.2 hu) a b (hp.mem_iff.2 ha) (hp.mem_iff.2 hb),
    cut_sameBag thr t hu a b ha hb, reord_pathShort thr h]

/-- Threshold monotonicity: every bag for a threshold lies inside one bag for any larger
    threshold (so the bags for the larger one are unions of bags for the smaller one). -/
theorem cut_threshold_mono (thr thr' : Rat) (hle : thr ≤ thr') (t : T) (hu : t.tipNames.Nodup) :
    ∀ g ∈ cut thr t, ∃ g' ∈ cut thr' t, ∀ x ∈ g, x ∈ g' := by
  intro g hg
  have hsub : ∀ x ∈ g, x ∈ t.tipNames := fun x hx =>
    (cut_perm thr t).mem_iff.1 (List.mem_flatten.2 ⟨g, hg, hx⟩)
  cases g with
  | nil => exact absurd rfl (cut_nonempty thr t [] hg)
  | cons x₀ g =>
    -- the bag of the larger threshold that holds the first tip holds them all
    have hx₀ : x₀ ∈ t.tipNames := hsub x₀ (by simp)
    obtain ⟨g', hg', hx₀'⟩ := List.mem_flatten.1 ((cut_perm thr' t).mem_iff.2 hx₀)
    refine ⟨g', hg', fun x hx => ?_⟩
    have h1 : sameBag (cut thr t) x₀ x = true := (sameBag_true_iff _ _ _).2 ⟨_, hg, by simp, hx⟩
    rw [cut_sameBag thr t hu x₀ x hx₀ (hsub x hx)] at h1
    have h2 := pathShort_mono hle t x₀ x h1
    rw [← cut_sameBag thr' t hu x₀ x hx₀ (hsub x hx)] at h2
    obtain ⟨g'', hg'', y₀, y⟩ := (sameBag_true_iff _ _ _).1 h2
    rw [unique_bag ((cut_perm thr' t).nodup_iff.2 hu) hg' hg'' hx₀' y₀]
    exact y

example : cut 2 exT = [["A", "D"], ["B"], ["C"]] ∧ cut (5/2) exT = [["A", "B", "D"], ["C"]] := by decide +kernel

/-- The average of one tree is its matrix. -/
theorem avg_one (m : Metric) (t : T) : avgMatrix m [t] = some (matrix m t) := by
  rw [avgMatrix_cons]
  simp only [List.all_nil, if_true, sumM, List.foldl_nil, List.length_nil]
  rw [map_div_one]

/-- The average does not depend on the order in which the trees arrive: neither whether it
    is rejected nor, when it is accepted, the names or any entry. -/
theorem avg_perm (m : Metric) {ts ts' : List T} (hp : ts'.Perm ts) : avgMatrix m ts' = avgMatrix m ts := by
  by_cases hne : ts = []
  · subst hne; rw [hp.eq_nil]
  have hne' : ts' ≠ [] := fun e => hne (by rw [e] at hp; exact hp.symm.eq_nil)
  cases h : avgMatrix m ts with
  | none =>
    obtain ⟨_, u, hu, hdiff⟩ := (avg_different_taxa_err m ts).1 h
    rw [avg_different_taxa_err]
    by_cases hc : sortNames u.tipNames = sortNames (ts'.head hne').tipNames
    · refine ⟨hne', ts.head hne, hp.mem_iff.2 (List.head_mem hne), fun e => hdiff ?_⟩
      exact hc.trans e.symm
    · exact ⟨hne', u, hp.mem_iff.2 hu, hc⟩
  | some r =>
    obtain ⟨names, M⟩ := r
    obtain ⟨_, hall, hl, hr, hent⟩ := avg_is_mean m ts hne names M h
    cases h' : avgMatrix m ts' with
    | none =>
      obtain ⟨_, u, hu, hdiff⟩ := (avg_different_taxa_err m ts').1 h'
      exact absurd ((hall u (hp.mem_iff.1 hu)).trans
        (hall _ (hp.mem_iff.1 (List.head_mem hne'))).symm) hdiff
    | some r' =>
      obtain ⟨names', M'⟩ := r'
      obtain ⟨hn', _, hl', hr', hent'⟩ := avg_is_mean m ts' hne' names' M' h'
      have e1 : names' = names := hn'.trans (hall _ (hp.mem_iff.1 (List.head_mem hne')))
      subst e1
      have e2 : M' = M := by
        refine square_ext (square_of_lengths hl' hr') (square_of_lengths hl hr) (fun i j => ?_)
        rw [hent' i j, hent i j, hp.length_eq, sum_perm (hp.map _)]
      rw [e2]

/-- The literal name check of `AvgDistanceMatrix` (`for i, tip := range tips { tip.Name() !=
    tips2[i].Name() }`) passes iff the first tree's sorted names are a prefix of the later
    tree's, and indexes out of range (a Go panic) iff the later tree's names run out first.
    With equally many tips: passes iff the names are equal, never panics. -/
theorem avgCheck_outcome (tips tips2 : List String) :
    ((∃ u, Go.checkNames tips 0 tips2 = .ok u) ↔ tips <+: tips2) ∧
    ((∃ msg, Go.checkNames tips 0 tips2 = .panic msg) ↔ (tips2 <+: tips ∧ tips2.length < tips.length)) ∧
    (tips.length = tips2.length →
      ((∃ u, Go.checkNames tips 0 tips2 = .ok u) ↔ tips = tips2) ∧ ¬ ∃ msg, Go.checkNames tips 0 tips2 = .panic msg) := by
  have h1 := checkNames_ok_iff tips 0 tips2
  have h2 := checkNames_panic_iff tips 0 tips2
  simp only [List.drop_zero] at h1 h2
  refine ⟨h1, h2, fun hl => ⟨h1.trans ⟨fun hp => hp.eq_of_length hl, fun e => e ▸ List.prefix_refl _⟩, ?_⟩⟩
  rw [h2]
  intro ⟨_, hlt⟩
  omega

/-- The literal loops of `AvgDistanceMatrix` (statement-level model: the `len(tips2) !=
    len(tips)` test, the name check against the FIRST tree, `matrix[i][j] += matrix2[i][j]`,
    the final division over `range tips × range tips2`) return exactly what `avgMatrix`
    returns — so `avg_is_mean`, `avg_one`, `avg_perm` are statements about them — and the error
    exactly when `avgMatrix` rejects, never a panic; provided the statement-level matrix of each
    tree is the rose-tree one (checked by the driver on every case). -/
theorem avgGo_is_avg (metric : Int) (m : Metric) (ts : List T)
    (hgo : ∀ t ∈ ts, Go.matrixGo metric t = some (matrix m t)) :
    Go.avgDistanceMatrix metric ts =
      match avgMatrix m ts with
      | some r => .ok r
      | none => .err avgMsg :=
  avgGo_eq metric m ts hgo

/-! ### the statement-level model (pointer graph, `prev`, `SetId`/`Id()`, `lengths[...]`) -/

/-- The order in which the code produces the tips: `Tips()`/`tipsRecur` on the pointer graph
    of a rose tree lists exactly `T.tipNames`, in the same order (the root first when it has
    a single neighbour). -/
theorem tips_order (t : T) : (Go.G.ofT t).tips.map (Go.G.ofT t).name = t.tipNames :=
  tips_names_ofT t

/-- ★ `ToDistanceMatrix` as the code writes it — `Tips()`, the stable insertion sort of
    `sort.Slice` by name, `SetId(i)`, one `pathLengths(tip, nil, matrix[i], 0, metric)` per
    tip with its `prev` test, its `switch metric` and `lengths[cur.Id()] = curlength` —
    run on the pointer graph of any rose tree with unique tip names returns exactly the
    matrix of the rose-tree model: same rows in the same order, same entries.  Hence every
    theorem above about `matrix` is a theorem about the statement-level model. -/
theorem matrixGo_is_matrix (mi : Int) (t : T) (hu : t.tipNames.Nodup) :
    Go.matrixGo mi t = some (matrix (metricOf mi) t) :=
  matrixGo_eq_matrix mi t hu

/-- … in particular it meets the Spec used as oracle (path sums, sorted rows). -/
theorem matrixGo_meets_spec (mi : Int) (t : T) (hu : t.tipNames.Nodup) :
    ∃ names mat, Go.matrixGo mi t = some (names, mat) ∧ matrixOK (metricOf mi) t names mat = true :=
  ⟨_, _, matrixGo_eq_matrix mi t hu, matrix_eq_pathsum (metricOf mi) t hu⟩

/-- The literal `AvgDistanceMatrix` on trees with unique tip names: the entrywise mean of
    `avg_is_mean` when the sorted names agree, the error otherwise, never a panic — now
    without any assumption on the statement-level matrices. -/
theorem avgGo_is_avg_uniq (mi : Int) (ts : List T) (hu : ∀ t ∈ ts, t.tipNames.Nodup) :
    Go.avgDistanceMatrix mi ts =
      match avgMatrix (metricOf mi) ts with
      | some r => .ok r
      | none => .err avgMsg :=
  avgGo_eq mi (metricOf mi) ts (fun t ht => matrixGo_eq_matrix mi t (hu t ht))

example : metricOf 0 = .brlen ∧ metricOf 1 = .boots ∧ metricOf 2 = .none ∧ metricOf 7 = .brlen ∧ metricOf (-1) = .brlen := by decide

/-- ★ `CutEdgesMaxLength` as the code writes it — `Edges()`, `SetId`, the `visited` slice, for
    every branch not yet visited either the two floods `cutEdgesMaxLengthRecur(bag, Left, Right)` /
    `(bag, Right, Left)` with `visited[b.Id()] = true` on every branch crossed, or the single-tip
    bags of a long branch, `TipBag` as a map by name with its duplicate test, `Tips()` sorted —
    run on the pointer graph of any rose tree with unique tip names succeeds, its bags are those
    of the rose-tree model `cut` up to the order of the bags and inside them, and they meet the
    Spec used as oracle: a partition of the tips in which two tips share a bag iff every branch
    between them is shorter than the threshold. -/
theorem cutGo_is_cut (thr : Rat) (t : T) (hu : t.tipNames.Nodup) :
    ∃ bags, Go.cutGo thr t = .ok bags ∧ LPerm bags (cut thr t) ∧ cutOK thr t bags = true := by
  obtain ⟨bags, h1, h2⟩ := cutGo_LPerm thr t hu
  exact ⟨bags, h1, h2, cutOK_of_LPerm thr t h2 (cutOK_holds thr t hu)⟩

/- kernel-evaluated instance: root on the tip D, threshold 2 -/
example : Go.cutGo 2 exTipRoot = .ok [["A", "D"], ["B"], ["C"]] := by decide +kernel

/-- `cutEdgesMaxLengthRecur` of the statement-level model, entering a subtree `t` (top node `n`)
    from its parent `p`: it returns without error, the bag grows by exactly the tips that the
    rose-tree model's `comp thr t` calls open (joined to the top node by branches shorter than
    the threshold), in that order, and exactly the branches crossed are marked visited —
    provided the names in the bag and below are distinct. -/
theorem cut_flood (g : Go.G) (thr : Rat) (t : T) (fuel n p : Nat) (bag : Go.Bag) (visited : Array Bool)
    (hf : t.size ≤ fuel) (hp : p < n) (hs : Sub g.nodes n (Go.flatT (some p) n t))
    (he : Sub g.edges n (Go.gedgesT n t)) (hb : ∃ b, g.edges[n - 1]? = some b)
    (hn : (bag.map (·.1) ++ (leafIdxT n t).map g.name).Nodup) :
    Go.cutRecur g thr fuel bag n p visited =
      .ok (bag ++ tipPairs g (openT thr n t), markAll visited (reachT thr n t)) ∧
    (tipPairs g (openT thr n t)).map (·.1) = (comp thr t).1 := by
  refine ⟨flood_down g thr t fuel n p bag visited hf hp hs he hb hn, ?_⟩
  rw [← openT_names g thr t n (some p) hs]
  simp [tipPairs, List.map_map, Function.comp]

/-- three tips / the first two of them -/
def exAbc : T := .node ⟨"", []⟩ 0 [(mkE 1 0, T.leaf "a"), (mkE 2 1, T.leaf "b"), (mkE 3 2, T.leaf "c")]
def exAb : T := .node ⟨"", []⟩ 0 [(mkE 1 0, T.leaf "a"), (mkE 2 1, T.leaf "b")]

/- the hypothesis of `avgGo_is_avg` holds on these (kernel-evaluated through both models is not
   possible: `matrix` sorts by well-founded `mergeSort`; the statement-level side is) -/
example : Go.matrixGo 0 exAb = some (["a", "b"], [[0, 3], [3, 0]]) := by decide +kernel
example : Go.avgDistanceMatrix 0 [exAb, exAb] = .ok (["a", "b"], [[0, 3], [3, 0]]) := by decide +kernel

/-- Regression witness for fix 55aaa9d: WITHOUT the test `len(tips2) !=
    len(tips)` (model variant `avgDistanceMatrixPinned`) the average of trees with another
    number of tips, the shorter sorted name list a prefix of the longer, indexes out of range
    in the name check (later tree shorter) or in the addition (later tree longer); with it,
    the outcome is the error. -/
theorem avg_pinned_fails :
    Go.avgDistanceMatrixPinned 0 [exAbc, exAb] = .panic (Go.oob 2 2) ∧
    Go.avgDistanceMatrixPinned 0 [exAb, exAbc] = .panic (Go.oob 2 2) ∧
    Go.avgDistanceMatrix 0 [exAbc, exAb] = .err avgMsg ∧
    Go.avgDistanceMatrix 0 [exAb, exAbc] = .err avgMsg := by decide +kernel

/- the statement-level (pointer graph) model on `exTipRoot` (root on the tip D; nodes in
   pre-order D=0, inner=1, inner=2, A=3, B=4, C=5), kernel-evaluated: `Tips()` lists the root
   first; the walk from A with ids by name order A,B,C,D writes the path sums of `exT`; the
   flood fill at threshold 2 puts the root tip D with A.  The driver checks the agreement of
   the two models with the code on every case. -/
example : Go.G.tips (Go.G.ofT exTipRoot) = [0, 3, 4, 5] := by decide +kernel
example : (Go.pathLengths (Go.G.ofT exTipRoot) #[3, 0, 0, 0, 1, 2] 0 7 3 none (Array.replicate 4 0) 0).map Array.toList
    = some [0, 3, 9/2, 5/2] := by decide +kernel
example : (row Metric.brlen.w exTipRoot "A").lookup "B" = some 3 ∧ (row Metric.brlen.w exTipRoot "A").lookup "C" = some (9/2) ∧
    (row Metric.brlen.w exTipRoot "A").lookup "D" = some (5/2) := by decide +kernel
example : (match Go.cutEdgesMaxLength (Go.G.ofT exTipRoot) 2 with | .ok b => b | _ => []) =
    [[("D", 0), ("A", 3)], [("B", 4)], [("C", 5)]] := by decide +kernel

/-! ## the documented defaults and the documented cut -/

/- the branch weights are the documented defaults (`gotree matrix --help`: no length ↦ 0.0,
   no support ↦ 1.0, metric none ↦ 1 per branch) -/
example : Metric.brlen.w EdgeD.blank = 0 ∧ Metric.boots.w EdgeD.blank = 1 ∧ Metric.none.w EdgeD.blank = 1 ∧
    Metric.brlen.w (mkE (3/2) 0) = 3/2 ∧ Metric.none.w (mkE (3/2) 0) = 1 := by decide +kernel

/-- What the property says of the matrix, stated of the statement-level model (where a diagonal
    write or a wrong sort could really occur): rows are the tips in increasing name order, the
    matrix is symmetric with a zero diagonal, and it is the matrix the Spec describes. -/
theorem matrixGo_props (mi : Int) (t : T) (hu : t.tipNames.Nodup) :
    ∃ names M, Go.matrixGo mi t = some (names, M) ∧
      names = sortNames t.tipNames ∧ names.Pairwise (· ≤ ·) ∧ names.Perm t.tipNames ∧
      matrixOK (metricOf mi) t names M = true ∧
      (∀ i j : Nat, (M.getD i []).getD j 0 = (M.getD j []).getD i 0) ∧
      (∀ i : Nat, (M.getD i []).getD i 0 = 0) :=
  ⟨_, _, matrixGo_eq_matrix mi t hu, rfl, sortNames_sorted _, sortNames_perm _,
    matrix_eq_pathsum (metricOf mi) t hu, matrix_symmetric (metricOf mi) t hu, matrix_zero_diag (metricOf mi) t⟩

/-- The oracle (`cutSpecOK`: partition, no empty bag, and the documented meaning of
    "shorter than the threshold", which leaves a branch WITHOUT length unspecified for
    thresholds ≤ 0 instead of reading the code's sentinel) holds of the rose-tree model … -/
theorem cut_meets_doc (thr : Rat) (t : T) (hu : t.tipNames.Nodup) : cutSpecOK thr t (cut thr t) = true :=
  cutSpecOK_of_cutOK thr t _ (cutOK_holds thr t hu)

/-- … and of the statement-level `CutEdgesMaxLength`. -/
theorem cutGo_meets_doc (thr : Rat) (t : T) (hu : t.tipNames.Nodup) :
    ∃ bags, Go.cutGo thr t = .ok bags ∧ cutSpecOK thr t bags = true := by
  obtain ⟨bags, h1, _, h3⟩ := cutGo_is_cut thr t hu
  exact ⟨bags, h1, cutSpecOK_of_cutOK thr t bags h3⟩

/-- two tips, no lengths / zero lengths -/
def exNoLen : T := .node ⟨"", []⟩ 0 [(EdgeD.blank, T.leaf "A"), (EdgeD.blank, T.leaf "B")]
def exZeroLen : T := .node ⟨"", []⟩ 0 [(mkE 0 0, T.leaf "A"), (mkE 0 1, T.leaf "B")]

/-- Where the documentation is silent and what the code (hence both models) does there: at a
    threshold ≤ 0 a branch without length is unspecified (`none`); the code joins the tips
    (−1 < 0), whereas it separates them when the lengths are written 0; for any threshold > 0
    both are documented as joined.  Recorded, not judged: at threshold 0 the oracle puts no
    constraint on the pair A, B of `exNoLen` (`none`), at threshold 1/8 it demands one bag. -/
theorem cut_absent_unspecified :
    pathShortDoc 0 exNoLen "A" "B" = none ∧ cut 0 exNoLen = [["A", "B"]] ∧
    pathShortDoc 0 exZeroLen "A" "B" = some false ∧ cut 0 exZeroLen = [["A"], ["B"]] ∧
    pathShortDoc (1/8) exNoLen "A" "B" = some true ∧ pathShortDoc (1/8) exZeroLen "A" "B" = some true ∧
    sameBag (cut (1/8) exNoLen) "A" "B" = true ∧ sameBag [["A"], ["B"]] "A" "B" = false := by decide +kernel

/-! ## the `Id` fields of the channel records -/

/-- The average does not depend on the `Id` fields of the channel records: collections with the
    same trees in the same order and any Ids (unset, starting anywhere, with gaps, descending)
    have the same outcome — for unique names the mean over the NUMBER of trees of `avg_is_mean`. -/
theorem avg_ignores_ids (mi : Int) (items items' : List (Int × T)) (h : items.map (·.2) = items'.map (·.2)) :
    Go.avgDistanceMatrixIds mi items = Go.avgDistanceMatrixIds mi items' ∧
    ((∀ it ∈ items, it.2.tipNames.Nodup) →
      Go.avgDistanceMatrixIds mi items =
        match avgMatrix (metricOf mi) (items.map (·.2)) with
        | some r => .ok r
        | none => .err avgMsg) := by
  refine ⟨by unfold Go.avgDistanceMatrixIds; rw [h], fun hu => ?_⟩
  unfold Go.avgDistanceMatrixIds
  exact avgGo_is_avg_uniq mi _ (fun t ht => by
    obtain ⟨it, hit, rfl⟩ := List.mem_map.1 ht
    exact hu it hit)

/- two trees with the Ids 0,1 / 7,7: the mean divides by 2 -/
example : Go.avgDistanceMatrixIds 0 [(0, exAb), (1, exAb)] = .ok (["a", "b"], [[0, 3], [3, 0]]) ∧
    Go.avgDistanceMatrixIds 0 [(7, exAb), (7, exAb)] = .ok (["a", "b"], [[0, 3], [3, 0]]) := by decide +kernel

/-! ## branches without a length at thresholds ≤ 0 -/

/-- what the code does with a branch that has no length, read off the model: it is crossed by
    the flood iff `-1 < thr` -/
def lengthlessRule (thr : Rat) (t : T) (a b : String) : Bool :=
  t.splits.all fun s => !(s.sep a b) ||
    (if s.e.len == NIL then decide ((-1 : Rat) < thr) else decide (s.e.len < thr))

/-- The cut for EVERY threshold, thresholds ≤ 0 included, where the documentation is silent and
    the oracle judges nothing: two tips share a bag iff every branch between them has a length
    shorter than the threshold or has no length while `-1 < thr` — for the rose-tree model and,
    by `cutGo_is_cut`, for the statement-level `CutEdgesMaxLength`.  So at a threshold in (−1, 0]
    length-less branches join what zero-length branches separate (`cut_lengthless_witness`),
    whereas the matrix counts both as 0. -/
theorem cut_lengthless_rule (thr : Rat) (t : T) (hu : t.tipNames.Nodup) (a b : String)
    (ha : a ∈ t.tipNames) (hb : b ∈ t.tipNames) :
    sameBag (cut thr t) a b = lengthlessRule thr t a b ∧
    ∃ bags, Go.cutGo thr t = .ok bags ∧ sameBag bags a b = lengthlessRule thr t a b := by
  have hr : pathShort thr t a b = lengthlessRule thr t a b := by
    unfold pathShort lengthlessRule
    congr 1
    funext s
    by_cases h : s.e.len = NIL
    · simp [h, NIL]
    · have : (s.e.len == NIL) = false := by simpa using h
      simp [this]
  refine ⟨by rw [cut_components thr t hu a b ha hb, hr], ?_⟩
  obtain ⟨bags, h1, h2, _⟩ := cutGo_is_cut thr t hu
  exact ⟨bags, h1, by rw [sameBag_LPerm h2, cut_components thr t hu a b ha hb, hr]⟩

/-- `(a,b,(c:0,d:0):0);` — no length on a and b, zero lengths elsewhere -/
def exMixed : T :=
  .node ⟨"", []⟩ 0 [
    (EdgeD.blank, T.leaf "a"), (EdgeD.blank, T.leaf "b"),
    (mkE 0 2, .node ⟨"", []⟩ 0 [(mkE 0 3, T.leaf "c"), (mkE 0 4, T.leaf "d")])]

/-- the reproducer `echo "(a,b,(c:0,d:0):0);" | gotree brlen cut -l 0`: a and b together, c and d
    alone, although every pairwise distance of `gotree matrix` is 0 -/
theorem cut_lengthless_witness :
    cut 0 exMixed = [["a", "b"], ["c"], ["d"]] ∧ Go.cutGo 0 exMixed = .ok [["a", "b"], ["c"], ["d"]] ∧
    Go.matrixGo 0 exMixed = some (["a", "b", "c", "d"], [[0, 0, 0, 0], [0, 0, 0, 0], [0, 0, 0, 0], [0, 0, 0, 0]]) ∧
    pathShortDoc 0 exMixed "a" "b" = none ∧ pathShortDoc 0 exMixed "c" "d" = some false := by decide +kernel

/- the hypotheses of `cut_flood` on a concrete graph: the subtree ((A,B),C) below the tip root D
   of `exTipRoot` sits at node 1 of the pointer graph, its branches from index 1 on -/
example : Sub (Go.G.ofT exTipRoot).nodes 1 (Go.flatT (some 0) 1
    (.node ⟨"", []⟩ 0 [(mkE (1/2) 0, .node ⟨"", []⟩ 0 [(mkE 1 1, T.leaf "A"), (mkE 2 2, T.leaf "B")]), (mkE 3 3, T.leaf "C")])) :=
  ⟨[⟨"D", [(1, 0)]⟩], [], rfl, rfl⟩
example : ∃ b, (Go.G.ofT exTipRoot).edges[1 - 1]? = some b := ⟨_, rfl⟩

/-! ### `TipBag` as an API, the ids the two operations leave behind, the special thresholds of the command -/

/-- `AddTip` of a tip that is already in the bag: "If the same tip is already present: do nothing" -/
theorem tipbag_add_idem (g : Go.G) (b b' : Go.Bag) (t : Nat) (h : Go.addTip g b t = .ok b') :
    Go.addTip g b' t = .ok b' := by
  obtain ⟨nd, hn, h1, hc⟩ := addTip_ok h
  rw [addTip_cases g b' t nd hn]
  rcases hc with ⟨hl, rfl⟩ | ⟨hl, rfl⟩
  · simp [h1, List.lookup_append, hl]
  · simp [h1, hl]

/-- whatever calls are made on a bag (`AddTip` of anything, `Clear`, `Size`, `Tips`), its names stay pairwise
    distinct: the association list of the model IS a map -/
theorem tipbag_keys_distinct (g : Go.G) (ops : List Go.BagOp) : (bagKeys (Go.bagAfter g ops [])).Nodup :=
  bagAfter_keys_nodup g ops [] (by simp [bagKeys])

/-- `Tips()` lists every name of the bag once, in increasing order, and `Size()` counts them -/
theorem tipbag_tips_sorted (b : Go.Bag) :
    (Go.bagNames b).Perm (bagKeys b) ∧ (Go.bagNames b).Pairwise (fun x y => x ≤ y) ∧ (Go.bagNames b).length = b.length :=
  ⟨insSort_perm _ _, insSort_sorted (fun (s : String) => s) (b.map fun (x : String × Nat) => x.1),
    by unfold Go.bagNames; rw [(insSort_perm _ _).length_eq, List.length_map]⟩

/-- after `ToDistanceMatrix` the tip of row `j` carries the node id `j` (`tips[i].SetId(i)`): this is what
    `pathLengths` reads back through `lengths[cur.Id()]` -/
theorem matrix_leaves_rank_ids (t : T) (hu : t.tipNames.Nodup) (j : Nat)
    (hj : j < (Go.sortTips (Go.G.ofT t) (Go.G.ofT t).tips).length) :
    (Go.setIds (Go.G.ofT t).nodes.size (Go.sortTips (Go.G.ofT t) (Go.G.ofT t).tips)).getD
      ((Go.sortTips (Go.G.ofT t) (Go.G.ofT t).tips)[j]) 0 = j := ids_after_matrix t hu j hj

example : Go.tipIdsAfterMatrix (Go.G.ofT exTipRoot) = [3, 0, 1, 2] ∧ Go.edgeIdsAfterCut (Go.G.ofT exTipRoot) = [0, 1, 2, 3, 4] := by
  decide +kernel
example : Go.bagRun (Go.G.ofT exT) [.add (some 2), .add (some 2), .add (some 1), .add none, .size, .tips, .clear, .size] [] =
    [["ok"], ["ok"], ["err", "Internal node given to TipBag.AddTip"], ["err", "Nil node given to TipBag.AddTip"], ["1"], ["A"], [], ["0"]] := by
  decide +kernel

/-- the oracle of the op `C14.tipbag` holds on the model: whatever script of `AddTip` (nil, inner node, tip, the
    same tip again, another tip of the same name) / `Clear` / `Size` / `Tips` calls is run on a fresh bag, the
    results of `Go.bagRun` are what tree/tipbags.go documents (`Go.bagSpecOK`, which keeps no map) -/
theorem tipbag_meets_spec (g : Go.G) (ops : List Go.BagOp) : Go.bagSpecOK g ops (Go.bagRun g ops []) [] = true :=
  bagRun_spec g ops [] [] (BagInv.empty g)

/-- `gotree brlen cut -l inf | -inf | nan`: the rational that stands for the float in the model of one tree gives
    every test `Length() < maxlen` the float's truth value (all true for `+Inf`, also on the sentinel of an absent
    length; all false for `-Inf` and `NaN`) -/
theorem cut_threshold_special (t : T) (e : EdgeD) (he : e ∈ t.edges) :
    e.len < Cli.Thr.pinf.forTree t ∧ NIL < Cli.Thr.pinf.forTree t ∧
    ¬ (e.len < Cli.Thr.ninf.forTree t) ∧ ¬ (NIL < Cli.Thr.ninf.forTree t) ∧
    ¬ (e.len < Cli.Thr.nan.forTree t) ∧ ¬ (NIL < Cli.Thr.nan.forTree t) := by
  have hmax := Cli.foldl_max_spec t.edges 0
  have hmin := Cli.foldl_min_spec t.edges (-1)
  have h1 : e.len ≤ Cli.maxLen t := hmax.2 e he
  have h0 : (0 : Rat) ≤ Cli.maxLen t := hmax.1
  have h2 : Cli.minLen t ≤ e.len := hmin.2 e he
  have h3 : Cli.minLen t ≤ -1 := hmin.1
  simp only [Cli.Thr.forTree, NIL]
  refine ⟨by grind, by grind, by grind, by grind, by grind, by grind⟩

/-- the command model with the special values is the plain one (`Cli.cutCmd`) on every other spelling and on
    the omitted option -/
theorem cutCmdThr_conservative (s : String) (input : Except String (List Cli.InTree)) (h : Cli.parseSpecial s = none) :
    Cli.cutCmdThr (some s) input = Cli.cutCmd (some s) input ∧ Cli.cutCmdThr none input = Cli.cutCmd none input := by
  unfold Cli.cutCmdThr Cli.cutCmd
  simp only [Cli.parseThr, h]
  cases input with
  | error p => cases Cli.parseDec s <;> exact ⟨rfl, rfl⟩
  | ok trees =>
    refine ⟨?_, Cli.cutEachThr_fin (1 / 2) trees 0 ""⟩
    cases Cli.parseDec s with
    | none => rfl
    | some q => exact Cli.cutEachThr_fin q trees 0 ""

example : Cli.parseSpecial "-Inf" = some .ninf ∧ Cli.parseSpecial "INFINITY" = some .pinf ∧ Cli.parseSpecial "nan" = some .nan ∧
    Cli.parseSpecial "+nan" = none ∧ Cli.parseSpecial "infin" = none ∧ Cli.parseSpecial "1e-3" = none := by decide +kernel
example : Cli.Thr.pinf.forTree exT = 4 ∧ Cli.Thr.nan.forTree exT = -2 ∧
    Go.cutGo (Cli.Thr.pinf.forTree exT) exT = .ok [["A", "B", "C", "D"]] ∧
    Go.cutGo (Cli.Thr.ninf.forTree exT) exT = .ok [["A"], ["B"], ["C"], ["D"]] := by decide +kernel

/-- the reading of `-l` with hexadecimal floats and digit separators changes nothing on a text that has
    neither an underscore nor a `0x` prefix -/
theorem cutCmdThrX_conservative (s : String) (input : Except String (List Cli.InTree))
    (h1 : s.toList.contains '_' = false) (h2 : Cli.hasHexPrefix s.toList = false) :
    Cli.parseThrX s = Cli.parseThr s ∧ Cli.cutCmdThrX (some s) input = Cli.cutCmdThr (some s) input := by
  have hp : Cli.parseThrX s = Cli.parseThr s := by
    unfold Cli.parseThrX
    simp only [h1, h2, Bool.not_false, Bool.and_self, if_true]
  refine ⟨hp, ?_⟩
  unfold Cli.cutCmdThrX Cli.cutCmdThr
  simp only [hp]

example : Cli.parseThrX "0x1p-1" = some (.fin (1 / 2)) ∧ Cli.parseThrX "0X1.8P+1" = some (.fin 3) ∧
    Cli.parseThrX "0x_1p0" = some (.fin 1) ∧ Cli.parseThrX "-0x1p-2" = some (.fin (-1 / 4)) ∧
    Cli.parseThrX "0x1p" = none ∧ Cli.parseThrX "0x10" = none ∧ Cli.parseThrX "1__0" = none ∧ Cli.parseThrX "_1" = none ∧
    Cli.parseThrX "1_" = none ∧ Cli.parseThrX "1e_5" = none ∧ Cli.parseThrX "0_.5" = none ∧ Cli.parseThrX "in_f" = none := by
  decide +kernel
example : ("0.5".toList.contains '_' = false) ∧ Cli.hasHexPrefix "0.5".toList = false := by decide +kernel

end Gotree.C14

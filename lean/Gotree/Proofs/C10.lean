/-
  C10 — the property theorems (every `theorem` here is audited).
  Models: Gotree/Model/C10.lean (what the driver runs against the Go code);
  definitions: Gotree/Spec/C10.lean; helper lemmas: Gotree/Lemmas/C10*.lean.

  Hypotheses (Bool, evaluated and tagged by the driver): `hypOK r bs` — every
  tree has unique tip names and a root that is not a tip, the bootstrap trees
  have the taxa of the reference, the collection is not empty; `idsInRange r`
  — TBE's precondition on the branch ids of the reference.
-/
import Gotree.Lemmas.C10Wit
import Gotree.Lemmas.C10Inv
import Gotree.Lemmas.C10Names
import Gotree.Lemmas.C10Cancel
import Gotree.Model.C10Opts
import Gotree.Gen.C10Facts
import Gotree.Proofs.C05

namespace Gotree.C10
open Gotree

/-! ## ★ `MinTransferDist` -/

/-- The post-order recursion with its `ones` counts and its early stop is the
    fold of `min` over the split list of the bootstrap tree, started at `p - 1`
    (pure structure: any `light` predicate, any `p ≠ 1`, any `n`).  The early
    stop (`absent`) is sound as soon as no branch is at distance `< 1`. -/
theorem mtd_fold (light : String → Bool) (p n : Int) (absent : Bool) (b : T)
    (hp : p ≠ 1) (hroot : b.kids.length ≠ 1)
    (habs : absent = true → ∀ s ∈ b.splits, 1 ≤ dOf light p n s.below) :
    minTransferDist light p n absent b =
      (b.splits.map fun s => dOf light p n s.below).foldl min (p - 1) :=
  minTransferDist_eq_fold light p n absent b hp hroot habs

/-- ★ (Appendix B `mtd_correct`) For a reference branch `s` of depth `p > 1` and a
    bootstrap tree on the same taxa, the model of `MinTransferDist` returns
    `min over the bootstrap branches B of transferDist L B n`, capped by `p - 1`,
    where `L` is the light side of `s` — with or without the early stop, which
    `TBE` only asks for when the split is absent from the bootstrap tree. -/
theorem mtd_correct (r b : T) (s : SplitE) (absent : Bool)
    (hr : treeOK r = true) (hb : treeOK b = true) (hT : sameTaxa r b = true) (hs : s ∈ r.splits)
    (hp : 1 < topoDepth (ntips r) s)
    (habs : absent = true → containsSplit r.tipNames s.below b = false) :
    minTransferDist (lightOf (ntips r) s) (topoDepth (ntips r) s) (ntips r) absent b =
      ((minTransfer (lightSide r.tipNames s.below) (ntips r) b : Nat) : Int) :=
  minTransferDist_lightSide absent hr hb hT hs hp habs

/-- … and it is never more than `p - 1` (no hypothesis at all). -/
theorem mtd_le (light : String → Bool) (p n : Int) (absent : Bool) (b : T) :
    minTransferDist light p n absent b ≤ p - 1 :=
  minTransferDist_le light p n absent b

example : treeOK wRef6 = true ∧ treeOK wBoot6 = true ∧ sameTaxa wRef6 wBoot6 = true := by decide

/-! ## the two supports are their definitions -/

/-- `fbp_def`: the model of FBP returns, for every branch whose split is not
    trivial, the fraction of bootstrap trees having a branch with the same split;
    the other branches keep the support they had. -/
theorem fbp_def (r : T) (bs : List T) (h : hypOK r bs = true) :
    fbp r bs = .ok (r.splits.map (fbpOf r bs)) :=
  fbp_eq_expected r bs h

/-- `tbe_def`: the model of TBE returns `1 − mean(min transfer distance)/(p−1)` for
    every branch whose split is not trivial, and no support for the others. -/
theorem tbe_def (r : T) (bs : List T) (h : hypOK r bs = true) (hid : idsInRange r = true) :
    tbe r bs = .ok (r.splits.map (tbeOf r bs)) :=
  tbe_eq_expected r bs h hid

/-- The cap `p - 1` in the definition's fold is only a convenience: on the
    property's inputs the mean is taken over the plain minimum over the branches
    (some tip branch of the light side is at distance `p - 1`).  The oracle
    evaluates the plain form. -/
theorem tbe_spec_pure (r : T) (bs : List T) (h : hypOK r bs = true) (s : SplitE) (hs : s ∈ r.splits)
    (h2 : 2 ≤ depth r.tipNames s.below) :
    tbeSpec r.tipNames s.below bs = tbeSpecPure r.tipNames s.below bs :=
  tbeSpec_eq_pure r bs h s hs h2

example : hypOK wRef [wBoot, wBoot2] = true ∧ idsInRange wRef = true := by decide
example : hypOK wRef6 [wBoot6, wRef6] = true ∧ idsInRange wRef6 = true := by decide

/-- ★ (Appendix B `fbp_le_tbe`) On every branch `s` of the reference whose split is
    not trivial: `0 ≤ FBP ≤ TBE ≤ 1`, and `TBE = 1` exactly when every bootstrap
    tree has the split. -/
theorem fbp_le_tbe (r : T) (bs : List T) (h : hypOK r bs = true) (hid : idsInRange r = true) :
    fbp r bs = .ok (r.splits.map (fbpOf r bs)) ∧ tbe r bs = .ok (r.splits.map (tbeOf r bs)) ∧
    ∀ s ∈ r.splits, 2 ≤ depth r.tipNames s.below →
      0 ≤ fbpOf r bs s ∧ fbpOf r bs s ≤ tbeOf r bs s ∧ tbeOf r bs s ≤ 1 ∧
      (tbeOf r bs s = 1 ↔ ∀ b ∈ bs, containsSplit r.tipNames s.below b = true) := by
  refine ⟨fbp_eq_expected r bs h, tbe_eq_expected r bs h hid, ?_⟩
  intro s hs h2
  rw [fbpOf_pos h2, tbeOf_pos h2]
  exact edge_facts r bs h s hs h2

/-- `in_unit_interval`: both supports lie in [0,1]. -/
theorem in_unit_interval (r : T) (bs : List T) (h : hypOK r bs = true) (s : SplitE)
    (hs : s ∈ r.splits) (h2 : 2 ≤ depth r.tipNames s.below) :
    (0 ≤ fbpOf r bs s ∧ fbpOf r bs s ≤ 1) ∧ (0 ≤ tbeOf r bs s ∧ tbeOf r bs s ≤ 1) := by
  rw [fbpOf_pos h2, tbeOf_pos h2]
  obtain ⟨a, b, c, _⟩ := edge_facts r bs h s hs h2
  exact ⟨⟨a, Rat.le_trans b c⟩, ⟨Rat.le_trans a b, c⟩⟩

/-- On a non-trivial branch TBE is 1 exactly when every bootstrap tree has the split. -/
theorem tbe_one_iff (r : T) (bs : List T) (h : hypOK r bs = true) (s : SplitE)
    (hs : s ∈ r.splits) (h2 : 2 ≤ depth r.tipNames s.below) :
    tbeOf r bs s = 1 ↔ ∀ b ∈ bs, containsSplit r.tipNames s.below b = true := by
  rw [tbeOf_pos h2]
  exact (edge_facts r bs h s hs h2).2.2.2

/-- `tips_unsupported`: a tip branch — and the root branch that is the twin of
    a tip branch — defines a trivial split: FBP leaves its support as it was
    (none, for a tree read from Newick), TBE gives it none. -/
theorem tips_unsupported (r : T) (bs : List T) (s : SplitE) (hs : s ∈ r.splits) :
    (s.tip = true → ¬ 2 ≤ depth r.tipNames s.below) ∧
    (¬ 2 ≤ depth r.tipNames s.below → fbpOf r bs s = s.e.sup ∧ tbeOf r bs s = NIL) := by
  constructor
  · intro ht h2
    have := tip_belowL r.kids s hs ht
    have := depth_le_left r.tipNames s.below
    omega
  · exact fun h2 => ⟨fbpOf_neg h2, tbeOf_neg h2⟩

/-- `tips_unsupported`, on the functions the driver runs: in the list the model of FBP returns,
    the entry of a tip branch (and of any branch whose split is trivial) is the support the
    branch had before — FBP writes nothing there; a reference read from Newick has none on its
    tips — and in the list of TBE it is "none". -/
theorem tips_unsupported_model (r : T) (bs : List T) (h : hypOK r bs = true) (hid : idsInRange r = true) :
    ∃ f t, fbp r bs = .ok f ∧ tbe r bs = .ok t ∧
      List.zip r.splits f = r.splits.map (fun s => (s, fbpOf r bs s)) ∧
      List.zip r.splits t = r.splits.map (fun s => (s, tbeOf r bs s)) ∧
      ∀ s ∈ r.splits, (s.tip = true ∨ ¬ 2 ≤ depth r.tipNames s.below) →
        fbpOf r bs s = s.e.sup ∧ tbeOf r bs s = NIL := by
  refine ⟨_, _, fbp_eq_expected r bs h, tbe_eq_expected r bs h hid, ?_, ?_, ?_⟩
  · unfold fbpExpected; exact zip_map_self _ _
  · unfold tbeExpected; exact zip_map_self _ _
  · intro s hs hc
    obtain ⟨a, b⟩ := tips_unsupported r bs s hs
    rcases hc with hc | hc
    · exact b (a hc)
    · exact b hc

/-- `order_independent`: the order of the bootstrap trees does not matter. -/
theorem order_independent (r : T) (bs bs' : List T) (hp : bs.Perm bs') (h : hypOK r bs = true)
    (hid : idsInRange r = true) : fbp r bs = fbp r bs' ∧ tbe r bs = tbe r bs' :=
  supports_congr h (hypOK_perm hp h) hid (expected_perm r hp)

/-- The presentation of the bootstrap trees does not matter either: a collection
    that is a permutation of `bs` in which every tree is replaced by a tree with
    the same set of splits (another rooting, another child order) gives the same
    supports. -/
theorem bootstrap_presentation_independent (r : T) (bs bs₁ bs' : List T) (h : hypOK r bs = true)
    (h' : hypOK r bs' = true) (hid : idsInRange r = true) (hp : bs.Perm bs₁)
    (hrep : Repres r.tipNames bs₁ bs') : fbp r bs = fbp r bs' ∧ tbe r bs = tbe r bs' := by
  obtain ⟨e1, e2⟩ := order_independent r bs bs₁ hp h hid
  obtain ⟨f1, f2⟩ := supports_congr (hypOK_perm hp h) h' hid (expected_repres r bs₁ bs' (hypOK_perm hp h) h' hrep)
  exact ⟨e1.trans f1, e2.trans f2⟩

example : hypOK wRef6 [wBoot6, wRef6] = true ∧ hypOK wRef6 [wRef6r, wBoot6r] = true ∧
    [wBoot6, wRef6].Perm [wRef6, wBoot6] ∧ Repres wRef6.tipNames [wRef6, wBoot6] [wRef6r, wBoot6r] :=
  ⟨by decide, by decide, List.Perm.swap _ _ _, by decide, by decide, trivial⟩

/-- Nor does the presentation of the reference: two references with the same
    taxa, a branch in each defining the same non-trivial split — the same FBP and
    the same TBE support. -/
theorem reference_presentation_independent (r r' : T) (bs : List T) (h : hypOK r bs = true)
    (hr' : treeOK r' = true) (hT : sameTaxa r r' = true)
    (hid : idsInRange r = true) (hid' : idsInRange r' = true) :
    fbp r bs = .ok (r.splits.map (fbpOf r bs)) ∧ fbp r' bs = .ok (r'.splits.map (fbpOf r' bs)) ∧
    tbe r bs = .ok (r.splits.map (tbeOf r bs)) ∧ tbe r' bs = .ok (r'.splits.map (tbeOf r' bs)) ∧
    ∀ s ∈ r.splits, ∀ s' ∈ r'.splits, sameSplit r.tipNames s.below s'.below = true →
      2 ≤ depth r.tipNames s.below →
      fbpOf r bs s = fbpOf r' bs s' ∧ tbeOf r bs s = tbeOf r' bs s' := by
  have h' := hypOK_reference h hr' hT
  refine ⟨fbp_eq_expected r bs h, fbp_eq_expected r' bs h', tbe_eq_expected r bs h hid,
    tbe_eq_expected r' bs h' hid', ?_⟩
  intro s hs s' hs' hss h2
  obtain ⟨hd, e1, e2⟩ := spec_reference_equiv r r' bs h hr' hT s s' hs hs' hss
  rw [fbpOf_pos h2, tbeOf_pos h2, fbpOf_pos (hd ▸ h2), tbeOf_pos (hd ▸ h2)]
  exact ⟨e1, e2⟩

example : hypOK wRef6 [wBoot6] = true ∧ treeOK wRef6r = true ∧ sameTaxa wRef6 wRef6r = true ∧
    idsInRange wRef6 = true ∧ idsInRange wRef6r = true := by decide

/-- A concrete family for the two theorems above: the one-edge root move (what
    `Reroot` does one step away) onto an inner child gives a well-formed tree on
    the same taxa with the same set of splits. -/
theorem rootMove_presentation (t : T) (i : Nat) (e : EdgeD) (dc : NodeD) (pc : Nat) (kc : Kids)
    (ht : treeOK t = true) (hi : t.kids[i]? = some (e, .node dc pc kc)) (hkc : kc ≠ []) :
    treeOK (rootMove t i) = true ∧ sameTaxa t (rootMove t i) = true ∧
    splitsEquiv t.tipNames t (rootMove t i) = true :=
  rootMove_ok t i e dc pc kc ht hi hkc

/-- A second family: reordering the children of any nodes (`RotT`, defined by
    recursion on the tree: children rotated recursively, then permuted). -/
theorem rotation_presentation (t t' : T) (h : RotT t t') (ht : treeOK t = true) :
    treeOK t' = true ∧ sameTaxa t t' = true ∧ splitsEquiv t.tipNames t t' = true :=
  rot_ok t t' h ht

example : RotT wRef6 wRef6rot ∧ treeOK wRef6 = true := ⟨wRef6_rot, by decide⟩

/-- A third family: a rooted tree (root with two children, the second one inner;
    the other order is a `RotT` away) and its unrooted form `unrootOp` — the two
    root branches define the same split. -/
theorem unroot_presentation (d : NodeD) (p : Nat) (e₁ : EdgeD) (a : T) (e₂ : EdgeD) (d₂ : NodeD)
    (p₂ : Nat) (kc : Kids) (hkc : kc ≠ [])
    (ht : treeOK (.node d p [(e₁, a), (e₂, .node d₂ p₂ kc)]) = true) :
    treeOK (unrootOp (.node d p [(e₁, a), (e₂, .node d₂ p₂ kc)])) = true ∧
    sameTaxa (.node d p [(e₁, a), (e₂, .node d₂ p₂ kc)])
      (unrootOp (.node d p [(e₁, a), (e₂, .node d₂ p₂ kc)])) = true ∧
    splitsEquiv (T.node d p [(e₁, a), (e₂, .node d₂ p₂ kc)]).tipNames
      (.node d p [(e₁, a), (e₂, .node d₂ p₂ kc)])
      (unrootOp (.node d p [(e₁, a), (e₂, .node d₂ p₂ kc)])) = true :=
  unroot_ok d p e₁ a e₂ d₂ p₂ kc hkc ht

example : treeOK wRef = true ∧ unrootOp wRef =
    wN [(wE 0, T.leaf "a"), (wE 2, wN [(wE 3, T.leaf "b"), (wE 4, T.leaf "c")]), (wE 5, T.leaf "d")] :=
  ⟨by decide, rfl⟩

/-- Replacing a bootstrap tree by another presentation of it changes no support
    (by `order_independent` the position of the tree in the collection is immaterial). -/
theorem replace_bootstrap_tree (r b b' : T) (bs : List T) (h : hypOK r (b :: bs) = true)
    (hid : idsInRange r = true) (m1 : treeOK b' = true) (m2 : sameTaxa b b' = true)
    (m3 : splitsEquiv b.tipNames b b' = true) :
    fbp r (b :: bs) = fbp r (b' :: bs) ∧ tbe r (b :: bs) = tbe r (b' :: bs) := by
  obtain ⟨hr, _, hb⟩ := hypOK_facts h
  obtain ⟨_, hb2⟩ := hb b (List.mem_cons_self ..)
  have t1 := sameTaxa_iff.1 hb2
  have t2 := sameTaxa_iff.1 m2
  have h' : hypOK r (b' :: bs) = true := hypOK_of hr (by simp) fun x hx =>
    (List.mem_cons.1 hx).elim (fun e => e ▸ ⟨m1, sameTaxa_iff.2 fun y => (t1 y).trans (t2 y)⟩)
      fun hx => hb x (List.mem_cons_of_mem _ hx)
  have hrep : Repres r.tipNames (b :: bs) (b' :: bs) := by
    refine ⟨?_, repres_refl _ bs⟩
    rw [splitsEquiv_congr_all b b' t1]
    exact m3
  exact bootstrap_presentation_independent r (b :: bs) (b :: bs) (b' :: bs) h h' hid
    (List.Perm.refl _) hrep

/-- … in particular re-rooting it by one edge, or reordering children anywhere in it. -/
theorem reroot_or_rotate_bootstrap_tree (r b : T) (bs : List T) (h : hypOK r (b :: bs) = true)
    (hid : idsInRange r = true) :
    (∀ i e dc pc kc, b.kids[i]? = some (e, .node dc pc kc) → kc ≠ [] →
      fbp r (b :: bs) = fbp r (rootMove b i :: bs) ∧ tbe r (b :: bs) = tbe r (rootMove b i :: bs)) ∧
    (∀ b', RotT b b' →
      fbp r (b :: bs) = fbp r (b' :: bs) ∧ tbe r (b :: bs) = tbe r (b' :: bs)) := by
  obtain ⟨_, _, hb⟩ := hypOK_facts h
  obtain ⟨hb1, _⟩ := hb b (List.mem_cons_self ..)
  constructor
  · intro i e dc pc kc hi hkc
    obtain ⟨m1, m2, m3⟩ := rootMove_ok b i e dc pc kc hb1 hi hkc
    exact replace_bootstrap_tree r b _ bs h hid m1 m2 m3
  · intro b' hrot
    obtain ⟨m1, m2, m3⟩ := rot_ok b b' hrot hb1
    exact replace_bootstrap_tree r b b' bs h hid m1 m2 m3

example : hypOK wRef6 [wBoot6, wRef6] = true ∧ idsInRange wRef6 = true ∧
    (∃ e dc pc kc, wBoot6.kids[0]? = some (e, .node dc pc kc) ∧ kc ≠ []) :=
  ⟨by decide, by decide, _, _, _, _, rfl, by simp⟩

/-- The same for the reference: presented otherwise (`r'` well-formed, on the same
    taxa, with the same set of splits — e.g. `rootMove r i` or any `RotT r r'`), every
    non-trivial branch has a branch of `r'` with the same split and the same two supports. -/
theorem reroot_or_rotate_reference (r r' : T) (bs : List T) (h : hypOK r bs = true)
    (m1 : treeOK r' = true) (m2 : sameTaxa r r' = true) (m3 : splitsEquiv r.tipNames r r' = true)
    (hid : idsInRange r = true) (hid' : idsInRange r' = true) :
    ∀ s ∈ r.splits, 2 ≤ depth r.tipNames s.below →
      ∃ s' ∈ r'.splits, sameSplit r.tipNames s.below s'.below = true ∧
        fbpOf r bs s = fbpOf r' bs s' ∧ tbeOf r bs s = tbeOf r' bs s' := by
  intro s hs h2
  obtain ⟨s', hs', hss⟩ := (splitsEquiv_iff.1 m3).1 s hs
  obtain ⟨_, _, _, _, hall⟩ := reference_presentation_independent r r' bs h m1 m2 hid hid'
  exact ⟨s', hs', hss, hall s hs s' hs' hss h2⟩

example : treeOK wRef6rot = true ∧ idsInRange wRef6rot = true ∧ hypOK wRef6 [wBoot6] = true := by decide

/-- All of it together: `Pres t t'` — any sequence of root moves onto inner
    children (a `Reroot`), reorderings of children, unrooting and rooting — yields a
    well-formed tree on the same taxa with the same set of splits. -/
theorem presentation_closure (t t' : T) (h : Pres t t') (ht : treeOK t = true) :
    treeOK t' = true ∧ sameTaxa t t' = true ∧ splitsEquiv t.tipNames t t' = true :=
  pres_ok h ht

/-- Rooting and child-order independence, bootstrap side: a tree of the
    collection may be re-presented at will. -/
theorem represent_bootstrap_tree (r b b' : T) (bs : List T) (h : hypOK r (b :: bs) = true)
    (hid : idsInRange r = true) (hp : Pres b b') :
    fbp r (b :: bs) = fbp r (b' :: bs) ∧ tbe r (b :: bs) = tbe r (b' :: bs) := by
  obtain ⟨_, _, hb⟩ := hypOK_facts h
  obtain ⟨m1, m2, m3⟩ := pres_ok hp (hb b (List.mem_cons_self ..)).1
  exact replace_bootstrap_tree r b b' bs h hid m1 m2 m3

/-- … reference side: every non-trivial branch keeps its two supports on the branch
    of the re-presented reference that defines the same split. -/
theorem represent_reference (r r' : T) (bs : List T) (h : hypOK r bs = true) (hp : Pres r r')
    (hid : idsInRange r = true) (hid' : idsInRange r' = true) :
    ∀ s ∈ r.splits, 2 ≤ depth r.tipNames s.below →
      ∃ s' ∈ r'.splits, sameSplit r.tipNames s.below s'.below = true ∧
        fbpOf r bs s = fbpOf r' bs s' ∧ tbeOf r bs s = tbeOf r' bs s' := by
  obtain ⟨hr, _, _⟩ := hypOK_facts h
  obtain ⟨m1, m2, m3⟩ := pres_ok hp hr
  exact reroot_or_rotate_reference r r' bs h m1 m2 m3 hid hid'

example : Pres wRef6 wRef6rot := Pres.rot _ _ wRef6_rot
example : Pres wRef (unrootOp wRef) := Pres.unroot _ _ _ _ _ _ _ _ (by simp)

/-! ## what else happens to the reference: names blanked, supports written back -/

/-- Both functions blank the name of every internal node (`blankNames`); that changes
    neither the split list nor the tips, and the two functions see the reference through
    those only: a reference with internal names (or already annotated) is treated as the bare one. -/
theorem names_irrelevant (r : T) (bs : List T) :
    (blankNames r).splits = r.splits ∧ (blankNames r).tipNames = r.tipNames ∧
    fbp (blankNames r) bs = fbp r bs ∧ tbe (blankNames r) bs = tbe r bs := by
  obtain ⟨h1, h2⟩ := blankNames_same r
  exact ⟨h1, h2, fbp_congr h1 h2 bs, tbe_congr h1 h2 bs⟩

/-- The tree the functions leave (`annotated r sups`: names blanked, `sups` written on the
    branches in `Edges()` order — compared literally with the implementation's α dump as a
    fidelity figure) has the branches of `r` and carries exactly the supports of the theorems above. -/
theorem annotated_tree (r : T) (bs : List T) (h : hypOK r bs = true) (hid : idsInRange r = true) :
    ∃ f t, fbp r bs = .ok f ∧ tbe r bs = .ok t ∧
      (annotated r f).splits.map (·.e.sup) = r.splits.map (fbpOf r bs) ∧
      (annotated r t).splits.map (·.e.sup) = r.splits.map (tbeOf r bs) ∧
      (annotated r f).splits.map (fun s => (s.below, s.tip)) = r.splits.map (fun s => (s.below, s.tip)) := by
  refine ⟨_, _, fbp_eq_expected r bs h, tbe_eq_expected r bs h hid, ?_, ?_, ?_⟩
  · exact (annotated_spec r _ (by simp [fbpExpected])).1
  · exact (annotated_spec r _ (by simp [tbeExpected])).1
  · exact (annotated_spec r _ (by simp [fbpExpected])).2

/-! ## the `--moved-taxa` / `--per-branches` / `--out-raw` mode -/

/-- With the log options `TBE` calls `MinTransferDist(…, absent = false)`: a full traversal that
    also keeps every closest branch (`minTransferFull`, from which the model of the moved-taxa
    and per-branch tables is computed and compared with the implementation's log).  Its distance
    is the one of the plain traversal, hence — `mtd_correct` — the least transfer distance. -/
theorem log_mode_distance (r b : T) (s : SplitE) (hr : treeOK r = true) (hb : treeOK b = true)
    (hT : sameTaxa r b = true) (hs : s ∈ r.splits) (hp : 1 < topoDepth (ntips r) s) :
    (minTransferFull (lightOf (ntips r) s) (topoDepth (ntips r) s) (ntips r) b).1 =
      ((minTransfer (lightSide r.tipNames s.below) (ntips r) b : Nat) : Int) := by
  rw [minTransferFull_dist _ _ _ b (by omega) (treeOK_facts b hb).root]
  exact minTransferDist_lightSide false hr hb hT hs hp (by intro h; cases h)

/-! ## command-line glue -/

/-- `gotree compute support fbp|tbe -i ref -b boots` on files without unterminated text, the
    bootstrap file holding at least one tree: the reference is the FIRST tree of its file
    (later trees and blank lines are ignored), the collection is every tree of the bootstrap
    file in order (blank lines ignored; every tree of a line holding several — `treeLine`, since 3850fd2), and the result is the library function on those. -/
theorem cli_reads_files (f : T → List T → Out (List Rat)) (refFile bootFile : List (Item T))
    (hr : noJunk refFile = true) (hb : noJunk bootFile = true) (hne : treesOf bootFile ≠ []) :
    cliRun f refFile bootFile =
      match (treesOf refFile).head? with
      | none => .err
      | some r => f r (treesOf bootFile) := by
  have h0 : (0 + (treesOf bootFile).length == 0) = false := by simpa using hne
  unfold cliRun cliStream
  rw [cliReference_first refFile hr, cliStreamGo_noJunk bootFile 0 hb, h0, if_neg (by simp), List.append_nil]
  cases (treesOf refFile).head? with
  | none => rfl
  | some r =>
    have h1 : ((treesOf bootFile).map some).any Option.isNone = false := by
      rw [List.any_eq_false]; intro x hx
      obtain ⟨a, _, rfl⟩ := List.mem_map.1 hx
      simp
    have h2 : ((treesOf bootFile).map some).filterMap id = treesOf bootFile := by
      rw [List.filterMap_map]; simp
    simp only [h1, Bool.false_eq_true, if_false, h2]

/-- A bootstrap file without any tree (empty, or blank lines only) is an error, not a
    division by zero: the reader sends one erroneous item. -/
theorem cli_no_bootstrap_tree_err (f : T → List T → Out (List Rat)) (refFile bootFile : List (Item T))
    (hb : treesOf bootFile = []) (hj : noJunk bootFile = true) : cliRun f refFile bootFile = .err := by
  unfold cliRun cliStream
  rw [cliStreamGo_noJunk bootFile 0 hj, hb]
  cases cliReference refFile <;> rfl

example : cliRun fbp [.blank, .tree wRef, .tree wBoot] [.blank, .tree wBoot, .blank, .tree wBoot2, .blank] =
    fbp wRef [wBoot, wBoot2] := rfl

/-! ## bridge to C05: the Go operations themselves -/

/-- What C05 proves of `Reroot`, `UnRoot`, `RotateInternalNodes`, `SortNeighborsByTips` …
    (tip names, `usplits`, `tipLens` of the result are permutations of the original's) is
    exactly the hypothesis of the presentation theorems above. -/
theorem presentation_of_usplits (t u : T) (ht : treeOK t = true) (hu : treeOK u = true)
    (hall : u.tipNames.Perm t.tipNames) (h1 : u.usplits.Perm t.usplits) (h2 : u.tipLens.Perm t.tipLens) :
    sameTaxa t u = true ∧ splitsEquiv t.tipNames t u = true :=
  splitsEquiv_of_usplits t u ht hu hall h1 h2

theorem uniq_of_treeOK {t : T} (ht : treeOK t = true) : C05.uniq t = true := by
  simp only [treeOK, reinitOk, Bool.and_eq_true] at ht
  exact ht.1.1

/-- C05's model of `Tree.Reroot` (any node, any path): the re-rooted tree is another
    presentation — so by `replace_bootstrap_tree` / `reroot_or_rotate_reference` the
    supports do not depend on where the Go code re-rooted a tree. -/
theorem go_reroot_presentation (t t' : T) (p : List Nat) (ht : treeOK t = true) (ht' : treeOK t' = true)
    (hl : C05.lensOK t = true) (h : C05.reroot t p = .ok t') :
    sameTaxa t t' = true ∧ splitsEquiv t.tipNames t t' = true := by
  obtain ⟨a, b, c, _⟩ := C05.P.reroot_preserves t t' p (uniq_of_treeOK ht) hl h
  exact splitsEquiv_of_usplits t t' ht ht' a b c

/-- C05's model of `Tree.UnRoot`. -/
theorem go_unroot_presentation (t : T) (ht : treeOK t = true) (ht' : treeOK (C05.unroot t) = true)
    (hl : C05.lensOK t = true) (hs : C05.supsOK t = true) :
    sameTaxa t (C05.unroot t) = true ∧ splitsEquiv t.tipNames t (C05.unroot t) = true := by
  obtain ⟨a, b, c, _⟩ := C05.P.unroot_preserves t (uniq_of_treeOK ht) hl hs
  exact splitsEquiv_of_usplits t _ ht ht' a b c

/-- C05's model of `Tree.RotateInternalNodes` (whatever the draws). -/
theorem go_rotate_presentation (t : T) (draws : List Nat) (ht : treeOK t = true)
    (ht' : treeOK (C05.rotate t draws) = true) (hl : C05.lensOK t = true) :
    sameTaxa t (C05.rotate t draws) = true ∧ splitsEquiv t.tipNames t (C05.rotate t draws) = true := by
  obtain ⟨a, b, c, _⟩ := C05.P.rotate_preserves t draws hl
  exact splitsEquiv_of_usplits t _ ht ht' a b c

example : treeOK wRef = true ∧ treeOK (C05.unroot wRef) = true ∧ C05.lensOK wRef = true ∧
    C05.supsOK wRef = true := by decide

/-! ## the oracle the driver evaluates is what the theorems are about -/

/-- The Spec predicates that the driver evaluates on the *implementation's*
    output (`fbpOK`, `tbeOK`, `fbpLeTbeOK` of Spec/C10.lean, with their float
    tolerances) hold of the model's output: an implementation that agrees with the
    model passes the oracle, and the oracle asks for nothing the property does not state. -/
theorem oracle_accepts_model (r : T) (bs : List T) (h : hypOK r bs = true) (hid : idsInRange r = true) :
    ∃ f t, fbp r bs = .ok f ∧ tbe r bs = .ok t ∧
      fbpOK r bs f = true ∧ tbeOK r bs t = true ∧ fbpLeTbeOK r f t = true :=
  ⟨fbpExpected r bs, tbeExpected r bs, fbp_eq_expected r bs h, tbe_eq_expected r bs h hid,
    fbpOK_expected r bs h, tbeOK_expected r bs h, fbpLeTbeOK_expected r bs h⟩

/-! ## rejection -/

/-- `different_taxa_err`: a collection containing a tree on other taxa is
    rejected by both functions (since ba522d8 / 46b6f1e). -/
theorem different_taxa_err (r : T) (bs : List T) (hr : treeOK r = true)
    (hall : ∀ b ∈ bs, treeOK b = true) (hid : idsInRange r = true)
    (hbad : ∃ b ∈ bs, sameTaxa r b = false) : fbp r bs = .err ∧ tbe r bs = .err := by
  have _ := hall  -- not needed: `CompareTipIndexes` looks at the names only
  obtain ⟨b, hb, hne⟩ := hbad
  have hc : compareTips r b = false := by
    cases hcc : compareTips r b with
    | false => rfl
    | true => rw [sameTaxa_of_compareTips (treeOK_facts r hr).nodup hcc] at hne; cases hne
  have hlt := goodPrefix_lt ⟨b, hb, hc⟩
  have hrr := reinitOk_of_treeOK hr
  constructor
  · unfold fbp
    rw [fbpLoop_eq]
    simp [hrr, hlt]
  · unfold tbe
    rw [tbeLoop_eq r hid, if_pos hlt]
    simp [hrr]

example : treeOK wRef = true ∧ treeOK wBad = true ∧ sameTaxa wRef wBad = false := by decide

/-- A bootstrap tree that fails `CompareTipIndexes` makes FBP fail at once. -/
theorem fbp_rejects_head (r b : T) (bs : List T) (h : compareTips r b = false) :
    fbp r (b :: bs) = .err := by
  unfold fbp
  by_cases hr : reinitOk r <;> simp [hr, fbpLoop, h]

/-- The rejection clause at the command line (with `cli_reads_files`): a bootstrap file holding a tree on
    other taxa (anywhere) makes both commands fail. -/
theorem cli_rejects_other_taxa (refFile bootFile : List (Item T)) (r : T)
    (hr : noJunk refFile = true) (hb : noJunk bootFile = true)
    (href : (treesOf refFile).head? = some r) (hrOK : treeOK r = true)
    (hall : ∀ b ∈ treesOf bootFile, treeOK b = true) (hid : idsInRange r = true)
    (hbad : ∃ b ∈ treesOf bootFile, sameTaxa r b = false) :
    cliRun fbp refFile bootFile = .err ∧ cliRun tbe refFile bootFile = .err := by
  have hne : treesOf bootFile ≠ [] := by
    obtain ⟨b, hb', _⟩ := hbad
    intro e; rw [e] at hb'; cases hb'
  obtain ⟨e1, e2⟩ := different_taxa_err r (treesOf bootFile) hrOK hall hid hbad
  rw [cli_reads_files fbp refFile bootFile hr hb hne, cli_reads_files tbe refFile bootFile hr hb hne, href]
  exact ⟨e1, e2⟩

/-- Outside TBE's precondition — a reference that was never indexed: the call fails on the first
    bootstrap tree (it neither panics nor annotates nothing in silence); run as a session flavour. -/
theorem tbe_not_indexed_err (r b : T) (bs : List T) : tbeNotIndexed r (b :: bs) = .err := rfl

/-! ## the thread count -/

/-- With at least one thread the configured functions are the functions of the theorems above
    (that every schedule of the workers gives the one-worker result is C11's theorem; the code is
    run with 0, -1, 1, 2, 4 and 16 threads on every run). -/
theorem threads_positive (cpus : Int) (h : 1 ≤ cpus) (r : T) (bs : List T) :
    fbpCfg cpus r bs = fbp r bs ∧ tbeCfg cpus r bs = tbe r bs := by
  unfold fbpCfg tbeCfg atLeastOne
  have : ¬ cpus < 1 := by omega
  simp [this, h]

/-- Since 4aac0a9 a count below 1 means one thread: the configuration never matters. -/
theorem threads_any (cpus : Int) (r : T) (bs : List T) :
    fbpCfg cpus r bs = fbp r bs ∧ tbeCfg cpus r bs = tbe r bs := by
  unfold fbpCfg tbeCfg atLeastOne
  by_cases h : cpus < 1
  · simp [h]
  · have : 1 ≤ cpus := by omega
    simp [h, this]

/-- Finding C10NonPositiveThreads, repaired by 4aac0a9 — the old behaviour (`fbpCfgPinned` /
    `tbeCfgPinned`: a count ≤ 0 rejected nowhere): FBP answered `NaN` on every supported branch
    and did not even look at a tree on other taxa; TBE with 0 threads returned the reference without
    any support although the definition gives 1; with a negative count it panicked. -/
theorem threads_nonpositive_fails :
    (fbpCfgPinned 0 wRef [wBoot]).isNan = true ∧ (fbpCfgPinned 0 wRef [wBad]).isErr = false ∧
    supAt (tbeCfgPinned 0 wRef [wBoot]) 2 = some NIL ∧ supAt (tbe wRef [wBoot]) 2 = some 1 ∧
    (tbeCfgPinned (-1) wRef [wBoot]).isPanic = true ∧
    (fbpCfg 0 wRef [wBad]).isErr = true := by
  refine ⟨by decide, by decide, by decide, ?_, by decide, by decide⟩
  decide +kernel

/-! ## the facts about the source the model assumes (regenerated on every run: harness/c10/extract.go) -/

/-- The comparisons (as predicates: `Cmp.same`) and the numeric literals of `FBP`, `MinTransferDist`, `minTransferDistRecur`,
    `speciesToMoveRecursive`, `TBE`, `ReformatAvgDistance`, `NormalizeTransferDistancesByDepth`,
    `UpdateTaxaMoveArrays`, what `classical` and `booster` call (readers, `ReinitIndexes` before `TBE`,
    argument order, raw tree first), the defaults of the flags and `NIL_SUPPORT`, as extracted from the
    working tree, are the ones the model was written against (Model/C10Table.lean `expected`). -/
theorem sourceFactsCheck : Gen.C10.facts.agree expected = true := by decide +kernel

/-- The comparison rows are judged as predicates, not as text: `cpus <= 0`, `1 > cpus`, `!(cpus >= 1)`-style
    rewrites of `cpus < 1` with another spelling of the variable agree; `cpus < 2` or `cpus <= 1` do not;
    integer division truncates as in Go.  A comparison of two variables is judged up to their exchange (their
    numbering follows their spelling): a reversed `d < *dist` is left to the oracle, which every case exercises. -/
theorem cmp_rows_semantic :
    Cmp.same ⟨"<", .var 0, .lit 1, "_ < 1"⟩ ⟨"<=", .var 0, .lit 0, "_ <= 0"⟩ = true ∧
    Cmp.same ⟨"<", .var 0, .lit 1, "_ < 1"⟩ ⟨">", .lit 1, .var 0, "1 > _"⟩ = true ∧
    Cmp.same ⟨"<", .var 1, .var 0, "_ < _"⟩ ⟨">", .var 1, .var 0, "_ > _"⟩ = true ∧
    Cmp.same ⟨"<", .var 0, .lit 1, "_ < 1"⟩ ⟨"<", .var 0, .lit 2, "_ < 2"⟩ = false ∧
    Cmp.same ⟨"<", .var 0, .lit 1, "_ < 1"⟩ ⟨"<=", .var 0, .lit 1, "_ <= 1"⟩ = false ∧
    Cmp.same ⟨"<", .var 1, .var 0, "_ < _"⟩ ⟨"<=", .var 1, .var 0, "_ <= _"⟩ = false ∧
    Cmp.same ⟨">", .var 1, .div (.var 0) (.lit 2), "_ > _ / 2"⟩ ⟨">=", .var 1, .div (.var 0) (.lit 2), "_ >= _ / 2"⟩ = false ∧
    Cmp.same ⟨"!=", .var 0, .opaque "NIL_SUPPORT", "_ != NIL_SUPPORT"⟩ ⟨"==", .var 0, .opaque "NIL_SUPPORT", "_ == NIL_SUPPORT"⟩ = false := by
  decide +kernel

/-! ## TBE with its output options (Model/C10Opts.lean; op C10.logx) -/

/-- Since 833ceab the output options never change the outcome or the supports. -/
theorem options_irrelevant (avg perBranch : Bool) (r : T) (bs : List T) :
    tbeOpts avg perBranch r bs = tbe r bs := rfl

/-- F96 (before 833ceab; found by the C10.logx cases): with `--per-branches` and without
    `--moved-taxa` `TBE` panicked on every input of the property (tbe.go:281 indexed a slice that
    tbe.go:176 had not allocated) — although the supports do not depend on these options at all. -/
theorem per_branches_only_pinned_panics (r : T) (bs : List T) (h : hypOK r bs = true) :
    tbeOptsPinned false true r bs = .panic := by
  obtain ⟨hr, hne, hb⟩ := hypOK_facts h
  cases bs with
  | nil => exact absurd rfl hne
  | cons b rest =>
    have hb' := hb b (List.mem_cons_self ..)
    have ha := accepts_of_hyp hr hb'.1 hb'.2
    simp [tbeOptsPinned, reinitOk_of_treeOK hr, ha.1, ha.2]

/-- … on a concrete witness, with the current model's answer for the same input. -/
theorem per_branches_only_pinned_fails :
    hypOK wRef [wBoot] = true ∧ (tbeOptsPinned false true wRef [wBoot]).isPanic = true ∧
    (tbeOpts false true wRef [wBoot]).isPanic = false := by
  decide

/-- Every other combination of the options was already harmless. -/
theorem other_options_pinned (avg perBranch : Bool) (h : (perBranch && !avg) = false) (r : T) (bs : List T) :
    tbeOptsPinned avg perBranch r bs = tbe r bs := by
  simp [tbeOptsPinned, h]

/-! ## where the commands write (Model/C10Opts.lean; op C10.out) -/

/-- Whatever is given to `-o` and `-r` (a file, `stdout`, `-`, nothing), the annotated reference is
    written exactly once, the raw tree once iff `booster` was given `-r`, and never to two places. -/
theorem outputs_written_once (tbeCmd : Bool) (outSel rawSel : String) :
    let all := stdoutItems tbeCmd outSel rawSel ++ outFileItems outSel ++ rawFileItems tbeCmd rawSel
    all.count "sup" = 1 ∧ all.count "raw" = (if tbeCmd && rawSel != "none" then 1 else 0) := by
  simp only [stdoutItems, outFileItems, rawFileItems]
  by_cases ho : toStdout outSel = true <;> by_cases hr : toStdout rawSel = true <;>
    by_cases ht : tbeCmd = true <;> by_cases hn : (rawSel != "none") = true <;>
    simp [ho, hr, ht, hn]

/-- `booster` writes the raw tree before the annotated reference when both go to the standard output. -/
theorem raw_tree_first (outSel rawSel : String) (ho : toStdout outSel = true) (hr : toStdout rawSel = true)
    (hn : (rawSel != "none") = true) : stdoutItems true outSel rawSel = ["raw", "sup"] := by
  simp [stdoutItems, ho, hr, hn]

example : toStdout "-" = true ∧ toStdout "stdout" = true ∧ ("-" != "none") = true ∧ toStdout "file" = false := by decide

/-! ## the Supporter: cancellation and progress (Model/C10Cancel.lean; op C10.cancel) -/

/-- `if sup.Canceled() { break }` (fbp.go:57, tbe.go:208): a call cancelled as soon as `k` bootstrap
    trees are finished returns what the call on the first `k` trees returns — the trees that come
    later are never looked at (not even to refuse them), and what the counter of the Supporter held
    before the call (`p0`) plays no part. -/
theorem cancel_is_prefix (r : T) (bs : List T) (p0 k : Nat) :
    (fbpS r bs p0 (p0 + k)).1 = fbp r (bs.take k) ∧ (tbeS r bs p0 (p0 + k)).1 = tbe r (bs.take k) :=
  ⟨fbpS_fst r bs p0 k, tbeS_fst r bs p0 k⟩

/-- A Supporter that is not cancelled before the last tree is finished changes nothing. -/
theorem not_cancelled (r : T) (bs : List T) (p0 k : Nat) (h : bs.length ≤ k) :
    (fbpS r bs p0 (p0 + k)).1 = fbp r bs ∧ (tbeS r bs p0 (p0 + k)).1 = tbe r bs := by
  have := cancel_is_prefix r bs p0 k
  rwa [List.take_of_length_le h] at this

/-- The supports of a cancelled call are the definitions over the trees finished before the
    cancellation (with `fbp_def`, `tbe_def`). -/
theorem cancelled_supports_def (r : T) (bs : List T) (p0 k : Nat) (h : hypOK r (bs.take k) = true)
    (hid : idsInRange r = true) :
    (fbpS r bs p0 (p0 + k)).1 = .ok (r.splits.map (fbpOf r (bs.take k))) ∧
    (tbeS r bs p0 (p0 + k)).1 = .ok (r.splits.map (tbeOf r (bs.take k))) := by
  obtain ⟨h1, h2⟩ := cancel_is_prefix r bs p0 k
  rw [h1, h2]
  exact ⟨fbp_def r (bs.take k) h, tbe_def r (bs.take k) h hid⟩

example : hypOK wRef ([wBoot, wBoot2, wBad].take 2) = true ∧ idsInRange wRef = true := by decide

/-- `sup.IncrementProgress()` (fbp.go:92, tbe.go:297): after the call the counter has advanced by the
    number of trees that were finished — those before the cancellation and before the first tree
    that is refused. -/
theorem progress_counts_finished_trees (r : T) (bs : List T) (p0 k : Nat) (hr : reinitOk r = true)
    (hid : idsInRange r = true) :
    (fbpS r bs p0 (p0 + k)).2 = p0 + min k (goodPrefix r bs) ∧
    (tbeS r bs p0 (p0 + k)).2 = p0 + min k (goodPrefix r bs) :=
  ⟨fbpS_snd r bs p0 k hr, tbeS_snd r bs p0 k hr (fun b => idPanic_false r b hid)⟩

/-- … on the property's inputs: by the number of trees, or `k`. -/
theorem progress_accepted (r : T) (bs : List T) (p0 k : Nat) (h : hypOK r bs = true)
    (hid : idsInRange r = true) :
    (fbpS r bs p0 (p0 + k)).2 = p0 + min k bs.length ∧ (tbeS r bs p0 (p0 + k)).2 = p0 + min k bs.length := by
  obtain ⟨hr, _, hb⟩ := hypOK_facts h
  have := progress_counts_finished_trees r bs p0 k (reinitOk_of_treeOK hr) hid
  rwa [goodPrefix_eq_length fun b hb' => accepts_of_hyp hr (hb b hb').1 (hb b hb').2] at this

example : hypOK wRef [wBoot, wBoot2] = true ∧ idsInRange wRef = true ∧ reinitOk wRef = true ∧
    goodPrefix wRef [wBoot, wBad, wBoot2] = 1 := by decide

/-! ## the repaired defects: the old behaviour, on concrete witnesses -/

/-- F14 (before ba522d8): FBP used a bootstrap tree on other taxa silently;
    the current model rejects it. -/
theorem fbp_pinned14_fails :
    sameTaxa wRef wBad = false ∧ (fbpPinned14 wRef [wBad]).isErr = false ∧ (fbp wRef [wBad]).isErr = true := by
  decide

/-- … and for all inputs: the old FBP never reported an error once the reference
    itself was indexable. -/
theorem fbp_pinned14_never_rejects (r : T) (bs : List T) (hr : reinitOk r = true) :
    (fbpPinned14 r bs).isErr = false := by
  unfold fbpPinned14
  have := fbpLoopPinned14_noerr r bs (r.splits.map fun _ => 0) 0
  generalize fbpLoopPinned14 r bs (r.splits.map fun _ => 0) 0 = res at this
  obtain ⟨c, n, e⟩ := res
  simp only [] at this
  subst this
  simp only [hr, Bool.not_true, Bool.false_eq_true, if_false]
  split <;> rfl

/-- F15 (before 46b6f1e): TBE lost the error unless the offending tree was the last. -/
theorem tbe_pinned15_fails :
    sameTaxa wRef wBad = false ∧ (tbePinned15 wRef [wBad, wBoot]).isErr = false ∧
    (tbe wRef [wBad, wBoot]).isErr = true := by
  decide

/-- … and for all inputs: the old TBE reported the mismatch only of the last tree. -/
theorem tbe_pinned15_only_last (r : T) (bs : List T) (hr : reinitOk r = true) :
    (tbePinned15 r bs).isErr =
      match bs.getLast? with
      | none => false
      | some b => !compareTips r b := by
  unfold tbePinned15
  have := tbeLoopPinned15_err r bs (r.splits.map fun _ => NIL) 0 false
  generalize tbeLoopPinned15 r bs (r.splits.map fun _ => NIL) 0 false = res at this
  obtain ⟨c, n, e⟩ := res
  simp only [] at this
  subst this
  simp only [hr, Bool.not_true, Bool.false_eq_true, if_false]
  cases hl : bs.getLast? with
  | none => rfl
  | some b => cases hc : compareTips r b <;> simp [hc, Out.isErr]

/-- F35 (before 227a97a): the root branch that is the twin of a tip branch got
    support 0 from an unrooted bootstrap tree; now it gets none, like the tip. -/
theorem fbp_pinned35_fails :
    depth wRef.tipNames ["b", "c", "d"] = 1 ∧
    supAt (fbpPinned35 wRef [wBoot]) 1 = some 0 ∧ supAt (fbp wRef [wBoot]) 1 = some NIL := by
  refine ⟨by decide, ?_, by decide⟩
  have h : supAt (fbpPinned35 wRef [wBoot]) 1 = some (((0 : Nat) : Rat) / ((1 : Nat) : Rat)) := by rfl
  rw [h, zero_div_one]

end Gotree.C10

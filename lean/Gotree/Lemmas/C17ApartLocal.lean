/-
  C17 — `Apart` at every site.  What `Apply` does at a site is an exchange: of the two children
  `u v` of the lower end one stays below the central branch, and one neighbour `y` of the upper
  end joins it there; with `cross` it is the other one of `u v`.  The split list after `Apply` is
  read off the closed forms of `applyLocal` (`Lemmas/C17.lean`); `Apart` between the tree before
  and after, and between the two neighbours proposed for one branch, then follows from
  `apart_of_exchange`.
-/
import Gotree.Lemmas.C17Apart

namespace Gotree.C17
open Gotree Gotree.C17.Spec

/-- the leaves below child number `j` -/
def lowerLeaves (k : Kids) (j : Nat) : List String :=
  match k[j]? with
  | some (_, c) => leavesL c.kids
  | none => []

/-- the statement of the local fact for one configuration: before and after `Apply` -/
def LocalApart (path : List Nat) (d1 : NodeD) (cross : Bool) (isRoot : Bool) (p1 : Nat) (k1 : Kids) (j p2 : Nat) : Prop :=
  (leavesL k1).Nodup →
    ∀ S', applyLocal isRoot (newNNI path isRoot p1 j p2 cross) (.node d1 p1 k1) = some S' →
      Apart (leavesL k1) (lowerLeaves k1 j) isRoot (splitsL k1) (splitsL S'.kids)

/-- … and for the two neighbours proposed for one branch -/
def LocalTwinApart (path : List Nat) (d1 : NodeD) (isRoot : Bool) (p1 : Nat) (k1 : Kids) (j p2 : Nat) : Prop :=
  (leavesL k1).Nodup →
    ∀ S1 S2, applyLocal isRoot (newNNI path isRoot p1 j p2 false) (.node d1 p1 k1) = some S1 →
      applyLocal isRoot (newNNI path isRoot p1 j p2 true) (.node d1 p1 k1) = some S2 →
      ∃ cb, Apart (leavesL k1) cb isRoot (splitsL S1.kids) (splitsL S2.kids)

/-- the two local facts for one configuration -/
def LocalBoth (path : List Nat) (d1 : NodeD) (isRoot : Bool) (p1 : Nat) (k1 : Kids) (j p2 : Nat) : Prop :=
  (∀ cross, LocalApart path d1 cross isRoot p1 k1 j p2) ∧ LocalTwinApart path d1 isRoot p1 k1 j p2

/-- After `Apply` at the site `node d1 p1 k1` the split list consists of the branches of `R` and the
    central branch, below which are the tips of `K2`. -/
def LocalExchange (path : List Nat) (d1 : NodeD) (cross isRoot : Bool) (p1 : Nat) (k1 : Kids) (j p2 : Nat)
    (e : EdgeD) (K2 R : Kids) : Prop :=
  ∀ S', applyLocal isRoot (newNNI path isRoot p1 j p2 cross) (.node d1 p1 k1) = some S' →
    (splitsL S'.kids).Perm (⟨leavesL K2, e, false⟩ :: splitsL R)

/-- at the root: the neighbour two slots after n2 joins the child that n2 keeps -/
theorem apply_exchange_root (path : List Nat) (d1 d2 : NodeD) (cross : Bool) (e : EdgeD) (u v y z : EdgeD × T)
    (p1 p2 : Nat) (hp2 : p2 ≤ 2) :
    LocalExchange path d1 cross true p1 [(e, T.node d2 p2 [u, v]), y, z] 0 p2 e (kids2 p2 cross u v z) [u, v, z, y] ∧
    LocalExchange path d1 cross true p1 [y, (e, T.node d2 p2 [u, v]), z] 1 p2 e (kids2 p2 cross u v y) [u, v, y, z] ∧
    LocalExchange path d1 cross true p1 [y, z, (e, T.node d2 p2 [u, v])] 2 p2 e (kids2 p2 cross u v z) [u, v, z, y] := by
  obtain ⟨eu, tu⟩ := u
  obtain ⟨ev, tv⟩ := v
  obtain ⟨ey, ty⟩ := y
  obtain ⟨ez, tz⟩ := z
  obtain ⟨h0, h1, h2⟩ := applyLocal_root path d1 d2 p1 p2 cross e (eu, tu) (ev, tv) (ey, ty) (ez, tz) hp2
  rcases kids2_cases p2 cross (eu, tu) (ev, tv) with ⟨hm, -, hk⟩ | ⟨hm, -, hk⟩ <;>
    refine ⟨?_, ?_, ?_⟩ <;> intro S' hS' <;> simp only [h0, h1, h2, hm, hk, Option.some.injEq] at hS' <;> subst hS' <;>
    simp only [hk] <;> ev_entries <;> perm_entries

/-- below the root, n1_2 a child of n1: as at the root -/
theorem apply_exchange_inner (path : List Nat) (d1 d2 : NodeD) (cross : Bool) (e : EdgeD) (u v y : EdgeD × T)
    (p2 : Nat) (hp2 : p2 ≤ 2) :
    LocalExchange path d1 cross false 1 [(e, T.node d2 p2 [u, v]), y] 0 p2 e (kids2 p2 cross u v y) [u, v, y] ∧
    LocalExchange path d1 cross false 0 [y, (e, T.node d2 p2 [u, v])] 1 p2 e (kids2 p2 cross u v y) [u, v, y] ∧
    LocalExchange path d1 cross false 2 [y, (e, T.node d2 p2 [u, v])] 1 p2 e (kids2 p2 cross u v y) [u, v, y] := by
  obtain ⟨eu, tu⟩ := u
  obtain ⟨ev, tv⟩ := v
  obtain ⟨ey, ty⟩ := y
  obtain ⟨h0, h1, h2⟩ := applyLocal_inner path d1 d2 p2 cross e (eu, tu) (ev, tv) (ey, ty) hp2
  rcases kids2_cases p2 cross (eu, tu) (ev, tv) with ⟨hm, -, hk⟩ | ⟨hm, -, hk⟩ <;>
    refine ⟨?_, ?_, ?_⟩ <;> intro S' hS' <;> simp only [h0, h1, h2, hm, hk, Option.some.injEq] at hS' <;> subst hS' <;>
    simp only [hk] <;> ev_entries <;> perm_entries

/-- below the root, n1_2 the parent of n1: n1 is below the central branch now, with `y` and the
    child that n2 gave away -/
theorem apply_exchange_inner_up (path : List Nat) (d1 d2 : NodeD) (cross : Bool) (e : EdgeD) (u v y : EdgeD × T)
    (p2 : Nat) (hp2 : p2 ≤ 2) :
    LocalExchange path d1 cross false 2 [(e, T.node d2 p2 [u, v]), y] 0 p2 e [y, movedKid p2 cross u v] [u, v, y] ∧
    LocalExchange path d1 cross false 0 [(e, T.node d2 p2 [u, v]), y] 0 p2 e [movedKid p2 cross u v, y] [u, v, y] ∧
    LocalExchange path d1 cross false 1 [y, (e, T.node d2 p2 [u, v])] 1 p2 e [y, movedKid p2 cross u v] [u, v, y] := by
  obtain ⟨eu, tu⟩ := u
  obtain ⟨ev, tv⟩ := v
  obtain ⟨ey, ty⟩ := y
  obtain ⟨h0, h1, h2⟩ := applyLocal_inner_up path d1 d2 p2 cross e (eu, tu) (ev, tv) (ey, ty) hp2
  rcases kids2_cases p2 cross (eu, tu) (ev, tv) with ⟨hm, hk, -⟩ | ⟨hm, hk, -⟩ <;>
    rcases kidsTop_cases p2 cross with ht | ht <;>
    refine ⟨?_, ?_, ?_⟩ <;> intro S' hS' <;> simp only [h0, h1, h2, hm, hk, ht, Option.some.injEq] at hS' <;> subst hS' <;>
    simp only [hm] <;> ev_entries <;> perm_entries

/-- `u v` are the child that n2 keeps and the one that moves; `b` takes the place of the latter -/
theorem kept_moved_perm (p2 : Nat) (cross : Bool) (u v : EdgeD × T) :
    [u, v].Perm [keptKid p2 cross u v, movedKid p2 cross u v] ∧
    ∀ b, (kids2 p2 cross u v b).Perm [keptKid p2 cross u v, b] := by
  rcases kids2_cases p2 cross u v with ⟨hm, hk, h⟩ | ⟨hm, hk, h⟩ <;> simp only [hm, hk, h]
  · exact ⟨.swap _ _ _, fun _ => .swap _ _ _⟩
  · exact ⟨.refl _, fun _ => .refl _⟩

/-- with `cross` it is the other child of n2 that moves -/
theorem kept_moved_true (p2 : Nat) (u v : EdgeD × T) :
    keptKid p2 true u v = movedKid p2 false u v ∧ movedKid p2 true u v = keptKid p2 false u v := by
  unfold keptKid movedKid
  generalize (p2 == 1) = q
  cases q <;> exact ⟨rfl, rfl⟩

theorem mem_leavesL_two (x : String) {K : Kids} {w y : EdgeD × T} (h : K.Perm [w, y]) :
    x ∈ leavesL K ↔ x ∈ leavesL [w] ∨ x ∈ leavesL [y] := by
  rw [(leavesL_perm h).mem_iff, ← List.mem_append, ← leavesL_append]; rfl

/-- Both local facts at a site whose children are the lower end, `y` and `D` in some order, from
    what `Apply` does there: the central branch, which had `u v` below it, has `K2 c ~ [w c, y]`
    below it afterwards (`c` is `cross`), where `w c` is one of `u v` and `o c` the other, and
    `w true = o false`. -/
theorem local_of_exchange {path : List Nat} {d1 d2 : NodeD} {isRoot : Bool} {p1 p2 j : Nat} {k1 : Kids} {e : EdgeD}
    {u v y : EdgeD × T} {D : Kids} {w o : Bool → EdgeD × T} {K2 : Bool → Kids}
    (hk : k1.Perm ((e, T.node d2 p2 [u, v]) :: y :: D)) (hcb : lowerLeaves k1 j = leavesL [u, v])
    (hD : isRoot = true → D ≠ []) (hwo : ∀ c, [u, v].Perm [w c, o c]) (htw : w true = o false)
    (hK2 : ∀ c, (K2 c).Perm [w c, y])
    (hx : ∀ c, LocalExchange path d1 c isRoot p1 k1 j p2 e (K2 c) (u :: v :: y :: D)) :
    LocalBoth path d1 isRoot p1 k1 j p2 := by
  have hZ : (leavesL k1).Perm (leavesL (u :: v :: y :: D)) :=
    (leavesL_perm hk).trans (.of_eq ((leavesL_cons e _ _).trans (leavesL_append [u, v] (y :: D)).symm))
  have one : ∀ a : EdgeD × T, [a] ≠ [] := fun _ => List.cons_ne_nil _ _
  refine ⟨fun c hnd S' hS' => ?_, fun hnd S1 S2 h1 h2 => ⟨leavesL (K2 false), ?_⟩⟩
  · have hL : (splitsL k1).Perm (⟨leavesL [u, v], e, false⟩ :: splitsL (u :: v :: y :: D)) :=
      (splitsL_perm hk).trans (.of_eq ((splitsL_cons e _ _).trans (congrArg _ (splitsL_append [u, v] (y :: D)).symm)))
    have hp := ((hwo c).append_right [y]).append_right D
    rw [hcb]
    exact apart_of_exchange [w c] [o c] [y] D (splitsL_perm hp) hL (hx c S' hS')
      (fun x => mem_leavesL_two x (hwo c)) (fun x => mem_leavesL_two x (hK2 c)) (hZ.trans (leavesL_perm hp)) hnd
      (one _) (one _) (one _) hD
  · have hp : (u :: v :: y :: D).Perm ([y] ++ [w false] ++ [w true] ++ D) :=
      ((((htw ▸ hwo false : [u, v].Perm [w false, w true])).append_right [y]).trans List.perm_append_comm).append_right D
    exact apart_of_exchange [y] [w false] [w true] D (splitsL_perm hp) (hx false S1 h1) (hx true S2 h2)
      (fun x => (mem_leavesL_two x (hK2 false)).trans or_comm) (fun x => (mem_leavesL_two x (hK2 true)).trans or_comm)
      (hZ.trans (leavesL_perm hp)) hnd (one _) (one _) (one _) hD

/-- at every site: `Apart` before and after `Apply` (the site being the leaves below the upper
    end), and between the two neighbours proposed for the branch -/
theorem local_site {path : List Nat} {isRoot : Bool} {p1 : Nat} {k1 : Kids} {j : Nat}
    {e : EdgeD} {d2 : NodeD} {p2 : Nat} {u v : EdgeD × T} (d1 : NodeD)
    (s : Site path isRoot p1 k1 j e d2 p2 u v) : LocalBoth path d1 isRoot p1 k1 j p2 := by
  -- when n1_2 is a child of n1 it joins the child that n2 keeps (`kept`); when it is the parent, n1 goes
  -- below the central branch with `y` and the child that moves (`moved`)
  have km := fun c => (kept_moved_perm p2 c u v).1
  have mk := fun c => (km c).trans (.swap _ _ _)
  have k2 := fun c => (kept_moved_perm p2 c u v).2
  have ⟨kt, mt⟩ := kept_moved_true p2 u v
  refine site_cases s (LocalBoth path d1) ?_ ?_
  -- each permutation puts the lower end first and the neighbour that joins second
  · intro y z p1 hp2
    have hx := fun c => apply_exchange_root path d1 d2 c e u v y z p1 p2 hp2
    have hD := fun (w : EdgeD × T) (_ : true = true) => List.cons_ne_nil w []
    exact ⟨local_of_exchange ((List.Perm.swap _ _ _).cons _) rfl (hD _) km kt (k2 · _) fun c => (hx c).1,
      local_of_exchange (.swap _ _ _) rfl (hD _) km kt (k2 · _) fun c => (hx c).2.1,
      local_of_exchange ((List.perm_append_comm (l₁ := [_, _]) (l₂ := [_])).trans ((List.Perm.swap _ _ _).cons _)) rfl
        (hD _) km kt (k2 · _) fun c => (hx c).2.2⟩
  · intro y hp1 hp2
    have hx := fun c => apply_exchange_inner path d1 d2 c e u v y p2 hp2
    have hu := fun c => apply_exchange_inner_up path d1 d2 c e u v y p2 hp2
    have hD : false = true → ([] : Kids) ≠ [] := fun h => nomatch h
    have h1 : p1 = 0 ∨ p1 = 1 ∨ p1 = 2 := by omega
    rcases h1 with rfl | rfl | rfl
    · exact ⟨local_of_exchange (.refl _) rfl hD mk mt (fun _ => .refl _) fun c => (hu c).2.1,
        local_of_exchange (.swap _ _ _) rfl hD km kt (k2 · _) fun c => (hx c).2.1⟩
    · exact ⟨local_of_exchange (.refl _) rfl hD km kt (k2 · _) fun c => (hx c).1,
        local_of_exchange (.swap _ _ _) rfl hD mk mt (fun _ => .swap _ _ _) fun c => (hu c).2.2⟩
    · exact ⟨local_of_exchange (.refl _) rfl hD mk mt (fun _ => .swap _ _ _) fun c => (hu c).1,
        local_of_exchange (.swap _ _ _) rfl hD km kt (k2 · _) fun c => (hx c).2.2⟩

theorem local_apart {path : List Nat} {isRoot : Bool} {p1 : Nat} {k1 : Kids} {j : Nat}
    {e : EdgeD} {d2 : NodeD} {p2 : Nat} {u v : EdgeD × T} (d1 : NodeD) (cross : Bool)
    (s : Site path isRoot p1 k1 j e d2 p2 u v) : LocalApart path d1 cross isRoot p1 k1 j p2 :=
  (local_site d1 s).1 cross

theorem local_twin_apart {path : List Nat} {isRoot : Bool} {p1 : Nat} {k1 : Kids} {j : Nat}
    {e : EdgeD} {d2 : NodeD} {p2 : Nat} {u v : EdgeD × T} (d1 : NodeD)
    (s : Site path isRoot p1 k1 j e d2 p2 u v) : LocalTwinApart path d1 isRoot p1 k1 j p2 :=
  (local_site d1 s).2

/-- the child index of the lower end, recovered from what the NNI remembers -/
def lowIdx (r : NNI) (S : T) : Nat :=
  if r.path.isEmpty then r.i1 else if r.i1 < S.ppos then r.i1 else r.i1 - 1

theorem lowIdx_newNNI (path : List Nat) (isRoot : Bool) (hroot : isRoot = path.isEmpty) (d1 : NodeD) (p1 j p2 : Nat)
    (k1 : Kids) (cross : Bool) : lowIdx (newNNI path isRoot p1 j p2 cross) (.node d1 p1 k1) = j := by
  cases isRoot <;> simp only [lowIdx, newNNI, T.ppos_node, ← hroot, Bool.false_eq_true, if_false, if_true]
  split
  · rfl
  · split <;> omega

macro "within_block" hsub:ident : tactic => `(tactic|
  (unfold Within
   first
   | exact Or.inl (fun x hx => by have := $hsub x hx; grind)
   | exact Or.inr (Or.inl (fun x hx => by have := $hsub x hx; grind))
   | exact Or.inr (Or.inr (Or.inl (fun x hx => by have := $hsub x hx; grind)))
   | exact Or.inr (Or.inr (Or.inr (Or.inl (fun x hx => by have := $hsub x hx; grind))))))

macro "pick2" a:ident b:ident c:ident d:ident : tactic => `(tactic|
  first
  | exact ⟨$a, by grind, by grind⟩
  | exact ⟨$b, by grind, by grind⟩
  | exact ⟨$c, by grind, by grind⟩
  | exact ⟨$d, by grind, by grind⟩)

macro "pick3" a:ident b:ident c:ident d:ident : tactic => `(tactic|
  first
  | exact ⟨$a, by grind, by grind, by grind⟩
  | exact ⟨$b, by grind, by grind, by grind⟩
  | exact ⟨$c, by grind, by grind, by grind⟩
  | exact ⟨$d, by grind, by grind, by grind⟩)

/-- non-root site: the three blocks `u v y`; the central branch of the new tree is child `jj` -/
macro "apart_at3" jj:num e:ident eu:ident ev:ident ey:ident tu:ident tv:ident ty:ident
    xu:ident xv:ident xy:ident bu:ident bv:ident bY:ident : tactic => `(tactic|
  (refine apart_kids ⟨T.leaves $tu ++ T.leaves $tv, $e, false⟩ $jj
    (((⟨T.leaves $tu, $eu, T.isLeaf $tu⟩ : SplitE) :: T.splitsBelow $tu) ++
      ((⟨T.leaves $tv, $ev, T.isLeaf $tv⟩ : SplitE) :: T.splitsBelow $tv) ++
      ((⟨T.leaves $ty, $ey, T.isLeaf $ty⟩ : SplitE) :: T.splitsBelow $ty))
    (by ev_entries; perm_entries) (by ev_entries; perm_entries) (by ev_entries) rfl (by ev_entries)
    (by ev_entries; intro x hx; simp only [List.mem_append] at hx ⊢; grind)
    (by ev_entries; intro x hx; simp only [List.mem_append] at hx ⊢; grind)
    (by ev_entries; pick2 $xu $xv $xy $xy) (by ev_entries; pick2 $xu $xv $xy $xy) (by ev_entries; pick3 $xu $xv $xy $xy)
    (by intro h; cases h) ?_
   ev_entries
   intro s hs
   simp only [List.mem_append] at hs
   rcases hs with (hs | hs) | hs
   · obtain ⟨hne, hsub⟩ := $bu s hs
     exact ⟨hne, by within_block hsub⟩
   · obtain ⟨hne, hsub⟩ := $bv s hs
     exact ⟨hne, by within_block hsub⟩
   · obtain ⟨hne, hsub⟩ := $bY s hs
     exact ⟨hne, by within_block hsub⟩))

/-- root site: the four blocks `u v y z` -/
macro "apart_at4" jj:num e:ident eu:ident ev:ident ey:ident ez:ident tu:ident tv:ident ty:ident tz:ident
    xu:ident xv:ident xy:ident xz:ident bu:ident bv:ident bY:ident bz:ident : tactic => `(tactic|
  (refine apart_kids ⟨T.leaves $tu ++ T.leaves $tv, $e, false⟩ $jj
    (((⟨T.leaves $tu, $eu, T.isLeaf $tu⟩ : SplitE) :: T.splitsBelow $tu) ++
      ((⟨T.leaves $tv, $ev, T.isLeaf $tv⟩ : SplitE) :: T.splitsBelow $tv) ++
      ((⟨T.leaves $ty, $ey, T.isLeaf $ty⟩ : SplitE) :: T.splitsBelow $ty) ++
      ((⟨T.leaves $tz, $ez, T.isLeaf $tz⟩ : SplitE) :: T.splitsBelow $tz))
    (by ev_entries; perm_entries) (by ev_entries; perm_entries) (by ev_entries) rfl (by ev_entries)
    (by ev_entries; intro x hx; simp only [List.mem_append] at hx ⊢; grind)
    (by ev_entries; intro x hx; simp only [List.mem_append] at hx ⊢; grind)
    (by ev_entries; pick2 $xu $xv $xy $xz) (by ev_entries; pick2 $xu $xv $xy $xz) (by ev_entries; pick3 $xu $xv $xy $xz)
    (by intro _; ev_entries; pick3 $xu $xv $xy $xz) ?_
   ev_entries
   intro s hs
   simp only [List.mem_append] at hs
   rcases hs with ((hs | hs) | hs) | hs
   · obtain ⟨hne, hsub⟩ := $bu s hs
     exact ⟨hne, by within_block hsub⟩
   · obtain ⟨hne, hsub⟩ := $bv s hs
     exact ⟨hne, by within_block hsub⟩
   · obtain ⟨hne, hsub⟩ := $bY s hs
     exact ⟨hne, by within_block hsub⟩
   · obtain ⟨hne, hsub⟩ := $bz s hs
     exact ⟨hne, by within_block hsub⟩))

end Gotree.C17

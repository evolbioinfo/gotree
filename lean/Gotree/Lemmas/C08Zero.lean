/-
  C08 — replacing absent lengths by 0 changes neither the shape nor the names of a tree.
-/
import Gotree.Model.C08Zero
import Gotree.Lemmas.C08Bits

namespace Gotree.C08
open Gotree List

mutual
theorem zeroLens_leaves : ∀ (t : T), t.zeroLens.leaves = t.leaves
  | .node d p [] => by simp [T.zeroLens, zeroLensL, T.leaves]
  | .node d p ((e, t) :: r) => by
    have h := zeroLensL_leaves ((e, t) :: r)
    simp only [T.zeroLens, zeroLensL, T.leaves] at h ⊢
    exact h
theorem zeroLensL_leaves : ∀ (k : Kids), leavesL (zeroLensL k) = leavesL k
  | [] => by simp [zeroLensL]
  | (e, t) :: r => by simp only [zeroLensL, leavesL, zeroLens_leaves t, zeroLensL_leaves r]
end

theorem zeroLensL_length : ∀ (k : Kids), (zeroLensL k).length = k.length
  | [] => rfl
  | (_, _) :: r => by simp [zeroLensL, zeroLensL_length r]

theorem zeroLens_kids (t : T) : t.zeroLens.kids = zeroLensL t.kids := by cases t; rfl

theorem zeroLens_name (t : T) : t.zeroLens.name = t.name := by cases t; rfl

theorem zeroLens_tipNames (t : T) : t.zeroLens.tipNames = t.tipNames := by
  unfold T.tipNames
  rw [zeroLens_kids, zeroLensL_length, zeroLensL_leaves, zeroLens_name]

mutual
theorem zeroLens_noSingleBelow : ∀ (t : T), t.zeroLens.noSingleBelow = t.noSingleBelow
  | .node d p k => by
    simp only [T.zeroLens, T.noSingleBelow, zeroLensL_length, zeroLensL_noSingle k]
theorem zeroLensL_noSingle : ∀ (k : Kids), noSingleL (zeroLensL k) = noSingleL k
  | [] => rfl
  | (e, t) :: r => by simp only [zeroLensL, noSingleL, zeroLens_noSingleBelow t, zeroLensL_noSingle r]
end

theorem unrootedOK_zeroLens (t : T) : unrootedOK t.zeroLens = unrootedOK t := by
  unfold unrootedOK T.uniqueTips T.noSingle
  rw [zeroLens_tipNames, zeroLens_kids, zeroLensL_noSingle, zeroLensL_length]

theorem reinitOk_zeroLens (t : T) : reinitOk t.zeroLens = reinitOk t := by
  simp [reinitOk, T.uniqueTips, zeroLens_tipNames]

theorem sameTaxa_zeroLens (r c : T) : sameTaxa r.zeroLens c.zeroLens = sameTaxa r c := by
  unfold sameTaxa; rw [zeroLens_tipNames, zeroLens_tipNames]

end Gotree.C08

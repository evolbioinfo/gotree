/-
  C15 — lemmas about the copies (`Clone`, `SubTree`).  Core Lean only.
-/
import Gotree.Lemmas.C15

namespace Gotree.C15
open Gotree Gotree.C14

/-! ## a copy under a table that copies every observable field is the tree with `ppos` reset -/

theorem copyNodeBy_eq {tb : Table} (h : allObservableFieldsCopied tb = true) (d : NodeD) : copyNodeBy tb d = d := by
  simp only [allObservableFieldsCopied, observableFields, List.all_cons, List.all_nil, Bool.and_true, Bool.and_eq_true] at h
  obtain ⟨h1, h2, -⟩ := h
  simp [copyNodeBy, h1, h2]

theorem copyEdgeBy_eq {tb : Table} (h : allObservableFieldsCopied tb = true) (e : EdgeD) : copyEdgeBy tb e = e := by
  simp only [allObservableFieldsCopied, observableFields, List.all_cons, List.all_nil, Bool.and_true, Bool.and_eq_true] at h
  obtain ⟨-, -, -, h4, h5, h6, h7, h8⟩ := h
  simp [copyEdgeBy, h4, h5, h6, h7, h8]

mutual
theorem copyRecBy_eq {tb : Table} (h : allObservableFieldsCopied tb = true) : ∀ (t : T), copyRecBy tb t = zeroPpos t
  | .node d p k => by simp [copyRecBy, zeroPpos, copyNodeBy_eq h, copyKidsBy_eq h k]
theorem copyKidsBy_eq {tb : Table} (h : allObservableFieldsCopied tb = true) : ∀ (k : Kids), copyKidsBy tb k = zeroPposL k
  | [] => by simp [copyKidsBy, zeroPposL]
  | (e, t) :: r => by simp [copyKidsBy, zeroPposL, copyEdgeBy_eq h, copyRecBy_eq h t, copyKidsBy_eq h r]
end

theorem subTreeBy_eq {tb : Table} (h : allObservableFieldsCopied tb = true) {t n sub : T} {path : List Nat}
    (hn : nodeAt t path = some n) (hs : subTreeBy tb t path = some sub) : sub = zeroPpos n := by
  simp only [subTreeBy, hn, Option.map_some, Option.some.injEq] at hs
  rw [← hs]; exact copyRecBy_eq h n

/-! ## `zeroPpos` changes nothing any enumeration sees -/

theorem zeroPposL_length : ∀ (k : Kids), (zeroPposL k).length = k.length
  | [] => rfl
  | (_, _) :: r => by simp [zeroPposL, zeroPposL_length r]

theorem zeroPpos_kids (t : T) : (zeroPpos t).kids = zeroPposL t.kids := by
  cases t; simp [zeroPpos]

theorem zeroPpos_d (t : T) : (zeroPpos t).d = t.d := by
  cases t; simp [zeroPpos]

theorem zeroPposL_eq_nil (k : Kids) : zeroPposL k = [] ↔ k = [] := by
  cases k <;> simp [zeroPposL]

theorem zeroPpos_isLeaf (t : T) : (zeroPpos t).isLeaf = t.isLeaf := by
  rw [T.isLeaf, T.isLeaf, zeroPpos_kids]
  cases t.kids <;> simp [zeroPposL]

mutual
theorem zeroPpos_leaves : ∀ (t : T), (zeroPpos t).leaves = t.leaves
  | .node d p k => by
    rw [zeroPpos, T.leaves_node, T.leaves_node, zeroPposL_leaves k]
    simp [zeroPposL_eq_nil]
theorem zeroPposL_leaves : ∀ (k : Kids), leavesL (zeroPposL k) = leavesL k
  | [] => rfl
  | (e, t) :: r => by simp [zeroPposL, leavesL, zeroPpos_leaves t, zeroPposL_leaves r]
end

mutual
theorem zeroPpos_splitsBelow : ∀ (t : T), (zeroPpos t).splitsBelow = t.splitsBelow
  | .node d p k => by simp [zeroPpos, zeroPposL_splits k]
theorem zeroPposL_splits : ∀ (k : Kids), splitsL (zeroPposL k) = splitsL k
  | [] => rfl
  | (e, t) :: r => by
    simp [zeroPposL, splitsL, zeroPpos_leaves t, zeroPpos_isLeaf t, zeroPpos_splitsBelow t, zeroPposL_splits r]
end

theorem zeroPpos_splits (t : T) : (zeroPpos t).splits = t.splits := by
  simp [T.splits, zeroPpos_kids, zeroPposL_splits]

theorem zeroPpos_tipNames (t : T) : (zeroPpos t).tipNames = t.tipNames := by
  simp [T.tipNames, T.name, zeroPpos_kids, zeroPpos_d, zeroPposL_length, zeroPposL_leaves]

theorem zeroPpos_dist (t : T) (a b : String) : (zeroPpos t).dist a b = t.dist a b := by
  simp [T.dist, zeroPpos_splits]

mutual
theorem zeroPpos_nodeNames : ∀ (t : T), (zeroPpos t).nodeNames = t.nodeNames
  | .node d p k => by simp [zeroPpos, T.nodeNames, zeroPposL_nodeNames k]
theorem zeroPposL_nodeNames : ∀ (k : Kids), nodeNamesL (zeroPposL k) = nodeNamesL k
  | [] => rfl
  | (e, t) :: r => by simp [zeroPposL, nodeNamesL, zeroPpos_nodeNames t, zeroPposL_nodeNames r]
end

mutual
theorem zeroPpos_idem : ∀ (t : T), zeroPpos (zeroPpos t) = zeroPpos t
  | .node d p k => by simp [zeroPpos, zeroPposL_idem k]
theorem zeroPposL_idem : ∀ (k : Kids), zeroPposL (zeroPposL k) = zeroPposL k
  | [] => rfl
  | (e, t) :: r => by simp [zeroPposL, zeroPpos_idem t, zeroPposL_idem r]
end

/-! ## the structural equality test is reflexive -/

theorem nodeD_beq_refl (d : NodeD) : (d == d) = true := by
  cases d with
  | mk n c =>
    have h : (c == c) = true := beq_self_eq_true c
    simp [BEq.beq, instBEqNodeD.beq] at h ⊢
    exact h

theorem edgeD_beq_refl (e : EdgeD) : (e == e) = true := by
  cases e with
  | mk a b c d i =>
    have h : (d == d) = true := beq_self_eq_true d
    simp [BEq.beq, instBEqEdgeD.beq] at h ⊢
    exact h

mutual
theorem beq_refl_go : ∀ (t : T), T.beq t t = true
  | .node d p k => by simp [T.beq, nodeD_beq_refl, beqL_refl_go k]
theorem beqL_refl_go : ∀ (k : Kids), T.beqL k k = true
  | [] => by simp [T.beqL]
  | (e, t) :: r => by simp [T.beqL, edgeD_beq_refl, beq_refl_go t, beqL_refl_go r]
end

theorem beq_refl_T (t : T) : (t == t) = true := beq_refl_go t

/-! ## the node at a path: distances between the leaves below it are those of the whole tree -/

theorem nodeAt_cons {t n : T} {i : Nat} {r : List Nat} (h : nodeAt t (i :: r) = some n) :
    ∃ pre post e c, t.kids = pre ++ (e, c) :: post ∧ nodeAt c r = some n := by
  simp only [nodeAt] at h
  split at h
  · rename_i e c hc
    exact ⟨_, _, e, c, (list_split_at _ _ _ hc).1, h⟩
  · cases h

theorem nodeAt_leaves_sub : ∀ (path : List Nat) (t n : T), nodeAt t path = some n → ∀ y ∈ leavesL n.kids, y ∈ t.leaves
  | [], t, n, h, y, hy => by
    obtain rfl : t = n := by simpa [nodeAt] using h
    by_cases hk : t.kids = []
    · simp [hk, leavesL] at hy
    · rwa [T.leaves_of_kids_ne hk]
  | i :: r, t, n, h, y, hy => by
    obtain ⟨pre, post, e, c, hk, hc⟩ := nodeAt_cons h
    rw [T.leaves_of_kids_ne (t := t) (by simp [hk]), hk, leavesL_append, leavesL_cons]
    simp [nodeAt_leaves_sub r c n hc y hy]

theorem nodeAt_dist (w : EdgeD → Rat) : ∀ (path : List Nat) (t n : T), nodeAt t path = some n →
    (leavesL t.kids).Nodup → ∀ a b, a ∈ leavesL n.kids → b ∈ leavesL n.kids →
    distW w (splitsL n.kids) a b = distW w (splitsL t.kids) a b
  | [], t, n, h, _, a, b, _, _ => by
    obtain rfl : t = n := by simpa [nodeAt] using h
    rfl
  | i :: r, t, n, h, hu, a, b, ha, hb => by
    obtain ⟨pre, post, e, c, hk, hc⟩ := nodeAt_cons h
    rw [hk, leavesL_append, leavesL_cons] at hu
    have hd := List.nodup_append.mp hu
    have hd2 := List.nodup_append.mp hd.2.1
    have huk : (leavesL c.kids).Nodup := by
      by_cases h0 : c.kids = []
      · simp [h0, leavesL]
      · rw [← T.leaves_of_kids_ne h0]; exact hd2.1
    have sa := nodeAt_leaves_sub r c n hc a ha
    have sb := nodeAt_leaves_sub r c n hc b hb
    rw [nodeAt_dist w r c n hc huk a b ha hb, hk, ← T.splitsBelow_eq]
    exact (distW_into_kid w pre post e c a b sa sb
      ⟨fun hp => hd.2.2 a hp a (by simp [sa]) rfl, fun hp => hd.2.2 b hp b (by simp [sb]) rfl⟩
      ⟨fun hp => hd2.2.2 a sa a hp rfl, fun hp => hd2.2.2 b sb b hp rfl⟩).symm

end Gotree.C15

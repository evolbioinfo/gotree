/-
  C16 — the enumeration never returns the same topology twice (helper lemmas).

  Canonical form of a tree seen from its root: the family of leaf sets below its branches
  (`belowFam`).  Two families are the same topology when each member of one is, as a set, a
  member of the other (`FamEq`, the Prop twin of Spec's `famEq`).
-/
import Gotree.Lemmas.C16Shape

namespace Gotree.C16
open Gotree

/-! ### leaf sets below the branches -/

mutual
def belowsT : T → List (List String)
  | .node _ _ ks => belowsL ks
def belowsL : Kids → List (List String)
  | [] => []
  | (_, t) :: r => t.leaves :: (belowsT t ++ belowsL r)
end

mutual
theorem belowsT_eq : ∀ (t : T), belowsT t = t.splitsBelow.map (·.below)
  | .node d p ks => by simp only [belowsT, T.splitsBelow]; exact belowsL_eq ks
theorem belowsL_eq : ∀ (ks : Kids), belowsL ks = (splitsL ks).map (·.below)
  | [] => rfl
  | (e, t) :: r => by simp only [belowsL, splitsL, List.map_cons, List.map_append, belowsT_eq t, belowsL_eq r]
end

theorem belowFam_eq (t : T) : belowFam t = belowsL t.kids := by
  simp [belowFam, T.splits, belowsL_eq]

theorem mem_belowsL {ks : Kids} {S : List String} : S ∈ belowsL ks ↔ ∃ s ∈ splitsL ks, s.below = S := by
  rw [belowsL_eq, List.mem_map]

/- every member of the family lies inside the leaves -/
theorem belowsL_sub (ks : Kids) (S : List String) (h : S ∈ belowsL ks) : ∀ y ∈ S, y ∈ leavesL ks := by
  obtain ⟨s, hs, rfl⟩ := mem_belowsL.1 h
  exact fun _ hy => (below_sublist_leavesL ks s hs).subset hy

theorem belowsT_sub (t : T) (S : List String) (h : S ∈ belowsT t) : ∀ y ∈ S, y ∈ t.leaves := by
  obtain ⟨d, p, ks⟩ := t
  exact fun y hy => (T.leavesL_kids_sublist _).subset (belowsL_sub ks S h y hy)

theorem belowsL_ne_nil (ks : Kids) (S : List String) (h : S ∈ belowsL ks) : S ≠ [] := by
  obtain ⟨s, hs, rfl⟩ := mem_belowsL.1 h
  exact below_ne_nil ks s hs

theorem belowsT_ne_nil : ∀ (t : T) (S : List String), S ∈ belowsT t → S ≠ []
  | .node _ _ ks, S, h => belowsL_ne_nil ks S h

/-! ### what a graft does to the family, seen after erasing the new tip -/

theorem filter_ne_self (x : String) (l : List String) (h : x ∉ l) : l.filter (· != x) = l := by
  apply List.filter_eq_self.mpr
  intro a ha
  simp only [bne_iff_ne, ne_eq]
  intro hax; exact h (hax ▸ ha)

theorem graft_leaves (x : String) (l0 l1 l2 : Rat) (e : EdgeD) (c : T) :
    (graftLen x l0 l1 l2 (e, c)).2.leaves = x :: c.leaves := by
  rw [graftLen_eq]; simp [T.leaves, leavesL, T.leaf]

theorem graft_belows (x : String) (l0 l1 l2 : Rat) (e : EdgeD) (c : T) :
    belowsT (graftLen x l0 l1 l2 (e, c)).2 = [x] :: c.leaves :: belowsT c := by
  rw [graftLen_eq]; simp [belowsT, belowsL, T.leaves, T.leaf]

theorem leavesL_applyAtL_filter (x : String) (l0 l1 l2 : Rat) : ∀ (ks : Kids) (k : Nat), k < numEdgesL ks →
    x ∉ leavesL ks → (leavesL (applyAtL (graftLen x l0 l1 l2) k ks)).filter (· != x) = leavesL ks :=
  applyAtL_induct _ (fun _ a b => x ∉ leavesL a → (leavesL b).filter (· != x) = leavesL a)
    (fun (e, t) r hx => by
      simp only [leavesL, List.mem_append, not_or] at hx
      simp only [leavesL, graft_leaves, List.filter_append, List.filter_cons, bne_self_eq_false, Bool.false_eq_true,
        if_false, filter_ne_self x _ hx.1, filter_ne_self x _ hx.2])
    (fun e d p ks r j _ hp ih hx => by
      obtain ⟨h1, h2⟩ := leaves_node_applyAtL (graftLen x l0 l1 l2) d p ks j hp
      simp only [leavesL, h1, h2, List.mem_append, not_or] at hx ⊢
      rw [List.filter_append, ih hx.1, filter_ne_self x _ hx.2])
    (fun e t r j ih hx => by
      simp only [leavesL, List.mem_append, not_or] at hx ⊢
      rw [List.filter_append, filter_ne_self x _ hx.1, ih hx.2])

theorem belowsT_filter (x : String) (t : T) (hx : x ∉ t.leaves) (S : List String) (h : S ∈ belowsT t) :
    S.filter (· != x) = S :=
  filter_ne_self x S (fun hm => hx (belowsT_sub t S h x hm))

theorem belowsL_filter (x : String) (ks : Kids) (hx : x ∉ leavesL ks) (S : List String) (h : S ∈ belowsL ks) :
    S.filter (· != x) = S :=
  filter_ne_self x S (fun hm => hx (belowsL_sub ks S h x hm))

theorem map_filter_belowsT (x : String) (t : T) (hx : x ∉ t.leaves) :
    (belowsT t).map (·.filter (· != x)) = belowsT t :=
  (List.map_congr_left fun S hS => belowsT_filter x t hx S hS).trans (List.map_id _)

theorem map_filter_belowsL (x : String) (ks : Kids) (hx : x ∉ leavesL ks) :
    (belowsL ks).map (·.filter (· != x)) = belowsL ks :=
  (List.map_congr_left fun S hS => belowsL_filter x ks hx S hS).trans (List.map_id _)

/-- erasing the new tip from the family after a graft gives the family before, and the empty set
    (the trace of the new terminal branch) -/
theorem belowsL_graft_trace (x : String) (l0 l1 l2 : Rat) : ∀ (ks : Kids) (k : Nat), k < numEdgesL ks → x ∉ leavesL ks →
    ∀ S, S ∈ (belowsL (applyAtL (graftLen x l0 l1 l2) k ks)).map (·.filter (· != x)) ↔ S = [] ∨ S ∈ belowsL ks :=
  applyAtL_induct _ (fun _ a b => x ∉ leavesL a → ∀ S, S ∈ (belowsL b).map (·.filter (· != x)) ↔ S = [] ∨ S ∈ belowsL a)
    (fun (e, t) r hx S => by
      simp only [leavesL, List.mem_append, not_or] at hx
      simp only [belowsL, graft_leaves, graft_belows, List.map_cons, List.map_append, map_filter_belowsT x t hx.1,
        map_filter_belowsL x r hx.2, List.filter_cons, bne_self_eq_false, Bool.false_eq_true, if_false, List.filter_nil,
        filter_ne_self x _ hx.1, List.mem_cons, List.mem_append, List.cons_append]
      grind)
    (fun e d p ks r j hj hp ih hx S => by
      obtain ⟨h1, h2⟩ := leaves_node_applyAtL (graftLen x l0 l1 l2) d p ks j hp
      simp only [leavesL, h1, List.mem_append, not_or] at hx
      simp only [belowsL, belowsT, h1, h2, List.map_cons, List.map_append, map_filter_belowsL x r hx.2,
        leavesL_applyAtL_filter x l0 l1 l2 ks j hj hx.1, List.mem_cons, List.mem_append, ih hx.1 S]
      grind)
    (fun e t r j ih hx S => by
      simp only [leavesL, List.mem_append, not_or] at hx
      simp only [belowsL, List.map_cons, List.map_append, map_filter_belowsT x t hx.1, filter_ne_self x _ hx.1,
        List.mem_cons, List.mem_append, ih hx.2 S]
      grind)

/- (i) every old member is the trace of a new member -/
theorem belowsL_graft_old (x : String) (l0 l1 l2 : Rat) (ks : Kids) (k : Nat) (hk : k < numEdgesL ks) (hx : x ∉ leavesL ks)
    (S : List String) (hS : S ∈ belowsL ks) :
    ∃ S' ∈ belowsL (applyAtL (graftLen x l0 l1 l2) k ks), S'.filter (· != x) = S :=
  List.mem_map.mp ((belowsL_graft_trace x l0 l1 l2 ks k hk hx S).mpr (Or.inr hS))

theorem belowsT_graft_old (x : String) (l0 l1 l2 : Rat) : ∀ (t : T) (k : Nat), k < numEdges t → x ∉ t.leaves →
    ∀ S ∈ belowsT t, ∃ S' ∈ belowsT (applyAt (graftLen x l0 l1 l2) k t), S'.filter (· != x) = S
  | .node d p ks, k, h, hx, S, hS => by
    simp only [applyAt, numEdges, belowsT] at *
    have hp := numEdgesL_pos_length ks (by omega)
    rw [leaves_node_of_pos _ _ _ hp] at hx
    exact belowsL_graft_old x l0 l1 l2 ks k h hx S hS

/- (ii) every new member leaves, after erasing the new tip, nothing or an old member -/
theorem belowsL_graft_new (x : String) (l0 l1 l2 : Rat) (ks : Kids) (k : Nat) (hk : k < numEdgesL ks) (hx : x ∉ leavesL ks)
    (S' : List String) (hS : S' ∈ belowsL (applyAtL (graftLen x l0 l1 l2) k ks)) :
    S'.filter (· != x) = [] ∨ S'.filter (· != x) ∈ belowsL ks :=
  (belowsL_graft_trace x l0 l1 l2 ks k hk hx _).mp (List.mem_map.mpr ⟨S', hS, rfl⟩)

theorem belowsT_graft_new (x : String) (l0 l1 l2 : Rat) : ∀ (t : T) (k : Nat), k < numEdges t → x ∉ t.leaves →
    ∀ S' ∈ belowsT (applyAt (graftLen x l0 l1 l2) k t), S'.filter (· != x) = [] ∨ S'.filter (· != x) ∈ belowsT t
  | .node d p ks, k, h, hx, S, hS => by
    simp only [applyAt, numEdges, belowsT] at *
    have hp := numEdgesL_pos_length ks (by omega)
    rw [leaves_node_of_pos _ _ _ hp] at hx
    exact belowsL_graft_new x l0 l1 l2 ks k h hx S hS

/-! ### equality of families, pruning back -/

def SetEq (a b : List String) : Prop := ∀ y, y ∈ a ↔ y ∈ b

def FamEq (A B : List (List String)) : Prop :=
  (∀ a ∈ A, ∃ b ∈ B, SetEq a b) ∧ (∀ b ∈ B, ∃ a ∈ A, SetEq a b)

theorem setEq_iff (a b : List String) : setEq a b = true ↔ SetEq a b := by
  unfold setEq SetEq
  simp only [Bool.and_eq_true, List.all_eq_true, List.contains_eq_mem, decide_eq_true_eq]
  constructor
  · intro h y; exact ⟨h.1 y, h.2 y⟩
  · intro h; exact ⟨fun y hy => (h y).mp hy, fun y hy => (h y).mpr hy⟩

theorem famEq_iff (A B : List (List String)) : famEq A B = true ↔ FamEq A B := by
  unfold famEq FamEq
  simp only [Bool.and_eq_true, List.all_eq_true, List.any_eq_true, setEq_iff]
  constructor
  · intro h
    refine ⟨h.1, fun b hb => ?_⟩
    obtain ⟨a, ha, hab⟩ := h.2 b hb
    exact ⟨a, ha, fun y => (hab y).symm⟩
  · intro h
    refine ⟨h.1, fun b hb => ?_⟩
    obtain ⟨a, ha, hab⟩ := h.2 b hb
    exact ⟨a, ha, fun y => (hab y).symm⟩

theorem SetEq.filter {a b : List String} (h : SetEq a b) (x : String) :
    SetEq (a.filter (· != x)) (b.filter (· != x)) := by
  intro y; simp only [List.mem_filter, h y]

theorem SetEq.ne_nil {a b : List String} (h : SetEq a b) (ha : a ≠ []) : b ≠ [] := by
  obtain ⟨y, hy⟩ := List.exists_mem_of_ne_nil a ha
  exact List.ne_nil_of_mem ((h y).mp hy)

theorem SetEq.symm {a b : List String} (h : SetEq a b) : SetEq b a := fun y => (h y).symm

theorem FamEq.symm {A B : List (List String)} (h : FamEq A B) : FamEq B A :=
  ⟨fun b hb => by obtain ⟨a, ha, hab⟩ := h.2 b hb; exact ⟨a, ha, hab.symm⟩,
   fun a ha => by obtain ⟨b, hb, hab⟩ := h.1 a ha; exact ⟨b, hb, hab.symm⟩⟩

/-- one direction of the pruning: members of `belows t₁` are found in `belows t₂` -/
theorem prune_half (x : String) (l0 l1 l2 : Rat) (ks1 ks2 : Kids) (k1 k2 : Nat)
    (h1 : k1 < numEdgesL ks1) (h2 : k2 < numEdgesL ks2) (hx1 : x ∉ leavesL ks1) (hx2 : x ∉ leavesL ks2)
    (h : ∀ a ∈ belowsL (applyAtL (graftLen x l0 l1 l2) k1 ks1),
      ∃ b ∈ belowsL (applyAtL (graftLen x l0 l1 l2) k2 ks2), SetEq a b) :
    ∀ a ∈ belowsL ks1, ∃ b ∈ belowsL ks2, SetEq a b := by
  intro a ha
  obtain ⟨a', ha', hfa⟩ := belowsL_graft_old x l0 l1 l2 ks1 k1 h1 hx1 a ha
  obtain ⟨b', hb', hab⟩ := h a' ha'
  have hne : a ≠ [] := belowsL_ne_nil ks1 a ha
  have hse : SetEq a (b'.filter (· != x)) := hfa ▸ hab.filter x
  rcases belowsL_graft_new x l0 l1 l2 ks2 k2 h2 hx2 b' hb' with h0 | h0
  · exact absurd h0 (hse.ne_nil hne)
  · exact ⟨_, h0, hse⟩

theorem prune_back (x : String) (l0 l1 l2 : Rat) (ks1 ks2 : Kids) (k1 k2 : Nat)
    (h1 : k1 < numEdgesL ks1) (h2 : k2 < numEdgesL ks2) (hx1 : x ∉ leavesL ks1) (hx2 : x ∉ leavesL ks2)
    (h : FamEq (belowsL (applyAtL (graftLen x l0 l1 l2) k1 ks1)) (belowsL (applyAtL (graftLen x l0 l1 l2) k2 ks2))) :
    FamEq (belowsL ks1) (belowsL ks2) := by
  refine ⟨prune_half x l0 l1 l2 ks1 ks2 k1 k2 h1 h2 hx1 hx2 h.1, fun b hb => ?_⟩
  obtain ⟨a, ha, hab⟩ := prune_half x l0 l1 l2 ks2 ks1 k2 k1 h2 h1 hx2 hx1 h.symm.1 b hb
  exact ⟨a, ha, hab.symm⟩

/-! ### the leaf set below the k-th branch -/

mutual
def belowAtT (k : Nat) : T → List String
  | .node _ _ ks => belowAtL k ks
def belowAtL (k : Nat) : Kids → List String
  | [] => []
  | (_, t) :: r =>
    if k = 0 then t.leaves
    else if k - 1 < numEdges t then belowAtT (k - 1) t
    else belowAtL (k - 1 - numEdges t) r
end

theorem belowAtL_zero (e : EdgeD) (t : T) (r : Kids) : belowAtL 0 ((e, t) :: r) = t.leaves := by simp [belowAtL]

theorem belowAtL_down (e : EdgeD) (d : NodeD) (p : Nat) (ks r : Kids) (j : Nat) (h : j < numEdgesL ks) :
    belowAtL (j + 1) ((e, .node d p ks) :: r) = belowAtL j ks := by
  simp [belowAtL, belowAtT, numEdges, h]

theorem belowAtL_skip (e : EdgeD) (t : T) (r : Kids) (j : Nat) :
    belowAtL (j + 1 + numEdges t) ((e, t) :: r) = belowAtL j r := by
  have h1 : ¬ j + 1 + numEdges t - 1 < numEdges t := by omega
  have h2 : j + 1 + numEdges t - 1 - numEdges t = j := by omega
  rw [belowAtL, if_neg (by omega), if_neg h1, h2]

/- the path induction with nothing applied -/
theorem belowAtL_mem : ∀ (ks : Kids) (k : Nat), k < numEdgesL ks → belowAtL k ks ∈ belowsL ks :=
  applyAtL_induct id (fun k a _ => belowAtL k a ∈ belowsL a)
    (fun (e, t) r => by rw [belowAtL_zero]; exact List.mem_cons_self)
    (fun e d p ks r j hj _ ih => by
      rw [belowAtL_down _ _ _ _ _ _ hj]; simp only [belowsL, belowsT]
      exact List.mem_cons_of_mem _ (List.mem_append_left _ ih))
    (fun e t r j ih => by
      rw [belowAtL_skip]; simp only [belowsL]
      exact List.mem_cons_of_mem _ (List.mem_append_right _ ih))

theorem belowAtT_mem : ∀ (t : T) (k : Nat), k < numEdges t → belowAtT k t ∈ belowsT t
  | .node d p ks, k, h => by
    simp only [belowAtT, belowsT, numEdges] at *; exact belowAtL_mem ks k h

theorem belowAtT_sub (t : T) (k : Nat) (h : k < numEdges t) : ∀ y ∈ belowAtT k t, y ∈ t.leaves :=
  belowsT_sub t _ (belowAtT_mem t k h)

theorem belowAtL_sub (ks : Kids) (k : Nat) (h : k < numEdgesL ks) : ∀ y ∈ belowAtL k ks, y ∈ leavesL ks :=
  belowsL_sub ks _ (belowAtL_mem ks k h)

theorem belowAtT_ne_nil (t : T) (k : Nat) (h : k < numEdges t) : belowAtT k t ≠ [] :=
  belowsT_ne_nil t _ (belowAtT_mem t k h)

theorem belowAtL_ne_nil (ks : Kids) (k : Nat) (h : k < numEdgesL ks) : belowAtL k ks ≠ [] :=
  belowsL_ne_nil ks _ (belowAtL_mem ks k h)

/- the upper half of the grafted branch carries the new tip and what was below -/
theorem graft_mem_L (x : String) (l0 l1 l2 : Rat) : ∀ (ks : Kids) (k : Nat), k < numEdgesL ks →
    (x :: belowAtL k ks) ∈ belowsL (applyAtL (graftLen x l0 l1 l2) k ks) :=
  applyAtL_induct _ (fun k a b => (x :: belowAtL k a) ∈ belowsL b)
    (fun (e, t) r => by simp only [belowAtL_zero, belowsL, graft_leaves, List.mem_cons, true_or])
    (fun e d p ks r j hj _ ih => by
      rw [belowAtL_down _ _ _ _ _ _ hj]; simp only [belowsL, belowsT]
      exact List.mem_cons_of_mem _ (List.mem_append_left _ ih))
    (fun e t r j ih => by
      rw [belowAtL_skip]; simp only [belowsL]
      exact List.mem_cons_of_mem _ (List.mem_append_right _ ih))

theorem graft_mem_T (x : String) (l0 l1 l2 : Rat) : ∀ (t : T) (k : Nat), k < numEdges t →
    (x :: belowAtT k t) ∈ belowsT (applyAt (graftLen x l0 l1 l2) k t)
  | .node d p ks, k, h => by
    simp only [belowAtT, belowsT, numEdges, applyAt] at *; exact graft_mem_L x l0 l1 l2 ks k h

/- every member that contains the new tip is the new tip alone or contains what was below branch k -/
theorem graft_above_L (x : String) (l0 l1 l2 : Rat) : ∀ (ks : Kids) (k : Nat), k < numEdgesL ks → x ∉ leavesL ks →
    ∀ S ∈ belowsL (applyAtL (graftLen x l0 l1 l2) k ks), x ∈ S → S = [x] ∨ ∀ y ∈ belowAtL k ks, y ∈ S :=
  applyAtL_induct _ (fun k a b => x ∉ leavesL a → ∀ S ∈ belowsL b, x ∈ S → S = [x] ∨ ∀ y ∈ belowAtL k a, y ∈ S)
    (fun (e, t) r hx S hS hxS => by
      simp only [leavesL, List.mem_append, not_or] at hx
      simp only [belowsL, graft_leaves, graft_belows, List.mem_cons, List.mem_append] at hS
      rw [belowAtL_zero]
      rcases hS with rfl | (rfl | rfl | hS) | hS
      · right; intro y hy; exact List.mem_cons_of_mem _ hy
      · left; rfl
      · exact absurd hxS hx.1
      · exact absurd (belowsT_sub t S hS x hxS) hx.1
      · exact absurd (belowsL_sub r S hS x hxS) hx.2)
    (fun e d p ks r j hj hp ih hx S hS hxS => by
      obtain ⟨h1, h2⟩ := leaves_node_applyAtL (graftLen x l0 l1 l2) d p ks j hp
      simp only [leavesL, h1, List.mem_append, not_or] at hx
      simp only [belowsL, belowsT, h2, List.mem_cons, List.mem_append] at hS
      rw [belowAtL_down _ _ _ _ _ _ hj]
      rcases hS with rfl | hS | hS
      · right; intro y hy
        exact (leavesL_applyAtL _ x (graftLen_leaves x l0 l1 l2) ks j hj).symm.subset
          (List.mem_cons_of_mem _ (belowAtL_sub ks j hj y hy))
      · exact ih hx.1 S hS hxS
      · exact absurd (belowsL_sub r S hS x hxS) hx.2)
    (fun e t r j ih hx S hS hxS => by
      simp only [leavesL, List.mem_append, not_or] at hx
      simp only [belowsL, List.mem_cons, List.mem_append] at hS
      rw [belowAtL_skip]
      rcases hS with rfl | hS | hS
      · exact absurd hxS hx.1
      · exact absurd (belowsT_sub t S hS x hxS) hx.1
      · exact ih hx.2 S hS hxS)

theorem graft_above_T (x : String) (l0 l1 l2 : Rat) : ∀ (t : T) (k : Nat), k < numEdges t → x ∉ t.leaves →
    ∀ S ∈ belowsT (applyAt (graftLen x l0 l1 l2) k t), x ∈ S → S = [x] ∨ ∀ y ∈ belowAtT k t, y ∈ S
  | .node d p ks, k, h, hx, S, hS, hxS => by
    simp only [belowAtT, belowsT, numEdges, applyAt] at *
    have hp := numEdgesL_pos_length ks (by omega)
    rw [leaves_node_of_pos _ _ _ hp] at hx
    exact graft_above_L x l0 l1 l2 ks k h hx S hS hxS

/-! ### different branches of a binary tree with distinct leaves have different leaf sets -/

theorem not_setEq_of_disjoint (a b : List String) (A B : List String) (ha : a ≠ [])
    (hA : ∀ y ∈ a, y ∈ A) (hB : ∀ y ∈ b, y ∈ B) (hd : ∀ y, y ∈ A → y ∈ B → False) : ¬ SetEq a b := by
  intro h
  obtain ⟨y, hy⟩ := List.exists_mem_of_ne_nil a ha
  exact hd y (hA y hy) (hB y ((h y).mp hy))

theorem not_setEq_symm {a b : List String} (h : ¬ SetEq a b) : ¬ SetEq b a := fun h' => h h'.symm

theorem nodup_append_disjoint {a b : List String} (h : (a ++ b).Nodup) : ∀ y, y ∈ a → y ∈ b → False := by
  intro y ha hb
  rw [List.nodup_append] at h
  exact h.2.2 y ha y hb rfl

/-- below a branch of a binary subtree some leaf of the subtree is missing -/
theorem belowAtT_strict (t : T) (k : Nat) (hk : k < numEdges t) (hb : t.binaryBelow = true) (hn : t.leaves.Nodup) :
    ∃ y ∈ t.leaves, y ∉ belowAtT k t := by
  cases t with
  | node d p ks =>
    simp only [T.binaryBelow, Bool.and_eq_true, Bool.or_eq_true, beq_iff_eq] at hb
    simp only [numEdges] at hk
    have hp := numEdgesL_pos_length ks (by omega)
    have h2 : ks.length = 2 := by rcases hb.1 with h0 | h2 <;> omega
    match ks, h2 with
    | [(e1, a), (e2, b)], _ =>
      rw [T.leaves_node_cons] at hn ⊢
      simp only [leavesL, List.append_nil] at hn ⊢
      have hdis := nodup_append_disjoint hn
      simp only [belowAtT]
      unfold belowAtL
      split
      · obtain ⟨y, hy⟩ := List.exists_mem_of_ne_nil _ (T.leaves_ne_nil b)
        exact ⟨y, List.mem_append_right _ hy, fun h => hdis y h hy⟩
      · split
        · rename_i h0 h1
          obtain ⟨y, hy⟩ := List.exists_mem_of_ne_nil _ (T.leaves_ne_nil b)
          exact ⟨y, List.mem_append_right _ hy, fun h => hdis y (belowAtT_sub a (k - 1) h1 y h) hy⟩
        · rename_i h0 h1
          obtain ⟨y, hy⟩ := List.exists_mem_of_ne_nil _ (T.leaves_ne_nil a)
          refine ⟨y, List.mem_append_left _ hy, fun h => ?_⟩
          have hk2 : k - 1 - numEdges a < numEdgesL [(e2, b)] := by simp only [numEdgesL] at hk ⊢; omega
          have := belowAtL_sub [(e2, b)] _ hk2 y h
          simp only [leavesL, List.append_nil] at this
          exact hdis y hy this

mutual
theorem belowAtT_inj : ∀ (t : T) (k1 k2 : Nat), t.binaryBelow = true → t.leaves.Nodup →
    k1 < numEdges t → k2 < numEdges t → k1 ≠ k2 → ¬ SetEq (belowAtT k1 t) (belowAtT k2 t)
  | .node d p ks, k1, k2, hb, hn, h1, h2, hne => by
    simp only [T.binaryBelow, Bool.and_eq_true] at hb
    simp only [numEdges] at h1 h2
    have hp := numEdgesL_pos_length ks (by omega)
    rw [leaves_node_of_pos _ _ _ hp] at hn
    simp only [belowAtT]
    exact belowAtL_inj ks k1 k2 hb.2 hn h1 h2 hne
theorem belowAtL_inj : ∀ (ks : Kids) (k1 k2 : Nat), binaryL ks = true → (leavesL ks).Nodup →
    k1 < numEdgesL ks → k2 < numEdgesL ks → k1 ≠ k2 → ¬ SetEq (belowAtL k1 ks) (belowAtL k2 ks)
  | [], k1, _, _, _, h1, _, _ => by simp [numEdgesL] at h1
  | (e, t) :: r, k1, k2, hb, hn, h1, h2, hne => by
    simp only [binaryL, Bool.and_eq_true] at hb
    simp only [leavesL] at hn
    have hdis := nodup_append_disjoint hn
    have hnt : t.leaves.Nodup := (List.nodup_append.mp hn).1
    have hnr : (leavesL r).Nodup := (List.nodup_append.mp hn).2.1
    simp only [numEdgesL] at h1 h2
    unfold belowAtL
    by_cases a0 : k1 = 0
    · simp only [a0, if_true]
      by_cases b0 : k2 = 0
      · omega
      · simp only [b0, if_false]
        by_cases bt : k2 - 1 < numEdges t
        · simp only [bt, if_true]
          obtain ⟨y, hy, hny⟩ := belowAtT_strict t (k2 - 1) bt hb.1 hnt
          intro h; exact hny ((h y).mp hy)
        · simp only [bt, if_false]
          exact not_setEq_of_disjoint _ _ t.leaves (leavesL r) (T.leaves_ne_nil t) (fun y h => h)
            (belowAtL_sub r _ (by omega)) hdis
    · simp only [a0, if_false]
      by_cases at' : k1 - 1 < numEdges t
      · simp only [at', if_true]
        by_cases b0 : k2 = 0
        · simp only [b0, if_true]
          obtain ⟨y, hy, hny⟩ := belowAtT_strict t (k1 - 1) at' hb.1 hnt
          intro h; exact hny ((h y).mpr hy)
        · simp only [b0, if_false]
          by_cases bt : k2 - 1 < numEdges t
          · simp only [bt, if_true]
            exact belowAtT_inj t (k1 - 1) (k2 - 1) hb.1 hnt at' bt (by omega)
          · simp only [bt, if_false]
            exact not_setEq_of_disjoint _ _ t.leaves (leavesL r) (belowAtT_ne_nil t _ at') (belowAtT_sub t _ at')
              (belowAtL_sub r _ (by omega)) hdis
      · simp only [at', if_false]
        have hk1 : k1 - 1 - numEdges t < numEdgesL r := by omega
        by_cases b0 : k2 = 0
        · simp only [b0, if_true]
          exact not_setEq_symm (not_setEq_of_disjoint _ _ t.leaves (leavesL r) (T.leaves_ne_nil t) (fun y h => h)
            (belowAtL_sub r _ hk1) hdis)
        · simp only [b0, if_false]
          by_cases bt : k2 - 1 < numEdges t
          · simp only [bt, if_true]
            exact not_setEq_symm (not_setEq_of_disjoint _ _ t.leaves (leavesL r) (belowAtT_ne_nil t _ bt)
              (belowAtT_sub t _ bt) (belowAtL_sub r _ hk1) hdis)
          · simp only [bt, if_false]
            exact belowAtL_inj r _ _ hb.2 hnr hk1 (by omega) (by omega)
end

/-- grafting the same new tip on two different branches of the same tree gives two different families -/
theorem graft_branch_inj (x : String) (l0 l1 l2 : Rat) (ks : Kids) (k1 k2 : Nat) (hb : binaryL ks = true)
    (hn : (leavesL ks).Nodup) (hx : x ∉ leavesL ks) (h1 : k1 < numEdgesL ks) (h2 : k2 < numEdgesL ks)
    (h : FamEq (belowsL (applyAtL (graftLen x l0 l1 l2) k1 ks)) (belowsL (applyAtL (graftLen x l0 l1 l2) k2 ks))) :
    k1 = k2 := by
  apply Classical.byContradiction
  intro hne
  have half : ∀ (ka kb : Nat), ka < numEdgesL ks → kb < numEdgesL ks →
      (∀ a ∈ belowsL (applyAtL (graftLen x l0 l1 l2) ka ks),
        ∃ b ∈ belowsL (applyAtL (graftLen x l0 l1 l2) kb ks), SetEq a b) →
      ∀ y ∈ belowAtL kb ks, y ∈ belowAtL ka ks := by
    intro ka kb ha hb' hsub y hy
    obtain ⟨b, hbm, hab⟩ := hsub _ (graft_mem_L x l0 l1 l2 ks ka ha)
    have hxb : x ∈ b := (hab x).mp (List.mem_cons_self)
    rcases graft_above_L x l0 l1 l2 ks kb hb' hx b hbm hxb with hbx | hsup
    · -- b = [x]: impossible, something else than x is below branch ka
      exfalso
      obtain ⟨z, hz⟩ := List.exists_mem_of_ne_nil _ (belowAtL_ne_nil ks ka ha)
      have : z ∈ b := (hab z).mp (List.mem_cons_of_mem _ hz)
      rw [hbx, List.mem_singleton] at this
      exact hx (this ▸ belowAtL_sub ks ka ha z hz)
    · have : y ∈ x :: belowAtL ka ks := (hab y).mpr (hsup y hy)
      rcases List.mem_cons.mp this with rfl | h'
      · exact absurd (belowAtL_sub ks kb hb' _ hy) hx
      · exact h'
  have s1 := half k1 k2 h1 h2 h.1
  have s2 := half k2 k1 h2 h1 h.symm.1
  exact belowAtL_inj ks k1 k2 hb hn h1 h2 hne (fun y => ⟨s2 y, s1 y⟩)

/-! ### the enumeration -/

mutual
theorem clone_belowsT : ∀ (t : T), belowsT (clone t) = belowsT t
  | .node d p ks => by simp only [clone, belowsT]; exact cloneL_belowsL ks
theorem cloneL_belowsL : ∀ (ks : Kids), belowsL (cloneL ks) = belowsL ks
  | [] => rfl
  | (e, t) :: r => by simp only [cloneL, belowsL, clone_leaves t, clone_belowsT t, cloneL_belowsL r]
end

/-- the names are pairwise different up to `N` -/
def InjTo (nm : Nat → String) (N : Nat) : Prop := ∀ i j, i < N → j < N → nm i = nm j → i = j

theorem namesUpTo_nodup (nm : Nat → String) (N n : Nat) (hinj : InjTo nm N) (hn : n ≤ N) : (namesUpTo nm n).Nodup := by
  unfold namesUpTo List.Nodup
  rw [List.pairwise_map]
  refine List.Pairwise.imp_of_mem ?_ (List.nodup_range (n := n))
  intro a b ha hb hab h
  exact hab (hinj a b (by have := List.mem_range.mp ha; omega) (by have := List.mem_range.mp hb; omega) h)

theorem next_not_mem (nm : Nat → String) (N n : Nat) (hinj : InjTo nm N) (hn : n < N) : nm n ∉ namesUpTo nm n := by
  unfold namesUpTo
  intro h
  obtain ⟨i, hi, he⟩ := List.mem_map.mp h
  have hi' := List.mem_range.mp hi
  have := hinj i n (by omega) hn he
  omega

theorem TI.nodup {nm : Nat → String} {deg total : Nat} {t : T} (h : TI nm deg total t) (N : Nat) (hinj : InjTo nm N)
    (hN : total ≤ N) : (leavesL t.kids).Nodup :=
  h.leaves.nodup_iff.mpr (namesUpTo_nodup nm N total hinj hN)

theorem TI.fresh {nm : Nat → String} {deg total : Nat} {t : T} (h : TI nm deg total t) (N : Nat) (hinj : InjTo nm N)
    (hN : total < N) : nm total ∉ leavesL t.kids :=
  fun hm => next_not_mem nm N total hinj hN (h.leaves.subset hm)

/-- pruning the last `f` tips: equal families at the leaves of the recursion come from equal
    families at its start -/
theorem rec_prune (nm : Nat → String) (N : Nat) (hinj : InjTo nm N) (deg : Nat) :
    ∀ (f : Nat) (t1 t2 : T) (total : Nat), total + f ≤ N → TI nm deg total t1 → TI nm deg total t2 →
    ∀ u1 ∈ allTopoRaw nm f t1 total, ∀ u2 ∈ allTopoRaw nm f t2 total,
      FamEq (belowsL u1.kids) (belowsL u2.kids) → FamEq (belowsL t1.kids) (belowsL t2.kids)
  | 0, t1, t2, total, _, _, _, u1, hu1, u2, hu2, h => by
    simp only [allTopoRaw, List.mem_singleton] at hu1 hu2
    subst hu1; subst hu2
    exact h
  | f + 1, t1, t2, total, hN, h1, h2, u1, hu1, u2, hu2, h => by
    simp only [allTopoRaw, List.mem_flatMap, List.mem_range] at hu1 hu2
    obtain ⟨k1, hk1, hu1'⟩ := hu1
    obtain ⟨k2, hk2, hu2'⟩ := hu2
    have ih := rec_prune nm N hinj deg f _ _ (total + 1) (by omega) (TI_graft nm deg total t1 k1 hk1 h1)
      (TI_graft nm deg total t2 k2 hk2 h2) u1 hu1' u2 hu2' h
    rw [applyAt_kids, applyAt_kids] at ih
    rw [numEdges_kids] at hk1 hk2
    exact prune_back _ NIL NIL NIL t1.kids t2.kids k1 k2 hk1 hk2 (h1.fresh N hinj (by omega)) (h2.fresh N hinj (by omega)) ih

theorem rec_pairwise (nm : Nat → String) (N : Nat) (hinj : InjTo nm N) (deg : Nat) :
    ∀ (f : Nat) (t : T) (total : Nat), total + f ≤ N → TI nm deg total t →
    (allTopoRaw nm f t total).Pairwise (fun a b => ¬ FamEq (belowsL a.kids) (belowsL b.kids))
  | 0, t, total, _, _ => by simp [allTopoRaw]
  | f + 1, t, total, hN, h => by
    simp only [allTopoRaw]
    rw [List.pairwise_flatMap]
    refine ⟨fun k hk => rec_pairwise nm N hinj deg f _ (total + 1) (by omega)
      (TI_graft nm deg total t k (List.mem_range.mp hk) h), ?_⟩
    refine List.Pairwise.imp_of_mem ?_ (List.pairwise_lt_range (n := numEdges t))
    intro k1 k2 hk1 hk2 hlt u1 hu1 u2 hu2 hfe
    have hk1' := List.mem_range.mp hk1
    have hk2' := List.mem_range.mp hk2
    have h12 := rec_prune nm N hinj deg f _ _ (total + 1) (by omega) (TI_graft nm deg total t k1 hk1' h)
      (TI_graft nm deg total t k2 hk2' h) u1 hu1 u2 hu2 hfe
    rw [applyAt_kids, applyAt_kids] at h12
    rw [numEdges_kids] at hk1' hk2'
    have := graft_branch_inj _ NIL NIL NIL t.kids k1 k2 h.bin (h.nodup N hinj (by omega)) (h.fresh N hinj (by omega))
      hk1' hk2' h12
    omega

theorem pairwiseDistinct_iff : ∀ (l : List (List (List String))),
    pairwiseDistinct l = true ↔ l.Pairwise (fun A B => ¬ FamEq A B)
  | [] => by simp [pairwiseDistinct]
  | a :: r => by
    simp only [pairwiseDistinct, Bool.and_eq_true, List.all_eq_true, Bool.not_eq_true', List.pairwise_cons,
      pairwiseDistinct_iff r]
    constructor
    · intro h
      refine ⟨fun b hb hf => ?_, h.2⟩
      have := h.1 b hb
      rw [(famEq_iff a b).mpr hf] at this
      cases this
    · intro h
      refine ⟨fun b hb => ?_, h.2⟩
      cases hfe : famEq a b with
      | false => rfl
      | true => exact absurd ((famEq_iff a b).mp hfe) (h.1 b hb)

/-! ### the unrooted view: a split is a leaf set or its complement -/

/-- `b` is the complement of `a` among `all` -/
def CompEq (all a b : List String) : Prop := ∀ y ∈ all, (y ∈ a ↔ y ∉ b)

/-- same set of splits: every member of one family is, as a set, a member of the other or the
    complement of a member of the other -/
def USame (all : List String) (A B : List (List String)) : Prop :=
  (∀ a ∈ A, ∃ b ∈ B, SetEq a b ∨ CompEq all a b) ∧ (∀ b ∈ B, ∃ a ∈ A, SetEq a b ∨ CompEq all a b)

/-- no member holds two of the three start tips `a b c` (each member lies in one of the three
    subtrees of the start node) -/
def Q3 (a b c : String) (A : List (List String)) : Prop :=
  ∀ S ∈ A, ¬ (a ∈ S ∧ b ∈ S) ∧ ¬ (a ∈ S ∧ c ∈ S) ∧ ¬ (b ∈ S ∧ c ∈ S)

/-- `S` holds two of the three names -/
def TwoOf (a b c : String) (S : List String) : Prop := (a ∈ S ∧ b ∈ S) ∨ (a ∈ S ∧ c ∈ S) ∨ (b ∈ S ∧ c ∈ S)

theorem Q3_iff_twoOf (a b c : String) (A : List (List String)) : Q3 a b c A ↔ ∀ S ∈ A, ¬ TwoOf a b c S := by
  unfold Q3 TwoOf
  constructor
  · intro h S hS hh
    rcases hh with hh | hh | hh
    · exact (h S hS).1 hh
    · exact (h S hS).2.1 hh
    · exact (h S hS).2.2 hh
  · intro h S hS
    exact ⟨fun hh => h S hS (Or.inl hh), fun hh => h S hS (Or.inr (Or.inl hh)), fun hh => h S hS (Or.inr (Or.inr hh))⟩

/-- three names spread over two sets: one of the sets holds two of them -/
theorem twoOf_of_three {a b c : String} {S1 S2 : List String} (ha : a ∈ S1 ∨ a ∈ S2) (hb : b ∈ S1 ∨ b ∈ S2)
    (hc : c ∈ S1 ∨ c ∈ S2) : TwoOf a b c S1 ∨ TwoOf a b c S2 := by
  unfold TwoOf
  rcases ha with ha | ha <;> rcases hb with hb | hb <;> rcases hc with hc | hc <;> simp [ha, hb, hc]

theorem kid_leaves_mem : ∀ (ks : Kids) (et : EdgeD × T), et ∈ ks → et.2.leaves ∈ belowsL ks
  | [], _, h => by simp at h
  | (e, t) :: r, et, h => by
    simp only [belowsL, List.mem_cons, List.mem_append]
    rcases List.mem_cons.mp h with hh | hh
    · left; rw [hh]
    · right; right; exact kid_leaves_mem r et hh

theorem famEq_of_uSame (a b c : String) (all : List String) (A B : List (List String)) (h1 : a ∈ all) (h2 : b ∈ all)
    (h3 : c ∈ all) (qA : Q3 a b c A) (qB : Q3 a b c B) (h : USame all A B) : FamEq A B := by
  -- complements cannot both avoid two of the three names
  have key : ∀ x ∈ A, ∀ y ∈ B, CompEq all x y → False := by
    intro x hx y hy hab
    have qa := qA x hx
    have qb := qB y hy
    have c1 := hab _ h1; have c2 := hab _ h2; have c3 := hab _ h3
    by_cases a1 : a ∈ x <;> by_cases a2 : b ∈ x <;> by_cases a3 : c ∈ x <;> simp_all
  constructor
  · intro x hx
    obtain ⟨y, hy, hab | hab⟩ := h.1 x hx
    · exact ⟨y, hy, hab⟩
    · exact (key x hx y hy hab).elim
  · intro y hy
    obtain ⟨x, hx, hab | hab⟩ := h.2 y hy
    · exact ⟨x, hx, hab⟩
    · exact (key x hx y hy hab).elim

/-- `Q3` passes to a family each of whose members is covered, as far as the three names go, by a
    member of the given one -/
theorem Q3.cover {a b c : String} {A B : List (List String)} (q : Q3 a b c A)
    (h : ∀ S ∈ B, ∃ S0 ∈ A, ∀ y, y = a ∨ y = b ∨ y = c → y ∈ S → y ∈ S0) : Q3 a b c B := by
  intro S hS
  obtain ⟨S0, hS0, sub⟩ := h S hS
  have q0 := q S0 hS0
  have sa := sub a (Or.inl rfl)
  have sb := sub b (Or.inr (Or.inl rfl))
  have sc := sub c (Or.inr (Or.inr rfl))
  exact ⟨fun hh => q0.1 ⟨sa hh.1, sb hh.2⟩, fun hh => q0.2.1 ⟨sa hh.1, sc hh.2⟩, fun hh => q0.2.2 ⟨sb hh.1, sc hh.2⟩⟩

theorem Q3_graft (a b c : String) (x : String) (l0 l1 l2 : Rat) (ks : Kids) (k : Nat) (hk : k < numEdgesL ks)
    (hx : x ∉ leavesL ks) (x1 : a ≠ x) (x2 : b ≠ x) (x3 : c ≠ x) (q : Q3 a b c (belowsL ks)) :
    Q3 a b c (belowsL (applyAtL (graftLen x l0 l1 l2) k ks)) := by
  refine q.cover fun S hS => ?_
  have keep : ∀ y, y = a ∨ y = b ∨ y = c → y ∈ S → y ∈ S.filter (· != x) := by
    rintro y (rfl | rfl | rfl) hy <;> simp [List.mem_filter, *]
  rcases belowsL_graft_new x l0 l1 l2 ks k hk hx S hS with h0 | h0
  · exact ⟨_, belowAtL_mem ks k hk, fun y hy hyS => by have := keep y hy hyS; rw [h0] at this; cases this⟩
  · exact ⟨_, h0, keep⟩

theorem rec_Q3 (nm : Nat → String) (N : Nat) (hinj : InjTo nm N) (deg : Nat) :
    ∀ (f : Nat) (t : T) (total : Nat), 3 ≤ total → total + f ≤ N → TI nm deg total t →
    Q3 (nm 0) (nm 1) (nm 2) (belowsL t.kids) →
    ∀ u ∈ allTopoRaw nm f t total, Q3 (nm 0) (nm 1) (nm 2) (belowsL u.kids)
  | 0, t, total, _, _, _, q, u, hu => by
    simp only [allTopoRaw, List.mem_singleton] at hu
    subst hu; exact q
  | f + 1, t, total, h3, hN, h, q, u, hu => by
    simp only [allTopoRaw, List.mem_flatMap, List.mem_range] at hu
    obtain ⟨k, hk, hu'⟩ := hu
    refine rec_Q3 nm N hinj deg f _ (total + 1) (by omega) (by omega) (TI_graft nm deg total t k hk h) ?_ u hu'
    rw [applyAt_kids]
    rw [numEdges_kids] at hk
    exact Q3_graft _ _ _ _ NIL NIL NIL t.kids k hk (h.fresh N hinj (by omega))
      (fun e => by have := hinj 0 total (by omega) (by omega) e; omega)
      (fun e => by have := hinj 1 total (by omega) (by omega) e; omega)
      (fun e => by have := hinj 2 total (by omega) (by omega) e; omega) q

/-- the names of the enumeration are pairwise different: `Tip1 …`, or the caller's when those are -/
theorem topoName_inj (names : List String) (n : Nat) (hn : names = [] ∨ (names.length = n ∧ names.Nodup)) :
    InjTo (topoName names) n := by
  intro i j hi hj h
  rcases hn with rfl | ⟨hl, hnd⟩
  · simp only [topoName, List.isEmpty_nil, if_true] at h
    have := tipName_inj h; omega
  · have hne : names.isEmpty = false := by
      cases names with
      | nil => simp at hl; omega
      | cons a r => rfl
    simp only [topoName, hne, Bool.false_eq_true, if_false] at h
    have hi' : i < names.length := by omega
    have hj' : j < names.length := by omega
    rw [List.getD_eq_getElem?_getD, List.getD_eq_getElem?_getD, List.getElem?_eq_getElem hi', List.getElem?_eq_getElem hj'] at h
    simp only [Option.getD_some] at h
    have hp := (List.pairwise_iff_getElem (R := (· ≠ ·))).mp hnd
    rcases Nat.lt_trichotomy i j with hlt | heq | hgt
    · exact absurd h (hp i j hi' hj' hlt)
    · exact heq
    · exact absurd h.symm (hp j i hj' hi' hgt)

/-! ### from the backtracking trees to the returned ones -/

theorem SetEq.refl (a : List String) : SetEq a a := fun _ => Iff.rfl

/-- adding to both families a member that is the same set keeps them equal -/
theorem FamEq.cons {A B : List (List String)} (h : FamEq A B) (x y : List String) (hxy : SetEq x y) :
    FamEq (x :: A) (y :: B) := by
  constructor
  · intro a ha
    rcases List.mem_cons.mp ha with rfl | ha'
    · exact ⟨y, List.mem_cons_self, hxy⟩
    · obtain ⟨b, hb, hab⟩ := h.1 a ha'; exact ⟨b, List.mem_cons_of_mem _ hb, hab⟩
  · intro b hb
    rcases List.mem_cons.mp hb with rfl | hb'
    · exact ⟨x, List.mem_cons_self, hxy⟩
    · obtain ⟨a, ha, hab⟩ := h.2 b hb'; exact ⟨a, List.mem_cons_of_mem _ ha, hab⟩

/-- the family of the returned tree, from the family of the backtracking tree: the same (unrooted),
    or without the set of all tips carried by the branch above the root (rooted) -/
theorem belows_out (nm : Nat → String) (rooted : Bool) (total : Nat) (v : T)
    (h : TI nm (if rooted then 1 else 3) total v) (h2 : 2 ≤ total) :
    belowsL v.kids = (if rooted then [leavesL v.kids] else []) ++ belowsL (dropStem (clone v)).kids := by
  cases rooted with
  | false =>
    simp only [Bool.false_eq_true, if_false] at h ⊢
    have hk : (clone v).kids.length = 3 := by rw [clone_kids, cloneL_length]; exact h.deg
    rw [dropStem_of_three _ hk, clone_kids, cloneL_belowsL]; rfl
  | true =>
    simp only [if_true] at h ⊢
    obtain ⟨d, p, e, dn, pn, a, b, rfl⟩ := TI_one_shape nm total v h h2
    obtain ⟨ea, ta⟩ := a
    obtain ⟨eb, tb⟩ := b
    simp [clone, cloneL, dropStem, belowsL, belowsT, leavesL, T.leaves, clone_leaves, clone_belowsT]

end Gotree.C16

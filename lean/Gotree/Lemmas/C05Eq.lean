/-
  C05 — from "same up to order" to the literal Spec predicate `preserved` that the oracle
  evaluates (needs the sort keys of `usplitsAll` to be distinct: `keysOK`).
-/
import Gotree.Lemmas.C05

namespace Gotree.C05
open Gotree

theorem usplit_beq_refl (a : USplit) : (a == a) = true := by
  cases a with
  | mk side len sup =>
    have : (side == side) = true := by simp
    simp [BEq.beq, instBEqUSplit.beq] at this ⊢
    exact this

instance : ReflBEq USplit := ⟨fun {a} => usplit_beq_refl a⟩

theorem inj_of_nodup_map {α β : Type} (f : α → β) : ∀ (l : List α), (l.map f).Nodup →
    ∀ x ∈ l, ∀ y ∈ l, f x = f y → x = y
  | [], _, x, hx, _, _, _ => by cases hx
  | a :: l, hn, x, hx, y, hy, hxy => by
    simp only [List.map_cons, List.nodup_cons, List.mem_map, not_exists, not_and] at hn
    rcases List.mem_cons.1 hx with hxa | hx' <;> rcases List.mem_cons.1 hy with hya | hy'
    · rw [hxa, hya]
    · exact absurd (hxa ▸ hxy).symm (hn.1 y hy')
    · exact absurd (hya ▸ hxy) (hn.1 x hx')
    · exact inj_of_nodup_map f l hn.2 x hx' y hy' hxy

theorem usplitsAll_sorted (t : T) : t.usplitsAll.Pairwise (fun a b => toString a.side ≤ toString b.side) := by
  rw [T.usplitsAll_eq]
  have h := List.pairwise_mergeSort (le := uLe)
    (by intro a b c; simpa [uLe] using String.le_trans)
    (by intro a b; simpa [uLe] using String.le_total (toString a.side) (toString b.side))
    (ufoldU (t.splits.map (toU t.tipNames)) [])
  simpa [uLe] using h

/-- permuted lists of unrooted splits of two trees are equal as soon as the sort keys of one
    tree are pairwise distinct -/
theorem usplits_eq {t u : T} (h : u.usplits.Perm t.usplits) (hk : keysOK t = true) : u.usplits = t.usplits := by
  have hk' : (t.usplitsAll.map fun s => toString s.side).Nodup := by simpa [keysOK] using hk
  have s1 : u.usplits.Pairwise (fun a b => toString a.side ≤ toString b.side) := (usplitsAll_sorted u).filter _
  have s2 : t.usplits.Pairwise (fun a b => toString a.side ≤ toString b.side) := (usplitsAll_sorted t).filter _
  refine List.Perm.eq_of_pairwise ?_ s1 s2 h
  intro a b ha hb h1 h2
  have ha' : a ∈ t.usplitsAll := (List.mem_filter.1 (h.mem_iff.1 ha)).1
  have hb' : b ∈ t.usplitsAll := (List.mem_filter.1 hb).1
  exact inj_of_nodup_map _ _ hk' a ha' b hb' (String.le_antisymm h1 h2)

theorem tipLens_eq {t u : T} (h : u.tipLens.Perm t.tipLens) (hk : keysOK t = true) : u.tipLens = t.tipLens := by
  have hk' : (t.usplitsAll.map fun s => toString s.side).Nodup := by simpa [keysOK] using hk
  have srt : ∀ v : T, v.tipLens.Pairwise (fun a b => toString a.1 ≤ toString b.1) := by
    intro v
    unfold T.tipLens
    exact ((usplitsAll_sorted v).filter _).map _ (fun a b hab => hab)
  refine List.Perm.eq_of_pairwise ?_ (srt u) (srt t) h
  intro a b ha hb h1 h2
  have ha' := h.mem_iff.1 ha
  unfold T.tipLens at ha' hb
  obtain ⟨x, hx, rfl⟩ := List.mem_map.1 ha'
  obtain ⟨y, hy, rfl⟩ := List.mem_map.1 hb
  have := inj_of_nodup_map _ _ hk' x (List.mem_filter.1 hx).1 y (List.mem_filter.1 hy).1 (String.le_antisymm h1 h2)
  rw [this]

/-- the Spec predicate the oracle evaluates -/
theorem preserved_of_same {t u : T} (h : Same t u) (hk : keysOK t = true) : preserved t u = true := by
  unfold preserved sameTips sameSplits sameDists
  have e1 : sortS u.tipNames = sortS t.tipNames := sortS_congr h.tips
  have e2 := usplits_eq h.usp hk
  have e3 := tipLens_eq h.tl hk
  have e4 : u.distMatrix = t.distMatrix := by
    unfold T.distMatrix
    rw [e1]
    refine Prod.ext rfl ?_
    show List.map _ _ = List.map _ _
    apply List.map_congr_left
    intro a ha
    apply List.map_congr_left
    intro b hb
    by_cases hab : a = b
    · simp [hab]
    · have : (a == b) = false := by simpa using hab
      simp only [this, Bool.false_eq_true, if_false]
      exact h.dist a b (mem_sortS.1 ha) (mem_sortS.1 hb)
  rw [e1, e2, e3, e4]
  simp

end Gotree.C05

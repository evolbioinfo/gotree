/-
  C09 — composition of the insertions over the loop of `Consensus`
  (tree/algo.go:341-381): when the selected rows are pairwise compatible
  (`selOK`), every insertion succeeds and the inner branches of the result are
  exactly the inner rows, with their (mean length, frequency); tip branches get
  the mean length of their row.  The star tree of the first tree satisfies the loop
  invariant, and the result has as many inner branches as there are inner rows.
-/
import Gotree.Lemmas.C09Insert

namespace Gotree.C09
open Gotree

/-! ## sides of a bipartition -/

/-- `X` is one of the two sides of the bipartition `P | tips \ P` -/
def SameSide (tips X P : List String) : Prop :=
  (∀ a ∈ tips, (a ∈ X ↔ a ∈ P)) ∨ (∀ a ∈ tips, (a ∈ X ↔ ¬ a ∈ P))

theorem SameSide.symm' {tips X P : List String} (h : SameSide tips X P) : SameSide tips P X := by
  rcases h with h | h
  · exact Or.inl fun a ha => (h a ha).symm
  · refine Or.inr fun a ha => ⟨fun hp hx => (h a ha).1 hx hp, fun hnx => ?_⟩
    apply Classical.byContradiction
    intro hnp
    exact hnx ((h a ha).2 hnp)

theorem SameSide.trans' {tips X Y Z : List String} (h1 : SameSide tips X Y) (h2 : SameSide tips Y Z) :
    SameSide tips X Z := by
  rcases h1 with h1 | h1 <;> rcases h2 with h2 | h2
  · exact Or.inl fun a ha => (h1 a ha).trans (h2 a ha)
  · exact Or.inr fun a ha => (h1 a ha).trans (h2 a ha)
  · exact Or.inr fun a ha => (h1 a ha).trans (not_congr (h2 a ha))
  · refine Or.inl fun a ha => (h1 a ha).trans ⟨fun hny => ?_, fun hz hy => (h2 a ha).1 hy hz⟩
    apply Classical.byContradiction
    intro hnz
    exact hny ((h2 a ha).2 hnz)

theorem SameSide.of_mem_iff {tips tips' X P : List String} (hm : ∀ a, a ∈ tips ↔ a ∈ tips')
    (h : SameSide tips X P) : SameSide tips' X P := by
  rcases h with h | h
  · exact Or.inl fun a ha => h a ((hm a).2 ha)
  · exact Or.inr fun a ha => h a ((hm a).2 ha)

/-- `SameSide` only looks at the members that are tips -/
theorem SameSide.congr {tips X X' P P' : List String} (hX : ∀ a ∈ tips, (a ∈ X ↔ a ∈ X'))
    (hP : ∀ a ∈ tips, (a ∈ P ↔ a ∈ P')) (h : SameSide tips X P) : SameSide tips X' P' := by
  rcases h with h | h
  · exact Or.inl fun a ha => by rw [← hX a ha, ← hP a ha]; exact h a ha
  · exact Or.inr fun a ha => by rw [← hX a ha, ← hP a ha]; exact h a ha

theorem sameSide_of_perm {tips X X' P : List String} (h : X.Perm X') (hs : SameSide tips X P) : SameSide tips X' P := by
  rcases hs with hs | hs
  · exact Or.inl fun a ha => by rw [← h.mem_iff]; exact hs a ha
  · exact Or.inr fun a ha => by rw [← h.mem_iff]; exact hs a ha

/-- the bipartitions with sides `X` and `Y` can be branches of one tree -/
def Compat (tips X Y : List String) : Prop :=
  (∀ x ∈ X, ¬ x ∈ Y) ∨ SubS X Y ∨ SubS Y X ∨ (∀ a ∈ tips, a ∈ X ∨ a ∈ Y)

theorem Compat.symm {tips X Y : List String} (h : Compat tips X Y) : Compat tips Y X := by
  rcases h with h | h | h | h
  · exact Or.inl fun y hy hx => h y hx hy
  · exact Or.inr (Or.inr (Or.inl h))
  · exact Or.inr (Or.inl h)
  · exact Or.inr (Or.inr (Or.inr fun a ha => (h a ha).symm))

/-- compatibility only depends on which side of the bipartition is presented -/
theorem Compat.left {tips X P S : List String} (hX : SubS X tips) (hS : SubS S tips) (hP : SubS P tips)
    (hss : SameSide tips X P) (c : Compat tips P S) : Compat tips X S := by
  rcases hss with he | hc
  · have xp : ∀ x ∈ X, x ∈ P := fun x hx => (he x (hX x hx)).1 hx
    have px : ∀ x ∈ P, x ∈ X := fun x hx => (he x (hP x hx)).2 hx
    rcases c with h | h | h | h
    · exact Or.inl fun x hx => h x (xp x hx)
    · exact Or.inr (Or.inl fun x hx => h x (xp x hx))
    · exact Or.inr (Or.inr (Or.inl fun x hx => px x (h x hx)))
    · exact Or.inr (Or.inr (Or.inr fun a ha => (h a ha).imp (px a) id))
  · have xnp : ∀ x ∈ X, ¬ x ∈ P := fun x hx => (hc x (hX x hx)).1 hx
    have npx : ∀ x ∈ tips, ¬ x ∈ P → x ∈ X := fun x hx h => (hc x hx).2 h
    rcases c with h | h | h | h
    · exact Or.inr (Or.inr (Or.inl fun s hs => npx s (hS s hs) fun hp => h s hp hs))
    · refine Or.inr (Or.inr (Or.inr fun a ha => ?_))
      by_cases hp : a ∈ P
      · exact Or.inr (h a hp)
      · exact Or.inl (npx a ha hp)
    · exact Or.inl fun x hx hs => xnp x hx (h x hs)
    · refine Or.inr (Or.inl fun x hx => ?_)
      rcases h x (hX x hx) with h' | h'
      · exact absurd h' (xnp x hx)
      · exact h'

theorem subB_iff (a b : List String) : subB a b = true ↔ SubS a b := by
  simp [subB, SubS, List.all_eq_true]

theorem disjB_iff (a b : List String) : disjB a b = true ↔ ∀ x ∈ a, ¬ x ∈ b := by
  simp [disjB, List.all_eq_true]

theorem coverB_iff (tips a b : List String) : coverB tips a b = true ↔ ∀ x ∈ tips, x ∈ a ∨ x ∈ b := by
  simp [coverB, List.all_eq_true]

/-- `pairOK`: compatible, and neither the same side nor complementary sides -/
theorem pairOK_iff (tips a b : List String) : pairOK tips a b = true ↔
    (((∀ x ∈ a, ¬ x ∈ b) ∨ SubS a b ∨ SubS b a ∨ (∀ x ∈ tips, x ∈ a ∨ x ∈ b)) ∧
      ¬ (SubS a b ∧ SubS b a) ∧ ¬ ((∀ x ∈ a, ¬ x ∈ b) ∧ (∀ x ∈ tips, x ∈ a ∨ x ∈ b))) := by
  unfold pairOK
  simp only [Bool.and_eq_true, Bool.or_eq_true, Bool.not_eq_true',
    disjB_iff, subB_iff, coverB_iff, ← Bool.not_eq_true, or_assoc, and_assoc]

/-- sides within `tips` that are compatible and different (`pairOK`) belong to different bipartitions -/
theorem not_sameSide_of_pairOK {tips P Q : List String} (hP : SubS P tips) (hQ : SubS Q tips)
    (h : pairOK tips P Q = true) : ¬ SameSide tips P Q := by
  obtain ⟨_, n1, n2⟩ := (pairOK_iff tips P Q).1 h
  rintro (hs | hs)
  · exact n1 ⟨fun a ha => (hs a (hP a ha)).1 ha, fun a ha => (hs a (hQ a ha)).2 ha⟩
  · exact n2 ⟨fun a ha hq => (hs a (hP a ha)).1 ha hq, fun a ha => by
      by_cases hp : a ∈ P
      · exact Or.inl hp
      · exact Or.inr (Classical.byContradiction fun hnq => hp ((hs a ha).2 hnq))⟩

/-- a branch whose side is a side of an earlier, compatible and different row -/
theorem cladeOK_of_sameSide {tips X P S : List String} (hX : SubS X tips) (hS : SubS S tips) (hP : SubS P tips)
    (hss : SameSide tips X P) (hpair : pairOK tips P S = true) : CladeOK S tips X := by
  have hne := not_sameSide_of_pairOK hP hS hpair
  refine ⟨Compat.left hX hS hP hss ((pairOK_iff tips P S).1 hpair).1, fun h => ?_, fun h => ?_⟩
  · exact hne (hss.symm'.trans' (Or.inl fun a _ => ⟨h.1 a, h.2 a⟩))
  · exact hne (hss.symm'.trans' (Or.inr fun a ha => ⟨h.1 a, fun hn => (h.2 a ha).resolve_right hn⟩))

/-- sizes of the two presentations of a side -/
theorem sameSide_length {tips X Y : List String} (hT : tips.Nodup) (hX : X.Nodup) (hY : Y.Nodup)
    (hXT : SubS X tips) (hYT : SubS Y tips) (h : SameSide tips Y X) :
    Y.length = X.length ∨ Y.length + X.length = tips.length := by
  rcases h with h | h
  · left
    apply List.Perm.length_eq
    rw [List.perm_ext_iff_of_nodup hY hX]
    intro a
    exact ⟨fun ha => (h a (hYT a ha)).1 ha, fun ha => (h a (hXT a ha)).2 ha⟩
  · right
    have h1 := length_filter_not X.contains tips
    have h2 : (tips.filter X.contains).length = X.length := length_filter_of_sub hX hT hXT
    have h3 : Y.length = (tips.filter (fun a => !X.contains a)).length := by
      apply List.Perm.length_eq
      rw [List.perm_ext_iff_of_nodup hY (hT.filter _)]
      intro a
      rw [List.mem_filter]
      simp only [Bool.not_eq_true', List.contains_eq_mem, decide_eq_false_iff_not]
      exact ⟨fun ha => ⟨hYT a ha, (h a (hYT a ha)).1 ha⟩, fun ⟨ha, hn⟩ => (h a ha).2 hn⟩
    omega

/-- a tip branch is compatible with every bipartition that has two tips on each side -/
theorem cladeOK_singleton {tips S : List String} (a : String) (hT : tips.Nodup) (hSnd : S.Nodup)
    (hS2 : 2 ≤ S.length) (hSN : S.length + 2 ≤ tips.length) : CladeOK S tips [a] := by
  refine ⟨?_, ?_, ?_⟩
  · by_cases ha : a ∈ S
    · exact Or.inr (Or.inl fun x hx => by simp only [List.mem_singleton] at hx; subst hx; exact ha)
    · exact Or.inl fun x hx => by simp only [List.mem_singleton] at hx; subst hx; exact ha
  · rintro ⟨_, h2⟩
    have := sub_length hSnd (show S ⊆ [a] from fun x hx => h2 x hx)
    simp at this; omega
  · rintro ⟨_, h2⟩
    have : tips ⊆ a :: S := fun x hx => by
      rcases h2 x hx with h | h
      · simp only [List.mem_singleton] at h; simp [h]
      · simp [h]
    have := sub_length hT this
    simp at this; omega

/-! ## entries of the split list are sublists of the leaves -/

theorem below_sublist_T : ∀ t : T, ∀ s ∈ t.splitsBelow, s.below.Sublist t.leaves := T.below_sublist_leaves

theorem below_sublist_L : ∀ k : Kids, ∀ s ∈ splitsL k, s.below.Sublist (leavesL k) := below_sublist_leavesL

/-! ## the loop invariant -/

/-- State of the insertion loop: `inner` are the inner rows inserted so far
    (side, length, support), `tipv` the tip rows (tip, length). -/
structure LoopInv (tips : List String) (cur : T) (inner : List (List String × Rat × Rat))
    (tipv : List (String × Rat)) : Prop where
  deg : 2 ≤ cur.kids.length
  nd : (leavesL cur.kids).Nodup
  perm : (leavesL cur.kids).Perm tips
  j1 : ∀ s ∈ cur.splits, (∃ a, s.below = [a]) ∨
    (s.tip = false ∧ ∃ p ∈ inner, SameSide tips s.below p.1 ∧ s.e.len = p.2.1 ∧ s.e.sup = p.2.2)
  j2 : ∀ p ∈ inner, ∃ s ∈ cur.splits, s.tip = false ∧ SameSide tips s.below p.1 ∧ s.e.len = p.2.1 ∧ s.e.sup = p.2.2
  j3 : ∀ av ∈ tipv, ∀ s ∈ cur.splits, s.below = [av.1] → s.tip = true → s.e.len = av.2
  cnt : ni cur.splits ≤ inner.length

/-- the tips below a branch of the current tree are tips, each once -/
theorem LoopInv.below {tips : List String} {cur : T} {inner : List (List String × Rat × Rat)}
    {tipv : List (String × Rat)} (inv : LoopInv tips cur inner tipv) {s : SplitE} (hs : s ∈ cur.splits) :
    SubS s.below tips ∧ s.below.Nodup :=
  ⟨fun _ ha => inv.perm.mem_iff.1 ((below_sublist_L cur.kids s hs).subset ha),
    (below_sublist_L cur.kids s hs).nodup inv.nd⟩

theorem tipNames_eq_leaves (t : T) (h : 2 ≤ t.kids.length) : t.tipNames = leavesL t.kids :=
  T.tipNames_of_ne_one (by omega)

/-- the side of a new branch -/
theorem sameSide_of_isNew {tips S below : List String} {len sup : Rat} {s : SplitE} (hT : tips.Nodup)
    (hSnd : S.Nodup) (hST : SubS S tips) (hb : s.below = below) (hbnd : below.Nodup) (hbT : SubS below tips)
    (h : IsNew S S.length tips.length len sup s) : SameSide tips below S := by
  obtain ⟨_, _, h | h⟩ := h
  · rw [hb] at h
    exact Or.inl fun a _ => ⟨h.1 a, h.2 a⟩
  · rw [hb] at h
    refine Or.inr fun a ha => ⟨h.1 a, fun hna => ?_⟩
    -- pigeonhole: below ⊆ tips \ S and both have tips.length - S.length elements
    have h1 := length_filter_not S.contains tips
    have h2 : (tips.filter S.contains).length = S.length := length_filter_of_sub hSnd hT hST
    have hsub : below ⊆ tips.filter (fun a => !S.contains a) := fun x hx =>
      List.mem_filter.2 ⟨hbT x hx, by simpa using h.1 x hx⟩
    have := sub_of_length hbnd hsub (by omega)
    exact this (List.mem_filter.2 ⟨ha, by simpa using hna⟩)

/-- one inner row -/
theorem step_inner (tips : List String) (hT : tips.Nodup) (cur : T) (inner : List (List String × Rat × Rat))
    (tipv : List (String × Rat)) (inv : LoopInv tips cur inner tipv)
    (S : List String) (len sup : Rat) (hSnd : S.Nodup) (hS2 : 2 ≤ S.length)
    (hSN : S.length + 2 ≤ tips.length) (hST : SubS S tips)
    (hpairs : ∀ p ∈ inner, pairOK tips p.1 S = true ∧ SubS p.1 tips) :
    ∃ cur', insertSplit S len sup cur = .ok cur' ∧ LoopInv tips cur' (inner ++ [(S, len, sup)]) tipv := by
  have htn := tipNames_eq_leaves cur inv.deg
  have hdeg : cur.kids.length ≠ 1 := by have := inv.deg; omega
  have hnd : cur.tipNames.Nodup := by rw [htn]; exact inv.nd
  have hmem : ∀ a, a ∈ cur.tipNames ↔ a ∈ tips := fun a => by rw [htn]; exact inv.perm.mem_iff
  have hlen : cur.tipNames.length = tips.length := by rw [htn]; exact inv.perm.length_eq
  have hsub : SubS S cur.tipNames := fun a ha => (hmem a).2 (hST a ha)
  have hout : ∃ a ∈ cur.tipNames, ¬ a ∈ S := by
    apply Classical.byContradiction
    intro hcon
    have : tips ⊆ S := fun a ha => by
      apply Classical.byContradiction
      intro hna
      exact hcon ⟨a, (hmem a).2 ha, hna⟩
    have := sub_length hT this
    omega
  have hbelow : ∀ s ∈ cur.splits, SubS s.below tips := fun s hs => (inv.below hs).1
  have hclades : ∀ s ∈ cur.splits, CladeOK S cur.tipNames s.below := by
    intro s hs
    have hc : CladeOK S tips s.below := by
      rcases inv.j1 s hs with ⟨a, ha⟩ | ⟨_, p, hp, hss, _, _⟩
      · rw [ha]; exact cladeOK_singleton a hT hSnd hS2 hSN
      · exact cladeOK_of_sameSide (hbelow s hs) hST (hpairs p hp).2 hss (hpairs p hp).1
    refine ⟨?_, hc.neS, ?_⟩
    · rcases hc.compat with h | h | h | h
      · exact Or.inl h
      · exact Or.inr (Or.inl h)
      · exact Or.inr (Or.inr (Or.inl h))
      · exact Or.inr (Or.inr (Or.inr fun a ha => h a ((hmem a).1 ha)))
    · rintro ⟨h1, h2⟩
      exact hc.neC ⟨h1, fun a ha => h2 a ((hmem a).2 ha)⟩
  obtain ⟨cur', hok, snew, hsnew, hnew⟩ := insertSplit_adds S len sup cur hnd hdeg hSnd hS2 hsub hout hclades
  have hfil : S.filter cur.tipNames.contains = S := by
    rw [List.filter_eq_self]; intro a ha; simpa using hsub a ha
  obtain ⟨hkeeps, holdnew, hperm, hdeg', hni⟩ := insertSplit_spec S len sup cur cur' hnd hdeg hSnd hok
  rw [hfil, hlen] at holdnew
  rw [hlen] at hnew
  have hnd' : (leavesL cur'.kids).Nodup := hperm.nodup_iff.2 inv.nd
  have hperm' : (leavesL cur'.kids).Perm tips := hperm.trans inv.perm
  have hbelow' : ∀ s ∈ cur'.splits, SubS s.below tips ∧ s.below.Nodup := fun s hs =>
    ⟨fun a ha => hperm'.mem_iff.1 ((below_sublist_L cur'.kids s hs).subset ha),
      (below_sublist_L cur'.kids s hs).nodup hnd'⟩
  have newSide : ∀ s ∈ cur'.splits, IsNew S S.length tips.length len sup s →
      s.tip = false ∧ SameSide tips s.below S ∧ s.e.len = len ∧ s.e.sup = sup := by
    intro s hs hn
    refine ⟨hn.2.1, sameSide_of_isNew hT hSnd hST rfl (hbelow' s hs).2 (hbelow' s hs).1 hn, ?_, ?_⟩
    · rw [hn.1]; rfl
    · rw [hn.1]; rfl
  refine ⟨cur', hok, ⟨hdeg' inv.deg, hnd', hperm', ?_, ?_, ?_, by
    have := inv.cnt; simp only [List.length_append, List.length_cons, List.length_nil]; omega⟩⟩
  · intro s' hs'
    rcases holdnew s' hs' with ⟨s, hs, hsame⟩ | hn
    · rcases inv.j1 s hs with ⟨a, ha⟩ | ⟨htip, p, hp, hss, hl, hsu⟩
      · left
        refine ⟨a, ?_⟩
        have := hsame.1; rw [ha] at this
        exact List.perm_singleton.1 this.symm
      · right
        refine ⟨by rw [← hsame.2.2.2]; exact htip, p, List.mem_append_left _ hp,
          sameSide_of_perm hsame.1 hss, by rw [← hsame.2.1]; exact hl, by rw [← hsame.2.2.1]; exact hsu⟩
    · right
      obtain ⟨h1, h2, h3, h4⟩ := newSide s' hs' hn
      exact ⟨h1, (S, len, sup), by simp, h2, h3, h4⟩
  · intro p hp
    rcases List.mem_append.1 hp with hp | hp
    · obtain ⟨s, hs, htip, hss, hl, hsu⟩ := inv.j2 p hp
      obtain ⟨s', hs', hsame⟩ := hkeeps s hs
      exact ⟨s', hs', by rw [← hsame.2.2.2]; exact htip, sameSide_of_perm hsame.1 hss,
        by rw [← hsame.2.1]; exact hl, by rw [← hsame.2.2.1]; exact hsu⟩
    · simp only [List.mem_singleton] at hp; subst hp
      obtain ⟨h1, h2, h3, h4⟩ := newSide snew hsnew hnew
      exact ⟨snew, hsnew, h1, h2, h3, h4⟩
  · intro av hav s' hs' hb htip
    rcases holdnew s' hs' with ⟨s, hs, hsame⟩ | hn
    · have hb' : s.below = [av.1] := by
        have := hsame.1; rw [hb] at this
        exact List.perm_singleton.1 this
      rw [← hsame.2.1]
      exact inv.j3 av hav s hs hb' (by rw [hsame.2.2.2]; exact htip)
    · rw [hn.2.1] at htip; cases htip

theorem setTipLenL_length (a : String) (v : Rat) : ∀ k : Kids, (setTipLenL a v k).length = k.length
  | [] => by simp [setTipLenL]
  | (e, t) :: r => by
    have := setTipLenL_length a v r
    unfold setTipLenL
    simp [this]

theorem setLenEntry_below (a : String) (v : Rat) (s : SplitE) : (setLenEntry a v s).below = s.below := by
  unfold setLenEntry; split <;> rfl

theorem setLenEntry_tip (a : String) (v : Rat) (s : SplitE) : (setLenEntry a v s).tip = s.tip := by
  unfold setLenEntry; split <;> rfl

theorem setLenEntry_sup (a : String) (v : Rat) (s : SplitE) : (setLenEntry a v s).e.sup = s.e.sup := by
  unfold setLenEntry; split <;> rfl

theorem setLenEntry_inner (a : String) (v : Rat) (s : SplitE) (h : s.tip = false) : setLenEntry a v s = s := by
  unfold setLenEntry; simp [h]

/-- one tip row -/
theorem step_tip (tips : List String) (cur : T) (inner : List (List String × Rat × Rat))
    (tipv : List (String × Rat)) (inv : LoopInv tips cur inner tipv) (a : String) (v : Rat)
    (hfresh : ∀ bw ∈ tipv, bw.1 ≠ a) :
    LoopInv tips (setTipLen a v cur) inner (tipv ++ [(a, v)]) := by
  have hsp := setTipLen_splits a v cur
  cases cur with
  | node d p k =>
    have hk : (setTipLen a v (.node d p k)).kids = setTipLenL a v k := rfl
    refine ⟨?_, ?_, ?_, ?_, ?_, ?_, ?_⟩
    rotate_left 6
    · rw [hsp]
      have : ni ((T.node d p k).splits.map (setLenEntry a v)) = ni (T.node d p k).splits := by
        unfold ni
        rw [List.filter_map, List.length_map]
        congr 1
        apply List.filter_congr
        intro s _
        simp [Function.comp, setLenEntry_tip]
      rw [this]; exact inv.cnt
    · rw [hk, setTipLenL_length]; exact inv.deg
    · rw [hk, setTipLenL_leaves]; exact inv.nd
    · rw [hk, setTipLenL_leaves]; exact inv.perm
    · intro s' hs'
      rw [hsp] at hs'
      obtain ⟨s, hs, rfl⟩ := List.mem_map.1 hs'
      rcases inv.j1 s hs with ⟨b, hb⟩ | ⟨htip, h⟩
      · exact Or.inl ⟨b, by rw [setLenEntry_below]; exact hb⟩
      · rw [setLenEntry_inner a v s htip]; exact Or.inr ⟨htip, h⟩
    · intro q hq
      obtain ⟨s, hs, htip, h⟩ := inv.j2 q hq
      refine ⟨s, ?_, htip, h⟩
      rw [hsp]
      exact List.mem_map.2 ⟨s, hs, setLenEntry_inner a v s htip⟩
    · intro bw hbw s' hs' hb htip
      rw [hsp] at hs'
      obtain ⟨s, hs, rfl⟩ := List.mem_map.1 hs'
      rw [setLenEntry_below] at hb
      rw [setLenEntry_tip] at htip
      rcases List.mem_append.1 hbw with h | h
      · have hne : bw.1 ≠ a := hfresh bw h
        have : setLenEntry a v s = s := by
          unfold setLenEntry
          have : (s.below == [a]) = false := by
            rw [hb]; simp [hne]
          simp [this]
        rw [this]
        exact inv.j3 bw h s hs hb htip
      · simp only [List.mem_singleton] at h; subst h
        unfold setLenEntry
        simp [hb, htip]

/-! ## the loop -/

/-- the inner rows among `rows`, as (side, mean length, frequency) -/
def innerRows (alltips : List String) (n : Nat) (rows : List Entry) : List (List String × Rat × Rat) :=
  (rows.filter fun x => decide (2 ≤ (rowNames alltips x).length)).map fun x =>
    (rowNames alltips x, x.len / (x.count : Rat), (x.count : Rat) / (n : Rat))

/-- the tip rows among `rows`, as (tip, mean length) -/
def tipRows (alltips : List String) (rows : List Entry) : List (String × Rat) :=
  rows.filterMap fun x =>
    match rowNames alltips x with
    | [a] => some (a, x.len / (x.count : Rat))
    | _ => none

theorem tipRow_none (l : List String) (v : Rat) (h2 : 2 ≤ l.length) :
    (match l with | [a] => some (a, v) | _ => none) = none := by
  match l, h2 with
  | [], h => simp at h
  | [a], h => simp at h
  | _ :: _ :: _, _ => rfl

theorem allPairsOK_pairwise (tips : List String) : ∀ l : List (List String),
    allPairsOK tips l = true → l.Pairwise (fun a b => pairOK tips a b = true)
  | [], _ => List.Pairwise.nil
  | a :: r, h => by
    simp only [allPairsOK, Bool.and_eq_true, List.all_eq_true] at h
    exact List.Pairwise.cons h.1 (allPairsOK_pairwise tips r h.2)

theorem allPairsOK_mid (tips : List String) (l1 : List (List String)) (a : List String) (l2 : List (List String))
    (h : allPairsOK tips (l1 ++ a :: l2) = true) : ∀ p ∈ l1, pairOK tips p a = true :=
  fun p hp => (List.pairwise_append.1 (allPairsOK_pairwise tips _ h)).2.2 p hp a List.mem_cons_self

theorem nodupB_mid : ∀ (l1 : List (List String)) (a : List String) (l2 : List (List String)),
    nodupB (l1 ++ a :: l2) = true → ¬ a ∈ l1
  | [], _, _, _ => by simp
  | x :: l1, a, l2, h => by
    simp only [List.cons_append, nodupB, Bool.and_eq_true, Bool.not_eq_true', List.contains_eq_mem,
      decide_eq_false_iff_not] at h
    intro hmem
    rcases List.mem_cons.1 hmem with rfl | hmem
    · exact h.1 (by simp)
    · exact nodupB_mid l1 a l2 h.2 hmem

theorem mem_tipRows {alltips : List String} {rows : List Entry} {bw : String × Rat} (h : bw ∈ tipRows alltips rows) :
    [bw.1] ∈ rows.map (rowNames alltips) := by
  unfold tipRows at h
  obtain ⟨x, hx, hm⟩ := List.mem_filterMap.1 h
  refine List.mem_map.2 ⟨x, hx, ?_⟩
  split at hm
  · rename_i a heq
    simp only [Option.some.injEq] at hm
    rw [← hm]; exact heq
  · cases hm

theorem mem_innerRows {alltips : List String} {n : Nat} {sel : List Entry} {p : List String × Rat × Rat} :
    p ∈ innerRows alltips n sel ↔ ∃ x ∈ sel, 2 ≤ (rowNames alltips x).length ∧
      p = (rowNames alltips x, x.len / (x.count : Rat), (x.count : Rat) / (n : Rat)) := by
  unfold innerRows
  simp only [List.mem_map, List.mem_filter, decide_eq_true_eq]
  constructor
  · rintro ⟨x, ⟨hx, h2⟩, rfl⟩; exact ⟨x, hx, h2, rfl⟩
  · rintro ⟨x, hx, h2, rfl⟩; exact ⟨x, ⟨hx, h2⟩, rfl⟩

theorem mem_innerRows' {alltips : List String} {n : Nat} {sel : List Entry} {p : List String × Rat × Rat} :
    p ∈ innerRows alltips n sel ↔ ∃ x ∈ sel, 2 ≤ (rowNames alltips x).length ∧
      p = (rowNames alltips x, x.len / (x.count : Rat), (x.count : Rat) / (n : Rat)) :=
  mem_innerRows

theorem mem_tipRows_of {alltips : List String} {sel : List Entry} {x : Entry} {a : String} (hx : x ∈ sel)
    (ha : rowNames alltips x = [a]) : (a, x.len / (x.count : Rat)) ∈ tipRows alltips sel := by
  unfold tipRows
  rw [List.mem_filterMap]
  exact ⟨x, hx, by rw [ha]⟩

/-- a row of a selection that satisfies `selOK` is a tip row or has two tips on each side -/
theorem selOK_size {tips alltips : List String} {sel : List Entry} (h : selOK tips alltips sel = true)
    {x : Entry} (hx : x ∈ sel) : (rowNames alltips x).length = 1 ∨
      (2 ≤ (rowNames alltips x).length ∧ (rowNames alltips x).length + 2 ≤ tips.length) := by
  unfold selOK at h
  simp only [Bool.and_eq_true, List.all_eq_true] at h
  simpa using h.1.1 (rowNames alltips x) (List.mem_map.2 ⟨x, hx, rfl⟩)

/-- The insertion loop over rows that satisfy `selOK`. -/
theorem loop_spec (tips alltips : List String) (n : Nat) (hT : tips.Nodup) (hAnd : alltips.Nodup)
    (hAT : SubS alltips tips) : ∀ (sel done : List Entry) (cur : T),
    selOK tips alltips (done ++ sel) = true →
    LoopInv tips cur (innerRows alltips n done) (tipRows alltips done) →
    ∃ r, applyAll alltips n cur sel = .ok r ∧
      LoopInv tips r (innerRows alltips n (done ++ sel)) (tipRows alltips (done ++ sel))
  | [], done, cur, _, inv => ⟨cur, rfl, by simpa using inv⟩
  | x :: sel, done, cur, hsel, inv => by
    have hsel' := hsel
    unfold selOK at hsel
    simp only [List.map_append, List.map_cons, Bool.and_eq_true, List.all_eq_true, List.filter_append] at hsel
    obtain ⟨⟨_, hndup⟩, hpairs⟩ := hsel
    have hx := selOK_size hsel' (List.mem_append_right done List.mem_cons_self)
    have hSnd : (rowNames alltips x).Nodup := hAnd.filter _
    have hST : SubS (rowNames alltips x) tips := fun a ha => hAT a (List.mem_filter.1 ha).1
    have hnext : ∀ cur', LoopInv tips cur' (innerRows alltips n (done ++ [x])) (tipRows alltips (done ++ [x])) →
        ∃ r, applyAll alltips n cur' sel = .ok r ∧
          LoopInv tips r (innerRows alltips n (done ++ x :: sel)) (tipRows alltips (done ++ x :: sel)) := by
      intro cur' inv'
      have := loop_spec tips alltips n hT hAnd hAT sel (done ++ [x]) cur' (by simpa using hsel') inv'
      simpa using this
    by_cases h2 : 2 ≤ (rowNames alltips x).length
    · -- an inner row
      have hSN : (rowNames alltips x).length + 2 ≤ tips.length := by omega
      have hfx : (List.filter (fun s => decide (2 ≤ s.length)) (rowNames alltips x :: sel.map (rowNames alltips))) =
          rowNames alltips x :: (sel.map (rowNames alltips)).filter (fun s => decide (2 ≤ s.length)) := by
        simp [h2]
      rw [hfx] at hpairs
      have hp : ∀ p ∈ innerRows alltips n done,
          pairOK tips p.1 (rowNames alltips x) = true ∧ SubS p.1 tips := by
        intro p hp
        unfold innerRows at hp
        obtain ⟨y, hy, rfl⟩ := List.mem_map.1 hp
        have hy' := List.mem_filter.1 hy
        refine ⟨allPairsOK_mid tips _ _ _ hpairs _ ?_, fun a ha => hAT a (List.mem_filter.1 ha).1⟩
        exact List.mem_filter.2 ⟨List.mem_map.2 ⟨y, hy'.1, rfl⟩, hy'.2⟩
      obtain ⟨cur', hok, inv'⟩ := step_inner tips hT cur _ _ inv (rowNames alltips x)
        (x.len / (x.count : Rat)) ((x.count : Rat) / (n : Rat)) hSnd h2 hSN hST hp
      have happ : applyEntry alltips n cur x = .ok cur' := by
        unfold applyEntry
        simp only
        rw [if_neg (by unfold rowNames at h2; omega)]
        exact hok
      have hinner : innerRows alltips n (done ++ [x]) = innerRows alltips n done ++
          [(rowNames alltips x, x.len / (x.count : Rat), (x.count : Rat) / (n : Rat))] := by
        unfold innerRows; simp [List.filter_append, h2]
      have htipr : tipRows alltips (done ++ [x]) = tipRows alltips done := by
        unfold tipRows
        rw [List.filterMap_append]
        have : List.filterMap (fun x => match rowNames alltips x with
            | [a] => some (a, x.len / (x.count : Rat)) | _ => none) [x] = [] := by
          simp only [List.filterMap_cons, List.filterMap_nil]
          rw [tipRow_none _ _ h2]
        rw [this]; simp
      obtain ⟨r, hr, invr⟩ := hnext cur' (by rw [hinner, htipr]; exact inv')
      exact ⟨r, by simp only [applyAll, happ]; exact hr, invr⟩
    · -- a tip row
      obtain ⟨a, ha⟩ := List.length_eq_one_iff.1 (by omega : (rowNames alltips x).length = 1)
      have hamem : a ∈ cur.tipNames := by
        rw [tipNames_eq_leaves cur inv.deg, inv.perm.mem_iff]
        exact hST a (by rw [ha]; simp)
      have happ : applyEntry alltips n cur x = .ok (setTipLen a (x.len / (x.count : Rat)) cur) := by
        unfold applyEntry
        have hn : alltips.filter x.key.contains = [a] := ha
        simp only [hn, List.length_singleton, Nat.lt_add_one, if_true]
        simp [hamem]
      have hfresh : ∀ bw ∈ tipRows alltips done, bw.1 ≠ a := by
        intro bw hbw hab
        have hm := mem_tipRows hbw
        rw [hab, ← ha] at hm
        exact nodupB_mid _ _ _ hndup hm
      have inv' := step_tip tips cur _ _ inv a (x.len / (x.count : Rat)) hfresh
      have hinner : innerRows alltips n (done ++ [x]) = innerRows alltips n done := by
        unfold innerRows; simp [List.filter_append, h2]
      have htipr : tipRows alltips (done ++ [x]) = tipRows alltips done ++ [(a, x.len / (x.count : Rat))] := by
        unfold tipRows
        rw [List.filterMap_append]
        congr 1
        simp only [List.filterMap_cons, List.filterMap_nil, ha]
      obtain ⟨r, hr, invr⟩ := hnext _ (by rw [hinner, htipr]; exact inv')
      exact ⟨r, by simp only [applyAll, happ]; exact hr, invr⟩

/-! ## the star tree -/

/- the tip entries of the split list are the leaves -/
mutual
theorem tipSplits_below : ∀ t : T,
    (t.splitsBelow.filter (·.tip)).map (fun s => s.below.headD "") = (if t.isLeaf then [] else t.leaves)
  | .node d p [] => by simp [T.splitsBelow, splitsL, T.isLeaf]
  | .node d p (k :: ks) => by
    have := tipSplitsL (k :: ks)
    simp only [T.splitsBelow, T.isLeaf, T.kids_node, List.isEmpty_cons, Bool.false_eq_true, if_false, T.leaves]
    exact this
theorem tipSplitsL : ∀ k : Kids,
    ((splitsL k).filter (·.tip)).map (fun s => s.below.headD "") = leavesL k
  | [] => by simp [splitsL, leavesL]
  | (e, t) :: r => by
    have h1 := tipSplits_below t
    have h2 := tipSplitsL r
    simp only [splitsL, leavesL, List.filter_cons, List.filter_append]
    cases t with
    | node d p k =>
      cases k with
      | nil =>
        simp only [T.isLeaf, T.kids_node, List.isEmpty_nil, if_true, List.map_cons, T.leaves,
          T.splitsBelow, splitsL, List.filter_nil, List.nil_append, List.headD_cons, List.cons_append]
        rw [h2]
      | cons a b =>
        simp only [T.isLeaf, T.kids_node, List.isEmpty_cons, Bool.false_eq_true, if_false] at h1 ⊢
        rw [List.map_append, h1, h2]
end

/-- a tree has as many tip branches as leaves below its root -/
theorem tipSplits_length (t : T) : (t.splits.filter (·.tip)).length = (leavesL t.kids).length := by
  rw [← tipSplitsL t.kids, List.length_map]; rfl

theorem allTipNames_eq (t : T) (h : t.kids.length ≠ 1) : allTipNames t = t.tipNames := by
  unfold allTipNames T.tipNames
  have : (t.kids.length == 1) = false := by simpa using h
  simp [this]

theorem starOf_tipNames (t : T) (h : 2 ≤ (t.splits.filter (·.tip)).length) :
    (starOf t).tipNames = leavesL t.kids := by
  have hk : (starOf t).kids = (t.splits.filter (·.tip)).map fun s =>
      ((⟨s.e.len, NIL, NIL, [], -1⟩ : EdgeD), T.leaf (s.below.headD "")) := rfl
  have hlen : (starOf t).kids.length ≠ 1 := by rw [hk, List.length_map]; omega
  rw [← allTipNames_eq _ hlen]
  unfold allTipNames
  have : ((starOf t).kids.length == 1) = false := by simpa using hlen
  rw [this]
  simp only [Bool.false_eq_true, if_false, List.nil_append]
  rw [hk, ← tipSplitsL t.kids]
  unfold T.splits
  generalize (splitsL t.kids).filter (·.tip) = l
  induction l with
  | nil => rfl
  | cons s l ih =>
    simp only [List.map_cons, leavesL, T.leaf, T.leaves, List.singleton_append]
    congr 1

theorem starOf_kids (t : T) : (starOf t).kids = (t.splits.filter (·.tip)).map fun s =>
    ((⟨s.e.len, NIL, NIL, [], -1⟩ : EdgeD), T.leaf (s.below.headD "")) := rfl

theorem star_splits_tip (t : T) : ∀ s ∈ (starOf t).splits, s.tip = true := by
  intro s hs
  unfold T.splits at hs
  rw [starOf_kids] at hs
  obtain ⟨et, het, hse⟩ := mem_splitsL.1 hs
  obtain ⟨x, _, rfl⟩ := List.mem_map.1 het
  simp only [blk, T.leaf, T.leaves, T.splitsBelow, splitsL, List.mem_singleton] at hse
  rw [hse]; rfl

theorem star_splits_singleton (t : T) : ∀ s ∈ (starOf t).splits, ∃ a, s.below = [a] := by
  intro s hs
  unfold T.splits at hs
  rw [starOf_kids] at hs
  obtain ⟨et, het, hse⟩ := mem_splitsL.1 hs
  obtain ⟨x, _, rfl⟩ := List.mem_map.1 het
  simp only [blk, T.leaf, T.leaves, T.splitsBelow, splitsL, List.mem_singleton] at hse
  exact ⟨x.below.headD "", by rw [hse]⟩

/-- the star tree of the first tree satisfies the loop invariant with nothing inserted -/
theorem star_loopInv (first : T) (hnd : first.tipNames.Nodup) (hdeg : 2 ≤ first.kids.length)
    (h2 : 2 ≤ (first.splits.filter (·.tip)).length) :
    LoopInv (starOf first).tipNames (starOf first) [] [] := by
  have hk : 2 ≤ (starOf first).kids.length := by rw [starOf_kids, List.length_map]; exact h2
  have ht := tipNames_eq_leaves (starOf first) hk
  have hst := starOf_tipNames first h2
  have hft := tipNames_eq_leaves first hdeg
  refine ⟨hk, ?_, ?_, ?_, by simp, by simp, ?_⟩
  rotate_left 3
  · have : ni (starOf first).splits = 0 := by
      unfold ni
      rw [List.length_eq_zero_iff, List.filter_eq_nil_iff]
      intro s hs
      simp [star_splits_tip first s hs]
    omega
  · rw [← ht, hst, ← hft]; exact hnd
  · rw [ht]
  · intro s hs; exact Or.inl (star_splits_singleton first s hs)

/-- the loop of `Consensus` on the star tree, for rows that satisfy `selOK` -/
theorem consensus_loop (first : T) (alltips : List String) (n : Nat) (sel : List Entry)
    (hnd : first.tipNames.Nodup) (hdeg : 2 ≤ first.kids.length)
    (h2 : 2 ≤ (first.splits.filter (·.tip)).length) (halt : alltips = allTipNames first)
    (hsel : selOK (starOf first).tipNames alltips sel = true) :
    ∃ r, applyAll alltips n (starOf first) sel = .ok r ∧
      LoopInv (starOf first).tipNames r (innerRows alltips n sel) (tipRows alltips sel) := by
  have hst := starOf_tipNames first h2
  have hft := tipNames_eq_leaves first hdeg
  have ha : alltips = (starOf first).tipNames := by
    rw [halt, hst, allTipNames_eq first (by omega), hft]
  have hT : (starOf first).tipNames.Nodup := by rw [hst, ← hft]; exact hnd
  have := loop_spec (starOf first).tipNames alltips n hT (by rw [ha]; exact hT) (by rw [ha]; exact fun a h => h)
    sel [] (starOf first) (by simpa using hsel) (by simpa [innerRows, tipRows] using star_loopInv first hnd hdeg h2)
  simpa using this

/-! ## as many inner branches as inner rows -/

theorem length_le_of_witness {α β : Type} [DecidableEq β] (Q : α → β → Prop) (D : α → α → Prop) :
    ∀ (L : List α) (M : List β), L.Pairwise D → (∀ x ∈ L, ∃ w ∈ M, Q x w) →
      (∀ x y w, D x y → Q x w → Q y w → False) → L.length ≤ M.length
  | [], _, _, _, _ => Nat.zero_le _
  | x :: L, M, hpw, hw, hinj => by
    rw [List.pairwise_cons] at hpw
    obtain ⟨w, hwM, hq⟩ := hw x (by simp)
    have := length_le_of_witness Q D L (M.erase w) hpw.2
      (by
        intro y hy
        obtain ⟨w', hw'M, hq'⟩ := hw y (by simp [hy])
        have hne : w' ≠ w := fun e => hinj x y w (hpw.1 y hy) hq (e ▸ hq')
        exact ⟨w', (List.mem_erase_of_ne hne).2 hw'M, hq'⟩)
      hinj
    rw [List.length_erase_of_mem hwM] at this
    have hpos : 0 < M.length := List.length_pos_of_mem hwM
    simp only [List.length_cons]; omega

/-- the inner rows of a selection that satisfies `selOK` are pairwise different bipartitions -/
theorem innerRows_pairwise (tips alltips : List String) (n : Nat) (sel : List Entry) (hAT : SubS alltips tips)
    (hsel : selOK tips alltips sel = true) :
    (innerRows alltips n sel).Pairwise (fun p q => ¬ SameSide tips p.1 q.1) := by
  unfold selOK at hsel
  simp only [Bool.and_eq_true] at hsel
  have hpw := allPairsOK_pairwise tips _ hsel.2
  have hnames : (innerRows alltips n sel).map (·.1) =
      (sel.map (rowNames alltips)).filter (fun s => decide (2 ≤ s.length)) := by
    unfold innerRows
    rw [List.map_map, List.filter_map]
    rfl
  rw [← hnames, List.pairwise_map] at hpw
  refine hpw.imp_of_mem ?_
  intro p q hp hq h
  obtain ⟨x, _, _, rfl⟩ := mem_innerRows.1 hp
  obtain ⟨y, _, _, rfl⟩ := mem_innerRows.1 hq
  exact not_sameSide_of_pairOK (fun a ha => hAT a (List.mem_filter.1 ha).1)
    (fun a ha => hAT a (List.mem_filter.1 ha).1) h

/-- In the result of the loop there are exactly as many inner branches as inner rows
    (no bipartition is represented twice, none is missing): every row has its branch, and a
    branch cannot be a side of two rows. -/
theorem inner_count (tips alltips : List String) (n : Nat) (sel : List Entry) (r : T)
    (tipv : List (String × Rat)) (hAT : SubS alltips tips)
    (hsel : selOK tips alltips sel = true)
    (inv : LoopInv tips r (innerRows alltips n sel) tipv) :
    ni r.splits = (innerRows alltips n sel).length := by
  apply Nat.le_antisymm inv.cnt
  exact length_le_of_witness
    (fun (p : List String × Rat × Rat) (s : SplitE) => s.tip = false ∧ SameSide tips s.below p.1)
    (fun p q => ¬ SameSide tips p.1 q.1)
    (innerRows alltips n sel) (r.splits.filter (fun s => !s.tip))
    (innerRows_pairwise tips alltips n sel hAT hsel)
    (by
      intro p hp
      obtain ⟨s, hs, htip, hss, _, _⟩ := inv.j2 p hp
      exact ⟨s, List.mem_filter.2 ⟨hs, by simp [htip]⟩, htip, hss⟩)
    (fun p q s hne h1 h2 => hne (h1.2.symm'.trans' h2.2))

end Gotree.C09

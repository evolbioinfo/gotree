/-
  C01 — what the executable `goParseFloat` (model of strconv.ParseFloat) returns on a plain positional
  decimal  <digits>[.<digits>]  — the only shape `goFormatFloat` writes.  Core Lean only.
-/
import Gotree.Lemmas.C01GoCodec

namespace Gotree.Newick

theorem isDigit_props (c : Char) (h : c.isDigit = true) :
    (c == '_') = false ∧ (c == '.') = false ∧ decDigit? c = some (c.toNat - 48) ∧ (c == '+') = false ∧ (c == '-') = false ∧
    lower c = c := by
  have h' := h
  simp only [Char.isDigit, Bool.and_eq_true, decide_eq_true_eq] at h'
  refine ⟨isDigit_ne c _ h rfl, isDigit_ne c _ h rfl, ?_, isDigit_ne c _ h rfl, isDigit_ne c _ h rfl, ?_⟩
  · simp only [decDigit?]
    have h1 : '0' ≤ c := h'.1
    have h2 : c ≤ '9' := h'.2
    simp [h1, h2]
  · simp only [lower]
    have : ¬ ('A' ≤ c ∧ c ≤ 'Z') := by
      intro ⟨ha, _⟩
      have : 65 ≤ c.toNat := ha
      have : c.toNat ≤ 57 := h'.2
      omega
    simp [this]

/-- the digit loop of `readFloat` over a run of decimal digits -/
theorem readMant_digits : ∀ (ds rest : List Char) (m : Mant), ds.all Char.isDigit = true →
    readMant false (ds ++ rest) m =
      readMant false rest { m with sawdigits := m.sawdigits || !ds.isEmpty,
                                   digits := Nat.ofDigitChars 10 ds m.digits,
                                   frac := if m.sawdot then m.frac + ds.length else m.frac } := by
  intro ds
  induction ds with
  | nil => intro rest m _; cases m; simp
  | cons c ds ih =>
    intro rest m h
    simp only [List.all_cons, Bool.and_eq_true] at h
    obtain ⟨h1, h2, h3, _, _, _⟩ := isDigit_props c h.1
    simp only [List.cons_append, readMant, h1, h2, h3, Bool.false_eq_true, if_false]
    rw [ih rest _ h.2]
    congr 1
    cases m with
    | mk dg fr sd sg us =>
      simp only [Nat.ofDigitChars_cons, List.length_cons, List.isEmpty_cons, Bool.not_false, Bool.or_true, Bool.true_or]
      have e1 : dg * 10 + (c.toNat - 48) = 10 * dg + (c.toNat - '0'.toNat) := by
        have : '0'.toNat = 48 := rfl
        rw [this]; omega
      cases sd <;> simp [e1] <;> omega

def plainChar (c : Char) : Bool := c.isDigit || c == '.'

/-- `<digits>` or `<digits>.<digits>` -/
def plainDec (a b : List Char) : List Char := a ++ (if b.isEmpty then [] else '.' :: b)

theorem plainChar_lower_ne_x (x : Char) (h : plainChar x = true) : (lower x == 'x') = false := by
  simp only [plainChar, Bool.or_eq_true, beq_iff_eq] at h
  rcases h with h | h
  · rw [(isDigit_props x h).2.2.2.2.2]; exact isDigit_ne x _ h rfl
  · subst h; decide

theorem pfBase_plain (s : List Char) (h : s.all plainChar = true) : pfBase s = (false, s) := by
  unfold pfBase
  split
  · rename_i x c r
    simp only [List.all_cons, Bool.and_eq_true] at h
    simp [plainChar_lower_ne_x x h.2.1]
  · rfl

/-- a literal that begins with a digit has no sign -/
theorem pfSign_digit (c : Char) (r : List Char) (h : c.isDigit = true) :
    pfSign (c :: r) = (false, c :: r) ∧ pfUnsigned (c :: r) = c :: r := by
  unfold pfSign pfUnsigned
  constructor <;> split
  all_goals first
    | rfl
    | (rename_i heq; injection heq with h1 _; subst h1; exact absurd h (by decide))

theorem special_digit (c : Char) (r : List Char) (h : c.isDigit = true) :
    (pfUnsigned ((c :: r).map lower) == "inf".toList) = false ∧
    (pfUnsigned ((c :: r).map lower) == "infinity".toList) = false ∧
    (((c :: r).map lower) == "nan".toList) = false := by
  have hne : ∀ (k : Char) (t : List Char), k.isDigit = false → ((c :: r.map lower) == k :: t) = false := by
    intro k t hk
    simp [List.cons_beq_cons, isDigit_ne c k h hk]
  rw [List.map_cons, (isDigit_props c h).2.2.2.2.2, (pfSign_digit c _ h).2]
  exact ⟨hne 'i' _ (by decide), hne 'i' _ (by decide), hne 'n' _ (by decide)⟩

/-- the mantissa state after a plain decimal -/
theorem readMant_plain (a b : List Char) (ha : a.all Char.isDigit = true) (hb : b.all Char.isDigit = true) (hne : a ≠ []) :
    ∃ sd, readMant false (plainDec a b) {} =
      (⟨Nat.ofDigitChars 10 (a ++ b) 0, b.length, sd, true, false⟩, []) := by
  have ha' : (!a.isEmpty) = true := by cases a with | nil => exact absurd rfl hne | cons => rfl
  unfold plainDec
  cases hbe : b.isEmpty with
  | true =>
    have hb0 : b = [] := List.isEmpty_iff.1 hbe
    subst hb0
    refine ⟨false, ?_⟩
    have := readMant_digits a [] {} ha
    simp only [List.append_nil] at this
    simp only [if_true, List.append_nil]
    rw [this]
    simp [readMant, ha']
  | false =>
    refine ⟨true, ?_⟩
    simp only [Bool.false_eq_true, if_false]
    rw [readMant_digits a ('.' :: b) {} ha]
    simp only [readMant, Bool.false_eq_true, if_false, ha', Bool.or_true]
    have h2 := readMant_digits b [] ⟨Nat.ofDigitChars 10 a 0, 0, true, true, false⟩ hb
    simp only [List.append_nil] at h2
    simp only [show (('.' : Char) == '_') = false from by decide, beq_self_eq_true, Bool.false_eq_true, if_false, if_true]
    rw [h2]
    simp [readMant, Nat.ofDigitChars_append]

/-- value of the decimal `D · 10^(-frac)` as `readFloat`/`atof64` compute it (with the shortcuts for
    magnitudes far outside the float64 range) -/
def decValue (D frac : Nat) : Option Rat :=
  let ex : Int := 0 - (frac : Int)
  let mag : Int := (numDecDigits D : Int) + ex
  if mag > 311 then none
  else if mag < -330 then some 0
  else roundF64 (scale10 ((D : Nat) : Rat) ex)

theorem pfValue_dec (m : Mant) : pfValue false m 0 = decValue m.digits m.frac := by
  simp [pfValue, decValue]

theorem plainDec_all (a b : List Char) (ha : a.all Char.isDigit = true) (hb : b.all Char.isDigit = true) :
    (plainDec a b).all plainChar = true := by
  have h1 := all_imp _ plainChar a ha (fun c hc => by simp [plainChar, hc])
  have h2 := all_imp _ plainChar b hb (fun c hc => by simp [plainChar, hc])
  unfold plainDec
  split
  · simp [h1]
  · simp [List.all_append, h1, h2, plainChar]

/- ## arithmetic of `scale10` and of the number of decimal digits -/

theorem pow10_ne_zero (k : Nat) : ((pow10 k : Nat) : Rat) ≠ 0 := by
  have : 0 < 10 ^ k := Nat.pow_pos (by decide)
  unfold pow10
  intro h
  have h2 : ((10 ^ k : Nat) : Rat) = ((0 : Nat) : Rat) := h
  have := Rat.natCast_inj.1 h2
  omega

theorem pow10_succ (k : Nat) : ((pow10 (k + 1) : Nat) : Rat) = 10 * ((pow10 k : Nat) : Rat) := by
  unfold pow10
  rw [Nat.pow_succ, Rat.natCast_mul]
  rw [Rat.mul_comm]; rfl

/-- dropping a trailing zero of the digits and raising the exponent -/
theorem scale10_strip (m : Nat) (p : Int) (hp : p < 0) :
    scale10 ((m : Nat) : Rat) (p + 1) = scale10 (((10 * m : Nat)) : Rat) p := by
  unfold scale10
  have h2 : ¬ p ≥ 0 := by omega
  simp only [h2, if_false]
  by_cases h1 : p + 1 ≥ 0
  · have : p = -1 := by omega
    subst this
    simp [pow10, Rat.natCast_mul]
    grind
  · simp only [h1, if_false]
    have hk : (-p).toNat = (-(p + 1)).toNat + 1 := by omega
    rw [hk, pow10_succ, Rat.natCast_mul]
    have := pow10_ne_zero (-(p + 1)).toNat
    grind

/-- appending zeros to the digits -/
theorem scale10_zeros (n : Nat) (p : Int) (hp : p ≥ 0) :
    scale10 (((n * 10 ^ p.toNat : Nat)) : Rat) 0 = scale10 ((n : Nat) : Rat) p := by
  unfold scale10
  simp [hp, pow10, Rat.natCast_mul]

theorem numDec_div (n : Nat) (h : 10 ≤ n) : numDecDigits n = numDecDigits (n / 10) + 1 := by
  unfold numDecDigits
  rw [Nat.toDigits_of_base_le (by decide) h]
  simp

theorem numDec_mul_pow (n : Nat) (hn : 0 < n) : ∀ k : Nat, numDecDigits (n * 10 ^ k) = numDecDigits n + k := by
  intro k
  induction k with
  | zero => simp
  | succ k ih =>
    have hpos : 0 < n * 10 ^ k := Nat.mul_pos hn (Nat.pow_pos (by decide))
    have h10 : 10 ≤ n * 10 ^ (k + 1) := by rw [Nat.pow_succ, ← Nat.mul_assoc]; omega
    rw [numDec_div _ h10]
    have : n * 10 ^ (k + 1) / 10 = n * 10 ^ k := by
      rw [Nat.pow_succ, ← Nat.mul_assoc, Nat.mul_div_cancel _ (by decide)]
    rw [this, ih]; omega

theorem ofDigits_zeros_append (k : Nat) (ds : List Char) : Nat.ofDigitChars 10 (List.replicate k '0' ++ ds) 0 = Nat.ofDigitChars 10 ds 0 := by
  rw [Nat.ofDigitChars_append, Nat.ofDigitChars_replicate_zero]; simp

/- ## what `renderFixed` writes -/

/-- `out` is the plain decimal of `n · 10^p`: digits `a`, optional fraction `b`, with the value and the
    decimal magnitude that `readFloat` will recompute -/
def RendersAs (out : List Char) (n : Nat) (p : Int) : Prop :=
  ∃ a b : List Char, out = plainDec a b ∧ a.all Char.isDigit = true ∧ b.all Char.isDigit = true ∧ a ≠ [] ∧
    Nat.ofDigitChars 10 (a ++ b) 0 ≠ 0 ∧
    scale10 ((Nat.ofDigitChars 10 (a ++ b) 0 : Nat) : Rat) (0 - (b.length : Int)) = scale10 ((n : Nat) : Rat) p ∧
    (numDecDigits (Nat.ofDigitChars 10 (a ++ b) 0) : Int) + (0 - (b.length : Int)) = (numDecDigits n : Int) + p

theorem natDigits_digits (n : Nat) : (natDigits n).all Char.isDigit = true := digits_all n

theorem natDigits_val (n : Nat) : Nat.ofDigitChars 10 (natDigits n) 0 = n := Nat.ofDigitChars_ten_toDigits

theorem renderFixed_shape : ∀ (fuel n : Nat) (p : Int), 0 < n → n < 10 ^ fuel → RendersAs (renderFixed fuel n p) n p := by
  intro fuel
  induction fuel with
  | zero => intro n p h0 h1; simp at h1; omega
  | succ f ih =>
    intro n p h0 h1
    simp only [renderFixed]
    split
    · -- a trailing zero is dropped
      rename_i hc
      simp only [Bool.and_eq_true, beq_iff_eq, bne_iff_ne, ne_eq, decide_eq_true_eq] at hc
      obtain ⟨⟨hmod, _⟩, hp⟩ := hc
      have hn10 : n = 10 * (n / 10) := by omega
      have hpos : 0 < n / 10 := by omega
      have hlt : n / 10 < 10 ^ f := by
        rw [Nat.pow_succ] at h1; omega
      obtain ⟨a, b, e1, e2, e3, e4, e5, e6, e7⟩ := ih (n / 10) (p + 1) hpos hlt
      refine ⟨a, b, e1, e2, e3, e4, e5, ?_, ?_⟩
      · rw [e6, scale10_strip (n / 10) p hp, ← hn10]
      · rw [e7, numDec_div n (by omega)]
        push_cast; omega
    · split
      · -- integer: the digits and p zeros
        rename_i hp
        refine ⟨natDigits n ++ List.replicate p.toNat '0', [], by simp [plainDec], ?_, by simp, by simp [natDigits_ne_nil], ?_, ?_, ?_⟩
        · rw [List.all_append, natDigits_digits n, replicate0_all _ (by decide)]
          rfl
        all_goals
          simp only [List.append_nil, Nat.ofDigitChars_append, Nat.ofDigitChars_replicate_zero, natDigits_val, List.length_nil]
        · have : 0 < 10 ^ p.toNat * n := Nat.mul_pos (Nat.pow_pos (by decide)) h0
          omega
        · rw [Nat.mul_comm]
          have := scale10_zeros n p hp
          simpa using this
        · rw [Nat.mul_comm, numDec_mul_pow n h0]
          push_cast; omega
      · rename_i hp
        have hp' : p < 0 := by omega
        have hk : (((-p).toNat : Nat) : Int) = -p := by omega
        have hneg : (0 : Int) - -p = p := by omega
        split
        · -- the point inside the digits
          rename_i hlen
          refine ⟨(natDigits n).take ((natDigits n).length - (-p).toNat), (natDigits n).drop ((natDigits n).length - (-p).toNat), ?_,
            all_take _ _ _ (natDigits_digits n), all_drop _ _ _ (natDigits_digits n), ?_, ?_, ?_, ?_⟩
          · have hb : ((natDigits n).drop ((natDigits n).length - (-p).toNat)).isEmpty = false := by
              cases hd : (natDigits n).drop ((natDigits n).length - (-p).toNat) with
              | nil =>
                have := congrArg List.length hd
                simp only [List.length_drop, List.length_nil] at this
                omega
              | cons => rfl
            simp [plainDec, hb]
          · intro h
            have := congrArg List.length h
            simp only [List.length_take, List.length_nil] at this
            omega
          all_goals simp only [List.take_append_drop, natDigits_val, List.length_drop]
          · omega
          all_goals rw [show (natDigits n).length - ((natDigits n).length - (-p).toNat) = (-p).toNat by omega, hk]
          · rw [hneg]
          · omega
        · -- 0.000ddd
          rename_i hlen
          refine ⟨['0'], List.replicate ((-p).toNat - (natDigits n).length) '0' ++ natDigits n, ?_, by decide, ?_, by simp, ?_, ?_, ?_⟩
          · have hb : (List.replicate ((-p).toNat - (natDigits n).length) '0' ++ natDigits n).isEmpty = false := by
              simp [natDigits_ne_nil]
            simp [plainDec, hb]
          · rw [List.all_append, natDigits_digits n, replicate0_all _ (by decide)]
            rfl
          all_goals
            simp only [List.cons_append, List.nil_append, Nat.ofDigitChars_cons, Nat.ofDigitChars_append,
              Nat.ofDigitChars_replicate_zero, Nat.mul_zero, Nat.zero_add, natDigits_val, List.length_append, List.length_replicate,
              show ('0' : Char).toNat - ('0' : Char).toNat = 0 from rfl]
          · omega
          all_goals rw [show (((-p).toNat - (natDigits n).length + (natDigits n).length : Nat) : Int) = -p by omega]
          · rw [hneg]
          · omega

/- ## reading back what was written -/

/-- the common part: the literal is a sign (or none) followed by a plain decimal -/
theorem goParseFloat_signed (s : List Char) (neg : Bool) (a b : List Char)
    (ha : a.all Char.isDigit = true) (hb : b.all Char.isDigit = true) (hne : a ≠ [])
    (hs1 : (pfUnsigned (s.map lower) == "inf".toList) = false) (hs2 : (pfUnsigned (s.map lower) == "infinity".toList) = false)
    (hs3 : (s.map lower == "nan".toList) = false) (hsign : pfSign s = (neg, plainDec a b)) :
    goParseFloat s =
      (if Nat.ofDigitChars 10 (a ++ b) 0 == 0 then .fin 0
       else match decValue (Nat.ofDigitChars 10 (a ++ b) 0) b.length with
         | none => .bad
         | some q => .fin (if neg then -q else q)) := by
  obtain ⟨sd, hm⟩ := readMant_plain a b ha hb hne
  have hall := plainDec_all a b ha hb
  rw [goParseFloat_eq]
  unfold goParseFloat'
  rw [hs1, hs2, hs3, hsign]
  simp only [Bool.or_self, Bool.false_eq_true, if_false]
  rw [pfBase_plain _ hall, hm]
  simp only [Bool.not_true, Bool.false_eq_true, if_false, pfExp, pfFinish, List.isEmpty_nil, Bool.or_self, Bool.false_and,
    pfValue_dec]
  split
  · simp
  · cases decValue (Nat.ofDigitChars 10 (a ++ b) 0) b.length <;> simp

/-- `strconv.ParseFloat` (model) on a plain positional decimal. -/
theorem goParseFloat_plain (a b : List Char) (ha : a.all Char.isDigit = true) (hb : b.all Char.isDigit = true) (hne : a ≠ []) :
    goParseFloat (plainDec a b) =
      (if Nat.ofDigitChars 10 (a ++ b) 0 == 0 then .fin 0
       else match decValue (Nat.ofDigitChars 10 (a ++ b) 0) b.length with
         | none => .bad
         | some q => .fin q) := by
  cases a with
  | nil => exact absurd rfl hne
  | cons c a' =>
    have hc : c.isDigit = true := by simp only [List.all_cons, Bool.and_eq_true] at ha; exact ha.1
    obtain ⟨s1, s2, s3⟩ := special_digit c (a' ++ (if b.isEmpty then [] else '.' :: b)) hc
    simpa using goParseFloat_signed (plainDec (c :: a') b) false (c :: a') b ha hb hne s1 s2 s3 (pfSign_digit c _ hc).1

theorem goParseFloat_minus_plain (a b : List Char) (ha : a.all Char.isDigit = true) (hb : b.all Char.isDigit = true) (hne : a ≠ []) :
    goParseFloat ('-' :: plainDec a b) =
      (if Nat.ofDigitChars 10 (a ++ b) 0 == 0 then .fin 0
       else match decValue (Nat.ofDigitChars 10 (a ++ b) 0) b.length with
         | none => .bad
         | some q => .fin (-q)) := by
  cases a with
  | nil => exact absurd rfl hne
  | cons c a' =>
    have hc : c.isDigit = true := by simp only [List.all_cons, Bool.and_eq_true] at ha; exact ha.1
    have hshape : plainDec (c :: a') b = c :: (a' ++ (if b.isEmpty then [] else '.' :: b)) := rfl
    obtain ⟨s1, s2, _⟩ := special_digit c (a' ++ (if b.isEmpty then [] else '.' :: b)) hc
    have hun : pfUnsigned (('-' :: plainDec (c :: a') b).map lower) = pfUnsigned ((plainDec (c :: a') b).map lower) := by
      have hl := (isDigit_props c hc).2.2.2.2.2
      rw [hshape]
      simp only [List.map_cons, show lower '-' = '-' from by decide, hl]
      rw [(pfSign_digit c _ hc).2]; rfl
    have h := goParseFloat_signed ('-' :: plainDec (c :: a') b) true (c :: a') b ha hb hne
      (by rw [hun, hshape]; exact s1) (by rw [hun, hshape]; exact s2) (by simp [show lower '-' = '-' from by decide]) rfl
    simpa using h

/-- `ParseFloat(FormatFloat)` of the model, structurally: what `renderFixed` wrote for `n · 10^p` is read
    back as the float64 nearest to `n · 10^p` (inside the decimal magnitudes the reader does not cut off). -/
theorem goParseFloat_render (n : Nat) (p : Int) (h0 : 0 < n) (h1 : n < 10 ^ 400)
    (hlo : -330 ≤ (numDecDigits n : Int) + p) (hhi : (numDecDigits n : Int) + p ≤ 311) :
    goParseFloat (renderFixed 400 n p) = (match roundF64 (scale10 ((n : Nat) : Rat) p) with | none => .bad | some q => .fin q) ∧
    goParseFloat ('-' :: renderFixed 400 n p) = (match roundF64 (scale10 ((n : Nat) : Rat) p) with | none => .bad | some q => .fin (-q)) := by
  obtain ⟨a, b, e1, e2, e3, e4, e5, e6, e7⟩ := renderFixed_shape 400 n p h0 h1
  have hD : (Nat.ofDigitChars 10 (a ++ b) 0 == 0) = false := by simp [e5]
  have hval : decValue (Nat.ofDigitChars 10 (a ++ b) 0) b.length = roundF64 (scale10 ((n : Nat) : Rat) p) := by
    unfold decValue
    simp only [e7, e6]
    have h1 : ¬ ((numDecDigits n : Int) + p > 311) := by omega
    have h2 : ¬ ((numDecDigits n : Int) + p < -330) := by omega
    simp [h1, h2]
  constructor
  · rw [e1, goParseFloat_plain a b e2 e3 e4, hD, hval]
    simp
  · rw [e1, goParseFloat_minus_plain a b e2 e3 e4, hD, hval]
    simp

/-- Second and third codec law for the executable codec, on the structural domain: the text written for
    `x` is accepted by the model of `ParseFloat` and read back as `x`. -/
theorem goDomS_goDom (x : Rat) (h : goDomS x = true) : goDom x = true := by
  unfold goDomS at h
  by_cases hx : x = 0
  · subst hx
    have : goParseFloat ['0'] = .fin 0 := by
      have := goParseFloat_plain ['0'] [] (by decide) (by decide) (by simp)
      have hz : Nat.ofDigitChars 10 ['0'] 0 = 0 := by decide
      simpa [plainDec, hz] using this
    simp [goDom, goCodec, goFormatFloat, this]
  · have hx' : (x == 0) = false := by simp [hx]
    simp only [hx', Bool.false_or, Bool.and_eq_true, decide_eq_true_eq, beq_iff_eq] at h
    obtain ⟨⟨⟨⟨h0, h1⟩, hlo⟩, hhi⟩, hr⟩ := h
    obtain ⟨hpos, hneg⟩ := goParseFloat_render _ _ h0 h1 hlo hhi
    rw [hr] at hpos hneg
    simp only at hpos hneg
    by_cases hlt : x < 0
    · have hf : goFormatFloat x = '-' :: renderFixed 400 (shortest (if x < 0 then -x else x)).1 (shortest (if x < 0 then -x else x)).2 := by
        simp [goFormatFloat, hx', hlt]
      simp only [hlt, if_true] at hneg hf
      have hxx : - -x = x := by simp
      simp [goDom, goCodec, hf, hneg, hxx]
    · have hf : goFormatFloat x = renderFixed 400 (shortest (if x < 0 then -x else x)).1 (shortest (if x < 0 then -x else x)).2 := by
        simp [goFormatFloat, hx', hlt]
      simp only [hlt, if_false] at hpos hf
      simp [goDom, goCodec, hf, hpos]

/-- `goCodec` as a lawful `FloatCodec` on the structural domain: all four laws proved. -/
def goFloatCodecS : FloatCodec where
  toCodec := goCodec
  dom := goDomS
  fmt_clean := fun x _ => goFormatFloat_clean x
  fmt_isFloat := fun x h => goFloatCodec.fmt_isFloat x (goDomS_goDom x h)
  parse_fmt := fun x h => goFloatCodec.parse_fmt x (goDomS_goDom x h)
  isFloat_noSlash := goCodec_isFloat_noSlash

end Gotree.Newick

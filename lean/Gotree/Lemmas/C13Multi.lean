/-
  C13 — the multi-tree Newick reader on files as they come: blank lines and blanks around the trees, a tree
  wrapped over several lines, a last line without line end, white space after the last tree, several trees
  on one line, lines that `bufio.Reader.ReadLine` delivers in chunks.
-/
import Gotree.Lemmas.C13

namespace Gotree.C13
open Gotree

/- # free layout: every item of the file is a tree on its own lines -/

/-- The lines of one item of the file hold the tree `t`: they are single lines, their concatenation is
    `ws₀ ++ write t ++ blanks` (so empty / blank-only lines in front, blanks in front, a tree cut
    anywhere into several lines, blanks behind), and the ';' sits in the last of them. -/
structure ItemOK (C : NewickCodec) (t : T) (lines : List Txt) : Prop where
  oneLine : ∀ l ∈ lines, oneLine l
  shape : ∃ init y bl ws₀ body, lines = init ++ [y ++ ';' :: bl] ∧ C.write t = body ++ [';'] ∧
    init.flatten ++ y = ws₀ ++ body ∧ (∀ c ∈ ws₀, isNewickWs c = true) ∧ (∀ c ∈ bl, isBlank c = true)

theorem chunksGo_init (init : List Txt) (rest : List Txt) (acc : Txt)
    (h : ';' ∉ acc ++ init.flatten) :
    chunksGo (init ++ rest) acc = chunksGo rest (acc ++ init.flatten) ∧
    tailGo (init ++ rest) acc = tailGo rest (acc ++ init.flatten) := by
  induction init generalizing acc with
  | nil => simp
  | cons l r ih =>
    have h1 : ';' ∉ acc ++ l := by
      intro hm; apply h
      simp only [List.flatten_cons, List.mem_append] at hm ⊢
      rcases hm with hm | hm
      · exact Or.inl hm
      · exact Or.inr (Or.inl hm)
    have hns := lastNonBlank_ne_semi (acc ++ l) h1
    simp only [List.cons_append, chunksGo, tailGo, hns, Bool.false_eq_true, if_false, List.flatten_cons]
    have := ih (acc ++ l) (by simpa [List.append_assoc] using h)
    simpa [List.append_assoc] using this

/-- the chunks of a file made of items -/
theorem chunks_items (C : NewickCodec) (L : NewickLaws C) (items : List (T × List Txt))
    (hw : ∀ it ∈ items, L.wf it.1 = true) (hi : ∀ it ∈ items, ItemOK C it.1 it.2) :
    ∃ cs, chunksGo (items.flatMap (·.2)) [] = cs ∧ tailGo (items.flatMap (·.2)) [] = [] ∧
      cs.length = items.length ∧
      ∀ (i : Nat) (hi' : i < items.length) (hc : i < cs.length),
        ∃ ws₀ body bl, C.write (items[i]).1 = body ++ [';'] ∧ cs[i] = ws₀ ++ body ++ ';' :: bl ∧
          (∀ c ∈ ws₀, isNewickWs c = true) ∧ (∀ c ∈ bl, isBlank c = true) := by
  induction items with
  | nil => exact ⟨[], rfl, rfl, rfl, fun i hi' => absurd hi' (by simp)⟩
  | cons it r ih =>
    obtain ⟨cs, h1, h2, h3, h4⟩ := ih (fun x hx => hw x (by simp [hx])) (fun x hx => hi x (by simp [hx]))
    obtain ⟨init, y, bl, ws₀, body, hl, hb, hcat, hws, hbl⟩ := (hi it (by simp)).shape
    obtain ⟨body', hb', hbody⟩ := L.write_shape it.1 (hw it (by simp))
    have hbe : body' = body := by
      have := hb'.symm.trans hb
      exact List.append_cancel_right this
    subst hbe
    have hnosemi : ';' ∉ ([] : Txt) ++ init.flatten := by
      intro hm
      have : ';' ∈ ws₀ ++ body' := by rw [← hcat]; simp at hm ⊢; exact Or.inl hm
      rcases List.mem_append.1 this with h | h
      · have := hws ';' h; simp [isNewickWs] at this
      · exact (hbody ';' h).2.2.1 rfl
    have hchunk : ([] : Txt) ++ init.flatten ++ (y ++ ';' :: bl) = ws₀ ++ body' ++ ';' :: bl := by
      simp only [List.nil_append, ← List.append_assoc, hcat]
    have hlnb : lastNonBlank (([] : Txt) ++ init.flatten ++ (y ++ ';' :: bl)) = ';' := by
      rw [hchunk]; exact lastNonBlank_semi _ bl hbl
    have hlnb2 : (lastNonBlank (ws₀ ++ body' ++ ';' :: bl) == ';') = true := by
      rw [lastNonBlank_semi _ bl hbl]; rfl
    have hlnb3 : (lastNonBlank (ws₀ ++ (body' ++ ';' :: bl)) == ';') = true := by
      rw [← List.append_assoc]; exact hlnb2
    obtain ⟨g1, g2⟩ := chunksGo_init init ((y ++ ';' :: bl) :: r.flatMap (·.2)) [] hnosemi
    refine ⟨(ws₀ ++ body' ++ ';' :: bl) :: cs, ?_, ?_, by simp [h3], ?_⟩
    · simp only [List.flatMap_cons, hl, List.append_assoc, List.singleton_append]
      rw [g1]
      simp only [chunksGo, hchunk, List.append_assoc, hlnb3, if_true, h1]
    · simp only [List.flatMap_cons, hl, List.append_assoc, List.singleton_append]
      rw [g2]
      simp only [tailGo, hchunk, List.append_assoc, hlnb3, if_true, h2]
    · intro i hi' hc
      cases i with
      | zero => exact ⟨ws₀, body', bl, hb, rfl, hws, hbl⟩
      | succ j => exact h4 j (by simpa using hi') (by simpa using hc)

theorem parse_chunk (C : NewickCodec) (L : NewickStreamLaws C) (t : T) (hw : L.wf t = true)
    (ws₀ body bl : Txt) (hb : C.write t = body ++ [';']) (hws : ∀ c ∈ ws₀, isNewickWs c = true) :
    C.parse (ws₀ ++ body ++ ';' :: bl) = some (L.norm t) := by
  obtain ⟨body', hb', hbody⟩ := L.write_shape t hw
  have hbe : body' = body := List.append_cancel_right (hb'.symm.trans hb)
  subst hbe
  have hno : ∀ c ∈ ws₀ ++ body', c ≠ ';' ∧ c ≠ '[' := by
    intro c hc
    rcases List.mem_append.1 hc with h | h
    · have := hws c h
      constructor <;> (intro e; subst e; simp [isNewickWs] at this)
    · exact ⟨(hbody c h).2.2.1, (hbody c h).2.2.2⟩
  rw [L.parse_prefix (ws₀ ++ body') bl hno]
  have := L.parse_ws_skip [] ws₀ (body' ++ [';']) (by simp) (by decide) hws
  simp only [List.nil_append] at this
  rw [List.append_assoc, this, ← hb]
  exact L.parse_write t hw

/-- splitting a text whose last line has no line end -/
theorem splitLines_noFinal (ls : List Txt) (l : Txt) (h : ∀ x ∈ ls, oneLine x) (hl : ∀ c ∈ l, c ≠ '\n') (hne : l ≠ []) :
    splitLines (unlines ls ++ l) = ls ++ [l] := by
  induction ls with
  | nil =>
    simp only [unlines, List.nil_append]
    unfold splitLines
    have : ∀ (cur : Txt), splitLinesGo l cur = [(l.reverse ++ cur).reverse] ∨ (l = [] ∧ True) := by
      intro cur
      induction l generalizing cur with
      | nil => exact Or.inr ⟨rfl, trivial⟩
      | cons c r ih =>
        left
        have hc : (c == '\n') = false := by simpa using hl c (by simp)
        simp only [splitLinesGo, hc, Bool.false_eq_true, if_false]
        cases r with
        | nil => simp [splitLinesGo]
        | cons d r' =>
          rcases ih (fun x hx => hl x (by simp [hx])) (by simp) (c :: cur) with h | ⟨h, _⟩
          · rw [h]; simp
          · cases h
    rcases this [] with h | ⟨h, _⟩
    · rw [h]; simp
    · exact absurd h hne
  | cons a r ih =>
    simp only [unlines, List.cons_append, List.append_assoc]
    rw [splitLines_cons a _ (h a (by simp))]
    rw [ih (fun x hx => h x (by simp [hx]))]

/- # white space only after the last tree gives no record -/

theorem isBlank_ne_semi (c : Char) (h : isBlank c = true) : c ≠ ';' := by
  intro hc; subst hc; simp [isBlank] at h

theorem isBlank_isSpaceGo (c : Char) (h : isBlank c = true) : isSpaceGo c = true := by
  simp only [isBlank, Bool.or_eq_true, beq_iff_eq] at h
  rcases h with rfl | rfl <;> decide

theorem lastNonBlankRev_blank_prefix (b : Txt) (hb : ∀ c ∈ b, isBlank c = true) (x : Txt)
    (hx : (lastNonBlankRev x == ';') = false) : (lastNonBlankRev (b ++ x) == ';') = false := by
  induction b with
  | nil => simpa using hx
  | cons c b ih =>
    have hc : isBlank c = true := hb c (by simp)
    have ih' := ih (fun d hd => hb d (by simp [hd]))
    cases hbx : b ++ x with
    | nil =>
      simp only [List.cons_append, hbx, lastNonBlankRev]
      simpa using isBlank_ne_semi c hc
    | cons d r =>
      simp only [List.cons_append, hbx, lastNonBlankRev, hc, if_true]
      rw [← hbx]; exact ih'

theorem lastNonBlank_append_blank (acc l : Txt) (hl : ∀ c ∈ l, isBlank c = true)
    (h : (lastNonBlank acc == ';') = false) : (lastNonBlank (acc ++ l) == ';') = false := by
  unfold lastNonBlank at *
  rw [List.reverse_append]
  exact lastNonBlankRev_blank_prefix l.reverse (by intro c hc; exact hl c (by simpa using hc)) _ h

theorem all_space_append_blank (acc l : Txt) (hl : ∀ c ∈ l, isBlank c = true) :
    (acc ++ l).all isSpaceGo = acc.all isSpaceGo := by
  rw [List.all_append]
  have : l.all isSpaceGo = true := by
    rw [List.all_eq_true]; intro c hc; exact isBlank_isSpaceGo c (hl c hc)
  simp [this]

theorem multiGo_blank_lines (C : NewickCodec) (tl : List Txt) (htl : ∀ l ∈ tl, ∀ c ∈ l, isBlank c = true) :
    ∀ (acc : Txt) (id : Nat), (lastNonBlank acc == ';') = false → multiGo C tl acc id = multiGo C [] acc id := by
  induction tl with
  | nil => intros; rfl
  | cons l r ih =>
    intro acc id h
    have hl := htl l (by simp)
    have h' := lastNonBlank_append_blank acc l hl h
    have e : multiGo C (l :: r) acc id = multiGo C r (acc ++ l) id := by
      simp only [multiGo, h', Bool.false_eq_true, if_false]
    rw [e, ih (fun x hx => htl x (by simp [hx])) (acc ++ l) id h']
    simp only [multiGo, all_space_append_blank acc l hl]

theorem multiGo_trailing_blank_lines (C : NewickCodec) (tl : List Txt) (htl : ∀ l ∈ tl, ∀ c ∈ l, isBlank c = true)
    (ls : List Txt) : ∀ (acc : Txt) (id : Nat), (lastNonBlank acc == ';') = false →
      multiGo C (ls ++ tl) acc id = multiGo C ls acc id := by
  induction ls with
  | nil => intro acc id h; exact multiGo_blank_lines C tl htl acc id h
  | cons l r ih =>
    intro acc id h
    have h0 : (lastNonBlank ([] : Txt) == ';') = false := by decide
    rw [List.cons_append]
    simp only [multiGo]
    cases hs : lastNonBlank (acc ++ l) == ';' with
    | false => simp only [Bool.false_eq_true, if_false]; exact ih (acc ++ l) id hs
    | true =>
      simp only [if_true]
      cases hc : (chunkGo C ((acc ++ l).length + 1) (acc ++ l) id).2 with
      | none => rfl
      | some nid => simp only [ih [] nid h0]
theorem blank_oneLine (l : Txt) (h : ∀ c ∈ l, isBlank c = true) : oneLine l := by
  refine ⟨?_, ?_⟩
  · intro c hc e; subst e; have := h _ hc; simp [isBlank] at this
  · intro e
    have hm : '\r' ∈ l := List.mem_of_getLast? e
    have := h _ hm; simp [isBlank] at this

theorem readMultiNewick_trailing_blank_lines (C : NewickCodec) (ls tl : List Txt) (hls : ∀ l ∈ ls, oneLine l)
    (htl : ∀ l ∈ tl, ∀ c ∈ l, isBlank c = true) :
    readMultiNewick C (unlines (ls ++ tl)) = readMultiNewick C (unlines ls) := by
  unfold readMultiNewick
  rw [splitLines_unlines (ls ++ tl) (by
        intro l hl
        rcases List.mem_append.1 hl with h | h
        · exact hls l h
        · exact blank_oneLine l (htl l h)),
      splitLines_unlines ls hls]
  exact multiGo_trailing_blank_lines C tl htl ls [] 0 (by decide)

theorem readMultiNewick_trailing_blanks_nonl (C : NewickCodec) (ls : List Txt) (b : Txt) (hls : ∀ l ∈ ls, oneLine l)
    (hb : ∀ c ∈ b, isBlank c = true) :
    readMultiNewick C (unlines ls ++ b) = readMultiNewick C (unlines ls) := by
  cases hbe : b with
  | nil => simp
  | cons c r =>
    subst hbe
    unfold readMultiNewick
    rw [splitLines_noFinal ls (c :: r) hls (blank_oneLine _ hb).1 (by simp), splitLines_unlines ls hls]
    exact multiGo_trailing_blank_lines C [c :: r] (by intro l hl; simp at hl; subst hl; exact hb) ls [] 0 (by decide)

/- # text after a ';' on the same line: dropped before fix 3850fd2 (`multiGoOne`), parsed since (`multiGo`/`chunkGo`) -/

/-- one step of the PINNED reader's loop: a line `a;b` whose last non-blank character is ';' is treated
    exactly like the line `a;` — whatever `b` holds (further trees included) leaves no trace in the records -/
theorem multiGoOne_sameline (C : NewickCodec) (L : NewickStreamLaws C) (a b : Txt) (ls : List Txt) (id : Nat)
    (ha : ∀ c ∈ a, c ≠ ';' ∧ c ≠ '[') (hb : lastNonBlank (a ++ ';' :: b) = ';') :
    multiGoOne C ((a ++ ';' :: b) :: ls) [] id = multiGoOne C ((a ++ [';']) :: ls) [] id := by
  have h1 : lastNonBlank (a ++ [';']) = ';' := lastNonBlank_semi a [] (by simp)
  simp only [multiGoOne, List.nil_append, hb, h1, beq_self_eq_true, if_true, L.parse_prefix a b ha]

/-- the text of a non-empty list of well-formed trees written one after the other is not white space only (it holds a ';') -/
theorem flatten_not_ws (C : NewickCodec) (L : NewickLaws C) (t : T) (r : List T) (h : L.wf t = true) :
    ((t :: r).map C.write).flatten.all isNewickWs = false := by
  obtain ⟨b, e, _⟩ := L.write_shape t h
  simp only [List.map_cons, List.flatten_cons, e, List.all_append, List.all_cons, List.all_nil]
  simp [isNewickWs]

/-- the CURRENT reader on a chunk that holds the texts of any number of well-formed trees, one after the
    other: all are delivered, consecutive identifiers (`f` = fuel, at least the number of trees) -/
theorem chunkGo_many (C : NewickCodec) (L : NewickStreamLaws C) (ts : List T) (hne : ts ≠ [])
    (hw : ∀ t ∈ ts, L.wf t = true) (f id : Nat) (hf : ts.length ≤ f) :
    chunkGo C f (ts.map C.write).flatten id = (recsOfTrees (ts.map L.norm) id, some (id + ts.length)) := by
  induction ts generalizing f id with
  | nil => exact absurd rfl hne
  | cons t r ih =>
    obtain ⟨g, rfl⟩ : ∃ g, f = g + 1 := ⟨f - 1, by simp at hf; omega⟩
    have ht := hw t (by simp)
    obtain ⟨b, e, hb⟩ := L.write_shape t ht
    have hn : ∀ c ∈ b, c ≠ ';' ∧ c ≠ '[' := fun c hc => ⟨(hb c hc).2.2.1, (hb c hc).2.2.2⟩
    cases r with
    | nil =>
      have := chunkGo_single C g (C.write t) (L.norm t) id (L.parse_write t ht) (singleTree_write C L.toNewickLaws t ht)
      simpa [recsOfTrees] using this
    | cons t' r' =>
      have hp : C.parse (((t :: t' :: r').map C.write).flatten) = some (L.norm t) := by
        simp only [List.map_cons, List.flatten_cons, e, List.append_assoc, List.singleton_append]
        rw [L.parse_prefix b _ hn, ← e]
        exact L.parse_write t ht
      have ha : afterTree (((t :: t' :: r').map C.write).flatten) false = ((t' :: r').map C.write).flatten := by
        simp only [List.map_cons, List.flatten_cons, e, List.append_assoc, List.singleton_append]
        rw [afterTree_prefix b _ hn]
      have hnot := flatten_not_ws C L.toNewickLaws t' r' (hw t' (by simp))
      have ih' := ih (by simp) (fun x hx => hw x (by simp [hx])) g (id + 1) (by simp at hf ⊢; omega)
      rw [chunkGo]
      simp only [hp, ha, hnot, Bool.false_eq_true, if_false, ih']
      simp only [List.map_cons, recsOfTrees, List.length_cons]
      congr 2
      omega

/-- `deliver` on chunks each of which is the text of a non-empty group of well-formed trees -/
theorem deliver_groups (C : NewickCodec) (L : NewickStreamLaws C) (groups : List (List T))
    (hg : ∀ g ∈ groups, g ≠ [] ∧ ∀ t ∈ g, L.wf t = true) (id : Nat) (hne : groups ≠ [] ∨ id ≠ 0) :
    deliver C [] (groups.map fun g => (g.map C.write).flatten) id = recsOfTrees (groups.flatten.map L.norm) id := by
  induction groups generalizing id with
  | nil =>
    cases hne with
    | inl h => exact absurd rfl h
    | inr h => simp [deliver, recsOfTrees, h]
  | cons g r ih =>
    obtain ⟨hgne, hgw⟩ := hg g (by simp)
    have hlen : g.length ≤ ((g.map C.write).flatten).length + 1 := by
      have : ∀ (l : List T), (∀ t ∈ l, L.wf t = true) → l.length ≤ ((l.map C.write).flatten).length := by
        intro l
        induction l with
        | nil => intro _; simp
        | cons t l' ihl =>
          intro hl
          obtain ⟨b, e, _⟩ := L.write_shape t (hl t (by simp))
          have := ihl (fun x hx => hl x (by simp [hx]))
          simp only [List.map_cons, List.flatten_cons, List.length_append, List.length_cons, e, List.length_nil] at this ⊢
          omega
      have := this g hgw
      omega
    have hc := chunkGo_many C L g hgne hgw _ id hlen
    simp only [List.map_cons, deliver, hc, List.flatten_cons, List.map_append]
    rw [ih (fun x hx => hg x (by simp [hx])) (id + g.length) (Or.inr (by
      have : 0 < g.length := List.length_pos_iff.2 hgne
      omega))]
    -- recsOfTrees of an append
    have happ : ∀ (a b : List T) (i : Nat), recsOfTrees (a ++ b) i = recsOfTrees a i ++ recsOfTrees b (i + a.length) := by
      intro a
      induction a with
      | nil => intro b i; simp [recsOfTrees]
      | cons x a iha =>
        intro b i
        simp only [List.cons_append, recsOfTrees, List.length_cons, iha b (i + 1)]
        congr 3
        omega
    rw [happ]
    simp

/- # `ReadLine` delivers an over-long line in chunks (`isPrefix`): the loop of ReadUntilSemiColon on the chunk stream is the same for every chunking -/

/-- `for err == nil && (isPrefix || lastChar != ';') { line, isPrefix, err = r.ReadLine(); ln = append(ln, line...); … }`
    inside the loop of ReadMultiTrees, on the stream of `(line, isPrefix)` results of ReadLine -/
def multiGoC (C : NewickCodec) : List (Txt × Bool) → Txt → Nat → List Rec
  | [], acc, id => if id == 0 then [⟨0, .err⟩] else if acc.all isSpaceGo then [] else [⟨id, .err⟩]
  | (ch, pre) :: r, acc, id =>
    let ln := acc ++ ch
    if !pre && lastNonBlank ln == ';' then
      match (chunkGo C (ln.length + 1) ln id).2 with
      | none => (chunkGo C (ln.length + 1) ln id).1
      | some nid => (chunkGo C (ln.length + 1) ln id).1 ++ multiGoC C r [] nid
    else multiGoC C r ln id

/-- `cs` is a way ReadLine may deliver the line `l`: pieces that concatenate to `l`, all flagged
    `isPrefix` but the last -/
inductive IsChunking : Txt → List (Txt × Bool) → Prop
  | last (l : Txt) : IsChunking l [(l, false)]
  | more (c l : Txt) (cs : List (Txt × Bool)) : IsChunking l cs → IsChunking (c ++ l) ((c, true) :: cs)

theorem multiGoC_line (C : NewickCodec) (l : Txt) (cs : List (Txt × Bool)) (h : IsChunking l cs)
    (rest : List (Txt × Bool)) (acc : Txt) (id : Nat) :
    multiGoC C (cs ++ rest) acc id =
      (if lastNonBlank (acc ++ l) == ';' then
        match (chunkGo C ((acc ++ l).length + 1) (acc ++ l) id).2 with
        | none => (chunkGo C ((acc ++ l).length + 1) (acc ++ l) id).1
        | some nid => (chunkGo C ((acc ++ l).length + 1) (acc ++ l) id).1 ++ multiGoC C rest [] nid
      else multiGoC C rest (acc ++ l) id) := by
  induction h generalizing acc with
  | last l => simp [multiGoC]
  | more c l cs _ ih =>
    simp only [List.cons_append, multiGoC, Bool.not_true, Bool.false_and, Bool.false_eq_true, if_false]
    rw [ih (acc ++ c)]
    simp [List.append_assoc]

/-- the chunk stream of a file: each line delivered in some chunking -/
inductive IsChunkStream : List Txt → List (Txt × Bool) → Prop
  | nil : IsChunkStream [] []
  | cons (l : Txt) (ls : List Txt) (cs rest : List (Txt × Bool)) :
      IsChunking l cs → IsChunkStream ls rest → IsChunkStream (l :: ls) (cs ++ rest)

theorem multiGoC_eq (C : NewickCodec) (ls : List Txt) (stream : List (Txt × Bool)) (h : IsChunkStream ls stream)
    (acc : Txt) (id : Nat) : multiGoC C stream acc id = multiGo C ls acc id := by
  induction h generalizing acc id with
  | nil => simp [multiGoC, multiGo]
  | cons l ls cs rest hc _ ih =>
    rw [multiGoC_line C l cs hc rest acc id]
    simp only [multiGo]
    by_cases hs : (lastNonBlank (acc ++ l) == ';') = true
    · simp only [hs, if_true]
      cases (chunkGo C ((acc ++ l).length + 1) (acc ++ l) id).2 with
      | none => rfl
      | some nid => simp only [ih]
    · simp only [hs, Bool.false_eq_true, if_false, ih]

end Gotree.C13

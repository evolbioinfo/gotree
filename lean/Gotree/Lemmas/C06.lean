/-
  C06 — what `rmNode` / `rmKids` (the recursive part of the model of `removeTip`) do to the
  leaves and to single-child nodes; the hypotheses of the theorems as propositions.
  Core Lean only.
-/
import Gotree.Spec.C06
import Gotree.Lemmas.C05Splits

namespace Gotree.C06
open Gotree Gotree.C14

@[simp] theorem reattach_leaves (c : T) : (reattach c).leaves = c.leaves := by
  obtain ⟨d, p, k⟩ := c
  cases k <;> rfl

@[simp] theorem reattach_splitsBelow (c : T) : (reattach c).splitsBelow = c.splitsBelow := by
  obtain ⟨d, p, k⟩ := c; rfl

@[simp] theorem reattach_isLeaf (c : T) : (reattach c).isLeaf = c.isLeaf := by
  obtain ⟨d, p, k⟩ := c; rfl

@[simp] theorem reattach_kids (c : T) : (reattach c).kids = c.kids := by
  obtain ⟨d, p, k⟩ := c; rfl

/-- what an outcome says about the leaves `lv` of the node it is about -/
def OutLeaves (x : String) (lv : List String) : Out → Prop
  | .notFound => x ∉ lv
  | .repl t' => x ∈ lv ∧ t'.leaves.Perm (lv.erase x) ∧ t'.kids ≠ []
  | .gone => lv = [x]
  | .splice _ c => x ∈ lv ∧ c.leaves.Perm (lv.erase x)

def KOutLeaves (x : String) (lv : List String) : KOut → Prop
  | .notFound => x ∉ lv
  | .set ks => x ∈ lv ∧ (leavesL ks).Perm (lv.erase x) ∧ ks ≠ []
  | .del _ ks => x ∈ lv ∧ (leavesL ks).Perm (lv.erase x)
  | .spl _ ks _ _ c => x ∈ lv ∧ (leavesL ks ++ c.leaves).Perm (lv.erase x)

theorem finishNode_leaves (x : String) (d : NodeD) (p : Nat) (lv : List String) (ko : KOut)
    (h : KOutLeaves x lv ko) : OutLeaves x lv (finishNode d p ko) := by
  cases ko with
  | notFound => exact h
  | set ks =>
    obtain ⟨h1, h2, h3⟩ := h
    refine ⟨h1, ?_, h3⟩
    rw [T.leaves_node_ne d p h3]; exact h2
  | spl i ks ei e c =>
    obtain ⟨h1, h2⟩ := h
    refine ⟨h1, ?_, by simp⟩
    rw [T.leaves_node_ne _ _ (by simp), leavesL_append, leavesL_singleton]; exact h2
  | del i ks =>
    obtain ⟨h1, h2⟩ := h
    match ks, h2 with
    | [], h2 =>
      have : lv.erase x = [] := by simpa [leavesL] using h2.symm
      exact (List.erase_eq_nil_iff.1 this).resolve_left (List.ne_nil_of_mem h1)
    | [(e, c)], h2 =>
      refine ⟨h1, ?_⟩
      simpa [finishNode, leavesL] using h2
    | a :: b :: r, h2 =>
      refine ⟨h1, ?_, by simp⟩
      show (T.node d (pposDel p i) (a :: b :: r)).leaves.Perm _
      rw [T.leaves_node_ne _ _ (by simp)]; exact h2

mutual
theorem rmNode_leaves (x : String) : ∀ t : T, OutLeaves x t.leaves (rmNode x t)
  | .node d p [] => by
    simp only [rmNode, T.leaves]
    by_cases h : d.name = x
    · simp [h, OutLeaves]
    · simp [h, OutLeaves]; exact fun h' => h h'.symm
  | .node d p (k :: ks) => by
    simp only [rmNode, T.leaves]
    exact finishNode_leaves x d p _ _ (rmKids_leaves x (k :: ks))
theorem rmKids_leaves (x : String) : ∀ k : Kids, KOutLeaves x (leavesL k) (rmKids x k)
  | [] => by simp [rmKids, KOutLeaves, leavesL]
  | (e, t) :: r => by
    have h1 := rmNode_leaves x t
    have h2 := rmKids_leaves x r
    simp only [rmKids, leavesL]
    cases hn : rmNode x t with
    | repl t' =>
      rw [hn] at h1; obtain ⟨a1, a2, a3⟩ := h1
      refine ⟨by simp [a1], ?_, by simp⟩
      rw [List.erase_append_left _ a1]
      simpa [leavesL] using a2.append_right (leavesL r)
    | gone =>
      rw [hn] at h1
      simp only [OutLeaves] at h1
      rw [h1]
      exact ⟨by simp, by simp⟩
    | splice e' c =>
      rw [hn] at h1; obtain ⟨a1, a2⟩ := h1
      refine ⟨by simp [a1], ?_⟩
      rw [List.erase_append_left _ a1]
      exact List.perm_append_comm.trans (a2.append_right (leavesL r))
    | notFound =>
      rw [hn] at h1
      simp only [OutLeaves] at h1
      cases hk : rmKids x r with
      | notFound =>
        rw [hk] at h2
        simp only [KOutLeaves] at h2 ⊢
        simp [h1, h2]
      | set ks' =>
        rw [hk] at h2; obtain ⟨a1, a2, a3⟩ := h2
        refine ⟨by simp [a1], ?_, by simp⟩
        rw [List.erase_append_right _ h1]
        simpa [leavesL] using a2.append_left t.leaves
      | del i ks' =>
        rw [hk] at h2; obtain ⟨a1, a2⟩ := h2
        refine ⟨by simp [a1], ?_⟩
        rw [List.erase_append_right _ h1]
        simpa [leavesL] using a2.append_left t.leaves
      | spl i ks' ei e' c =>
        rw [hk] at h2; obtain ⟨a1, a2⟩ := h2
        refine ⟨by simp [a1], ?_⟩
        rw [List.erase_append_right _ h1]
        simpa [leavesL, List.append_assoc] using a2.append_left t.leaves
end

/-! ## properties of every node below: no single child, binary -/

/-- `f` / `fL` hold of a tree / of a list of kids when every node below has a number of kids allowed by `q`
    (`T.noSingleBelow`, `T.binaryBelow`), and a node that loses a kid and keeps at least two is still allowed -/
structure NodeWise (q : Nat → Bool) (f : T → Bool) (fL : Kids → Bool) : Prop where
  node : ∀ d p k, f (.node d p k) = (q k.length && fL k)
  nil : fL [] = true
  cons : ∀ e t r, fL ((e, t) :: r) = (f t && fL r)
  lose : ∀ n, q (n + 1) = true → 2 ≤ n → q n = true

theorem nodeWise_noSingle : NodeWise (· != 1) T.noSingleBelow noSingleL :=
  ⟨fun _ _ _ => rfl, rfl, fun _ _ _ => rfl, fun n _ h => by simp; omega⟩

theorem nodeWise_binary : NodeWise (fun n => n == 0 || n == 2) T.binaryBelow binaryL :=
  ⟨fun _ _ _ => rfl, rfl, fun _ _ _ => rfl, fun n h h2 => by simp at h; omega⟩

def OutP (f : T → Bool) : Out → Prop
  | .notFound => True
  | .repl t' => f t' = true
  | .gone => True
  | .splice _ c => f c = true

/-- `n` = number of kids before -/
def KOutP (f : T → Bool) (fL : Kids → Bool) (n : Nat) : KOut → Prop
  | .notFound => True
  | .set ks => ks.length = n ∧ fL ks = true
  | .del _ ks => ks.length + 1 = n ∧ fL ks = true
  | .spl _ ks _ _ c => ks.length + 1 = n ∧ fL ks = true ∧ f c = true

section
variable {q : Nat → Bool} {f : T → Bool} {fL : Kids → Bool}

theorem NodeWise.of_reattach (nw : NodeWise q f fL) (c : T) : f (reattach c) = f c := by
  obtain ⟨d, p, k⟩ := c
  rw [reattach, nw.node, nw.node]

@[simp] theorem reattach_noSingleBelow (c : T) : (reattach c).noSingleBelow = c.noSingleBelow :=
  nodeWise_noSingle.of_reattach c

@[simp] theorem reattach_binaryBelow (c : T) : (reattach c).binaryBelow = c.binaryBelow :=
  nodeWise_binary.of_reattach c

theorem NodeWise.append (nw : NodeWise q f fL) (a b : Kids) : fL (a ++ b) = (fL a && fL b) := by
  induction a with
  | nil => simp [nw.nil]
  | cons et r ih => obtain ⟨e, t⟩ := et; simp [nw.cons, ih, Bool.and_assoc]

theorem NodeWise.single (nw : NodeWise q f fL) (e : EdgeD) (c : T) : fL [(e, c)] = f c := by
  simp [nw.cons, nw.nil]

theorem NodeWise.of_finishNode (nw : NodeWise q f fL) (d : NodeD) (p n : Nat) (hn : q n = true) (ko : KOut)
    (h : KOutP f fL n ko) : OutP f (finishNode d p ko) := by
  cases ko with
  | notFound => trivial
  | set ks =>
    obtain ⟨h1, h2⟩ := h
    show f (T.node d p ks) = true
    simp [nw.node, h1, h2, hn]
  | spl i ks ei e c =>
    obtain ⟨h1, h2, h3⟩ := h
    show f (T.node d (pposDel p i) (ks ++ [(fuseEdge ei e (!c.isLeaf), c)])) = true
    simp [nw.node, nw.append, nw.single, h1, h2, h3, hn]
  | del i ks =>
    obtain ⟨h1, h2⟩ := h
    match ks, h1, h2 with
    | [], _, _ => trivial
    | [(e, c)], _, h2 =>
      show f (reattach c) = true
      rw [nw.of_reattach, ← nw.single e c]; exact h2
    | a :: b :: r, h1, h2 =>
      show f (T.node d (pposDel p i) (a :: b :: r)) = true
      rw [nw.node, h2, nw.lose _ (h1 ▸ hn) (by simp)]; rfl

mutual
theorem NodeWise.of_rmNode (nw : NodeWise q f fL) (x : String) : ∀ t : T, f t = true → OutP f (rmNode x t)
  | .node d p [], _ => by
    simp only [rmNode]; split <;> trivial
  | .node d p (k :: ks), h => by
    simp only [rmNode]
    rw [nw.node, Bool.and_eq_true] at h
    exact nw.of_finishNode d p _ h.1 _ (NodeWise.of_rmKids nw x (k :: ks) h.2)
theorem NodeWise.of_rmKids (nw : NodeWise q f fL) (x : String) :
    ∀ k : Kids, fL k = true → KOutP f fL k.length (rmKids x k)
  | [], _ => by simp [rmKids, KOutP]
  | (e, t) :: r, h => by
    rw [nw.cons, Bool.and_eq_true] at h
    have h1 := NodeWise.of_rmNode nw x t h.1
    have h2 := NodeWise.of_rmKids nw x r h.2
    simp only [rmKids]
    cases hn : rmNode x t with
    | repl t' => rw [hn] at h1; exact ⟨rfl, by rw [nw.cons, h1, h.2]; rfl⟩
    | gone => exact ⟨rfl, h.2⟩
    | splice e' c => rw [hn] at h1; exact ⟨rfl, h.2, h1⟩
    | notFound =>
      cases hk : rmKids x r with
      | notFound => trivial
      | set ks' => rw [hk] at h2; exact ⟨by simp [h2.1], by rw [nw.cons, h.1, h2.2]; rfl⟩
      | del i ks' => rw [hk] at h2; exact ⟨by simp [← h2.1], by rw [nw.cons, h.1, h2.2]; rfl⟩
      | spl i ks' ei e' c =>
        rw [hk] at h2; exact ⟨by simp [← h2.1], by rw [nw.cons, h.1, h2.2.1]; rfl, h2.2.2⟩
end

end

theorem noSingle_of_binary : ∀ t : T, t.binaryBelow = true → t.noSingleBelow = true :=
  T.noSingleBelow_of_binaryBelow

theorem kids_of_noSingle_le1 (c : T) (h : c.noSingleBelow = true) (h1 : ¬ c.kids.length > 1) : c.kids = [] := by
  obtain ⟨d, p, k⟩ := c
  simp only [T.noSingleBelow, Bool.and_eq_true, bne_iff_ne, ne_eq] at h
  simp only [T.kids_node] at h1 ⊢
  match k, h, h1 with
  | [], _, _ => rfl
  | [_], h, _ => exact absurd rfl h.1
  | _ :: _ :: _, _, h1 => simp at h1

theorem hasDup_false_iff (l : List String) : hasDup l = false ↔ l.Nodup := by
  induction l with
  | nil => simp [hasDup]
  | cons a r ih => simp [hasDup, ih]

/-- the names flagged for removal in a work list -/
def flagged (l : List (String × Bool)) : List String := (l.filter (·.2)).map (·.1)

theorem flagged_workList (t : T) (S : List String) (rev : Bool) : flagged (workList t S rev) = toRemove t S rev := by
  unfold flagged workList toRemove
  induction t.tipNames with
  | nil => rfl
  | cons a r ih =>
    by_cases h : (S.contains a != rev) = true
    · simp only [List.map_cons, List.filter_cons, h, if_true, ih]
    · have h' : (S.contains a != rev) = false := by simpa using h
      simp only [List.map_cons, List.filter_cons, h', Bool.false_eq_true, if_false, ih]

theorem filter_length_compl (l : List String) (p : String → Bool) :
    (l.filter p).length + (l.filter fun n => !p n).length = l.length := by
  induction l with
  | nil => rfl
  | cons a r ih => by_cases h : p a <;> simp [h] <;> omega

theorem tipNames_rt (d : NodeD) (p : Nat) (e : EdgeD) (X : T) :
    (T.node d p [(e, X)]).tipNames = d.name :: X.leaves := by
  simp [T.tipNames, T.name, leavesL]

theorem rmNode_notFound_of_not_mem (x : String) (t : T) (h : x ∉ t.leaves) : rmNode x t = .notFound := by
  have hl := rmNode_leaves x t
  cases hn : rmNode x t with
  | notFound => rfl
  | repl t' => rw [hn] at hl; exact absurd hl.1 h
  | gone => rw [hn] at hl; simp only [OutLeaves] at hl; rw [hl] at h; simp at h
  | splice e c => rw [hn] at hl; exact absurd hl.1 h

/-- the Bool hypotheses evaluated by the driver (`wf`) as propositions -/
theorem wf_iff (t : T) : wf t = true ↔ t.tipNames.Nodup ∧ t.noSingle = true ∧ t.kids.length ≠ 1 := by
  simp [wf, uniq, hasDup_false_iff, and_assoc]

theorem wfR_iff (t : T) : wfR t = true ↔ t.tipNames.Nodup ∧ t.noSingle = true := by
  simp [wfR, uniq, hasDup_false_iff]

theorem wfR_of_wf (t : T) (h : wf t = true) : wfR t = true := by
  obtain ⟨a, b, _⟩ := (wf_iff t).1 h
  exact (wfR_iff t).2 ⟨a, b⟩

/-- when the root is not a tip, clause 4 for every root shape is clause 4 -/
theorem noSingleAfterR_eq (t t' : T) (S : List String) (rev : Bool) (h : t.kids.length ≠ 1) :
    noSingleAfterR t S rev t' = noSingleAfter t t' := by
  simp [noSingleAfterR, rootAfterOK, noSingleAfter, h, Bool.and_assoc]

theorem mem_sortNames6 {a : String} {l : List String} : a ∈ sortNames l ↔ a ∈ l :=
  (List.mergeSort_perm l _).mem_iff

end Gotree.C06

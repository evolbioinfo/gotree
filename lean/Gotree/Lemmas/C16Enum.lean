/-
  C16 — the enumeration as a whole: the list `AllTopologies` returns on an accepted request, its
  length, the shape of its members, their pairwise different topologies; and the Spec
  predicate `topoCheck` (families `cladeFam`, compared as sets of sets) as a consequence, for every size.
-/
import Gotree.Lemmas.C16Median

namespace Gotree.C16
open Gotree

/-- the backtracking trees of `AllTopologies(n, rooted, names...)`, before `Clone` -/
def enumRaw (n : Nat) (rooted : Bool) (names : List String) : List T :=
  allTopoRaw (topoName names) (n - (topoInit (topoName names) rooted).2) (topoInit (topoName names) rooted).1
    (topoInit (topoName names) rooted).2

variable {n : Nat} {rooted : Bool} {names : List String}

theorem allTopologies_enum (h : (if rooted then 2 else 3) ≤ n) (hn : names = [] ∨ names.length = n) :
    allTopologies (n : Int) rooted names = .ok ((enumRaw n rooted names).map fun v => dropStem (clone v)) := by
  rw [allTopologies_eq n rooted names h hn, allTopoRec_eq_map]; rfl

theorem topoInit_total (nm : Nat → String) (h : (if rooted then 2 else 3) ≤ n) :
    (topoInit nm rooted).2 + (n - (topoInit nm rooted).2) = n := by
  cases rooted <;> simp [topoInit] at h ⊢ <;> omega

/-- the backtracking trees over any naming `nm` of the tips satisfy the invariant for all `n` names -/
theorem raw_TI (nm : Nat → String) (h : (if rooted then 2 else 3) ≤ n) :
    ∀ v ∈ allTopoRaw nm (n - (topoInit nm rooted).2) (topoInit nm rooted).1 (topoInit nm rooted).2,
      TI nm (if rooted then 1 else 3) n v := by
  intro v hv
  have := allTopoRaw_wf _ _ _ _ _ (TI_init nm rooted) v hv
  rwa [topoInit_total _ h] at this

theorem enumRaw_TI (h : (if rooted then 2 else 3) ≤ n) :
    ∀ v ∈ enumRaw n rooted names, TI (topoName names) (if rooted then 1 else 3) n v :=
  raw_TI (topoName names) h

/-- (2n-5)!! unrooted, (2n-3)!! rooted -/
theorem enumRaw_length (h : (if rooted then 2 else 3) ≤ n) : (enumRaw n rooted names).length = topoCount n rooted := by
  unfold enumRaw topoCount
  rw [allTopoRaw_length]
  cases rooted with
  | false =>
    have h3 : 3 ≤ n := h
    have := cnt_dfact (n - 3) 1
    simp only [dfact, Nat.mul_one] at this
    simp only [topoInit, Bool.false_eq_true, if_false, numEdges, numEdgesL, T.leaf]
    rw [this]; congr 1; omega
  | true =>
    have h2 : 2 ≤ n := h
    obtain ⟨f, hf⟩ : ∃ f, n - 1 = f + 1 := ⟨n - 2, by omega⟩
    have := cnt_dfact f 1
    simp only [dfact, Nat.mul_one] at this
    simp only [topoInit, if_true, numEdges, numEdgesL, T.leaf, hf, cnt]
    show 1 * cnt f (1 + 2) = _
    rw [this, Nat.one_mul]; congr 1; omega

/-- every returned tree: binary below a root of degree 2 (rooted) / 3 (unrooted), tips = the names -/
theorem enum_wf (h : (if rooted then 2 else 3) ≤ n) :
    ∀ t ∈ (enumRaw n rooted names).map (fun v => dropStem (clone v)),
      t.tipNames.Perm (topoNames names n) ∧ binaryL t.kids = true ∧ t.kids.length = (if rooted then 2 else 3) := by
  intro t ht
  obtain ⟨v, hv, rfl⟩ := List.mem_map.mp ht
  have h2 : 2 ≤ n := by cases rooted <;> simp at h <;> omega
  obtain ⟨o1, o2, o3⟩ := topo_out (topoName names) rooted n v (enumRaw_TI h v hv) h2
  exact ⟨o3, o1, o2⟩

theorem enum_leaves (h : (if rooted then 2 else 3) ≤ n) (t : T)
    (ht : t ∈ (enumRaw n rooted names).map (fun v => dropStem (clone v))) : (leavesL t.kids).Perm (topoNames names n) := by
  obtain ⟨w1, _, w3⟩ := enum_wf h t ht
  rwa [T.tipNames_of_ne_one (by cases rooted <;> simp [w3])] at w1

/-- No topology twice.  Rooted: the families of leaf sets below the branches differ as sets of sets.
    Unrooted: they differ even up to complement — all trees are seen from the node joining the first
    three tips, so a leaf set below a branch never holds two of these and its complement always does. -/
theorem enum_pairwise (h : (if rooted then 2 else 3) ≤ n) (hinj : InjTo (topoName names) n) :
    ((enumRaw n rooted names).map fun v => dropStem (clone v)).Pairwise fun a b =>
      if rooted then ¬ FamEq (belowFam a) (belowFam b) else ¬ USame (topoNames names n) (belowFam a) (belowFam b) := by
  have h2 : 2 ≤ n := by cases rooted <;> simp at h <;> omega
  have e := topoInit_total (rooted := rooted) (topoName names) h
  have h0 := TI_init (topoName names) rooted
  have hraw : (enumRaw n rooted names).Pairwise (fun a b => ¬ FamEq (belowsL a.kids) (belowsL b.kids)) :=
    rec_pairwise (topoName names) n hinj _ _ _ _ (Nat.le_of_eq e) h0
  cases rooted with
  | true =>
    -- the stem of a backtracking tree adds the set of all tips to the family of the returned one
    rw [List.pairwise_map]
    refine List.Pairwise.imp_of_mem ?_ hraw
    intro a b ha hb hne hfe
    have ta := enumRaw_TI h a ha
    have tb := enumRaw_TI h b hb
    rw [belows_out (topoName names) true n a ta h2, belows_out (topoName names) true n b tb h2] at hne
    simp only [belowFam_eq] at hfe
    exact hne (FamEq.cons hfe _ _ fun y => (ta.leaves.trans tb.leaves.symm).mem_iff)
  | false =>
    have h3 : 3 ≤ n := h
    have ne : ∀ i j, i < 3 → j < 3 → i ≠ j → topoName names i ≠ topoName names j :=
      fun i j hi hj hij e => hij (hinj i j (by omega) (by omega) e)
    have q0 : Q3 (topoName names 0) (topoName names 1) (topoName names 2)
        (belowsL (topoInit (topoName names) false).1.kids) := by
      intro S hS
      simp only [topoInit, Bool.false_eq_true, if_false, T.kids_node, belowsL, belowsT, T.leaf, T.leaves, List.append_nil,
        List.mem_cons, List.not_mem_nil, or_false, List.nil_append] at hS
      have n01 := ne 0 1; have n02 := ne 0 2; have n12 := ne 1 2
      have n10 := ne 1 0; have n20 := ne 2 0; have n21 := ne 2 1
      rcases hS with rfl | rfl | rfl <;> simp_all
    have mem : ∀ i, i < 3 → topoName names i ∈ topoNames names n :=
      fun i hi => List.mem_map.mpr ⟨i, List.mem_range.mpr (by omega), rfl⟩
    rw [List.pairwise_map]
    refine List.Pairwise.imp_of_mem ?_ hraw
    intro a b ha hb hne hu
    have hout : ∀ v ∈ enumRaw n false names, belowFam (dropStem (clone v)) = belowsL v.kids := by
      intro v hv
      rw [belowFam_eq]; simpa using (belows_out (topoName names) false n v (enumRaw_TI h v hv) h2).symm
    have q := rec_Q3 (topoName names) n hinj _ _ _ _ (by simp [topoInit]) (Nat.le_of_eq e) h0 q0
    simp only [hout a ha, hout b hb] at hu
    exact hne (famEq_of_uSame _ _ _ _ _ _ (mem 0 (by omega)) (mem 1 (by omega)) (mem 2 (by omega)) (q a ha) (q b hb) hu)

/-- a leaf set below a branch is never the whole tip set -/
theorem member_not_full (t : T) (a F : List String) (ha : a ∈ belowsL t.kids) (hF : F.Nodup)
    (hlen : F.length = t.tipNames.length) : ¬ SetEq a F := by
  intro h
  rw [belowsL_eq] at ha
  obtain ⟨s, hs, rfl⟩ := List.mem_map.mp ha
  have hp := (T.below_proper t s (by simpa [T.splits] using hs)).2
  have hsub : F ⊆ s.below := fun y hy => (h y).mpr hy
  have := hF.length_le_of_subset hsub
  omega

theorem famEq_strip {A B : List (List String)} {F F' : List String} (h : FamEq (F :: A) (F' :: B))
    (hA : ∀ a ∈ A, ¬ SetEq a F') (hB : ∀ b ∈ B, ¬ SetEq F b) : FamEq A B := by
  constructor
  · intro a ha
    obtain ⟨y, hy, hay⟩ := h.1 a (List.mem_cons_of_mem _ ha)
    rcases List.mem_cons.mp hy with rfl | hy'
    · exact absurd hay (hA a ha)
    · exact ⟨y, hy', hay⟩
  · intro b hb
    obtain ⟨x, hx, hxb⟩ := h.2 b (List.mem_cons_of_mem _ hb)
    rcases List.mem_cons.mp hx with rfl | hx'
    · exact absurd hxb (hB b hb)
    · exact ⟨x, hx', hxb⟩

/-- EXHAUSTIVENESS, for any naming `nm` of the tips that is injective below `n`: every binary tree on the names drawn from a root of the enumeration's degree
    (unrooted: from the node joining the first three names) has the family of leaf sets of one of the
    returned trees.  Rooted: the tree is put under a start node, found among the backtracking trees
    (`raw_surj`), and the set of all tips carried by the stem is stripped again. -/
theorem raw_exhaustive (nm : Nat → String) (h : (if rooted then 2 else 3) ≤ n) (hinj : InjTo nm n) (t : T)
    (hdeg : t.kids.length = if rooted then 2 else 3) (hbin : binaryL t.kids = true)
    (hleaves : (leavesL t.kids).Perm (namesUpTo nm n))
    (hq : rooted = false → Q3 (nm 0) (nm 1) (nm 2) (belowsL t.kids)) :
    ∃ t' ∈ (allTopoRaw nm (n - (topoInit nm rooted).2) (topoInit nm rooted).1 (topoInit nm rooted).2).map
        (fun v => dropStem (clone v)), FamEq (belowsL t.kids) (belowsL t'.kids) := by
  have e := topoInit_total (rooted := rooted) nm h
  have h2 : 2 ≤ n := by cases rooted <;> simp at h <;> omega
  cases rooted with
  | false =>
    have hTI : TI nm (if false = true then 1 else 3)
        ((topoInit nm false).2 + (n - (topoInit nm false).2)) t := by
      rw [e]; exact ⟨hbin, hdeg, hleaves⟩
    obtain ⟨v, hv, hiso⟩ := raw_surj nm n hinj false _ (Nat.le_of_eq e) t hTI hq
    refine ⟨_, List.mem_map.mpr ⟨v, hv, rfl⟩, ?_⟩
    have hb := belows_out nm false n v (raw_TI nm h v hv) h2
    simp only [Bool.false_eq_true, if_false, List.nil_append] at hb
    rw [← hb]
    exact IsoL.famEq hiso
  | true =>
    simp only [if_true] at hdeg
    let s : T := .node newNodeD 0 [(EdgeD.blank, .node t.d 0 t.kids)]
    have hpos : 0 < t.kids.length := by omega
    have hsl : leavesL s.kids = leavesL t.kids := by
      simp only [s, T.kids_node, leavesL, List.append_nil]
      exact leaves_node_of_pos _ _ _ hpos
    have hTI : TI nm (if true = true then 1 else 3)
        ((topoInit nm true).2 + (n - (topoInit nm true).2)) s := by
      rw [e]
      exact ⟨by simp [s, binaryL, T.binaryBelow, hdeg, hbin], rfl, by rw [hsl]; exact hleaves⟩
    obtain ⟨v, hv, hiso⟩ := raw_surj nm n hinj true _ (Nat.le_of_eq e) s hTI (fun hh => by cases hh)
    have hvTI := raw_TI nm h v hv
    have hout := topo_out nm true n v hvTI h2
    simp only [if_true] at hout
    refine ⟨_, List.mem_map.mpr ⟨v, hv, rfl⟩, ?_⟩
    have hb := belows_out nm true n v hvTI h2
    simp only [if_true, List.singleton_append] at hb
    have hfam := IsoL.famEq hiso
    have hs : belowsL s.kids = leavesL t.kids :: belowsL t.kids := by
      simp only [s, T.kids_node, belowsL, belowsT, List.append_nil]
      rw [leaves_node_of_pos _ _ _ hpos]
    rw [hs, hb] at hfam
    have hnames : (namesUpTo nm n).Nodup := namesUpTo_nodup _ n n hinj (Nat.le_refl n)
    apply famEq_strip hfam
    · intro a ha
      apply member_not_full t a _ ha (hvTI.leaves.nodup_iff.mpr hnames)
      rw [T.tipNames_of_ne_one (by omega), hvTI.leaves.length_eq, hleaves.length_eq]
    · intro b hb' hse
      refine member_not_full (dropStem (clone v)) b _ hb' (hleaves.nodup_iff.mpr hnames) ?_ hse.symm
      rw [hout.2.2.length_eq, hleaves.length_eq]

/-- the same for the names of `AllTopologies(n, rooted, names...)` -/
theorem enum_exhaustive (h : (if rooted then 2 else 3) ≤ n) (hinj : InjTo (topoName names) n) (t : T)
    (hdeg : t.kids.length = if rooted then 2 else 3) (hbin : binaryL t.kids = true)
    (hleaves : (leavesL t.kids).Perm (topoNames names n))
    (hq : rooted = false → Q3 (topoName names 0) (topoName names 1) (topoName names 2) (belowsL t.kids)) :
    ∃ t' ∈ (enumRaw n rooted names).map (fun v => dropStem (clone v)), FamEq (belowsL t.kids) (belowsL t'.kids) :=
  raw_exhaustive (topoName names) h hinj t hdeg hbin hleaves hq

/-- unrooted: every binary tree on the names, seen from the node joining the first three of them, has
    the family of leaf sets of one of the returned trees -/
theorem exhaustive_unrooted_lemma (nm : Nat → String) (n : Nat) (hinj : InjTo nm n) (h3 : 3 ≤ n) (t : T)
    (hdeg : t.kids.length = 3) (hbin : binaryL t.kids = true) (hleaves : (leavesL t.kids).Perm (namesUpTo nm n))
    (hq : Q3 (nm 0) (nm 1) (nm 2) (belowsL t.kids)) :
    ∃ t' ∈ allTopoRec nm (n - 3) (topoInit nm false).1 3, FamEq (belowsL t.kids) (belowsL t'.kids) := by
  rw [allTopoRec_eq_map]
  exact raw_exhaustive (rooted := false) nm h3 hinj t hdeg hbin hleaves fun _ => hq

/-- rooted: every rooted binary tree on the names has the clade family of one of the returned trees -/
theorem exhaustive_rooted_lemma (nm : Nat → String) (n : Nat) (hinj : InjTo nm n) (h2 : 2 ≤ n) (t : T)
    (hdeg : t.kids.length = 2) (hbin : binaryL t.kids = true) (hleaves : (leavesL t.kids).Perm (namesUpTo nm n)) :
    ∃ t' ∈ allTopoRec nm (n - 1) (topoInit nm true).1 1, FamEq (belowsL t.kids) (belowsL t'.kids) := by
  rw [allTopoRec_eq_map]
  exact raw_exhaustive (rooted := true) nm h2 hinj t hdeg hbin hleaves fun hh => by cases hh

/-! ### `cladeFam`: the proper clades / the canonical sides of the inner splits

   The Spec predicate `topoCheck` compares these families; on trees drawn from a root of degree 2
   (rooted) or 3 (unrooted) they differ whenever the whole families `belowFam` do. -/

/-- every other branch at the root carries at least one tip -/
theorem belowsL_length_le (ks : Kids) (S : List String) (h : S ∈ belowsL ks) :
    S.length + (ks.length - 1) ≤ (leavesL ks).length := by
  obtain ⟨s, hs, rfl⟩ := mem_belowsL.1 h
  exact below_length_add_le ks s hs

/-- the leaf sets of the terminal branches are the same in two trees on the same tips -/
theorem small_below (a b : T) (hab : (leavesL a.kids).Perm (leavesL b.kids)) (S : List String) (hS : S ∈ belowsL a.kids)
    (h : S.length < 2) : S ∈ belowsL b.kids := by
  match S, h with
  | [], _ => exact absurd rfl (belowsL_ne_nil a.kids _ hS)
  | [x], _ =>
    obtain ⟨s, hs, _, h2⟩ := tipSplitL_of_mem x b.kids (hab.subset (belowsL_sub a.kids _ hS x (by simp)))
    rw [belowsL_eq]
    exact List.mem_map.mpr ⟨s, hs, h2⟩

theorem mem_cladeFam_true (t : T) (S : List String) :
    S ∈ cladeFam true t ↔ S ∈ belowsL t.kids ∧ 2 ≤ S.length ∧ S.length < (leavesL t.kids).length := by
  simp only [cladeFam, if_true, belowsL_eq, T.splits, List.mem_map, List.mem_filter, Bool.and_eq_true, decide_eq_true_eq]
  constructor
  · rintro ⟨s, ⟨hs, h⟩, rfl⟩; exact ⟨⟨s, hs, rfl⟩, h⟩
  · rintro ⟨⟨s, hs, rfl⟩, h⟩; exact ⟨s, ⟨hs, h⟩, rfl⟩

theorem famEq_of_cladeFam (a b : T) (ha : a.kids.length = 2) (hb : b.kids.length = 2)
    (hab : (leavesL a.kids).Perm (leavesL b.kids)) (h : FamEq (cladeFam true a) (cladeFam true b)) :
    FamEq (belowFam a) (belowFam b) := by
  have half : ∀ (a b : T), a.kids.length = 2 → (leavesL a.kids).Perm (leavesL b.kids) →
      (∀ S ∈ cladeFam true a, ∃ S' ∈ cladeFam true b, SetEq S S') →
      ∀ S ∈ belowsL a.kids, ∃ S' ∈ belowsL b.kids, SetEq S S' := by
    intro a b ha hab h S hS
    by_cases hs : S.length < 2
    · exact ⟨S, small_below a b hab S hS hs, SetEq.refl S⟩
    · have hle := belowsL_length_le a.kids S hS
      obtain ⟨S', hS', hse⟩ := h S ((mem_cladeFam_true a S).mpr ⟨hS, by omega, by omega⟩)
      exact ⟨S', ((mem_cladeFam_true b S').mp hS').1, hse⟩
  rw [belowFam_eq, belowFam_eq]
  refine ⟨half a b ha hab h.1, fun S hS => ?_⟩
  obtain ⟨S', hS', hse⟩ := half b a hb hab.symm h.symm.1 S hS
  exact ⟨S', hS', hse.symm⟩

/-- an inner split and its canonical side: the same set, or complements among the tips -/
theorem canonSide_same (all S : List String) (first : String) :
    let C := if S.contains first then all.filter (fun x => !S.contains x) else S
    SetEq S C ∨ CompEq all S C := by
  intro C
  by_cases hc : first ∈ S
  · right
    intro y hy
    simp [C, hc, List.mem_filter, hy]
  · left
    simp only [C, List.contains_eq_mem, hc, decide_false, Bool.false_eq_true, if_false]
    exact SetEq.refl S

/-- the members of `cladeFam false t` are the inner splits of `t`, each up to complement -/
theorem cladeFam_false_sound (t : T) (C : List String) (h : C ∈ cladeFam false t) :
    ∃ S ∈ belowsL t.kids, SetEq S C ∨ CompEq (leavesL t.kids) S C := by
  simp only [cladeFam, Bool.false_eq_true, if_false, T.splits, List.mem_map, List.mem_filter] at h
  obtain ⟨s, ⟨hs, _⟩, rfl⟩ := h
  exact ⟨s.below, by rw [belowsL_eq]; exact List.mem_map.mpr ⟨s, hs, rfl⟩, canonSide_same _ _ _⟩

theorem cladeFam_false_complete (t : T) (S : List String) (hS : S ∈ belowsL t.kids) (h2 : 2 ≤ S.length)
    (hn : S.length + 2 ≤ (leavesL t.kids).length) :
    ∃ C ∈ cladeFam false t, SetEq S C ∨ CompEq (leavesL t.kids) S C := by
  rw [belowsL_eq] at hS
  obtain ⟨s, hs, rfl⟩ := List.mem_map.mp hS
  refine ⟨_, ?_, canonSide_same (leavesL t.kids) s.below ((minS (leavesL t.kids)).getD "")⟩
  simp only [cladeFam, Bool.false_eq_true, if_false, T.splits, List.mem_map, List.mem_filter, Bool.and_eq_true,
    decide_eq_true_eq]
  exact ⟨s, ⟨hs, h2, hn⟩, rfl⟩

theorem uSame_of_cladeFam (all : List String) (a b : T) (ha : a.kids.length = 3) (hb : b.kids.length = 3)
    (hpa : (leavesL a.kids).Perm all) (hpb : (leavesL b.kids).Perm all)
    (h : FamEq (cladeFam false a) (cladeFam false b)) : USame all (belowFam a) (belowFam b) := by
  have half : ∀ (a b : T), a.kids.length = 3 → (leavesL a.kids).Perm all → (leavesL b.kids).Perm all →
      (∀ C ∈ cladeFam false a, ∃ C' ∈ cladeFam false b, SetEq C C') →
      ∀ S ∈ belowsL a.kids, ∃ S' ∈ belowsL b.kids, SetEq S S' ∨ CompEq all S S' := by
    intro a b ha hpa hpb h S hS
    by_cases hs : S.length < 2
    · exact ⟨S, small_below a b (hpa.trans hpb.symm) S hS hs, Or.inl (SetEq.refl S)⟩
    · have hle := belowsL_length_le a.kids S hS
      obtain ⟨C, hC, hSC⟩ := cladeFam_false_complete a S hS (by omega) (by omega)
      obtain ⟨C', hC', hse⟩ := h C hC
      obtain ⟨S', hS', hSC'⟩ := cladeFam_false_sound b C' hC'
      have sub : ∀ (t : T) (S : List String), (leavesL t.kids).Perm all → S ∈ belowsL t.kids → ∀ y ∈ S, y ∈ all :=
        fun t S hp hS y hy => hp.subset (belowsL_sub t.kids S hS y hy)
      -- S ~ C = C' ~ S', complements taken among `all`
      have h1 : SetEq S C' ∨ CompEq all S C' :=
        hSC.elim (fun s => Or.inl (s.trans hse)) (fun c => Or.inr (compEq_setEq (fun y hy => c y (hpa.symm.subset hy)) hse))
      have h2 : SetEq C' S' ∨ CompEq all C' S' :=
        hSC'.elim (fun s => Or.inl s.symm) (fun c => Or.inr (CompEq.symm fun y hy => c y (hpb.symm.subset hy)))
      exact ⟨S', hS', sameSplit_trans (sub a S hpa hS) (sub b S' hpb hS') h1 h2⟩
  rw [belowFam_eq, belowFam_eq]
  refine ⟨half a b ha hpa hpb h.1, fun S hS => ?_⟩
  obtain ⟨S', hS', hse⟩ := half b a hb hpb hpa h.symm.1 S hS
  exact ⟨S', hS', hse.imp SetEq.symm CompEq.symm⟩

/-- the model's enumeration with the default names passes `topoCheck` at every accepted size -/
theorem topoCheck_of_le (h : (if rooted then 2 else 3) ≤ n) : topoCheck rooted n = true := by
  have hnm : topoNames [] n = tipNamesFrom1 n := rfl
  have hinj := topoName_inj [] n (Or.inl rfl)
  unfold topoCheck
  rw [allTopologies_enum h (Or.inl rfl)]
  simp only [Bool.and_eq_true, beq_iff_eq, List.all_eq_true, List.length_map]
  refine ⟨⟨enumRaw_length h, fun t ht => ?_⟩, ?_⟩
  · obtain ⟨w1, w2, w3⟩ := enum_wf h t ht
    rw [hnm] at w1
    refine ⟨⟨?_, w2⟩, by cases rooted <;> simp [w3]⟩
    simp only [namesEq, Bool.and_eq_true, beq_iff_eq]
    exact ⟨w1.length_eq, (setEq_iff _ _).mpr fun y => w1.mem_iff⟩
  · rw [pairwiseDistinct_iff, List.pairwise_map]
    refine List.Pairwise.imp_of_mem ?_ (enum_pairwise h hinj)
    intro a b ha hb hne hfe
    have da := (enum_wf h a ha).2.2
    have db := (enum_wf h b hb).2.2
    have pa := enum_leaves h a ha
    have pb := enum_leaves h b hb
    cases rooted with
    | true => exact hne (famEq_of_cladeFam a b da db (pa.trans pb.symm) hfe)
    | false => exact hne (uSame_of_cladeFam _ a b da db pa pb hfe)

end Gotree.C16

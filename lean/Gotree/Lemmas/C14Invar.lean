/-
  C14 — what the matrix and the cut do not depend on: where the root is (a one-edge root move of C05's model) and
  the order of the children at any depth (`Reord`); and threshold monotonicity of the cut.  Both invariances
  come from the split list: the matrix and the cut are determined by the tips and by the separating branches.
-/
import Gotree.Lemmas.C05Splits
import Gotree.Lemmas.Reord
import Gotree.Lemmas.C14Avg

namespace Gotree.C14
open Gotree

/-! ## matrix: it depends on the tip set and on the path sums only -/

theorem matrix_fst (m : Metric) (t : T) : (matrix m t).1 = sortNames t.tipNames := rfl

/-- Two trees with the same tips (as a multiset) and the same path sums have the same
    matrix, rows included. -/
theorem matrix_congr (m : Metric) (t u : T) (hu : t.tipNames.Nodup) (hp : u.tipNames.Perm t.tipNames)
    (hd : ∀ a ∈ t.tipNames, ∀ b ∈ t.tipNames, pathSum m u a b = pathSum m t a b) :
    matrix m u = matrix m t := by
  have hu' : u.tipNames.Nodup := hp.nodup_iff.2 hu
  have hs : sortNames u.tipNames = sortNames t.tipNames := sortNames_eq_of_perm hp
  apply Prod.ext
  · rw [matrix_fst, matrix_fst, hs]
  · rw [matrix_spec m u hu', matrix_spec m t hu, hs]
    apply List.map_congr_left
    intro a ha
    apply List.map_congr_left
    intro b hb
    rw [hd a (mem_sortNames.1 ha) b (mem_sortNames.1 hb)]

/-! ## reordering: entries up to the order in which the leaves below are listed -/

theorem sep_of_perm {s s' : SplitE} (h : s'.below.Perm s.below) (a b : String) : s'.sep a b = s.sep a b := by
  simp [SplitE.sep, List.contains_eq_mem, h.mem_iff]

/-- `u` lists the same branches as `t`, each with the same leaves below in some order:
    what any reordering of children, at any depth, produces. -/
inductive BrRel : List SplitE → List SplitE → Prop
  | nil : BrRel [] []
  | cons {s s' : SplitE} {l l' : List SplitE} : s'.e = s.e → s'.below.Perm s.below → BrRel l l' →
      BrRel (s :: l) (s' :: l')

def SameBranches (l l' : List SplitE) : Prop :=
  ∃ l₂ : List SplitE, l'.Perm l₂ ∧ BrRel l l₂

theorem BrRel.append : ∀ {a a' b b' : List SplitE}, BrRel a a' → BrRel b b' → BrRel (a ++ b) (a' ++ b')
  | _, _, _, _, .nil, hb => by simpa using hb
  | _, _, _, _, .cons h h' hr, hb => .cons h h' (BrRel.append hr hb)

theorem SameBranches.append {l₁ l₁' l₂ l₂' : List SplitE} (h₁ : SameBranches l₁ l₁') (h₂ : SameBranches l₂ l₂') :
    SameBranches (l₁ ++ l₂) (l₁' ++ l₂') := by
  obtain ⟨a, pa, fa⟩ := h₁
  obtain ⟨b, pb, fb⟩ := h₂
  exact ⟨a ++ b, pa.append pb, fa.append fb⟩

/-- two lists with the same images under `f`, as multisets: one is a permutation of a list with the
    same images as the other, position by position -/
theorem exists_perm_map_eq {α β : Type} (f : α → β) : ∀ (l : List α) {l' : List α}, (l'.map f).Perm (l.map f) →
    ∃ m, l'.Perm m ∧ m.map f = l.map f
  | [], l', h => ⟨[], by rw [List.map_eq_nil_iff.1 h.eq_nil], rfl⟩
  | a :: l, l', h => by
    obtain ⟨a', ha', e⟩ := List.mem_map.1 (h.mem_iff.2 (List.mem_cons_self (a := f a)))
    obtain ⟨p, q, rfl⟩ := List.append_of_mem ha'
    have hm : ((p ++ q).map f).Perm (l.map f) := by
      have := (List.perm_middle.map f).symm.trans h
      rw [List.map_cons, List.map_cons, e] at this
      exact this.cons_inv
    obtain ⟨m, hp, hm'⟩ := exists_perm_map_eq f l hm
    exact ⟨a' :: m, List.perm_middle.trans (hp.cons a'), by rw [List.map_cons, List.map_cons, hm', e]⟩

theorem brRel_of_sorted : ∀ {l m : List SplitE},
    m.map (fun s => (sortS s.below, s.e)) = l.map (fun s => (sortS s.below, s.e)) → BrRel l m
  | [], [], _ => .nil
  | s :: l, s' :: m, h => by
    simp only [List.map_cons, List.cons.injEq, Prod.mk.injEq] at h
    exact .cons h.1.2 ((sortS_perm _).symm.trans (h.1.1 ▸ sortS_perm _)) (brRel_of_sorted h.2)
  | [], _ :: _, h => by simp at h
  | _ :: _, [], h => by simp at h

/-- what a reordering keeps: the leaves (as a multiset), leaf-ness, the number of children
    and the branches with the leaves below them -/
def ReordOK (t t' : T) : Prop :=
  t'.leaves.Perm t.leaves ∧ t'.isLeaf = t.isLeaf ∧ t'.kids.length = t.kids.length ∧ t'.name = t.name ∧
  SameBranches t.splitsBelow t'.splitsBelow

def ReordLOK (k k' : Kids) : Prop :=
  (leavesL k').Perm (leavesL k) ∧ k'.length = k.length ∧ SameBranches (splitsL k) (splitsL k')

theorem reord_ok : ∀ {t t' : T}, Reord t t' → ReordOK t t' := fun {t t'} h =>
  have a := h.keeps (g := fun s => (sortS s.below, s.e)) fun _ _ _ _ hp => by simp only [sortS_congr hp]
  ⟨a.leaves, a.isLeaf, a.len, congrArg NodeD.name a.d, by
    obtain ⟨m, hp, hm⟩ := exists_perm_map_eq _ _ a.splits
    rw [T.splitsBelow_eq, T.splitsBelow_eq]
    exact ⟨m, hp, brRel_of_sorted hm⟩⟩

theorem reord_distW (w : EdgeD → Rat) {t t' : T} (h : Reord t t') (a b : String) :
    distW w t'.splits a b = distW w t.splits a b :=
  sum_perm (h.keeps (g := fun s => if s.sep a b then w s.e else 0) fun l l' e tip hp => by
    simp only [sep_of_perm (s := ⟨l, e, tip⟩) (s' := ⟨l', e, tip⟩) hp a b]).splits

theorem reord_pathShort (thr : Rat) {t t' : T} (h : Reord t t') (a b : String) :
    pathShort thr t' a b = pathShort thr t a b := by
  have := (h.keeps (g := fun s => !(s.sep a b) || decide (s.e.len < thr)) fun l l' e tip hp => by
    simp only [sep_of_perm (s := ⟨l, e, tip⟩) (s' := ⟨l', e, tip⟩) hp a b]).splits.all_eq (f := id)
  simpa only [pathShort, List.all_map, Function.comp_def, id] using this

/-! ## cut: a root move / a reordering keeps "every branch between a and b is short" -/

theorem pathShort_perm (thr : Rat) {l l' : List SplitE} (h : l'.Perm l) (a b : String) :
    (l'.all fun s => !(s.sep a b) || decide (s.e.len < thr)) =
    (l.all fun s => !(s.sep a b) || decide (s.e.len < thr)) := by
  induction h with
  | nil => rfl
  | cons x _ ih => simp only [List.all_cons, ih]
  | swap x y l => simp only [List.all_cons]; grind
  | trans _ _ ih₁ ih₂ => exact ih₁.trans ih₂

theorem pathShort_moveRoot (thr : Rat) (t : T) (i : Nat) (hu : t.tipNames.Nodup) (a b : String)
    (ha : a ∈ t.tipNames) (hb : b ∈ t.tipNames) :
    pathShort thr (C05.moveRoot t i) a b = pathShort thr t a b := by
  cases h : t.kids[i]? with
  | none => rw [C05.moveRoot_of_none t i h]
  | some ec =>
    obtain ⟨e, c⟩ := ec
    obtain ⟨rest, p1, p2⟩ := C05.moveRoot_splits_perm t i e c h
    obtain ⟨q1, _⟩ := C05.moveRoot_tipNames_split t i e c h
    unfold pathShort
    rw [pathShort_perm thr p1, pathShort_perm thr p2]
    simp only [List.all_cons]
    have q1' : ((C05.oldRoot t i).leaves ++ c.leaves).Perm t.tipNames := List.perm_append_comm.trans q1
    rw [sep_compl hu q1' e e (C05.oldRoot t i).isLeaf c.isLeaf ha hb]

theorem cut_sameBag_moveRoot (thr : Rat) (t : T) (i : Nat) (hu : t.tipNames.Nodup) (a b : String)
    (ha : a ∈ t.tipNames) (hb : b ∈ t.tipNames) :
    sameBag (cut thr (C05.moveRoot t i)) a b = sameBag (cut thr t) a b := by
  have hp := C05.moveRoot_tips t i
  rw [cut_sameBag thr _ (hp.nodup_iff.2 hu) a b (hp.mem_iff.2 ha) (hp.mem_iff.2 hb),
    cut_sameBag thr t hu a b ha hb, pathShort_moveRoot thr t i hu a b ha hb]

/-! ## threshold monotonicity -/

theorem pathShort_mono {thr thr' : Rat} (h : thr ≤ thr') (t : T) (a b : String)
    (hs : pathShort thr t a b = true) : pathShort thr' t a b = true := by
  unfold pathShort at *
  simp only [List.all_eq_true, Bool.or_eq_true, Bool.not_eq_eq_eq_not, Bool.not_true, decide_eq_true_eq] at *
  intro s hm
  rcases hs s hm with h1 | h1
  · exact Or.inl h1
  · exact Or.inr (by grind)

/-- in a list of lists whose concatenation has no repetition, an element lies in one list only -/
theorem unique_bag {L : List (List String)} (hn : L.flatten.Nodup) {g₁ g₂ : List String} {x : String}
    (h₁ : g₁ ∈ L) (h₂ : g₂ ∈ L) (x₁ : x ∈ g₁) (x₂ : x ∈ g₂) : g₁ = g₂ := by
  induction L with
  | nil => cases h₁
  | cons g L ih =>
    simp only [List.flatten_cons, List.nodup_append] at hn
    obtain ⟨_, hn2, hd⟩ := hn
    rcases List.mem_cons.1 h₁ with e₁ | h₁ <;> rcases List.mem_cons.1 h₂ with e₂ | h₂
    · rw [e₁, e₂]
    · exact absurd rfl (hd x (e₁ ▸ x₁) x (List.mem_flatten.2 ⟨_, h₂, x₂⟩))
    · exact absurd rfl (hd x (e₂ ▸ x₂) x (List.mem_flatten.2 ⟨_, h₁, x₁⟩))
    · exact ih hn2 h₁ h₂

end Gotree.C14

/-
  C19 — the table-level predicates of the Spec quantify over all pairs of rows.  Here each of them is derived
  from a check that looks at far fewer pairs and, above all, performs far fewer operations on strings: the kernel
  evaluates a string operation on the UTF-8 encoding of its arguments, at thousands of steps per character,
  and every step of a recursion over the table costs it some hundred more.
-/
import Gotree.Lemmas.C19

namespace Gotree.C19

/-! ### one representative row per variable

  harness/c19/flagdump.go numbers the variables in order of first appearance, so a row whose variable is the
  number of variables met before it introduces that variable, and any other row re-uses one.  Nothing below
  assumes the numbering: with another one the checks fail, they do not go wrong. -/

/-- the rows that introduce the variables `k`, `k+1`, …: entry `v` of `firsts 0 t` is the first row bound to `v` -/
def firsts : Nat → List Reg → List Reg
  | _, [] => []
  | k, r :: rs => bif Nat.beq r.var k then r :: firsts (k + 1) rs else firsts k rs

/-- the other rows -/
def reusers : Nat → List Reg → List Reg
  | _, [] => []
  | k, r :: rs => bif Nat.beq r.var k then reusers (k + 1) rs else r :: reusers k rs

theorem rep_or_reuser (pre t : List Reg) :
    ∀ r ∈ t, (pre ++ firsts pre.length t)[r.var]? = some r ∨ r ∈ reusers pre.length t := by
  induction t generalizing pre with
  | nil => simp
  | cons a rs ih =>
    have ih' := ih (pre ++ [a])
    rw [List.length_append, List.length_singleton, List.append_assoc, List.singleton_append] at ih'
    intro r hr
    unfold firsts reusers
    cases h : Nat.beq a.var pre.length with
    | true =>
      rcases List.mem_cons.mp hr with rfl | hr
      · simp [Nat.eq_of_beq_eq_true h]
      · exact ih' r hr
    | false =>
      rcases List.mem_cons.mp hr with rfl | hr
      · simp
      · exact (ih pre r hr).imp id (List.mem_cons_of_mem _)

/-- field `f` of row `r` is that of the representative of its variable -/
def asRep (reps : List Reg) (f : Reg → String) (r : Reg) : Bool := reps[r.var]?.any (f · == f r)

theorem eq_of_asRep {reps : List Reg} {f : Reg → String} {r s : Reg} (hv : r.var = s.var)
    (hr : asRep reps f r = true) (hs : asRep reps f s = true) : f r = f s := by
  unfold asRep at hr hs
  rw [hv] at hr
  cases h : reps[s.var]? with
  | none => simp [h] at hs
  | some q =>
    simp only [h, Option.any_some, beq_iff_eq] at hr hs
    rw [← hr, hs]

/-- only the re-users can differ from their representative -/
theorem mem_reusers_of_not_asRep {f : Reg → String} {t : List Reg} {r : Reg} (hr : r ∈ t)
    (h : asRep (firsts 0 t) f r = false) : r ∈ reusers 0 t :=
  (rep_or_reuser [] t r hr).resolve_left fun hrep => by
    rw [List.nil_append, List.length_nil] at hrep
    simp [asRep, hrep] at h

/-- re-users that document the default of the row that introduced their variable: no two rows can conflict -/
theorem noConflict_of_reusers {regs : List Reg}
    (h : ((reusers 0 regs).all (asRep (firsts 0 regs) (·.default))) = true) : noConflict regs = true := by
  have like : ∀ r ∈ regs, asRep (firsts 0 regs) (·.default) r = true := fun r hr => Decidable.by_contra fun hl =>
    hl (List.all_eq_true.mp h r (mem_reusers_of_not_asRep hr (Bool.eq_false_iff.mpr hl)))
  exact (noConflict_iff regs).mpr fun r hr s hs hv => eq_of_asRep hv (like r hr) (like s hs)

/-! ### the ancestor test of `hides` and `visibleTo` -/

/-- the encoding of `a` begins that of `p`: far cheaper to evaluate than `String.startsWith`, cheaper than `==`,
    and implied by the tests on paths that `hides` and `visibleTo` make, which it therefore precedes below -/
def bytesPrefix (a p : String) : Bool := a.toByteArray.data.toList.isPrefixOf p.toByteArray.data.toList

theorem bytesPrefix_of_startsWith {a p : String} (h : (p ++ " ").startsWith (a ++ " ") = true) :
    bytesPrefix a p = true := by
  obtain ⟨l, hl⟩ := String.startsWith_string_iff.mp h
  have hp : p ++ " " = a ++ " " ++ String.ofList l := String.toList_inj.mp (by simp [String.toList_append, ← hl])
  have hb := congrArg (fun s : String => s.toByteArray.data.toList) hp
  simp only [String.toByteArray_append, ByteArray.data_append, Array.toList_append, List.append_assoc] at hb
  have hlen := congrArg List.length hb
  simp only [List.length_append] at hlen
  rw [bytesPrefix, List.isPrefixOf_iff_prefix]
  exact List.prefix_of_prefix_length_le (List.prefix_append _ _) (hb ▸ List.prefix_append _ _) (by omega)

theorem bytesPrefix_of_hides {r q : Row} (h : hides r q = true) : bytesPrefix q.path r.path = true := by
  simp only [hides, Bool.and_eq_true] at h
  exact bytesPrefix_of_startsWith h.2

theorem bytesPrefix_of_visibleTo {path : String} {q : Row} (h : visibleTo path q = true) :
    bytesPrefix q.path path = true := by
  simp only [visibleTo, Bool.or_eq_true, Bool.and_eq_true, beq_iff_eq] at h
  rcases h with rfl | h
  · exact List.isPrefixOf_iff_prefix.mpr (List.prefix_refl _)
  · exact bytesPrefix_of_startsWith h.2

/-! ### all pairs of rows with the same key -/

/-- `P` holds of all pairs of equal `key`, bucket by bucket -/
def allPairsByKey {α : Type} (key : α → Nat) (P : α → α → Bool) (t : List α) : Bool :=
  (List.range ((t.map key).max?.getD 0 + 1)).all fun k =>
    (t.filter fun r => Nat.beq k (key r)).all fun r => (t.filter fun r => Nat.beq k (key r)).all (P r)

theorem of_allPairsByKey {α : Type} {key : α → Nat} {P : α → α → Bool} {t : List α}
    (h : allPairsByKey key P t = true) {r q : α} (hr : r ∈ t) (hq : q ∈ t) (hk : key q = key r) : P r q = true := by
  have hb := List.all_eq_true.mp h (key r)
    (List.mem_range.mpr (Nat.lt_succ_of_le (List.le_max?_getD_of_mem (List.mem_map_of_mem hr))))
  exact List.all_eq_true.mp (List.all_eq_true.mp hb r (List.mem_filter.mpr ⟨hr, Nat.beq_refl _⟩)) q
    (List.mem_filter.mpr ⟨hq, hk ▸ Nat.beq_refl _⟩)

/-! ### a flag that hides an inherited one -/

/-- `!(hides r q) || q.default == r.default`, or `r` is excepted: after the one test that `noConflict` settles
    without looking at a string, the tests in order of cost -/
def shadowPair (ex : List (String × String)) (r q : Row) : Bool :=
  Nat.beq q.var r.var || !q.persistent || q.flag != r.flag || q.default == r.default ||
    !(bytesPrefix q.path r.path && hides r q) || ex.contains (r.path, r.flag)

/-- `hides r q` needs equal flag names, so a row is compared only with the rows whose name has the same length -/
theorem shadowAgreeExcept_of_pairs (ex : List (String × String)) (t : List Row) (hc : noConflict t = true)
    (h : allPairsByKey (·.flag.utf8ByteSize) (shadowPair ex) t = true) : shadowAgreeExcept ex t = true := by
  unfold shadowAgreeExcept
  rw [List.all_eq_true]
  intro r hr
  cases hex : ex.contains (r.path, r.flag) with
  | true => rfl
  | false =>
    rw [Bool.false_or, List.all_eq_true]
    intro q hq
    cases hh : hides r q with
    | false => rfl
    | true =>
      have hh' := hh
      simp only [hides, Bool.and_eq_true, beq_iff_eq] at hh'
      have hp := of_allPairsByKey h hr hq (by rw [hh'.1.1.2])
      simp only [shadowPair, bytesPrefix_of_hides hh, hh, hh'.1.1.1, hh'.1.1.2, hex, Bool.and_self, Bool.not_true,
        Bool.or_false, Bool.or_eq_true, beq_iff_eq, bne_self_eq_false] at hp
      have hd : q.default = r.default :=
        hp.elim (fun hv => (noConflict_iff t).mp hc q hq r hr (Nat.eq_of_beq_eq_true hv)) id
      simp [hd]

/-! ### two flags of one command on one variable -/

/-- `q` is no alias of `r`, or `r` is excepted -/
def aliasFree (ex : List (String × String)) (r q : Row) : Bool :=
  !(Nat.beq q.var r.var && q.flag != r.flag && bytesPrefix q.path r.path && visibleTo r.path q) ||
    ex.contains (r.path, r.flag)

/-- A flag and its alias share a variable under two names, so one of the two rows does not bear the name of the
    row that introduced the variable: only such rows are compared with the whole table. -/
def aliasCheck (ex : List (String × String)) (t : List Row) : Bool :=
  ((reusers 0 t).filter fun r => !asRep (firsts 0 t) (·.flag) r).all fun o =>
    t.all fun x => aliasFree ex o x && aliasFree ex x o

theorem noAliasInCommandExcept_of_check (ex : List (String × String)) (t : List Row)
    (h : aliasCheck ex t = true) : noAliasInCommandExcept ex t = true := by
  unfold noAliasInCommandExcept
  rw [List.all_eq_true]
  intro r hr
  cases hex : ex.contains (r.path, r.flag) with
  | true => rfl
  | false =>
    rw [Bool.false_or, List.isEmpty_iff, aliasesOf, List.filter_eq_nil_iff]
    intro q hq hc
    simp only [Bool.and_eq_true, beq_iff_eq, bne_iff_ne, ne_eq] at hc
    obtain ⟨⟨hv, hvis⟩, hne⟩ := hc
    have pair : ∀ o ∈ t, asRep (firsts 0 t) (·.flag) o = false →
        ∀ x ∈ t, aliasFree ex o x = true ∧ aliasFree ex x o = true := fun o ho hl x hx =>
      Bool.and_eq_true _ _ ▸ List.all_eq_true.mp (List.all_eq_true.mp h o (List.mem_filter.mpr
        ⟨mem_reusers_of_not_asRep ho hl, by simp [hl]⟩)) x hx
    have key : aliasFree ex r q = true := by
      cases hl : asRep (firsts 0 t) (·.flag) r with
      | false => exact (pair r hr hl q hq).1
      | true => exact (pair q hq (Bool.eq_false_iff.mpr fun hq' => hne (eq_of_asRep hv hq' hl)) r hr).2
    simp only [aliasFree, bytesPrefix_of_visibleTo hvis, hvis, hex, hv, Nat.beq_refl, Bool.true_and, Bool.and_true,
      Bool.or_false, Bool.not_eq_eq_eq_not, Bool.not_true, bne_eq_false_iff_eq] at key
    exact hne key

end Gotree.C19

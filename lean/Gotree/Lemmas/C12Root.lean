/-
  C12 — the minimum does not depend on the root, nor on nodes with a single child.
  `minCost (moveRoot t i) = minCost t`: the Sankoff vector of the new root is pointwise the second-pass slice
  (`totA`) of child `i` in the old tree, and the minimum of every second-pass slice is `minCost` (`tot_min`).
  `minCost (subdivide t q) = minCost t`: the vectors `gv` are 1-Lipschitz, so looking at them through one more
  branch changes nothing.
-/
import Gotree.Lemmas.C12Tot

namespace Gotree.C12
open Gotree

section root
variable (k : Nat) (tv : String → Vec)

theorem fL_append (s : Nat) (hs : s < k) : ∀ (a b : Kids),
    (fL k tv (a ++ b)).at s = (fL k tv a).at s + (fL k tv b).at s
  | [], b => by simp [fL, at_vzero]
  | (e, c) :: r, b => by
    have ih := fL_append s hs r b
    simp only [List.cons_append, fL, at_vadd, hs, if_true]
    omega

/-- the second-pass slice of child `i` of a node, read off `totL` -/
theorem totL_root : ∀ (ks : Kids) (U pre : Vec) (i : Nat) (e : EdgeD) (d : NodeD) (pp : Nat) (x : EdgeD × T) (xs : Kids),
    ks[i]? = some (e, .node d pp (x :: xs)) →
    ∃ R tot, A.getL (totL k tv U pre ks) i [] = some tot ∧
      (∀ s, s < k → tot.at s = (fL k tv (x :: xs)).at s + (through k R).at s) ∧
      (∀ t, t < k → R.at t = U.at t + pre.at t + (fL k tv (ks.eraseIdx i)).at t)
  | [], _, _, _, _, _, _, _, _, h => by simp at h
  | (e0, c0) :: rest, U, pre, 0, e, d, pp, x, xs, h => by
    simp only [List.getElem?_cons_zero, Option.some.injEq, Prod.mk.injEq] at h
    obtain ⟨_, hc⟩ := h
    subst hc
    refine ⟨vadd k U (vadd k pre (fL k tv rest)),
      vadd k (fL k tv (x :: xs)) (through k (vadd k U (vadd k pre (fL k tv rest)))),
      by simp only [totL, A.getL, totA, A.get], ?_, ?_⟩
    · intro s hs; simp only [at_vadd, hs, if_true]
    · intro t ht; simp only [at_vadd, ht, if_true, List.eraseIdx_zero, List.tail_cons]; omega
  | (e0, c0) :: rest, U, pre, i + 1, e, d, pp, x, xs, h => by
    simp only [List.getElem?_cons_succ] at h
    obtain ⟨R, tot, hg, h1, h2⟩ := totL_root rest U (vadd k pre (gv k tv c0)) i e d pp x xs h
    refine ⟨R, tot, by simpa only [totL, A.getL] using hg, h1, ?_⟩
    intro t ht
    have := h2 t ht
    simp only [at_vadd, ht, if_true] at this
    simp only [List.eraseIdx_cons_succ, fL, at_vadd, ht, if_true]
    omega

theorem subL_root : ∀ (ks : Kids) (i : Nat) (et : EdgeD × T), ks[i]? = some et → subL ks i [] = some et.2
  | [], _, _, h => by simp at h
  | (e0, c0) :: rest, 0, et, h => by
    simp only [List.getElem?_cons_zero, Option.some.injEq] at h
    subst h; simp [subL, sub]
  | (e0, c0) :: rest, i + 1, et, h => by
    simp only [List.getElem?_cons_succ] at h
    simp only [subL]; exact subL_root rest i et h

/-- with at least two children, one is left when child `i` is taken away -/
theorem eraseIdx_cons {ks : Kids} {i : Nat} {x : EdgeD × T} (hlen : 2 ≤ ks.length) (hi : ks[i]? = some x) :
    ∃ z zs, ks.eraseIdx i = z :: zs := by
  have hilt : i < ks.length := (List.getElem?_eq_some_iff.mp hi).1
  have hlen' : (ks.eraseIdx i).length = ks.length - 1 := List.length_eraseIdx_of_lt hilt
  cases her : ks.eraseIdx i with
  | nil => simp only [her, List.length_nil] at hlen'; omega
  | cons z zs => exact ⟨z, zs, rfl⟩

theorem moveRoot_eq (dt : NodeD) (pt : Nat) (ks : Kids) (i : Nat) (e : EdgeD) (d : NodeD) (pp : Nat) (cks : Kids)
    (hi : ks[i]? = some (e, .node d pp cks)) :
    moveRoot (.node dt pt ks) i = .node d 0 (cks ++ [(e, .node dt 0 (ks.eraseIdx i))]) := by
  simp [moveRoot, hi]

theorem minCost_moveRoot (hk : 0 < k) (t : T) (hlen : 2 ≤ t.kids.length)
    (hlne : ∀ n ∈ leavesL t.kids, NZ k (tv n))
    (i : Nat) (e : EdgeD) (d : NodeD) (pp : Nat) (x : EdgeD × T) (xs : Kids)
    (hi : t.kids[i]? = some (e, .node d pp (x :: xs))) :
    minCost k tv (moveRoot t i) = minCost k tv t := by
  match t, hlen, hlne, hi with
  | .node dt pt [], hlen, _, _ => simp at hlen
  | .node dt pt (y :: ys), hlen, hlne, hi =>
    simp only [T.kids_node] at hlen hlne hi
    rw [moveRoot_eq dt pt (y :: ys) i e d pp (x :: xs) hi]
    obtain ⟨R, tot, hg, h1, h2⟩ := totL_root k tv (y :: ys) (vzero k) (vzero k) i e d pp x xs hi
    have hget : (totA k tv (vzero k) (.node dt pt (y :: ys))).get [i] = some tot := by
      simpa only [totA, A.get] using hg
    have hin : innerAt (.node dt pt (y :: ys)) [i] = true := by
      simp [innerAt, sub, subL_root (y :: ys) i _ hi, innerOpt]
    have hmin := tot_min k tv hk (.node dt pt (y :: ys)) (by simp) (by rw [leaves_node_cons]; exact hlne) [i] hin tot hget
    rw [← hmin]
    simp only [minCost, T.kids_node]
    apply minOver_congr k hk
    intro s hs
    rw [fL_append k tv s hs, h1 s hs]
    -- the old root, now a child
    obtain ⟨z, zs, her⟩ := eraseIdx_cons hlen hi
    rw [her] at h2 ⊢
    have hthr := through_congr k hk (fL k tv (z :: zs)) R
      (fun t ht => by have := h2 t ht; simp only [at_vzero] at this; omega) s
    simp only [fL, gv, at_vadd, hs, if_true, at_vzero]
    simp only [fL] at hthr
    omega

theorem tipsOk_moveRoot (t : T) (ht : tipsOk k tv t = true)
    (i : Nat) (e : EdgeD) (d : NodeD) (pp : Nat) (cks : Kids)
    (hi : t.kids[i]? = some (e, .node d pp cks)) (hlen : 2 ≤ t.kids.length) :
    tipsOk k tv (moveRoot t i) = true := by
  match t, ht, hi, hlen with
  | .node dt pt ks, ht, hi, hlen =>
    simp only [T.kids_node] at hi hlen
    rw [moveRoot_eq dt pt ks i e d pp cks hi]
    rw [tipsOk_iff] at ht ⊢
    intro n hn
    apply ht n
    obtain ⟨et, het, hnl⟩ := mem_leavesL.mp hn
    rcases List.mem_append.mp het with h | h
    · -- below the children the new root had already: a leaf of child `i` of the old root
      refine mem_leavesL.mpr ⟨_, List.mem_of_getElem? hi, ?_⟩
      match cks, h with
      | c :: cs, h => rw [leaves_node_cons]; exact mem_leavesL.mpr ⟨et, h, hnl⟩
    · -- below the old root
      rw [List.mem_singleton] at h
      subst h
      obtain ⟨z, zs, her⟩ := eraseIdx_cons hlen hi
      simp only [her, leaves_node_cons] at hnl
      obtain ⟨et', het', hn'⟩ := mem_leavesL.mp hnl
      exact mem_leavesL.mpr ⟨et', List.mem_of_mem_eraseIdx (her ▸ het'), hn'⟩

end root

theorem subdivideL_length : ∀ (ks : Kids) (i : Nat) (q : List Nat), (subdivideL ks i q).length = ks.length
  | [], _, _ => by simp [subdivideL]
  | (e, c) :: r, 0, [] => by simp [subdivideL]
  | (e, c) :: r, 0, j :: q => by simp [subdivideL]
  | x :: r, i + 1, q => by
    obtain ⟨e, c⟩ := x
    simp [subdivideL, subdivideL_length r i q]

section subdiv
variable (k : Nat) (tv : String → Vec)

theorem gv_lipschitz (hk : 0 < k) (c : T) (s t : Nat) (hs : s < k) (ht : t < k) :
    (gv k tv c).at s ≤ (gv k tv c).at t + 1 := by
  match c with
  | .node d p [] =>
    simp only [gv, at_tab, hs, ht, if_true]
    split <;> split <;> omega
  | .node d p (x :: xs) => rw [gv_node_cons]; exact through_lipschitz k hk _ s t hs ht

/-- the vector of a node with the single child `c` is the vector of `c` -/
theorem gv_single (hk : 0 < k) (d : NodeD) (p : Nat) (e : EdgeD) (c : T) (s : Nat) (hs : s < k) :
    (gv k tv (.node d p [(e, c)])).at s = (gv k tv c).at s := by
  simp only [gv, through, at_tab, hs, if_true]
  have hfl : ∀ t, t < k → (fL k tv [(e, c)]).at t = (gv k tv c).at t := by
    intro t ht; simp only [fL, at_vadd, at_vzero, ht, if_true]; omega
  apply Nat.le_antisymm
  · have h := minOver_le k (fun t => (fL k tv [(e, c)]).at t + (if s = t then 0 else 1)) s hs
    rw [hfl s hs] at h
    simpa using h
  · obtain ⟨t, ht, he⟩ := minOver_attained k hk (fun t => (fL k tv [(e, c)]).at t + (if s = t then 0 else 1))
    rw [← he, hfl t ht]
    have hl := gv_lipschitz k tv hk c s t hs ht
    by_cases hst : s = t
    · subst hst; simp
    · simp [hst]; omega

/-- pointwise equal below `k` -/
def EqK (a b : Vec) : Prop := ∀ s, s < k → a.at s = b.at s

mutual
theorem gv_subdivide (hk : 0 < k) : ∀ (t : T) (q : List Nat), EqK k (gv k tv (subdivide t q)) (gv k tv t)
  | t, [] => by intro s _; simp [subdivide]
  | .node d p [], i :: q => by intro s _; simp [subdivide, subdivideL]
  | .node d p (x :: xs), i :: q => by
    have hf := fL_subdivide hk (x :: xs) i q
    simp only [subdivide]
    match hsd : subdivideL (x :: xs) i q, hf with
    | [], hf =>
      -- impossible: the list keeps its length
      exfalso
      have := subdivideL_length (x :: xs) i q
      rw [hsd] at this; simp at this
    | y :: ys, hf =>
      intro s _
      rw [gv_node_cons, gv_node_cons]
      exact through_congr k hk _ _ hf s
theorem fL_subdivide (hk : 0 < k) : ∀ (ks : Kids) (i : Nat) (q : List Nat),
    EqK k (fL k tv (subdivideL ks i q)) (fL k tv ks)
  | [], _, _ => by intro s _; simp [subdivideL]
  | (e, c) :: r, 0, [] => by
    intro s hs
    simp only [subdivideL, fL, at_vadd, hs, if_true]
    rw [gv_single k tv hk _ _ _ c s hs]
  | (e, c) :: r, 0, j :: q => by
    intro s hs
    simp only [subdivideL, fL, at_vadd, hs, if_true]
    rw [gv_subdivide hk c (j :: q) s hs]
  | x :: r, i + 1, q => by
    intro s hs
    obtain ⟨e, c⟩ := x
    simp only [subdivideL, fL, at_vadd, hs, if_true]
    rw [fL_subdivide hk r i q s hs]
end

theorem minCost_subdivide (hk : 0 < k) (t : T) (q : List Nat) :
    minCost k tv (subdivide t q) = minCost k tv t := by
  match t, q with
  | t, [] => simp [subdivide]
  | .node d p ks, i :: q =>
    simp only [subdivide, minCost, T.kids_node]
    exact minOver_congr k hk _ _ (fL_subdivide k tv hk ks i q)

/- the leaves are the same -/
mutual
theorem leaves_subdivide : ∀ (t : T) (q : List Nat), (subdivide t q).leaves = t.leaves
  | t, [] => by simp [subdivide]
  | .node d p [], i :: q => by simp [subdivide, subdivideL]
  | .node d p (x :: xs), i :: q => by
    simp only [subdivide]
    have hl := leavesL_subdivide (x :: xs) i q
    match hsd : subdivideL (x :: xs) i q, hl with
    | [], _ =>
      exfalso
      have := subdivideL_length (x :: xs) i q
      rw [hsd] at this; simp at this
    | y :: ys, hl => rw [leaves_node_cons, leaves_node_cons]; exact hl
theorem leavesL_subdivide : ∀ (ks : Kids) (i : Nat) (q : List Nat), leavesL (subdivideL ks i q) = leavesL ks
  | [], _, _ => by simp [subdivideL]
  | (e, c) :: r, 0, [] => by
    simp only [subdivideL, leavesL]
    rw [leaves_node_cons]; simp [leavesL]
  | (e, c) :: r, 0, j :: q => by
    simp only [subdivideL, leavesL]
    rw [leaves_subdivide c (j :: q)]
  | x :: r, i + 1, q => by
    obtain ⟨e, c⟩ := x
    simp only [subdivideL, leavesL]
    rw [leavesL_subdivide r i q]
end

end subdiv

end Gotree.C12

/-
  C05 — what the model of UpdateTipIndex / UpdateBitSet computes: a tip is numbered by its rank among
  the tip names, a branch's bitset holds the numbers of the tips below it.
-/
import Gotree.Model.C05Index
import Gotree.Spec.C05
import Gotree.Lemmas.C14

namespace Gotree.C05
open Gotree

/-! ## fillRightBitSet -/

mutual
theorem fillT_eq (tid : String → Nat) : ∀ t : T,
    (fillT tid t).1 = t.leaves.map tid ∧ (fillT tid t).2 = t.splitsBelow.map (fun s => s.below.map tid)
  | .node d p [] => by simp [fillT, T.leaves, T.splitsBelow, splitsL]
  | .node d p (k :: ks) => by
    have h := fillL_eq tid (k :: ks)
    simp only [fillT, T.leaves, T.splitsBelow]
    exact h
theorem fillL_eq (tid : String → Nat) : ∀ k : Kids,
    (fillL tid k).1 = (leavesL k).map tid ∧ (fillL tid k).2 = (splitsL k).map (fun s => s.below.map tid)
  | [] => by simp [fillL, leavesL, splitsL]
  | (e, t) :: r => by
    have a := fillT_eq tid t
    have b := fillL_eq tid r
    simp [fillL, leavesL, splitsL, a.1, a.2, b.1, b.2]
end

theorem bitsets_eq (tid : String → Nat) (t : T) :
    bitsets tid t = t.splits.map (fun s => s.below.map tid) := (fillL_eq tid t.kids).2

theorem below_sub : ∀ (t : T), ∀ s ∈ t.splitsBelow, ∀ x ∈ s.below, x ∈ t.leaves := C14.below_sub

/-! ## UpdateTipIndex -/

theorem str_le_of_lt {a b : String} (h : a < b) : a ≤ b := by
  rcases String.le_total a b with h' | h'
  · exact h'
  · exact absurd h (String.not_lt.2 h')

theorem str_lt_of_le_ne {a b : String} (h : a ≤ b) (hne : a ≠ b) : a < b := by
  apply Classical.byContradiction
  intro hn
  exact hne (String.le_antisymm h (String.not_lt.1 hn))

theorem insName_perm (x : String) : ∀ l : List String, (insName x l).Perm (x :: l)
  | [] => List.Perm.refl _
  | y :: r => by
    unfold insName
    split
    · exact List.Perm.refl _
    · exact ((insName_perm x r).cons y).trans (List.Perm.swap x y r)

theorem sortNames_perm : ∀ l : List String, (sortNames l).Perm l
  | [] => List.Perm.refl _
  | x :: r => by
    show (insName x (sortNames r)).Perm (x :: r)
    exact (insName_perm x _).trans ((sortNames_perm r).cons x)

theorem insName_sorted (x : String) : ∀ l : List String, l.Pairwise (· ≤ ·) → (insName x l).Pairwise (· ≤ ·)
  | [], _ => by simp [insName]
  | y :: r, h => by
    have hy := (List.pairwise_cons.1 h).1
    have hr := (List.pairwise_cons.1 h).2
    unfold insName
    split
    · rename_i hxy
      refine List.pairwise_cons.2 ⟨?_, h⟩
      intro z hz
      rcases List.mem_cons.1 hz with rfl | hz
      · exact str_le_of_lt hxy
      · exact String.le_trans (str_le_of_lt hxy) (hy z hz)
    · rename_i hxy
      refine List.pairwise_cons.2 ⟨?_, insName_sorted x r hr⟩
      intro z hz
      rcases List.mem_cons.1 ((insName_perm x r).mem_iff.1 hz) with rfl | hz
      · exact String.not_lt.1 hxy
      · exact hy z hz

theorem sortNames_sorted : ∀ l : List String, (sortNames l).Pairwise (· ≤ ·)
  | [] => List.Pairwise.nil
  | x :: r => insName_sorted x _ (sortNames_sorted r)

/-- in a sorted list the position of an entry is the number of entries strictly before it -/
theorem idx_rank (x : String) : ∀ L : List String, L.Pairwise (· ≤ ·) → x ∈ L →
    idxOfName x L = (L.filter (· < x)).length
  | [], _, hx => by cases hx
  | y :: r, hs, hx => by
    have hy := (List.pairwise_cons.1 hs).1
    have hr := (List.pairwise_cons.1 hs).2
    by_cases hyx : y = x
    · subst hyx
      have h0 : (r.filter (· < y)) = [] := by
        apply List.filter_eq_nil_iff.2
        intro z hz
        simpa using String.not_lt.2 (hy z hz)
      have hirr : ¬ y < y := String.not_lt.2 (String.le_refl y)
      simp [idxOfName, hirr, h0]
    · have hxr : x ∈ r := by
        rcases List.mem_cons.1 hx with h | h
        · exact absurd h.symm hyx
        · exact h
      have hlt : y < x := str_lt_of_le_ne (hy x hxr) hyx
      have ih := idx_rank x r hr hxr
      simp [idxOfName, hyx, hlt, ih]

/-- `UpdateTipIndex` numbers a tip by its rank among the tip names -/
theorem tipid_rank (names : List String) (x : String) (hx : x ∈ names) :
    idxOfName x (sortNames names) = tipRank names x := by
  rw [idx_rank x _ (sortNames_sorted names) ((sortNames_perm names).mem_iff.2 hx)]
  exact ((sortNames_perm names).filter _).length_eq

theorem sameBits_refl (a : List Nat) : sameBits a a = true := by
  simp [sameBits]

theorem mem_zip_map {α β : Type} (g : α → β) : ∀ (l : List α) (x : α × β), x ∈ l.zip (l.map g) → x.2 = g x.1
  | [], x, hx => by simp at hx
  | a :: l, x, hx => by
    simp only [List.map_cons, List.zip_cons_cons, List.mem_cons] at hx
    rcases hx with rfl | hx
    · rfl
    · exact mem_zip_map g l x hx

/-- the Spec predicate holds of the modelled indexes of any tree -/
theorem indexOK_indexOf (t : T) :
    indexOK t (indexOf t).nb ((indexOf t).ids.map Int.ofNat) ((indexOf t).bits.map some) [] = true := by
  have hlen : (sortNames t.tipNames).length = t.tipNames.length := (sortNames_perm _).length_eq
  have hids : t.tipNames.map (fun x => idxOfName x (sortNames t.tipNames)) = t.tipNames.map (tipRank t.tipNames) :=
    List.map_congr_left (fun x hx => tipid_rank _ x hx)
  have hbits : bitsets (fun x => idxOfName x (sortNames t.tipNames)) t = t.splits.map (fun s => s.below.map (tipRank t.tipNames)) := by
    rw [bitsets_eq]
    apply List.map_congr_left
    intro s hs
    apply List.map_congr_left
    intro x hx
    exact tipid_rank _ x ((below_sublist_tipNames t s hs).subset hx)
  simp only [indexOK, indexOf, hlen, hids, hbits, List.map_map, List.length_map, List.isEmpty_nil,
    Bool.and_true, Bool.and_eq_true, beq_iff_eq, List.all_eq_true]
  refine ⟨⟨⟨trivial, ?_⟩, trivial⟩, ?_⟩
  · rfl
  · intro x hx
    have h := mem_zip_map _ _ x hx
    rw [h]
    simp [sameBits_refl]

end Gotree.C05

/-
  C15 — `GraftTreeOnTip`: the graft takes the place of the tip (`Replaced`, Lemmas/C15Replace.lean);
  what happens to tips, path lengths and branch data is read off that.  Core Lean only.
-/
import Gotree.Lemmas.C15Replace

namespace Gotree.C15
open Gotree Gotree.C14

theorem nodup_append_disj {α : Type} {A B : List α} (h : (A ++ B).Nodup) {x : α} (ha : x ∈ A) : x ∉ B :=
  fun hb => (List.nodup_append.mp h).2.2 x ha x hb rfl

theorem graftAt_some {tip : String} {G : T} {d : NodeD} {p : Nat} {k : Kids} {t' : T}
    (h : graftAt tip G (.node d p k) = some t') : ∃ k', graftKids tip G k = some k' ∧ t' = .node d p k' := by
  simp only [graftAt] at h
  cases hk : graftKids tip G k with
  | none => simp [hk] at h
  | some k' => simp [hk] at h; exact ⟨k', rfl, h.symm⟩

theorem graftKids_cases {tip : String} {G : T} {e : EdgeD} {t : T} {r k' : Kids}
    (h : graftKids tip G ((e, t) :: r) = some k') :
    (t.isLeaf = true ∧ t.name = tip ∧ k' = (e, G) :: r) ∨
    (¬(t.isLeaf = true ∧ t.name = tip) ∧ ∃ t', graftAt tip G t = some t' ∧ k' = (e, t') :: r) ∨
    (¬(t.isLeaf = true ∧ t.name = tip) ∧ graftAt tip G t = none ∧ ∃ r', graftKids tip G r = some r' ∧ k' = (e, t) :: r') := by
  simp only [graftKids] at h
  split at h
  · rename_i hm
    simp only [Bool.and_eq_true, beq_iff_eq] at hm
    injection h with h
    exact Or.inl ⟨hm.1, hm.2, h.symm⟩
  · rename_i hm
    simp only [Bool.and_eq_true, beq_iff_eq] at hm
    split at h
    · rename_i t' ht
      injection h with h
      exact Or.inr (Or.inl ⟨hm, t', ht, h.symm⟩)
    · rename_i ht
      cases hr : graftKids tip G r with
      | none => simp [hr] at h
      | some r' => simp [hr] at h; exact Or.inr (Or.inr ⟨hm, ht, r', rfl, h.symm⟩)

theorem graftKids_length {tip : String} {G : T} : ∀ (k k' : Kids), graftKids tip G k = some k' → k'.length = k.length
  | [], _, h => by simp [graftKids] at h
  | (e, t) :: r, k', h => by
    rcases graftKids_cases h with ⟨_, _, rfl⟩ | ⟨_, t', _, rfl⟩ | ⟨_, _, r', hr, rfl⟩
    · simp
    · simp
    · simp [graftKids_length r r' hr]

theorem graftKids_ne {tip : String} {G : T} {k k' : Kids} (h : graftKids tip G k = some k') : k ≠ [] ∧ k' ≠ [] := by
  have hl := graftKids_length k k' h
  cases k with
  | nil => simp [graftKids] at h
  | cons x r => exact ⟨by simp, fun h0 => by simp [h0] at hl⟩

/-! ## what a graft does to the leaves and to the split list -/

/-- the split list after `G` has taken the place of the leaf `tip`: on the tip's branch (`e`) hangs `G`,
    followed by the branches of `G` -/
def GraftedL (nd : Prop) (tip : String) (G : T) (l l' : List SplitE) : Prop :=
  ∃ e, Replaced nd tip G.leaves [⟨[tip], e, true⟩] (⟨G.leaves, e, G.isLeaf⟩ :: G.splitsBelow) l l'

mutual
theorem graftAt_splits {tip : String} {G : T} : ∀ (t t' : T), graftAt tip G t = some t' →
    LeavesRepl tip G.leaves t.leaves t'.leaves ∧ GraftedL t.leaves.Nodup tip G t.splitsBelow t'.splitsBelow
  | .node d p k, t', h => by
    obtain ⟨k', hk, rfl⟩ := graftAt_some h
    rw [T.leaves_node_ne d p (graftKids_ne hk).1, T.leaves_node_ne d p (graftKids_ne hk).2]
    simpa using graftKids_splits k k' hk
theorem graftKids_splits {tip : String} {G : T} : ∀ (k k' : Kids), graftKids tip G k = some k' →
    LeavesRepl tip G.leaves (leavesL k) (leavesL k') ∧ GraftedL (leavesL k).Nodup tip G (splitsL k) (splitsL k')
  | [], _, h => by simp [graftKids] at h
  | (e, t) :: r, k', h => by
    rcases graftKids_cases h with ⟨hl, hn, rfl⟩ | ⟨_, t', ht, rfl⟩ | ⟨_, _, r', hr, rfl⟩ <;>
      simp only [leavesL_cons, splitsL_cons]
    · -- the tip itself
      obtain ⟨hlv, hsb⟩ := And.intro (T.leaves_of_isLeaf hl) (T.splitsBelow_of_isLeaf hl)
      rw [hlv, hn, hsb, hl]
      refine ⟨⟨leavesL r, .refl _, .refl _⟩, e, ?_⟩
      exact (Replaced.base _ tip G.leaves [⟨[tip], e, true⟩] _).append_right (splitsL r)
        fun s hs hnd htip => nodup_append_disj hnd (List.mem_singleton_self tip) (below_subL r s hs tip htip)
    · -- the tip is below the child `t`
      obtain ⟨hlv, e₀, hsp⟩ := graftAt_splits t t' ht
      refine ⟨hlv.append_right (leavesL r), e₀, ?_⟩
      exact ((hsp.mono fun hnd => (List.nodup_append.mp hnd).1).under
        (s := ⟨t.leaves, e, t.isLeaf⟩) (s' := ⟨t'.leaves, e, t'.isLeaf⟩) ⟨rfl, Or.inr hlv⟩).append_right (splitsL r)
        fun s hs hnd htip => nodup_append_disj hnd hlv.tip_mem (below_subL r s hs tip htip)
    · -- the tip is below a later child
      obtain ⟨hlv, e₀, hsp⟩ := graftKids_splits r r' hr
      refine ⟨hlv.append_left t.leaves, e₀, ?_⟩
      exact (hsp.mono fun hnd => (List.nodup_append.mp hnd).2.1).append_left (⟨t.leaves, e, t.isLeaf⟩ :: t.splitsBelow)
        fun s hs hnd htip => nodup_append_disj hnd
          (by rcases List.mem_cons.mp hs with rfl | hs
              · exact htip
              · exact below_sub t s hs tip htip) hlv.tip_mem
end

section
variable {nd : Prop} {tip : String} {G : T} {l l' : List SplitE} {a b : String}

theorem GraftedL.dist_out (w : EdgeD → Rat) (h : GraftedL nd tip G l l') (ha : a ≠ tip) (hb : b ≠ tip)
    (hag : a ∉ G.leaves) (hbg : b ∉ G.leaves) : distW w l' a b = distW w l a b := by
  obtain ⟨e, h⟩ := h
  have := h.dist_keep w (a := a) (b := b) (by simp [ha, hag]) (by simp [hb, hbg])
  rw [distW_cons, distW_nil, distW_cons, sep_of_both_out _ a b (by simp [ha]) (by simp [hb]),
    sep_of_both_out _ a b hag hbg, distW_both_out w _ a b (out_of_sub _ _ hag) (out_of_sub _ _ hbg)] at this
  simpa [Rat.add_zero] using this

theorem GraftedL.dist_in (w : EdgeD → Rat) (h : GraftedL nd tip G l l') (ha : a ∈ G.leaves) (hb : b ∈ G.leaves)
    (hal : ∀ s ∈ l, a ∉ s.below) (hbl : ∀ s ∈ l, b ∉ s.below) : distW w l' a b = distW w G.splitsBelow a b := by
  obtain ⟨e, h⟩ := h
  rw [h.dist_new2 w ha hb hal hbl, distW_cons, sep_of_both_in _ a b ha hb]
  simp [Rat.zero_add]

/-- a name of the host and a leaf of the graft (unique leaf names): joined through the tip's branch -/
theorem GraftedL.dist_cross (w : EdgeD → Rat) (h : GraftedL nd tip G l l') (hnd : nd) (ha : a ≠ tip)
    (hag : a ∉ G.leaves) (hb : b ∈ G.leaves) (hbl : ∀ s ∈ l, b ∉ s.below) :
    distW w l' a b = distW w l a tip + belowW w G.splitsBelow b := by
  obtain ⟨e, h⟩ := h
  have := h.dist_new w hnd (a := a) (b := b) (by simp [ha, hag]) hb hbl
  have e1 : (SplitE.mk [tip] e true).sep a tip = true := by simp [SplitE.sep, ha]
  have e2 : (SplitE.mk G.leaves e G.isLeaf).sep a b = true := by simp [SplitE.sep, hag, hb]
  rw [distW_cons, distW_nil, distW_cons, distW_left_out w _ a b (out_of_sub _ _ hag), e1, e2] at this
  simp only [if_true] at this
  grind

/-- the branches afterwards: those of the host (the tip's branch now carries the graft) and those of the graft -/
theorem GraftedL.edges (h : GraftedL nd tip G l l') :
    (l'.map (·.e)).Perm (l.map (·.e) ++ G.splitsBelow.map (·.e)) := by
  obtain ⟨e, h⟩ := h
  have := h.edges
  simp only [List.map_cons, List.map_nil] at this
  exact ((List.perm_append_singleton e _).symm.trans (this.trans List.perm_middle)).cons_inv

end

/-! ## … stated for `graftAt` / `graftKids` -/

theorem graftKids_mem {tip : String} {G : T} : ∀ (k k' : Kids), graftKids tip G k = some k' →
    ∀ x, x ≠ tip → x ∉ G.leaves → (x ∈ leavesL k' ↔ x ∈ leavesL k) :=
  fun k k' h x hx hg => (graftKids_splits k k' h).1.mem (by simp [hx, hg])

theorem graftKids_sub {tip : String} {G : T} : ∀ (k k' : Kids), graftKids tip G k = some k' → ∀ x ∈ G.leaves, x ∈ leavesL k' :=
  fun k k' h _ hx => (graftKids_splits k k' h).1.sub hx

theorem graftKids_tip_mem {tip : String} {G : T} : ∀ (k k' : Kids), graftKids tip G k = some k' → tip ∈ leavesL k :=
  fun k k' h => (graftKids_splits k k' h).1.tip_mem

theorem graftAt_perm {tip : String} {G : T} : ∀ (t t' : T), graftAt tip G t = some t' →
    t'.leaves.Perm (t.leaves.erase tip ++ G.leaves) :=
  fun t t' h => (graftAt_splits t t' h).1.perm_erase

theorem graftKids_perm {tip : String} {G : T} : ∀ (k k' : Kids), graftKids tip G k = some k' →
    (leavesL k').Perm ((leavesL k).erase tip ++ G.leaves) :=
  fun k k' h => (graftKids_splits k k' h).1.perm_erase

theorem graftAt_dist_out (w : EdgeD → Rat) {tip : String} {G : T} : ∀ (t t' : T), graftAt tip G t = some t' →
    ∀ a b, a ≠ tip → b ≠ tip → a ∉ G.leaves → b ∉ G.leaves →
    distW w t'.splitsBelow a b = distW w t.splitsBelow a b :=
  fun t t' h _ _ ha hb hag hbg => (graftAt_splits t t' h).2.dist_out w ha hb hag hbg

theorem graftAt_dist_in (w : EdgeD → Rat) {tip : String} {G : T} : ∀ (t t' : T), graftAt tip G t = some t' →
    ∀ a b, a ∈ G.leaves → b ∈ G.leaves → a ∉ t.leaves → b ∉ t.leaves →
    distW w t'.splitsBelow a b = distW w G.splitsBelow a b :=
  fun t t' h _ _ ha hb hat hbt => (graftAt_splits t t' h).2.dist_in w ha hb (out_of_sub _ _ hat) (out_of_sub _ _ hbt)

theorem graftAt_dist_cross (w : EdgeD → Rat) {tip : String} {G : T} : ∀ (t t' : T), graftAt tip G t = some t' →
    t.leaves.Nodup → ∀ a b, a ≠ tip → a ∉ G.leaves → b ∈ G.leaves → b ∉ t.leaves →
    distW w t'.splitsBelow a b = distW w t.splitsBelow a tip + belowW w G.splitsBelow b :=
  fun t t' h hu _ _ ha hag hb hbt => (graftAt_splits t t' h).2.dist_cross w hu ha hag hb (out_of_sub _ _ hbt)

theorem graftAt_edges {tip : String} {G : T} : ∀ (t t' : T), graftAt tip G t = some t' →
    (t'.splitsBelow.map (·.e)).Perm (t.splitsBelow.map (·.e) ++ G.splitsBelow.map (·.e)) :=
  fun t t' h => (graftAt_splits t t' h).2.edges

theorem graft_ok {idx : Bool} {t g t' : T} {tip : String} (h : graft idx t tip g = .ok t') :
    ¬(t.kids.length = 1 ∧ t.name = tip) ∧ ∃ k', graftKids tip (asGraft g) t.kids = some k' ∧ t' = .node t.d t.ppos k' := by
  unfold graft at h
  split at h
  · cases h
  · split at h
    · cases h
    · split at h
      · cases h
      · rename_i hr
        simp only [Bool.and_eq_true, beq_iff_eq] at hr
        split at h
        · rename_i k hk
          injection h with h
          exact ⟨hr, k, hk, h.symm⟩
        · cases h

/-- the tips after the graft: the old ones minus the replaced tip, plus the leaves of the graft -/
theorem graft_tipNames {idx : Bool} {t g t' : T} {tip : String} (h : graft idx t tip g = .ok t') :
    t'.tipNames.Perm (t.tipNames.erase tip ++ (asGraft g).leaves) := by
  obtain ⟨hroot, k', hk, rfl⟩ := graft_ok h
  have hp := graftKids_perm t.kids k' hk
  simp only [T.tipNames, T.kids_node, T.name, T.d_node, graftKids_length t.kids k' hk]
  by_cases h1 : t.kids.length = 1
  · have hne : t.d.name ≠ tip := fun h2 => hroot ⟨h1, h2⟩
    simp only [h1, beq_self_eq_true, if_true, List.singleton_append]
    rw [List.erase_cons_tail (by simpa using hne)]
    exact hp.cons _
  · simpa [h1] using hp

end Gotree.C15

/-
  C04 — the index records of branches are lawful keys as records of branches of trees on one taxon set:
  keys whose equality is `sameSplit` of their sides (`keyLaws_of_sameSplit`, `TreeKey.keyLaws`).  With them
  `hm_new_on` / `ei_new_on` (Lemmas/C04HM.lean) apply to `tree.EdgeIndex`.  Core Lean only.
-/
import Gotree.Lemmas.C04HM
import Gotree.Lemmas.C04Idx

namespace Gotree.C04

/-! ## keys compared by their split -/

/-- an equality that is `sameSplit` of the sides, with a hash that `sameSplit` respects, is lawful -/
theorem keyLaws_of_sameSplit {κ : Type} {hash : κ → UInt64} {eqv : κ → κ → Bool} (tips : List String) (side : κ → List String)
    (he : ∀ a b, eqv a b = sameSplit tips (side a) (side b))
    (hc : ∀ a b, sameSplit tips (side a) (side b) = true → hash a = hash b) : KeyLaws hash eqv where
  refl a := by rw [he]; exact sameSplit_refl ..
  symm a b h := by rw [he] at h ⊢; exact sameSplit_symm h
  trans a b c h1 h2 := by rw [he] at h1 h2 ⊢; exact sameSplit_trans h1 h2
  compat a b h := hc a b (he a b ▸ h)

/-- the index records of the branches of several trees on the same taxa are lawful keys -/
theorem TreeKey.keyLaws (H : String → UInt64) {tips : List String} (hn : tips.Nodup) :
    KeyLaws (κ := TreeKey tips) (fun k => (k.idx H).hashCode) (fun k k' => (k.idx H).equals (k'.idx H)) :=
  keyLaws_of_sameSplit tips (·.below) (TreeKey.equals_eq H hn) fun a b h =>
    spec_hashCode_of_sameSplit H (TreeKey.sides hn a b) (by rwa [sameSplit_perm a.perm])

end Gotree.C04

/-
  C04 — `ReinitIndexes` statement by statement is the summarised `reinit`: the bitsets filled through a stack
  (`reinitLit`), the two hash passes with their running additions over the neighbour lists (`reinitLit2`), the tip
  index entered name by name (`reinitLit3`, `reinitInternalLit`); and `computeDepthRecurRooted` is the distance to
  the closest tip below.  Core Lean only.
-/
import Gotree.Spec.C04

namespace Gotree.C04
open Gotree

/-! ## `UpdateBitSet` -/

/-- `Set` of several ids in turn -/
def setBits (b : List Bool) (ids : List Nat) : List Bool := ids.foldl (fun b i => b.set i true) b

theorem setBits_nil (b : List Bool) : setBits b [] = b := rfl
theorem setBits_cons (b : List Bool) (i : Nat) (r : List Nat) : setBits b (i :: r) = setBits (b.set i true) r := rfl

theorem setBits_append (b : List Bool) (a c : List Nat) : setBits b (a ++ c) = setBits (setBits b a) c := by
  unfold setBits; rw [List.foldl_append]

theorem setBits_length (b : List Bool) (ids : List Nat) : (setBits b ids).length = b.length := by
  induction ids generalizing b with
  | nil => rfl
  | cons i r ih => rw [setBits_cons, ih, List.length_set]

theorem setBits_getElem (b : List Bool) (ids : List Nat) (i : Nat) (h : i < (setBits b ids).length) :
    (setBits b ids)[i] = (b[i]'(by rw [setBits_length] at h; exact h) || ids.contains i) := by
  induction ids generalizing b with
  | nil => simp [setBits_nil]
  | cons j r ih =>
    have h' : i < (setBits (b.set j true) r).length := by rw [setBits_cons] at h; exact h
    have := ih (b.set j true) h'
    simp only [setBits_cons, this, List.getElem_set, List.contains_cons]
    by_cases hji : j = i
    · subst hji; simp
    · have : (i == j) = false := by simp; exact fun e => hji e.symm
      simp [hji, this]

theorem setBits_zero (n : Nat) (ids : List Nat) : setBits (zeroBits n) ids = mkBits n ids := by
  apply List.ext_getElem
  · simp [setBits_length, zeroBits, mkBits]
  · intro i h1 h2
    rw [setBits_getElem]
    simp [zeroBits, mkBits]

theorem clearAll_zero (n : Nat) : clearAll (zeroBits n) = zeroBits n := by
  simp [clearAll, zeroBits]

theorem map_setBits_append (st : List (List Bool)) (a c : List Nat) :
    (st.map fun b => setBits b a).map (fun b => setBits b c) = st.map fun b => setBits b (a ++ c) := by
  simp only [List.map_map]
  apply List.map_congr_left
  intro b _; simp [Function.comp, setBits_append]

/-- the per-branch bitsets of the summarised model, from the split list -/
def bitsOf (rank : String → Nat) (n : Nat) (l : List SplitE) : List (List Bool) :=
  l.map fun s => mkBits n (s.below.map rank)

mutual
theorem fillT_eq (rank : String → Nat) (n : Nat) : ∀ (t : T) (cb : List Bool) (rest : List (List Bool)),
    fillT rank n t (cb :: rest) =
      ((clearAll cb :: rest).map (fun b => setBits b (t.leaves.map rank)), bitsOf rank n t.splitsBelow)
  | .node d _ [], cb, rest => by
    simp [fillT, T.leaves, T.splitsBelow, splitsL, bitsOf, setBits]
  | .node _ _ (k :: ks), cb, rest => by
    rw [fillT, T.leaves, T.splitsBelow]
    exact fillL_eq rank n (k :: ks) (clearAll cb :: rest)
theorem fillL_eq (rank : String → Nat) (n : Nat) : ∀ (k : Kids) (st : List (List Bool)),
    fillL rank n k st = (st.map (fun b => setBits b ((leavesL k).map rank)), bitsOf rank n (splitsL k))
  | [], st => by simp [fillL, leavesL, splitsL, bitsOf, setBits_nil]
  | (e, t) :: r, st => by
    rw [fillL, fillT_eq rank n t (zeroBits n) st]
    simp only [List.map_cons, clearAll_zero]
    rw [fillL_eq rank n r]
    simp only [leavesL, splitsL, bitsOf, List.map_cons, List.map_append, map_setBits_append, setBits_zero]
end

theorem updateBitSet_eq (rank : String → Nat) (n : Nat) (k : Kids) :
    updateBitSet rank n k = bitsOf rank n (splitsL k) := by
  induction k with
  | nil => rfl
  | cons x r ih =>
    obtain ⟨e, t⟩ := x
    rw [updateBitSet, fillT_eq rank n t (zeroBits n) []]
    simp only [List.map_cons, List.map_nil, clearAll_zero, ih, splitsL, bitsOf, List.map_append, setBits_zero]

/- the bitsets inside the summarised `idxT`/`idxL` -/
mutual
theorem idxT_bits (H : String → UInt64) (rank : String → Nat) (n : Nat) : ∀ (t : T) (up : UInt64 × Nat),
    (idxT H rank n up t).map (·.bits) = bitsOf rank n t.splitsBelow
  | .node _ _ k, up => by rw [idxT, T.splitsBelow]; exact idxL_bits H rank n k up (0, 0)
theorem idxL_bits (H : String → UInt64) (rank : String → Nat) (n : Nat) : ∀ (k : Kids) (up acc : UInt64 × Nat),
    (idxL H rank n up acc k).map (·.bits) = bitsOf rank n (splitsL k)
  | [], _, _ => by simp [idxL, splitsL, bitsOf]
  | (e, t) :: r, up, acc => by
    rw [idxL, splitsL]
    simp only [List.map_cons, List.map_append, bitsOf]
    rw [idxT_bits H rank n t, idxL_bits H rank n r]
    simp [bitsOf]
end

theorem zipWith_bits_self (l : List EdgeIdx) :
    List.zipWith (fun (e : EdgeIdx) (b : List Bool) => { e with bits := b }) l (l.map (·.bits)) = l := by
  induction l with
  | nil => rfl
  | cons x r ih => simp only [List.map_cons, List.zipWith_cons_cons, ih]

/-- when `reinit` succeeds its result is the sorted names and the `idxL` list -/
theorem reinit_ok {H : String → UInt64} {t : T} {r : List String × List EdgeIdx} (h : reinit H t = .ok r) :
    r = (sortNames t.tipNames, idxL H (fun x => (sortNames t.tipNames).idxOf x) (sortNames t.tipNames).length
      (rootUp H t) (0, 0) t.kids) := by
  unfold reinit at h
  simp only at h
  split at h
  · cases h
  · split at h <;> cases h
    rfl

/-! ## `ComputeEdgeHashes` -/

abbrev HN := UInt64 × Nat

def padd (a b : HN) : HN := (a.1 + b.1, a.2 + b.2)

theorem padd_comm (a b : HN) : padd a b = padd b a := by
  simp only [padd, Prod.mk.injEq]; exact ⟨UInt64.add_comm _ _, Nat.add_comm _ _⟩
theorem padd_assoc (a b c : HN) : padd (padd a b) c = padd a (padd b c) := by
  simp only [padd, Prod.mk.injEq]; exact ⟨UInt64.add_assoc _ _ _, Nat.add_assoc _ _ _⟩
theorem padd_zero (a : HN) : padd a (0, 0) = a := by simp [padd]
theorem zero_padd (a : HN) : padd (0, 0) a = a := by simp [padd]

/-! ### first pass -/

mutual
theorem rightTL_eq (H : String → UInt64) : ∀ t : T, rightTL H t = rightT H t
  | .node d _ [] => by simp [rightTL, rightT]
  | .node _ _ (k :: ks) => by
    rw [rightTL, rightT, rightLL_eq H (k :: ks) (0, 0), zero_padd]
theorem rightLL_eq (H : String → UInt64) : ∀ (k : Kids) (acc : HN), rightLL H k acc = padd acc (rightL H k)
  | [], acc => by simp [rightLL, rightL, padd]
  | (_, t) :: r, acc => by
    rw [rightLL, rightLL_eq H r, rightTL_eq H t, rightL]
    show padd (padd acc (rightT H t)) (rightL H r) = padd acc (padd (rightT H t) (rightL H r))
    exact padd_assoc _ _ _
end

theorem rightL_cons (H : String → UInt64) (e : EdgeD) (t : T) (r : Kids) :
    rightL H ((e, t) :: r) = padd (rightT H t) (rightL H r) := by rw [rightL]; rfl

theorem rightL_append (H : String → UInt64) (a b : Kids) : rightL H (a ++ b) = padd (rightL H a) (rightL H b) := by
  induction a with
  | nil => simp [rightL, zero_padd]
  | cons x r ih => obtain ⟨e, t⟩ := x; rw [List.cons_append, rightL_cons, rightL_cons, ih, padd_assoc]

/-! ### sums of neighbour contributions -/

def sumP (l : List HN) : HN := l.foldr padd (0, 0)

theorem sumP_cons (a : HN) (l : List HN) : sumP (a :: l) = padd a (sumP l) := rfl
theorem sumP_append (a b : List HN) : sumP (a ++ b) = padd (sumP a) (sumP b) := by
  induction a with
  | nil => simp [sumP, zero_padd]
  | cons x r ih => rw [List.cons_append, sumP_cons, sumP_cons, ih, padd_assoc]

theorem sumP_perm {a b : List HN} (p : a.Perm b) : sumP a = sumP b := by
  induction p with
  | nil => rfl
  | cons x _ ih => rw [sumP_cons, sumP_cons, ih]
  | swap x y l => rw [sumP_cons, sumP_cons, sumP_cons, sumP_cons, ← padd_assoc, ← padd_assoc, padd_comm y x]
  | trans _ _ ih1 ih2 => exact ih1.trans ih2

theorem foldl_skip (i : Nat) (neigh : List (Option Nat × HN)) (acc : HN) :
    neigh.foldl (fun acc x => if x.1 == some i then acc else (acc.1 + x.2.1, acc.2 + x.2.2)) acc =
      padd acc (sumP ((neigh.filter fun x => x.1 != some i).map (·.2))) := by
  induction neigh generalizing acc with
  | nil => simp [sumP, padd_zero]
  | cons x r ih =>
    rw [List.foldl_cons, ih]
    cases hx : x.1 == some i with
    | true =>
      have : (x.1 != some i) = false := by simp [bne, hx]
      simp [this]
    | false =>
      have : (x.1 != some i) = true := by simp [bne, hx]
      simp only [Bool.false_eq_true, if_false, List.filter_cons, this, if_true, List.map_cons, sumP_cons]
      rw [← padd_assoc]; rfl

/-! ### the neighbours of a node -/

/-- `n.Neigh()` with what each neighbour carries — `F` of child number `j` under `some j`, `up` for the parent
    (absent for the root) at position `p`: the list both `leftLit` and `groups` run over -/
def nbs {β : Type} (F : T → β) (isRoot : Bool) (p : Nat) (up : β) (kids : Kids) : List (Option Nat × β) :=
  let g := kids.zipIdx.map fun (et, j) => (some j, F et.2)
  if isRoot then g else g.take p ++ (none, up) :: g.drop p

theorem zipIdx_except {α : Type} (pre post : List α) (x : α) :
    ((pre ++ x :: post).zipIdx.filter fun y => y.2 != pre.length).map (·.1) = pre ++ post := by
  have h1 : (pre.zipIdx 0).filter (fun y => y.2 != pre.length) = pre.zipIdx 0 :=
    List.filter_eq_self.2 fun y hy => by have := List.snd_lt_add_of_mem_zipIdx hy; simp only [bne_iff_ne]; omega
  have h2 : (post.zipIdx (0 + pre.length + 1)).filter (fun y => y.2 != pre.length) = post.zipIdx (0 + pre.length + 1) :=
    List.filter_eq_self.2 fun y hy => by have := List.le_snd_of_mem_zipIdx hy; simp only [bne_iff_ne]; omega
  have h0 : ((0 + pre.length) != pre.length) = false := by simp
  rw [List.zipIdx_append, List.zipIdx_cons, List.filter_append, List.filter_cons, h1, h2, h0]
  simp only [Bool.false_eq_true, if_false, List.map_append, List.zipIdx_map_fst]

/-- all neighbours but child number `pre.length`, in some order -/
theorem nbs_except {β : Type} (F : T → β) (isRoot : Bool) (p : Nat) (up : β) (pre post : Kids) (e : EdgeD) (y : T) :
    (((nbs F isRoot p up (pre ++ (e, y) :: post)).filter fun g => g.1 != some pre.length).map (·.2)).Perm
      ((if isRoot then [] else [up]) ++ (pre ++ post).map fun et => F et.2) := by
  have hP : ((fun g : Option Nat × β => g.1 != some pre.length) ∘ fun x : (EdgeD × T) × Nat => (some x.2, F x.1.2)) =
      fun x => x.2 != pre.length := by funext x; simp [bne]
  have hk : ((((pre ++ (e, y) :: post).zipIdx.map fun (et, j) => ((some j : Option Nat), F et.2)).filter
      fun g => g.1 != some pre.length).map (·.2)) = (pre ++ post).map fun et => F et.2 := by
    rw [← zipIdx_except pre post (e, y), List.filter_map, hP, List.map_map, List.map_map]; rfl
  have hn : ((none : Option Nat) != some pre.length) = true := by simp
  unfold nbs
  cases isRoot with
  | true => simp only [if_true, hk, List.nil_append]; exact .refl _
  | false =>
    simp only [Bool.false_eq_true, if_false]
    refine ((List.perm_middle.filter _).map _).trans ?_
    rw [List.take_append_drop, List.filter_cons, hn, if_pos rfl, List.map_cons, hk]
    exact .refl _
theorem sumP_rightTL (H : String → UInt64) (l : Kids) : sumP (l.map fun et => rightTL H et.2) = rightL H l := by
  induction l with
  | nil => rfl
  | cons x r ih => obtain ⟨e, t⟩ := x; rw [List.map_cons, sumP_cons, ih, rightL_cons, rightTL_eq]

/-- what is above the children of a node, for the second pass -/
def upEff (H : String → UInt64) (isRoot : Bool) (name : String) (up : HN) (all : Kids) : HN :=
  if isRoot then (if all.length == 1 then (H name, 1) else (0, 0)) else up

theorem leftLit_unfold (H : String → UInt64) (isRoot : Bool) (name : String) (p : Nat) (up : HN) (kids : Kids) (i : Nat) :
    leftLit H isRoot name p up kids i =
      let s := (nbs (rightTL H) isRoot p up kids).foldl
        (fun acc x => if x.1 == some i then acc else (acc.1 + x.2.1, acc.2 + x.2.2)) (0, 0)
      if kids.length + (if isRoot then 0 else 1) == 1 then (s.1 + H name, s.2 + 1) else s := rfl

theorem nbs_sum (H : String → UInt64) (isRoot : Bool) (p : Nat) (up : HN) (pre post : Kids) (e : EdgeD) (t : T) :
    sumP (((nbs (rightTL H) isRoot p up (pre ++ (e, t) :: post)).filter fun g => g.1 != some pre.length).map (·.2)) =
      padd (if isRoot then (0, 0) else up) (padd (rightL H pre) (rightL H post)) := by
  rw [sumP_perm (nbs_except ..), sumP_append, sumP_rightTL, rightL_append]
  cases isRoot <;> simp [sumP, padd_zero]

/-- the neighbour loop of the second pass: the order of the additions is immaterial -/
theorem leftLit_eq (H : String → UInt64) (isRoot : Bool) (name : String) (p : Nat) (up : HN)
    (pre post : Kids) (e : EdgeD) (t : T) :
    leftLit H isRoot name p up (pre ++ (e, t) :: post) pre.length =
      ((upEff H isRoot name up (pre ++ (e, t) :: post)).1 + (rightL H pre).1 + (rightL H post).1,
       (upEff H isRoot name up (pre ++ (e, t) :: post)).2 + (rightL H pre).2 + (rightL H post).2) := by
  show _ = padd (padd (upEff H isRoot name up (pre ++ (e, t) :: post)) (rightL H pre)) (rightL H post)
  rw [leftLit_unfold]
  simp only [foldl_skip, zero_padd, nbs_sum]
  cases isRoot with
  | true =>
    simp only [if_true, upEff, Nat.add_zero, zero_padd]
    split
    · rw [padd_assoc, padd_comm (H name, 1)]
      rfl
    · rw [zero_padd]
  | false =>
    have hne : ((pre ++ (e, t) :: post).length + 1 == 1) = false := by simp
    simp only [Bool.false_eq_true, if_false, hne, upEff, padd_assoc]

/-! ### the four fields of every branch -/

def fields (e : EdgeIdx) : UInt64 × Nat × UInt64 × Nat := (e.hleft, e.nleft, e.hright, e.nright)

theorem rightL_snoc (H : String → UInt64) (pre : Kids) (e : EdgeD) (t : T) :
    rightL H (pre ++ [(e, t)]) = ((rightL H pre).1 + (rightT H t).1, (rightL H pre).2 + (rightT H t).2) := by
  rw [rightL_append, rightL_cons]
  simp [rightL, padd]

mutual
theorem hashTLit_eq (H : String → UInt64) (rank : String → Nat) (n : Nat) :
    ∀ (x : T) (isRoot : Bool) (up : HN),
      hashTLit H isRoot up x = (idxL H rank n (upEff H isRoot x.name up x.kids) (0, 0) x.kids).map fields
  | .node d p kids, isRoot, up => by
    rw [hashTLit]
    have := hashLLit_eq H rank n kids isRoot d.name p up [] kids rfl
    simpa [rightL, T.name] using this
theorem hashLLit_eq (H : String → UInt64) (rank : String → Nat) (n : Nat) :
    ∀ (all : Kids) (isRoot : Bool) (name : String) (p : Nat) (up : HN) (pre rest : Kids), all = pre ++ rest →
      hashLLit H isRoot name p up all pre.length rest =
        (idxL H rank n (upEff H isRoot name up all) (rightL H pre) rest).map fields
  | all, isRoot, name, p, up, pre, [], _ => by simp [hashLLit, idxL]
  | all, isRoot, name, p, up, pre, (e, t) :: post, hall => by
    subst hall
    rw [hashLLit, idxL, List.map_cons, List.map_append, leftLit_eq, rightTL_eq]
    congr 1
    congr 1
    · -- below t
      have := hashTLit_eq H rank n t false
        ((upEff H isRoot name up (pre ++ (e, t) :: post)).1 + (rightL H pre).1 + (rightL H post).1,
         (upEff H isRoot name up (pre ++ (e, t) :: post)).2 + (rightL H pre).2 + (rightL H post).2)
      rw [this]
      cases t with
      | node d' p' k' => simp [upEff, idxT, T.kids]
    · have := hashLLit_eq H rank n (pre ++ (e, t) :: post) isRoot name p up (pre ++ [(e, t)]) post (by simp)
      rw [rightL_snoc] at this
      simpa using this
end

theorem zipWith_rebuild (l : List EdgeIdx) :
    List.zipWith (fun (b : List Bool) (h : UInt64 × Nat × UInt64 × Nat) =>
        ({ bits := b, nleft := h.2.1, nright := h.2.2.2, hleft := h.1, hright := h.2.2.1 } : EdgeIdx))
      (l.map (·.bits)) (l.map fields) = l := by
  induction l with
  | nil => rfl
  | cons x r ih => simp only [List.map_cons, List.zipWith_cons_cons, ih, fields]

/-- the literal records are the records of `reinit` -/
theorem lit_records_eq (H : String → UInt64) (t : T) :
    List.zipWith (fun (b : List Bool) (h : UInt64 × Nat × UInt64 × Nat) =>
        ({ bits := b, nleft := h.2.1, nright := h.2.2.2, hleft := h.1, hright := h.2.2.1 } : EdgeIdx))
      (updateBitSet (fun x => (sortNames t.tipNames).idxOf x) (sortNames t.tipNames).length t.kids)
      (hashTLit H true (0, 0) t) =
    idxL H (fun x => (sortNames t.tipNames).idxOf x) (sortNames t.tipNames).length (rootUp H t) (0, 0) t.kids := by
  rw [updateBitSet_eq, ← idxL_bits H _ _ t.kids (rootUp H t) (0, 0)]
  rw [hashTLit_eq H (fun x => (sortNames t.tipNames).idxOf x) (sortNames t.tipNames).length t true (0, 0)]
  have : upEff H true t.name (0, 0) t.kids = rootUp H t := by
    unfold upEff rootUp; simp
  rw [this]
  exact zipWith_rebuild _

/-! ## `UpdateTipIndex` and `ReinitInternalIndexes` statement by statement -/

theorem updateTipIndexLit_eq (l seen : List String) (hs : seen.Nodup) :
    updateTipIndexLit l seen =
      if (seen ++ l).Nodup then .ok (seen ++ l)
      else .err "Cannot create a tip index when several tips have the same name" := by
  induction l generalizing seen with
  | nil => simp [updateTipIndexLit, hs]
  | cons x r ih =>
    rw [updateTipIndexLit]
    by_cases hx : x ∈ seen
    · have : ¬ (seen ++ x :: r).Nodup := fun h =>
        (List.nodup_append.mp h).2.2 x hx x (List.mem_cons_self ..) rfl
      simp [hx, this]
    · have hs' : (seen ++ [x]).Nodup :=
        List.nodup_append.mpr ⟨hs, by simp, fun a ha b hb hab => hx (List.mem_singleton.mp hb ▸ hab ▸ ha)⟩
      have hc : seen.contains x = false := by simpa using hx
      simp only [hc, Bool.false_eq_true, if_false]
      rw [ih (seen ++ [x]) hs']
      simp [List.append_assoc]

theorem reinitInternalLit_eq_reinit (H : String → UInt64) (t : T) (hn : (sortNames t.tipNames).Nodup) :
    reinitInternalLit H (sortNames t.tipNames) t = reinit H t := by
  unfold reinitInternalLit reinit
  simp only [hn, decide_true, Bool.not_true, Bool.false_eq_true, if_false]
  split
  · rfl
  · rw [lit_records_eq]

theorem reinitLit3_eq_reinit (H : String → UInt64) (t : T) : reinitLit3 H t = reinit H t := by
  unfold reinitLit3
  rw [updateTipIndexLit_eq _ [] List.nodup_nil, List.nil_append]
  by_cases hn : (sortNames t.tipNames).Nodup
  · simp only [hn, if_true]
    exact reinitInternalLit_eq_reinit H t hn
  · simp only [hn, if_false]
    unfold reinit
    simp [hn]

/-! ## `ComputeDepths` on a rooted tree -/

mutual
theorem depthRootedT_eq : ∀ t : T, depthRootedT t = downPreT t ∧ (depthRootedT t).headD 0 = downT t
  | .node d p [] => by simp [depthRootedT, downPreT, downT, downPreL]
  | .node d p (k :: ks) => by
    have h := depthRootedL_eq (k :: ks)
    simp only [depthRootedT, downPreT, downT, h.1, h.2, List.headD_cons, and_self]
theorem depthRootedL_eq : ∀ k : Kids, (depthRootedL k).1 = downL k ∧ (depthRootedL k).2 = downPreL k
  | [] => by simp [depthRootedL, downL, downPreL]
  | (e, t) :: r => by
    have h1 := depthRootedT_eq t
    have h2 := depthRootedL_eq r
    simp only [depthRootedL, downL, downPreL, h1.1, h2.1, h2.2]
    rw [← h1.1, h1.2]
    simp
end

end Gotree.C04

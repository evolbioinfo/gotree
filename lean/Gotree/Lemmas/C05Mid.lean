/-
  C05 — `MaxLengthPath` / `RerootMidPoint`: the cut keeps the tree.
-/
import Gotree.Lemmas.C05

namespace Gotree.C05
open Gotree

mutual
theorem mlp_valid : ∀ (t : T), ValidK t.kids (mlp t).1
  | .node d p kids => by
    simp only [mlp, T.kids_node]
    exact mlpL_valid kids kids 0 [] 0 rfl (by simp [ValidK, edgesAlongK])
theorem mlpL_valid (K : Kids) : ∀ (k : Kids) (i : Nat) (best : List Nat) (cur : Rat),
    K.drop i = k → ValidK K best → ValidK K (mlpL k i best cur).1
  | [], _, _, _, _, hb => by simpa [mlpL] using hb
  | (e, t) :: r, i, best, cur, hk, hb => by
    obtain ⟨hki, hk'⟩ := drop_eq_cons hk
    simp only [mlpL]
    split
    · refine mlpL_valid K r (i + 1) _ _ hk' ?_
      have := mlp_valid t
      simp only [ValidK, edgesAlongK, hki, List.length_cons] at this ⊢
      omega
    · exact mlpL_valid K r (i + 1) _ _ hk' hb
end

/-- along a valid path: the branch taken at position `m` and the node it leads to -/
theorem valid_take : ∀ (c : List Nat) (K : Kids) (m : Nat), ValidK K c → m < c.length →
    ∃ (em : EdgeD) (B : T), (edgesAlongK K c)[m]? = some em ∧ descend K (c.take (m + 1)) = some (em, B)
  | [], _, _, _, h => by simp at h
  | i :: r, K, m, hv, hm => by
    simp only [ValidK, edgesAlongK] at hv
    cases hk : K[i]? with
    | none => simp [hk] at hv
    | some ec =>
      obtain ⟨e, c⟩ := ec
      simp only [hk, List.length_cons] at hv
      cases m with
      | zero => exact ⟨e, c, by simp [edgesAlongK, hk], by simp [descend, hk]⟩
      | succ m =>
        obtain ⟨em, B, h1, h2⟩ := valid_take r c.kids m (by simp only [ValidK]; omega) (by simpa using hm)
        refine ⟨em, B, by simpa [edgesAlongK, hk] using h1, ?_⟩
        rw [List.take_succ_cons]
        cases hr : r.take (m + 1) with
        | nil => rw [hr] at h2; simp [descend] at h2
        | cons j r' => rw [hr] at h2; simp [descend, hk, h2]

/-- the loop of `RerootMidPoint` stops on a branch that contains the half-way point -/
theorem walkHalf_spec (half : Rat) : ∀ (l : List EdgeD) (len0 : Rat) (i0 i : Nat) (len : Rat),
    walkHalf half l len0 i0 = some (i, len) → len0 < half →
    ∃ j em, i = i0 + j + 1 ∧ l[j]? = some em ∧ len - em.len < half ∧ half ≤ len
  | [], len0, i0, i, len, h, h0 => by simp [walkHalf, h0] at h
  | e :: r, len0, i0, i, len, h, h0 => by
    simp only [walkHalf, h0, if_true] at h
    by_cases h1 : len0 + e.len < half
    · obtain ⟨j, em, hj, hem, ha, hb⟩ := walkHalf_spec half r (len0 + e.len) (i0 + 1) i len h h1
      exact ⟨j + 1, em, by omega, by simpa using hem, ha, hb⟩
    · cases r with
      | nil =>
        simp only [walkHalf, h1, if_false] at h
        cases h
        exact ⟨0, e, rfl, rfl, by grind, by grind⟩
      | cons e2 r2 =>
        simp only [walkHalf, h1, if_false] at h
        cases h
        exact ⟨0, e, rfl, rfl, by grind, by grind⟩

theorem midpoint_edges {em : EdgeD} {cut : Rat} (h0 : 0 ≤ cut) (h1 : 0 < em.len - cut) :
    GoodL ({ EdgeD.blank with len := cut, sup := em.sup } : EdgeD).len ∧
    GoodL ({ EdgeD.blank with len := em.len - cut, sup := em.sup } : EdgeD).len ∧
    em.len = fuseLen ({ EdgeD.blank with len := cut, sup := em.sup } : EdgeD).len
      ({ EdgeD.blank with len := em.len - cut, sup := em.sup } : EdgeD).len ∧
    em.sup = fuseSup ({ EdgeD.blank with len := cut, sup := em.sup } : EdgeD).sup
      ({ EdgeD.blank with len := em.len - cut, sup := em.sup } : EdgeD).sup ∧
    em.lenOr0 = ({ EdgeD.blank with len := cut, sup := em.sup } : EdgeD).lenOr0 +
      ({ EdgeD.blank with len := em.len - cut, sup := em.sup } : EdgeD).lenOr0 := by
  simp only [GoodL, fuseLen, fuseSup, EdgeD.lenOr0, NIL, beq_iff_eq]
  refine ⟨Or.inr h0, Or.inr (by grind), ?_, by simp, ?_⟩
  · have a1 : ¬ cut = -1 := by grind
    have a2 : ¬ em.len - cut = -1 := by grind
    simp [a1, a2]; grind
  · have a1 : ¬ cut = -1 := by grind
    have a2 : ¬ em.len - cut = -1 := by grind
    have a3 : ¬ em.len = -1 := by grind
    simp [a1, a2, a3]; grind

/-- What `midpointCut` (far end fixed) does on a valid path of positive length.  The walk from the far end
    stops after `j + 1` branches with the sum `len`, on the branch `em` that contains the half-way point;
    that branch is the one at position `m = k - 1 - j` of the path and leads to `B`; the tree is re-rooted
    at its upper end (`tA`, where it hangs at `idx`) and the branch is cut, `len - L/2` going to the upper end. -/
theorem midpointCut_ok (cand : Cand) (u : T) (h : midpointCut true cand = .ok u)
    (hv : ValidK cand.tT.kids cand.c) (hpos : 0 < cand.len) :
    ∃ (j : Nat) (len : Rat) (em : EdgeD) (B tA : T) (idx : Nat), j < cand.c.length ∧
      walkHalf (cand.len / 2) (edgesAlong cand.tT cand.c).reverse 0 0 = some (j + 1, len) ∧
      len - em.len < cand.len / 2 ∧ cand.len / 2 ≤ len ∧
      (edgesAlongK cand.tT.kids cand.c)[cand.c.length - 1 - j]? = some em ∧
      descend cand.tT.kids (cand.c.take (cand.c.length - 1 - j + 1)) = some (em, B) ∧
      tA = (rerootP cand.tT (cand.c.take (cand.c.length - 1 - j)) none cand.back).1 ∧
      tA.kids[idx]? = some (em, B) ∧
      cutAt tA idx { EdgeD.blank with len := len - cand.len / 2, sup := em.sup }
        { EdgeD.blank with len := em.len - (len - cand.len / 2), sup := em.sup } false = some u := by
  unfold midpointCut at h
  simp only [Bool.not_true, Bool.false_and, Bool.false_eq_true, if_false] at h
  cases hw : walkHalf (cand.len / 2) (edgesAlong cand.tT cand.c).reverse 0 0 with
  | none => simp [hw] at h
  | some il =>
    obtain ⟨i, len⟩ := il
    simp only [hw] at h
    obtain ⟨j, em, hij, hem, hlt, hge⟩ := walkHalf_spec _ _ 0 0 i len hw (by grind)
    obtain rfl : i = j + 1 := by omega
    rw [Nat.add_sub_cancel, hem] at h
    simp only at h
    -- the branch, seen from the top of the path
    have hE : (edgesAlong cand.tT cand.c).length = cand.c.length := by rw [edgesAlong_eq]; exact hv
    have hjlt : j < cand.c.length := by simpa [hE] using (List.getElem?_eq_some_iff.1 hem).1
    have hm : cand.c.length - 1 - j < cand.c.length := by omega
    rw [List.getElem?_reverse (by rw [hE]; exact hjlt), hE, edgesAlong_eq] at hem
    obtain ⟨em2, B, h1, h2⟩ := valid_take cand.c cand.tT.kids _ hv hm
    rw [hem] at h1
    cases h1
    have hgetD : cand.c.getD (cand.c.length - 1 - j) 0 = cand.c[cand.c.length - 1 - j] := by
      simp [List.getD_eq_getElem?_getD, List.getElem?_eq_getElem hm]
    have h2' := h2
    rw [List.take_add_one, List.getElem?_eq_getElem hm] at h2'
    obtain ⟨tA, adj, bk, hR, hkid⟩ := rerootP_last _ _ cand.tT cand.back em B h2'
    rw [hR, hgetD] at h
    simp only at h
    split at h
    · rename_i u' hc
      cases h
      exact ⟨j, len, em, B, tA, _, hjlt, rfl, hlt, hge, hem, h2, by rw [hR], hkid, hc⟩
    · cases h

/-- the cut made by `RerootMidPoint` (far end fixed) keeps the tree -/
theorem midpointCut_same (cand : Cand) (u : T) (h : midpointCut true cand = .ok u)
    (hv : ValidK cand.tT.kids cand.c) (hpos : 0 < cand.len) (hu : cand.tT.tipNames.Nodup)
    (hg : LensGood cand.tT.splits) : Same cand.tT u ∧ u.kids.length = 2 := by
  obtain ⟨j, len, em, B, tA, idx, _, _, hlt, hge, _, _, htA, hkid, hc⟩ := midpointCut_ok cand u h hv hpos
  obtain ⟨sA, gA⟩ := rerootP_same (cand.c.take (cand.c.length - 1 - j)) cand.tT none cand.back hu hg
  rw [← htA] at sA gA
  obtain ⟨q1, q2, q3, q4, q5⟩ := midpoint_edges (em := em) (cut := len - cand.len / 2) (by grind) (by grind)
  refine ⟨sA.trans (cutAt_same tA u _ _ _ false em B hkid hc (sA.tips.nodup_iff.2 hu) gA q1 q2 q3 q4 q5), ?_⟩
  obtain ⟨_, _, cA, cB, _, _, hk⟩ := cutAt_splits tA u _ _ _ false em B hkid hc
  rw [hk]; rfl

/-- what a chosen candidate is: the tree presented at one of its tips, the path `MaxLengthPath` finds
    from there, of positive length -/
def CandOK (t1 : T) (cand : Cand) : Prop :=
  (∃ p ∈ tipPaths t1, cand.tT = (rerootP t1 p none []).1) ∧ cand.c = (mlp cand.tT).1 ∧
    cand.len = (mlp cand.tT).2 ∧ 0 < cand.len

/-- the loop over the tips keeps such a candidate, at least as long as every other one -/
theorem bestCand_spec (t1 : T) (cand : Cand) : ∀ (ps : List (List Nat)) (best : Option Cand) (cur : Rat),
    (∀ p ∈ ps, p ∈ tipPaths t1) → 0 ≤ cur → (∀ b, best = some b → CandOK t1 b ∧ b.len = cur) →
    bestCand t1 ps best cur = some cand → CandOK t1 cand ∧ cur ≤ cand.len ∧
      ∀ p ∈ ps, (mlp (rerootP t1 p none []).1).2 ≤ cand.len
  | [], best, cur, _, _, hb, h => by
    simp only [bestCand] at h
    obtain ⟨h1, h2⟩ := hb cand h
    exact ⟨h1, by rw [h2]; exact Rat.le_refl, fun p hp => by cases hp⟩
  | p :: ps, best, cur, hps, hc, hb, h => by
    simp only [bestCand] at h
    split at h
    · rename_i hl
      obtain ⟨h1, h2, h3⟩ := bestCand_spec t1 cand ps _ _ (fun q hq => hps q (by simp [hq])) (by grind)
        (by
          intro b hb'
          cases hb'
          exact ⟨⟨⟨p, hps p (by simp), rfl⟩, rfl, rfl, by grind⟩, rfl⟩) h
      refine ⟨h1, by grind, ?_⟩
      intro q hq
      rcases List.mem_cons.1 hq with rfl | hq
      · exact h2
      · exact h3 q hq
    · rename_i hl
      obtain ⟨h1, h2, h3⟩ := bestCand_spec t1 cand ps best cur (fun q hq => hps q (by simp [hq])) hc hb h
      refine ⟨h1, h2, ?_⟩
      intro q hq
      rcases List.mem_cons.1 hq with rfl | hq
      · grind
      · exact h3 q hq

/-- a successful `RerootMidPoint` has chosen a candidate and cut it -/
theorem midpoint_ok {t t' : T} (h : rerootMidPoint t = .ok t') :
    ∃ cand, (CandOK (unroot t) cand ∧ ∀ p ∈ tipPaths (unroot t), (mlp (rerootP (unroot t) p none []).1).2 ≤ cand.len) ∧
      midpointCut true cand = .ok t' := by
  unfold rerootMidPoint rerootMidPointWith at h
  simp only [midpointFarEndFixedInRepo] at h
  split at h
  · cases h
  · cases hb : bestCand (unroot t) (tipPaths (unroot t)) none 0 with
    | none => rw [hb] at h; simp at h
    | some cand =>
      rw [hb] at h
      obtain ⟨h1, _, h3⟩ := bestCand_spec (unroot t) cand _ none 0 (fun q hq => hq) Rat.le_refl
        (by intro b hb'; cases hb') hb
      exact ⟨cand, ⟨h1, h3⟩, h⟩

/-- `RerootMidPoint`, when it succeeds, keeps the tree. -/
theorem midpoint_same (t t' : T) (h : rerootMidPoint t = .ok t') (hu : t.tipNames.Nodup)
    (hg : LensGood t.splits) (hs : ∀ s ∈ t.splits, GoodL s.e.sup) : Same t t' ∧ t'.kids.length = 2 := by
  obtain ⟨cand, ⟨⟨⟨p, _, hp⟩, hc, _, hpos⟩, _⟩, hcut⟩ := midpoint_ok h
  obtain ⟨S2, g2⟩ := unroot_rerootP_same t p [] hu hg hs
  rw [← hp] at S2 g2
  obtain ⟨S3, h2⟩ := midpointCut_same cand t' hcut (hc ▸ mlp_valid cand.tT) hpos (S2.tips.nodup_iff.2 hu) g2
  exact ⟨S2.trans S3, h2⟩

end Gotree.C05

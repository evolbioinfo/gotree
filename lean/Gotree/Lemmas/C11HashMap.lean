/-
  C11 — what `hashmap.HashMap` (Model/C11HashMap.lean) computes.

  `WF` is the representation invariant (one bucket per capacity unit, every entry in the bucket its hash
  code selects, no key twice, `total` = number of entries).  Under it no call panics, `Value` is the lookup
  in the association list `entries`, `PutValue` is the association-list update (rehash included), `Keys`
  has no nil cell; a list of `PutValue` calls leaves for every key the LAST value put (`putAll_spec`,
  `lastPut_filter`; the statement about two interleavings built on them is `putAll_interleaving`,
  Lemmas/C11HashMapSpec.lean).

  The map is read as an array of buckets (Lemmas/Buckets.lean, shared with the model of C04): `lookup` is
  `Assoc.get` and the bucket update of `PutValue` is `Assoc.put`, for the key equality `decide (a = b)`.
-/
import Gotree.Model.C11HashMap
import Gotree.Lemmas.Buckets

namespace Gotree.C11.HM
open Gotree.C04 (Assoc.get Assoc.put NoMatch NoDupK KeyLaws)
open Gotree.Buckets (insertAll insertAll_ok placed_replicate)

variable {κ ν : Type} [DecidableEq κ]

/-- the association list a map stands for -/
def entries (m : HMap κ ν) : List (κ × ν) := m.arr.flatten

def lookup (l : List (κ × ν)) (k : κ) : Option ν := (l.find? (fun kv => decide (k = kv.1))).map (·.2)

structure WF (hash : κ → Nat) (m : HMap κ ν) : Prop where
  len : m.arr.length = m.capacity
  cap : 1 ≤ m.capacity
  idx : ∀ i b, m.arr[i]? = some b → ∀ kv ∈ b, indexFor (hash kv.1) m.capacity = i
  nodup : ((entries m).map Prod.fst).Nodup
  tot : m.total = (entries m).length

theorem indexFor_lt (h cap : Nat) (hc : 1 ≤ cap) : indexFor h cap < cap := by
  have : h &&& (cap - 1) ≤ cap - 1 := Nat.and_le_right
  unfold indexFor; omega

theorem flatten_replicate_nil {α : Type} (n : Nat) : (List.replicate n ([] : List α)).flatten = [] :=
  List.flatten_replicate_nil

/-! ### the model in the vocabulary of Lemmas/Assoc.lean, Lemmas/Buckets.lean -/

/-- `HashEquals` of the model: equality of keys -/
abbrev eqd : κ → κ → Bool := fun a b => decide (a = b)

theorem eqd_laws : KeyLaws (fun _ : κ => (0 : UInt64)) eqd :=
  ⟨fun _ => by simp, fun _ _ h => by simp_all, fun _ _ _ h1 h2 => by simp_all, fun _ _ _ => rfl⟩

theorem lookup_eq (l : List (κ × ν)) (k : κ) : lookup l k = Assoc.get eqd k l := (C04.get_eq_find? eqd k l).symm

theorem replaceFirst_eq (k : κ) (v : ν) (b : List (κ × ν)) : replaceFirst k v b = C04.bucketReplace eqd k v b := by
  induction b with
  | nil => rfl
  | cons a r ih =>
    obtain ⟨k', v'⟩ := a
    by_cases h : k = k'
    · simp [replaceFirst, C04.bucketReplace, h]
    · simp only [replaceFirst, C04.bucketReplace, eqd, h, decide_false, if_false, ih, Bool.false_eq_true]
      cases C04.bucketReplace eqd k v r <;> rfl

omit [DecidableEq κ] in
theorem rehashLoop_eq (hash : κ → Nat) (n : Nat) (l : List (κ × ν)) (nm : List (List (κ × ν))) :
    rehashLoop hash n l nm = insertAll (fun k => indexFor (hash k) n) l nm := by
  induction l generalizing nm with
  | nil => rfl
  | cons kv r ih => simp only [rehashLoop, putAt, insertAll]; cases nm[indexFor (hash kv.1) n]? <;> simp only [ih]

theorem noMatch_iff {k : κ} {l : List (κ × ν)} : NoMatch eqd k l ↔ k ∉ l.map Prod.fst := by
  simp only [NoMatch, decide_eq_false_iff_not, List.mem_map, not_exists, not_and]
  exact ⟨fun h x hx e => h x hx e.symm, fun h x hx e => h x hx e.symm⟩

theorem noDupK_iff {l : List (κ × ν)} : NoDupK eqd l ↔ (l.map Prod.fst).Nodup := by
  simp [NoDupK, List.Nodup, List.pairwise_map]

theorem near (ix : κ → Nat) (k : κ) (l : List (κ × ν)) : Buckets.Near eqd ix k l :=
  fun kv _ e => by rw [of_decide_eq_true e]

theorem lookup_none_iff (l : List (κ × ν)) (k : κ) : lookup l k = none ↔ k ∉ l.map Prod.fst := by
  rw [lookup_eq, C04.get_none_iff, noMatch_iff]

theorem lookup_perm {l1 l2 : List (κ × ν)} (hp : l1.Perm l2) (hn : (l1.map Prod.fst).Nodup) (k : κ) :
    lookup l1 k = lookup l2 k := by
  rw [lookup_eq, lookup_eq, C04.get_perm hp ((noDupK_iff.mpr hn).uniq eqd_laws k)]

/-- what the entries after `PutValue` stand for -/
theorem lookup_put (l : List (κ × ν)) (k : κ) (v : ν) (k' : κ) :
    lookup (Assoc.put eqd k v l) k' = if k' = k then some v else lookup l k' := by
  rw [lookup_eq, lookup_eq, C04.get_put eqd_laws]; simp

theorem keys_put (l : List (κ × ν)) (k : κ) (v : ν) :
    ((Assoc.put eqd k v l).map Prod.fst).Perm (if k ∈ l.map Prod.fst then l.map Prod.fst else k :: l.map Prod.fst) := by
  split
  · next h => rw [C04.put_keys (fun hn => noMatch_iff.mp hn h)]
  · next h => rw [C04.put_nomatch (noMatch_iff.mpr h)]; simp [List.perm_append_singleton]

/-! ### `NewHashMap`, `Value` -/

theorem new_wf (hash : κ → Nat) (size lfNum lfDen : Nat) : WF hash (new size lfNum lfDen : HMap κ ν) :=
  ⟨by simp [new], by simp only [new]; split <;> omega, placed_replicate (ix := fun k => indexFor (hash k) _) _,
    by simp [entries, new], by simp [entries, new]⟩

theorem new_entries (size lfNum lfDen : Nat) : entries (new size lfNum lfDen : HMap κ ν) = [] := by
  simp [entries, new]

theorem WF.bucket {hash : κ → Nat} {m : HMap κ ν} (hw : WF hash m) (k : κ) :
    ∃ b, m.arr[indexFor (hash k) m.capacity]? = some b :=
  ⟨_, List.getElem?_eq_getElem (by rw [hw.len]; exact indexFor_lt _ _ hw.cap)⟩

theorem value_eq {hash : κ → Nat} {m : HMap κ ν} (hw : WF hash m) (k : κ) :
    value hash m k = .ok (lookup (entries m) k) := by
  obtain ⟨b, hb⟩ := hw.bucket k
  unfold value
  rw [hb]
  show Res.ok (lookup b k) = _
  rw [lookup_eq, lookup_eq, Buckets.get_bucket (ix := fun k => indexFor (hash k) m.capacity) hw.idx (near _ _ _) hb]; rfl

/-! ### `rehash`, `PutValue` -/

/-- a map with the right number of well placed buckets that holds, up to order, entries without repeated
    key, and counts them, is well formed -/
theorem wf_of_perm {hash : κ → Nat} {m : HMap κ ν} {l : List (κ × ν)} (hl : m.arr.length = m.capacity) (hc : 1 ≤ m.capacity)
    (hi : Buckets.Placed (fun k => indexFor (hash k) m.capacity) m.arr) (hp : (entries m).Perm l)
    (hn : (l.map Prod.fst).Nodup) (ht : m.total = l.length) : WF hash m :=
  ⟨hl, hc, hi, ((hp.map Prod.fst).nodup_iff).mpr hn, by rw [hp.length_eq]; exact ht⟩

/-- `rehash` keeps the invariant and the entries (as a multiset) -/
theorem rehash_spec {hash : κ → Nat} {m : HMap κ ν} (hw : WF hash m) :
    ∃ m', rehash hash m = .ok m' ∧ WF hash m' ∧ (entries m').Perm (entries m) := by
  unfold rehash
  split
  · have h2 : 1 ≤ m.capacity * 2 := by have := hw.cap; omega
    obtain ⟨nm, h1, hl, hp, hperm⟩ := insertAll_ok (ix := fun k => indexFor (hash k) (m.capacity * 2))
      (fun k => indexFor_lt _ _ h2) m.arr.flatten (List.replicate (m.capacity * 2) []) (by simp) (placed_replicate _)
    rw [List.flatten_replicate_nil, List.nil_append] at hperm
    simp only [rehashLoop_eq, h1]
    exact ⟨_, rfl, wf_of_perm hl h2 hp hperm hw.nodup hw.tot, hperm⟩
  · exact ⟨m, rfl, hw, .refl _⟩

/-- `PutValue` never panics, keeps the invariant and is `Assoc.put` on the entries up to order -/
theorem putValue_flat {hash : κ → Nat} {m : HMap κ ν} (hw : WF hash m) (k : κ) (v : ν) :
    ∃ m', putValue hash m k v = .ok m' ∧ WF hash m' ∧ (entries m').Perm (Assoc.put eqd k v (entries m)) := by
  obtain ⟨b, hb⟩ := hw.bucket k
  obtain ⟨hpl, hperm⟩ := Buckets.put_bucket (ix := fun k => indexFor (hash k) m.capacity) hw.idx (near _ _ _) hb v
  have hm := Buckets.noMatch_bucket (ix := fun k => indexFor (hash k) m.capacity) hw.idx (near _ _ _) hb
  have hnd := noDupK_iff.mp ((noDupK_iff.mpr hw.nodup).put eqd_laws k v)
  -- whichever branch is taken, the bucket of `k` becomes `Assoc.put eqd k v b`
  have app : NoMatch eqd k b → ∃ m',
      rehash hash { m with arr := m.arr.set (indexFor (hash k) m.capacity) (b ++ [(k, v)]), total := m.total + 1 } = .ok m' ∧
        WF hash m' ∧ (entries m').Perm (Assoc.put eqd k v (entries m)) := fun h => by
    rw [C04.put_nomatch h] at hpl hperm
    obtain ⟨m', e, w, p⟩ := rehash_spec (hash := hash)
      (m := { m with arr := m.arr.set (indexFor (hash k) m.capacity) (b ++ [(k, v)]), total := m.total + 1 })
      (wf_of_perm (by simp [hw.len]) hw.cap hpl hperm hnd (by rw [C04.put_nomatch (hm.mpr h)]; simp [hw.tot, entries]))
    exact ⟨m', e, w, p.trans hperm⟩
  have hs := C04.bucketReplace_spec (eqv := eqd) k v b
  unfold putValue
  simp only [hb]
  split
  · obtain rfl : b = [] := by simpa using ‹b.isEmpty = true›
    exact app C04.noMatch_nil
  · rw [replaceFirst_eq]
    cases hr : C04.bucketReplace eqd k v b with
    | none => rw [hr] at hs; exact app hs
    | some b' =>
      rw [hr] at hs
      obtain ⟨rfl, hnm⟩ := hs
      refine ⟨_, rfl, wf_of_perm (m := { m with arr := _ }) (by simp [hw.len]) hw.cap hpl hperm hnd ?_, hperm⟩
      rw [← List.length_map (f := Prod.fst), C04.put_keys (mt hm.mp hnm), List.length_map]; exact hw.tot

/-- the update a `PutValue` performs on the association list -/
def assocPut (l : List (κ × ν)) (k : κ) (v : ν) : κ → Option ν := fun k' => if k' = k then some v else lookup l k'

theorem putValue_spec {hash : κ → Nat} {m : HMap κ ν} (hw : WF hash m) (k : κ) (v : ν) :
    ∃ m', putValue hash m k v = .ok m' ∧ WF hash m' ∧
      (∀ k', lookup (entries m') k' = assocPut (entries m) k v k') ∧
      ((entries m').map Prod.fst).Perm
        (if k ∈ (entries m).map Prod.fst then (entries m).map Prod.fst else k :: (entries m).map Prod.fst) := by
  obtain ⟨m', e, w, p⟩ := putValue_flat hw k v
  exact ⟨m', e, w, fun k' => by rw [lookup_perm p w.nodup, lookup_put]; rfl, (p.map _).trans (keys_put ..)⟩

/-! ### `Keys`, `KeyValues` -/

theorem cells_eq {hash : κ → Nat} {m : HMap κ ν} (hw : WF hash m) : cells m = .ok ((entries m).map some) := by
  unfold cells
  have := hw.tot
  simp only [entries] at this ⊢
  rw [if_neg (by omega), this]; simp

theorem keys_eq {hash : κ → Nat} {m : HMap κ ν} (hw : WF hash m) : keys m = .ok ((entries m).map (fun kv => some kv.1)) := by
  unfold keys; rw [cells_eq hw]; simp

/-! ### lists of `PutValue` calls -/

/-- the last value put for `k` -/
def lastPut : List (κ × ν) → κ → Option ν
  | [], _ => none
  | (k', v) :: r, k =>
    match lastPut r k with
    | some x => some x
    | none => if k = k' then some v else none

theorem lastPut_filter (ops : List (κ × ν)) (k : κ) : lastPut ops k = lastPut (ops.filter (fun o => decide (o.1 = k))) k := by
  induction ops with
  | nil => rfl
  | cons a r ih =>
    obtain ⟨k', v⟩ := a
    by_cases h : k' = k
    · simp only [List.filter_cons, h, decide_true, if_true, lastPut, ← ih]
    · have h' : ¬ k = k' := fun e => h e.symm
      simp only [List.filter_cons, h, decide_false, Bool.false_eq_true, if_false, lastPut, h', ← ih]
      cases lastPut r k <;> rfl

theorem putAll_spec {hash : κ → Nat} (ops : List (κ × ν)) :
    ∀ {m : HMap κ ν}, WF hash m →
      ∃ m', putAll hash m ops = some m' ∧ WF hash m' ∧
        ∀ k, lookup (entries m') k = (lastPut ops k).or (lookup (entries m) k) := by
  induction ops with
  | nil => intro m hw; exact ⟨m, rfl, hw, by intro k; simp [lastPut]⟩
  | cons a r ih =>
    intro m hw
    obtain ⟨k1, v1⟩ := a
    obtain ⟨m1, h1, hw1, hl1, _⟩ := putValue_spec hw k1 v1
    obtain ⟨m', h2, hw2, hl2⟩ := ih hw1
    refine ⟨m', by simp only [putAll, h1]; exact h2, hw2, ?_⟩
    intro k
    rw [hl2 k, hl1 k]
    simp only [lastPut, assocPut]
    cases lastPut r k <;> by_cases hk : k = k1 <;> simp [hk]

end Gotree.C11.HM

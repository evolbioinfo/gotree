/-
  C07 — `RemoveEdges` with `removeRoot` on a rooted tree: what happens to the root when one (or both)
  of its two branches is contracted.
-/
import Gotree.Lemmas.C07Loop
import Gotree.Lemmas.C07Depth

namespace Gotree.C07
open Gotree

/- a branch id that does not occur leaves everything as it is -/
theorem contractL_absent_of (rr rt : Bool) (id : Int) (deg : Nat) : ∀ k : Kids,
    (∀ et ∈ k, id ∉ et.2.splitsBelow.map (·.e.id) → contractT rr rt id false et.2 = et.2) →
    id ∉ (splitsL k).map (·.e.id) → contractL rr rt id deg k = (k.map some, [])
  | [], _, _ => by simp [contractL]
  | (e, c) :: r, hk, h => by
    simp only [splitsL, List.map_cons, List.map_append, List.mem_cons, List.mem_append, not_or] at h
    have hne : (e.id == id) = false := beq_eq_false_iff_ne.mpr fun hh => h.1 hh.symm
    rw [contractL_cons, hne, hk (e, c) List.mem_cons_self h.2.1,
      contractL_absent_of rr rt id deg r (fun et hm => hk et (List.mem_cons_of_mem _ hm)) h.2.2]
    simp

theorem contractT_absent (rr rt : Bool) (id : Int) (isRoot : Bool) (c : T)
    (h : id ∉ c.splitsBelow.map (·.e.id)) : contractT rr rt id isRoot c = c := by
  induction c using T.induct generalizing rr isRoot with
  | h d p k ih =>
    rw [contractT_node, contractL_absent_of _ rt id _ k (fun et hm => ih et hm _ false) (by simpa [T.splitsBelow] using h)]
    simp [nNone_map_some, stayKids_map_some]

theorem contractL_absent (rr rt : Bool) (id : Int) (deg : Nat) (k : Kids) (h : id ∉ (splitsL k).map (·.e.id)) :
    contractL rr rt id deg k = (k.map some, []) :=
  contractL_absent_of rr rt id deg k (fun et _ => contractT_absent rr rt id false et.2) h

/-- the branch ids of a rooted tree are pairwise distinct: the two root branches differ and neither id
    occurs below -/
theorem rooted_ids_distinct {d : NodeD} {p : Nat} {e1 e2 : EdgeD} {c1 c2 : T}
    (hid : uniqueIds (.node d p [(e1, c1), (e2, c2)]) = true) :
    e1.id ≠ e2.id ∧ e1.id ∉ c1.splitsBelow.map (·.e.id) ∧ e1.id ∉ c2.splitsBelow.map (·.e.id) ∧
      e2.id ∉ c1.splitsBelow.map (·.e.id) ∧ e2.id ∉ c2.splitsBelow.map (·.e.id) := by
  have hnd : (e1.id :: (c1.splitsBelow.map (·.e.id) ++ e2.id :: (c2.splitsBelow.map (·.e.id)))).Nodup := by
    simpa [uniqueIds, T.splits, splitsL] using hid
  rw [List.nodup_cons, List.nodup_append, List.nodup_cons] at hnd
  simp only [List.mem_append, List.mem_cons, not_or] at hnd
  obtain ⟨⟨h11, hne, h12⟩, _, ⟨h22, _⟩, hx⟩ := hnd
  exact ⟨hne, h11, h12, fun hm => hx _ hm _ (Or.inl rfl) rfl, h22⟩

/-- First root branch contracted (`removeRoot`, the node below is inner): the root stays, loses that
    child and receives its children at the END of its neighbour slice. -/
theorem root_first_contracted (rt : Bool) (d : NodeD) (p : Nat) (e1 e2 : EdgeD) (c1 c2 : T)
    (hid : uniqueIds (.node d p [(e1, c1), (e2, c2)]) = true) (hinner : c1.isLeaf = false) :
    contractT true rt e1.id true (.node d p [(e1, c1), (e2, c2)]) =
      .node d (p - nNone ([none, some (e2, c2)].take p)) ((e2, c2) :: c1.kids) := by
  obtain ⟨hne', h11, h12, _, _⟩ := rooted_ids_distinct hid
  have a1 := contractT_absent true rt e1.id false c1 h11
  have a2 := contractT_absent true rt e1.id false c2 h12
  have hne : (e2.id == e1.id) = false := beq_eq_false_iff_ne.mpr hne'.symm
  rw [contractT_node]
  simp only [Bool.not_true, Bool.or_false]
  simp only [contractL, a1, a2, hne, hinner, beq_self_eq_true, if_true, Bool.false_or,
    List.length_cons, List.length_nil, Bool.not_true, Bool.false_and, Bool.false_eq_true, if_false]
  have : ((0 + 1 + 1 + 0 : Nat) == 1) = false := rfl
  simp [this, stayKids]

/-- Second root branch contracted. -/
theorem root_second_contracted (rt : Bool) (d : NodeD) (p : Nat) (e1 e2 : EdgeD) (c1 c2 : T)
    (hid : uniqueIds (.node d p [(e1, c1), (e2, c2)]) = true) (hinner : c2.isLeaf = false) :
    contractT true rt e2.id true (.node d p [(e1, c1), (e2, c2)]) =
      .node d (p - nNone ([some (e1, c1), none].take p)) ((e1, c1) :: c2.kids) := by
  obtain ⟨hne', _, _, hn1, hn2⟩ := rooted_ids_distinct hid
  have hne : (e1.id == e2.id) = false := beq_eq_false_iff_ne.mpr hne'
  have a1 := contractT_absent true rt e2.id false c1 hn1
  have a2 := contractT_absent true rt e2.id false c2 hn2
  rw [contractT_node]
  simp only [Bool.not_true, Bool.or_false]
  simp only [contractL, a1, a2, hne, hinner, beq_self_eq_true, if_true, Bool.false_or,
    List.length_cons, List.length_nil, Bool.not_true, Bool.false_and, Bool.false_eq_true, if_false]
  have : ((0 + 1 + 1 + 0 : Nat) == 1) = false := rfl
  simp [this, stayKids]

/-- Both root branches contracted, one after the other: the root absorbs the children of both. -/
theorem root_both_contracted (rt : Bool) (d : NodeD) (p : Nat) (e1 e2 : EdgeD) (c1 c2 : T)
    (hid : uniqueIds (.node d p [(e1, c1), (e2, c2)]) = true) (h1 : c1.isLeaf = false) (h2 : c2.isLeaf = false) :
    ∃ p', removeEdges true rt [e1.id, e2.id] (.node d p [(e1, c1), (e2, c2)]) = .node d p' (c1.kids ++ c2.kids) := by
  obtain ⟨_, _, _, hn1, hn2⟩ := rooted_ids_distinct hid
  rw [T.splitsBelow_eq] at hn1
  have hk1 : 0 < c1.kids.length := List.length_pos_iff.mpr (T.isLeaf_eq_false_iff.1 h1)
  have a2 := contractT_absent true rt e2.id false c2 hn2
  have key : ∀ q, contractT true rt e2.id true (.node d q ((e2, c2) :: c1.kids)) =
      .node d (q - nNone ((none :: c1.kids.map some).take q)) (c1.kids ++ c2.kids) := by
    intro q
    rw [contractT_node]
    generalize hg : ((e2, c2) :: c1.kids).length + (if true = true then 0 else 1) = deg
    simp only [Bool.not_true, Bool.or_false]
    have hdeg : (deg == 1) = false := by
      have : deg = c1.kids.length + 1 := by rw [← hg]; simp
      have h3 : deg ≠ 1 := by omega
      simpa using h3
    have a1 := contractL_absent true rt e2.id deg c1.kids hn1
    rw [contractL_cons]
    simp only [beq_self_eq_true, if_true, h2, hdeg, Bool.or_self, Bool.false_eq_true, if_false, Bool.not_true,
      Bool.false_and, a1, a2, stayKids_none, stayKids_map_some, List.append_nil]
  rw [removeEdges_cons, root_first_contracted rt d p e1 e2 c1 c2 hid h1, removeEdges_cons, key]
  exact ⟨_, rfl⟩

end Gotree.C07

/-
  C15 — the frame argument behind "editing one tree never changes the other", on an
  abstract heap (DESIGN §3.7: pointer identity is not part of `T`).

  A heap is a set of cells; a cell holds references to other cells and some data.
  A tree in the heap is what is reachable from its root cell.  An edit of the tree
  rooted at `r` is *local* when (i) it leaves every allocated cell that is not
  reachable from `r` as it was, (ii) whatever is reachable from `r` afterwards was
  reachable from `r` before or has been allocated by the edit, (iii) it only
  allocates.  (That the Go edits are local in this sense is the memory-safety
  reading of the code — methods navigate from their receiver and their arguments —
  and is what the aliasing histories test; it is not proved.)

  Theorem: if two roots reach disjoint sets of allocated cells — which is what
  table (d) decides statically (`copy_fresh`) and what the harness observes
  dynamically right after `Clone`/`SubTree` (no shared node, branch, comment array,
  bitset) — then after ANY sequence of local edits of the first one, every cell
  reachable from the second one holds what it held, the second one reaches exactly
  the same cells, and the two are still disjoint.  Core Lean only.
-/
import Gotree.Model.C15Heap

namespace Gotree.C15.Heap

inductive Reach (h : H) (r : Addr) : Addr → Prop
  | root : Reach h r r
  | step {a b : Addr} : Reach h r a → b ∈ h.ptrs a → Reach h r b

/-- everything reachable from `r` is allocated -/
def Alloc (h : H) (r : Addr) : Prop := ∀ a, Reach h r a → a < h.next

def Disjoint (h : H) (r r' : Addr) : Prop := ∀ a, Reach h r a → ¬ Reach h r' a

structure Local (r : Addr) (e : H → H) : Prop where
  frame : ∀ h a, a < h.next → ¬ Reach h r a → (e h).ptrs a = h.ptrs a ∧ (e h).data a = h.data a
  reach : ∀ h a, Alloc h r → Reach (e h) r a → Reach h r a ∨ h.next ≤ a
  mono : ∀ h, h.next ≤ (e h).next

/-- same cell contents on everything `r'` reaches -/
def SameOn (h h' : H) (r' : Addr) : Prop := ∀ a, Reach h r' a → h'.ptrs a = h.ptrs a ∧ h'.data a = h.data a

theorem reach_of_sameOn {h h' : H} {r' : Addr} (hs : SameOn h h' r') : ∀ a, Reach h r' a → Reach h' r' a := by
  intro a ha
  induction ha with
  | root => exact Reach.root
  | step hra hb ih => exact Reach.step ih (by rw [(hs _ hra).1]; exact hb)

theorem reach_back {h h' : H} {r' : Addr} (hs : SameOn h h' r') : ∀ a, Reach h' r' a → Reach h r' a := by
  intro a ha
  induction ha with
  | root => exact Reach.root
  | step _ hb ih => exact Reach.step ih (by rw [← (hs _ ih).1]; exact hb)

/-- one local edit of `r` leaves the twin `r'` alone -/
theorem step_frame {r r' : Addr} {e : H → H} (hl : Local r e) (h : H)
    (ha : Alloc h r) (ha' : Alloc h r') (hd : Disjoint h r r') :
    SameOn h (e h) r' ∧ (∀ a, Reach (e h) r' a ↔ Reach h r' a) ∧
    Alloc (e h) r' ∧ Disjoint (e h) r r' := by
  have hs : SameOn h (e h) r' := fun a hra => hl.frame h a (ha' a hra) (fun hr => hd a hr hra)
  have hiff : ∀ a, Reach (e h) r' a ↔ Reach h r' a := fun a => ⟨reach_back hs a, reach_of_sameOn hs a⟩
  refine ⟨hs, hiff, fun a hra => Nat.lt_of_lt_of_le (ha' a ((hiff a).mp hra)) (hl.mono h), fun a hra hra' => ?_⟩
  have h' := (hiff a).mp hra'
  rcases hl.reach h a ha hra with h1 | h1
  · exact hd a h1 h'
  · exact absurd (ha' a h') (Nat.not_lt.mpr h1)

/-- a local edit keeps its own tree allocated (needed to chain edits) -/
def KeepsAlloc (r : Addr) (e : H → H) : Prop := ∀ h, Alloc h r → Alloc (e h) r

/-- any history of local edits of `r` leaves the twin `r'` alone -/
theorem history_frame {r r' : Addr} : ∀ (es : List (H → H)) (h : H),
    (∀ e ∈ es, Local r e ∧ KeepsAlloc r e) → Alloc h r → Alloc h r' → Disjoint h r r' →
    SameOn h (run es h) r' ∧ (∀ a, Reach (run es h) r' a ↔ Reach h r' a) ∧ Disjoint (run es h) r r'
  | [], h, _, _, _, hd => ⟨fun _ _ => ⟨rfl, rfl⟩, fun _ => Iff.rfl, hd⟩
  | e :: es, h, hes, ha, ha', hd => by
    obtain ⟨hl, hk⟩ := hes e (by simp)
    obtain ⟨hs, hiff, ha1', hd1⟩ := step_frame hl h ha ha' hd
    obtain ⟨hs2, hiff2, hd2⟩ := history_frame es (e h) (fun e' he' => hes e' (by simp [he'])) (hk h ha) ha1' hd1
    refine ⟨fun a hra => ?_, fun a => (hiff2 a).trans (hiff a), hd2⟩
    have h1 := hs a hra
    have h2 := hs2 a ((hiff a).mpr hra)
    exact ⟨h2.1.trans h1.1, h2.2.trans h1.2⟩

/-- what an observer of the twin computes from the cells it reaches is unchanged -/
theorem observe_frame {α : Type} {r r' : Addr} (obs : H → α)
    (hobs : ∀ h h', SameOn h h' r' → obs h' = obs h)
    (es : List (H → H)) (h : H) (hes : ∀ e ∈ es, Local r e ∧ KeepsAlloc r e)
    (ha : Alloc h r) (ha' : Alloc h r') (hd : Disjoint h r r') : obs (run es h) = obs h :=
  hobs h (run es h) (history_frame es h hes ha ha' hd).1

end Gotree.C15.Heap

/-
  C15 — one `InsertIdenticalTip`: the names `new, old` take the place of the leaf `old` (`Replaced`,
  Lemmas/C15Replace.lean), on branches of length 0.  Core Lean only.
-/
import Gotree.Lemmas.C15Graft

namespace Gotree.C15
open Gotree Gotree.C14

abbrev wL : EdgeD → Rat := EdgeD.lenOr0

theorem wL_zeroEdge : wL zeroEdge = 0 := by decide

theorem wL_of_len_zero {e : EdgeD} (h : (e.len == 0) = true) : wL e = 0 := by
  have h0 : e.len = 0 := by simpa using h
  have hn : NIL = (-1 : Rat) := rfl
  simp only [wL, EdgeD.lenOr0, h0, hn]
  decide

theorem distW_self (w : EdgeD → Rat) (a : String) : ∀ (l : List SplitE), distW w l a a = 0
  | [] => rfl
  | s :: l => by rw [distW_cons, distW_self w a l]; simp [SplitE.sep, Rat.add_zero]

/-- the cherry `InsertIdenticalTip` builds in place of the tip -/
def cherry (new : String) (t : T) : T := .node ⟨"", []⟩ 1 [(zeroEdge, T.leaf new), (zeroEdge, t)]

theorem insAt_some {old new : String} {d : NodeD} {p : Nat} {k : Kids} {t' : T}
    (h : insAt old new (.node d p k) = some t') : ∃ k', insKids false old new k = some k' ∧ t' = .node d p k' := by
  simp only [insAt] at h
  cases hk : insKids false old new k with
  | none => simp [hk] at h
  | some k' => simp [hk] at h; exact ⟨k', rfl, h.symm⟩

theorem insKids_cases {lone : Bool} {old new : String} {e : EdgeD} {t : T} {r k' : Kids}
    (h : insKids lone old new ((e, t) :: r) = some k') :
    (t.isLeaf = true ∧ t.name = old ∧ (e.len == 0 && !lone) = true ∧ k' = ((e, t) :: r) ++ [(zeroEdge, T.leaf new)]) ∨
    (t.isLeaf = true ∧ t.name = old ∧ (e.len == 0 && !lone) = false ∧ k' = (e, cherry new t) :: r) ∨
    (¬(t.isLeaf = true ∧ t.name = old) ∧ ∃ t', insAt old new t = some t' ∧ k' = (e, t') :: r) ∨
    (¬(t.isLeaf = true ∧ t.name = old) ∧ insAt old new t = none ∧ ∃ r', insKids lone old new r = some r' ∧ k' = (e, t) :: r') := by
  simp only [insKids] at h
  split at h
  · rename_i hm
    simp only [Bool.and_eq_true, beq_iff_eq] at hm
    split at h
    · rename_i h0
      injection h with h
      exact Or.inl ⟨hm.1, hm.2, by simpa using h0, h.symm⟩
    · rename_i h0
      injection h with h
      exact Or.inr (Or.inl ⟨hm.1, hm.2, by simpa using h0, h.symm⟩)
  · rename_i hm
    simp only [Bool.and_eq_true, beq_iff_eq] at hm
    split at h
    · rename_i t' ht
      injection h with h
      exact Or.inr (Or.inr (Or.inl ⟨hm, t', ht, h.symm⟩))
    · rename_i ht
      cases hr : insKids lone old new r with
      | none => simp [hr] at h
      | some r' => simp [hr] at h; exact Or.inr (Or.inr (Or.inr ⟨hm, ht, r', rfl, h.symm⟩))

theorem cherry_leaves (new : String) (t : T) : (cherry new t).leaves = new :: t.leaves := by
  simp [cherry, T.leaves, leavesL, T.leaf]

theorem cherry_splits (new : String) (t : T) :
    (cherry new t).splitsBelow = ⟨[new], zeroEdge, true⟩ :: ⟨t.leaves, zeroEdge, t.isLeaf⟩ :: t.splitsBelow := by
  simp [cherry, splitsL, T.leaf, T.leaves, T.isLeaf]

/-- the number of children grows by one when the new tip becomes a sibling — never below a root that is a tip -/
theorem insKids_length {lone : Bool} {old new : String} : ∀ {k k' : Kids}, insKids lone old new k = some k' →
    k'.length = k.length ∨ (lone = false ∧ k'.length = k.length + 1)
  | [], _, h => by simp [insKids] at h
  | (e, t) :: r, k', h => by
    rcases insKids_cases h with ⟨_, _, h0, rfl⟩ | ⟨_, _, _, rfl⟩ | ⟨_, t', _, rfl⟩ | ⟨_, _, r', hr, rfl⟩
    · exact Or.inr ⟨by simpa using (Bool.and_eq_true _ _ ▸ h0 : (e.len == 0) = true ∧ (!lone) = true).2, by simp⟩
    · simp
    · simp
    · simpa using insKids_length hr

/-- the root is a tip afterwards iff it was one -/
theorem insKids_rootTip {old new : String} {k k' : Kids} (h : insKids (k.length == 1) old new k = some k') :
    (k'.length == 1) = (k.length == 1) := by
  rcases insKids_length h with h1 | ⟨h0, h1⟩
  · rw [h1]
  · cases k with
    | nil => simp [insKids] at h
    | cons x r =>
      simp only [List.length_cons, beq_eq_false_iff_ne, ne_eq] at h0
      simp only [h1, List.length_cons, beq_eq_false_iff_ne.mpr h0]
      simp

theorem insKids_ne {lone : Bool} {old new : String} {k k' : Kids} (h : insKids lone old new k = some k') : k ≠ [] ∧ k' ≠ [] := by
  have hl := insKids_length h
  cases k with
  | nil => simp [insKids] at h
  | cons x r => exact ⟨by simp, fun h0 => by simp [h0] at hl⟩

/-! ## what an insertion does to the leaves and to the split list -/

/-- the entries at the tip afterwards.  `sib = true`: the tip's branch stays and the new tip is one more
    child of the parent; `sib = false`: the tip's branch carries the cherry of the new tip and the old one -/
def insLocal (old new : String) (e : EdgeD) : Bool → List SplitE
  | true => [⟨[old], e, true⟩, ⟨[new], zeroEdge, true⟩]
  | false => [⟨[new, old], e, false⟩, ⟨[new], zeroEdge, true⟩, ⟨[old], zeroEdge, true⟩]

/-- the split list after `new` has been put next to the leaf `old` (tip branch `e`; the sibling case only
    arises when that branch has length 0) -/
def InsertedL (nd : Prop) (old new : String) (l l' : List SplitE) : Prop :=
  ∃ e sib, (sib = true → wL e = 0) ∧ Replaced nd old [new, old] [⟨[old], e, true⟩] (insLocal old new e sib) l l'

mutual
theorem insAt_splits {old new : String} : ∀ (t t' : T), insAt old new t = some t' →
    LeavesRepl old [new, old] t.leaves t'.leaves ∧ InsertedL t.leaves.Nodup old new t.splitsBelow t'.splitsBelow
  | .node d p k, t', h => by
    obtain ⟨k', hk, rfl⟩ := insAt_some h
    rw [T.leaves_node_ne d p (insKids_ne hk).1, T.leaves_node_ne d p (insKids_ne hk).2]
    simpa using insKids_splits k k' hk
theorem insKids_splits {lone : Bool} {old new : String} : ∀ (k k' : Kids), insKids lone old new k = some k' →
    LeavesRepl old [new, old] (leavesL k) (leavesL k') ∧ InsertedL (leavesL k).Nodup old new (splitsL k) (splitsL k')
  | [], _, h => by simp [insKids] at h
  | (e, t) :: r, k', h => by
    have hdisj : ∀ s ∈ splitsL r, ∀ {A : List String}, (A ++ leavesL r).Nodup → old ∈ A → old ∉ s.below :=
      fun s hs _ hnd ha hold => nodup_append_disj hnd ha (below_subL r s hs old hold)
    rcases insKids_cases h with ⟨hl, hn, h0, rfl⟩ | ⟨hl, hn, _, rfl⟩ | ⟨_, t', ht, rfl⟩ | ⟨_, _, r', hr, rfl⟩
    · -- one more child of the parent, behind the others
      obtain ⟨hlv, hsb⟩ := And.intro (T.leaves_of_isLeaf hl) (T.splitsBelow_of_isLeaf hl)
      simp only [leavesL_append, splitsL_append, leavesL_cons, splitsL_cons, hlv, hn, hsb, hl,
        List.nil_append]
      refine ⟨⟨leavesL r, .refl _, List.perm_append_singleton new _⟩, e, true,
        fun _ => wL_of_len_zero (Bool.and_eq_true _ _ ▸ h0 : (e.len == 0) = true ∧ (!lone) = true).1, ?_⟩
      refine ((Replaced.base _ old [new, old] [⟨[old], e, true⟩] (insLocal old new e true)).append_right (splitsL r)
        fun s hs hnd => hdisj s hs hnd (List.mem_singleton_self old)).perm_right ?_
      exact (List.perm_append_singleton _ _).trans (List.Perm.swap _ _ _)
    · -- the cherry
      obtain ⟨hlv, hsb⟩ := And.intro (T.leaves_of_isLeaf hl) (T.splitsBelow_of_isLeaf hl)
      simp only [leavesL_cons, splitsL_cons, cherry_leaves, cherry_splits, hlv, hn, hsb, hl]
      refine ⟨⟨leavesL r, .refl _, .refl _⟩, e, false, Bool.noConfusion, ?_⟩
      exact (Replaced.base _ old [new, old] [⟨[old], e, true⟩] (insLocal old new e false)).append_right (splitsL r)
        fun s hs hnd => hdisj s hs hnd (List.mem_singleton_self old)
    · simp only [leavesL_cons, splitsL_cons]
      obtain ⟨hlv, e₀, sib, hz, hsp⟩ := insAt_splits t t' ht
      refine ⟨hlv.append_right (leavesL r), e₀, sib, hz, ?_⟩
      exact ((hsp.mono fun hnd => (List.nodup_append.mp hnd).1).under
        (s := ⟨t.leaves, e, t.isLeaf⟩) (s' := ⟨t'.leaves, e, t'.isLeaf⟩) ⟨rfl, Or.inr hlv⟩).append_right (splitsL r)
        fun s hs hnd => hdisj s hs hnd hlv.tip_mem
    · simp only [leavesL_cons, splitsL_cons]
      obtain ⟨hlv, e₀, sib, hz, hsp⟩ := insKids_splits r r' hr
      refine ⟨hlv.append_left t.leaves, e₀, sib, hz, ?_⟩
      exact (hsp.mono fun hnd => (List.nodup_append.mp hnd).2.1).append_left (⟨t.leaves, e, t.isLeaf⟩ :: t.splitsBelow)
        fun s hs hnd hold => nodup_append_disj hnd
          (by rcases List.mem_cons.mp hs with rfl | hs
              · exact hold
              · exact below_sub t s hs old hold) hlv.tip_mem
end

section
variable {nd : Prop} {old new : String} {l l' : List SplitE}

theorem InsertedL.dist_out (h : InsertedL nd old new l l') {a b : String} (ha : a ≠ new) (hb : b ≠ new) :
    distW wL l' a b = distW wL l a b := by
  obtain ⟨e, sib, _, h⟩ := h
  have := h.dist_keep wL (a := a) (b := b) (by simp [ha]) (by simp [hb])
  have loc : distW wL (insLocal old new e sib) a b = distW wL [⟨[old], e, true⟩] a b := by
    cases sib <;> simp [insLocal, distW_cons, distW_nil, SplitE.sep, ha, hb, wL_zeroEdge, Rat.add_zero]
  rw [loc] at this
  grind

/-- the new tip is as far from everything else as the tip it was put next to (unique leaf names) -/
theorem InsertedL.dist_new (h : InsertedL nd old new l l') (hnd : nd) (hn : ∀ s ∈ l, new ∉ s.below) {x : String}
    (hx : x ≠ new) : distW wL l' new x = distW wL l old x := by
  obtain ⟨e, sib, hz, h⟩ := h
  have := h.dist_new wL hnd (a := x) (b := new) (by simp [hx]) (by simp) hn
  have loc : distW wL (insLocal old new e sib) x new = distW wL [⟨[old], e, true⟩] x old := by
    cases sib
    · by_cases hxo : x = old <;> simp [insLocal, distW_cons, distW_nil, SplitE.sep, hx, hxo, wL_zeroEdge, Rat.add_zero]
    · simp [insLocal, distW_cons, distW_nil, hz rfl, wL_zeroEdge, Rat.add_zero]
  rw [loc] at this
  rw [distW_comm wL l' new x, distW_comm wL l old x]
  grind

/-- the branches afterwards: the old ones and one or two new branches of length 0 -/
theorem InsertedL.edges (h : InsertedL nd old new l l') :
    (l'.map (·.e)).Perm (zeroEdge :: l.map (·.e)) ∨ (l'.map (·.e)).Perm (zeroEdge :: zeroEdge :: l.map (·.e)) := by
  obtain ⟨e, sib, _, h⟩ := h
  have := (List.perm_append_singleton e _).symm.trans h.edges
  cases sib
  · right
    simp only [insLocal, List.map_cons, List.map_nil] at this
    exact (this.trans List.perm_middle).cons_inv.trans List.perm_append_comm
  · left
    simp only [insLocal, List.map_cons, List.map_nil] at this
    exact (this.trans List.perm_middle).cons_inv.trans List.perm_append_comm

end

/-! ## … stated for `insAt` / `insKids` -/

theorem insKids_perm {lone : Bool} {old new : String} (k k' : Kids) (h : insKids lone old new k = some k') :
    (leavesL k').Perm (new :: leavesL k) := by
  obtain ⟨m, h1, h2⟩ := (insKids_splits k k' h).1
  exact h2.trans (h1.symm.cons new)

theorem insKids_mem {lone : Bool} {old new : String} {k k' : Kids} (h : insKids lone old new k = some k') (x : String) :
    x ∈ leavesL k' ↔ x = new ∨ x ∈ leavesL k := by
  rw [(insKids_perm k k' h).mem_iff]; simp

theorem insKids_old_mem {lone : Bool} {old new : String} (k k' : Kids) (h : insKids lone old new k = some k') :
    old ∈ leavesL k :=
  (insKids_splits k k' h).1.tip_mem

theorem insAt_dist_out {old new : String} : ∀ (t t' : T), insAt old new t = some t' →
    ∀ a b, a ≠ new → b ≠ new → distW wL t'.splitsBelow a b = distW wL t.splitsBelow a b :=
  fun t t' h _ _ ha hb => (insAt_splits t t' h).2.dist_out ha hb

theorem insAt_dist_new {old new : String} : ∀ (t t' : T), insAt old new t = some t' →
    t.leaves.Nodup → new ∉ t.leaves → ∀ x, x ≠ new →
    distW wL t'.splitsBelow new x = distW wL t.splitsBelow old x :=
  fun t t' h hu hn _ hx => (insAt_splits t t' h).2.dist_new hu (out_of_sub _ _ hn) hx

theorem insAt_edges {old new : String} : ∀ (t t' : T), insAt old new t = some t' →
    (t'.splitsBelow.map (·.e)).Perm (zeroEdge :: t.splitsBelow.map (·.e)) ∨
    (t'.splitsBelow.map (·.e)).Perm (zeroEdge :: zeroEdge :: t.splitsBelow.map (·.e)) :=
  fun t t' h => (insAt_splits t t' h).2.edges

end Gotree.C15

/-
  C08 — the interpreter of the glue table (Model/C08Cli.lean) read on `expectedGlue`: the row
  `printf` of each combination of flags, and the text it produces for a record.
-/
import Gotree.Model.C08Cli

namespace Gotree.C08
open Gotree

/-- the row `printf` of each mode (text, pieces, arguments): `--binary` first, then `--weighted`,
    then `--rf` -/
def rowOf (f : Flags) : String × List Piece × List Arg :=
  if f.binary then ("%d\t%v\n", fmtBinary, [.sum ["st.Id"], .sum ["st.Sametree"]])
  else if f.weighted then
    ("%d\t%E\t%E\n", [.verb 'd', .lit "\t", .verb 'E', .lit "\t", .verb 'E', .lit "\n"],
      [.sum ["st.Id"], .sum ["wrf"], .other "math.Sqrt(kf)"])
  else if f.rf then ("%d\n", [.verb 'd', .lit "\n"], [.cell "rfs"])
  else ("%d\t%d\t%d\t%d\n", fmtPlain, [.sum ["st.Id"], .sum ["st.Tree1"], .sum ["st.Common"], .sum ["st.Tree2"]])

theorem rowEvent_eq (f : Flags) :
    (rowEvent expectedGlue f).map (fun e => (e.text, e.fmt, e.args)) = some (rowOf f) := by
  rcases f with ⟨t, b, r, w⟩
  cases t <;> cases b <;> cases r <;> cases w <;> decide

theorem rowText_eq (f : Flags) (rc : Rec) :
    rowText expectedGlue f rc =
      ((rowOf f).2.2.mapM (evalArg (reached expectedGlue f) rc)).bind (sprintf (rowOf f).2.1) := by
  have h := rowEvent_eq f
  unfold rowText
  cases he : rowEvent expectedGlue f with
  | none => rw [he] at h; cases h
  | some e => rw [he] at h; rw [← Option.some.inj h]

/-- a map cell is read through the `assign` event that fills it -/
theorem evalArg_cell {evs : List Event} {m : String} {l : List String}
    (h : (evs.find? fun e => e.kind == "assign" && e.text == m).map (·.args) = some [.sum l]) (r : Rec) :
    evalArg evs r (.cell m) = sumAtoms r l := by
  cases he : evs.find? fun e => e.kind == "assign" && e.text == m with
  | none => rw [he] at h; cases h
  | some e =>
    have ha : e.args = [.sum l] := by rw [he] at h; exact Option.some.inj h
    simp only [evalArg, he, ha]

theorem rf_cell (tips : Bool) :
    ((reached expectedGlue (rfF tips)).find? fun e => e.kind == "assign" && e.text == "rfs").map (·.args)
      = some [.sum ["st.Tree1", "st.Tree2"]] := by
  cases tips <;> decide

theorem rowText_plain (tips : Bool) (rc : Rec) : rowText expectedGlue (plainF tips) rc = some (plainLine rc) := by
  rw [rowText_eq]
  simp [rowOf, plainF, evalArg, sumAtoms, atom, sprintf, sprintfP, fmtPlain, plainLine]

theorem rowText_rf (tips : Bool) (rc : Rec) : rowText expectedGlue (rfF tips) rc = some (rfLine rc) := by
  rw [rowText_eq]
  show ([Arg.cell "rfs"].mapM (evalArg (reached expectedGlue (rfF tips)) rc)).bind (sprintf [.verb 'd', .lit "\n"]) = _
  simp [evalArg_cell (rf_cell tips), sumAtoms, atom, sprintf, sprintfP, rfLine]

theorem rowText_binary (f : Flags) (hb : f.binary = true) (rc : Rec) :
    rowText expectedGlue f rc = some (binaryLine rc) := by
  rw [rowText_eq]
  simp [rowOf, hb, evalArg, sumAtoms, atom, sprintf, sprintfP, fmtBinary, binaryLine]

/-- rows of records that all succeed: the Spec's rows, nothing failed -/
theorem rows_spec (g : Glue) (f : Flags) (line : Rec → String) (r : T) (tips : Bool) :
    ∀ (cs : List T) (id : Nat),
      (∀ c ∈ cs, ∀ id, ∃ rc, recOf g f r c id = some (.ok rc) ∧ rowText g f rc = some (line (specRec r c tips id))) →
      rowsUntilErr g f r cs id = some (specRows line r tips cs id, false)
  | [], _, _ => rfl
  | c :: cs, id, h => by
    obtain ⟨rc, h1, h2⟩ := h c (by simp) id
    simp only [rowsUntilErr, h1, h2, rows_spec g f line r tips cs (id + 1) (fun x hx => h x (by simp [hx])), specRows]

@[simp] theorem plainF_tips (t : Bool) : (plainF t).tips = t := rfl
@[simp] theorem rfF_tips (t : Bool) : (rfF t).tips = t := rfl

end Gotree.C08

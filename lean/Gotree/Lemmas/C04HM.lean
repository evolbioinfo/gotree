/-
  C04 — `hashmap.HashMap` refines an association list (proof of `hm_refines`).

  Two layers.  (1) `get_flat` / `put_flat`: `Value` and `PutValue` are `Assoc.get` / `Assoc.put` on the
  content of the map in bucket order, as soon as the stored keys equal to the key at hand hash like it
  (`Compat`); nothing else is asked of `HashEquals`.  (2) `Holds f m a`: the map `m`, whose keys are the
  images under `f` of abstract keys, holds the association list `a` over the abstract keys up to order.
  The key laws are asked of the abstract keys only (the index records of branches are lawful as
  records of branches of trees on one taxon set, not as a type).  Core Lean only.
-/
import Gotree.Lemmas.Buckets

namespace Gotree.C04
open Gotree.Buckets (insertAll insertAll_ok placed_replicate get_bucket put_bucket noMatch_bucket)

section
variable {κ κ' ν : Type} {hash : κ → UInt64} {eqv : κ → κ → Bool}

theorem reinsert_eq (n : Nat) (l : List (κ × ν)) (bs : List (List (κ × ν))) :
    reinsert hash n l bs = insertAll (fun k => indexFor (hash k) n) l bs := by
  induction l generalizing bs with
  | nil => rfl
  | cons kv r ih => simp only [reinsert, appendAt, insertAll]; cases bs[indexFor (hash kv.1) n]? <;> simp only [ih]

/- ### layer 1: the map is the association list of its content -/

/-- every entry sits in the bucket its hash selects -/
def Placed (hash : κ → UInt64) (cap : Nat) (bs : List (List (κ × ν))) : Prop :=
  ∀ i b, bs[i]? = some b → ∀ kv ∈ b, indexFor (hash kv.1) cap = i

structure Inv (hash : κ → UInt64) (m : HM κ ν) : Prop where
  len : m.buckets.length = m.cap
  pos : 1 ≤ m.cap
  placed : Placed hash m.cap m.buckets
  total : m.total = m.buckets.flatten.length

/-- the entries of `l` equal to `k` hash like `k` -/
def Compat (hash : κ → UInt64) (eqv : κ → κ → Bool) (k : κ) (l : List (κ × ν)) : Prop :=
  ∀ kv ∈ l, eqv k kv.1 = true → hash kv.1 = hash k

theorem indexFor_lt (h : UInt64) {cap : Nat} (hc : 1 ≤ cap) : indexFor h cap < cap := by
  have : h.toNat &&& (cap - 1) ≤ cap - 1 := Nat.and_le_right
  unfold indexFor; omega

theorem inv_new (size : Nat) : Inv hash (HM.new size : HM κ ν) := by
  unfold HM.new
  refine ⟨by simp, ?_, placed_replicate (ix := fun k => indexFor (hash k) _) _, by simp⟩
  show 1 ≤ (if (size == 0) = true then 1 else size)
  split
  · exact Nat.le_refl 1
  · rename_i h; simp at h; omega

theorem flatten_new (size : Nat) : (HM.new size : HM κ ν).buckets.flatten = [] := by
  unfold HM.new; exact List.flatten_replicate_nil

/-- the bucket of a key, as `Lemmas/Buckets.lean` reads it -/
abbrev ixOf (hash : κ → UInt64) (cap : Nat) (k : κ) : Nat := indexFor (hash k) cap

theorem Compat.near {k : κ} {l : List (κ × ν)} (hc : Compat hash eqv k l) (cap : Nat) :
    Buckets.Near eqv (ixOf hash cap) k l := fun kv h e => by rw [ixOf, hc kv h e]

theorem Inv.bucket {m : HM κ ν} (hI : Inv hash m) (k : κ) : ∃ b, m.buckets[indexFor (hash k) m.cap]? = some b :=
  ⟨_, List.getElem?_eq_getElem (by rw [hI.len]; exact indexFor_lt _ hI.pos)⟩

/-- `Value` looks in one bucket; the keys equal to `k` can sit nowhere else -/
theorem get_flat {m : HM κ ν} (hI : Inv hash m) {k : κ} (hc : Compat hash eqv k m.buckets.flatten) :
    m.get hash eqv k = some (Assoc.get eqv k m.buckets.flatten) := by
  obtain ⟨b, hb⟩ := hI.bucket k
  simp only [HM.get, hb, bucketFind_eq]
  exact congrArg some (get_bucket (ix := ixOf hash m.cap) hI.placed (hc.near _) hb)

/-- `rehash` keeps the invariant and only reorders -/
theorem rehash_flat (policy : Nat → Nat → Bool) {m : HM κ ν} (hI : Inv hash m) :
    ∃ m', m.rehash hash policy = some m' ∧ Inv hash m' ∧ m'.buckets.flatten.Perm m.buckets.flatten := by
  unfold HM.rehash
  split
  · have h2 : 1 ≤ 2 * m.cap := by have := hI.pos; omega
    obtain ⟨bs', h1, hl, hp, hperm⟩ := insertAll_ok (ix := fun k => indexFor (hash k) (2 * m.cap))
      (fun k => indexFor_lt _ h2) m.buckets.flatten (List.replicate (2 * m.cap) []) (by simp) (placed_replicate _)
    rw [List.flatten_replicate_nil, List.nil_append] at hperm
    exact ⟨⟨bs', 2 * m.cap, m.total⟩, by simp only [reinsert_eq, h1], ⟨hl, h2, hp, by rw [hperm.length_eq]; exact hI.total⟩, hperm⟩
  · exact ⟨m, rfl, hI, .refl _⟩

/-- `PutValue` keeps the invariant and is `Assoc.put` on the content up to order: an update in place, or an
    append followed by the rehash, which only reorders -/
theorem put_flat (policy : Nat → Nat → Bool) {m : HM κ ν} (hI : Inv hash m) {k : κ}
    (hc : Compat hash eqv k m.buckets.flatten) (v : ν) :
    ∃ m', m.put hash eqv policy k v = some m' ∧ Inv hash m' ∧
      m'.buckets.flatten.Perm (Assoc.put eqv k v m.buckets.flatten) := by
  obtain ⟨b, hb⟩ := hI.bucket k
  obtain ⟨hpl, hperm⟩ := put_bucket (ix := ixOf hash m.cap) hI.placed (hc.near _) hb v
  have hm := noMatch_bucket (ix := ixOf hash m.cap) hI.placed (hc.near _) hb
  have hs := bucketReplace_spec (eqv := eqv) k v b
  simp only [HM.put, hb]
  cases hr : bucketReplace eqv k v b with
  | some b' =>
    rw [hr] at hs
    obtain ⟨rfl, hnm⟩ := hs
    refine ⟨_, rfl, ⟨by simp [hI.len], hI.pos, hpl, ?_⟩, hperm⟩
    rw [hperm.length_eq, ← List.length_map (f := Prod.fst), put_keys (mt hm.mp hnm), List.length_map]; exact hI.total
  | none =>
    rw [hr] at hs
    rw [put_nomatch hs] at hpl hperm
    rw [put_nomatch (hm.mpr hs)] at hperm ⊢
    obtain ⟨m', e, hI', hp'⟩ := rehash_flat policy (hash := hash)
      (m := { m with buckets := m.buckets.set (indexFor (hash k) m.cap) (b ++ [(k, v)]), total := m.total + 1 })
      ⟨by simp [hI.len], hI.pos, hpl, by simp [hperm.length_eq, hI.total]⟩
    exact ⟨m', e, hI', hp'.trans hperm⟩

theorem get_refines (L : KeyLaws hash eqv) {m : HM κ ν} (hI : Inv hash m) (k : κ) :
    m.get hash eqv k = some (Assoc.get eqv k m.buckets.flatten) :=
  get_flat hI fun _ _ e => (L.compat _ _ e).symm

theorem put_refines (L : KeyLaws hash eqv) (policy : Nat → Nat → Bool) {m : HM κ ν} (hI : Inv hash m) (k : κ) (v : ν) :
    ∃ m', m.put hash eqv policy k v = some m' ∧ Inv hash m' ∧
      m'.buckets.flatten.Perm (Assoc.put eqv k v m.buckets.flatten) :=
  put_flat policy hI (fun _ _ e => (L.compat _ _ e).symm) v

theorem keyValues_refines {m : HM κ ν} (hI : Inv hash m) : m.keyValues = some m.buckets.flatten := by
  simp [HM.keyValues, hI.total]

/- ### layer 2: a map with keys `f x` holds an association list over the `x` -/

/-- the map key of an `EdgeIndex` operation -/
def EIOp.mapKey (g : κ' → κ) : EIOp κ' → EIOp κ
  | .add k l => .add (g k) l
  | .putv k c l => .putv (g k) c l
  | .value k => .value (g k)
  | .edges a b => .edges a b
  | .unindexed => .unindexed

def HMOp.mapKey (g : κ' → κ) : HMOp κ' ν → HMOp κ ν
  | .put k v => .put (g k) v
  | .get k => .get (g k)
  | .kvs => .kvs
  | .keys => .keys

def HMOut.mapKey (g : κ' → κ) : HMOut κ' ν → HMOut κ ν
  | .unit => .unit
  | .val o => .val o
  | .kvs l => .kvs (mapB g l)
  | .panic => .panic
  | .keys l => .keys (l.map g)

variable {f : κ' → κ}

/-- `m` holds, up to order, the entries `a` with their keys read through `f`; no two keys of `a` are equal -/
structure Holds (f : κ' → κ) (hash : κ → UInt64) (eqv : κ → κ → Bool) (m : HM κ ν) (a : List (κ' × ν)) : Prop where
  inv : Inv hash m
  perm : m.buckets.flatten.Perm (mapB f a)
  nodup : NoDupK (fun x y => eqv (f x) (f y)) a

theorem Holds.new (cap : Nat) : Holds f hash eqv (HM.new cap : HM κ ν) [] :=
  ⟨inv_new cap, by rw [flatten_new]; exact .nil, .nil⟩

section
variable (L : KeyLaws (fun x => hash (f x)) fun x y => eqv (f x) (f y)) {m : HM κ ν} {a : List (κ' × ν)}
  (h : Holds f hash eqv m a)
include L h

theorem Holds.compat (k : κ') : Compat hash eqv (f k) m.buckets.flatten := fun kv hkv e => by
  obtain ⟨x, _, rfl⟩ := List.mem_map.mp (h.perm.mem_iff.mp hkv)
  exact (L.compat _ _ e).symm

theorem Holds.uniq (k : κ') : Uniq eqv (f k) (mapB f a) := List.Pairwise.map _ (fun _ _ h => h) (h.nodup.uniq L k)

theorem Holds.get (k : κ') : m.get hash eqv (f k) = some (Assoc.get (fun x y => eqv (f x) (f y)) k a) := by
  rw [get_flat h.inv (h.compat L k), ← get_perm h.perm.symm (h.uniq L k), get_mapB]

theorem Holds.put (policy : Nat → Nat → Bool) (k : κ') (v : ν) :
    ∃ m', m.put hash eqv policy (f k) v = some m' ∧ Holds f hash eqv m' (Assoc.put (fun x y => eqv (f x) (f y)) k v a) := by
  obtain ⟨m', e, hI, hp⟩ := put_flat policy h.inv (h.compat L k) v
  refine ⟨m', e, hI, ?_, h.nodup.put L k v⟩
  rw [← put_mapB]
  exact hp.trans (put_perm h.perm ((h.uniq L k).perm h.perm.symm))

/-- the simulation relation carried through a script -/
theorem Holds.run (policy : Nat → Nat → Bool) (ops : List (HMOp κ' ν)) :
    HMOut.simL (HM.run hash eqv policy (ops.map (HMOp.mapKey f)) m)
      ((Assoc.run (fun x y => eqv (f x) (f y)) ops a).map (HMOut.mapKey f)) := by
  induction ops generalizing m a with
  | nil => exact trivial
  | cons op r ih =>
    cases op with
    | put k v =>
      obtain ⟨m', h1, h2⟩ := h.put L policy k v
      simp only [List.map_cons, HMOp.mapKey, HM.run, h1, Assoc.run]
      exact ⟨trivial, ih h2⟩
    | get k =>
      simp only [List.map_cons, HMOp.mapKey, HM.run, h.get L, Assoc.run]
      exact ⟨rfl, ih h⟩
    | kvs =>
      simp only [List.map_cons, HMOp.mapKey, HM.run, keyValues_refines h.inv, Assoc.run]
      exact ⟨h.perm, ih h⟩
    | keys =>
      simp only [List.map_cons, HMOp.mapKey, HM.run, keyValues_refines h.inv, Assoc.run]
      exact ⟨(h.perm.map _).trans (.of_eq (by simp [mapB, Function.comp_def])), ih h⟩

end

/-- `EdgeIndex` scripts: the replies are exactly those of the association list -/
theorem Holds.runEI (L : KeyLaws (fun x => hash (f x)) fun x y => eqv (f x) (f y))
    {m : HM κ EIInfo} {a : List (κ' × EIInfo)} (h : Holds f hash eqv m a) (policy : Nat → Nat → Bool) (ops : List (EIOp κ')) :
    EI.run hash eqv policy (ops.map (EIOp.mapKey f)) m = Assoc.runEI (fun x y => eqv (f x) (f y)) ops a := by
  induction ops generalizing m a with
  | nil => rfl
  | cons op r ih =>
    have put := fun k v => h.put L policy k v
    cases op with
    | add k len =>
      simp only [List.map_cons, EIOp.mapKey, EI.run, h.get L, Assoc.runEI]
      cases Assoc.get (fun x y => eqv (f x) (f y)) k a with
      | none => obtain ⟨m', h1, h2⟩ := put k ⟨1, len⟩; simp only [h1, ih h2]
      | some v => obtain ⟨m', h1, h2⟩ := put k ⟨v.count + 1, v.len + len⟩; simp only [h1, ih h2]
    | putv k c l =>
      obtain ⟨m', h1, h2⟩ := put k ⟨c, l⟩
      simp only [List.map_cons, EIOp.mapKey, EI.run, h1, Assoc.runEI, ih h2]
    | value k => simp only [List.map_cons, EIOp.mapKey, EI.run, h.get L, Assoc.runEI, ih h]
    | edges mn mx =>
      simp only [List.map_cons, EIOp.mapKey, EI.run, keyValues_refines h.inv, Assoc.runEI, ih h, (h.perm.filter _).length_eq,
        mapB, List.filter_map, List.length_map, Function.comp_def]
    | unindexed => simp only [List.map_cons, EIOp.mapKey, EI.run, Assoc.runEI, ih h]

/-! ### maps fresh from `NewHashMap` -/

/-- keys `f k` on which `eqv` is the relation `R` of the `k`: the map answers like the plain map keyed by `R` -/
theorem hm_new_on (f : κ' → κ) (hash : κ → UInt64) (eqv : κ → κ → Bool) {R : κ' → κ' → Bool}
    (he : ∀ a b, eqv (f a) (f b) = R a b) (L : KeyLaws (fun a => hash (f a)) fun a b => eqv (f a) (f b))
    (cap : Nat) (policy : Nat → Nat → Bool) (ops : List (HMOp κ' ν)) :
    HMOut.simL (HM.run hash eqv policy (ops.map (HMOp.mapKey f)) (HM.new cap))
      ((Assoc.run R ops []).map (HMOut.mapKey f)) := by
  obtain rfl : (fun a b => eqv (f a) (f b)) = R := funext fun a => funext (he a)
  exact (Holds.new cap).run L policy ops

theorem ei_new_on (f : κ' → κ) (hash : κ → UInt64) (eqv : κ → κ → Bool) {R : κ' → κ' → Bool}
    (he : ∀ a b, eqv (f a) (f b) = R a b) (L : KeyLaws (fun a => hash (f a)) fun a b => eqv (f a) (f b))
    (cap : Nat) (policy : Nat → Nat → Bool) (ops : List (EIOp κ')) :
    EI.run hash eqv policy (ops.map (EIOp.mapKey f)) (HM.new cap) = Assoc.runEI R ops [] := by
  obtain rfl : (fun a b => eqv (f a) (f b)) = R := funext fun a => funext (he a)
  exact (Holds.new cap).runEI L policy ops

/-! keys that are lawful as a type: `f = id` -/

theorem mapB_id (a : List (κ × ν)) : mapB id a = a := by simp [mapB]

theorem HMOp.mapKey_id (ops : List (HMOp κ ν)) : ops.map (HMOp.mapKey id) = ops := by
  induction ops with
  | nil => rfl
  | cons op r ih => cases op <;> simp [HMOp.mapKey, ih]

theorem HMOut.mapKey_id (outs : List (HMOut κ ν)) : outs.map (HMOut.mapKey id) = outs := by
  induction outs with
  | nil => rfl
  | cons o r ih => cases o <;> simp [HMOut.mapKey, mapB_id, ih]

theorem EIOp.mapKey_id (ops : List (EIOp κ)) : ops.map (EIOp.mapKey id) = ops := by
  induction ops with
  | nil => rfl
  | cons op r ih => cases op <;> simp [EIOp.mapKey, ih]

theorem hm_new_refines (L : KeyLaws hash eqv) (cap : Nat) (policy : Nat → Nat → Bool) (ops : List (HMOp κ ν)) :
    HMOut.simL (HM.run hash eqv policy ops (HM.new cap)) (Assoc.run eqv ops []) := by
  have := hm_new_on id hash eqv (fun _ _ => rfl) L cap policy ops
  rwa [HMOp.mapKey_id, HMOut.mapKey_id] at this

theorem ei_new_refines (L : KeyLaws hash eqv) (cap : Nat) (policy : Nat → Nat → Bool) (ops : List (EIOp κ)) :
    EI.run hash eqv policy ops (HM.new cap) = Assoc.runEI eqv ops [] := by
  have := ei_new_on id hash eqv (fun _ _ => rfl) L cap policy ops
  rwa [EIOp.mapKey_id] at this

/-! ### counting with `AddEdgeCount` -/

/-- the association list after one `AddEdgeCount` -/
def addA (eqv : κ → κ → Bool) (a : List (κ × EIInfo)) (e : κ × Rat) : List (κ × EIInfo) :=
  match Assoc.get eqv e.1 a with
  | none => Assoc.put eqv e.1 ⟨1, e.2⟩ a
  | some v => Assoc.put eqv e.1 ⟨v.count + 1, v.len + e.2⟩ a

theorem runEI_adds (es : List (κ × Rat)) (rest : List (EIOp κ)) (a : List (κ × EIInfo)) :
    Assoc.runEI eqv (es.map (fun e => EIOp.add e.1 e.2) ++ rest) a =
      List.replicate es.length EIOut.unit ++ Assoc.runEI eqv rest (es.foldl (addA eqv) a) := by
  induction es generalizing a with
  | nil => rfl
  | cons e r ih =>
    simp only [List.map_cons, List.cons_append, Assoc.runEI, List.length_cons, List.replicate_succ, List.foldl_cons]
    congr 1
    rw [ih]
    rfl

/-- the record found for `k` after a list of `AddEdgeCount` calls -/
def merged (eqv : κ → κ → Bool) (k : κ) (es : List (κ × Rat)) : Option EIInfo → Option EIInfo
  | none => if countOf eqv k es = 0 then none else some ⟨(countOf eqv k es : Nat), lenOf eqv k es⟩
  | some v => some ⟨v.count + (countOf eqv k es : Nat), v.len + lenOf eqv k es⟩

theorem get_addAll (L : KeyLaws hash eqv) (k : κ) (es : List (κ × Rat)) (a : List (κ × EIInfo)) :
    Assoc.get eqv k (es.foldl (addA eqv) a) = merged eqv k es (Assoc.get eqv k a) := by
  induction es generalizing a with
  | nil =>
    simp only [List.foldl_nil, merged, countOf, lenOf, List.filter_nil, List.length_nil, List.map_nil, List.sum_nil]
    cases Assoc.get eqv k a with
    | none => rfl
    | some v => cases v; simp [Rat.add_zero]
  | cons e r ih =>
    obtain ⟨k', l⟩ := e
    rw [List.foldl_cons, ih]
    unfold addA
    cases hk : eqv k k' with
    | false =>
      have hc : countOf eqv k ((k', l) :: r) = countOf eqv k r := by simp [countOf, hk]
      have hl : lenOf eqv k ((k', l) :: r) = lenOf eqv k r := by simp [lenOf, hk]
      cases Assoc.get eqv k' a <;> simp only [get_put L, hk, Bool.false_eq_true, if_false] <;>
        cases Assoc.get eqv k a <;> simp only [merged, hc, hl]
    | true =>
      have hc : countOf eqv k ((k', l) :: r) = countOf eqv k r + 1 := by simp [countOf, hk]
      have hl : lenOf eqv k ((k', l) :: r) = l + lenOf eqv k r := by simp [lenOf, hk]
      rw [← get_congr L hk a]
      cases Assoc.get eqv k a with
      | none =>
        have : ¬ (countOf eqv k r + 1 = 0) := by omega
        simp only [get_put L, hk, if_true, merged, hc, hl, this, if_false, Option.some.injEq, EIInfo.mk.injEq]
        exact ⟨by rw [Int.natCast_add, Int.add_comm]; rfl, trivial⟩
      | some v =>
        simp only [get_put L, hk, if_true, merged, hc, hl, Option.some.injEq, EIInfo.mk.injEq]
        exact ⟨by omega, Rat.add_assoc ..⟩

end

end Gotree.C04

/-
  C20 — two arithmetic facts that Proofs/C20Tables.lean uses to read the extracted draw sites as the model's
  scripts: the bound function of a one-draw site, and `utreeBounds` in closed form.
-/
import Gotree.Model.C20Table

namespace Gotree.C20

theorem scriptBound_counter (c : Nat) : scriptBound [("Intn", .counter c)] = fun i => i + c := by
  funext i; simp [scriptBound]

/-- `2i - 3 = 1 + 2(i - 2)` and `2i - 2 = 2 + 2(i - 2)` on the tips `i ≥ 2` -/
theorem utreeBounds_eq (rooted : Bool) (n : Nat) :
    utreeBounds rooted n = (List.range' 2 (n - 2)).map fun i => (if rooted then 2 else 1) + 2 * (i - 2) := by
  unfold utreeBounds
  apply List.map_congr_left
  intro i hi
  have : 2 ≤ i := (List.mem_range'_1.mp hi).1
  cases rooted <;> simp <;> omega

end Gotree.C20

/-
  C20 — helper lemmas for `Gotree/Proofs/C20.lean`.  Core Lean only.
-/
import Gotree.Spec.C20

namespace Gotree.C20
open Gotree List

/-! ## sums of naturals over lists -/

theorem sum_map_congr {l : List α} {f g : α → Nat} (h : ∀ a ∈ l, f a = g a) :
    (l.map f).sum = (l.map g).sum := by
  rw [List.map_congr_left h]

theorem sum_map_add (l : List α) (f g : α → Nat) :
    (l.map fun a => f a + g a).sum = (l.map f).sum + (l.map g).sum := by
  induction l with
  | nil => rfl
  | cons a l ih => simp [ih]; omega

theorem sum_map_zero (l : List α) : (l.map fun _ => (0 : Nat)).sum = 0 := by
  simp [List.map_const', List.sum_replicate_nat]

theorem sum_map_const (l : List α) (c : Nat) : (l.map fun _ => c).sum = l.length * c := by
  rw [List.map_const', List.sum_replicate_nat]

theorem sum_map_mul_left (l : List α) (c : Nat) (f : α → Nat) :
    (l.map fun a => c * f a).sum = c * (l.map f).sum := by
  induction l with
  | nil => simp
  | cons a l ih => simp [ih, Nat.mul_add]

/-- exchange of two finite sums -/
theorem sum_comm (l : List α) (m : List β) (g : α → β → Nat) :
    (l.map fun a => (m.map fun b => g a b).sum).sum = (m.map fun b => (l.map fun a => g a b).sum).sum := by
  induction l with
  | nil => simp [sum_map_zero]
  | cons a l ih => simp [ih, sum_map_add]

theorem countP_eq_sum (p : α → Bool) (l : List α) :
    l.countP p = (l.map fun a => if p a then 1 else 0).sum := by
  induction l with
  | nil => rfl
  | cons a l ih => simp [List.countP_cons, ih, Nat.add_comm]

/-! ## draw spaces -/

theorem space_snoc (bs : List Nat) (b : Nat) :
    space (bs ++ [b]) = (space bs).flatMap fun ds => (List.range b).map fun j => ds ++ [j] := by
  simp [space, spaceR, List.reverse_append]

theorem space_nil : space [] = [[]] := rfl

theorem length_space_snoc (bs : List Nat) (b : Nat) : (space (bs ++ [b])).length = (space bs).length * b := by
  rw [space_snoc, List.length_flatMap]
  simp only [List.length_map, List.length_range]
  exact sum_map_const _ b

theorem countP_space_snoc (p : List Nat → Bool) (bs : List Nat) (b : Nat) :
    (space (bs ++ [b])).countP p =
      ((space bs).map fun ds => (List.range b).countP fun j => p (ds ++ [j])).sum := by
  rw [space_snoc, List.countP_flatMap]
  congr 1
  apply List.map_congr_left
  intro ds _
  simp [List.countP_map, Function.comp_def]

theorem length_space (bs : List Nat) : (space bs).length = bs.foldl (· * ·) 1 := by
  have : ∀ (rs : List Nat), (spaceR rs).length = rs.foldr (· * ·) 1 := by
    intro rs
    induction rs with
    | nil => rfl
    | cons b rs ih =>
      simp only [spaceR, List.length_flatMap, List.length_map, List.length_range, List.foldr_cons]
      rw [sum_map_const, ih, Nat.mul_comm]
  rw [space, this, List.foldr_reverse]
  congr 1
  funext a b
  exact Nat.mul_comm _ _

/-! ## bounds -/

theorem length_of_inBounds {bs ds : List Nat} (h : inBounds bs ds = true) : ds.length = bs.length := by
  induction bs generalizing ds with
  | nil => cases ds <;> simp_all [inBounds]
  | cons b bs ih =>
    cases ds with
    | nil => simp [inBounds] at h
    | cons j ds => simp [inBounds] at h; simp [ih h.2]

theorem inBounds_nil {ds : List Nat} (h : inBounds [] ds = true) : ds = [] :=
  List.eq_nil_of_length_eq_zero (length_of_inBounds h)

theorem inBounds_snoc (bs ds : List Nat) (b j : Nat) :
    inBounds (bs ++ [b]) (ds ++ [j]) = (inBounds bs ds && decide (j < b)) := by
  induction bs generalizing ds with
  | nil =>
    cases ds with
    | nil => simp [inBounds]
    | cons a ds => cases ds <;> simp [inBounds]
  | cons c bs ih =>
    cases ds with
    | nil => cases bs <;> simp [inBounds]
    | cons a ds => simp [inBounds, ih, Bool.and_assoc]

theorem inBounds_snoc_elim {bs ds : List Nat} {b : Nat} (h : inBounds (bs ++ [b]) ds = true) :
    ∃ ds' j, ds = ds' ++ [j] ∧ inBounds bs ds' = true ∧ j < b := by
  have hl := length_of_inBounds h
  rcases List.eq_nil_or_concat ds with rfl | ⟨ds', j, rfl⟩
  · simp at hl
  · refine ⟨ds', j, by simp, ?_⟩
    have : ds'.concat j = ds' ++ [j] := by simp
    rw [this, inBounds_snoc] at h
    simpa using h

theorem mem_space_iff (bs ds : List Nat) : ds ∈ space bs ↔ inBounds bs ds = true := by
  have : ∀ (rs : List Nat) ds, ds ∈ spaceR rs ↔ inBounds rs.reverse ds = true := by
    intro rs
    induction rs with
    | nil => intro ds; cases ds <;> simp [spaceR, inBounds]
    | cons b rs ih =>
      intro ds
      simp only [spaceR, List.mem_flatMap, List.mem_map, List.mem_range, List.reverse_cons]
      constructor
      · rintro ⟨d', hd', j, hj, rfl⟩
        rw [inBounds_snoc]; simp [(ih d').1 hd', hj]
      · intro h
        obtain ⟨d', j, rfl, h1, h2⟩ := inBounds_snoc_elim h
        exact ⟨d', (ih d').2 h1, j, h2, rfl⟩
  simpa [space] using this bs.reverse ds

theorem length_of_mem_space {bs ds : List Nat} (h : ds ∈ space bs) : ds.length = bs.length :=
  length_of_inBounds ((mem_space_iff _ _).1 h)

/-! ## reservoir: the loop as a fold -/

/-- the reservoir as a fold: the first `k` items fill the slots, every later item makes one draw -/
def resFold (k : Nat) (items : List α) (draws : List Nat) : List α :=
  ((items.drop k).zip draws).foldl (fun r p => resStep k r p.1 p.2) (items.take k)

theorem resLoop_eq_fold (k : Nat) (xs : List α) (i : Nat) (res : List α) (ds : List Nat) :
    resLoop k xs i res ds =
      ((xs.drop (k - i)).zip ds).foldl (fun r p => resStep k r p.1 p.2) (res ++ xs.take (k - i)) := by
  induction xs generalizing i res ds with
  | nil => simp [resLoop]
  | cons x xs ih =>
    by_cases h : i < k
    · have h1 : k - i = (k - (i + 1)) + 1 := by omega
      simp only [resLoop, if_pos h]
      rw [ih, h1]
      simp
    · have h0 : k - i = 0 := by omega
      cases ds with
      | nil => simp [resLoop, if_neg h, h0]
      | cons j ds' =>
        simp only [resLoop, if_neg h, h0]
        simp only [List.drop_zero, List.take_zero, List.append_nil, List.zip_cons_cons, List.foldl_cons]
        rw [ih]
        have h2 : k - (i + 1) = 0 := by omega
        simp [h2]

theorem reservoir_eq_fold (k : Nat) (items : List α) (ds : List Nat) :
    reservoir k items ds = resFold k items ds := by
  simp [reservoir, resFold, resLoop_eq_fold]

theorem resFold_snoc (k n : Nat) (ds : List Nat) (j : Nat) (hk : k ≤ n) (hl : ds.length = n - k) :
    resFold k (List.range (n + 1)) (ds ++ [j]) = resStep k (resFold k (List.range n) ds) n j := by
  have h1 : (List.range (n + 1)).drop k = (List.range n).drop k ++ [n] := by
    rw [List.range_succ, List.drop_append_of_le_length (by simpa using hk)]
  have h2 : (List.range (n + 1)).take k = (List.range n).take k := by
    rw [List.range_succ, List.take_append_of_le_length (by simpa using hk)]
  have h3 : ((List.range n).drop k).length = ds.length := by simp [hl]
  rw [resFold, h1, h2, List.zip_append h3, List.foldl_append]
  rfl

theorem resScript_succ (bound : Nat → Nat) (k n : Nat) (hk : k ≤ n) :
    resScript bound k (n + 1) = resScript bound k n ++ [bound n] := by
  have h1 : n + 1 - k = (n - k) + 1 := by omega
  have h2 : k + (n - k) = n := by omega
  simp [resScript, h1, List.range'_concat, h2]

theorem resScript_self (bound : Nat → Nat) (k : Nat) : resScript bound k k = [] := by
  simp [resScript]

theorem length_resScript (bound : Nat → Nat) (k n : Nat) : (resScript bound k n).length = n - k := by
  simp [resScript]

/-! ## reservoir: invariants (slots hold pairwise distinct items) -/

theorem nodup_set_of_not_mem {l : List Nat} {a : Nat} (i : Nat) (hn : l.Nodup) (ha : a ∉ l) :
    (l.set i a).Nodup := by
  induction l generalizing i with
  | nil => simp
  | cons b l ih =>
    cases i with
    | zero => simp_all
    | succ i =>
      simp only [List.set_cons_succ, List.nodup_cons, List.mem_cons, not_or] at *
      exact ⟨fun h => (List.mem_or_eq_of_mem_set h).elim hn.1 (fun e => ha.1 e.symm), ih i hn.2 ha.2⟩

/-- what the invariant says about the slots after `n ≥ k` items -/
structure ResInv (k n : Nat) (R : List Nat) : Prop where
  len : R.length = k
  nodup : R.Nodup
  lt : ∀ x ∈ R, x < n

theorem ResInv.fresh {k n : Nat} {R : List Nat} (h : ResInv k n R) : n ∉ R :=
  fun hm => Nat.lt_irrefl _ (h.lt n hm)

theorem ResInv.step {k n : Nat} {R : List Nat} (h : ResInv k n R) (j : Nat) :
    ResInv k (n + 1) (resStep k R n j) := by
  unfold resStep
  split
  · refine ⟨by simp [h.len], ?_, ?_⟩
    · exact nodup_set_of_not_mem j h.nodup h.fresh
    · intro x hx
      rcases List.mem_or_eq_of_mem_set hx with hx | rfl
      · exact Nat.lt_succ_of_lt (h.lt x hx)
      · exact Nat.lt_succ_self _
  · exact ⟨h.len, h.nodup, fun x hx => Nat.lt_succ_of_lt (h.lt x hx)⟩

theorem eq_snoc_of_length_succ {ds : List α} {m : Nat} (h : ds.length = m + 1) :
    ∃ ds' j, ds = ds' ++ [j] ∧ ds'.length = m := by
  rcases List.eq_nil_or_concat ds with rfl | ⟨ds', j, rfl⟩
  · simp at h
  · exact ⟨ds', j, by simp, by simpa using h⟩

theorem resFold_nil_draws (k : Nat) : resFold k (List.range k) [] = List.range k := by
  simp only [resFold, List.zip_nil_right, List.foldl_nil]
  exact List.take_of_length_le (by simp)

theorem resInv (k m : Nat) (ds : List Nat) (hl : ds.length = m) :
    ResInv k (k + m) (resFold k (List.range (k + m)) ds) := by
  induction m generalizing ds with
  | zero =>
    have : ds = [] := List.eq_nil_of_length_eq_zero hl
    subst this
    rw [Nat.add_zero, resFold_nil_draws]
    exact ⟨by simp, List.nodup_range, fun x hx => by simpa using hx⟩
  | succ m ih =>
    obtain ⟨ds', j, rfl, hl'⟩ := eq_snoc_of_length_succ hl
    have := resFold_snoc k (k + m) ds' j (by omega) (by omega)
    rw [show k + (m + 1) = (k + m) + 1 from rfl, this]
    exact (ih ds' hl').step j

/-! ## indicator vectors -/

theorem length_chi (n : Nat) (R : List Nat) : (indicator n R).length = n := by simp [indicator]

theorem getElem_chi (n : Nat) (R : List Nat) (x : Nat) (h : x < (indicator n R).length) :
    (indicator n R)[x] = R.contains x := by simp [indicator]

theorem chi_succ (n : Nat) (R : List Nat) : indicator (n + 1) R = indicator n R ++ [R.contains n] := by
  simp [indicator, List.range_succ]

theorem filter_range_perm {n : Nat} {S : List Nat} (hn : S.Nodup) (hS : ∀ x ∈ S, x < n) :
    S.Perm ((List.range n).filter fun x => S.contains x) := by
  apply (List.perm_ext_iff_of_nodup hn (List.nodup_range.sublist List.filter_sublist)).2
  intro a
  simp only [List.mem_filter, List.mem_range, List.contains_iff_mem]
  exact ⟨fun ha => ⟨hS a ha, ha⟩, fun ha => ha.2⟩

theorem mem_set_iff {R : List Nat} {j a x : Nat} (hn : R.Nodup) (hj : j < R.length) (hx : x ≠ a) :
    x ∈ R.set j a ↔ (x ∈ R ∧ x ≠ R[j]) := by
  constructor
  · intro h
    obtain ⟨i, hi, he⟩ := List.mem_iff_getElem.1 h
    rw [List.length_set] at hi
    rw [List.getElem_set] at he
    split at he
    · exact absurd he.symm hx
    · rename_i hne
      refine ⟨he ▸ List.getElem_mem hi, ?_⟩
      intro hxe
      have := (List.getElem_inj (h₀ := hi) (h₁ := hj) hn).1 (he.trans hxe)
      exact hne this.symm
  · rintro ⟨h, hne⟩
    obtain ⟨i, hi, he⟩ := List.mem_iff_getElem.1 h
    have hij : j ≠ i := fun hji => hne (by subst hji; exact he.symm)
    exact List.mem_iff_getElem.2 ⟨i, by simpa using hi, by simp [hij, he]⟩

theorem chi_set {k n : Nat} {R : List Nat} (h : ResInv k n R) (j : Nat) (hj : j < k) :
    indicator (n + 1) (R.set j n) = (indicator n R).set (R[j]'(h.len ▸ hj)) false ++ [true] := by
  have hjR : j < R.length := h.len ▸ hj
  rw [chi_succ]
  congr 1
  · apply List.ext_getElem
    · simp [length_chi]
    · intro x h1 h2
      have hx : x < n := by simpa [length_chi] using h1
      rw [getElem_chi, List.getElem_set]
      have hiff := mem_set_iff (j := j) (a := n) (x := x) h.nodup hjR (by omega)
      by_cases hxe : R[j] = x
      · subst hxe
        simp [hiff]
      · have hne : x ≠ R[j] := fun e => hxe e.symm
        simp [hxe, hiff, hne, getElem_chi]
  · simp [List.mem_set, hjR]

/-! ## counting helpers -/

theorem countP_range_getD (l : List α) (d : α) (G : α → Bool) (N : Nat) (h : l.length ≤ N) :
    (List.range N).countP (fun j => decide (j < l.length) && G (l.getD j d)) = l.countP G := by
  induction l generalizing N with
  | nil => simp
  | cons a l ih =>
    obtain ⟨N', rfl⟩ : ∃ N', N = N' + 1 := ⟨N - 1, by simp at h; omega⟩
    rw [List.range_succ_eq_map, List.countP_cons, List.countP_map]
    have h' : l.length ≤ N' := by simp at h; omega
    have := ih N' h'
    have e : (fun x : Nat => decide (x.succ < l.length + 1) && G (l.getD x d)) =
        (fun j => decide (j < l.length) && G (l.getD j d)) := by
      funext x; simp
    simp only [Function.comp_def, List.length_cons, List.getD_cons_succ]
    rw [e, this]
    simp [List.countP_cons]

theorem countP_range_ge (N k : Nat) (c : Bool) :
    (List.range N).countP (fun j => decide (k ≤ j) && c) = (N - k) * (if c then 1 else 0) := by
  induction N with
  | zero => simp
  | succ N ih =>
    rw [List.range_succ, List.countP_append, ih]
    cases c
    · simp
    · by_cases hk : k ≤ N
      · simp [hk]; omega
      · simp [hk]; omega

theorem count_true_add_false (s : List Bool) : s.count true + s.count false = s.length := by
  induction s with
  | nil => rfl
  | cons b s ih => cases b <;> simp <;> omega

theorem set_false_eq_iff (v s : List Bool) (y : Nat) (hy : y < v.length) (hv : v[y] = true)
    (hl : v.length = s.length) :
    v.set y false = s ↔ (s[y]'(hl ▸ hy) = false ∧ v = s.set y true) := by
  constructor
  · intro h
    subst h
    refine ⟨by simp, ?_⟩
    rw [List.set_set]
    exact (hv ▸ (List.set_getElem_self hy).symm)
  · rintro ⟨h1, h2⟩
    subst h2
    rw [List.set_set]
    have hy' : y < s.length := hl ▸ hy
    exact (h1 ▸ List.set_getElem_self hy')

/-! ## reservoir: the counting step -/

theorem chi_step {k n : Nat} {R : List Nat} (h : ResInv k n R) (j : Nat) :
    indicator (n + 1) (resStep k R n j) =
      if hj : j < k then (indicator n R).set (R[j]'(h.len ▸ hj)) false ++ [true] else indicator n R ++ [false] := by
  unfold resStep
  by_cases hj : j < k
  · simp only [hj, if_true, dif_pos]
    exact chi_set h j hj
  · simp only [hj, if_false, dif_neg, not_false_eq_true]
    rw [chi_succ]
    simp [h.fresh]

theorem inner_false {k n : Nat} {R : List Nat} (h : ResInv k n R) (s : List Bool) :
    (List.range (n + 1)).countP (fun j => indicator (n + 1) (resStep k R n j) == s ++ [false]) =
      (n + 1 - k) * (if indicator n R == s then 1 else 0) := by
  rw [← countP_range_ge]
  congr 1
  funext j
  rw [chi_step h j]
  by_cases hj : j < k
  · have hne : ¬ k ≤ j := by omega
    simp only [hj, dif_pos, hne, decide_false, Bool.false_and]
    simp
  · have hge : k ≤ j := by omega
    simp only [hj, dif_neg, not_false_eq_true, hge, decide_true, Bool.true_and]
    by_cases he : indicator n R = s <;> simp [he]

/-- the candidates for the item that was overwritten -/
def flipOK (v s : List Bool) (x : Nat) : Bool := (s.getD x true == false) && (v == s.set x true)

theorem inner_true {k n : Nat} {R : List Nat} (h : ResInv k n R) (hk : k ≤ n) (s : List Bool)
    (hs : s.length = n) :
    (List.range (n + 1)).countP (fun j => indicator (n + 1) (resStep k R n j) == s ++ [true]) =
      ((List.range n).map fun x => if flipOK (indicator n R) s x then 1 else 0).sum := by
  -- left: one term per slot
  have hL : (fun j => indicator (n + 1) (resStep k R n j) == s ++ [true]) =
      (fun j => decide (j < R.length) && ((indicator n R).set (R.getD j 0) false == s)) := by
    funext j
    rw [chi_step h j]
    by_cases hj : j < k
    · have hjR : j < R.length := h.len ▸ hj
      simp only [hj, dif_pos, hjR, decide_true, Bool.true_and]
      have hg : R.getD j 0 = R[j] := by simp [List.getD_eq_getElem?_getD, hjR]
      rw [hg]
      by_cases he : (indicator n R).set R[j] false = s <;> simp [he]
    · have hjR : ¬ j < R.length := h.len ▸ hj
      simp [hj, hjR]
  -- the slots hold the items of `R`, each once; an item `x` passes the test iff `flipOK`
  rw [hL, countP_range_getD R 0 (fun y => (indicator n R).set y false == s) (n + 1) (by rw [h.len]; omega),
    (filter_range_perm h.nodup h.lt).countP_eq, List.countP_filter, ← countP_eq_sum]
  apply List.countP_congr
  intro x hx
  have hxn : x < n := List.mem_range.1 hx
  have hxv : x < (indicator n R).length := by rw [length_chi]; exact hxn
  have hg : s.getD x true = s[x]'(hs ▸ hxn) := by simp [List.getD_eq_getElem?_getD, hs, hxn]
  have hiff := fun hv => set_false_eq_iff (indicator n R) s x hxv hv (by rw [length_chi, hs])
  simp only [flipOK, hg, Bool.and_eq_true, beq_iff_eq, List.contains_iff_mem]
  constructor
  · rintro ⟨he, hxR⟩
    exact (hiff (by rw [getElem_chi]; simpa using hxR)).1 he
  · rintro ⟨h1, h2⟩
    have hv : (indicator n R)[x] = true := by simp [h2]
    exact ⟨(hiff hv).2 ⟨h1, h2⟩, by simpa [getElem_chi] using hv⟩
/-! ## reservoir: every `k`-subset has exactly `(n-k)!` draw lists -/

theorem chi_range (k : Nat) : indicator k (List.range k) = List.replicate k true := by
  simp [indicator, List.eq_replicate_iff]

theorem count_flip (s : List Bool) (x : Nat) (hx : x < s.length) (hf : s[x] = false) :
    (s.set x true).count true = s.count true + 1 := by
  rw [List.count_set hx]
  simp [hf]

theorem sum_flip_candidates (s : List Bool) (c : Nat) :
    ((List.range s.length).map fun x => if (s.getD x true == false) then c else 0).sum = s.count false * c := by
  have h1 := countP_range_getD s true (fun b => b == false) s.length (Nat.le_refl _)
  have h2 : ((List.range s.length).map fun x => if (s.getD x true == false) then c else 0) =
      ((List.range s.length).map fun x => c * (if (decide (x < s.length) && (s.getD x true == false)) then 1 else 0)) := by
    apply List.map_congr_left
    intro x hx
    have : x < s.length := List.mem_range.1 hx
    by_cases hb : (s.getD x true == false) = true
    · simp only [hb, if_true, this, decide_true, Bool.and_self]; omega
    · simp only [hb, Bool.and_false]; simp
  rw [h2, sum_map_mul_left, ← countP_eq_sum, h1, Nat.mul_comm]
  rfl

theorem reservoir_count (k m : Nat) (s : List Bool) (hs : s.length = k + m) (hc : s.count true = k) :
    (space (resScript (· + 1) k (k + m))).countP
        (fun ds => indicator (k + m) (resFold k (List.range (k + m)) ds) == s) = fact m := by
  induction m generalizing s with
  | zero =>
    have hs' : s = List.replicate k true := by
      rw [List.eq_replicate_iff]
      refine ⟨hs, ?_⟩
      have : s.count true = s.length := by rw [hc, hs]; rfl
      intro b hb
      exact ((List.count_eq_length.1 this) b hb).symm
    simp [resScript_self, space_nil, resFold_nil_draws, chi_range, hs', fact]
  | succ m ih =>
    have hkn : k ≤ k + m := Nat.le_add_right _ _
    rw [show k + (m + 1) = (k + m) + 1 from rfl, resScript_succ _ _ _ hkn, countP_space_snoc]
    obtain ⟨s0, b, rfl, hs0⟩ := eq_snoc_of_length_succ (m := k + m) hs
    -- one more draw is one more step of the fold, from a state that satisfies the invariant
    have hstep : ∀ ds ∈ space (resScript (· + 1) k (k + m)), ∀ j,
        resFold k (List.range (k + m + 1)) (ds ++ [j]) = resStep k (resFold k (List.range (k + m)) ds) (k + m) j :=
      fun ds hds j => resFold_snoc k (k + m) ds j hkn (by rw [length_of_mem_space hds, length_resScript])
    have hinv : ∀ ds ∈ space (resScript (· + 1) k (k + m)), ResInv k (k + m) (resFold k (List.range (k + m)) ds) :=
      fun ds hds => resInv k m ds (by rw [length_of_mem_space hds, length_resScript]; omega)
    cases b with
    | false =>
      have hc0 : s0.count true = k := by simpa using hc
      rw [sum_map_congr fun ds hds => Eq.trans (by simp only [hstep ds hds]) (inner_false (hinv ds hds) s0),
        sum_map_mul_left, ← countP_eq_sum, ih s0 hs0 hc0, show k + m + 1 - k = m + 1 by omega]
      rfl
    | true =>
      have hc0 : s0.count true + 1 = k := by simpa using hc
      rw [sum_map_congr fun ds hds => Eq.trans (by simp only [hstep ds hds]) (inner_true (hinv ds hds) hkn s0 hs0),
        sum_comm]
      -- for every candidate x the inner sum is `fact m` by the induction hypothesis
      rw [sum_map_congr (g := fun x => if (s0.getD x true == false) then fact m else 0) fun x hx => by
        have hxn : x < s0.length := by rw [hs0]; exact List.mem_range.1 hx
        by_cases hf : (s0.getD x true == false) = true
        · have hfx : s0[x] = false := by
            have : s0.getD x true = s0[x] := by simp [List.getD_eq_getElem?_getD, hxn]
            rw [this] at hf; simpa using hf
          have := ih (s0.set x true) (by simpa using hs0) (by rw [count_flip s0 x hxn hfx]; exact hc0)
          rw [countP_eq_sum] at this
          simp only [flipOK, hf, Bool.true_and, if_true]
          exact this
        · simp only [flipOK, hf, Bool.false_and]
          simp only [Bool.false_eq_true, if_false]
          exact sum_map_zero _, ← hs0, sum_flip_candidates]
      have := count_true_add_false s0
      have hcf : s0.count false = m + 1 := by omega
      rw [hcf]
      rfl

/-! ## rand.Perm -/

theorem permScript_succ (n : Nat) : permScript (n + 1) = permScript n ++ [n + 1] := by
  simp [permScript, List.range_succ]

theorem goPerm_snoc (ds : List Nat) (j : Nat) : goPerm (ds ++ [j]) = permStep (goPerm ds) j := by
  simp [goPerm, List.foldl_append]

theorem permStep_lt (m : List Nat) (j : Nat) (hj : j < m.length) :
    permStep m j = m.set j m.length ++ [m[j]] := by
  simp [permStep, hj, List.getD_eq_getElem?_getD]

theorem permStep_self (m : List Nat) : permStep m m.length = m ++ [m.length] := by
  simp [permStep]

theorem length_permStep (m : List Nat) (j : Nat) : (permStep m j).length = m.length + 1 := by
  simp [permStep]

theorem set_append_getElem_perm (l : List Nat) (j a : Nat) (hj : j < l.length) :
    (l.set j a ++ [l[j]]).Perm (l ++ [a]) := by
  induction l generalizing j with
  | nil => simp at hj
  | cons b l ih =>
    cases j with
    | zero =>
      exact ((List.perm_append_singleton b l).cons a).trans
        ((List.Perm.swap b a l).trans ((List.perm_append_singleton a l).cons b).symm)
    | succ j => exact (ih j (by simpa using hj)).cons b

theorem permStep_perm (m : List Nat) (j : Nat) (hj : j ≤ m.length) :
    (permStep m j).Perm (m ++ [m.length]) := by
  rcases Nat.lt_or_eq_of_le hj with hlt | rfl
  · rw [permStep_lt m j hlt]
    exact set_append_getElem_perm m j m.length hlt
  · rw [permStep_self]

/-- the permutations produced are permutations of `0 … n-1` -/
theorem goPerm_perm (n : Nat) (ds : List Nat) (h : inBounds (permScript n) ds = true) :
    (goPerm ds).Perm (List.range n) := by
  induction n generalizing ds with
  | zero =>
    obtain rfl := inBounds_nil h
    simp [goPerm]
  | succ n ih =>
    rw [permScript_succ] at h
    obtain ⟨d', j, rfl, h1, h2⟩ := inBounds_snoc_elim h
    have hp := ih d' h1
    have hl : (goPerm d').length = n := by simpa using hp.length_eq
    rw [goPerm_snoc, List.range_succ]
    refine (permStep_perm _ j (by omega)).trans ?_
    rw [hl]
    exact List.Perm.append_right _ hp

theorem getElem_permStep_self (m : List Nat) (j : Nat) (hj : j ≤ m.length) :
    (permStep m j)[j]'(by rw [length_permStep]; omega) = m.length := by
  simp [permStep]

theorem getElem_permStep_ne (m : List Nat) (j i : Nat) (hi : i < m.length + 1) (hj : j ≤ m.length)
    (hij : i ≠ j) (hn : m.length ∉ m) : (permStep m j)[i]'(by rw [length_permStep]; exact hi) ≠ m.length := by
  intro he
  simp only [permStep] at he
  rw [List.getElem_set_ne (by omega)] at he
  by_cases hlt : i < m.length
  · rw [List.getElem_append_left hlt] at he
    exact hn (he ▸ List.getElem_mem hlt)
  · have hil : i = m.length := by omega
    subst hil
    simp only [List.getElem_concat_length] at he
    by_cases hjl : j < m.length
    · have : m.getD j 0 = m[j] := by
        rw [List.getD_eq_getElem?_getD, List.getElem?_eq_getElem hjl]; rfl
      rw [this] at he
      exact hn (he ▸ List.getElem_mem hjl)
    · omega

/-- undo one step of the inside-out shuffle -/
def permUnstep (P : List Nat) (j : Nat) : List Nat :=
  let n := P.length - 1
  if j < n then (P.take n).set j (P.getD n 0) else P.take n

theorem permUnstep_permStep (m : List Nat) (j : Nat) (hj : j ≤ m.length) :
    permUnstep (permStep m j) j = m := by
  rcases Nat.lt_or_eq_of_le hj with hlt | rfl
  · simp only [permUnstep, length_permStep, Nat.add_sub_cancel, hlt, if_true]
    rw [permStep_lt m j hlt]
    simp [List.getD_eq_getElem?_getD, List.set_set]
  · simp only [permUnstep, length_permStep, Nat.add_sub_cancel, Nat.lt_irrefl, if_false]
    rw [permStep_self]
    simp

theorem permStep_inj {m1 m2 : List Nat} {j1 j2 : Nat} (hl : m1.length = m2.length)
    (h1 : m1.length ∉ m1) (hj1 : j1 ≤ m1.length) (hj2 : j2 ≤ m2.length)
    (he : permStep m1 j1 = permStep m2 j2) : m1 = m2 ∧ j1 = j2 := by
  have hj : j1 = j2 := by
    apply Classical.byContradiction
    intro hne
    have ha := getElem_permStep_self m2 j2 hj2
    have hb := getElem_permStep_ne m1 j1 j2 (by omega) hj1 (fun h => hne h.symm) h1
    apply hb
    have : (permStep m1 j1)[j2]'(by rw [length_permStep]; omega) = (permStep m2 j2)[j2]'(by rw [length_permStep]; omega) := by
      simp [he]
    rw [this, ha, hl]
  subst hj
  refine ⟨?_, rfl⟩
  rw [← permUnstep_permStep m1 j1 hj1, he, permUnstep_permStep m2 j1 hj2]

theorem goPerm_injective (n : Nat) (d1 d2 : List Nat) (h1 : inBounds (permScript n) d1 = true)
    (h2 : inBounds (permScript n) d2 = true) (he : goPerm d1 = goPerm d2) : d1 = d2 := by
  induction n generalizing d1 d2 with
  | zero =>
    rw [inBounds_nil h1, inBounds_nil h2]
  | succ n ih =>
    rw [permScript_succ] at h1 h2
    obtain ⟨a, j1, rfl, ha, hj1⟩ := inBounds_snoc_elim h1
    obtain ⟨b, j2, rfl, hb, hj2⟩ := inBounds_snoc_elim h2
    have pa := goPerm_perm n a ha
    have pb := goPerm_perm n b hb
    have la : (goPerm a).length = n := by simpa using pa.length_eq
    have lb : (goPerm b).length = n := by simpa using pb.length_eq
    have na : (goPerm a).length ∉ goPerm a := by
      rw [la]; intro hm; have := pa.mem_iff.1 hm; simp at this
    rw [goPerm_snoc, goPerm_snoc] at he
    obtain ⟨hm, hj⟩ := permStep_inj (by omega) na (by omega) (by omega) he
    rw [ih a b ha hb hm, hj]

theorem goPerm_surjective (n : Nat) (p : List Nat) (hp : p.Perm (List.range n)) :
    ∃ d, inBounds (permScript n) d = true ∧ goPerm d = p := by
  induction n generalizing p with
  | zero =>
    have : p = [] := by simpa using hp.length_eq
    exact ⟨[], by simp [permScript, inBounds], by simp [this, goPerm]⟩
  | succ n ih =>
    have hn : n ∈ p := hp.mem_iff.2 (by simp)
    obtain ⟨A, B, rfl⟩ := List.append_of_mem hn
    have hlen : A.length + B.length = n := by
      have := hp.length_eq; simp at this; omega
    -- the list with `n` removed is a permutation of `0 … n-1`
    have hAB : (A ++ B).Perm (List.range n) := by
      have h1 : (n :: (A ++ B)).Perm (n :: List.range n) := by
        refine (List.perm_middle.symm).trans (hp.trans ?_)
        rw [List.range_succ]; exact List.perm_append_singleton _ _
      exact List.Perm.cons_inv h1
    rcases List.eq_nil_or_concat B with rfl | ⟨B', x, rfl⟩
    · simp at hAB hlen
      obtain ⟨d', hd', hg⟩ := ih A hAB
      refine ⟨d' ++ [n], ?_, ?_⟩
      · rw [permScript_succ, inBounds_snoc]; simp [hd']
      · rw [goPerm_snoc, hg]
        have := permStep_self A
        rw [hlen] at this
        exact this
    · have hB : B'.concat x = B' ++ [x] := by simp
      rw [hB] at hAB hlen ⊢
      have hm : (A ++ x :: B').Perm (List.range n) := by
        refine List.Perm.trans ?_ hAB
        apply List.Perm.append_left
        exact (List.perm_append_singleton _ _).symm
      obtain ⟨d', hd', hg⟩ := ih (A ++ x :: B') hm
      have hlen' : (A ++ x :: B').length = n := by simp at hlen ⊢; omega
      refine ⟨d' ++ [A.length], ?_, ?_⟩
      · rw [permScript_succ, inBounds_snoc]; simp [hd']; simp at hlen; omega
      · rw [goPerm_snoc, hg, permStep_lt _ _ (by simp)]
        simp at hlen
        simp [hlen]

/-! ## RotateNeighbors: the same permutation as `rand.Perm`, applied to the positions -/

theorem rotScript_eq (n : Nat) : rotScript n = permScript n := rfl

theorem swapAt_map (f : α → β) (l : List α) (i j : Nat) :
    swapAt (l.map f) i j = (swapAt l i j).map f := by
  unfold swapAt
  simp only [List.getElem?_map]
  cases hi : l[i]? <;> cases hj : l[j]? <;> simp [List.map_set]

theorem rotLoop_map (f : α → β) (ds : List Nat) (i : Nat) (l : List α) :
    rotLoop ds i (l.map f) = (rotLoop ds i l).map f := by
  induction ds generalizing i l with
  | nil => rfl
  | cons j ds ih => simp [rotLoop, swapAt_map, ih]

theorem rotLoop_snoc (ds : List Nat) (j i : Nat) (a : List α) :
    rotLoop (ds ++ [j]) i a = swapAt (rotLoop ds i a) (i + ds.length) j := by
  induction ds generalizing i a with
  | nil => simp [rotLoop]
  | cons k ds ih =>
    simp only [List.cons_append, rotLoop, ih, List.length_cons]
    congr 1
    omega

theorem swapAt_step (m rest : List Nat) (j : Nat) (hj : j ≤ m.length) :
    swapAt (m ++ m.length :: rest) m.length j = permStep m j ++ rest := by
  have h1 : (m ++ m.length :: rest)[m.length]? = some m.length := by simp
  unfold swapAt
  rcases Nat.lt_or_eq_of_le hj with hlt | rfl
  · have h2 : (m ++ m.length :: rest)[j]? = some m[j] := by
      rw [List.getElem?_append_left hlt]; simp [hlt]
    rw [h1, h2, permStep_lt m j hlt]
    simp [List.set_append_left, List.set_append_right, hlt]
  · rw [h1, permStep_self]
    simp [List.set_append_right]

/-- on the positions `0 … n-1`, `RotateNeighbors` computes exactly the permutation `rand.Perm`
    computes from the same draws (and leaves the positions not yet visited alone) -/
theorem rotLoop_range (n : Nat) (i : Nat) (d : List Nat) (hl : d.length = i) (hi : i ≤ n)
    (hb : inBounds (permScript i) d = true) :
    rotLoop d 0 (List.range n) = goPerm d ++ List.range' i (n - i) := by
  induction i generalizing d with
  | zero =>
    have : d = [] := List.eq_nil_of_length_eq_zero hl
    subst this
    simp [rotLoop, goPerm, List.range_eq_range']
  | succ i ih =>
    rw [permScript_succ] at hb
    obtain ⟨d', j, rfl, hb', hj⟩ := inBounds_snoc_elim hb
    have hl' : d'.length = i := by simpa using hl
    rw [rotLoop_snoc, ih d' hl' (by omega) hb', goPerm_snoc, Nat.zero_add, hl']
    have hp := goPerm_perm i d' hb'
    have hgl : (goPerm d').length = i := by simpa using hp.length_eq
    have hr : List.range' i (n - i) = i :: List.range' (i + 1) (n - (i + 1)) := by
      have : n - i = (n - (i + 1)) + 1 := by omega
      rw [this, List.range'_succ]
    rw [hr]
    have := swapAt_step (goPerm d') (List.range' (i + 1) (n - (i + 1))) j (by omega)
    rw [hgl] at this
    exact this

theorem rotate_range (n : Nat) (d : List Nat) (hb : inBounds (rotScript n) d = true) :
    rotate (List.range n) d = goPerm d := by
  have hl : d.length = n := by simpa [rotScript] using length_of_inBounds hb
  have := rotLoop_range n n d hl (Nat.le_refl _) hb
  simp only [rotate, List.length_range]
  rw [List.take_of_length_le (by omega), this]
  simp

theorem map_getD_range (a : List α) (dflt : α) : (List.range a.length).map (fun q => a.getD q dflt) = a := by
  apply List.ext_getElem
  · simp
  · intro i h1 h2
    simp at h1
    simp [List.getD_eq_getElem?_getD, h1]

/-- `RotateNeighbors` on any list = the position permutation applied to the list -/
theorem rotate_eq_map (a : List α) (dflt : α) (d : List Nat) (hb : inBounds (rotScript a.length) d = true) :
    rotate a d = (goPerm d).map fun q => a.getD q dflt := by
  have h := rotate_range a.length d hb
  conv => lhs; rw [← map_getD_range a dflt]
  simp only [rotate, List.length_map, List.length_range] at h ⊢
  rw [rotLoop_map, h]

/-! ## permuting a duplicate-free list of names -/

theorem map_getD_injective (names : List α) (dflt : α) (hn : names.Nodup) (p1 p2 : List Nat)
    (h1 : ∀ q ∈ p1, q < names.length) (h2 : ∀ q ∈ p2, q < names.length)
    (he : p1.map (fun q => names.getD q dflt) = p2.map (fun q => names.getD q dflt)) : p1 = p2 := by
  induction p1 generalizing p2 with
  | nil => cases p2 <;> simp_all
  | cons a p1 ih =>
    cases p2 with
    | nil => simp at he
    | cons b p2 =>
      simp only [List.map_cons, List.cons.injEq] at he
      have ha : a < names.length := h1 a (by simp)
      have hb : b < names.length := h2 b (by simp)
      have e : names[a] = names[b] := by
        have := he.1
        simpa [List.getD_eq_getElem?_getD, ha, hb] using this
      have hab : a = b := (List.getElem_inj hn).1 e
      rw [hab, ih p2 (fun q hq => h1 q (by simp [hq])) (fun q hq => h2 q (by simp [hq])) he.2]

/-! ## RandomUniformBinaryTree: different draw lists give different topologies -/

/-- what `GraftTipOnEdge` does to the cluster of a branch -/
def extCl (b : List Nat) (i : Nat) (s : List Nat) : List Nat := if subset b s then s ++ [i] else s

theorem graft_spec (E : List (List Nat)) (i j : Nat) (hj : j < E.length) :
    graft E i j = E.map (extCl E[j] i) ++ [[i], E[j]] := by
  simp [graft, List.getElem?_eq_getElem hj, extCl]

theorem length_graft (E : List (List Nat)) (i j : Nat) (hj : j < E.length) :
    (graft E i j).length = E.length + 2 := by
  simp [graft_spec E i j hj]

theorem utreeLoop_snoc (ds : List Nat) (j i : Nat) (e : List (List Nat)) :
    utreeLoop (ds ++ [j]) i e = graft (utreeLoop ds i e) (i + ds.length) j := by
  induction ds generalizing i e with
  | nil => simp [utreeLoop]
  | cons k ds ih =>
    simp only [List.cons_append, utreeLoop, ih, List.length_cons]
    congr 1
    omega

theorem subset_refl (b : List Nat) : subset b b = true := by
  simp [subset]

theorem subset_iff {b c : List Nat} : subset b c = true ↔ ∀ y ∈ b, y ∈ c := by
  simp [subset]

theorem subset_false_of_witness {b c : List Nat} {q : Nat} (h1 : q ∈ b) (h2 : q ∉ c) : subset b c = false := by
  cases hs : subset b c with
  | false => rfl
  | true => exact absurd (subset_iff.1 hs q h1) h2

theorem extCl_of_not_subset {b s : List Nat} (i : Nat) (h : subset b s = false) : extCl b i s = s := by
  simp [extCl, h]

theorem extCl_of_subset {b s : List Nat} (i : Nat) (h : subset b s = true) : extCl b i s = s ++ [i] := by
  simp [extCl, h]

/-- clusters are pairwise different, non-empty, and mention only tips added so far -/
structure CInv (i : Nat) (E : List (List Nat)) : Prop where
  nodup : E.Nodup
  ne : ∀ s ∈ E, s ≠ []
  lt : ∀ s ∈ E, ∀ x ∈ s, x < i

theorem CInv.fresh {i : Nat} {E : List (List Nat)} (h : CInv i E) : ∀ s ∈ E, i ∉ s :=
  fun s hs hi => Nat.lt_irrefl _ (h.lt s hs i hi)

theorem filter_ne_self (s : List Nat) (i : Nat) (h : i ∉ s) : s.filter (· != i) = s := by
  rw [List.filter_eq_self]
  intro a ha
  simp only [bne_iff_ne, ne_eq]
  intro e; exact h (e ▸ ha)

theorem strip_extCl (b s : List Nat) (i : Nat) (h : i ∉ s) : (extCl b i s).filter (· != i) = s := by
  unfold extCl
  split
  · simp [List.filter_append, filter_ne_self s i h]
  · exact filter_ne_self s i h

theorem strip_graft {i : Nat} {E : List (List Nat)} (h : CInv i E) (j : Nat) (hj : j < E.length) :
    (graft E i j).map (fun s => s.filter (· != i)) = E ++ [[], E[j]] := by
  have hni := h.fresh
  rw [graft_spec E i j hj, List.map_append, List.map_map]
  congr 1
  · conv => rhs; rw [← List.map_id E]
    apply List.map_congr_left
    intro s hs
    simp only [Function.comp, id]
    exact strip_extCl _ s i (hni s hs)
  · simp only [List.map_cons, List.map_nil]
    have : i ∉ E[j] := hni _ (List.getElem_mem hj)
    simp [filter_ne_self _ i this]

theorem extCl_inj {b s1 s2 : List Nat} {i : Nat} (h1 : i ∉ s1) (h2 : i ∉ s2)
    (he : extCl b i s1 = extCl b i s2) : s1 = s2 := by
  have := congrArg (fun s => s.filter (· != i)) he
  simpa [strip_extCl _ _ _ h1, strip_extCl _ _ _ h2] using this

theorem CInv.graft {i : Nat} {E : List (List Nat)} (h : CInv i E) (j : Nat) (hj : j < E.length) :
    CInv (i + 1) (graft E i j) := by
  have hni := h.fresh
  have hb : E[j] ∈ E := List.getElem_mem hj
  rw [graft_spec E i j hj]
  refine ⟨?_, ?_, ?_⟩
  · rw [List.nodup_append]
    refine ⟨?_, ?_, ?_⟩
    · -- the extension is injective on clusters that do not mention `i`
      exact List.pairwise_map.2 (h.nodup.imp_of_mem fun ha hb hne he => hne (extCl_inj (hni _ ha) (hni _ hb) he))
    · rw [List.nodup_cons]
      refine ⟨?_, by simp⟩
      simp only [List.mem_singleton]
      intro e
      exact hni _ hb (e ▸ List.mem_singleton.2 rfl)
    · intro x hx y hy
      obtain ⟨s, hs, rfl⟩ := List.mem_map.1 hx
      simp only [List.mem_cons, List.mem_nil_iff, or_false] at hy
      rcases hy with rfl | rfl
      · -- `[i]` is new: an extended cluster is longer, an untouched one does not mention `i`
        intro e
        unfold extCl at e
        split at e
        · have hne := h.ne s hs
          cases s with
          | nil => exact hne rfl
          | cons a s => simp at e
        · exact hni s hs (e ▸ List.mem_singleton.2 rfl)
      · -- the old cluster of the branch itself was extended
        intro e
        unfold extCl at e
        split at e
        · rename_i hsub
          exact hni _ hb (e ▸ (by simp))
        · rename_i hsub
          rw [e] at hsub
          exact hsub (subset_refl _)
  · intro s hs
    simp only [List.mem_append, List.mem_map, List.mem_cons, List.mem_nil_iff, or_false] at hs
    rcases hs with ⟨s', hs', rfl⟩ | rfl | rfl
    · unfold extCl; split
      · simp
      · exact h.ne s' hs'
    · simp
    · exact h.ne _ hb
  · intro s hs x hx
    simp only [List.mem_append, List.mem_map, List.mem_cons, List.mem_nil_iff, or_false] at hs
    rcases hs with ⟨s', hs', rfl⟩ | rfl | rfl
    · unfold extCl at hx; split at hx
      · rcases List.mem_append.1 hx with hx | hx
        · exact Nat.lt_succ_of_lt (h.lt s' hs' x hx)
        · simp at hx; omega
      · exact Nat.lt_succ_of_lt (h.lt s' hs' x hx)
    · simp at hx; omega
    · exact Nat.lt_succ_of_lt (h.lt _ hb x hx)

theorem utreeInit_inv (rooted : Bool) : CInv 2 (utreeInit rooted) := by
  cases rooted <;> refine ⟨by decide, by decide, by decide⟩

/-- bounds of the `Intn` calls, as the loop sees them: tip `i + t` is grafted on one of `len + 2t` branches -/
def loopBounds (len : Nat) : Nat → List Nat
  | 0 => []
  | m + 1 => loopBounds len m ++ [len + 2 * m]

theorem loopBounds_eq (rooted : Bool) (n : Nat) :
    utreeBounds rooted n = loopBounds (utreeInit rooted).length (n - 2) := by
  unfold utreeBounds
  generalize n - 2 = m
  induction m with
  | zero => simp [loopBounds]
  | succ m ih =>
    rw [List.range'_concat, List.map_append, ih, loopBounds]
    cases rooted <;> simp [utreeInit] <;> omega

theorem utreeLoop_inv (e : List (List Nat)) (i : Nat) (he : CInv i e) (m : Nat) (d : List Nat)
    (hb : inBounds (loopBounds e.length m) d = true) :
    CInv (i + m) (utreeLoop d i e) ∧ (utreeLoop d i e).length = e.length + 2 * m ∧ d.length = m := by
  induction m generalizing d with
  | zero =>
    obtain rfl := inBounds_nil hb
    simpa [utreeLoop] using he
  | succ m ih =>
    rw [loopBounds] at hb
    obtain ⟨d', j, rfl, hb', hj⟩ := inBounds_snoc_elim hb
    obtain ⟨h1, h2, h3⟩ := ih d' hb'
    rw [utreeLoop_snoc, h3]
    refine ⟨h1.graft j (by omega), ?_, by simp [h3]⟩
    rw [length_graft _ _ _ (by omega), h2]
    omega

theorem count_two_of_perm {E1 E2 : List (List Nat)} {b1 b2 : List Nat} (h1 : E1.Nodup) (h2 : E2.Nodup)
    (hb1 : b1 ∈ E1) (hne : b1 ≠ []) (hp : (E1 ++ [[], b1]).Perm (E2 ++ [[], b2])) : b1 = b2 := by
  apply Classical.byContradiction
  intro hne2
  have c1 : (E1 ++ [[], b1]).count b1 = 2 := by
    rw [List.count_append, h1.count, if_pos hb1]
    simp [hne.symm]
  have c2 : (E2 ++ [[], b2]).count b1 ≤ 1 := by
    rw [List.count_append, h2.count]
    have : b2 ≠ b1 := fun e => hne2 e.symm
    simp [hne.symm, this]
    split <;> omega
  rw [hp.count_eq] at c1
  omega

theorem utreeLoop_injective (e : List (List Nat)) (i : Nat) (he : CInv i e) (m : Nat) (d1 d2 : List Nat)
    (h1 : inBounds (loopBounds e.length m) d1 = true) (h2 : inBounds (loopBounds e.length m) d2 = true)
    (hp : (utreeLoop d1 i e).Perm (utreeLoop d2 i e)) : d1 = d2 := by
  induction m generalizing d1 d2 with
  | zero =>
    rw [inBounds_nil h1, inBounds_nil h2]
  | succ m ih =>
    rw [loopBounds] at h1 h2
    obtain ⟨a, j1, rfl, ha, hj1⟩ := inBounds_snoc_elim h1
    obtain ⟨b, j2, rfl, hb, hj2⟩ := inBounds_snoc_elim h2
    obtain ⟨ia, la, lena⟩ := utreeLoop_inv e i he m a ha
    obtain ⟨ib, lb, lenb⟩ := utreeLoop_inv e i he m b hb
    rw [utreeLoop_snoc, utreeLoop_snoc, lena, lenb] at hp
    have hj1' : j1 < (utreeLoop a i e).length := by omega
    have hj2' : j2 < (utreeLoop b i e).length := by omega
    -- forget the new tip
    have hs := hp.map (fun s => s.filter (· != i + m))
    rw [strip_graft ia j1 hj1', strip_graft ib j2 hj2'] at hs
    have hbb := count_two_of_perm ia.nodup ib.nodup (List.getElem_mem hj1') (ia.ne _ (List.getElem_mem hj1')) hs
    rw [hbb] at hs
    have hE : (utreeLoop a i e).Perm (utreeLoop b i e) := (List.perm_append_right_iff _).1 hs
    have hab := ih a b ha hb hE
    subst hab
    have : j1 = j2 := (List.getElem_inj ia.nodup).1 hbb
    rw [this]

theorem dfact_space (len m : Nat) :
    (space (loopBounds len m)).length = (List.range m).foldl (fun acc t => acc * (len + 2 * t)) 1 := by
  induction m with
  | zero => simp [loopBounds, space_nil]
  | succ m ih =>
    rw [loopBounds, length_space_snoc, ih, List.range_succ, List.foldl_append]
    rfl

theorem prod_unrooted (m : Nat) : (List.range m).foldl (fun acc t => acc * (1 + 2 * t)) 1 = dfact m := by
  induction m with
  | zero => rfl
  | succ m ih =>
    rw [List.range_succ, List.foldl_append, ih]
    simp [dfact, Nat.mul_comm]
    congr 1; omega

/-! ## naturality: the reservoir only moves items around -/

theorem resStep_map (f : α → β) (k : Nat) (res : List α) (x : α) (j : Nat) :
    resStep k (res.map f) (f x) j = (resStep k res x j).map f := by
  unfold resStep
  split <;> simp [List.map_set]

theorem resLoop_map (f : α → β) (k : Nat) (xs : List α) (i : Nat) (res : List α) (ds : List Nat) :
    resLoop k (xs.map f) i (res.map f) ds = (resLoop k xs i res ds).map f := by
  induction xs generalizing i res ds with
  | nil => simp [resLoop]
  | cons x xs ih =>
    simp only [List.map_cons, resLoop]
    split
    · have := ih (i + 1) (res ++ [x]) ds
      simpa using this
    · cases ds with
      | nil => rfl
      | cons j ds' =>
        simp only []
        rw [resStep_map, ih]

/-- selecting among `items.map f` = selecting among `items`, then applying `f` -/
theorem reservoir_map (f : α → β) (k : Nat) (items : List α) (ds : List Nat) :
    reservoir k (items.map f) ds = (reservoir k items ds).map f := by
  have := resLoop_map f k items 0 [] ds
  simpa [reservoir] using this

/-! ## product structure of draw spaces -/

theorem spaceR_append (rs qs : List Nat) :
    spaceR (rs ++ qs) = (spaceR qs).flatMap fun d1 => (spaceR rs).map fun d2 => d1 ++ d2 := by
  induction rs with
  | nil => simp [spaceR]
  | cons r rs ih =>
    simp only [List.cons_append, spaceR, ih, List.flatMap_assoc, List.flatMap_map, List.map_flatMap, List.map_map]
    simp [Function.comp_def, List.append_assoc]

theorem space_append (bs cs : List Nat) :
    space (bs ++ cs) = (space bs).flatMap fun d1 => (space cs).map fun d2 => d1 ++ d2 := by
  simp [space, List.reverse_append, spaceR_append]

theorem countP_space_append (p : List Nat → Bool) (bs cs : List Nat) :
    (space (bs ++ cs)).countP p =
      ((space bs).map fun d1 => (space cs).countP fun d2 => p (d1 ++ d2)).sum := by
  rw [space_append, List.countP_flatMap]
  congr 1
  apply List.map_congr_left
  intro ds _
  simp [List.countP_map, Function.comp_def]

theorem space_singleton (b : Nat) : space [b] = (List.range b).map fun j => [j] := by
  simp [space, spaceR]

theorem space_cons (b : Nat) (bs : List Nat) :
    space (b :: bs) = (List.range b).flatMap fun j => (space bs).map fun d => j :: d := by
  have := space_append [b] bs
  simp only [List.singleton_append] at this
  rw [this, space_singleton, List.flatMap_map]
  simp

theorem sum_flatMap (l : List α) (f : α → List Nat) :
    (l.flatMap f).sum = (l.map fun a => (f a).sum).sum := by
  induction l with
  | nil => rfl
  | cons a l ih => simp [List.flatMap_cons, List.sum_append, ih]

theorem sum_map_mul_right (l : List α) (c : Nat) (f : α → Nat) :
    (l.map fun a => f a * c).sum = (l.map f).sum * c := by
  induction l with
  | nil => simp
  | cons a l ih => simp [ih, Nat.add_mul]

/-! ## reservoir with replacement -/

/-- one pass of the inner loop over all slots -/
def rowStep (x : α) (out : List (Option α)) (row : List Nat) : List (Option α) :=
  List.zipWith (fun s r => if r == 0 then some x else s) out row

theorem replRow_append (x : α) (out : List (Option α)) (row d : List Nat) (h : row.length = out.length) :
    replRow x out (row ++ d) = (rowStep x out row, d) := by
  induction out generalizing row with
  | nil =>
    have : row = [] := List.eq_nil_of_length_eq_zero h
    subst this
    simp [replRow, rowStep]
  | cons s ss ih =>
    cases row with
    | nil => simp at h
    | cons r row' =>
      simp only [List.cons_append, replRow, rowStep, List.zipWith_cons_cons]
      rw [ih row' (by simpa using h)]
      simp [rowStep]

theorem length_rowStep (x : α) (out : List (Option α)) (row : List Nat) (h : row.length = out.length) :
    (rowStep x out row).length = out.length := by
  simp [rowStep, h]

theorem replLoop_cons_append (x : α) (xs : List α) (out : List (Option α)) (row d : List Nat)
    (h : row.length = out.length) :
    replLoop (x :: xs) out (row ++ d) = replLoop xs (rowStep x out row) d := by
  simp [replLoop, replRow_append x out row d h]

/-- draw script from item `t0` on: item `t` makes `k` calls `Intn(t+1)` -/
def scriptFrom (k t0 m : Nat) : List Nat := (List.range' t0 m).flatMap fun t => List.replicate k (t + 1)

theorem replScript_eq (k n : Nat) : replScript k n = scriptFrom k 0 n := by
  simp [replScript, scriptFrom, List.range_eq_range']

theorem scriptFrom_succ (k t0 m : Nat) :
    scriptFrom k t0 (m + 1) = List.replicate k (t0 + 1) ++ scriptFrom k (t0 + 1) m := by
  simp [scriptFrom, List.range'_succ]

/-- number of draw lists for the items `t0 … t0+m-1` leading from the slots `R` to the slots `A` -/
def cnt (k m t0 : Nat) (R A : List (Option Nat)) : Nat :=
  (space (scriptFrom k t0 m)).countP fun d => replLoop (List.range' t0 m) R d == A

theorem cnt_zero (k t0 : Nat) (R A : List (Option Nat)) : cnt k 0 t0 R A = if R == A then 1 else 0 := by
  simp [cnt, scriptFrom, space_nil, replLoop]

theorem cnt_succ (k m t0 : Nat) (R A : List (Option Nat)) (hR : R.length = k) :
    cnt k (m + 1) t0 R A =
      ((space (List.replicate k (t0 + 1))).map fun row => cnt k m (t0 + 1) (rowStep t0 R row) A).sum := by
  unfold cnt
  rw [scriptFrom_succ, countP_space_append]
  apply sum_map_congr
  intro row hrow
  have hl : row.length = R.length := by rw [length_of_mem_space hrow, hR]; simp
  congr 1
  funext d
  rw [List.range'_succ, replLoop_cons_append _ _ _ _ _ hl]

/-- product over the slots of the single-slot counts -/
def slotProd (m t0 : Nat) : List (Option Nat) → List (Option Nat) → Nat
  | r :: R, a :: A => cnt 1 m t0 [r] [a] * slotProd m t0 R A
  | [], [] => 1
  | _, _ => 0

theorem cnt1_succ (m t0 : Nat) (r a : Option Nat) :
    cnt 1 (m + 1) t0 [r] [a] =
      ((List.range (t0 + 1)).map fun j => cnt 1 m (t0 + 1) [if j == 0 then some t0 else r] [a]).sum := by
  rw [cnt_succ 1 m t0 [r] [a] rfl]
  simp [space_singleton, List.map_map, Function.comp_def, rowStep]

theorem slotProd_step (m t0 : Nat) (R A : List (Option Nat)) :
    ((space (List.replicate R.length (t0 + 1))).map fun row => slotProd m (t0 + 1) (rowStep t0 R row) A).sum =
      slotProd (m + 1) t0 R A := by
  induction R generalizing A with
  | nil =>
    cases A <;> simp [space_nil, rowStep, slotProd]
  | cons r R ih =>
    cases A with
    | nil =>
      simp only [List.length_cons, List.replicate_succ, space_cons, slotProd]
      simp only [List.map_flatMap, List.map_map, Function.comp_def, rowStep, List.zipWith_cons_cons, slotProd]
      rw [sum_flatMap]
      simp [sum_map_zero]
    | cons a A =>
      simp only [List.length_cons, List.replicate_succ, space_cons, slotProd]
      simp only [List.map_flatMap, List.map_map, Function.comp_def, rowStep, List.zipWith_cons_cons, slotProd]
      rw [sum_flatMap]
      have : ∀ j ∈ List.range (t0 + 1),
          ((space (List.replicate R.length (t0 + 1))).map fun row =>
            cnt 1 m (t0 + 1) [if (j == 0) = true then some t0 else r] [a] *
              slotProd m (t0 + 1) (List.zipWith (fun s r => if (r == 0) = true then some t0 else s) R row) A).sum =
          cnt 1 m (t0 + 1) [if (j == 0) = true then some t0 else r] [a] * slotProd (m + 1) t0 R A := by
        intro j _
        rw [sum_map_mul_left]
        congr 1
        exact ih A
      rw [sum_map_congr this, sum_map_mul_right, ← cnt1_succ]

theorem slotProd_zero (t0 : Nat) (R A : List (Option Nat)) :
    slotProd 0 t0 R A = if R == A then 1 else 0 := by
  induction R generalizing A with
  | nil => cases A <;> simp [slotProd]
  | cons r R ih =>
    cases A with
    | nil => simp [slotProd]
    | cons a A =>
      simp only [slotProd, cnt_zero, ih]
      by_cases h1 : r = a <;> by_cases h2 : R = A <;> simp [h1, h2]

/-- the slots are independent: the count for `k` slots is the product of the single-slot counts -/
theorem cnt_eq_slotProd (k m t0 : Nat) (R A : List (Option Nat)) (hR : R.length = k) :
    cnt k m t0 R A = slotProd m t0 R A := by
  induction m generalizing t0 R with
  | zero => rw [cnt_zero, slotProd_zero]
  | succ m ih =>
    rw [cnt_succ k m t0 R A hR]
    rw [sum_map_congr fun row hrow => ih (t0 + 1) _ (by
      rw [length_rowStep _ _ _ (by rw [length_of_mem_space hrow, hR]; simp), hR]), ← hR, slotProd_step]

/-! ### one slot -/

def slot1 (xs : List Nat) (r0 : Option Nat) (d : List Nat) : Option Nat :=
  (xs.zip d).foldl (fun s p => if p.2 == 0 then some p.1 else s) r0

theorem replLoop_one (xs : List Nat) (r0 : Option Nat) (d : List Nat) (h : d.length = xs.length) :
    replLoop xs [r0] d = [slot1 xs r0 d] := by
  induction xs generalizing r0 d with
  | nil => simp [replLoop, slot1]
  | cons x xs ih =>
    cases d with
    | nil => simp at h
    | cons j d =>
      simp only [replLoop, replRow]
      rw [ih _ d (by simpa using h)]
      simp [slot1]

theorem slot1_snoc (xs : List Nat) (x : Nat) (r0 : Option Nat) (d : List Nat) (j : Nat) (h : d.length = xs.length) :
    slot1 (xs ++ [x]) r0 (d ++ [j]) = if j == 0 then some x else slot1 xs r0 d := by
  simp [slot1, List.zip_append h.symm, List.foldl_append]

theorem slot1_mem (xs : List Nat) (r0 : Option Nat) (d : List Nat) :
    slot1 xs r0 d = r0 ∨ ∃ y ∈ xs, slot1 xs r0 d = some y := by
  induction xs generalizing r0 d with
  | nil => simp [slot1]
  | cons x xs ih =>
    cases d with
    | nil => simp [slot1]
    | cons j d =>
      have := ih (if j == 0 then some x else r0) d
      simp only [slot1, List.zip_cons_cons, List.foldl_cons] at this ⊢
      rcases this with h | ⟨y, hy, h⟩
      · by_cases hj : (j == 0) = true
        · right; exact ⟨x, by simp, by rw [h]; simp [hj]⟩
        · left; rw [h]; simp [hj]
      · right; exact ⟨y, by simp [hy], h⟩

theorem scriptFrom_one (n : Nat) : scriptFrom 1 0 n = permScript n := by
  simp [scriptFrom, permScript, List.range_eq_range', List.flatMap_eq_foldl]
  induction n with
  | zero => rfl
  | succ n ih => simp [List.range'_concat, ih]

theorem length_space_perm (n : Nat) : (space (permScript n)).length = fact n := by
  induction n with
  | zero => rfl
  | succ n ih =>
    rw [permScript_succ, length_space_snoc, ih, fact, Nat.mul_comm]

theorem countP_range_pos (N : Nat) (c : Bool) :
    (List.range (N + 1)).countP (fun j => !(j == 0) && c) = N * (if c then 1 else 0) := by
  have := countP_range_ge (N + 1) 1 c
  rw [show N + 1 - 1 = N from rfl] at this
  rw [← this]
  congr 1
  funext j
  cases j <;> simp

theorem cnt1_eq (n : Nat) (r a : Option Nat) :
    cnt 1 n 0 [r] [a] = (space (permScript n)).countP fun d => slot1 (List.range' 0 n) r d == a := by
  unfold cnt
  rw [scriptFrom_one]
  apply List.countP_congr
  intro d hd
  rw [replLoop_one _ _ _ (by rw [length_of_mem_space hd]; simp [permScript])]
  simp

/-- one slot: every item is the final content for exactly `(n-1)!` of the `n!` draw lists -/
theorem cnt_one (n t : Nat) (ht : t < n) : cnt 1 n 0 [none] [some t] = fact (n - 1) := by
  rw [cnt1_eq]
  induction n generalizing t with
  | zero => omega
  | succ n ih =>
    rw [permScript_succ, countP_space_snoc]
    rw [sum_map_congr (g := fun d => (List.range (n + 1)).countP fun j =>
        (if j == 0 then some n else slot1 (List.range' 0 n) none d) == some t) fun d hd => by
      congr 1
      funext j
      rw [List.range'_concat, slot1_snoc _ _ _ _ _ (by rw [length_of_mem_space hd]; simp [permScript])]
      simp]
    by_cases htn : t = n
    · subst htn
      rw [sum_map_congr (g := fun _ => 1) fun d _ => by
        have hne : slot1 (List.range' 0 t) none d ≠ some t := by
          rcases slot1_mem (List.range' 0 t) none d with h | ⟨y, hy, h⟩
          · rw [h]; simp
          · rw [h]; simp at hy; simp; omega
        rw [List.range_succ_eq_map, List.countP_cons, List.countP_map]
        simp [Function.comp_def, hne], sum_map_const, length_space_perm]
      simp
    · have htn' : t < n := by omega
      rw [sum_map_congr (g := fun d => n * (if (slot1 (List.range' 0 n) none d == some t) then 1 else 0)) fun d _ => by
        rw [← countP_range_pos]
        congr 1
        funext j
        by_cases hj : j = 0
        · subst hj; simp; omega
        · simp [hj], sum_map_mul_left, ← countP_eq_sum, ih t htn']
      cases n with
      | zero => omega
      | succ n => simp [fact]
theorem slotProd_none (n : Nat) (a : List Nat) (hlt : ∀ t ∈ a, t < n) :
    slotProd n 0 (List.replicate a.length none) (a.map some) = (fact (n - 1)) ^ a.length := by
  induction a with
  | nil => simp [slotProd]
  | cons t a ih =>
    simp only [List.length_cons, List.replicate_succ, List.map_cons, slotProd]
    rw [cnt_one n t (hlt t (by simp)), ih (fun x hx => hlt x (by simp [hx])), Nat.pow_succ, Nat.mul_comm]

/-! ## rooted uniform tree: fewer histories than topologies (F29) -/

theorem prod_rooted_lt (m : Nat) (hm : 1 ≤ m) :
    (List.range m).foldl (fun acc t => acc * (2 + 2 * t)) 1 < dfact (m + 1) := by
  induction m with
  | zero => omega
  | succ m ih =>
    rw [List.range_succ, List.foldl_append]
    simp only [List.foldl_cons, List.foldl_nil]
    rcases Nat.eq_zero_or_pos m with rfl | hpos
    · decide
    · have := ih hpos
      rw [dfact]
      calc (List.range m).foldl (fun acc t => acc * (2 + 2 * t)) 1 * (2 + 2 * m)
          ≤ dfact (m + 1) * (2 + 2 * m) := Nat.mul_le_mul_right _ (Nat.le_of_lt this)
        _ < dfact (m + 1) * (2 * (m + 1) + 1) := by
            apply Nat.mul_lt_mul_of_pos_left
            · omega
            · have : ∀ q, 0 < dfact q := by
                intro q; induction q with
                | zero => decide
                | succ q ih => rw [dfact]; exact Nat.mul_pos (by omega) ih
              exact this _
        _ = (2 * (m + 1) + 1) * dfact (m + 1) := Nat.mul_comm _ _

/-! ## every permutation of the names is an outcome of `ShuffleTips` -/

theorem perm_of_names (names q : List String) (hn : names.Nodup) (hq : q.Perm names) :
    ∃ p : List Nat, p.Perm (List.range names.length) ∧ p.map (fun i => names.getD i "") = q := by
  refine ⟨q.map (fun a => names.idxOf a), ?_, ?_⟩
  · have h1 := hq.map (fun a => names.idxOf a)
    refine h1.trans ?_
    have : names.map (fun a => names.idxOf a) = List.range names.length := by
      apply List.ext_getElem
      · simp
      · intro i h1 h2
        simp only [List.getElem_map, List.getElem_range]
        exact hn.idxOf_getElem i (by simpa using h1)
    rw [this]
  · rw [List.map_map]
    conv => rhs; rw [← List.map_id q]
    apply List.map_congr_left
    intro a ha
    have hm : a ∈ names := hq.mem_iff.1 ha
    have hi : names.idxOf a < names.length := List.idxOf_lt_length_of_mem hm
    simp [List.getD_eq_getElem?_getD, hi]

/-! ## the sorted form of a selection -/

theorem mem_insertBy (le : Nat → Nat → Bool) (a x : Nat) (l : List Nat) :
    x ∈ insertBy le a l ↔ x = a ∨ x ∈ l := by
  induction l with
  | nil => simp [insertBy]
  | cons b r ih => simp only [insertBy]; split <;> simp [ih, or_left_comm]

theorem insertBy_sorted (a : Nat) (l : List Nat) (hs : l.Pairwise (· < ·)) (ha : a ∉ l) :
    (insertBy (fun a b => decide (a ≤ b)) a l).Pairwise (· < ·) := by
  induction l with
  | nil => simp [insertBy]
  | cons b r ih =>
    rw [List.pairwise_cons] at hs
    simp only [List.mem_cons, not_or] at ha
    simp only [insertBy]
    split
    · next hle =>
      have hle : a ≤ b := by simpa using hle
      exact List.pairwise_cons.2 ⟨fun x hx => (List.mem_cons.1 hx).elim (by omega) fun h => by have := hs.1 x h; omega,
        List.pairwise_cons.2 hs⟩
    · next hle =>
      have hle : ¬ a ≤ b := by simpa using hle
      exact List.pairwise_cons.2 ⟨fun x hx => ((mem_insertBy _ a x r).1 hx).elim (by omega) (hs.1 x), ih hs.2 ha.2⟩

theorem mem_sortNat (x : Nat) (l : List Nat) : x ∈ sortNat l ↔ x ∈ l := by
  induction l with
  | nil => simp [sortNat, isort]
  | cons a l ih =>
    simp only [sortNat, isort, List.foldr_cons] at ih ⊢
    rw [mem_insertBy, ih]; simp

theorem sortNat_sorted (l : List Nat) (hn : l.Nodup) : (sortNat l).Pairwise (· < ·) := by
  induction l with
  | nil => simp [sortNat, isort]
  | cons a l ih =>
    rw [List.nodup_cons] at hn
    simp only [sortNat, isort, List.foldr_cons]
    apply insertBy_sorted
    · exact ih hn.2
    · intro h; exact hn.1 ((mem_sortNat a l).1 h)

theorem pairwise_of_sortedLt (S : List Nat) (h : sortedLt S = true) : S.Pairwise (· < ·) := by
  induction S with
  | nil => simp
  | cons a r ih =>
    cases r with
    | nil => simp
    | cons b r =>
      simp only [sortedLt, Bool.and_eq_true, decide_eq_true_eq] at h
      have ihr := ih h.2
      rw [List.pairwise_cons] at ihr ⊢
      refine ⟨?_, List.pairwise_cons.2 ihr⟩
      intro x hx
      rcases List.mem_cons.1 hx with rfl | hx
      · exact h.1
      · have := ihr.1 x hx; omega

theorem nodup_of_pairwise_lt (S : List Nat) (h : S.Pairwise (· < ·)) : S.Nodup :=
  h.imp Nat.ne_of_lt

/-- two increasing lists with the same elements are equal -/
theorem sorted_ext (l1 l2 : List Nat) (h1 : l1.Pairwise (· < ·)) (h2 : l2.Pairwise (· < ·))
    (hm : ∀ a, a ∈ l1 ↔ a ∈ l2) : l1 = l2 :=
  List.Perm.eq_of_pairwise (fun _ _ _ _ hab hba => absurd hab (Nat.lt_asymm hba)) h1 h2
    ((List.perm_ext_iff_of_nodup (nodup_of_pairwise_lt _ h1) (nodup_of_pairwise_lt _ h2)).2 hm)

theorem indicator_eq_iff (n : Nat) (R S : List Nat) (hR : ∀ x ∈ R, x < n) (hS : ∀ x ∈ S, x < n) :
    indicator n R = indicator n S ↔ ∀ x, x ∈ R ↔ x ∈ S := by
  constructor
  · intro h x
    by_cases hx : x < n
    · have h1 : (indicator n R)[x]? = (indicator n S)[x]? := by rw [h]
      simp [indicator, hx] at h1
      exact h1
    · constructor
      · intro hm; exact absurd (hR x hm) hx
      · intro hm; exact absurd (hS x hm) hx
  · intro h
    simp only [indicator]
    apply List.map_congr_left
    intro x _
    by_cases hm : x ∈ R
    · simp [hm, (h x).1 hm]
    · have : x ∉ S := fun hs => hm ((h x).2 hs)
      simp [hm, this]

theorem count_indicator (n : Nat) (S : List Nat) (hn : S.Nodup) (hS : ∀ x ∈ S, x < n) :
    (indicator n S).count true = S.length := by
  have h1 : (indicator n S).count true = ((List.range n).filter fun x => S.contains x).length := by
    simp only [indicator, List.count_eq_countP]
    rw [List.countP_map, List.countP_eq_length_filter]
    congr 1
    apply List.filter_congr
    intro x _
    simp [Function.comp]
  rw [h1, (filter_range_perm hn hS).length_eq]

/-! ## a `k`-subset through any given element -/

theorem exists_subset_containing (k n x : Nat) (hk : 1 ≤ k) (hkn : k ≤ n) (hx : x < n) :
    ∃ s : List Bool, s.length = n ∧ s.count true = k ∧ s[x]? = some true := by
  -- `x` and the first `k - 1` of the other items
  have hsub : ∀ y ∈ ((List.range n).erase x).take (k - 1), y ∈ (List.range n).erase x :=
    fun y hy => List.mem_of_mem_take hy
  have hnd : (x :: ((List.range n).erase x).take (k - 1)).Nodup :=
    List.nodup_cons.2 ⟨fun h => List.nodup_range.not_mem_erase (hsub x h),
      (List.take_sublist _ _).nodup (List.nodup_range.erase x)⟩
  have hlt : ∀ y ∈ x :: ((List.range n).erase x).take (k - 1), y < n := by
    intro y hy
    rcases List.mem_cons.1 hy with rfl | hy
    · exact hx
    · exact List.mem_range.1 (List.mem_of_mem_erase (hsub y hy))
  refine ⟨indicator n (x :: ((List.range n).erase x).take (k - 1)), length_chi n _, ?_, by simp [indicator, hx]⟩
  rw [count_indicator n _ hnd hlt, List.length_cons, List.length_take,
    List.length_erase_of_mem (List.mem_range.2 hx), List.length_range]
  omega

/-! ## rooted uniform tree: the set of all tips is never a cluster (F29) -/

theorem graft_no_full {i : Nat} {E : List (List Nat)} (hi : 1 ≤ i) (h : CInv i E) (hf : List.range i ∉ E)
    (j : Nat) (hj : j < E.length) : List.range (i + 1) ∉ graft E i j := by
  have hni := h.fresh
  rw [graft_spec E i j hj]
  intro hm
  simp only [List.mem_append, List.mem_map, List.mem_cons, List.mem_nil_iff, or_false] at hm
  have hlast : i ∈ List.range (i + 1) := by simp
  rcases hm with ⟨s, hs, he⟩ | he | he
  · unfold extCl at he
    split at he
    · rw [List.range_succ] at he
      have := List.append_inj_left' he (by simp)
      exact hf (this ▸ hs)
    · exact hni s hs (he ▸ hlast)
  · have : (List.range (i + 1)).length = 1 := by rw [he]; rfl
    simp at this; omega
  · exact hni _ (List.getElem_mem hj) (he ▸ hlast)

theorem utreeLoop_no_full (e : List (List Nat)) (i : Nat) (hi : 1 ≤ i) (he : CInv i e) (hf : List.range i ∉ e)
    (m : Nat) (d : List Nat) (hb : inBounds (loopBounds e.length m) d = true) :
    List.range (i + m) ∉ utreeLoop d i e := by
  induction m generalizing d with
  | zero =>
    obtain rfl := inBounds_nil hb
    simpa [utreeLoop] using hf
  | succ m ih =>
    rw [loopBounds] at hb
    obtain ⟨d', j, rfl, hb', hj⟩ := inBounds_snoc_elim hb
    obtain ⟨h1, h2, h3⟩ := utreeLoop_inv e i he m d' hb'
    rw [utreeLoop_snoc, h3]
    exact graft_no_full (by omega) h1 (ih d' hb') j (by omega)

theorem graft_no_prev_full {i : Nat} {E : List (List Nat)} (hf : List.range i ∉ E)
    (j : Nat) (hj : j < E.length) : List.range i ∉ graft E i j := by
  rw [graft_spec E i j hj]
  intro hm
  simp only [List.mem_append, List.mem_map, List.mem_cons, List.mem_nil_iff, or_false] at hm
  have hnot : i ∉ List.range i := by simp
  rcases hm with ⟨s, hs, he⟩ | he | he
  · unfold extCl at he
    split at he
    · exact hnot (he ▸ (by simp))
    · exact hf (he ▸ hs)
  · exact hnot (he ▸ (by simp))
  · exact hf (he ▸ List.getElem_mem hj)

/-- rooted generator, `n ≥ 3` tips: the cluster of all tips but the last is never a branch -/
theorem utree_rooted_last_alone (m : Nat) (d : List Nat)
    (hb : inBounds (loopBounds 2 (m + 1)) d = true) :
    List.range (m + 2) ∉ utreeLoop d 2 (utreeInit true) := by
  rw [loopBounds] at hb
  obtain ⟨d', j, rfl, hb', hj⟩ := inBounds_snoc_elim hb
  have hE : (utreeInit true).length = 2 := rfl
  obtain ⟨h1, h2, h3⟩ := utreeLoop_inv (utreeInit true) 2 (utreeInit_inv true) m d' (by rw [hE]; exact hb')
  have hfull := utreeLoop_no_full (utreeInit true) 2 (by omega) (utreeInit_inv true) (by decide) m d'
    (by rw [hE]; exact hb')
  rw [utreeLoop_snoc, h3]
  rw [hE] at h2
  have := graft_no_prev_full hfull j (by omega)
  rw [show 2 + m = m + 2 by omega] at this ⊢
  exact this

/-! ## `--replace`: with at least one tree every slot is filled -/

theorem replRow_allSome (x : α) : ∀ (out : List (Option α)) (ds : List Nat),
    out.all (·.isSome) = true → (replRow x out ds).1.all (·.isSome) = true
  | [], ds, _ => by simp [replRow]
  | s :: ss, [], h => by simpa [replRow] using h
  | s :: ss, r :: ds, h => by
    simp only [List.all_cons, Bool.and_eq_true] at h
    simp only [replRow, List.all_cons, Bool.and_eq_true]
    refine ⟨?_, replRow_allSome x ss ds h.2⟩
    by_cases hr : (r == 0) = true <;> simp [hr, h.1]

theorem replLoop_allSome : ∀ (xs : List α) (out : List (Option α)) (ds : List Nat),
    out.all (·.isSome) = true → (replLoop xs out ds).all (·.isSome) = true
  | [], out, ds, h => by simpa [replLoop] using h
  | x :: xs, out, ds, h => by
    simp only [replLoop]
    exact replLoop_allSome xs _ _ (replRow_allSome x out ds h)

theorem replRow_first (x : α) : ∀ (k : Nat) (ds : List Nat), k ≤ ds.length → (∀ r ∈ ds.take k, r = 0) →
    (replRow x (List.replicate k none) ds).1 = List.replicate k (some x)
  | 0, ds, _, _ => by simp [replRow]
  | k + 1, [], h, _ => by simp at h
  | k + 1, r :: ds, h, h0 => by
    have hr : r = 0 := h0 r (by simp)
    subst hr
    simp only [List.replicate_succ, replRow]
    rw [replRow_first x k ds (by simpa using h) (fun r hr => h0 r (by simp [hr]))]
    simp

theorem inBounds_replicate_one : ∀ (k : Nat) (rest ds : List Nat),
    inBounds (List.replicate k 1 ++ rest) ds = true → k ≤ ds.length ∧ ∀ r ∈ ds.take k, r = 0
  | 0, _, _, _ => by simp
  | k + 1, rest, [], h => by simp [List.replicate_succ, inBounds] at h
  | k + 1, rest, r :: ds, h => by
    simp only [List.replicate_succ, List.cons_append, inBounds, Bool.and_eq_true, decide_eq_true_eq] at h
    obtain ⟨h1, h2⟩ := inBounds_replicate_one k rest ds h.2
    refine ⟨by simp; omega, ?_⟩
    intro r' hr'
    simp only [List.take_succ_cons, List.mem_cons] at hr'
    rcases hr' with rfl | hr'
    · omega
    · exact h2 r' hr'

theorem sampleReplace_allSome (k n : Nat) (hn : 1 ≤ n) (d : List Nat)
    (hb : inBounds (replScript k n) d = true) :
    (sampleReplace k (List.range n) d).all (·.isSome) = true := by
  obtain ⟨n', rfl⟩ : ∃ n', n = n' + 1 := ⟨n - 1, by omega⟩
  rw [replScript_eq, scriptFrom_succ] at hb
  obtain ⟨h1, h2⟩ := inBounds_replicate_one k _ d hb
  rw [sampleReplace, List.range_succ_eq_map]
  simp only [replLoop]
  apply replLoop_allSome
  rw [replRow_first 0 k d h1 h2]
  simp

/-! ## RotateInternalNodes: node by node -/

theorem mem_space_append {bs cs d : List Nat} :
    d ∈ space (bs ++ cs) ↔ ∃ d1 ∈ space bs, ∃ d2 ∈ space cs, d = d1 ++ d2 := by
  simp [space_append, eq_comm]

theorem rotAllPerms_cons (g : Nat) (degs d1 d2 : List Nat) (h : d1.length = g) :
    rotAllPerms (g :: degs) (d1 ++ d2) = rotate (List.range g) d1 :: rotAllPerms degs d2 := by
  simp [rotAllPerms, segments, h]

/-- one arrangement (a permutation of the positions) for every node -/
def PermsOf : List (List Nat) → List Nat → Prop
  | [], [] => True
  | p :: ps, g :: gs => p.Perm (List.range g) ∧ PermsOf ps gs
  | _, _ => False

theorem length_rotScript (g : Nat) : (rotScript g).length = g := by simp [rotScript]

/-! ## RotateInternalNodes on the tree = the arrangements of `rotAllPerms`, node by node -/

theorem inBounds_append_elim {x y d : List Nat} (h : inBounds (x ++ y) d = true) :
    ∃ a b, d = a ++ b ∧ inBounds x a = true ∧ inBounds y b = true := by
  have := (mem_space_iff _ _).2 h
  rw [mem_space_append] at this
  obtain ⟨a, ha, b, hb, rfl⟩ := this
  exact ⟨a, b, rfl, (mem_space_iff _ _).1 ha, (mem_space_iff _ _).1 hb⟩

theorem rotAllPerms_nil (d : List Nat) : rotAllPerms [] d = [] := by simp [rotAllPerms, segments]

theorem rotAllPerms_append (g1 g2 a b : List Nat) (h : a.length = g1.sum) :
    rotAllPerms (g1 ++ g2) (a ++ b) = rotAllPerms g1 a ++ rotAllPerms g2 b := by
  induction g1 generalizing a with
  | nil =>
    have : a = [] := by simpa using h
    subst this
    simp [rotAllPerms_nil]
  | cons g g1 ih =>
    simp only [List.sum_cons] at h
    have hsplit : a = a.take g ++ a.drop g := (List.take_append_drop g a).symm
    have hl : (a.take g).length = g := by simp; omega
    rw [hsplit, List.cons_append, List.append_assoc, rotAllPerms_cons g _ _ _ hl,
      rotAllPerms_cons g g1 _ _ hl, ih (a.drop g) (by simp; omega)]
    simp

theorem length_permScript' (degs : List Nat) : (rotAllPermScript degs).length = degs.sum := by
  induction degs with
  | nil => rfl
  | cons g degs ih => simp [rotAllPermScript, length_rotScript] at ih ⊢

mutual
theorem rotAllScriptT_eq (isRoot : Bool) : ∀ (t : T), rotAllScriptT isRoot t = rotAllPermScript (degsT isRoot t)
  | .node d p kids => by
    simp only [rotAllScriptT, degsT, rotAllPermScript, List.flatMap_cons]
    have := rotAllScriptL_eq kids
    simp only [rotAllPermScript] at this
    rw [this]
theorem rotAllScriptL_eq : ∀ (ks : Kids), rotAllScriptL ks = rotAllPermScript (degsL ks)
  | [] => rfl
  | (e, t) :: r => by
    simp only [rotAllScriptL, degsL, rotAllPermScript, List.flatMap_append]
    have h1 := rotAllScriptT_eq false t
    have h2 := rotAllScriptL_eq r
    simp only [rotAllPermScript] at h1 h2
    rw [h1, h2]
end

theorem length_neighOf (isRoot : Bool) (t : T) : (neighOf isRoot t).length = degOf isRoot t := by
  unfold neighOf degOf
  cases isRoot
  · simp only [Bool.false_eq_true, if_false, List.length_append, List.length_map, List.length_take,
      List.length_drop, List.length_cons, List.length_nil]
    omega
  · simp

/-- one node: `RotateNeighbors` gives the neighbours the arrangement `rotate (range deg) draws` -/
theorem rotateNode_eq_permNode (isRoot : Bool) (t : T) (seg : List Nat)
    (h : inBounds (rotScript (degOf isRoot t)) seg = true) :
    rotateNode isRoot t seg = permNode isRoot t (rotate (List.range (degOf isRoot t)) seg) := by
  unfold rotateNode permNode
  rw [← length_neighOf] at h ⊢
  rw [rotate_eq_map (neighOf isRoot t) none seg h, rotate_range _ seg h]

mutual
theorem rotAllL_length : ∀ (ks : Kids) (ds : List Nat), (rotAllL ks ds).1.length = ks.length
  | [], _ => rfl
  | (e, t) :: r, ds => by simp [rotAllL, rotAllL_length r]
end

mutual
theorem rotAllT_link (isRoot : Bool) : ∀ (t : T) (d1 rest : List Nat) (prest : List (List Nat)),
    inBounds (rotAllScriptT isRoot t) d1 = true →
    rotAllT isRoot t (d1 ++ rest) =
      ((applyPermsT isRoot t (rotAllPerms (degsT isRoot t) d1 ++ prest)).1, rest) ∧
    (applyPermsT isRoot t (rotAllPerms (degsT isRoot t) d1 ++ prest)).2 = prest
  | .node d p kids, d1, rest, prest, hb => by
    simp only [rotAllScriptT] at hb
    obtain ⟨a, b, rfl, ha, hb'⟩ := inBounds_append_elim hb
    have hla : a.length = kids.length + (if isRoot then 0 else 1) := by
      rw [length_of_inBounds ha, length_rotScript]
    obtain ⟨ih1, ih2⟩ := rotAllL_link kids b rest prest hb'
    simp only [degsT]
    rw [rotAllPerms_cons _ _ a b hla]
    simp only [rotAllT, applyPermsT, List.cons_append, List.drop_succ_cons, List.drop_zero, List.headD_cons]
    rw [List.append_assoc, List.take_left' hla, List.drop_left' hla, ih1]
    simp only [ih2, and_true]
    congr 1
    have hdeg : degOf isRoot (T.node d p (applyPermsL kids (rotAllPerms (degsL kids) b ++ prest)).1) =
        kids.length + (if isRoot then 0 else 1) := by
      have := congrArg Prod.fst ih1
      simp only at this
      unfold degOf
      rw [T.kids_node, ← this, rotAllL_length]
    have hb2 : inBounds (rotScript (degOf isRoot (T.node d p (applyPermsL kids (rotAllPerms (degsL kids) b ++ prest)).1))) a = true := by
      rw [hdeg]; exact ha
    rw [rotateNode_eq_permNode _ _ _ hb2, hdeg]
theorem rotAllL_link : ∀ (ks : Kids) (d1 rest : List Nat) (prest : List (List Nat)),
    inBounds (rotAllScriptL ks) d1 = true →
    rotAllL ks (d1 ++ rest) = ((applyPermsL ks (rotAllPerms (degsL ks) d1 ++ prest)).1, rest) ∧
    (applyPermsL ks (rotAllPerms (degsL ks) d1 ++ prest)).2 = prest
  | [], d1, rest, prest, hb => by
    obtain rfl := inBounds_nil hb
    simp [rotAllL, applyPermsL, degsL, rotAllPerms_nil]
  | (e, t) :: r, d1, rest, prest, hb => by
    simp only [rotAllScriptL] at hb
    obtain ⟨a, b, rfl, ha, hb'⟩ := inBounds_append_elim hb
    have hla : a.length = (degsT false t).sum := by
      rw [length_of_inBounds ha, rotAllScriptT_eq, length_permScript']
    obtain ⟨t1, t2⟩ := rotAllT_link false t a (b ++ rest) (rotAllPerms (degsL r) b ++ prest) ha
    obtain ⟨l1, l2⟩ := rotAllL_link r b rest prest hb'
    simp only [degsL]
    rw [rotAllPerms_append _ _ a b hla]
    simp only [rotAllL, applyPermsL, List.append_assoc]
    rw [t1]
    simp only [t2, l1, l2, and_self]
end

end Gotree.C20

/-
  C08 — `CompareWeighted`: the loops in closed form and their relation to the Spec's
  weighted terms.  Core Lean only.
-/
import Gotree.Lemmas.C08

namespace Gotree.C08.Canon
open Gotree Gotree.C08 List

theorem wLoop1_noSC (idx : Index) (allc : List String) (tips : Bool) (l : List SplitE) (same : Bool) :
    wLoop1 idx allc tips false l same =
      ((l.filter (counted tips)).filterMap (fun e => (hitLen idx allc e).map (fun rl => rl - e.e.len)),
       ((l.filter (counted tips)).filter (fun e => (hitLen idx allc e).isNone)).map (·.e.len),
       same && (l.filter (counted tips)).all (fun e => hitLen idx allc e == some e.e.len)) := by
  induction l generalizing same with
  | nil => simp [wLoop1]
  | cons e r ih =>
    unfold wLoop1
    cases hc : counted tips e with
    | false => simp only [Bool.false_eq_true, if_false, filter_cons, hc]; exact ih same
    | true =>
      simp only [if_true, filter_cons, hc, Bool.and_false, Bool.false_eq_true, if_false]
      cases hv : value idx (key allc e) <;> simp only [ih] <;> simp [hitLen, hv, Bool.and_assoc]

theorem wLoop2_noSC (idx : Index) (allr : List String) (tips : Bool) (l : List SplitE) (same : Bool) :
    wLoop2 idx allr tips false l same =
      (((l.filter (counted tips)).filter (fun e => (hitLen idx allr e).isNone)).map (·.e.len),
       same && (l.filter (counted tips)).all (fun e => (hitLen idx allr e).isSome)) := by
  induction l generalizing same with
  | nil => simp [wLoop2]
  | cons e r ih =>
    unfold wLoop2
    cases hc : counted tips e with
    | false => simp only [Bool.false_eq_true, if_false, filter_cons, hc]; exact ih same
    | true =>
      simp only [if_true, filter_cons, hc, Bool.false_eq_true, if_false]
      cases hv : value idx (key allr e) <;> simp only [ih] <;> simp [hitLen, hv]

theorem wLoop1_SC_flag (idx : Index) (allc : List String) (tips : Bool) (l : List SplitE) (same : Bool) :
    (wLoop1 idx allc tips true l same).2.2 =
      (same && (l.filter (counted tips)).all (fun e => hitLen idx allc e == some e.e.len)) := by
  induction l generalizing same with
  | nil => simp [wLoop1]
  | cons e r ih =>
    unfold wLoop1
    cases hc : counted tips e with
    | false => simp only [Bool.false_eq_true, if_false, filter_cons, hc]; exact ih same
    | true =>
      simp only [if_true, filter_cons, hc, Bool.and_true]
      cases hv : value idx (key allc e) with
      | none => simp [hitLen, hv]
      | some info => by_cases hl : info.len = e.e.len <;> simp [hitLen, hv, hl, ih]

theorem wLoop2_SC_flag (idx : Index) (allr : List String) (tips : Bool) (l : List SplitE) (same : Bool) :
    (wLoop2 idx allr tips true l same).2 =
      (same && (l.filter (counted tips)).all (fun e => (hitLen idx allr e).isSome)) := by
  induction l generalizing same with
  | nil => simp [wLoop2]
  | cons e r ih =>
    unfold wLoop2
    cases hc : counted tips e with
    | false => simp only [Bool.false_eq_true, if_false, filter_cons, hc]; exact ih same
    | true =>
      simp only [if_true, filter_cons, hc]
      cases hv : value idx (key allr e) <;> simp [hitLen, hv, ih]

/-- the identity flag of a weighted record -/
abbrev wflag : Res WStats → Res Bool := view WStats.same

theorem compareWeighted_shortcut_flag (r c : T) (tips : Bool) :
    wflag (compareWeighted r c tips true) = wflag (compareWeighted r c tips false) := by
  unfold compareWeighted
  cases h1 : reinitOk r <;> cases h2 : reinitOk c <;>
    cases h3 : compareTipIndexes r.tipNames c.tipNames <;> simp [view]
  have e1 := wLoop1_SC_flag (buildIndex r.tipNames r.splits) c.tipNames tips c.splits true
  have e2 := wLoop2_SC_flag (buildIndex c.tipNames c.splits) r.tipNames tips r.splits
    (wLoop1 (buildIndex r.tipNames r.splits) c.tipNames tips true c.splits true).2.2
  rw [e2, e1, wLoop1_noSC, wLoop2_noSC]

/-! ## the Spec's weighted terms are functions of the pairs (side, length), up to order -/

theorem filterMap_congr' {α β : Type} {f g : α → Option β} {l : List α} (h : ∀ x ∈ l, f x = g x) :
    l.filterMap f = l.filterMap g := by
  induction l with
  | nil => rfl
  | cons a r ih => simp only [filterMap_cons, h a (by simp), ih fun x hx => h x (by simp [hx])]

theorem all_congr' {α : Type} {p q : α → Bool} {l : List α} (h : ∀ x ∈ l, p x = q x) : l.all p = l.all q := by
  induction l with
  | nil => rfl
  | cons a r ih => simp only [all_cons, h a (by simp), ih fun x hx => h x (by simp [hx])]

def pr (s : USplit) : List String × Rat := (s.side, s.len)

abbrev KL := List (List String × Rat)

def lenOfP (P : KL) (k : List String) : Option Rat := (P.find? (·.1 == k)).map (·.2)

def onlyP (A B : KL) : List Rat := (A.filter fun p => !(B.map (·.1)).contains p.1).map (·.2)

def commonP (A B : KL) : List Rat := A.filterMap fun p => (lenOfP B p.1).map fun l => p.2 - l

theorem lenOf_eq (b : List USplit) (k : List String) : lenOf b k = lenOfP (b.map pr) k := by
  rw [lenOf, lenOfP, find?_map, Option.map_map]; rfl

theorem onlyLens_eq (a b : List USplit) : onlyLens a b = onlyP (a.map pr) (b.map pr) := by
  simp only [onlyLens, onlyP, filter_map, map_map]; rfl

theorem commonDiffs_eq (a b : List USplit) : commonDiffs a b = commonP (a.map pr) (b.map pr) := by
  rw [commonDiffs, commonP, filterMap_map]
  exact filterMap_congr' fun s _ => by rw [lenOf_eq]; rfl

theorem lenOfP_isSome (P : KL) (k : List String) : (lenOfP P k).isSome = (P.map (·.1)).contains k := by
  rw [Bool.eq_iff_iff, lenOfP, Option.isSome_map, find?_isSome, contains_iff_mem, mem_map]
  simp only [beq_iff_eq]

/-- with distinct sides, a side has the length it is listed with -/
theorem lenOfP_mem {P : KL} (hn : (P.map (·.1)).Nodup) {p : List String × Rat} (hp : p ∈ P) :
    lenOfP P p.1 = some p.2 := by
  induction P with
  | nil => cases hp
  | cons x r ih =>
    obtain ⟨hx, hr⟩ := nodup_cons.mp hn
    rw [lenOfP, find?_cons]
    rcases mem_cons.mp hp with h | h
    · simp [h]
    · have : (x.1 == p.1) = false := beq_false_of_ne fun e => hx (mem_map.mpr ⟨p, h, e.symm⟩)
      rw [this]; exact ih hr h

theorem lenOfP_none {P : KL} {k : List String} (h : k ∉ P.map (·.1)) : lenOfP P k = none := by
  have := lenOfP_isSome P k
  rw [contains_eq_mem, decide_eq_false h] at this
  cases hl : lenOfP P k with
  | none => rfl
  | some _ => rw [hl] at this; cases this

theorem lenOfP_perm {P P' : KL} (h : P ~ P') (hn : (P.map (·.1)).Nodup) (k : List String) :
    lenOfP P k = lenOfP P' k := by
  by_cases hk : k ∈ P.map (·.1)
  · obtain ⟨p, hp, rfl⟩ := mem_map.mp hk
    rw [lenOfP_mem hn hp, lenOfP_mem ((h.map _).nodup_iff.mp hn) (h.mem_iff.mp hp)]
  · rw [lenOfP_none hk, lenOfP_none fun h' => hk ((h.map _).mem_iff.mpr h')]

theorem onlyP_congr {A A' B B' : KL} (ha : A ~ A') (hb : ∀ k, k ∈ B.map (·.1) ↔ k ∈ B'.map (·.1)) :
    onlyP A B ~ onlyP A' B' := by
  have : (fun p : List String × Rat => !(B.map (·.1)).contains p.1) = fun p => !(B'.map (·.1)).contains p.1 :=
    funext fun p => by rw [contains_eq_mem, contains_eq_mem, decide_eq_decide.mpr (hb p.1)]
  rw [onlyP, onlyP, this]
  exact (ha.filter _).map _

theorem commonP_congr {A A' B B' : KL} (ha : A ~ A') (hb : B ~ B') (hn : (B.map (·.1)).Nodup) :
    commonP A B ~ commonP A' B' := by
  have : (fun p : List String × Rat => (lenOfP B p.1).map fun l => p.2 - l) = fun p => (lenOfP B' p.1).map fun l => p.2 - l :=
    funext fun p => by rw [lenOfP_perm hb hn]
  rw [commonP, commonP, this]
  exact ha.filterMap _

/-- the difference of the two lengths of a side, where it has two -/
def dAt (A B : KL) (k : List String) : Option Rat := (lenOfP A k).bind fun a => (lenOfP B k).map fun b => a - b

theorem filterMap_inter {β : Type} (h : List String → Option β) (a b : List (List String))
    (hb : ∀ k ∈ a, k ∉ b → h k = none) : a.filterMap h = (interL a b).filterMap h := by
  rw [interL, filterMap_filter]
  refine filterMap_congr' fun x hx => ?_
  by_cases hc : b.contains x = true
  · rw [if_pos hc]
  · rw [if_neg hc]; exact hb x hx fun hm => hc (contains_iff_mem.mpr hm)

/-- the shared splits seen from the other tree: the same differences, in the other order -/
theorem commonP_symm {A B : KL} (hA : (A.map (·.1)).Nodup) (hB : (B.map (·.1)).Nodup) :
    commonP A B ~ B.filterMap fun q => (lenOfP A q.1).map fun l => l - q.2 := by
  have e1 : commonP A B = (A.map (·.1)).filterMap (dAt A B) := by
    rw [commonP, filterMap_map]
    exact filterMap_congr' fun p hp => by simp [dAt, lenOfP_mem hA hp]
  have e2 : (B.filterMap fun q => (lenOfP A q.1).map fun l => l - q.2) = (B.map (·.1)).filterMap (dAt A B) := by
    rw [filterMap_map]
    exact filterMap_congr' fun q hq => by cases h : lenOfP A q.1 <;> simp [dAt, lenOfP_mem hB hq, h]
  rw [e1, e2, filterMap_inter (dAt A B) _ (B.map (·.1)) fun k _ hk => by simp [dAt, lenOfP_none hk],
    filterMap_inter (dAt A B) (B.map (·.1)) (A.map (·.1)) fun k _ hk => by simp [dAt, lenOfP_none hk]]
  exact (inter_perm_comm hA hB).filterMap _

theorem rat_sub_eq_zero {a b : Rat} : a - b = 0 ↔ a = b := by
  constructor
  · intro h; grind
  · intro h; rw [h]; grind

/-- "every side of `B` has in `A` the length it has in `B`, and every side of `A` is one of `B`" says: same
    sides, and all the differences on the shared sides are zero -/
theorem wsameP (A B : KL) :
    ((B.all fun q => lenOfP A q.1 == some q.2) && A.all fun p => (B.map (·.1)).contains p.1) = true ↔
      (∀ k, k ∈ A.map (·.1) ↔ k ∈ B.map (·.1)) ∧
      ∀ d ∈ B.filterMap (fun q => (lenOfP A q.1).map fun l => l - q.2), d = 0 := by
  simp only [Bool.and_eq_true, all_eq_true, beq_iff_eq, contains_iff_mem, mem_filterMap, Option.map_eq_some_iff]
  constructor
  · rintro ⟨h1, h2⟩
    refine ⟨fun k => ⟨fun hk => ?_, fun hk => ?_⟩, ?_⟩
    · obtain ⟨p, hp, rfl⟩ := mem_map.mp hk; exact h2 p hp
    · obtain ⟨q, hq, rfl⟩ := mem_map.mp hk
      have := lenOfP_isSome A q.1
      rw [h1 q hq] at this
      exact contains_iff_mem.mp this.symm
    · rintro d ⟨q, hq, a, ha, rfl⟩
      rw [h1 q hq] at ha
      exact rat_sub_eq_zero.mpr (Option.some.inj ha).symm
  · rintro ⟨h1, h2⟩
    refine ⟨fun q hq => ?_, fun p hp => (h1 p.1).mp (mem_map.mpr ⟨p, hp, rfl⟩)⟩
    have := lenOfP_isSome A q.1
    rw [contains_eq_mem, decide_eq_true ((h1 q.1).mpr (mem_map.mpr ⟨q, hq, rfl⟩))] at this
    cases hl : lenOfP A q.1 with
    | none => rw [hl] at this; cases this
    | some a => rw [rat_sub_eq_zero.mp (h2 (a - q.2) ⟨q, hq, a, hl, rfl⟩)]

/-! ## the weighted record against the Spec -/

/-- side and length of the branches the code counts -/
def K (tips : Bool) (t : T) : KL := (t.splits.filter (counted tips)).map fun s => (key t.tipNames s, s.e.len)

theorem K_keys (tips : Bool) (t : T) : (K tips t).map (·.1) = keys tips t := by rw [K, map_map]; rfl

theorem K_nodup (tips : Bool) (t : T) (ht : good t = true) : ((K tips t).map (·.1)).Nodup :=
  K_keys tips t ▸ (keys_nodup (good_parts ht).2.2.1).sublist (filter_sublist.map _)

theorem U_pr_perm (tips : Bool) (t : T) (ht : good t = true) : (U tips t).map pr ~ K tips t := by
  refine ((U_perm t tips ht).map pr).trans (Perm.of_eq ?_)
  rw [map_map]; rfl

theorem mem_S_iff_K (tips : Bool) (t : T) (ht : good t = true) (k : List String) :
    k ∈ S tips t ↔ k ∈ (K tips t).map (·.1) := by rw [K_keys]; exact mem_S_iff t tips ht k

theorem K_filterMap {β : Type} (tips : Bool) (t : T) (f : List String × Rat → Option β) :
    (K tips t).filterMap f = (t.splits.filter (counted tips)).filterMap fun s => f (key t.tipNames s, s.e.len) := by
  rw [K, filterMap_map]; rfl

theorem onlyP_K (tips : Bool) (t : T) (B : KL) :
    onlyP (K tips t) B = ((t.splits.filter (counted tips)).filter
      fun s => !(B.map (·.1)).contains (key t.tipNames s)).map (·.e.len) := by
  rw [onlyP, K, filter_map, map_map]; rfl

theorem K_all (tips : Bool) (t : T) (p : List String × Rat → Bool) :
    (K tips t).all p = (t.splits.filter (counted tips)).all fun s => p (key t.tipNames s, s.e.len) := by
  rw [K, all_map]; rfl

/-- ★ a lookup in the index of `r` for a counted branch of `c` answers the length the split has in `r` -/
theorem hitLen_eq (r c : T) (tips : Bool) (hT : sameTaxa r c = true) (hr : good r = true) (hc : good c = true)
    (e : SplitE) (he : e ∈ c.splits.filter (counted tips)) :
    hitLen (buildIndex r.tipNames r.splits) c.tipNames e = lenOfP (K tips r) (key c.tipNames e) := by
  obtain ⟨he, hcnt⟩ := mem_filter.mp he
  by_cases hk : key c.tipNames e ∈ (K tips r).map (·.1)
  · obtain ⟨p, hp, hpk⟩ := mem_map.mp hk
    obtain ⟨s, hs, rfl⟩ := mem_map.mp hp
    rw [← hpk, lenOfP_mem (K_nodup tips r hr) hp, hitLen, ← show key r.tipNames s = key c.tipNames e from hpk]
    exact value_buildFrom_len r.tipNames r.splits 0 [] s (keys_nodup (good_parts hr).2.2.1) (mem_filter.mp hs).1
  · have h := hit_iff_S r c tips hT hr hc e he hcnt
    have hS : canonSide c.tipNames e.below ∉ S tips r := fun hm => hk ((mem_S_iff_K tips r hr _).mp hm)
    rw [contains_eq_mem, decide_eq_false hS] at h
    rw [lenOfP_none hk]
    cases hl : hitLen (buildIndex r.tipNames r.splits) c.tipNames e with
    | none => rfl
    | some _ => rw [hl] at h; cases h

/-- the terms specific to one tree, as the model computes them, are the Spec's -/
theorem only_model_spec (a b : T) (tips : Bool) (hT : sameTaxa b a = true) (ha : good a = true) (hb : good b = true) :
    ((a.splits.filter (counted tips)).filter
        (fun e => (hitLen (buildIndex b.tipNames b.splits) a.tipNames e).isNone)).map (·.e.len)
      ~ onlyLens (U tips a) (U tips b) := by
  rw [onlyLens_eq]
  refine Perm.trans (Perm.of_eq ?_) (onlyP_congr (B' := K tips b) (U_pr_perm tips a ha) fun k => ?_).symm
  · rw [onlyP_K]
    refine congrArg (map _) (filter_congr fun e he => ?_)
    rw [← Option.not_isSome, hitLen_eq b a tips hT hb ha e he, lenOfP_isSome]
  · exact ((U_pr_perm tips b hb).map _).mem_iff

/-- the shared terms as the model computes them, in pairs -/
theorem common_model (r c : T) (tips : Bool) (hT : sameTaxa r c = true) (hr : good r = true) (hc : good c = true) :
    (c.splits.filter (counted tips)).filterMap
        (fun e => (hitLen (buildIndex r.tipNames r.splits) c.tipNames e).map (fun rl => rl - e.e.len))
      = (K tips c).filterMap fun q => (lenOfP (K tips r) q.1).map fun l => l - q.2 := by
  rw [K_filterMap]
  exact filterMap_congr' fun e he => by rw [hitLen_eq r c tips hT hr hc e he]

theorem common_perm (r c : T) (tips : Bool) (hT : sameTaxa r c = true) (hr : good r = true) (hc : good c = true) :
    (c.splits.filter (counted tips)).filterMap
        (fun e => (hitLen (buildIndex r.tipNames r.splits) c.tipNames e).map (fun rl => rl - e.e.len))
      ~ commonDiffs (U tips r) (U tips c) := by
  rw [common_model r c tips hT hr hc, commonDiffs_eq]
  exact (commonP_symm (K_nodup tips r hr) (K_nodup tips c hc)).symm.trans
    (commonP_congr (U_pr_perm tips r hr) (U_pr_perm tips c hc)
      (((U_pr_perm tips c hc).map _).nodup_iff.mpr (K_nodup tips c hc))).symm

theorem wsame_eq (r c : T) (tips : Bool) (hT : sameTaxa r c = true) (hr : good r = true) (hc : good c = true) :
    ((c.splits.filter (counted tips)).all
        (fun e => hitLen (buildIndex r.tipNames r.splits) c.tipNames e == some e.e.len) &&
      (r.splits.filter (counted tips)).all
        (fun e => (hitLen (buildIndex c.tipNames c.splits) r.tipNames e).isSome))
      = wSame r c tips := by
  have e1 : (c.splits.filter (counted tips)).all
      (fun e => hitLen (buildIndex r.tipNames r.splits) c.tipNames e == some e.e.len)
      = (K tips c).all fun q => lenOfP (K tips r) q.1 == some q.2 := by
    rw [K_all]; exact all_congr' fun e he => by rw [hitLen_eq r c tips hT hr hc e he]
  have e2 : (r.splits.filter (counted tips)).all
      (fun e => (hitLen (buildIndex c.tipNames c.splits) r.tipNames e).isSome)
      = (K tips r).all fun p => ((K tips c).map (·.1)).contains p.1 := by
    rw [K_all]
    exact all_congr' fun e he => by rw [hitLen_eq c r tips (sameTaxa_symm r c hT) hc hr e he, lenOfP_isSome]
  rw [e1, e2, Bool.eq_iff_iff, wsameP, wSame, Bool.and_eq_true, sameSplits, diffs_empty_iff,
    ← (common_perm r c tips hT hr hc).all_eq, common_model r c tips hT hr hc, all_eq_true]
  simp only [beq_iff_eq, mem_S_iff_K tips r hr, mem_S_iff_K tips c hc]

/-- `weighted_terms` under the semantic hypotheses -/
theorem compareWeighted_noSC_of_good (r c : T) (tips : Bool) (hT : sameTaxa r c = true)
    (hr : good r = true) (hc : good c = true) :
    ∃ w, compareWeighted r c tips false = .ok w ∧
      w.tree1 ~ onlyLens (U tips r) (U tips c) ∧ w.tree2 ~ onlyLens (U tips c) (U tips r) ∧
      w.common ~ commonDiffs (U tips r) (U tips c) ∧ w.same = wSame r c tips := by
  obtain ⟨_, h1, h2, h3⟩ := checks_of_good hT hr hc
  unfold compareWeighted
  simp only [h1, h2, h3, Bool.not_true, Bool.false_eq_true, if_false, wLoop1_noSC, wLoop2_noSC, Bool.true_and]
  exact ⟨_, rfl, only_model_spec r c tips (sameTaxa_symm r c hT) hr hc, only_model_spec c r tips hT hc hr,
    common_perm r c tips hT hr hc, wsame_eq r c tips hT hr hc⟩

/-! ## CommonEdges / FindEdge -/

theorem commonLoop_closed (all1 all2 : List String) (tips : Bool) (edges2 l : List SplitE) (acc : Nat × Nat) :
    commonLoop all1 all2 tips edges2 l acc =
      (acc.1 + l.countP (counted tips),
       acc.2 + l.countP (fun e => findEdge all1 all2 e edges2 && counted tips e)) := by
  induction l generalizing acc with
  | nil => simp [commonLoop]
  | cons e r ih =>
    obtain ⟨t1, co⟩ := acc
    unfold commonLoop
    cases hc : counted tips e with
    | false => simp only [Bool.false_eq_true, if_false]; rw [ih]; simp [hc]
    | true =>
      simp only [if_true]
      rw [ih]
      cases hf : findEdge all1 all2 e edges2 <;> simp [hc, hf] <;> omega

theorem findEdge_iff_S (r c : T) (tips : Bool) (hT : sameTaxa r c = true) (hr : good r = true) (hc : good c = true)
    (e : SplitE) (he : e ∈ r.splits) (hcnt : counted tips e = true) :
    findEdge r.tipNames c.tipNames e c.splits = (S tips c).contains (canonSide r.tipNames e.below) := by
  have hp := (checks_of_good hT hr hc).1.symm
  have hr4 := (good_parts hr).2.2.2.1
  have hc4 := (good_parts hc).2.2.2.1
  rw [Bool.eq_iff_iff, contains_iff_mem, mem_S_iff c tips hc]
  refine Iff.trans ?_ (mem_keys_iff tips hp hc4 hr4 he hcnt)
  unfold findEdge
  simp only [any_eq_true, Bool.and_eq_true, beq_iff_eq, mem_map]
  exact ⟨fun ⟨e2, h2, _, hk⟩ => ⟨e2, h2, hk.symm⟩,
    fun ⟨e2, h2, hk⟩ => ⟨e2, h2, (tip_eq_of_key_eq hp hc4 hr4 h2 he hk).symm, hk.symm⟩⟩

theorem commonEdges_of_good (r c : T) (tips : Bool) (hT : sameTaxa r c = true)
    (hr : good r = true) (hc : good c = true) :
    commonEdges r c tips =
      .ok (((diffL (S tips r) (S tips c)).length : Int), ((interL (S tips r) (S tips c)).length : Int)) := by
  unfold commonEdges
  simp only [(checks_of_good hT hr hc).2.2.2, Bool.not_true, Bool.false_eq_true, if_false, commonLoop_closed,
    Nat.zero_add]
  have hR := S_length r tips hr
  have e1 := length_inter_add_diff (S tips r) (S tips c)
  have hco := countP_inter r tips hr (S tips c) (fun e => findEdge r.tipNames c.tipNames e c.splits)
    (findEdge_iff_S r c tips hT hr hc)
  refine congrArg Res.ok ?_
  simp only [Prod.mk.injEq]
  constructor <;> omega

/-! ## what the command prints -/

theorem perm_sum_rat {a b : List Rat} (h : a ~ b) : a.sum = b.sum := by
  induction h with
  | nil => rfl
  | cons x _ ih => simp only [sum_cons, ih]
  | swap x y l => simp only [sum_cons]; grind
  | trans _ _ ih1 ih2 => exact ih1.trans ih2

/-- the Spec's weighted Robinson-Foulds distance and the radicand of the branch score -/
def wrfSpec (r c : T) (tips : Bool) : Rat :=
  ((commonDiffs (U tips r) (U tips c)).map absR).sum + (onlyLens (U tips r) (U tips c)).sum +
    (onlyLens (U tips c) (U tips r)).sum

def kf2Spec (r c : T) (tips : Bool) : Rat :=
  ((commonDiffs (U tips r) (U tips c)).map fun d => d * d).sum +
    ((onlyLens (U tips r) (U tips c)).map fun d => d * d).sum +
    ((onlyLens (U tips c) (U tips r)).map fun d => d * d).sum

theorem sums_of_perm (w : WStats) (r c : T) (tips : Bool)
    (h1 : w.tree1 ~ onlyLens (U tips r) (U tips c)) (h2 : w.tree2 ~ onlyLens (U tips c) (U tips r))
    (h3 : w.common ~ commonDiffs (U tips r) (U tips c)) :
    wrf w = wrfSpec r c tips ∧ kf2 w = kf2Spec r c tips := by
  unfold wrf kf2 wrfSpec kf2Spec
  rw [perm_sum_rat (h3.map absR), perm_sum_rat h1, perm_sum_rat h2,
    perm_sum_rat (h3.map fun d => d * d), perm_sum_rat (h1.map fun d => d * d),
    perm_sum_rat (h2.map fun d => d * d)]
  exact ⟨rfl, rfl⟩

end Gotree.C08.Canon

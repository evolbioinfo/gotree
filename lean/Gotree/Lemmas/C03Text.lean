/-
  C03 — the reference Newick reader of Spec/C03.lean re-reads what the writer model of C01
  (`Gotree.Newick.write`, the transliteration of Node.Newick / Tree.Newick) writes.
-/
import Gotree.Spec.C03Text

namespace Gotree.C03
open Gotree Gotree.Newick

/- ## what a piece of text starts with

  The reader looks one character ahead; every side condition below is of the kind "the text is
  empty or its first character satisfies `P`". -/

def Starts (P : Char → Prop) (l : List Char) : Prop := ∀ c r, l = c :: r → P c

theorem starts_cons {P : Char → Prop} {c : Char} (h : P c) (r : List Char) : Starts P (c :: r) := by
  rintro _ _ ⟨⟩; exact h

theorem Starts.append {P : Char → Prop} {a b : List Char} (ha : Starts P a) (hb : Starts P b) : Starts P (a ++ b) := by
  cases a with
  | nil => exact hb
  | cons c r => exact starts_cons (ha c r rfl) _

/-- the text that follows starts with a metacharacter (or is empty) -/
abbrev MetaNext := Starts (isMeta · = true)

theorem takeWord_spec : ∀ (w rest acc : List Char), notMeta w = true → MetaNext rest →
    takeWord (w ++ rest) acc = (acc.reverse ++ w, rest)
  | [], [], acc, _, _ => by simp [takeWord]
  | [], c :: r, acc, _, hm => by
    have := hm c r rfl
    simp [takeWord, this]
  | a :: w, rest, acc, hw, hm => by
    simp only [notMeta, List.all_cons, Bool.and_eq_true, Bool.not_eq_true'] at hw
    have ih := takeWord_spec w rest (a :: acc) (by simpa [notMeta] using hw.2) hm
    simp [takeWord, hw.1, ih]

theorem takeComment_spec : ∀ (c r acc : List Char), c.all (· != ']') = true →
    takeComment (c ++ ']' :: r) acc = some (acc.reverse ++ c, r)
  | [], r, acc, _ => by simp [takeComment]
  | a :: c, r, acc, h => by
    simp only [List.all_cons, Bool.and_eq_true, bne_iff_ne, ne_eq] at h
    have ih := takeComment_spec c r (a :: acc) h.2
    simp [takeComment, h.1, ih]

abbrev NoBracket := Starts (· ≠ '[')

theorem takeComments_stop (rest : List Char) (fuel : Nat) (acc : List String) (hn : NoBracket rest) :
    takeComments (fuel + 1) rest acc = some (acc.reverse, rest) := by
  unfold takeComments
  split
  · rename_i heq; cases heq
  · exact absurd rfl (hn _ _ rfl)
  · rename_i h1 h2 h3 h4
    simp_all

theorem takeComments_spec : ∀ (cs : List String) (rest : List Char) (fuel : Nat) (acc : List String),
    cs.all commentOK3 = true → NoBracket rest → cs.length + 1 ≤ fuel →
    takeComments fuel (writeComments cs ++ rest) acc = some (acc.reverse ++ cs, rest)
  | [], rest, fuel + 1, acc, _, hn, _ => by
    simpa [writeComments] using takeComments_stop rest fuel acc hn
  | c :: cs, rest, fuel + 1, acc, hc, hn, hf => by
    simp only [List.all_cons, Bool.and_eq_true] at hc
    have ih := takeComments_spec cs rest fuel (c :: acc) hc.2 hn (by simp at hf; omega)
    have hcm := takeComment_spec c.toList (writeComments cs ++ rest) [] (by simpa [commentOK3] using hc.1)
    simp only [writeComments, List.map_cons, List.flatten_cons, bracket, List.cons_append, List.append_assoc,
      List.nil_append] at hcm ⊢
    simp only [takeComments, hcm]
    simpa [writeComments] using ih
  | [], _, 0, _, _, _, hf => by simp at hf
  | _ :: _, _, 0, _, _, _, hf => by simp at hf

/- ## what follows a node: ',' or ')' or ';' -/

def StopC (rest : List Char) : Prop := ∃ c r, rest = c :: r ∧ (c = ',' ∨ c = ')' ∨ c = ';')

theorem StopC.starts {P : Char → Prop} {rest : List Char} (h : StopC rest) (h1 : P ',') (h2 : P ')') (h3 : P ';') :
    Starts P rest := by
  obtain ⟨c, r, rfl, rfl | rfl | rfl⟩ := h <;> exact starts_cons ‹_› _

theorem writeComments_length (cs : List String) : cs.length ≤ (writeComments cs).length := by
  induction cs with
  | nil => simp [writeComments]
  | cons c r ih =>
    simp only [writeComments, List.map_cons, List.flatten_cons, bracket, List.length_append, List.length_cons] at ih ⊢
    omega

theorem starts_comments {P : Char → Prop} (h : P '[') (cs : List String) {rest : List Char} (hr : Starts P rest) :
    Starts P (writeComments cs ++ rest) := by
  cases cs with
  | nil => exact hr
  | cons c r => exact starts_cons h _

def lenText : Option (List Char) → List Char
  | none => []
  | some w => ':' :: w

theorem starts_lenText {P : Char → Prop} (h : P ':') (olen : Option (List Char)) {rest : List Char} (hr : Starts P rest) :
    Starts P (lenText olen ++ rest) := by
  cases olen with
  | none => exact hr
  | some w => exact starts_cons h _

/-- the part of a node's text after the children: label, node comments, optional length, branch
    comments (branch comments only after a length: otherwise the text cannot tell them from
    node comments) -/
theorem readTail_spec (depth : Nat) (kidsNs : List TextNode) (lab : List Char)
    (ncs : List String) (olen : Option (List Char)) (ecs : List String) (rest : List Char)
    (hlab : notMeta lab = true) (hn : ncs.all commentOK3 = true) (he : ecs.all commentOK3 = true)
    (hlen : ∀ w, olen = some w → notMeta w = true) (hec : olen = none → ecs = []) (hs : StopC rest) :
    readTail depth kidsNs (lab ++ (writeComments ncs ++ (lenText olen ++ (writeComments ecs ++ rest)))) =
      some (kidsNs ++ [⟨depth, String.ofList lab, ncs, olen.map String.ofList, ecs⟩], rest) := by
  have hnb : NoBracket rest := hs.starts (by decide) (by decide) (by decide)
  have hm4 : MetaNext (writeComments ecs ++ rest) :=
    starts_comments (by decide) ecs (hs.starts (by decide) (by decide) (by decide))
  have hm2 : MetaNext (writeComments ncs ++ (lenText olen ++ (writeComments ecs ++ rest))) :=
    starts_comments (by decide) ncs (starts_lenText (by decide) olen hm4)
  have hnb3 : NoBracket (lenText olen ++ (writeComments ecs ++ rest)) := by
    cases olen with
    | none => rw [hec rfl]; exact hnb
    | some w => exact starts_cons (by decide) _
  unfold readTail
  simp only [takeWord_spec lab _ [] hlab hm2, List.reverse_nil, List.nil_append]
  rw [takeComments_spec ncs _ _ [] hn hnb3 (by
    have := writeComments_length ncs
    simp only [List.length_append]; omega)]
  simp only [List.reverse_nil, List.nil_append]
  cases olen with
  | none =>
    obtain rfl := hec rfl
    have h1 := fun fuel => takeComments_stop rest fuel [] hnb
    obtain ⟨c, r, rfl, hc⟩ := hs
    simp only [lenText, writeComments, List.map_nil, List.flatten_nil, List.nil_append, Option.map_none]
    -- the character is spelt out so that the reader's match on ':' reduces
    rcases hc with rfl | rfl | rfl <;> simp [h1]
  | some w =>
    simp only [lenText, List.cons_append, Option.map_some]
    rw [takeWord_spec w _ [] (hlen w rfl) hm4]
    simp only [List.reverse_nil, List.nil_append]
    rw [takeComments_spec ecs rest _ [] he hnb (by
      have := writeComments_length ecs
      simp only [List.length_append]; omega)]
    simp

/-- the label the writer gives: name, or support[/p-value] for an unnamed node -/
def labOf (C : Codec) (d : NodeD) (e : EdgeD) : List Char :=
  d.name.toList ++ (if e.sup != NIL && d.name == "" then
     C.fmt e.sup ++ (if e.pval != NIL then '/' :: C.fmt e.pval else []) else [])

def olenOf (C : Codec) (e : EdgeD) : Option (List Char) := if e.len != NIL then some (C.fmt e.len) else none

theorem decor_shape (C : Codec) (d : NodeD) (e : EdgeD) (rest : List Char) :
    d.name.toList ++ (writeDecor C e d ++ rest) =
      labOf C d e ++ (writeComments d.comments ++ (lenText (olenOf C e) ++ (writeComments e.comments ++ rest))) := by
  unfold writeDecor labOf olenOf
  by_cases h1 : (e.sup != NIL && d.name == "") = true <;> by_cases h2 : (e.len != NIL) = true <;>
    simp [h1, h2, lenText]

theorem splitSlash_none : ∀ (a acc : List Char), a.all (· != '/') = true → splitSlash a acc = (acc.reverse ++ a, none)
  | [], acc, _ => by simp [splitSlash]
  | c :: a, acc, h => by
    simp only [List.all_cons, Bool.and_eq_true, bne_iff_ne, ne_eq] at h
    have ih := splitSlash_none a (c :: acc) h.2
    simp [splitSlash, h.1, ih]

theorem splitSlash_some : ∀ (a b acc : List Char), a.all (· != '/') = true →
    splitSlash (a ++ '/' :: b) acc = (acc.reverse ++ a, some b)
  | [], b, acc, _ => by simp [splitSlash]
  | c :: a, b, acc, h => by
    simp only [List.all_cons, Bool.and_eq_true, bne_iff_ne, ne_eq] at h
    have ih := splitSlash_some a b (c :: acc) h.2
    simp [splitSlash, h.1, ih]

theorem numTextOK_spec {C : Codec} {q : Rat} (h : numTextOK C q = true) :
    notMeta (C.fmt q) = true ∧ (C.fmt q).all (· != '/') = true ∧ decOK (String.ofList (C.fmt q)) q = true := by
  unfold numTextOK at h
  simp only [Bool.and_eq_true] at h
  exact ⟨h.1.1, h.1.2, h.2⟩

theorem decorWF_spec {C : Codec} {d : NodeD} {e : EdgeD} (h : decorWF C d e = true) :
    notMeta d.name.toList = true ∧ d.comments.all commentOK3 = true ∧ e.comments.all commentOK3 = true ∧
    (e.len ≠ NIL → numTextOK C e.len = true) ∧ (e.len = NIL → e.comments = []) ∧
    (d.name = "" → e.sup ≠ NIL → numTextOK C e.sup = true ∧ (e.pval ≠ NIL → numTextOK C e.pval = true)) := by
  simp only [decorWF, Bool.and_eq_true, Bool.or_eq_true, bne_iff_ne, ne_eq, beq_iff_eq, List.isEmpty_iff] at h
  obtain ⟨⟨⟨⟨⟨h1, h2⟩, h3⟩, h4⟩, h5⟩, h6⟩ := h
  refine ⟨h1, h2, h3, h4.resolve_left, fun hq => h5.resolve_left (not_not_intro hq), fun hn hs => ?_⟩
  have h := h6.resolve_left (not_or.mpr ⟨not_not_intro hn, hs⟩)
  exact ⟨h.1, h.2.resolve_left⟩

/-- the entry the reader produces for a node written by the writer matches the node -/
theorem entry_ok (C : Codec) (depth : Nat) (d : NodeD) (e : EdgeD) (h : decorWF C d e = true) :
    nodeTextOK ⟨depth, d, some e⟩
      ⟨depth, String.ofList (labOf C d e), d.comments, (olenOf C e).map String.ofList, e.comments⟩ = true := by
  obtain ⟨_, _, _, hlen, hecl, hsup⟩ := decorWF_spec h
  have hlab : labelOK d (some e) (String.ofList (labOf C d e)) = true := by
    unfold labelOK labOf
    by_cases hn : d.name = ""
    · by_cases hs : e.sup = NIL
      · simp [hn, hs]
      · obtain ⟨hsn, hp⟩ := hsup hn hs
        obtain ⟨_, hns, hds⟩ := numTextOK_spec hsn
        by_cases hpv : e.pval = NIL
        · simp [hn, hs, hpv, splitSlash_none _ [] hns, hds]
        · obtain ⟨_, _, hdp⟩ := numTextOK_spec (hp hpv)
          simp [hn, hs, hpv, splitSlash_some _ _ [] hns, hds, hdp]
    · simp [hn]
  by_cases hq : e.len = NIL
  · simp [nodeTextOK, hlab, olenOf, hq, hecl hq]
  · simp [nodeTextOK, hlab, olenOf, hq, (numTextOK_spec (hlen hq)).2.2]

/- ## fuel -/
mutual
def need : T → Nat
  | .node _ _ [] => 1
  | .node _ _ (k :: ks) => 1 + needL (k :: ks)
def needL : Kids → Nat
  | [] => 0
  | [(_, t)] => 1 + need t
  | (_, t) :: k2 :: ks => 1 + max (need t) (needL (k2 :: ks))
end

theorem writeKids_one (C : Codec) (e : EdgeD) (t : T) :
    writeKids C true [(e, t)] = writeNode C true t ++ writeDecor C e t.d := by
  simp [writeKids]

theorem writeKids_more (C : Codec) (e : EdgeD) (t : T) (x : EdgeD × T) (r : Kids) :
    writeKids C true ((e, t) :: x :: r) =
      writeNode C true t ++ (writeDecor C e t.d ++ ',' :: writeKids C true (x :: r)) := by
  obtain ⟨e', t'⟩ := x
  simp [writeKids]

theorem writeNode_leaf (C : Codec) (b : Bool) (d : NodeD) (p : Nat) : writeNode C b (.node d p []) = d.name.toList := by
  cases b <;> simp [writeNode, writeKids]

theorem writeNode_inner (C : Codec) (b : Bool) (d : NodeD) (p : Nat) (k : EdgeD × T) (ks : Kids) :
    writeNode C b (.node d p (k :: ks)) = '(' :: (writeKids C true (k :: ks) ++ (')' :: d.name.toList)) := by
  cases b <;> simp [writeNode]

theorem readNode_paren (fuel depth : Nat) (r : List Char) :
    readNode (fuel + 1) depth ('(' :: r) =
      (match readKids fuel (depth + 1) r [] with
       | none => none
       | some (kids, r1) => readTail depth kids r1) := by
  rw [readNode]
  rfl

theorem readNode_noparen (fuel depth : Nat) (cs : List Char) (h : Starts (· ≠ '(') cs) :
    readNode (fuel + 1) depth cs = readTail depth [] cs := by
  unfold readNode
  split
  · rename_i heq; cases heq
  · exact absurd rfl (h _ _ rfl)
  · simp_all

/-- the entries of the tree and the entries read from the text agree one by one -/
inductive Match : List ExpNode → List TextNode → Prop where
  | nil : Match [] []
  | cons {x y xs ys} (h : nodeTextOK x y = true) (t : Match xs ys) : Match (x :: xs) (y :: ys)

theorem Match.append {a c : List ExpNode} {b d : List TextNode} (h1 : Match a b) (h2 : Match c d) :
    Match (a ++ c) (b ++ d) := by
  induction h1 with
  | nil => simpa using h2
  | cons h _ ih => exact Match.cons h ih

theorem Match.length {a : List ExpNode} {b : List TextNode} (h : Match a b) : a.length = b.length := by
  induction h with
  | nil => rfl
  | cons _ _ ih => simp [ih]

theorem Match.all {a : List ExpNode} {b : List TextNode} (h : Match a b) :
    (List.zipWith nodeTextOK a b).all id = true := by
  induction h with
  | nil => rfl
  | cons h _ ih => simp [h, ih]

theorem stop_comma (r : List Char) : StopC (',' :: r) := ⟨',', r, rfl, Or.inl rfl⟩
theorem stop_close (r : List Char) : StopC (')' :: r) := ⟨')', r, rfl, Or.inr (Or.inl rfl)⟩

theorem labOf_notMeta {C : Codec} {d : NodeD} {e : EdgeD} (hd : decorWF C d e = true) : notMeta (labOf C d e) = true := by
  obtain ⟨hnm, _, _, _, _, hsup⟩ := decorWF_spec hd
  unfold labOf
  split
  · rename_i h1
    simp only [Bool.and_eq_true, bne_iff_ne, ne_eq, beq_iff_eq] at h1
    obtain ⟨hsn, hp⟩ := hsup h1.2 h1.1
    simp only [notMeta, List.all_append, Bool.and_eq_true] at hnm ⊢
    refine ⟨hnm, (numTextOK_spec hsn).1, ?_⟩
    split
    · rename_i hpv
      simp only [List.all_cons, Bool.and_eq_true]
      exact ⟨by decide, (numTextOK_spec (hp (by simpa using hpv))).1⟩
    · rfl
  · simpa using hnm

/-- the part of a node's text after its children, as the writer decorates it: the reader takes it
    apart into the entry of that node -/
theorem readTail_decor (C : Codec) (depth : Nat) (kidsNs : List TextNode) (d : NodeD) (e : EdgeD)
    (rest : List Char) (hd : decorWF C d e = true) (hs : StopC rest) :
    readTail depth kidsNs (d.name.toList ++ (writeDecor C e d ++ rest)) =
      some (kidsNs ++ [⟨depth, String.ofList (labOf C d e), d.comments, (olenOf C e).map String.ofList, e.comments⟩], rest) := by
  obtain ⟨_, hnc, hec, hlen, hecl, _⟩ := decorWF_spec hd
  rw [decor_shape]
  refine readTail_spec depth kidsNs _ _ _ _ rest (labOf_notMeta hd) hnc hec (fun w hw => ?_) (fun ho => ?_) hs
  · have hq : e.len ≠ NIL := fun hq => by simp [olenOf, hq] at hw
    obtain rfl : C.fmt e.len = w := by simpa [olenOf, hq] using hw
    exact (numTextOK_spec (hlen hq)).1
  · exact hecl (by simpa [olenOf] using ho)

/-- a node without children never reads as one with children: its text starts with a label
    character, '[', ':' or what follows the node -/
theorem decor_noparen (C : Codec) (d : NodeD) (e : EdgeD) (rest : List Char) (hd : decorWF C d e = true)
    (hs : StopC rest) : Starts (· ≠ '(') (d.name.toList ++ (writeDecor C e d ++ rest)) := by
  rw [decor_shape]
  refine Starts.append (fun c r h => ?_) (starts_comments (by decide) _ (starts_lenText (by decide) _
    (starts_comments (by decide) _ (hs.starts (by decide) (by decide) (by decide)))))
  have := labOf_notMeta hd
  rw [h] at this
  rintro rfl
  simp [notMeta, isMeta] at this

mutual
theorem readNode_write (C : Codec) : ∀ (t : T) (e : EdgeD) (depth fuel : Nat) (rest : List Char),
    decorWF C t.d e = true → textWFsub C t = true → StopC rest → need t ≤ fuel →
    ∃ ns, readNode fuel depth (writeNode C true t ++ (writeDecor C e t.d ++ rest)) = some (ns, rest) ∧
      Match (expPost depth (some e) t) ns
  | .node d p [], e, depth, fuel, rest, hd, _, hs, hf => by
    cases fuel with
    | zero => simp [need] at hf
    | succ fuel =>
      rw [writeNode_leaf, T.d_node, readNode_noparen fuel depth _ (decor_noparen C d e rest hd hs),
        readTail_decor C depth [] d e rest hd hs]
      exact ⟨_, rfl, Match.cons (entry_ok C depth d e hd) Match.nil⟩
  | .node d p (k :: ks), e, depth, fuel, rest, hd, hw, hs, hf => by
    cases fuel with
    | zero => simp [need] at hf
    | succ fuel =>
      simp only [need, Nat.add_comm 1] at hf
      obtain ⟨ns, hk, hm⟩ := readKids_write C (k :: ks) (depth + 1) fuel
        (d.name.toList ++ (writeDecor C e d ++ rest)) [] (by simp) (by simpa [textWFsub] using hw) (by omega)
      rw [writeNode_inner, T.d_node]
      simp only [List.cons_append, List.append_assoc]
      rw [readNode_paren, hk]
      simp only [List.nil_append]
      rw [readTail_decor C depth ns d e rest hd hs]
      exact ⟨_, rfl, hm.append (Match.cons (entry_ok C depth d e hd) Match.nil)⟩
theorem readKids_write (C : Codec) : ∀ (k : Kids) (depth fuel : Nat) (rest : List Char) (acc : List TextNode),
    k ≠ [] → textWFL C k = true → needL k ≤ fuel →
    ∃ ns, readKids fuel depth (writeKids C true k ++ (')' :: rest)) acc = some (acc ++ ns, rest) ∧
      Match (expPostL depth k) ns
  | [], _, _, _, _, h, _, _ => absurd rfl h
  | [(e, t)], depth, fuel, rest, acc, _, hw, hf => by
    simp only [textWFL, Bool.and_eq_true] at hw
    cases fuel with
    | zero => simp [needL] at hf
    | succ fuel =>
      simp only [needL] at hf
      obtain ⟨ns, hr, hm⟩ := readNode_write C t e depth fuel (')' :: rest) hw.1.1 hw.1.2 (stop_close rest) (by omega)
      refine ⟨ns, ?_, by simpa [expPostL] using hm⟩
      rw [writeKids_one, List.append_assoc, readKids, hr]
      rfl
  | (e, t) :: k2 :: ks, depth, fuel, rest, acc, _, hw, hf => by
    simp only [textWFL, Bool.and_eq_true] at hw
    cases fuel with
    | zero => simp [needL] at hf
    | succ fuel =>
      simp only [needL] at hf
      have hw2 : textWFL C (k2 :: ks) = true := by simpa [textWFL, Bool.and_eq_true] using hw.2
      obtain ⟨ns, hr, hm⟩ := readNode_write C t e depth fuel
        (',' :: (writeKids C true (k2 :: ks) ++ (')' :: rest))) hw.1.1 hw.1.2 (stop_comma _) (by omega)
      obtain ⟨ns2, hr2, hm2⟩ := readKids_write C (k2 :: ks) depth fuel rest (acc ++ ns) (by simp) hw2 (by omega)
      refine ⟨ns ++ ns2, ?_, ?_⟩
      · simp only [writeKids_more, List.append_assoc, List.cons_append]
        rw [readKids, hr]
        simp only
        rw [hr2, List.append_assoc]
      · simp only [expPostL]
        exact hm.append hm2
end

/- ## enough fuel: the reader is started with (length of the text + 1) -/
mutual
theorem need_le (C : Codec) : ∀ (t : T), need t ≤ (writeNode C true t).length + 1
  | .node d p [] => by simp [need]
  | .node d p (k :: ks) => by
    have := needL_le C (k :: ks) (by simp)
    rw [writeNode_inner]
    simp only [need, List.length_cons, List.length_append]
    omega
theorem needL_le (C : Codec) : ∀ (k : Kids), k ≠ [] → needL k ≤ (writeKids C true k).length + 2
  | [], h => absurd rfl h
  | [(e, t)], _ => by
    have := need_le C t
    simp only [needL, writeKids_one, List.length_append]
    omega
  | (e, t) :: k2 :: ks, _ => by
    have h1 := need_le C t
    have h2 := needL_le C (k2 :: ks) (by simp)
    simp only [needL, writeKids_more, List.length_append, List.length_cons]
    omega
end

theorem writeNode_root (C : Codec) (t : T) : writeNode C false t = writeNode C true t := by
  obtain ⟨d, p, k⟩ := t
  cases k with
  | nil => rw [writeNode_leaf, writeNode_leaf]
  | cons a l => rw [writeNode_inner, writeNode_inner]

theorem Match.snoc_weaken {x x' : ExpNode} (hx : ∀ y, nodeTextOK x y = true → nodeTextOK x' y = true) :
    ∀ (xs : List ExpNode) (ns : List TextNode), Match (xs ++ [x]) ns → Match (xs ++ [x']) ns
  | [], ns, h => by
    cases h with
    | cons h t => exact Match.cons (hx _ h) t
  | a :: xs, ns, h => by
    cases h with
    | cons h t => exact Match.cons h (Match.snoc_weaken hx xs _ t)

theorem root_entry_weaken (depth : Nat) (d : NodeD) (y : TextNode)
    (h : nodeTextOK ⟨depth, d, some EdgeD.blank⟩ y = true) : nodeTextOK ⟨depth, d, none⟩ y = true := by
  obtain ⟨yd, yl, ync, ylen, yec⟩ := y
  cases ylen <;> simp_all [nodeTextOK, labelOK, EdgeD.blank, NIL]

/-- the reference reader re-reads the writer's text as the tree -/
theorem readNewick_write (C : Codec) (t : T) (h : textWF C t = true) :
    ∃ ns, readNewick (writeStr C t) = some ns ∧ Match (expPost 0 none t) ns := by
  -- the root is written like a child below a blank branch, and an entry accepted for a blank
  -- branch is accepted for none (`root_entry_weaken`)
  simp only [textWF, Bool.and_eq_true] at h
  obtain ⟨⟨hname, hcom⟩, hsub⟩ := h
  have hd : decorWF C t.d EdgeD.blank = true := by
    simp [decorWF, hname, hcom, EdgeD.blank]
  have hdec : writeDecor C EdgeD.blank t.d = writeComments t.d.comments := by
    simp [writeDecor, EdgeD.blank, writeComments]
  have htext : (writeStr C t).toList = writeNode C true t ++ (writeDecor C EdgeD.blank t.d ++ [';']) := by
    simp [writeStr, write, writeNode_root, hdec]
  have hfuel : need t ≤ (writeStr C t).toList.length + 1 := by
    have := need_le C t
    rw [htext]; simp only [List.length_append]; omega
  obtain ⟨ns, hr, hm⟩ := readNode_write C t EdgeD.blank 0 _ [';'] hd hsub ⟨';', [], rfl, Or.inr (Or.inr rfl)⟩ hfuel
  refine ⟨ns, ?_, ?_⟩
  · unfold readNewick
    simp only []
    rw [htext] at hr ⊢
    rw [hr]
    rfl
  · obtain ⟨d, p, k⟩ := t
    simp only [expPost] at hm ⊢
    exact Match.snoc_weaken (fun y hy => root_entry_weaken 0 d y hy) _ _ hm

/-- ★ `write_describes`: the Newick text written for a tree, re-read, is that tree — shape, child
    order, names or supports, comments and lengths (the oracle `textProblems` finds nothing) -/
theorem textProblems_write (C : Codec) (t : T) (h : textWF C t = true) : textProblems t (writeStr C t) = [] := by
  obtain ⟨ns, hr, hm⟩ := readNewick_write C t h
  unfold textProblems
  simp only [hr]
  have hl := hm.length
  simp [hl, hm.all]

end Gotree.C03

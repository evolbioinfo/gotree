/-
  C01 — laws of the EXECUTABLE codec `goCodec` (the one the driver runs against strconv).

  Proved for every input, no hypothesis:
    goFormatFloat_clean    the text of any value is non-empty and made of digits, '.', '-' only
    goParseFloat_noSlash   a literal containing '/' is never accepted            (fourth law)
  The two remaining laws (`isFloat (fmt x)`, `parse (fmt x) = some x`) are decidable per value: `goDom x`
  is that check, the driver evaluates it on every value of every case (tag `godom`; a float64 value outside
  `goDom` is reported as a broken tie), and `goFloatCodec` is the resulting lawful `FloatCodec`, so that
  `parse_write` applies to the very functions the driver runs (Proofs/C01.lean, `parse_write_go`).
-/
import Gotree.Lemmas.C01Codec

namespace Gotree.Newick

/- ## the text of a number -/

def fmtChar (c : Char) : Bool := c.isDigit || c == '.' || c == '-'

theorem fmtChar_numClean (c : Char) (h : fmtChar c = true) : numClean c = true := by
  simp only [fmtChar, Bool.or_eq_true, beq_iff_eq] at h
  rcases h with (h | h) | h
  · exact digit_numClean c h
  · subst h; decide
  · subst h; decide

theorem natDigits_all (n : Nat) : (natDigits n).all fmtChar = true :=
  all_imp _ _ _ (digits_all n) (fun c hc => by simp [fmtChar, hc])

theorem replicate0_all (q : Char → Bool) (h : q '0' = true) (k : Nat) : (List.replicate k '0').all q = true := by
  rw [List.all_replicate, h, ite_self]

theorem all_take {α} (p : α → Bool) (l : List α) (k : Nat) (h : l.all p = true) : (l.take k).all p = true := by
  rw [List.all_eq_true] at h ⊢
  exact fun c hc => h c (List.mem_of_mem_take hc)

theorem all_drop {α} (p : α → Bool) (l : List α) (k : Nat) (h : l.all p = true) : (l.drop k).all p = true := by
  rw [List.all_eq_true] at h ⊢
  exact fun c hc => h c (List.mem_of_mem_drop hc)

theorem natDigits_ne_nil (n : Nat) : natDigits n ≠ [] := Nat.toDigits_ne_nil

theorem renderFixed_ok : ∀ (fuel n : Nat) (p : Int),
    renderFixed fuel n p ≠ [] ∧ (renderFixed fuel n p).all fmtChar = true := by
  intro fuel
  induction fuel with
  | zero =>
    intro n p
    simp only [renderFixed]
    refine ⟨by simp [natDigits_ne_nil], ?_⟩
    split
    · rw [List.all_append, natDigits_all, replicate0_all fmtChar (by decide)]; rfl
    · simp [natDigits_all]
  | succ f ih =>
    intro n p
    simp only [renderFixed]
    split
    · exact ih _ _
    · split
      · exact ⟨by simp [natDigits_ne_nil], by rw [List.all_append, natDigits_all, replicate0_all fmtChar (by decide)]; rfl⟩
      · split
        · refine ⟨by simp, ?_⟩
          simp only [List.all_append, List.all_cons, Bool.and_eq_true]
          exact ⟨all_take _ _ _ (natDigits_all n), by decide, all_drop _ _ _ (natDigits_all n)⟩
        · refine ⟨by simp, ?_⟩
          simp only [List.all_cons, List.all_append, Bool.and_eq_true]
          exact ⟨by decide, by decide, replicate0_all _ (by decide) _, natDigits_all n⟩

/-- First codec law for `goCodec`, for EVERY rational: the text is non-empty and free of Newick
    metacharacters, blanks and '/'. -/
theorem goFormatFloat_clean (x : Rat) : goFormatFloat x ≠ [] ∧ (goFormatFloat x).all numClean = true := by
  unfold goFormatFloat
  split
  · exact ⟨by simp, by decide⟩
  · obtain ⟨h1, h2⟩ := renderFixed_ok 400 (shortest (if x < 0 then -x else x)).1 (shortest (if x < 0 then -x else x)).2
    have h3 := all_imp _ _ _ h2 fmtChar_numClean
    refine ⟨?_, ?_⟩
    · intro h
      have := List.append_eq_nil_iff.1 h
      exact h1 this.2
    · rw [List.all_append, h3]
      split <;> simp <;> decide

/- ## a literal with a slash is rejected -/

def hasSlash (l : List Char) : Bool := l.any (fun c => c == '/')

theorem hasSlash_cons (c : Char) (r : List Char) : hasSlash (c :: r) = (c == '/' || hasSlash r) := by
  simp [hasSlash]

theorem hasSlash_tail_of_ne (c : Char) (r : List Char) (hc : (c == '/') = false) (h : hasSlash (c :: r) = true) :
    hasSlash r = true := by
  rw [hasSlash_cons, hc, Bool.false_or] at h; exact h

theorem hasSlash_map_lower : ∀ (l : List Char), hasSlash l = true → hasSlash (l.map lower) = true := by
  intro l
  induction l with
  | nil => simp [hasSlash]
  | cons c r ih =>
    intro h
    rw [hasSlash_cons, Bool.or_eq_true] at h
    rw [List.map_cons, hasSlash_cons, Bool.or_eq_true]
    rcases h with h | h
    · left; simp at h; subst h; decide
    · right; exact ih h

theorem readMant_slash (b : Bool) : ∀ (s : List Char) (m : Mant), hasSlash s = true → hasSlash (readMant b s m).2 = true := by
  intro s
  induction s with
  | nil => intro m h; simp [hasSlash] at h
  | cons c r ih =>
    intro m h
    by_cases hc : c = '/'
    · subst hc
      cases b <;> simp [readMant, hasSlash, decDigit?, hexDigit?, lower]
    · have hr := hasSlash_tail_of_ne c r (by simpa using hc) h
      simp only [readMant]
      split
      · exact ih _ hr
      · split
        · split
          · simp [hasSlash_cons, hr]
          · exact ih _ hr
        · split
          · exact ih _ hr
          · simp [hasSlash_cons, hr]

theorem readExpDigits_slash : ∀ (s : List Char) (e : Nat) (u : Bool), hasSlash s = true →
    hasSlash (readExpDigits s e u).2.2 = true := by
  intro s
  induction s with
  | nil => intro e u h; simp [hasSlash] at h
  | cons c r ih =>
    intro e u h
    by_cases hc : c = '/'
    · subst hc
      simp [readExpDigits, hasSlash, decDigit?]
    · have hr := hasSlash_tail_of_ne c r (by simpa using hc) h
      simp only [readExpDigits]
      split
      · exact ih _ _ hr
      · split
        · exact ih _ _ hr
        · simp [hasSlash_cons, hr]

/- `goParseFloat` cut into its stages (definitionally the same function: `goParseFloat_eq` is `rfl`) -/

def pfUnsigned (ls : List Char) : List Char :=
  match ls with
  | '+' :: r => r
  | '-' :: r => r
  | _ => ls

def pfSign (s : List Char) : Bool × List Char :=
  match s with
  | '+' :: r => (false, r)
  | '-' :: r => (true, r)
  | _ => (false, s)

def pfBase (s1 : List Char) : Bool × List Char :=
  match s1 with
  | '0' :: x :: c :: r => if lower x == 'x' then (true, c :: r) else (false, s1)
  | _ => (false, s1)

def pfExp (base16 : Bool) (s3 : List Char) : Option (Int × Bool × List Char) :=
  match s3 with
  | c :: r =>
    if lower c == (if base16 then 'p' else 'e') then
      match r with
      | [] => none
      | sc :: r' =>
        let (esign, r2) : Int × List Char := if sc == '+' then (1, r') else if sc == '-' then (-1, r') else (1, sc :: r')
        match r2 with
        | d :: _ =>
          if (decDigit? d).isSome then
            let (e, u, r3) := readExpDigits r2 0 false
            some (esign * (e : Int), u, r3)
          else none
        | [] => none
    else if base16 then none else some (0, false, s3)
  | [] => if base16 then none else some (0, false, [])

def pfValue (base16 : Bool) (m : Mant) (e : Int) : Option Rat :=
  if base16 then
    let ex : Int := e - 4 * (m.frac : Int)
    let mag : Int := (Nat.log2 m.digits : Int) + ex
    if mag > 1030 then none
    else if mag < -1100 then some 0
    else roundF64 (scale2 ((m.digits : Nat) : Rat) ex)
  else
    let ex : Int := e - (m.frac : Int)
    let mag : Int := (numDecDigits m.digits : Int) + ex
    if mag > 311 then none
    else if mag < -330 then some 0
    else roundF64 (scale10 ((m.digits : Nat) : Rat) ex)

def pfFinish (s : List Char) (neg base16 : Bool) (m : Mant) (eres : Option (Int × Bool × List Char)) : FRes :=
  match eres with
  | none => .bad
  | some (e, u, rest) =>
    if !rest.isEmpty then .bad
    else if (m.underscores || u) && !underscoreOK s then .bad
    else if m.digits == 0 then .fin 0
    else
      match pfValue base16 m e with
      | none => .bad
      | some q => .fin (if neg then -q else q)

def goParseFloat' (s : List Char) : FRes :=
  if pfUnsigned (s.map lower) == "inf".toList || pfUnsigned (s.map lower) == "infinity".toList then .nonfin
  else if s.map lower == "nan".toList then .nonfin
  else
    if !(readMant (pfBase (pfSign s).2).1 (pfBase (pfSign s).2).2 {}).1.sawdigits then .bad
    else pfFinish s (pfSign s).1 (pfBase (pfSign s).2).1 (readMant (pfBase (pfSign s).2).1 (pfBase (pfSign s).2).2 {}).1
      (pfExp (pfBase (pfSign s).2).1 (readMant (pfBase (pfSign s).2).1 (pfBase (pfSign s).2).2 {}).2)

theorem goParseFloat_eq (s : List Char) : goParseFloat s = goParseFloat' s := rfl

theorem pfUnsigned_slash (ls : List Char) (h : hasSlash ls = true) : hasSlash (pfUnsigned ls) = true := by
  unfold pfUnsigned
  split
  · exact hasSlash_tail_of_ne _ _ (by decide) h
  · exact hasSlash_tail_of_ne _ _ (by decide) h
  · exact h

theorem pfSign_slash (s : List Char) (h : hasSlash s = true) : hasSlash (pfSign s).2 = true := by
  unfold pfSign
  split
  · exact hasSlash_tail_of_ne _ _ (by decide) h
  · exact hasSlash_tail_of_ne _ _ (by decide) h
  · exact h

theorem lower_eq_slash_false (x : Char) (t : Char) (ht : (t == '/') = false)
    (h : (lower x == t) = true) : (x == '/') = false := by
  cases hx : (x == '/') with
  | false => rfl
  | true =>
    simp at hx; subst hx
    have hl : lower '/' = '/' := by decide
    rw [hl] at h
    simp at h; subst h; simp at ht

theorem pfBase_slash (s : List Char) (h : hasSlash s = true) : hasSlash (pfBase s).2 = true := by
  unfold pfBase
  split
  · rename_i x c r
    split
    · rename_i hx
      have h1 := hasSlash_tail_of_ne _ _ (by decide) h
      exact hasSlash_tail_of_ne _ _ (lower_eq_slash_false x 'x' (by decide) hx) h1
    · exact h
  · exact h

theorem pfExp_slash (b : Bool) (s3 : List Char) (h : hasSlash s3 = true) :
    pfExp b s3 = none ∨ ∃ e u rest, pfExp b s3 = some (e, u, rest) ∧ hasSlash rest = true := by
  cases s3 with
  | nil => simp [hasSlash] at h
  | cons c r =>
    by_cases hc : (lower c == (if b = true then 'p' else 'e')) = true
    · have hcs : (c == '/') = false := by
        cases b
        · exact lower_eq_slash_false c 'e' (by decide) (by simpa using hc)
        · exact lower_eq_slash_false c 'p' (by decide) (by simpa using hc)
      have hr := hasSlash_tail_of_ne _ _ hcs h
      cases r with
      | nil => left; simp [pfExp, hc]
      | cons sc r' =>
        have hr2 : hasSlash (if (sc == '+') = true then ((1 : Int), r') else if (sc == '-') = true then (-1, r') else (1, sc :: r')).2 = true := by
          split
          · rename_i hp; simp at hp; subst hp; exact hasSlash_tail_of_ne _ _ (by decide) hr
          · split
            · rename_i hm; simp at hm; subst hm; exact hasSlash_tail_of_ne _ _ (by decide) hr
            · exact hr
        simp only [pfExp, hc, if_true]
        generalize (if (sc == '+') = true then ((1 : Int), r') else if (sc == '-') = true then (-1, r') else (1, sc :: r')) = q at hr2
        obtain ⟨esign, r2⟩ := q
        simp only [] at hr2 ⊢
        cases r2 with
        | nil => simp [hasSlash] at hr2
        | cons d tl =>
          by_cases hd : (decDigit? d).isSome = true
          · right
            simp only [hd, if_true]
            exact ⟨_, _, _, rfl, readExpDigits_slash _ 0 false hr2⟩
          · left; simp [hd]
    · cases b
      · right
        have hc' : ¬ lower c = 'e' := by simpa using hc
        exact ⟨0, false, c :: r, by simp [pfExp, hc'], h⟩
      · left
        have hc' : ¬ lower c = 'p' := by simpa using hc
        simp [pfExp, hc']

theorem ne_const_of_slash (t k : List Char) (h : hasSlash t = true) (hk : hasSlash k = false) : (t == k) = false := by
  cases ht : (t == k) with
  | false => rfl
  | true => simp at ht; subst ht; rw [h] at hk; cases hk

/-- A literal containing '/' is rejected by the model of `strconv.ParseFloat`. -/
theorem goParseFloat_slash (s : List Char) (h : hasSlash s = true) : goParseFloat s = .bad := by
  have hl := hasSlash_map_lower s h
  have hu := pfUnsigned_slash _ hl
  rw [goParseFloat_eq]
  unfold goParseFloat'
  rw [ne_const_of_slash _ _ hu (by decide), ne_const_of_slash _ _ hu (by decide), ne_const_of_slash _ _ hl (by decide)]
  simp only [Bool.or_self, Bool.false_eq_true, if_false]
  split
  · rfl
  · have h3 := readMant_slash (pfBase (pfSign s).2).1 (pfBase (pfSign s).2).2 {} (pfBase_slash _ (pfSign_slash s h))
    rcases pfExp_slash (pfBase (pfSign s).2).1 _ h3 with he | ⟨e, u, rest, he, hr⟩
    · rw [he]; rfl
    · rw [he]
      have hne : rest.isEmpty = false := by
        cases rest with
        | nil => simp [hasSlash] at hr
        | cons => rfl
      simp [pfFinish, hne]

/-- Fourth codec law for `goCodec`, for every literal. -/
theorem goCodec_isFloat_noSlash (l : List Char) (h : goCodec.isFloat l = true) : l.all (fun c => c != '/') = true := by
  cases hs : hasSlash l with
  | true =>
    have := goParseFloat_slash l hs
    simp [goCodec, this] at h
  | false =>
    unfold hasSlash at hs
    rw [List.all_eq_true]
    intro c hc
    have : ¬ (c == '/') = true := by
      intro hcs
      have : l.any (fun c => c == '/') = true := List.any_eq_true.2 ⟨c, hc, hcs⟩
      rw [this] at hs; cases hs
    simpa using this

/- ## the executable codec as a lawful `FloatCodec` on the values it reads back -/

/-- `goCodec` with its laws: the first and the fourth proved for all inputs, the second and third by the
    definition of `goDom`. -/
def goFloatCodec : FloatCodec where
  toCodec := goCodec
  dom := goDom
  fmt_clean := fun x _ => goFormatFloat_clean x
  fmt_isFloat := by
    intro x h
    simp only [goDom, Bool.and_eq_true] at h
    exact h.1
  parse_fmt := by
    intro x h
    simp only [goDom, Bool.and_eq_true, beq_iff_eq] at h
    exact h.2
  isFloat_noSlash := goCodec_isFloat_noSlash

theorem goFloatCodec_toCodec : goFloatCodec.toCodec = goCodec := rfl

end Gotree.Newick

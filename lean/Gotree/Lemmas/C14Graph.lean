/-
  C14 — the pointer graph `G.ofT t` of Model/C14Go.lean: where the nodes and branches of a subtree sit in
  the arrays (pre-order), what the `neigh` slice of a node is, the pre-order indices of the leaves, the
  insertion sort of `sort.Slice`, and the first walk on the graph: `Tips()` / `tipsRecur` lists the tips of
  the rose tree in the order of `T.tipNames`.
-/
import Gotree.Lemmas.C05Splits
import Gotree.Model.C14Go

namespace Gotree.C14
open Gotree Gotree.C14.Go

/-! ## lists, folds, arrays -/

theorem insAt_length {α : Type} (l : List α) (i : Nat) (x : α) : (insAt l i x).length = l.length + 1 := by
  simp [insAt]; omega

/-- a list `s` (by `f`: `u ++ v`) put into the middle of `x ++ z` (by `f`: a permutation of `r`) -/
theorem perm_wrap {α β : Type} (f : α → β) {x s z : List α} {r u v : List β}
    (h : ((x ++ z).map f).Perm r) (hs : s.map f = u ++ v) : ((x ++ s ++ z).map f).Perm (u ++ (r ++ v)) := by
  rw [List.append_assoc, List.map_append, List.map_append, hs, List.append_assoc]
  refine (List.perm_append_comm_assoc _ _ _).trans (List.Perm.append_left u ?_)
  refine (List.perm_append_comm_assoc _ _ _).trans ?_
  rw [← List.map_append]
  exact List.perm_append_comm.trans (List.Perm.append_right v h)

/-- the same with a further list `q` put in as well -/
theorem perm_wrap' {α β : Type} (f : α → β) {x a q b z : List α} {r u v : List β}
    (h : ((x ++ z).map f).Perm r) (hs : (a ++ b).map f = u ++ v) :
    ((x ++ a ++ q ++ (b ++ z)).map f).Perm (u ++ (r ++ v) ++ q.map f) := by
  have e : x ++ a ++ q ++ (b ++ z) = x ++ (a ++ q ++ b) ++ z := by simp only [List.append_assoc]
  rw [e]
  refine (List.Perm.map f ?_).trans ((perm_wrap f h (s := a ++ b ++ q) (u := u) (v := v ++ q.map f)
    (by rw [List.map_append, hs, List.append_assoc])).trans (by simp only [List.append_assoc]; exact List.Perm.refl _))
  exact List.Perm.append_right z (List.Perm.append_left x (by
    rw [List.append_assoc, List.append_assoc]; exact List.Perm.append_left a List.perm_append_comm))

theorem flatMap_insAt {α β : Type} (f : α → List β) (l : List α) (i : Nat) (x : α) (hx : f x = []) :
    (insAt l i x).flatMap f = l.flatMap f := by
  unfold insAt
  rw [List.flatMap_append, List.flatMap_cons, hx, List.nil_append, ← List.flatMap_append, List.take_append_drop]

theorem flatMap_congr' {α β : Type} {f g : α → List β} : ∀ {l : List α}, (∀ x ∈ l, f x = g x) → l.flatMap f = l.flatMap g
  | [], _ => rfl
  | x :: l, h => by
    rw [List.flatMap_cons, List.flatMap_cons, h x (by simp), flatMap_congr' (fun y hy => h y (by simp [hy]))]

/-- a step that leaves the state alone on `x` does not see `x` inserted into the list -/
theorem foldlM_insAt {m : Type → Type} [Monad m] [LawfulMonad m] {α σ : Type} (f : σ → α → m σ) (l : List α)
    (i : Nat) (x : α) (s : σ) (hx : ∀ s, f s x = pure s) : (insAt l i x).foldlM f s = l.foldlM f s := by
  unfold insAt
  conv => rhs; rw [← List.take_append_drop i l]
  simp only [List.foldlM_append, List.foldlM_cons, hx, pure_bind]

theorem lookup_none_of_not_mem {β : Type} {l : List (String × β)} {k : String} (h : k ∉ l.map (·.1)) :
    l.lookup k = none :=
  List.lookup_eq_none_iff.2 fun p hp => by
    simp only [bne_iff_ne, ne_eq]
    exact fun e => h (e ▸ List.mem_map_of_mem hp)

theorem lookup_of_mem_nodup {β : Type} : ∀ {l : List (String × β)} {k : String} {v : β},
    (l.map (·.1)).Nodup → (k, v) ∈ l → l.lookup k = some v
  | [], _, _, _, h => by cases h
  | (k', v') :: l, k, v, hn, hm => by
    simp only [List.map_cons, List.nodup_cons, List.mem_map, not_exists, not_and] at hn
    rcases List.mem_cons.1 hm with h | h
    · cases h; simp
    · have hne : k ≠ k' := fun e => hn.1 (k, v) h e
      have : (k == k') = false := by simpa using hne
      simp only [List.lookup_cons, this]
      exact lookup_of_mem_nodup hn.2 h

theorem inj_of_nodup_map {α β : Type} (f : α → β) : ∀ {l : List α}, (l.map f).Nodup →
    ∀ x ∈ l, ∀ y ∈ l, f x = f y → x = y
  | [], _, x, hx, _, _, _ => by cases hx
  | a :: l, h, x, hx, y, hy, hxy => by
    simp only [List.map_cons, List.nodup_cons, List.mem_map, not_exists, not_and] at h
    rcases List.mem_cons.1 hx with ex | hx <;> rcases List.mem_cons.1 hy with ey | hy
    · rw [ex, ey]
    · rw [ex] at hxy; exact absurd hxy.symm (h.1 y hy)
    · rw [ey] at hxy; exact absurd hxy (h.1 x hx)
    · exact inj_of_nodup_map f h.2 x hx y hy hxy

theorem nodup_of_map {α β : Type} (f : α → β) {l : List α} (h : (l.map f).Nodup) : l.Nodup :=
  List.Pairwise.of_map f (fun _ _ hne e => hne (e ▸ rfl)) h

theorem nodup_map_of_inj {α β : Type} (f : α → β) : ∀ {l : List α}, l.Nodup →
    (∀ x ∈ l, ∀ y ∈ l, f x = f y → x = y) → (l.map f).Nodup
  | [], _, _ => List.nodup_nil
  | a :: l, h, hi => by
    have h' := List.nodup_cons.1 h
    simp only [List.map_cons, List.nodup_cons, List.mem_map, not_exists, not_and]
    refine ⟨fun x hx hfx => ?_, nodup_map_of_inj f h'.2 (fun x hx y hy => hi x (by simp [hx]) y (by simp [hy]))⟩
    have := hi x (by simp [hx]) a (by simp) hfx
    exact h'.1 (this ▸ hx)

theorem getD_set! {α : Type} (A : Array α) (i j : Nat) (v d : α) :
    (A.set! i v).getD j d = if j = i ∧ i < A.size then v else A.getD j d := by
  by_cases hij : i = j
  · subst hij
    by_cases hi : i < A.size <;> simp [Array.getD_eq_getD_getElem?, Array.set!_eq_setIfInBounds, hi]
  · have hji : ¬ j = i := fun e => hij e.symm
    simp [Array.getD_eq_getD_getElem?, Array.set!_eq_setIfInBounds, hij, hji]

theorem getD_set!_lt {α : Type} (A : Array α) {i : Nat} (h : i < A.size) (j : Nat) (v d : α) :
    (A.set! i v).getD j d = if j = i then v else A.getD j d := by
  rw [getD_set!]; simp [h]

theorem getD_replicate {α : Type} (n j : Nat) (v : α) : (Array.replicate n v).getD j v = v := by
  by_cases hj : j < n <;> simp [Array.getD_eq_getD_getElem?, hj]

/-! ## the insertion sort of `sort.Slice` on at most 12 elements -/

theorem insertLt_perm {α : Type} (lt : α → α → Bool) (x : α) : ∀ (l : List α), (insertLt lt x l).Perm (x :: l)
  | [] => List.Perm.refl _
  | y :: r => by
    unfold insertLt
    split
    · exact List.Perm.refl _
    · exact (List.Perm.cons y (insertLt_perm lt x r)).trans (List.Perm.swap x y r)

theorem insSort_perm {α : Type} (lt : α → α → Bool) (l : List α) : (insSort lt l).Perm l := by
  unfold insSort
  suffices h : ∀ (l acc : List α), (l.foldl (fun acc x => insertLt lt x acc) acc).Perm (acc ++ l) by
    simpa using h l []
  intro l
  induction l with
  | nil => intro acc; simp
  | cons x l ih =>
    intro acc
    simp only [List.foldl_cons]
    refine (ih _).trans ?_
    refine (List.Perm.append_right l (insertLt_perm lt x acc)).trans ?_
    simp only [List.cons_append]
    exact List.perm_middle.symm

theorem str_le_of_lt {a b : String} (h : a < b) : a ≤ b :=
  (String.le_total a b).resolve_right fun h' => String.not_lt.2 h' h

/-- inserting into a list sorted by the key keeps it sorted -/
theorem insertLt_sorted {α : Type} (key : α → String) (x : α) : ∀ (l : List α),
    l.Pairwise (fun a b => key a ≤ key b) →
    (insertLt (fun a b => decide (key a < key b)) x l).Pairwise (fun a b => key a ≤ key b)
  | [], _ => by simp [insertLt]
  | y :: r, h => by
    unfold insertLt
    have hy := List.pairwise_cons.1 h
    by_cases hxy : key x < key y
    · simp only [hxy, decide_true, if_true]
      refine List.pairwise_cons.2 ⟨fun z hz => ?_, h⟩
      rcases List.mem_cons.1 hz with rfl | hz
      · exact str_le_of_lt hxy
      · exact String.le_trans (str_le_of_lt hxy) (hy.1 z hz)
    · simp only [hxy, decide_false, Bool.false_eq_true, if_false]
      refine List.pairwise_cons.2 ⟨fun z hz => ?_, insertLt_sorted key x r hy.2⟩
      rcases List.mem_cons.1 ((insertLt_perm _ x r).mem_iff.1 hz) with rfl | hz
      · exact String.not_lt.1 hxy
      · exact hy.1 z hz

theorem insSort_sorted {α : Type} (key : α → String) (l : List α) :
    (insSort (fun a b => decide (key a < key b)) l).Pairwise (fun a b => key a ≤ key b) := by
  unfold insSort
  suffices h : ∀ (l acc : List α), acc.Pairwise (fun a b => key a ≤ key b) →
      (l.foldl (fun acc x => insertLt (fun a b => decide (key a < key b)) x acc) acc).Pairwise (fun a b => key a ≤ key b) from
    h l [] List.Pairwise.nil
  intro l
  induction l with
  | nil => intro acc h; exact h
  | cons x l ih => intro acc h; exact ih _ (insertLt_sorted key x acc h)

/-- the names of the sorted tips are `sortNames` of the names -/
theorem insSort_names {α : Type} (key : α → String) (l : List α) :
    (insSort (fun a b => decide (key a < key b)) l).map key = sortNames (l.map key) :=
  List.Perm.eq_of_pairwise (le := (· ≤ ·)) (fun _ _ _ _ h1 h2 => String.le_antisymm h1 h2)
    (List.pairwise_map.2 (insSort_sorted key l)) (sortNames_sorted _)
    (((insSort_perm _ l).map key).trans (sortNames_perm _).symm)

/-! ## a list sitting in an array -/

/-- the list `l` sits in the array from position `n` on -/
def Sub {α : Type} (A : Array α) (n : Nat) (l : List α) : Prop :=
  ∃ pre post, A.toList = pre ++ l ++ post ∧ pre.length = n

theorem Sub.head {α : Type} {A : Array α} {n : Nat} {x : α} {l : List α} (h : Sub A n (x :: l)) : A[n]? = some x := by
  obtain ⟨pre, post, e, hn⟩ := h
  rw [← Array.getElem?_toList, e, ← hn]
  simp

theorem Sub.tail {α : Type} {A : Array α} {n : Nat} {x : α} {l : List α} (h : Sub A n (x :: l)) : Sub A (n + 1) l := by
  obtain ⟨pre, post, e, hn⟩ := h
  exact ⟨pre ++ [x], post, by simp [e], by simp [hn]⟩

theorem Sub.left {α : Type} {A : Array α} {n : Nat} {l₁ l₂ : List α} (h : Sub A n (l₁ ++ l₂)) : Sub A n l₁ := by
  obtain ⟨pre, post, e, hn⟩ := h
  exact ⟨pre, l₂ ++ post, by simp [e], hn⟩

theorem Sub.right {α : Type} {A : Array α} {n : Nat} {l₁ l₂ : List α} (h : Sub A n (l₁ ++ l₂)) :
    Sub A (n + l₁.length) l₂ := by
  obtain ⟨pre, post, e, hn⟩ := h
  exact ⟨pre ++ l₁, post, by simp [e], by simp [hn]⟩

theorem Sub.whole {α : Type} (l : List α) : Sub l.toArray 0 l := ⟨[], [], by simp, rfl⟩

theorem Sub.bound {α : Type} {A : Array α} {n : Nat} {l : List α} (h : Sub A n l) : n + l.length ≤ A.size := by
  obtain ⟨pre, post, e, hn⟩ := h
  have := congrArg List.length e
  simp at this
  omega

/-! ## sizes and the pre-order layout -/

/-- the children of a node with the pre-order index of each (`m` is the index of the first) -/
def kidsIdx : Nat → Kids → List (Nat × (EdgeD × T))
  | _, [] => []
  | n, (e, t) :: r => (n, (e, t)) :: kidsIdx (n + t.size) r

/-- the `neigh`/`br` entries of the children: the branch above node `c` has index `c - 1` -/
def nbrs (m : Nat) (ks : Kids) : List (Nat × Nat) := (kidsIdx m ks).map fun x => (x.1, x.1 - 1)

theorem kidIdx_eq : ∀ (n : Nat) (k : Kids), kidIdx n k = (kidsIdx n k).map (·.1)
  | _, [] => rfl
  | n, (e, t) :: r => by simp [kidIdx, kidsIdx, kidIdx_eq (n + t.size) r]

theorem kidsIdx_snd : ∀ (m : Nat) (ks : Kids), (kidsIdx m ks).map (·.2) = ks
  | _, [] => rfl
  | m, (e, t) :: r => by simp [kidsIdx, kidsIdx_snd (m + t.size) r]

theorem nbrs_length (m : Nat) (ks : Kids) : (nbrs m ks).length = ks.length := by
  rw [← congrArg List.length (kidsIdx_snd m ks)]; simp [nbrs]

theorem kidsIdx_range : ∀ (ks : Kids) (m : Nat), ∀ x ∈ kidsIdx m ks, m ≤ x.1 ∧ x.1 + x.2.2.size ≤ m + T.sizeL ks
  | [], _, x, hx => by simp [kidsIdx] at hx
  | (e, t) :: r, m, x, hx => by
    simp only [kidsIdx, List.mem_cons] at hx
    rw [T.sizeL_cons]
    rcases hx with rfl | hx
    · exact ⟨Nat.le_refl _, by show m + t.size ≤ _; omega⟩
    · have := kidsIdx_range r (m + t.size) x hx; omega

theorem kidsIdx_append : ∀ (a b : Kids) (m : Nat), kidsIdx m (a ++ b) = kidsIdx m a ++ kidsIdx (m + T.sizeL a) b
  | [], b, m => by simp [kidsIdx, T.sizeL]
  | (e, t) :: a, b, m => by
    have hs : m + T.sizeL ((e, t) :: a) = m + t.size + T.sizeL a := by rw [T.sizeL_cons]; omega
    simp [kidsIdx, kidsIdx_append a b (m + t.size), hs]

/-- a child list cut at one child: the indices before it and after it are not its index -/
theorem kidsIdx_split (m : Nat) (k1 : Kids) (e : EdgeD) (t : T) (k2 : Kids) :
    kidsIdx m (k1 ++ (e, t) :: k2) = kidsIdx m k1 ++ (m + T.sizeL k1, (e, t)) :: kidsIdx (m + T.sizeL k1 + t.size) k2 ∧
    (∀ y ∈ kidsIdx m k1, y.1 ≠ m + T.sizeL k1) ∧ (∀ y ∈ kidsIdx (m + T.sizeL k1 + t.size) k2, y.1 ≠ m + T.sizeL k1) := by
  refine ⟨by rw [kidsIdx_append]; rfl, fun y hy => ?_, fun y hy => ?_⟩
  · have := kidsIdx_range k1 m y hy
    have := T.size_pos y.2.2; omega
  · have := kidsIdx_range k2 _ y hy
    have := T.size_pos t; omega

theorem flatT_node (par : Option Nat) (n : Nat) (d : NodeD) (pp : Nat) (k : Kids) :
    flatT par n (.node d pp k) =
      ⟨d.name, match par with
        | none => nbrs (n + 1) k
        | some p => insAt (nbrs (n + 1) k) pp (p, n - 1)⟩ :: flatL n (n + 1) k := by
  have : (kidIdx (n + 1) k).map (fun c => (c, c - 1)) = nbrs (n + 1) k := by
    rw [kidIdx_eq, List.map_map]; rfl
  cases par <;> simp only [flatT, this]

theorem flatL_nil (p n : Nat) : flatL p n [] = [] := by simp only [flatL]

theorem flatL_cons (p n : Nat) (e : EdgeD) (t : T) (r : Kids) :
    flatL p n ((e, t) :: r) = flatT (some p) n t ++ flatL p (n + t.size) r := by simp only [flatL]

mutual
theorem flatT_length (par : Option Nat) (n : Nat) : ∀ (t : T), (flatT par n t).length = t.size
  | .node d pp k => by
    rw [flatT_node, T.size_node, List.length_cons, flatL_length n (n + 1) k]; omega
theorem flatL_length (p n : Nat) : ∀ (k : Kids), (flatL p n k).length = T.sizeL k
  | [] => by rw [flatL_nil]; rfl
  | (e, t) :: r => by
    rw [flatL_cons, T.sizeL_cons, List.length_append, flatT_length (some p) n t, flatL_length p (n + t.size) r]
end

theorem gedgesT_node (n : Nat) (d : NodeD) (pp : Nat) (k : Kids) : gedgesT n (.node d pp k) = gedgesL n (n + 1) k := by
  simp only [gedgesT]
theorem gedgesL_nil (p n : Nat) : gedgesL p n [] = [] := by simp only [gedgesL]
theorem gedgesL_cons (p n : Nat) (e : EdgeD) (t : T) (r : Kids) :
    gedgesL p n ((e, t) :: r) = ⟨p, n, e⟩ :: (gedgesT n t ++ gedgesL p (n + t.size) r) := by simp only [gedgesL]

mutual
theorem gedgesT_length (n : Nat) : ∀ (t : T), (gedgesT n t).length + 1 = t.size
  | .node d pp k => by rw [gedgesT_node, T.size_node, gedgesL_length n (n + 1) k]; omega
theorem gedgesL_length (p n : Nat) : ∀ (k : Kids), (gedgesL p n k).length = T.sizeL k
  | [] => by rw [gedgesL_nil]; rfl
  | (e, t) :: r => by
    have := gedgesT_length n t
    rw [gedgesL_cons, T.sizeL_cons, List.length_cons, List.length_append, gedgesL_length p (n + t.size) r]; omega
end

theorem nodes_size (t : T) : (G.ofT t).nodes.size = t.size := by simp [G.ofT, flatT_length]

theorem edges_size (t : T) : (G.ofT t).edges.size + 1 = t.size := by
  simpa [G.ofT] using gedgesT_length 0 t

/-! ## leaf indices -/

/- pre-order index of every leaf of a subtree whose top node has index `n` -/
mutual
def leafIdxT (n : Nat) : T → List Nat
  | .node _ _ [] => [n]
  | .node _ _ (k :: ks) => leafIdxL (n + 1) (k :: ks)
def leafIdxL : Nat → Kids → List Nat
  | _, [] => []
  | n, (_, t) :: r => leafIdxT n t ++ leafIdxL (n + t.size) r
end

theorem leafIdxT_node_ne (n : Nat) (d : NodeD) (pp : Nat) {ks : Kids} (h : ks ≠ []) :
    leafIdxT n (.node d pp ks) = leafIdxL (n + 1) ks := by
  cases ks with
  | nil => exact absurd rfl h
  | cons x k => simp only [leafIdxT]

theorem leafIdxL_kidsIdx : ∀ (ks : Kids) (m : Nat), (kidsIdx m ks).flatMap (fun x => leafIdxT x.1 x.2.2) = leafIdxL m ks
  | [], _ => by simp [kidsIdx, leafIdxL]
  | (e, t) :: r, m => by simp [kidsIdx, leafIdxL, leafIdxL_kidsIdx r (m + t.size)]

mutual
theorem leafIdxT_range : ∀ (t : T) (n : Nat), ∀ i ∈ leafIdxT n t, n ≤ i ∧ i < n + t.size
  | .node d pp [], n, i, hi => by
    simp [leafIdxT] at hi; subst hi; rw [T.size_node]; omega
  | .node d pp (x :: k), n, i, hi => by
    simp only [leafIdxT] at hi
    have := leafIdxL_range (x :: k) (n + 1) i hi
    rw [T.size_node]; omega
theorem leafIdxL_range : ∀ (k : Kids) (n : Nat), ∀ i ∈ leafIdxL n k, n ≤ i ∧ i < n + T.sizeL k
  | [], _, i, hi => by simp [leafIdxL] at hi
  | (e, t) :: r, n, i, hi => by
    simp only [leafIdxL, List.mem_append] at hi
    rw [T.sizeL_cons]
    rcases hi with hi | hi
    · have := leafIdxT_range t n i hi; omega
    · have := leafIdxL_range r (n + t.size) i hi; omega
end

/-- the child whose subtree holds a given leaf index, with the children before and after: the
    leaf is in none of the others -/
theorem split_at_leaf : ∀ (ks : Kids) (m i : Nat), i ∈ leafIdxL m ks →
    ∃ k1 e t k2, ks = k1 ++ (e, t) :: k2 ∧ i ∈ leafIdxT (m + T.sizeL k1) t ∧
      (leafIdxL m ks).erase i =
        leafIdxL m k1 ++ ((leafIdxT (m + T.sizeL k1) t).erase i ++ leafIdxL (m + T.sizeL k1 + t.size) k2)
  | [], _, _, hi => by simp [leafIdxL] at hi
  | (e, t) :: r, m, i, hi => by
    simp only [leafIdxL, List.mem_append] at hi
    by_cases h : i ∈ leafIdxT m t
    · exact ⟨[], e, t, r, rfl, by simpa [T.sizeL] using h,
        by simp only [leafIdxL, T.sizeL, Nat.add_zero, List.nil_append]; exact List.erase_append_left _ h⟩
    · obtain ⟨k1, e', t', k2, h1, h2, h3⟩ := split_at_leaf r (m + t.size) i (hi.resolve_left h)
      have hs : m + T.sizeL ((e, t) :: k1) = m + t.size + T.sizeL k1 := by rw [T.sizeL_cons]; omega
      refine ⟨(e, t) :: k1, e', t', k2, by simp [h1], by rw [hs]; exact h2, ?_⟩
      rw [hs]
      simp only [leafIdxL, List.append_assoc]
      rw [List.erase_append_right _ h, h3]

/-! ## the node of a subtree laid out in the graph, and its children -/

/-- a non-root node: its children with the parent `(p, n - 1)` inserted at `ppos` -/
theorem Sub.node {g : G} {n p : Nat} {d : NodeD} {pp : Nat} {ks : Kids}
    (hs : Sub g.nodes n (flatT (some p) n (.node d pp ks))) :
    g.nodes[n]? = some ⟨d.name, insAt (nbrs (n + 1) ks) pp (p, n - 1)⟩ := by
  rw [flatT_node] at hs; exact hs.head

theorem Sub.root {g : G} {n : Nat} {d : NodeD} {pp : Nat} {ks : Kids}
    (hs : Sub g.nodes n (flatT none n (.node d pp ks))) : g.nodes[n]? = some ⟨d.name, nbrs (n + 1) ks⟩ := by
  rw [flatT_node] at hs; exact hs.head

theorem gname_of_node {g : G} {n : Nat} {nd : GNode} (hn : g.nodes[n]? = some nd) : g.name n = nd.name := by
  simp [G.name, hn]

theorem gtip_of_node {g : G} {n : Nat} {nd : GNode} (hn : g.nodes[n]? = some nd) : g.tip n = (nd.neigh.length == 1) := by
  simp [G.tip, hn]

theorem Sub.name {g : G} {n : Nat} {par : Option Nat} {d : NodeD} {pp : Nat} {ks : Kids}
    (hs : Sub g.nodes n (flatT par n (.node d pp ks))) : g.name n = d.name := by
  rw [flatT_node] at hs; exact gname_of_node hs.head

/-- `len(neigh) == 1` at a non-root node: it has no children -/
theorem neigh_one_iff (m : Nat) (ks : Kids) (i : Nat) (x : Nat × Nat) :
    ((insAt (nbrs m ks) i x).length == 1) = ks.isEmpty := by
  rw [insAt_length, nbrs_length]; cases ks <;> simp

/-- `Tip()` of a non-root node -/
theorem Sub.tip {g : G} {n p : Nat} {d : NodeD} {pp : Nat} {ks : Kids}
    (hs : Sub g.nodes n (flatT (some p) n (.node d pp ks))) : g.tip n = ks.isEmpty := by
  rw [gtip_of_node hs.node, neigh_one_iff]

/-- what the walks know of a child `x = (index, (branch, subtree))` of node `p` (first child at `m`) -/
structure KidOK (g : G) (p m : Nat) (ks : Kids) (x : Nat × (EdgeD × T)) : Prop where
  gt : p < x.1
  nodes : Sub g.nodes x.1 (flatT (some p) x.1 x.2.2)
  edges : Sub g.edges x.1 (gedgesT x.1 x.2.2)
  edge : g.edges[x.1 - 1]? = some ⟨p, x.1, x.2.1⟩
  size : x.2.2.size ≤ T.sizeL ks
  leaves : ∀ i ∈ leafIdxT x.1 x.2.2, i ∈ leafIdxL m ks
  mem : x.2 ∈ ks

theorem kids_okL (g : G) : ∀ (ks : Kids) (n p : Nat), p < n → Sub g.nodes n (flatL p n ks) →
    Sub g.edges (n - 1) (gedgesL p n ks) → ∀ x ∈ kidsIdx n ks, KidOK g p n ks x
  | [], _, _, _, _, _, x, hx => by simp [kidsIdx] at hx
  | (e, t) :: r, n, p, hp, hs, he, x, hx => by
    rw [flatL_cons] at hs
    rw [gedgesL_cons] at he
    have h2 := hs.right
    rw [flatT_length] at h2
    have he2 := he.tail
    rw [show n - 1 + 1 = n by omega] at he2
    have he3 := he2.right
    rw [show n + (gedgesT n t).length = n + t.size - 1 by have := gedgesT_length n t; omega] at he3
    simp only [kidsIdx, List.mem_cons] at hx
    rcases hx with rfl | hx
    · exact ⟨hp, hs.left, he2.left, he.head, by rw [T.sizeL_cons]; exact Nat.le_add_right _ _,
        fun i hi => by simp [leafIdxL, hi], by simp⟩
    · have ih := kids_okL g r (n + t.size) p (by omega) h2 he3 x hx
      exact ⟨ih.gt, ih.nodes, ih.edges, ih.edge, by rw [T.sizeL_cons]; have := ih.size; omega,
        fun i hi => by simp [leafIdxL, ih.leaves i hi], by simp [ih.mem]⟩

/-- the children of a node laid out at `n` (root or not) -/
theorem kids_ok {g : G} {par : Option Nat} {n : Nat} {d : NodeD} {pp : Nat} {ks : Kids}
    (hs : Sub g.nodes n (flatT par n (.node d pp ks))) (he : Sub g.edges n (gedgesT n (.node d pp ks))) :
    ∀ x ∈ kidsIdx (n + 1) ks, KidOK g n (n + 1) ks x := by
  rw [flatT_node] at hs
  rw [gedgesT_node] at he
  exact kids_okL g ks (n + 1) n (by omega) hs.tail (by simpa using he)

theorem KidOK.edge_lt {g : G} {p m : Nat} {ks : Kids} {x : Nat × (EdgeD × T)} (h : KidOK g p m ks x) :
    x.1 - 1 < g.edges.size := by
  have he := h.edge
  by_cases hlt : x.1 - 1 < g.edges.size
  · exact hlt
  · rw [Array.getElem?_eq_none (by omega)] at he; cases he

/-! ## names of the leaves -/

mutual
theorem leafIdxT_names (g : G) : ∀ (t : T) (n : Nat) (par : Option Nat), Sub g.nodes n (flatT par n t) →
    (leafIdxT n t).map g.name = t.leaves
  | .node d pp [], n, par, hs => by
    rw [flatT_node] at hs
    simp [leafIdxT, G.name, hs.head, T.leaves]
  | .node d pp (x :: k), n, par, hs => by
    rw [flatT_node] at hs
    simp only [leafIdxT, T.leaves]
    exact leafIdxL_names g (x :: k) (n + 1) n hs.tail
theorem leafIdxL_names (g : G) : ∀ (k : Kids) (n p : Nat), Sub g.nodes n (flatL p n k) →
    (leafIdxL n k).map g.name = leavesL k
  | [], _, _, _ => by simp [leafIdxL, leavesL]
  | (e, t) :: r, n, p, hs => by
    rw [flatL_cons] at hs
    have h2 := hs.right
    rw [flatT_length] at h2
    simp only [leafIdxL, leavesL, List.map_append]
    rw [leafIdxT_names g t n (some p) hs.left, leafIdxL_names g r (n + t.size) p h2]
end

/-! ## `tipsRecur` -/

mutual
theorem tipsRecur_sub (g : G) : ∀ (t : T) (fuel n p : Nat), t.size ≤ fuel → p < n →
    Sub g.nodes n (flatT (some p) n t) → tipsRecur g fuel n (some p) = leafIdxT n t
  | .node d pp k, fuel, n, p, hf, hp, hs => by
    rw [T.size_node] at hf
    cases fuel with
    | zero => omega
    | succ fuel =>
      rw [tipsRecur, hs.node]
      rw [flatT_node] at hs
      simp only
      let F : Nat × Nat → List Nat := fun cb => if (some cb.1 != some p) = true then tipsRecur g fuel cb.1 (some n) else []
      have hkids : (nbrs (n + 1) k).flatMap F = leafIdxL (n + 1) k := by
        rw [← tipsRecurL_sub g k fuel (n + 1) n (by omega) (by omega) hs.tail, nbrs, List.flatMap_map]
        apply flatMap_congr'
        intro x hx
        have := (kidsIdx_range k (n + 1) x hx).1
        have hne : x.1 ≠ p := by omega
        simp [F, hne]
      show (if _ then _ else _) ++ List.flatMap F _ = _
      rw [flatMap_insAt F _ pp (p, n - 1) (by simp [F]), hkids, neigh_one_iff]
      cases k with
      | nil => simp [leafIdxT, leafIdxL]
      | cons x k => simp [leafIdxT]
theorem tipsRecurL_sub (g : G) : ∀ (k : Kids) (fuel n p : Nat), T.sizeL k ≤ fuel → p < n →
    Sub g.nodes n (flatL p n k) →
    (kidsIdx n k).flatMap (fun x => tipsRecur g fuel x.1 (some p)) = leafIdxL n k
  | [], _, _, _, _, _, _ => by simp [kidsIdx, leafIdxL]
  | (e, t) :: r, fuel, n, p, hf, hp, hs => by
    rw [T.sizeL_cons] at hf
    rw [flatL_cons] at hs
    have h2 := hs.right
    rw [flatT_length] at h2
    simp only [kidsIdx, List.flatMap_cons, leafIdxL]
    rw [tipsRecur_sub g t fuel n p (by omega) hp hs.left,
      tipsRecurL_sub g r fuel (n + t.size) p (by omega) (by omega) h2]
end

/-- `Tips()` on the pointer graph: the root when it has exactly one neighbour, then the
    leaves in pre-order -/
theorem tips_ofT (t : T) :
    (G.ofT t).tips = (if t.kids.length == 1 then [0] else []) ++ leafIdxL 1 t.kids := by
  obtain ⟨d, pp, k⟩ := t
  have hs : Sub (G.ofT (.node d pp k)).nodes 0 (flatT none 0 (.node d pp k)) := Sub.whole _
  rw [G.tips, nodes_size, T.size_node, tipsRecur, hs.root]
  rw [flatT_node] at hs
  simp only [T.kids_node, nbrs_length]
  congr 1
  rw [← tipsRecurL_sub (G.ofT (.node d pp k)) k (1 + T.sizeL k) (0 + 1) 0 (by omega) (by omega) hs.tail, nbrs,
    List.flatMap_map]
  apply flatMap_congr'
  intro c _
  simp

/-- The order in which the code produces the tips: `Tips()` on the pointer graph names
    exactly `T.tipNames` of the rose tree, in the same order. -/
theorem tips_names_ofT (t : T) : (G.ofT t).tips.map (G.ofT t).name = t.tipNames := by
  rw [tips_ofT]
  obtain ⟨d, pp, k⟩ := t
  have hs : Sub (G.ofT (.node d pp k)).nodes 0 (flatT none 0 (.node d pp k)) := Sub.whole _
  have hn := gname_of_node hs.root
  rw [flatT_node] at hs
  simp only [T.kids_node, List.map_append, T.tipNames_node]
  rw [leafIdxL_names _ k (0 + 1) 0 hs.tail]
  congr 1
  by_cases h : (k.length == 1) = true <;> simp [h, hn]

theorem tips_lt_size (t : T) : ∀ i ∈ (G.ofT t).tips, i < (G.ofT t).nodes.size := by
  intro i hi
  rw [tips_ofT] at hi
  rw [nodes_size, T.size_eq]
  rcases List.mem_append.1 hi with h | h
  · split at h
    · simp at h; omega
    · cases h
  · have := leafIdxL_range t.kids 1 i h; omega

/-- with unique tip names, `Tips()` lists no node twice and the names tell the tips apart -/
theorem tips_nodup (t : T) (hu : t.tipNames.Nodup) :
    (G.ofT t).tips.Nodup ∧ ∀ x ∈ (G.ofT t).tips, ∀ y ∈ (G.ofT t).tips, (G.ofT t).name x = (G.ofT t).name y → x = y := by
  have h : ((G.ofT t).tips.map (G.ofT t).name).Nodup := by rw [tips_names_ofT]; exact hu
  exact ⟨nodup_of_map _ h, inj_of_nodup_map _ h⟩

end Gotree.C14

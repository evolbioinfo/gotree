/-
  C16 — exhaustiveness of the enumeration (helper lemmas): every binary tree on the names is, up
  to the order of children, one of the backtracking trees.  `IsoL` is "same tree up to child order,
  branch data and inner names"; pruning the last tip and re-inserting it is the induction step.
-/
import Gotree.Lemmas.C16Nodup

namespace Gotree.C16
open Gotree

mutual
inductive IsoT : T → T → Prop where
  | leaf (d d' : NodeD) (p p' : Nat) : d.name = d'.name → IsoT (.node d p []) (.node d' p' [])
  | inner (d d' : NodeD) (p p' : Nat) (ks ks' : Kids) : ks ≠ [] → IsoL ks ks' → IsoT (.node d p ks) (.node d' p' ks')
inductive IsoL : Kids → Kids → Prop where
  | nil : IsoL [] []
  | cons (e e' : EdgeD) (t t' : T) (r r' : Kids) : IsoT t t' → IsoL r r' → IsoL ((e, t) :: r) ((e', t') :: r')
  | swap (a b : EdgeD × T) (r : Kids) : IsoL (a :: b :: r) (b :: a :: r)
  | trans (a b c : Kids) : IsoL a b → IsoL b c → IsoL a c
end

mutual
theorem IsoT.refl : ∀ (t : T), IsoT t t
  | .node d p [] => IsoT.leaf d d p p rfl
  | .node d p (k :: ks) => IsoT.inner d d p p (k :: ks) (k :: ks) (by simp) (IsoL.refl (k :: ks))
theorem IsoL.refl : ∀ (ks : Kids), IsoL ks ks
  | [] => IsoL.nil
  | (e, t) :: r => IsoL.cons e e t t r r (IsoT.refl t) (IsoL.refl r)
end

theorem IsoL.length_eq : ∀ {a b : Kids}, IsoL a b → a.length = b.length
  | _, _, .nil => rfl
  | _, _, .cons _ _ _ _ _ _ _ h => by simp [IsoL.length_eq h]
  | _, _, .swap _ _ _ => by simp
  | _, _, .trans _ _ _ h1 h2 => (IsoL.length_eq h1).trans (IsoL.length_eq h2)

mutual
theorem IsoT.leaves_perm : ∀ {t t' : T}, IsoT t t' → t.leaves.Perm t'.leaves
  | _, _, .leaf d d' p p' h => by simp [T.leaves, h]
  | _, _, .inner d d' p p' ks ks' hne h => by
    have hl := IsoL.length_eq h
    have p1 : 0 < ks.length := List.length_pos_iff.mpr hne
    rw [leaves_node_of_pos _ _ _ p1, leaves_node_of_pos _ _ _ (hl ▸ p1)]
    exact IsoL.leaves_perm h
theorem IsoL.leaves_perm : ∀ {a b : Kids}, IsoL a b → (leavesL a).Perm (leavesL b)
  | _, _, .nil => List.Perm.refl _
  | _, _, .cons _ _ _ _ _ _ ht hr => by
    simp only [leavesL]; exact (IsoT.leaves_perm ht).append (IsoL.leaves_perm hr)
  | _, _, .swap (ea, ta) (eb, tb) r => by
    simp only [leavesL]
    rw [← List.append_assoc, ← List.append_assoc]
    exact List.Perm.append_right _ List.perm_append_comm
  | _, _, .trans _ _ _ h1 h2 => (IsoL.leaves_perm h1).trans (IsoL.leaves_perm h2)
end

/-! ### families -/

theorem FamEq.refl (A : List (List String)) : FamEq A A :=
  ⟨fun a ha => ⟨a, ha, SetEq.refl a⟩, fun b hb => ⟨b, hb, SetEq.refl b⟩⟩

theorem SetEq.trans {a b c : List String} (h1 : SetEq a b) (h2 : SetEq b c) : SetEq a c :=
  fun y => (h1 y).trans (h2 y)

theorem FamEq.trans {A B C : List (List String)} (h1 : FamEq A B) (h2 : FamEq B C) : FamEq A C := by
  constructor
  · intro a ha
    obtain ⟨b, hb, hab⟩ := h1.1 a ha
    obtain ⟨c, hc, hbc⟩ := h2.1 b hb
    exact ⟨c, hc, hab.trans hbc⟩
  · intro c hc
    obtain ⟨b, hb, hbc⟩ := h2.2 c hc
    obtain ⟨a, ha, hab⟩ := h1.2 b hb
    exact ⟨a, ha, hab.trans hbc⟩

theorem FamEq.append {A B C D : List (List String)} (h1 : FamEq A B) (h2 : FamEq C D) : FamEq (A ++ C) (B ++ D) := by
  constructor
  · intro a ha
    rcases List.mem_append.mp ha with h | h
    · obtain ⟨b, hb, hab⟩ := h1.1 a h; exact ⟨b, List.mem_append_left _ hb, hab⟩
    · obtain ⟨b, hb, hab⟩ := h2.1 a h; exact ⟨b, List.mem_append_right _ hb, hab⟩
  · intro b hb
    rcases List.mem_append.mp hb with h | h
    · obtain ⟨a, ha, hab⟩ := h1.2 b h; exact ⟨a, List.mem_append_left _ ha, hab⟩
    · obtain ⟨a, ha, hab⟩ := h2.2 b h; exact ⟨a, List.mem_append_right _ ha, hab⟩

theorem famEq_of_perm {A B : List (List String)} (h : A.Perm B) : FamEq A B :=
  ⟨fun a ha => ⟨a, h.subset ha, SetEq.refl a⟩, fun b hb => ⟨b, h.symm.subset hb, SetEq.refl b⟩⟩

mutual
theorem IsoT.famEq : ∀ {t t' : T}, IsoT t t' → FamEq (belowsT t) (belowsT t')
  | _, _, .leaf d d' p p' _ => by simp only [belowsT, belowsL]; exact FamEq.refl _
  | _, _, .inner d d' p p' ks ks' _ h => by simp only [belowsT]; exact IsoL.famEq h
theorem IsoL.famEq : ∀ {a b : Kids}, IsoL a b → FamEq (belowsL a) (belowsL b)
  | _, _, .nil => FamEq.refl _
  | _, _, .cons _ _ _ _ _ _ ht hr => by
    simp only [belowsL]
    exact FamEq.cons ((IsoT.famEq ht).append (IsoL.famEq hr)) _ _ fun _ => (IsoT.leaves_perm ht).mem_iff
  | _, _, .swap (ea, ta) (eb, tb) r => by
    simp only [belowsL]
    apply famEq_of_perm
    have : ∀ (x y : List String) (X Y R : List (List String)),
        (x :: (X ++ y :: (Y ++ R))).Perm (y :: (Y ++ x :: (X ++ R))) := by
      intro x y X Y R
      have e1 : x :: (X ++ y :: (Y ++ R)) = (x :: X) ++ ((y :: Y) ++ R) := by simp
      have e2 : y :: (Y ++ x :: (X ++ R)) = (y :: Y) ++ ((x :: X) ++ R) := by simp
      rw [e1, e2, ← List.append_assoc, ← List.append_assoc]
      exact List.Perm.append_right _ List.perm_append_comm
    exact this _ _ _ _ _
  | _, _, .trans _ _ _ h1 h2 => (IsoL.famEq h1).trans (IsoL.famEq h2)
end

/-! ### grafting commutes with `Iso` -/

/-- the change at index `k` inside the block of the first child (`k ≤ numEdges t`) -/
def blockApply (f : EdgeD × T → EdgeD × T) (k : Nat) (x : EdgeD × T) : EdgeD × T :=
  if k = 0 then f x else (x.1, applyAt f (k - 1) x.2)

theorem applyAtL_head (f : EdgeD × T → EdgeD × T) (k : Nat) (e : EdgeD) (t : T) (r : Kids) (h : k < 1 + numEdges t) :
    applyAtL f k ((e, t) :: r) = blockApply f k (e, t) :: r := by
  by_cases h0 : k = 0
  · simp only [applyAtL, blockApply, h0, if_true]
  · have : k - 1 < numEdges t := by omega
    simp only [applyAtL, blockApply, h0, this, if_false, if_true]

theorem applyAtL_tail (f : EdgeD × T → EdgeD × T) (k : Nat) (e : EdgeD) (t : T) (r : Kids) (h : 1 + numEdges t ≤ k) :
    applyAtL f k ((e, t) :: r) = (e, t) :: applyAtL f (k - 1 - numEdges t) r := by
  have h0 : k ≠ 0 := by omega
  have : ¬ k - 1 < numEdges t := by omega
  simp only [applyAtL, h0, this, if_false]

theorem graftLen_isoT (x : String) (l0 l1 l2 : Rat) (e e' : EdgeD) (t t' : T) (h : IsoT t t') :
    IsoT (graftLen x l0 l1 l2 (e, t)).2 (graftLen x l0 l1 l2 (e', t')).2 := by
  rw [graftLen_eq, graftLen_eq]
  exact IsoT.inner _ _ _ _ _ _ (by simp) (IsoL.cons _ _ _ _ _ _ (IsoT.refl _) (IsoL.cons _ _ _ _ _ _ h IsoL.nil))

mutual
theorem IsoT.graft (x : String) (l0 l1 l2 : Rat) : ∀ {t t' : T}, IsoT t t' → ∀ k, k < numEdges t →
    ∃ k', k' < numEdges t' ∧ IsoT (applyAt (graftLen x l0 l1 l2) k t) (applyAt (graftLen x l0 l1 l2) k' t')
  | _, _, .leaf d d' p p' _, k, hk => by simp [numEdges, numEdgesL] at hk
  | _, _, .inner d d' p p' ks ks' hne h, k, hk => by
    simp only [numEdges] at hk
    obtain ⟨k', hk', hiso⟩ := IsoL.graft x l0 l1 l2 h k hk
    refine ⟨k', by simpa [numEdges] using hk', ?_⟩
    simp only [applyAt]
    refine IsoT.inner _ _ _ _ _ _ ?_ hiso
    intro hnil
    have := congrArg List.length hnil
    rw [applyAtL_length] at this
    exact hne (List.length_eq_zero_iff.mp (by simpa using this))
theorem IsoL.graft (x : String) (l0 l1 l2 : Rat) : ∀ {a b : Kids}, IsoL a b → ∀ k, k < numEdgesL a →
    ∃ k', k' < numEdgesL b ∧ IsoL (applyAtL (graftLen x l0 l1 l2) k a) (applyAtL (graftLen x l0 l1 l2) k' b)
  | _, _, .nil, k, hk => by simp [numEdgesL] at hk
  | _, _, .cons e e' t t' r r' ht hr, k, hk => by
    simp only [numEdgesL] at hk
    by_cases h0 : k = 0
    · subst h0
      refine ⟨0, by simp [numEdgesL]; omega, ?_⟩
      rw [applyAtL_head _ 0 e t r (by omega), applyAtL_head _ 0 e' t' r' (by omega)]
      simp only [blockApply, if_true]
      have := graftLen_isoT x l0 l1 l2 e e' t t' ht
      cases hg : graftLen x l0 l1 l2 (e, t) with
      | mk e1 t1 =>
        cases hg' : graftLen x l0 l1 l2 (e', t') with
        | mk e2 t2 =>
          rw [hg, hg'] at this
          exact IsoL.cons _ _ _ _ _ _ this hr
    · by_cases h1 : k < 1 + numEdges t
      · obtain ⟨k1, hk1, hiso⟩ := IsoT.graft x l0 l1 l2 ht (k - 1) (by omega)
        refine ⟨1 + k1, by simp only [numEdgesL]; omega, ?_⟩
        rw [applyAtL_head _ k e t r h1, applyAtL_head _ (1 + k1) e' t' r' (by omega)]
        have e1 : 1 + k1 - 1 = k1 := by omega
        have e2 : ¬ (1 + k1 = 0) := by omega
        simp only [blockApply, h0, e2, if_false, e1]
        exact IsoL.cons _ _ _ _ _ _ hiso hr
      · obtain ⟨k2, hk2, hiso⟩ := IsoL.graft x l0 l1 l2 hr (k - 1 - numEdges t) (by omega)
        refine ⟨1 + numEdges t' + k2, by simp only [numEdgesL]; omega, ?_⟩
        rw [applyAtL_tail _ k e t r (by omega), applyAtL_tail _ (1 + numEdges t' + k2) e' t' r' (by omega)]
        have e1 : 1 + numEdges t' + k2 - 1 - numEdges t' = k2 := by omega
        rw [e1]
        exact IsoL.cons _ _ _ _ _ _ ht hiso
  | _, _, .swap (ea, ta) (eb, tb) r, k, hk => by
    simp only [numEdgesL] at hk
    by_cases h1 : k < 1 + numEdges ta
    · -- inside the first block: it is the second block on the other side
      refine ⟨1 + numEdges tb + k, by simp only [numEdgesL]; omega, ?_⟩
      rw [applyAtL_head _ k ea ta _ h1, applyAtL_tail _ (1 + numEdges tb + k) eb tb _ (by omega)]
      have e1 : 1 + numEdges tb + k - 1 - numEdges tb = k := by omega
      rw [e1, applyAtL_head _ k ea ta r h1]
      exact IsoL.swap _ _ _
    · by_cases h2 : k < 1 + numEdges ta + (1 + numEdges tb)
      · -- inside the second block: first block on the other side
        refine ⟨k - 1 - numEdges ta, by simp only [numEdgesL]; omega, ?_⟩
        rw [applyAtL_tail _ k ea ta _ (by omega), applyAtL_head _ (k - 1 - numEdges ta) eb tb _ (by omega),
          applyAtL_head _ (k - 1 - numEdges ta) eb tb _ (by omega)]
        exact IsoL.swap _ _ _
      · -- behind both blocks
        refine ⟨k, by simp only [numEdgesL]; omega, ?_⟩
        rw [applyAtL_tail _ k ea ta _ (by omega), applyAtL_tail _ (k - 1 - numEdges ta) eb tb _ (by omega),
          applyAtL_tail _ k eb tb _ (by omega), applyAtL_tail _ (k - 1 - numEdges tb) ea ta _ (by omega)]
        have e1 : k - 1 - numEdges ta - 1 - numEdges tb = k - 1 - numEdges tb - 1 - numEdges ta := by omega
        rw [e1]
        exact IsoL.swap _ _ _
  | _, _, .trans a b c h1 h2, k, hk => by
    obtain ⟨k1, hk1, hi1⟩ := IsoL.graft x l0 l1 l2 h1 k hk
    obtain ⟨k2, hk2, hi2⟩ := IsoL.graft x l0 l1 l2 h2 k1 hk1
    exact ⟨k2, hk2, IsoL.trans _ _ _ hi1 hi2⟩
end

/-! ### pruning a tip: every tree is a graft of the tip on a smaller tree -/

/-- `t` (an inner binary node below branch `e`) holds the tip `x`: there is a smaller subtree `t'` and a
    branch index `k` inside the block of `(e, t')` such that grafting `x` there gives `t` back, up to
    child order -/
def PruneSpec (x : String) (l0 l1 l2 : Rat) (t : T) : Prop :=
  t.binaryBelow = true → t.leaves.Nodup → x ∈ t.leaves → t.kids ≠ [] → ∀ (e : EdgeD),
    ∃ t' k, t'.binaryBelow = true ∧ (x :: t'.leaves).Perm t.leaves ∧ k < 1 + numEdges t' ∧
      ∀ r, IsoL ((e, t) :: r) (applyAtL (graftLen x l0 l1 l2) k ((e, t') :: r))

theorem leaves_of_leaf (d : NodeD) (p : Nat) : (T.node d p []).leaves = [d.name] := rfl

theorem prune_exists (x : String) (l0 l1 l2 : Rat) : ∀ (t : T), PruneSpec x l0 l1 l2 t := by
  apply T.induct
  intro d p ks ih hbin hnd hx hne e
  simp only [T.binaryBelow, Bool.and_eq_true, Bool.or_eq_true, beq_iff_eq] at hbin
  have hlen : ks.length = 2 := by
    rcases hbin.1 with h0 | h2
    · exact absurd (List.length_eq_zero_iff.mp h0) hne
    · exact h2
  match ks, hlen, ih, hbin, hnd, hx with
  | [(e1, a), (e2, b)], _, ih, hbin, hnd, hx =>
    have hba : a.binaryBelow = true := by have := hbin.2; simp only [binaryL, Bool.and_eq_true] at this; exact this.1
    have hbb : b.binaryBelow = true := by have := hbin.2; simp only [binaryL, Bool.and_eq_true] at this; exact this.2.1
    rw [T.leaves_node_cons] at hnd hx ⊢
    simp only [leavesL, List.append_nil] at hnd hx ⊢
    -- `x` below the first of two children: that child is the tip `x` (graft on the branch above the
    -- other child), or `x` lies deeper (induction); the other position follows by swapping the children
    have first : ∀ (e1 : EdgeD) (a : T) (e2 : EdgeD) (b : T), PruneSpec x l0 l1 l2 a → a.binaryBelow = true →
        b.binaryBelow = true → a.leaves.Nodup → x ∈ a.leaves →
        ∃ t' k, t'.binaryBelow = true ∧ (x :: t'.leaves).Perm (a.leaves ++ b.leaves) ∧ k < 1 + numEdges t' ∧
          ∀ r, IsoL ((e, .node d p [(e1, a), (e2, b)]) :: r) (applyAtL (graftLen x l0 l1 l2) k ((e, t') :: r)) := by
      intro e1 a e2 b iha hba hbb hnda hxa
      by_cases hk : a.kids = []
      · cases a with
        | node da pa ka =>
          simp only [T.kids_node] at hk; subst hk
          rw [leaves_of_leaf] at hxa ⊢
          have hname : da.name = x := (List.mem_singleton.mp hxa).symm
          refine ⟨b, 0, hbb, by rw [hname]; exact List.Perm.refl _, by omega, fun r => ?_⟩
          rw [applyAtL_zero, graftLen_eq]
          exact IsoL.cons _ _ _ _ _ _
            (IsoT.inner _ _ _ _ _ _ (by simp)
              (IsoL.cons _ _ _ _ _ _ (IsoT.leaf _ _ _ _ (by simpa using hname)) (IsoL.cons _ _ _ _ _ _ (IsoT.refl b) IsoL.nil)))
            (IsoL.refl r)
      · obtain ⟨a', k1, hba', hpa, hk1, hiso⟩ := iha hba hnda hxa hk e1
        refine ⟨.node d p [(e1, a'), (e2, b)], 1 + k1, by simp [T.binaryBelow, binaryL, hba', hbb], ?_,
          by simp only [numEdges, numEdgesL]; omega, fun r => ?_⟩
        · rw [T.leaves_node_cons]; simp only [leavesL, List.append_nil]
          exact List.Perm.append_right _ hpa
        · rw [applyAtL_head _ (1 + k1) e _ r (by simp only [numEdges, numEdgesL]; omega)]
          have e1' : 1 + k1 - 1 = k1 := by omega
          have e2' : ¬ (1 + k1 = 0) := by omega
          simp only [blockApply, e2', if_false, e1', applyAt]
          exact IsoL.cons _ _ _ _ _ _ (IsoT.inner _ _ _ _ _ _ (by simp) (hiso [(e2, b)])) (IsoL.refl r)
    rcases List.mem_append.mp hx with hxa | hxb
    · exact first e1 a e2 b (ih (e1, a) (by simp)) hba hbb (List.nodup_append.mp hnd).1 hxa
    · obtain ⟨t', k, h1, h2, h3, h4⟩ := first e2 b e1 a (ih (e2, b) (by simp)) hbb hba (List.nodup_append.mp hnd).2.1 hxb
      exact ⟨t', k, h1, h2.trans List.perm_append_comm, h3, fun r => IsoL.trans _ _ _
        (IsoL.cons _ _ _ _ _ _ (IsoT.inner _ _ _ _ _ _ (by simp) (IsoL.swap _ _ _)) (IsoL.refl r)) (h4 r)⟩

/-- the same for a list of children (the root's): the child holding `x` is an inner node -/
theorem pruneL_exists (x : String) (l0 l1 l2 : Rat) : ∀ (ks : Kids), binaryL ks = true → (leavesL ks).Nodup →
    x ∈ leavesL ks → (∀ et ∈ ks, x ∈ et.2.leaves → et.2.kids ≠ []) →
    ∃ ks' k, binaryL ks' = true ∧ ks'.length = ks.length ∧ (x :: leavesL ks').Perm (leavesL ks) ∧
      k < numEdgesL ks' ∧ IsoL ks (applyAtL (graftLen x l0 l1 l2) k ks')
  | [], _, _, hx, _ => by simp [leavesL] at hx
  | (e, t) :: r, hb, hn, hx, hin => by
    simp only [binaryL, Bool.and_eq_true] at hb
    simp only [leavesL] at hn hx
    by_cases hxt : x ∈ t.leaves
    · obtain ⟨t', k, hbt', hp, hk, hiso⟩ := prune_exists x l0 l1 l2 t hb.1 (List.nodup_append.mp hn).1 hxt
        (hin (e, t) (by simp) hxt) e
      refine ⟨(e, t') :: r, k, by simp [binaryL, hbt', hb.2], by simp, ?_, by simp only [numEdgesL]; omega, hiso r⟩
      simp only [leavesL]
      exact List.Perm.append_right _ hp
    · have hxr : x ∈ leavesL r := by
        rcases List.mem_append.mp hx with h | h
        · exact absurd h hxt
        · exact h
      obtain ⟨r', kr, hbr', hlen, hp, hk, hiso⟩ := pruneL_exists x l0 l1 l2 r hb.2 (List.nodup_append.mp hn).2.1 hxr
        (fun et het => hin et (List.mem_cons_of_mem _ het))
      refine ⟨(e, t) :: r', 1 + numEdges t + kr, by simp [binaryL, hb.1, hbr'], by simp [hlen], ?_,
        by simp only [numEdgesL]; omega, ?_⟩
      · simp only [leavesL]
        exact (List.perm_middle.symm).trans (List.Perm.append_left _ hp)
      · rw [applyAtL_tail _ _ e t r' (by omega)]
        have e1 : 1 + numEdges t + kr - 1 - numEdges t = kr := by omega
        rw [e1]
        exact IsoL.cons _ _ _ _ _ _ (IsoT.refl t) hiso

/-! ### lists of tips -/

/-- two lists of tips (children that are leaves) with the same names up to order are isomorphic -/
theorem isoL_of_tips : ∀ {na nb : List String}, na.Perm nb → ∀ (fa fb : String → EdgeD),
    IsoL (na.map fun x => (fa x, T.leaf x)) (nb.map fun x => (fb x, T.leaf x)) := by
  intro na nb h
  induction h with
  | nil => intro fa fb; exact IsoL.nil
  | cons x _ ih => intro fa fb; exact IsoL.cons _ _ _ _ _ _ (IsoT.refl _) (ih fa fb)
  | swap x y l =>
    intro fa fb
    refine IsoL.trans _ _ _ (IsoL.swap _ _ _) ?_
    refine IsoL.cons _ _ _ _ _ _ (IsoT.refl _) (IsoL.cons _ _ _ _ _ _ (IsoT.refl _) ?_)
    clear x y
    induction l with
    | nil => exact IsoL.nil
    | cons z l ihl => exact IsoL.cons _ _ _ _ _ _ (IsoT.refl _) ihl
  | trans _ _ ih1 ih2 => intro fa fb; exact IsoL.trans _ _ _ (ih1 fa fa) (ih2 fa fb)

/-- a list of children all of which are leaves is the list of tips of their names -/
theorem kids_all_leaves : ∀ (ks : Kids), (∀ et ∈ ks, et.2.kids = []) →
    IsoL ks ((leavesL ks).map fun x => (EdgeD.blank, T.leaf x))
  | [], _ => by simp [leavesL]; exact IsoL.nil
  | (e, .node d p k) :: r, h => by
    have hk : k = [] := h (e, .node d p k) (by simp)
    subst hk
    have ih := kids_all_leaves r (fun et het => h et (List.mem_cons_of_mem _ het))
    simp only [leavesL, leaves_of_leaf, List.singleton_append, List.map_cons]
    exact IsoL.cons _ _ _ _ _ _ (IsoT.leaf _ _ _ _ (by simp)) ih

/-! ### the induction: every tree with the invariant is one of the backtracking trees -/

theorem mem_raw_succ (nm : Nat → String) : ∀ (f : Nat) (t : T) (total : Nat) (v : T) (k : Nat),
    v ∈ allTopoRaw nm f t total → k < numEdges v →
    applyAt (graftLen (nm (total + f)) NIL NIL NIL) k v ∈ allTopoRaw nm (f + 1) t total
  | 0, t, total, v, k, hv, hk => by
    simp only [allTopoRaw, List.mem_singleton] at hv
    subst hv
    simp only [allTopoRaw, List.mem_flatMap, List.mem_range, List.mem_singleton, Nat.add_zero]
    exact ⟨k, hk, rfl⟩
  | f + 1, t, total, v, k, hv, hk => by
    simp only [allTopoRaw, List.mem_flatMap, List.mem_range] at hv
    obtain ⟨j, hj, hv'⟩ := hv
    have ih := mem_raw_succ nm f _ (total + 1) v k hv' hk
    have e : total + 1 + f = total + (f + 1) := by omega
    rw [e] at ih
    rw [allTopoRaw]
    simp only [List.mem_flatMap, List.mem_range]
    exact ⟨j, hj, ih⟩

theorem Q3_of_famEq {a b c : String} {A B : List (List String)} (q : Q3 a b c A) (h : FamEq A B) : Q3 a b c B :=
  q.cover fun S hS => by
    obtain ⟨S0, hS0, he⟩ := h.2 S hS
    exact ⟨S0, hS0, fun y _ hy => (he y).mpr hy⟩

/-- the members of the family before a graft are parts of members after it -/
theorem Q3_before_graft (a b c x : String) (l0 l1 l2 : Rat) (ks : Kids) (k : Nat) (hk : k < numEdgesL ks)
    (hx : x ∉ leavesL ks) (q : Q3 a b c (belowsL (applyAtL (graftLen x l0 l1 l2) k ks))) : Q3 a b c (belowsL ks) :=
  q.cover fun S hS => by
    obtain ⟨S', hS', hf⟩ := belowsL_graft_old x l0 l1 l2 ks k hk hx S hS
    exact ⟨S', hS', fun y _ hy => by rw [← hf] at hy; exact (List.mem_filter.mp hy).1⟩

theorem leaf_of_one_leaf (t : T) (hb : t.binaryBelow = true) (h : t.leaves.length = 1) : t.kids = [] := by
  cases t with
  | node d p ks =>
    simp only [T.binaryBelow, Bool.and_eq_true, Bool.or_eq_true, beq_iff_eq] at hb
    rcases hb.1 with h0 | h2
    · simpa using List.length_eq_zero_iff.mp h0
    · exfalso
      rw [leaves_node_of_pos _ _ _ (by omega)] at h
      have := length_le_length_leavesL ks
      omega

theorem all_leaves_of_count : ∀ (ks : Kids), binaryL ks = true → (leavesL ks).length ≤ ks.length →
    ∀ et ∈ ks, et.2.kids = []
  | [], _, _, _, h => by simp at h
  | (e, t) :: r, hb, hl, et, het => by
    simp only [binaryL, Bool.and_eq_true] at hb
    have h1 : 1 ≤ t.leaves.length := List.length_pos_iff.mpr (T.leaves_ne_nil t)
    have h2 := length_le_length_leavesL r
    simp only [leavesL, List.length_cons, List.length_append] at hl
    rcases List.mem_cons.mp het with rfl | h
    · exact leaf_of_one_leaf t hb.1 (by omega)
    · exact all_leaves_of_count r hb.2 (by omega) et h

/-- at the start of the enumeration there is only one tree -/
theorem init_iso (nm : Nat → String) (rooted : Bool) (s : T)
    (h : TI nm (if rooted then 1 else 3) (topoInit nm rooted).2 s) : IsoL s.kids (topoInit nm rooted).1.kids := by
  have hlen : (leavesL s.kids).length = s.kids.length := by
    have := h.leaves.length_eq
    rw [this, h.deg]
    cases rooted <;> simp [topoInit, namesUpTo]
  have hall := all_leaves_of_count s.kids h.bin (by omega)
  refine IsoL.trans _ _ _ (kids_all_leaves s.kids hall) ?_
  have hp := h.leaves
  cases rooted with
  | false =>
    have : (topoInit nm false).1.kids = (namesUpTo nm 3).map fun x => (newEdge NIL, T.leaf x) := by
      simp [topoInit, namesUpTo, List.range_succ]
    rw [this]
    exact isoL_of_tips hp _ _
  | true =>
    have : (topoInit nm true).1.kids = (namesUpTo nm 1).map fun x => (newEdge NIL, T.leaf x) := by
      simp [topoInit, namesUpTo, List.range_succ]
    rw [this]
    exact isoL_of_tips hp _ _

/-- the child of the root that holds the new tip is an inner node -/
theorem root_child_inner (nm : Nat → String) (N : Nat) (hinj : InjTo nm N) (rooted : Bool) (n : Nat) (s : T)
    (hn : (topoInit nm rooted).2 ≤ n) (hN : n < N) (h : TI nm (if rooted then 1 else 3) (n + 1) s)
    (hq : rooted = false → Q3 (nm 0) (nm 1) (nm 2) (belowsL s.kids)) :
    ∀ et ∈ s.kids, nm n ∈ et.2.leaves → et.2.kids ≠ [] := by
  intro et het hx hnil
  have hleaf : et.2.leaves = [nm n] := by
    cases hh : et.2 with
    | node d p k =>
      rw [hh] at hnil hx
      simp only [T.kids_node] at hnil; subst hnil
      rw [leaves_of_leaf] at hx ⊢
      rw [List.mem_singleton.mp hx]
  have hmemL : ∀ y, y ∈ namesUpTo nm (n + 1) → y ∈ leavesL s.kids := fun y hy => h.leaves.symm.subset hy
  have hnm : ∀ i, i < n + 1 → nm i ∈ namesUpTo nm (n + 1) := fun i hi =>
    List.mem_map.mpr ⟨i, List.mem_range.mpr hi, rfl⟩
  cases rooted with
  | true =>
    -- the single child holds every tip; there are at least two
    simp only [if_true] at h
    simp only [topoInit, if_true] at hn
    match hk : s.kids, h.deg with
    | [(e, c)], _ =>
      rw [hk] at het
      have : et = (e, c) := by simpa using het
      subst this
      have h0 := hmemL (nm 0) (hnm 0 (by omega))
      rw [hk] at h0
      simp only [leavesL, List.append_nil, hleaf, List.mem_singleton] at h0
      have := hinj 0 n (by omega) (by omega) h0
      omega
  | false =>
    -- the three start tips lie in the two other children: one of these holds two of them
    simp only [Bool.false_eq_true, if_false] at h
    simp only [topoInit, Bool.false_eq_true, if_false] at hn
    have hno : ∀ i, i < 3 → nm i ∉ et.2.leaves := fun i hi hm => by
      rw [hleaf, List.mem_singleton] at hm
      have := hinj i n (by omega) (by omega) hm; omega
    have nq : ∀ c ∈ s.kids, ¬ TwoOf (nm 0) (nm 1) (nm 2) c.2.leaves := fun c hc =>
      (Q3_iff_twoOf _ _ _ _).mp (hq rfl) _ (kid_leaves_mem s.kids c hc)
    match hk : s.kids, h.deg with
    | [(e1, c1), (e2, c2), (e3, c3)], _ =>
      rw [hk] at het nq
      have m : ∀ i, i < 3 → nm i ∈ c1.leaves ∨ nm i ∈ c2.leaves ∨ nm i ∈ c3.leaves := fun i hi => by
        simpa [hk, leavesL] using hmemL (nm i) (hnm i (by omega))
      simp only [List.mem_cons, List.not_mem_nil, or_false] at het
      rcases het with rfl | rfl | rfl
      · exact (twoOf_of_three ((m 0 (by omega)).resolve_left (hno 0 (by omega)))
          ((m 1 (by omega)).resolve_left (hno 1 (by omega))) ((m 2 (by omega)).resolve_left (hno 2 (by omega)))).elim
          (nq (e2, c2) (by simp)) (nq (e3, c3) (by simp))
      · exact (twoOf_of_three ((m 0 (by omega)).imp_right (·.resolve_left (hno 0 (by omega))))
          ((m 1 (by omega)).imp_right (·.resolve_left (hno 1 (by omega))))
          ((m 2 (by omega)).imp_right (·.resolve_left (hno 2 (by omega))))).elim
          (nq (e1, c1) (by simp)) (nq (e3, c3) (by simp))
      · exact (twoOf_of_three ((m 0 (by omega)).imp_right (·.resolve_right (hno 0 (by omega))))
          ((m 1 (by omega)).imp_right (·.resolve_right (hno 1 (by omega))))
          ((m 2 (by omega)).imp_right (·.resolve_right (hno 2 (by omega))))).elim
          (nq (e1, c1) (by simp)) (nq (e2, c2) (by simp))

/-- EXHAUSTIVENESS at the level of the backtracking: every tree with the invariant (binary below the
    root, root of the enumeration's degree, tips = the first names; unrooted: seen from the node
    joining the first three tips) is, up to the order of children, one of the trees on which the
    enumeration calls `Clone` -/
theorem raw_surj (nm : Nat → String) (N : Nat) (hinj : InjTo nm N) (rooted : Bool) :
    ∀ (f : Nat), (topoInit nm rooted).2 + f ≤ N → ∀ (s : T),
      TI nm (if rooted then 1 else 3) ((topoInit nm rooted).2 + f) s →
      (rooted = false → Q3 (nm 0) (nm 1) (nm 2) (belowsL s.kids)) →
      ∃ v ∈ allTopoRaw nm f (topoInit nm rooted).1 (topoInit nm rooted).2, IsoL s.kids v.kids
  | 0, _, s, h, _ => by
    refine ⟨(topoInit nm rooted).1, by simp [allTopoRaw], ?_⟩
    exact init_iso nm rooted s (by simpa using h)
  | f + 1, hN, s, h, hq => by
    have e0 : (topoInit nm rooted).2 + (f + 1) = (topoInit nm rooted).2 + f + 1 := by omega
    rw [e0] at h
    let n := (topoInit nm rooted).2 + f
    have hfresh : nm n ∉ namesUpTo nm n := next_not_mem nm N n hinj (by omega)
    have hnd : (leavesL s.kids).Nodup := h.nodup N hinj (by omega)
    have hx : nm n ∈ leavesL s.kids := by
      apply h.leaves.symm.subset
      rw [namesUpTo_succ]; exact List.mem_append_right _ (List.mem_singleton.mpr rfl)
    have hroot := root_child_inner nm N hinj rooted n s (by omega) (by omega) h hq
    obtain ⟨ks', k, hb', hlen', hp', hk', hiso⟩ := pruneL_exists (nm n) NIL NIL NIL s.kids h.bin hnd hx hroot
    -- the pruned tree has the invariant for one tip less
    have hp2 : (leavesL ks').Perm (namesUpTo nm n) := by
      have h1 : (nm n :: leavesL ks').Perm (namesUpTo nm n ++ [nm n]) := by
        rw [← namesUpTo_succ]; exact hp'.trans h.leaves
      exact (h1.trans (List.perm_append_singleton _ _)).cons_inv
    have hxn : nm n ∉ leavesL ks' := fun hm => hfresh (hp2.subset hm)
    have hTI : TI nm (if rooted then 1 else 3) n (.node newNodeD 0 ks') :=
      ⟨hb', by simpa [hlen'] using h.deg, hp2⟩
    have hq' : rooted = false → Q3 (nm 0) (nm 1) (nm 2) (belowsL (T.node newNodeD 0 ks').kids) := by
      intro hr
      exact Q3_before_graft _ _ _ (nm n) NIL NIL NIL ks' k hk' hxn (Q3_of_famEq (hq hr) (IsoL.famEq hiso))
    obtain ⟨v', hv', hiso'⟩ := raw_surj nm N hinj rooted f (by omega) (.node newNodeD 0 ks') hTI hq'
    simp only [T.kids_node] at hiso'
    obtain ⟨k2, hk2, hiso2⟩ := IsoL.graft (nm n) NIL NIL NIL hiso' k hk'
    refine ⟨applyAt (graftLen (nm n) NIL NIL NIL) k2 v', ?_, ?_⟩
    · exact mem_raw_succ nm f _ _ v' k2 hv' (by rw [numEdges_kids]; exact hk2)
    · rw [applyAt_kids]
      exact IsoL.trans _ _ _ hiso hiso2

end Gotree.C16

/-
  C09 — the property's domain (`Dom`, Bool form `domB`).  The rows selected with a threshold
  ≥ 1/2 satisfy `selOK`: two bipartitions each in more than half of the trees share a tree
  (pigeonhole), the clades of one tree are nested or disjoint (laminar), hence compatible.
  The counting loop succeeds.  `noRepeat` follows from the structure of the trees: with unique
  leaves, no single-child inner node and a root of degree ≥ 3, no two branches define the same
  bipartition.
-/
import Gotree.Lemmas.C09
import Gotree.Lemmas.C09Loop

namespace Gotree.C09
open Gotree

/-! ## keys, sides and names -/

theorem sortN_perm : ∀ l : List String, (sortN l).Perm l := by
  have hins : ∀ (a : String) (l : List String), (insertS a l).Perm (a :: l) := by
    intro a l
    induction l with
    | nil => exact List.Perm.refl _
    | cons b r ih =>
      unfold insertS
      split
      · exact List.Perm.refl _
      · exact (List.Perm.cons b ih).trans (List.Perm.swap a b r)
  intro l
  induction l with
  | nil => exact List.Perm.refl _
  | cons a l ih =>
    show (insertS a (sortN l)).Perm (a :: l)
    exact (hins a _).trans (List.Perm.cons a ih)

theorem mem_insertS {a x : String} : ∀ {l : List String}, x ∈ insertS a l ↔ x = a ∨ x ∈ l
  | [] => by simp [insertS]
  | b :: r => by
    unfold insertS
    split
    · simp
    · simp only [List.mem_cons, mem_insertS (l := r)]; grind

theorem insertS_sorted (a : String) : ∀ l : List String, l.Pairwise (· ≤ ·) → (insertS a l).Pairwise (· ≤ ·)
  | [], _ => by simp [insertS]
  | b :: r, h => by
    rw [List.pairwise_cons] at h
    unfold insertS
    split
    · rename_i hab
      refine List.Pairwise.cons ?_ (List.Pairwise.cons h.1 h.2)
      intro x hx
      rcases List.mem_cons.1 hx with rfl | hx
      · exact hab
      · exact String.le_trans hab (h.1 x hx)
    · rename_i hab
      have hba : b ≤ a := by
        rcases String.le_total a b with h' | h'
        · exact absurd h' hab
        · exact h'
      refine List.Pairwise.cons ?_ (insertS_sorted a r h.2)
      intro x hx
      rcases mem_insertS.1 hx with rfl | hx
      · exact hba
      · exact h.1 x hx

theorem sortN_sorted : ∀ l : List String, (sortN l).Pairwise (· ≤ ·)
  | [] => List.Pairwise.nil
  | a :: l => insertS_sorted a (sortN l) (sortN_sorted l)

theorem sortN_eq_of_perm {a b : List String} (h : a.Perm b) : sortN a = sortN b := by
  apply List.Perm.eq_of_pairwise (le := (· ≤ ·)) _ (sortN_sorted a) (sortN_sorted b)
    ((sortN_perm a).trans (h.trans (sortN_perm b).symm))
  intro x y _ _ h1 h2
  exact String.le_antisymm h1 h2

theorem perm_of_sortN_eq {a b : List String} (h : sortN a = sortN b) : a.Perm b :=
  (sortN_perm a).symm.trans (h ▸ sortN_perm b)

theorem isKey_eq_filter {all k : List String} (h : IsKey all k) : k = all.filter k.contains := by
  have h' := h.symm
  unfold compl at h'
  rw [h']
  apply List.filter_congr
  intro x hx
  rw [contains_filter_of_mem _ hx, contains_filter_of_mem _ hx, contains_filter_of_mem _ hx]

theorem mem_bits {all b : List String} {a : String} : a ∈ bits all b ↔ a ∈ all ∧ a ∈ b := by
  unfold bits; simp [List.mem_filter]

theorem mem_compl {all b : List String} {a : String} : a ∈ compl all b ↔ a ∈ all ∧ ¬ a ∈ b := by
  unfold compl; simp [List.mem_filter]

theorem mem_filter_key {tips k : List String} {a : String} (ha : a ∈ tips) :
    a ∈ tips.filter k.contains ↔ a ∈ k := by
  rw [List.mem_filter]
  simp only [List.contains_eq_mem, decide_eq_true_eq]
  exact ⟨fun h => h.2, fun h => ⟨ha, h⟩⟩

/-- equal or complementary bitsets are the two sides of one bipartition -/
theorem sameSide_of_eqc {univ tips k1 k2 : List String} (hut : ∀ a, a ∈ univ ↔ a ∈ tips)
    (h : Eqc univ k1 k2) : SameSide tips k1 k2 := by
  rcases h with rfl | rfl
  · exact Or.inl fun _ _ => Iff.rfl
  · exact Or.inr fun a ha => by rw [mem_compl, hut]; exact ⟨fun h => h.2, fun h => ⟨ha, h⟩⟩

/-- the names of a row are a side of every branch that has the row's bipartition -/
theorem names_sameSide {univ tips key b : List String} (hut : ∀ a, a ∈ univ ↔ a ∈ tips)
    (h : Eqc univ key (bits univ b)) : SameSide tips (tips.filter key.contains) b :=
  (sameSide_of_eqc hut h).congr (fun _ ha => (mem_filter_key ha).symm)
    fun a ha => by rw [mem_bits, hut]; exact ⟨fun h => h.2, fun h => ⟨ha, h⟩⟩

theorem eqc_bits_iff (univ k b : List String) : Eqc univ (bits univ k) (bits univ b) ↔ SameSide univ b k := by
  have m : ∀ (X : List String), ∀ a ∈ univ, (a ∈ bits univ X ↔ a ∈ X) := fun X a ha => by
    rw [mem_bits]; exact ⟨fun h => h.2, fun h => ⟨ha, h⟩⟩
  refine ⟨fun h => ((sameSide_of_eqc (fun _ => Iff.rfl) h).congr (m k) (m b)).symm', ?_⟩
  rintro (h | h)
  · left
    unfold bits
    apply List.filter_congr
    intro a ha
    rw [Bool.eq_iff_iff]
    simp only [List.contains_eq_mem, decide_eq_true_eq]
    exact (h a ha).symm
  · refine bits_compl univ k b fun a ha => ⟨fun hk hb => (h a ha).1 hb hk, fun hnb => ?_⟩
    exact Classical.byContradiction fun hnk => hnb ((h a ha).2 hnk)

/-- two rows whose names are sides of one bipartition have the same bipartition -/
theorem eqc_of_names {univ tips k1 k2 : List String} (hut : ∀ a, a ∈ univ ↔ a ∈ tips)
    (h1 : IsKey univ k1) (h2 : IsKey univ k2)
    (h : SameSide tips (tips.filter k1.contains) (tips.filter k2.contains)) : Eqc univ k1 k2 := by
  have hs : SameSide tips k1 k2 := h.congr (fun _ ha => mem_filter_key ha) fun _ ha => mem_filter_key ha
  have e1 : bits univ k1 = k1 := (isKey_eq_filter h1).symm
  have e2 : bits univ k2 = k2 := (isKey_eq_filter h2).symm
  rw [← e1, ← e2]
  exact (eqc_bits_iff univ k1 k2).2 (SameSide.of_mem_iff (fun a => (hut a).symm) hs.symm')

/-- rows with the same bipartition have names on the same bipartition -/
theorem rowNames_sameSide {univ tips : List String} (hut : ∀ a, a ∈ univ ↔ a ∈ tips) (x y : Entry)
    (h : Eqc univ y.key x.key) :
    SameSide tips (rowNames tips y) (rowNames tips x) :=
  (sameSide_of_eqc hut h).congr (fun _ ha => (mem_filter_key ha).symm) fun _ ha => (mem_filter_key ha).symm

theorem rowNames_perm {tips tips' : List String} (h : tips.Perm tips') (x : Entry) :
    (rowNames tips x).Perm (rowNames tips' x) := h.filter _

/-! ## structure of one tree -/

/-- the clades of a tree with unique leaves are nested or disjoint -/
def Laminar (a b : List String) : Prop := SubS a b ∨ SubS b a ∨ (∀ x ∈ a, ¬ x ∈ b)

theorem laminar_L (k : Kids) (hnd : (leavesL k).Nodup) : ∀ s1 ∈ splitsL k, ∀ s2 ∈ splitsL k, Laminar s1.below s2.below := by
  have h := splitsL_laminar hnd
  exact fun s1 hs1 s2 hs2 => List.Pairwise.forall_of_forall_of_flip (R := fun s1 s2 => Laminar s1.below s2.below)
    (fun _ _ => Or.inl fun _ h => h) (h.imp fun h => h.elim (fun h => Or.inr (Or.inl h.1.subset)) fun h => Or.inr (Or.inr h))
    (h.imp fun h => h.elim (fun h => Or.inl h.1.subset) fun h => Or.inr (Or.inr fun x hx hx' => h x hx' hx)) hs1 hs2

theorem laminar_T : ∀ t : T, t.leaves.Nodup → ∀ s1 ∈ t.splitsBelow, ∀ s2 ∈ t.splitsBelow, Laminar s1.below s2.below := by
  intro t hnd
  rw [t.splitsBelow_eq]
  exact laminar_L _ (hnd.sublist t.leavesL_kids_sublist)

/- the model's `okBelow` is the specification's `noSingleBelow` -/
mutual
theorem okBelow_eq : ∀ t : T, okBelow t = t.noSingleBelow
  | .node _ _ k => by rw [okBelow, T.noSingleBelow_node, okBelowL_eq k]
theorem okBelowL_eq : ∀ k : Kids, okBelowL k = noSingleL k
  | [] => rfl
  | (_, t) :: r => by rw [okBelowL, noSingleL_cons, okBelow_eq t, okBelowL_eq r]
end

/- sizes of the clades of a tree without single-child inner node -/
theorem sizes_L (k : Kids) (h : okBelowL k = true) : ∀ s ∈ splitsL k,
    (s.tip = true → ∃ a, s.below = [a]) ∧ (s.tip = false → 2 ≤ s.below.length) :=
  fun s hs => ⟨below_of_tip k s hs, two_le_below (okBelowL_eq k ▸ h) s hs⟩

theorem sizes_T : ∀ t : T, okBelow t = true → ∀ s ∈ t.splitsBelow,
    (s.tip = true → ∃ a, s.below = [a]) ∧ (s.tip = false → 2 ≤ s.below.length) := by
  intro t h
  rw [t.splitsBelow_eq]
  rw [okBelow_eq, T.noSingleBelow_eq, Bool.and_eq_true] at h
  exact sizes_L _ (by rw [okBelowL_eq]; exact h.2)

/-- below a root of degree ≥ 3 every clade misses at least two leaves -/
theorem clade_small (k : Kids) (h3 : 3 ≤ k.length) : ∀ s ∈ splitsL k, s.below.length + 2 ≤ (leavesL k).length := by
  intro s hs
  have := below_length_add_le k s hs
  omega

/-! ### no two branches of a tree of the domain define the same bipartition -/

/-- how two clades of one tree (the first met first in pre-order) relate: the
    second is strictly inside the first, or they are disjoint -/
def Rel (s1 s2 : SplitE) : Prop :=
  (SubS s2.below s1.below ∧ ∃ a ∈ s1.below, ¬ a ∈ s2.below) ∨ (∀ x ∈ s1.below, ¬ x ∈ s2.below)

theorem below_ne_T : ∀ t : T, ∀ s ∈ t.splitsBelow, s.below ≠ [] :=
  fun t => t.splitsBelow_eq ▸ below_ne_nil t.kids

theorem rel_L (k : Kids) (h : okBelowL k = true) (hnd : (leavesL k).Nodup) : (splitsL k).Pairwise Rel :=
  splitsL_laminar_strict hnd (okBelowL_eq k ▸ h)

theorem rel_T : ∀ t : T, okBelow t = true → t.leaves.Nodup → t.splitsBelow.Pairwise Rel := by
  intro t h hnd
  rw [t.splitsBelow_eq]
  rw [okBelow_eq, T.noSingleBelow_eq, Bool.and_eq_true] at h
  exact rel_L _ (by rw [okBelowL_eq]; exact h.2) (hnd.sublist t.leavesL_kids_sublist)

/-- two clades never cover all the leaves when the root has degree ≥ 3 -/
theorem not_cover (k : Kids) (h3 : 3 ≤ k.length) (hnd : (leavesL k).Nodup) :
    ∀ s1 ∈ splitsL k, ∀ s2 ∈ splitsL k, ∃ x ∈ leavesL k, ¬ x ∈ s1.below ∧ ¬ x ∈ s2.below :=
  exists_not_mem_below₂ h3 hnd

theorem pairwiseNe_iff (all : List String) : ∀ l : List (List String),
    pairwiseNe all l = true ↔ l.Pairwise (fun a b => eqc all a b = false)
  | [] => by simp [pairwiseNe]
  | a :: r => by
    simp only [pairwiseNe, Bool.and_eq_true, List.all_eq_true, Bool.not_eq_true', List.pairwise_cons,
      pairwiseNe_iff all r]

/-- In a tree with unique leaves, no single-child inner node and a root of degree
    ≥ 3 no two branches define the same bipartition (over any tip index `univ`
    that has the leaves of the tree as elements). -/
theorem distinctKeys_of_structure (univ : List String) (u : T) (h3 : 3 ≤ u.kids.length)
    (hok : okBelowL u.kids = true) (hnd : (leavesL u.kids).Nodup)
    (hut : ∀ a, a ∈ univ ↔ a ∈ leavesL u.kids) : distinctKeys univ u = true := by
  unfold distinctKeys
  rw [pairwiseNe_iff]
  have hk : (edgeKeys univ u).map (·.1) = (splitsL u.kids).map (fun s => bits univ s.below) := by
    unfold edgeKeys T.splits; simp
  rw [hk, List.pairwise_map]
  refine (rel_L u.kids hok hnd).imp_of_mem ?_
  intro s1 s2 hs1 hs2 hrel
  rw [eqc_false_iff, eqc_bits_iff]
  have sub1 : SubS s1.below (leavesL u.kids) := (below_sublist_L u.kids s1 hs1).subset
  obtain ⟨b1, hb1⟩ := List.exists_mem_of_ne_nil _ (below_ne_nil u.kids s1 hs1)
  rintro (hm | hm)
  · -- the same clade
    rcases hrel with ⟨_, a, ha, hna⟩ | hd
    · exact hna ((hm a ((hut a).2 (sub1 a ha))).2 ha)
    · exact hd b1 hb1 ((hm b1 ((hut b1).2 (sub1 b1 hb1))).2 hb1)
  · -- complementary clades would cover all the leaves
    obtain ⟨x, hx, hx1, hx2⟩ := not_cover u.kids h3 hnd s1 hs1 s2 hs2
    exact hx2 ((hm x ((hut x).2 hx)).2 hx1)

/-! ## pigeonhole -/

theorem countP_pigeonhole {α : Type} (p q : α → Bool) : ∀ l : List α,
    l.length < l.countP p + l.countP q → ∃ x ∈ l, p x = true ∧ q x = true
  | [] => by simp
  | a :: l => by
    intro h
    by_cases hp : p a = true <;> by_cases hq : q a = true
    · exact ⟨a, by simp, hp, hq⟩
    all_goals
      have : l.length < l.countP p + l.countP q := by
        simp only [List.countP_cons, List.length_cons, hp, hq, if_true, if_false, Bool.false_eq_true] at h
        omega
      obtain ⟨x, hx, h1, h2⟩ := countP_pigeonhole p q l this
      exact ⟨x, by simp [hx], h1, h2⟩

/-! ## compatibility as a relation on sides -/

theorem Compat.of_laminar {tips X Y : List String} (h : Laminar X Y) : Compat tips X Y := by
  rcases h with h | h | h
  · exact Or.inr (Or.inl h)
  · exact Or.inr (Or.inr (Or.inl h))
  · exact Or.inl h

theorem Compat.both {tips X Y B1 B2 : List String} (hX : SubS X tips) (hY : SubS Y tips)
    (h1 : SubS B1 tips) (h2 : SubS B2 tips) (sx : SameSide tips X B1) (sy : SameSide tips Y B2)
    (c : Compat tips B1 B2) : Compat tips X Y :=
  (Compat.left hY hX h2 sy (Compat.left hX h2 h1 sx c).symm).symm

/-! ## from pairwise facts to the Bool hypothesis -/

theorem build_selOK (tips alltips : List String) (P : Entry → Entry → Prop) : ∀ (sel : List Entry),
    sel.Pairwise P →
    (∀ x ∈ sel, ∀ y ∈ sel, P x y → rowNames alltips x ≠ rowNames alltips y) →
    (∀ x ∈ sel, ∀ y ∈ sel, P x y → 2 ≤ (rowNames alltips x).length → 2 ≤ (rowNames alltips y).length →
      pairOK tips (rowNames alltips x) (rowNames alltips y) = true) →
    nodupB (sel.map (rowNames alltips)) = true ∧
    allPairsOK tips ((sel.map (rowNames alltips)).filter (fun s => decide (2 ≤ s.length))) = true
  | [], _, _, _ => by simp [nodupB, allPairsOK]
  | x :: sel, hpw, hne, hpair => by
    rw [List.pairwise_cons] at hpw
    obtain ⟨i1, i2⟩ := build_selOK tips alltips P sel hpw.2
      (fun a ha b hb => hne a (by simp [ha]) b (by simp [hb]))
      (fun a ha b hb => hpair a (by simp [ha]) b (by simp [hb]))
    constructor
    · simp only [List.map_cons, nodupB, Bool.and_eq_true, Bool.not_eq_true', List.contains_eq_mem,
        decide_eq_false_iff_not]
      refine ⟨?_, i1⟩
      intro hmem
      obtain ⟨y, hy, hyx⟩ := List.mem_map.1 hmem
      exact hne x (by simp) y (by simp [hy]) (hpw.1 y hy) hyx.symm
    · simp only [List.map_cons, List.filter_cons]
      split
      · rename_i hx2
        simp only [allPairsOK, Bool.and_eq_true, List.all_eq_true]
        refine ⟨?_, i2⟩
        intro nm hnm
        obtain ⟨hnm1, hnm2⟩ := List.mem_filter.1 hnm
        obtain ⟨y, hy, rfl⟩ := List.mem_map.1 hnm1
        exact hpair x (by simp) y (by simp [hy]) (hpw.1 y hy) (by simpa using hx2) (by simpa using hnm2)
      · exact i2

/-! ## the hypotheses on the collection -/

/-- The trees of the property's domain, as the counting loop sees them (after
    `norm`): a root of degree ≥ 3, no single-child inner node, unique leaves,
    the same leaves as the first tree. -/
structure Dom (ts : List T) : Prop where
  ne : ts ≠ []
  deg : ∀ u ∈ trees ts, 3 ≤ u.kids.length
  nosingle : ∀ u ∈ trees ts, okBelowL u.kids = true
  nodup : ∀ u ∈ trees ts, (leavesL u.kids).Nodup
  same : ∀ u ∈ trees ts, (leavesL u.kids).Perm (leavesL (norm ts.head!).kids)
  norepeat : noRepeat ts = true

theorem Dom.head_mem {ts : List T} (hd : Dom ts) : norm ts.head! ∈ trees ts := by
  cases ts with
  | nil => exact absurd rfl hd.ne
  | cons a b => exact List.mem_map.2 ⟨a, by simp, rfl⟩

/-- the tip index is the sorted list of the leaves of the first tree -/
theorem Dom.univOf_eq {ts : List T} (hd : Dom ts) : univOf ts = sortN (leavesL (norm ts.head!).kids) := by
  have h3 := hd.deg _ hd.head_mem
  cases ts with
  | nil => exact absurd rfl hd.ne
  | cons t0 r =>
    have h3' : 3 ≤ (norm t0).kids.length := h3
    show sortN (norm t0).tipNames = sortN (leavesL (norm t0).kids)
    rw [tipNames_eq_leaves _ (by omega)]

theorem Dom.mem_univOf {ts : List T} (hd : Dom ts) (a : String) :
    a ∈ univOf ts ↔ a ∈ leavesL (norm ts.head!).kids := by
  rw [hd.univOf_eq]; exact (sortN_perm _).mem_iff

theorem Dom.univOf_nodup {ts : List T} (hd : Dom ts) : (univOf ts).Nodup := by
  rw [hd.univOf_eq]; exact (sortN_perm _).nodup_iff.2 (hd.nodup _ hd.head_mem)

/-- a row of the index stores a sublist of the tip index -/
theorem Dom.key {ts : List T} (hd : Dom ts) {x : Entry} (hx : x ∈ index ts) :
    x.key.Nodup ∧ bits (univOf ts) x.key = x.key := by
  have hk := isKey_eq_filter ((buildIdx_inv _ _).keys x hx)
  exact ⟨by rw [hk]; exact hd.univOf_nodup.filter _, hk.symm⟩

theorem two_count (c : Rat) (hc : 1/2 ≤ c) (n k : Nat) (h : floorCut c n < k) : n < 2 * k := by
  have hc0 : (0 : Rat) ≤ c := Rat.le_trans (by decide +kernel) hc
  rw [floorCut_lt_iff c n k hc0] at h
  apply Classical.byContradiction
  intro hn
  have h3 : 2 * k ≤ n := by omega
  have h3' : (2 : Rat) * (k : Rat) ≤ (n : Rat) := by exact_mod_cast h3
  have h1 : (1/2 : Rat) * (n : Rat) ≤ c * (n : Rat) :=
    Rat.mul_le_mul_of_nonneg_right hc (by exact_mod_cast Nat.zero_le n)
  grind

theorem mem_edgeKeys {univ : List String} {u : T} {kl : KL} (h : kl ∈ edgeKeys univ u) :
    ∃ s ∈ splitsL u.kids, kl = (bits univ s.below, s.e.len) := by
  unfold edgeKeys T.splits at h
  obtain ⟨s, hs, rfl⟩ := List.mem_map.1 h
  exact ⟨s, hs, rfl⟩

/-- With a threshold ≥ 1/2, the rows selected from a collection of the domain
    satisfy `selOK`. -/
theorem selOK_of_dom (ord : List Entry → List Entry) (hord : ∀ l, (ord l).Perm l) (ts : List T) (c : Rat)
    (hc : 1/2 ≤ c ∧ c ≤ 1) (hd : Dom ts) :
    selOK (leavesL (norm ts.head!).kids) (leavesL (norm ts.head!).kids) (selected ord ts c) = true := by
  have hT : (leavesL (norm ts.head!).kids).Nodup := hd.nodup _ hd.head_mem
  have hut := hd.mem_univOf
  have hsame := hd.same
  generalize leavesL (norm ts.head!).kids = tips at hT hut hsame ⊢
  generalize huniv : univOf ts = univ at hut
  have inv := buildIdx_inv univ (trees ts)
  have hidx : index ts = buildIdx univ (trees ts) := by unfold index; rw [huniv]
  have hn : 0 < ts.length := List.length_pos_iff.2 hd.ne
  have hnr : ∀ u ∈ trees ts, distinctKeys univ u = true := by
    rw [← huniv]; exact noRepeat_trees _ hd.norepeat
  -- what a row is
  have rowfact : ∀ x ∈ index ts, IsKey univ x.key ∧
      ∃ u ∈ trees ts, ∃ s ∈ splitsL u.kids, x.key = bits univ s.below := by
    intro x hx
    rw [hidx] at hx
    refine ⟨inv.keys x hx, ?_⟩
    obtain ⟨kl, hkl, e⟩ := inv.src x hx
    obtain ⟨u, hu, hklu⟩ := List.mem_flatMap.1 hkl
    obtain ⟨s, hs, rfl⟩ := mem_edgeKeys hklu
    exact ⟨u, hu, s, hs, e⟩
  have belowSub : ∀ u ∈ trees ts, ∀ s ∈ splitsL u.kids, SubS s.below tips ∧ s.below.Nodup := by
    intro u hu s hs
    exact ⟨fun a ha => (hsame u hu).mem_iff.1 ((below_sublist_L u.kids s hs).subset ha),
      (below_sublist_L u.kids s hs).nodup (hd.nodup u hu)⟩
  have namesSub : ∀ x : Entry, SubS (rowNames tips x) tips := fun x a ha => (List.mem_filter.1 ha).1
  have namesPerm : ∀ (x : Entry) (u : T), u ∈ trees ts → ∀ s ∈ splitsL u.kids, x.key = bits univ s.below →
      (rowNames tips x).Perm s.below := by
    intro x u hu s hs hk
    unfold rowNames
    rw [List.perm_ext_iff_of_nodup (hT.filter _) (belowSub u hu s hs).2]
    intro a
    rw [List.mem_filter, hk]
    simp only [List.contains_eq_mem, decide_eq_true_eq, mem_bits, hut]
    exact ⟨fun h => h.2.2, fun h => ⟨(belowSub u hu s hs).1 a h, (belowSub u hu s hs).1 a h, h⟩⟩
  have selmem : ∀ x ∈ selected ord ts c, x ∈ index ts ∧ ts.length < 2 * x.count := by
    intro x hx
    unfold selected selectEntries at hx
    rw [List.mem_filter, (hord _).mem_iff] at hx
    refine ⟨hx.1, ?_⟩
    have hk := hx.2
    unfold keep at hk
    simp only [Bool.or_eq_true, Bool.and_eq_true, decide_eq_true_eq, beq_iff_eq] at hk
    rcases hk with ⟨h1, _⟩ | h1
    · exact two_count c hc.1 _ _ h1
    · omega
  unfold selOK
  simp only [Bool.and_eq_true, List.all_eq_true]
  -- pairwise distinct bipartitions among the selected rows
  have hpw : (selected ord ts c).Pairwise
      (fun x y => eqc univ x.key y.key = false ∧ eqc univ y.key x.key = false) := by
    unfold selected selectEntries
    apply List.Pairwise.filter
    have h1 : (index ts).Pairwise
        (fun x y => eqc univ x.key y.key = false ∧ eqc univ y.key x.key = false) := by
      rw [hidx]
      have := inv.distinct
      rw [List.pairwise_map] at this
      refine this.imp_of_mem ?_
      intro x y hx hy hxy
      exact ⟨hxy, by rw [eqc_symm_b (inv.keys y hy) (inv.keys x hx)]; exact hxy⟩
    exact ((hord _).pairwise_iff (fun h => ⟨h.2, h.1⟩)).2 h1
  -- rows with different bipartitions do not have the same names, nor complementary names
  have diff : ∀ x ∈ selected ord ts c, ∀ y ∈ selected ord ts c, eqc univ x.key y.key = false →
      ¬ ((SubS (rowNames tips x) (rowNames tips y) ∧ SubS (rowNames tips y) (rowNames tips x)) ∨
        ((∀ a ∈ rowNames tips x, ¬ a ∈ rowNames tips y) ∧
          (∀ a ∈ tips, a ∈ rowNames tips x ∨ a ∈ rowNames tips y))) := by
    intro x hx y hy hP hh
    have := eqc_of_names hut (rowfact x (selmem x hx).1).1 (rowfact y (selmem y hy).1).1 (by
      rcases hh with ⟨h1, h2⟩ | ⟨h1, h2⟩
      · exact Or.inl fun a _ => ⟨h1 a, h2 a⟩
      · exact Or.inr fun a ha => ⟨h1 a, fun hn => (h2 a ha).resolve_right hn⟩)
    rw [← eqc_iff, hP] at this
    cases this
  have hb := build_selOK tips tips (fun x y => eqc univ x.key y.key = false ∧ eqc univ y.key x.key = false)
    (selected ord ts c) hpw
    (fun x hx y hy hP heq => diff x hx y hy hP.1 (Or.inl (by rw [heq]; exact ⟨fun a h => h, fun a h => h⟩)))
    (by
      intro x hx y hy hP _ _
      obtain ⟨hxi, hxc⟩ := selmem x hx
      obtain ⟨hyi, hyc⟩ := selmem y hy
      -- a tree containing both
      have cx := (buildIdx_entry univ (trees ts) hnr x (by rw [← hidx]; exact hxi)).1
      have cy := (buildIdx_entry univ (trees ts) hnr y (by rw [← hidx]; exact hyi)).1
      have hlen : (trees ts).length = ts.length := by simp [trees]
      obtain ⟨u, hu, h1, h2⟩ := countP_pigeonhole (fun u => hasSplit univ u x.key) (fun u => hasSplit univ u y.key)
        (trees ts) (by
          have e1 : List.countP (fun u => hasSplit univ u x.key) (trees ts) = x.count := cx.symm
          have e2 : List.countP (fun u => hasSplit univ u y.key) (trees ts) = y.count := cy.symm
          rw [e1, e2, hlen]; omega)
      unfold hasSplit at h1 h2
      rw [List.any_eq_true] at h1 h2
      obtain ⟨kl1, hkl1, e1⟩ := h1
      obtain ⟨kl2, hkl2, e2⟩ := h2
      obtain ⟨s1, hs1, rfl⟩ := mem_edgeKeys hkl1
      obtain ⟨s2, hs2, rfl⟩ := mem_edgeKeys hkl2
      have lam := laminar_L u.kids (hd.nodup u hu) s1 hs1 s2 hs2
      have sx : SameSide tips (rowNames tips x) s1.below := names_sameSide hut ((eqc_iff _ _ _).1 e1)
      have sy : SameSide tips (rowNames tips y) s2.below := names_sameSide hut ((eqc_iff _ _ _).1 e2)
      have comp := Compat.both (namesSub x) (namesSub y) (belowSub u hu s1 hs1).1 (belowSub u hu s2 hs2).1
        sx sy (Compat.of_laminar lam)
      rw [pairOK_iff]
      exact ⟨comp, fun hh => diff x hx y hy hP.1 (Or.inl hh), fun hh => diff x hx y hy hP.1 (Or.inr hh)⟩)
  refine ⟨⟨?_, hb.1⟩, hb.2⟩
  -- sizes
  intro nm hnm
  obtain ⟨x, hx, rfl⟩ := List.mem_map.1 hnm
  obtain ⟨_, u, hu, s, hs, hk⟩ := rowfact x (selmem x hx).1
  have hperm := namesPerm x u hu s hs hk
  have hsz := sizes_L u.kids (hd.nosingle u hu) s hs
  have hsm := clade_small u.kids (hd.deg u hu) s hs
  rw [(hsame u hu).length_eq] at hsm
  rw [hperm.length_eq]
  cases htip : s.tip with
  | true =>
    obtain ⟨a, ha⟩ := hsz.1 htip
    simp [ha]
  | false =>
    have := hsz.2 htip
    simp only [Bool.or_eq_true, beq_iff_eq, Bool.and_eq_true, decide_eq_true_eq]
    exact Or.inr ⟨this, hsm⟩

/-! ## the Bool form of the domain -/

/-- the Bool form of the domain gives the hypotheses of the theorems, `noRepeat` included -/
theorem dom_of_domB (ts : List T) (h : domB ts = true) : Dom ts := by
  unfold domB at h
  simp only [Bool.and_eq_true, Bool.not_eq_true', List.all_eq_true, decide_eq_true_eq, beq_iff_eq] at h
  obtain ⟨hne, hall⟩ := h
  have hne' : ts ≠ [] := by intro h; rw [h] at hne; simp at hne
  have hperm : ∀ u ∈ trees ts, (leavesL u.kids).Perm (leavesL (norm ts.head!).kids) :=
    fun u hu => perm_of_sortN_eq (hall u hu).2
  refine ⟨hne', fun u hu => (hall u hu).1.1.1, fun u hu => (hall u hu).1.1.2,
    fun u hu => (hasDup_false_iff _).1 (hall u hu).1.2, hperm, ?_⟩
  unfold noRepeat
  rw [List.all_eq_true]
  intro t ht
  have hu : norm t ∈ trees ts := List.mem_map.2 ⟨t, ht, rfl⟩
  obtain ⟨t0, r, rfl⟩ : ∃ t0 r, ts = t0 :: r := by
    cases ts with
    | nil => exact absurd rfl hne'
    | cons a b => exact ⟨a, b, rfl⟩
  have hfirst : norm t0 ∈ trees (t0 :: r) := List.mem_map.2 ⟨t0, by simp, rfl⟩
  have h30 := (hall _ hfirst).1.1.1
  apply distinctKeys_of_structure _ _ (hall _ hu).1.1.1 (hall _ hu).1.1.2 ((hasDup_false_iff _).1 (hall _ hu).1.2)
  intro a
  show a ∈ sortN (norm t0).tipNames ↔ _
  rw [(sortN_perm _).mem_iff, tipNames_eq_leaves _ (by omega)]
  exact (hperm _ hu).mem_iff.symm

theorem unroot_of_ne2 (t : T) (h : t.kids.length ≠ 2) : unroot t = t := by
  cases t with
  | node d p k =>
    match k, h with
    | [], _ => rfl
    | [(_, .node _ _ _)], _ => rfl
    | (_, .node _ _ _) :: (_, .node _ _ _) :: _ :: _, _ => rfl

theorem removeSinglesL_length : ∀ k : Kids, (removeSinglesL k).length = k.length
  | [] => rfl
  | (e, t) :: r => by
    have := removeSinglesL_length r
    unfold removeSinglesL
    simp [this]

/-- in the domain every input tree has a root with at least two neighbours -/
theorem deg_of_domB (ts : List T) (h : domB ts = true) : ∀ t ∈ ts, 2 ≤ t.kids.length := by
  intro t ht
  have hd := dom_of_domB ts h
  have := hd.deg (norm t) (List.mem_map.2 ⟨t, ht, rfl⟩)
  apply Classical.byContradiction
  intro hlt
  have hk : (removeSingles t).kids.length = t.kids.length := by
    cases t with
    | node d p k => exact removeSinglesL_length k
  unfold norm at this
  rw [unroot_of_ne2 _ (by omega)] at this
  omega

/-! ## the counting loop -/

theorem countRest_of_dom (first : T) (alltips univ : List String) (h2 : 2 ≤ (first.splits.filter (·.tip)).length)
    (halt : alltips = leavesL first.kids) :
    ∀ (r : List T) (idx : List Entry) (n : Nat),
      (∀ t ∈ r, 3 ≤ (norm t).kids.length ∧ (leavesL (norm t).kids).Nodup ∧
        (leavesL (norm t).kids).Perm (leavesL first.kids)) →
      ∃ cn, countRest true true first alltips univ r idx n = .ok cn := by
  intro r
  induction r with
  | nil => intro idx n _; exact ⟨_, rfl⟩
  | cons t r ih =>
    intro idx n h
    obtain ⟨h3, hnd, hperm⟩ := h t (by simp)
    rw [countRest]
    have hprep : prep true true t = norm t := rfl
    have htn : (norm t).tipNames = leavesL (norm t).kids := tipNames_eq_leaves _ (by omega)
    have hat : allTipNames (norm t) = leavesL (norm t).kids := by
      rw [allTipNames_eq _ (by omega), htn]
    have h1 : dupTips (prep true true t) = false := by
      rw [hprep]; unfold dupTips; rw [htn]; exact (hasDup_false_iff _).2 hnd
    have h2' : ((allTipNames (prep true true t)).length != alltips.length) = false := by
      rw [hprep, hat, halt]; simp [hperm.length_eq]
    have h3' : (!(allTipNames (prep true true t)).all fun a => (starOf first).tipNames.contains a) = false := by
      rw [hprep, hat, starOf_tipNames first h2]
      simp only [Bool.not_eq_false', List.all_eq_true, List.contains_eq_mem, decide_eq_true_eq]
      exact fun a ha => hperm.mem_iff.1 ha
    simp only [h1, h2', h3', Bool.false_eq_true, if_false]
    exact ih _ _ (fun u hu => h u (by simp [hu]))

/-- the counting loop on a collection in which some tree has other tips than the first one -/
theorem countAll_taxa (t : T) (r : List T) (hdeg : ∀ u ∈ t :: r, 2 ≤ (norm u).kids.length)
    (hnd : ∀ u ∈ t :: r, (norm u).tipNames.Nodup)
    (hdiff : ∃ u ∈ r, ¬ (norm u).tipNames.Perm (norm t).tipNames) :
    countAll true true (t :: r) = .error "taxa" := by
  have hdupF : ∀ u ∈ t :: r, dupTips (norm u) = false := fun u hu => (hasDup_false_iff _).2 (hnd u hu)
  have hat : ∀ u ∈ t :: r, allTipNames (norm u) = (norm u).tipNames := fun u hu =>
    allTipNames_eq _ (by have := hdeg u hu; omega)
  have hfirst : 2 ≤ ((norm t).splits.filter (·.tip)).length := by
    rw [tipSplits_length]
    have := leavesL_len (norm t).kids
    have := hdeg t (by simp)
    omega
  have hstar : (starOf (norm t)).tipNames = (norm t).tipNames := by
    rw [starOf_tipNames _ hfirst, tipNames_eq_leaves _ (hdeg t (by simp))]
  rw [countAll]
  have hd0 : dupTips (prep true true t) = false := hdupF t (by simp)
  simp only [hd0, Bool.false_eq_true, if_false]
  rw [if_neg (by rw [prep_true]; omega)]
  have : countRest true true (prep true true t) (allTipNames (prep true true t)) (sortN (prep true true t).tipNames) r
      (addTree (sortN (prep true true t).tipNames) [] (prep true true t)) 1 = .error "taxa" := by
    apply countRest_taxa
    · exact fun u hu => hdupF u (by simp [hu])
    · obtain ⟨u, hu, hnp⟩ := hdiff
      have hu' : u ∈ t :: r := by simp [hu]
      refine ⟨u, hu, ?_⟩
      rw [prep_true, hstar, hat u hu', hat t (by simp)]
      -- same number of tips, all among those of the first tree: the same tips
      apply Classical.byContradiction
      intro hcon
      rw [not_or] at hcon
      have hlen : (norm u).tipNames.length = (norm t).tipNames.length := by simpa using hcon.1
      have hsub : (norm u).tipNames ⊆ (norm t).tipNames := fun a ha => by
        have hB : ((norm u).tipNames.all fun a => (norm t).tipNames.contains a) = true := by simpa using hcon.2
        simpa using List.all_eq_true.1 hB a ha
      apply hnp
      rw [List.perm_ext_iff_of_nodup (hnd u hu') (hnd t (by simp))]
      exact fun a => ⟨fun h => hsub h, fun h => sub_of_length (hnd u hu') hsub (by omega) h⟩
  rw [this]

/-- on a collection of the domain the counting loop succeeds -/
theorem countAll_of_dom (ts : List T) (hd : Dom ts) : ∃ cn, countAll true true ts = .ok (some cn) := by
  obtain ⟨t0, r, rfl⟩ : ∃ t0 r, ts = t0 :: r := by
    cases ts with
    | nil => exact absurd rfl hd.ne
    | cons a b => exact ⟨a, b, rfl⟩
  have hfirst : norm t0 ∈ trees (t0 :: r) := by simp [trees]
  have h3 := hd.deg _ hfirst
  have hnd := hd.nodup _ hfirst
  have hprep : prep true true t0 = norm t0 := rfl
  have htn : (norm t0).tipNames = leavesL (norm t0).kids := tipNames_eq_leaves _ (by omega)
  have h2 : 2 ≤ ((norm t0).splits.filter (·.tip)).length := by
    rw [tipSplits_length]
    have := leavesL_len (norm t0).kids
    omega
  rw [countAll]
  have h1 : dupTips (prep true true t0) = false := by
    rw [hprep]; unfold dupTips; rw [htn]; exact (hasDup_false_iff _).2 hnd
  simp only [h1, Bool.false_eq_true, if_false]
  rw [if_neg (by rw [hprep]; omega)]
  obtain ⟨cn, hcn⟩ := countRest_of_dom (prep true true t0) (allTipNames (prep true true t0)) (sortN (prep true true t0).tipNames)
    (by rw [hprep]; exact h2)
    (by rw [hprep, allTipNames_eq _ (by omega), htn])
    r (addTree (sortN (prep true true t0).tipNames) [] (prep true true t0)) 1
    (by
      intro t ht
      have hm : norm t ∈ trees (t0 :: r) := List.mem_map.2 ⟨t, by simp [ht], rfl⟩
      refine ⟨hd.deg _ hm, hd.nodup _ hm, ?_⟩
      rw [hprep]
      exact hd.same _ hm)
  rw [hcn]
  exact ⟨cn, rfl⟩

/-- … with the leaves of the first tree as the tips of the star tree -/
theorem dom_counted (ts : List T) (hd : Dom ts) : ∃ cn, countAll true true ts = .ok (some cn) ∧
    2 ≤ cn.first.kids.length ∧ (starOf cn.first).tipNames = leavesL (norm ts.head!).kids ∧
    cn.alltips = leavesL (norm ts.head!).kids := by
  obtain ⟨cn, hcn⟩ := countAll_of_dom ts hd
  obtain ⟨_, _, _, hfirst, halt, _, h2⟩ := countAll_index ts cn hcn
  have h3 := hd.deg _ hd.head_mem
  refine ⟨cn, hcn, by rw [hfirst]; omega, by rw [starOf_tipNames cn.first h2, hfirst], ?_⟩
  rw [halt, allTipNames_eq _ (by omega), tipNames_eq_leaves _ (by omega)]

end Gotree.C09

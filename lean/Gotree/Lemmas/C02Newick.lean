/-
  C02 — the Newick parser never panics: the only dereference that is not guarded
  by a nil test in the Go code is `newtree.Tips()` at the end of `Parse`, and a root
  exists whenever `parseIter` returns at `;`.
-/
import Gotree.Model.C02Newick

namespace Gotree.C02.Newick
open Gotree Gotree.C02

/-- a root node has been set (`t.root != nil`) -/
def Rooted (st : PSt) : Prop := st.stk.isSome = true ∨ st.lastRoot.isSome = true

theorem rooted_pop {st st' : PSt} (h : pop st = some st') : Rooted st' := by
  revert h
  fun_cases pop st <;> intro h <;> cases h
  · exact Or.inr rfl
  · exact Or.inl rfl
  · exact Or.inl rfl

theorem rooted_mapTopNode {st : PSt} (f : NodeD → NodeD) (h : Rooted st) : Rooted (mapTopNode st f) := by
  fun_cases mapTopNode st f
  · exact h
  · exact Or.inl rfl
  · exact Or.inl rfl

theorem rooted_mapTopEdge {st : PSt} (f : EdgeD → EdgeD) (h : Rooted st) : Rooted (mapTopEdge st f) := by
  fun_cases mapTopEdge st f
  · exact Or.inl rfl
  · exact h

theorem rooted_pushInner {st : PSt} (n : String) (h : Rooted st) : Rooted (pushInner st n) := by
  fun_cases pushInner st n
  · exact h
  · exact Or.inl rfl

theorem rooted_of_not_nodeNil {st : PSt} (h : nodeNil st = false) : Rooted st := by
  unfold nodeNil at h
  left
  cases hs : st.stk <;> simp_all

/-- the state a step leads to has a root -/
def Step.Rooted : Step → Prop
  | .cont st => Newick.Rooted st
  | .finished st => Newick.Rooted st
  | .fail _ => True

theorem closeComment_rooted {st : PSt} {c : List Char} (hr : Rooted st) : (closeComment st c).Rooted := by
  fun_cases closeComment st c
  all_goals first | trivial | exact rooted_mapTopEdge _ hr | exact rooted_mapTopNode _ hr

theorem supportLabel_rooted {st : PSt} {lit : List Char} (hr : Rooted st) : (supportLabel st lit).Rooted := by
  fun_cases supportLabel st lit
  all_goals first | trivial | exact hr | exact rooted_mapTopEdge _ hr

theorem slashLabel_rooted {st : PSt} {lit : List Char} (hr : Rooted st) : Rooted (slashLabel st lit).1 := by
  fun_cases slashLabel st lit
  all_goals first | exact hr | exact rooted_mapTopEdge _ hr

theorem nameLabel_rooted {st : PSt} {lit : List Char} (hr : Rooted st) : (nameLabel st lit).Rooted := by
  fun_cases nameLabel st lit
  all_goals first | trivial | exact slashLabel_rooted hr | exact rooted_mapTopNode _ (slashLabel_rooted hr)

theorem newTip_rooted {st : PSt} {tok : Tok} {lit : List Char} (hr : Rooted st) : (newTip st tok lit).Rooted := by
  fun_cases newTip st tok lit
  all_goals first | trivial | exact rooted_pushInner _ hr

theorem stepIter_rooted {st : PSt} {tok : Tok} {lit : List Char}
    (hr : Rooted st ∨ tok = .openpar) : (stepIter st tok lit).Rooted := by
  revert hr
  fun_cases stepIter st tok lit
  all_goals intro hr
  all_goals first
    | trivial
    | exact Or.inl rfl
    | exact rooted_pushInner _ (rooted_of_not_nodeNil (Bool.eq_false_iff.mpr ‹_›))
    | exact (rooted_pop ‹_› :)
    | skip
  all_goals have hr := hr.resolve_right (by decide)
  all_goals first
    | exact hr
    | exact supportLabel_rooted hr
    | exact nameLabel_rooted hr
    | exact newTip_rooted hr

theorem stepAfterColon_rooted {st : PSt} {tok : Tok} {lit : List Char} (hr : Rooted st) :
    (stepAfterColon st tok lit).Rooted := by
  fun_cases stepAfterColon st tok lit
  all_goals first | trivial | exact hr | exact rooted_mapTopEdge _ hr

theorem closeComment_not_finished {st st' : PSt} {c : List Char} : closeComment st c ≠ .finished st' := by
  fun_cases closeComment st c <;> exact nofun

/-- the modes of `Parse` before `parseIter` has seen its first `(` -/
def preRoot (m : Mode) : Bool :=
  match m with
  | .start | .startComment | .start2 => true
  | _ => false

/-- invariant of `run`: before the first `(` nothing has been built; afterwards a root exists -/
def Good (st : PSt) : Prop := preRoot st.mode = true ∨ Rooted st

theorem Good.rooted {st : PSt} (hg : Good st) (hm : preRoot st.mode = false) : Rooted st :=
  hg.resolve_left (by rw [hm]; exact Bool.false_ne_true)

def Step.Good : Step → Prop
  | .cont st => Newick.Good st
  | .finished st => Newick.Rooted st
  | .fail _ => True

theorem Step.good_of_rooted {s : Step} (h : s.Rooted) : s.Good := by
  cases s with
  | cont st => exact Or.inr h
  | finished st => exact h
  | fail _ => trivial

theorem stepTok_good {st : PSt} {tok : Tok} {lit : List Char} (hg : Good st) : (stepTok st tok lit).Good := by
  fun_cases stepTok st tok lit
  all_goals first
    | trivial
    | exact hg
    | exact Or.inl rfl
    | exact Step.good_of_rooted (stepIter_rooted (Or.inr ‹_›))
    | exact Step.good_of_rooted (stepIter_rooted (Or.inl (hg.rooted (by rw [‹st.mode = _›]; rfl))))
    | exact Step.good_of_rooted (stepAfterColon_rooted (hg.rooted (by rw [‹st.mode = _›]; rfl)))

theorem finish_no_panic {st : PSt} (hr : Rooted st) (m : String) : finish st ≠ .panic m := by
  fun_cases finish st
  case case4 h1 h2 => rcases hr with h | h <;> simp_all
  all_goals exact nofun

theorem atEOF_no_panic (st : PSt) (m : String) : atEOF st ≠ .panic m := by
  fun_cases atEOF st <;> exact nofun

theorem run_no_panic (st : PSt) (cs : List Char) (hg : Good st) (m : String) : run st cs ≠ .panic m := by
  fun_induction run st cs
  case case2 st cs hc s hne hcb acc hm st' hcc ih =>
    have hr := closeComment_rooted (c := acc) (hg.rooted (by rw [hm]; rfl))
    rw [hcc] at hr
    exact ih (Or.inr hr)
  case case5 ih => exact ih (Or.inl rfl)
  case case6 st cs hc s hne hcb acc hm ih => exact ih (Or.inr (hg.rooted (by rw [hm]; rfl)))
  case case7 ih => exact ih hg
  case case9 st cs hc s hne st' hst ih =>
    have := stepTok_good (tok := s.tok) (lit := s.lit) hg
    rw [hst] at this
    exact ih this
  case case13 st cs hc s hne st' hst m' hf =>
    have := stepTok_good (tok := s.tok) (lit := s.lit) hg
    rw [hst] at this
    exact absurd hf (finish_no_panic this m')
  all_goals first | exact atEOF_no_panic _ _ | exact nofun

theorem parse_no_panic (b : List UInt8) (m : String) : parse b ≠ .panic m :=
  run_no_panic {} _ (Or.inl rfl) m

end Gotree.C02.Newick

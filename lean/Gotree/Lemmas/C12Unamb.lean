/-
  C12 — when an algorithm reports exactly one state at every node, the labelling it spells out is most
  parsimonious.  ACCTRAN and DELTRAN: Fitch trace-back along every branch v → c with p = state of v, x = state
  of c: `f_c(x) + [x ≠ p] = g_c(p)` (x is an optimal completion of c's subtree given p).  Plain down-pass:
  DELTRAN leaves one-state sets as they are, so this is the DELTRAN case.
-/
import Gotree.Lemmas.C12Tot
import Gotree.Lemmas.C12Narrow

namespace Gotree.C12
open Gotree

/-- the single reported state of a slice (first member) -/
def hd (k : Nat) (v : Vec) : Nat := (members k v).headD 0

/-- every slice of the list is a singleton -/
def allSingle (k : Nat) (l : List Vec) : Bool := l.all fun v => (members k v).length == 1

theorem single_spec (k : Nat) (v : Vec) (h : (members k v).length = 1) :
    hd k v < k ∧ v.at (hd k v) ≠ 0 ∧ ∀ i, i < k → v.at i ≠ 0 → i = hd k v := by
  unfold hd
  match hm : members k v, h with
  | [x], _ =>
    have hx : x ∈ members k v := by rw [hm]; simp
    simp only [members, List.mem_filter, List.mem_range, decide_eq_true_eq] at hx
    refine ⟨by simpa using hx.1, by simpa using hx.2, ?_⟩
    intro i hi hne
    have : i ∈ members k v := by
      simp only [members, List.mem_filter, List.mem_range, decide_eq_true_eq]; exact ⟨hi, hne⟩
    rw [hm] at this
    simpa using this

section single
variable (k : Nat)

/-- `pv` is exactly the singleton `{p}` -/
def IsSingle (pv : Vec) (p : Nat) : Prop := p < k ∧ ∀ i, i < k → (pv.at i ≠ 0 ↔ i = p)

theorem isSingle_of (v : Vec) (h : (members k v).length = 1) : IsSingle k v (hd k v) := by
  obtain ⟨h1, h2, h3⟩ := single_spec k v h
  exact ⟨h1, fun i hi => ⟨fun hne => h3 i hi hne, fun e => e ▸ h2⟩⟩

theorem IsSingle.at_self {k : Nat} {pv : Vec} {p : Nat} (h : IsSingle k pv p) : pv.at p ≠ 0 := (h.2 p h.1).mpr rfl

/-- the state written at a node, given the singleton `{p}` reported at its parent:
    `p` itself when the node's own set `s` contains it, otherwise the set `s` unchanged -/
theorem inter_single (s pv : Vec) (p : Nat) (hp : IsSingle k pv p) (hs01 : Set01 k s) (hpv01 : Set01 k pv)
    (x : Nat) (hx : IsSingle k (inter k s pv) x) :
    (s.at p ≠ 0 → x = p) ∧ (s.at p = 0 → s.at x ≠ 0 ∧ x ≠ p) := by
  rcases inter_cases k s pv with ⟨⟨i0, hi0, hgt0⟩, heq⟩ | ⟨hle, heq⟩
  · -- the intersection is non-empty: it is {p}
    have hi0p : i0 = p := by
      have := hs01 i0 hi0
      exact (hp.2 i0 hi0).mp (by omega)
    subst hi0p
    have hxat := hx.at_self
    rw [heq] at hxat
    have hgt := (inter_at k s pv x hx.1).mp hxat
    have hxp : x = i0 := by
      have h1 := hs01 x hx.1
      exact (hp.2 x hx.1).mp (by omega)
    refine ⟨fun _ => hxp, fun h0 => ?_⟩
    have := hpv01 i0 hi0
    omega
  · -- empty: the set is kept
    rw [heq] at hx
    have hpp := hp.at_self
    have := hle p hp.1
    have hsp : s.at p = 0 := by omega
    refine ⟨fun h => absurd hsp h, fun _ => ⟨hx.at_self, ?_⟩⟩
    intro e
    subst e
    exact hx.at_self hsp

/-- a one-state slice is not altered by the intersection step -/
theorem inter_single_tip (s pv : Vec) (x : Nat) (hx : IsSingle k s x) (hs01 : Set01 k s) (hpv : Set01 k pv)
    (i : Nat) (hi : i < k) : (inter k s pv).at i ≠ 0 ↔ s.at i ≠ 0 := by
  rcases inter_cases k s pv with ⟨⟨i0, hi0, hgt0⟩, heq⟩ | ⟨_, heq⟩ <;> rw [heq]
  rw [inter_at k s pv i hi]
  have hi0x : i0 = x := by
    apply (hx.2 i0 hi0).mp
    have := hpv i0 hi0; omega
  subst hi0x
  have h1 := hs01 i hi
  have h2 := hpv i hi
  have h3 := hs01 i0 hi0
  have h4 := hpv i0 hi0
  by_cases hii : i = i0
  · subst hii; omega
  · have : s.at i = 0 := Decidable.byContradiction fun h0 => hii ((hx.2 i hi).mp h0)
    omega

end single

/- ## trace-back -/

section traced
variable (k : Nat) (tv : String → Vec)

/-- read as single states, the slices of `a` spell out a labelling that fits `c` and, below a parent in state
    `p`, costs `g_c(p)` (`rest`: what follows in the pre-order list) -/
def Traced (p : Nat) (c : T) (a : A) : Prop :=
  ∀ rest : List Nat, (labelOf c (a.flat.map (hd k) ++ rest)).2 = rest ∧
    fits k tv c (labelOf c (a.flat.map (hd k) ++ rest)).1 = true ∧
    (if (labelOf c (a.flat.map (hd k) ++ rest)).1.s = p then 0 else 1) +
      (labelOf c (a.flat.map (hd k) ++ rest)).1.changes = (gv k tv c).at p

/-- the same for the children of a node in state `x`: together they cost `f(x)` -/
def TracedL (x : Nat) (ks : Kids) (as : List A) : Prop :=
  ∀ rest : List Nat, (labelOfL ks ((A.flatL as).map (hd k) ++ rest)).2 = rest ∧
    fitsL k tv ks (labelOfL ks ((A.flatL as).map (hd k) ++ rest)).1 = true ∧
    LT.changesL x (labelOfL ks ((A.flatL as).map (hd k) ++ rest)).1 = (fL k tv ks).at x

theorem TracedL.nil (x : Nat) : TracedL k tv x [] [] := by
  intro rest; simp [A.flatL, labelOfL, LT.changesL, fL, at_vzero, fitsL]

theorem TracedL.cons {x : Nat} (hx : x < k) {e : EdgeD} {c : T} {r : Kids} {a : A} {as : List A}
    (hc : Traced k tv x c a) (hr : TracedL k tv x r as) : TracedL k tv x ((e, c) :: r) (a :: as) := by
  intro rest
  have hc' := hc ((A.flatL as).map (hd k) ++ rest)
  have hr' := hr rest
  simp only [A.flatL, List.map_append, List.append_assoc, labelOfL]
  rw [hc'.1]
  refine ⟨hr'.1, by simp only [fitsL, hc'.2.1, hr'.2.1, Bool.and_self], ?_⟩
  simp only [LT.changesL, fL, at_vadd, hx, if_true]
  have := hc'.2.2
  rw [hr'.2.2]
  omega

/-- a leaf with the one-state slice `{x}` below a parent in state `p` -/
theorem Traced.leaf (d : NodeD) (pp p : Nat) (hp : p < k) (h : (members k (tv d.name)).length = 1) :
    Traced k tv p (.node d pp []) (.node (tv d.name) []) := by
  intro rest
  obtain ⟨hx1, hx2, hx3⟩ := single_spec k _ h
  simp only [A.flat, A.flatL, List.map_cons, List.map_nil, List.cons_append, List.nil_append, labelOf, labelOfL,
    List.headD_cons, List.drop_succ_cons, List.drop_zero, LT.s_node, LT.changes, LT.changesL, gv, at_tab, hp, if_true]
  refine ⟨trivial, by simp [fits, hx1, hx2], ?_⟩
  by_cases h0 : (tv d.name).at p = 0
  · have : ¬ hd k (tv d.name) = p := fun e => hx2 (e ▸ h0)
    simp [h0, this]
  · have hph := hx3 p hp h0
    simp [h0, ← hph]

/-- a node with children in state `x = hd s`, given that `x` is an optimal completion below a parent in state `p` -/
theorem Traced.node {p : Nat} (d : NodeD) (pp : Nat) (y : EdgeD × T) (ys : Kids) (s : Vec) (as : List A)
    (hx : hd k s < k) (hl : TracedL k tv (hd k s) (y :: ys) as)
    (hE : (if hd k s = p then 0 else 1) + (fL k tv (y :: ys)).at (hd k s) = (gv k tv (.node d pp (y :: ys))).at p) :
    Traced k tv p (.node d pp (y :: ys)) (.node s as) := by
  intro rest
  have h := hl rest
  simp only [A.flat, List.map_cons, List.cons_append, labelOf, List.headD_cons, List.drop_succ_cons,
    List.drop_zero, LT.s_node, LT.changes]
  exact ⟨h.1, by simp [fits, hx, h.2.1], by rw [h.2.2]; exact hE⟩

/-- at the root: the labelling fits and costs `f(x)` -/
theorem TracedL.root (d : NodeD) (pp : Nat) (y : EdgeD × T) (ys : Kids) (s : Vec) (as : List A)
    (hx : hd k s < k) (hl : TracedL k tv (hd k s) (y :: ys) as) :
    fits k tv (.node d pp (y :: ys)) (labelOf (.node d pp (y :: ys)) ((A.node s as).flat.map (hd k))).1 = true ∧
    (labelOf (.node d pp (y :: ys)) ((A.node s as).flat.map (hd k))).1.changes = (fL k tv (y :: ys)).at (hd k s) := by
  have h := hl []
  simp only [List.append_nil] at h
  simp only [A.flat, List.map_cons, labelOf, List.headD_cons, List.drop_succ_cons, List.drop_zero, LT.changes]
  exact ⟨by simp [fits, hx, h.2.1], h.2.2⟩

end traced

/- ## ACCTRAN -/

/-- ACCTRAN at a node that has children (equation used instead of unfolding the definitions) -/
theorem acctran_upA_cons (k : Nat) (tv : String → Vec) (p : Option Vec) (d : NodeD) (pp : Nat) (x : EdgeD × T) (xs : Kids) :
    acctran k p (upA k tv (.node d pp (x :: xs))) =
      .node (interOpt k (upS k tv (.node d pp (x :: xs))) p)
        (acctranL k (some (interOpt k (upS k tv (.node d pp (x :: xs))) p)) (upAL k tv (x :: xs))) := by
  obtain ⟨e0, c0⟩ := x
  cases p <;> simp only [upA, upAL, acctran, interOpt]

theorem acctran_upA_leaf (k : Nat) (tv : String → Vec) (p : Option Vec) (d : NodeD) (pp : Nat) :
    acctran k p (upA k tv (.node d pp [])) = .node (tv d.name) [] := by
  simp only [upA, upAL, upS, acctran]

section unamb
variable (k : Nat) (tv : String → Vec)

mutual
theorem unamb_tree (hk : 0 < k) : ∀ (c : T) (pv : Vec) (p : Nat), IsSingle k pv p → Set01 k pv →
    (∀ n ∈ c.leaves, Set01 k (tv n)) → allSingle k (acctran k (some pv) (upA k tv c)).flat = true →
    Traced k tv p c (acctran k (some pv) (upA k tv c))
  | .node d pp [], pv, p, hp, _, _, hall => by
    -- a leaf keeps its tip slice (fix a20daad): a one-state tip {x}
    rw [acctran_upA_leaf] at hall ⊢
    exact Traced.leaf k tv d pp p hp.1 (by simpa [A.flat, A.flatL, allSingle] using hall)
  | .node d pp (x :: xs), pv, p, hp, hpv01, hlc, hall => by
    have hl : ∀ n ∈ leavesL (x :: xs), Set01 k (tv n) := by rw [← leaves_node_cons d pp]; exact hlc
    rw [acctran_upA_cons] at hall ⊢
    simp only [interOpt] at hall ⊢
    simp only [A.flat, allSingle, List.all_cons, Bool.and_eq_true, beq_iff_eq] at hall
    obtain ⟨hS1, hrest⟩ := hall
    have hVU01 := upS_le_one k tv _ hlc
    have hS := isSingle_of k _ hS1
    obtain ⟨h1, h2⟩ := inter_single k _ pv p hp hVU01 hpv01 _ hS
    obtain ⟨hupN, hVUat⟩ := up_node k tv hk d pp x xs hl
    refine Traced.node k tv d pp x xs _ _ hS.1 (unamb_treeL hk (x :: xs) hl _ _ hS (inter_01 k _ _ hVU01) hrest) ?_
    rw [key k tv hk (.node d pp (x :: xs)) hlc p hp.1, hupN]
    by_cases h0 : (upS k tv (.node d pp (x :: xs))).at p = 0
    · obtain ⟨hx1, hx2⟩ := h2 h0
      have := (hVUat _ hS.1).mp hx1
      simp [h0, hx2]; omega
    · have hxp := h1 h0
      have := (hVUat p hp.1).mp h0
      rw [hxp]
      simp [h0]; omega
theorem unamb_treeL (hk : 0 < k) : ∀ (ks : Kids), (∀ n ∈ leavesL ks, Set01 k (tv n)) →
    ∀ (S : Vec) (x : Nat), IsSingle k S x → Set01 k S →
    allSingle k (A.flatL (acctranL k (some S) (upAL k tv ks))) = true →
    TracedL k tv x ks (acctranL k (some S) (upAL k tv ks))
  | [], _, _, x, _, _, _ => TracedL.nil k tv x
  | (e, c) :: r, hl, S, x, hS, hS01, hall => by
    simp only [upAL, acctranL, A.flatL, allSingle, List.all_append, Bool.and_eq_true] at hall
    exact TracedL.cons k tv hS.1
      (unamb_tree hk c S x hS hS01 (leavesL_cons hl).1 hall.1)
      (unamb_treeL hk r (leavesL_cons hl).2 S x hS hS01 hall.2)
end

/-- When ACCTRAN reports exactly one state at every node (tips included), the labelling it spells out respects
    the tip sets and is itself most parsimonious. -/
theorem unamb_root (hk : 0 < k) (t : T) (h : Ok k tv t)
    (hall : allSingle k (acctran k none (upA k tv t)).flat = true) :
    fits k tv t (labelOf t ((acctran k none (upA k tv t)).flat.map (hd k))).1 = true ∧
    (labelOf t ((acctran k none (upA k tv t)).flat.map (hd k))).1.changes = minCost k tv t := by
  match t, h, hall with
  | .node dt pt [], h, _ => exact absurd rfl h.kids
  | .node dt pt (x :: xs), h, hall =>
    have hl := h.s01'
    obtain ⟨_, hVUat⟩ := up_node k tv hk dt pt x xs hl
    rw [acctran_upA_cons] at hall ⊢
    simp only [interOpt, A.flat, allSingle, List.all_cons, Bool.and_eq_true, beq_iff_eq] at hall
    obtain ⟨hS1, hrest⟩ := hall
    have hS := isSingle_of k _ hS1
    have hroot := TracedL.root k tv dt pt x xs _ _ hS.1
      (unamb_treeL k tv hk (x :: xs) hl _ _ hS (upS_le_one k tv _ h.s01) hrest)
    rw [(hVUat _ hS.1).mp hS.at_self] at hroot
    exact hroot

/- ## DELTRAN -/

/-- the local step, on vectors.  `f`: the Sankoff vector of a node, `through k f` its cost seen from the parent;
    `totv = R + through f`: the parent's second-pass slice, minimal (`MIN`) at the parent's state `p`; `U = through R`:
    the rest of the tree seen from the node; `D`: the argmin of `f + U`.  The singleton `{x} = inter D {p}` that
    DELTRAN reports satisfies `f(x) + [x ≠ p] = (through f)(p)`, and `x` is optimal for `f + U`. -/
theorem del_step (k : Nat) (hk : 0 < k) (f R U D pv totv : Vec) (MIN p x : Nat)
    (hp : IsSingle k pv p) (hpv01 : Set01 k pv) (hD01 : Set01 k D)
    (htp : totv.at p = MIN) (hmin : ∀ t, t < k → MIN ≤ totv.at t)
    (hU : ∀ s, s < k → U.at s = (through k R).at s)
    (hR : ∀ t, t < k → R.at t + (through k f).at t = totv.at t)
    (hD : ∀ s, s < k → (D.at s ≠ 0 ↔ ∀ t, t < k → (vadd k f U).at s ≤ (vadd k f U).at t))
    (hx : IsSingle k (inter k D pv) x) :
    ((if x = p then 0 else 1) + f.at x = (through k f).at p) ∧
    (vadd k f U).at x = MIN ∧ (∀ t, t < k → MIN ≤ (vadd k f U).at t) := by
  have h4 : ∀ s, s < k → MIN ≤ f.at s + U.at s := fun s hs => by
    rw [hU s hs]; exact min_le_through k hk f R totv MIN hmin hR s hs
  have hUle : ∀ s t, s < k → t < k → U.at s ≤ R.at t + (if s = t then 0 else 1) := fun s t hs ht => by
    rw [hU s hs]; exact through_le k R s t hs ht
  have htot : ∀ s, s < k → (vadd k f U).at s = f.at s + U.at s := by
    intro s hs; simp only [at_vadd, hs, if_true]
  -- the minimiser `ts` of `(through f)(p)` is optimal for `f + U`
  have hgp := at_through k f p hp.1
  obtain ⟨ts, hts, hes⟩ := minOver_attained k hk (fun t => f.at t + (if p = t then 0 else 1))
  have htsMin : f.at ts + U.at ts = MIN := by
    have h1 := hUle ts p hts hp.1
    have h2 := hR p hp.1
    have h3 := h4 ts hts
    rw [hgp, ← hes] at h2
    by_cases e : ts = p
    · subst e; simp at h1 h2; omega
    · have : ¬ p = ts := fun e' => e e'.symm
      simp [e, this] at h1 h2; omega
  have hDopt : ∀ s, s < k → (D.at s ≠ 0 ↔ f.at s + U.at s = MIN) := by
    intro s hs
    rw [hD s hs]
    constructor
    · intro h
      have := h ts hts
      rw [htot s hs, htot ts hts] at this
      have := h4 s hs
      omega
    · intro h t ht
      rw [htot s hs, htot t ht]
      have := h4 t ht
      omega
  have hxopt : f.at x + U.at x = MIN := (hDopt x hx.1).mp (inter_sub k D pv hpv01 x hx.1 hx.at_self)
  refine ⟨?_, by rw [htot x hx.1]; exact hxopt, fun t ht => by rw [htot t ht]; exact h4 t ht⟩
  rcases inter_cases k D pv with ⟨⟨i0, hi0, hgt0⟩, heq⟩ | ⟨hle, heq⟩
  · -- D contains p: x = p, and f(p) = (through f)(p) because `through f` is 1-Lipschitz
    have hi0p : i0 = p := by
      apply (hp.2 i0 hi0).mp
      have := hD01 i0 hi0; omega
    subst hi0p
    have hDp : D.at i0 ≠ 0 := by have := hpv01 i0 hi0; omega
    have hxp : x = i0 := (inter_single k D pv i0 hp hD01 hpv01 x hx).1 hDp
    subst hxp
    simp only [if_true, Nat.zero_add]
    have hge : (through k f).at x ≤ f.at x := by simpa using through_le k f x x hx.1 hx.1
    have hUx := hU x hx.1
    rw [at_through k R x hx.1] at hUx
    obtain ⟨t1, ht1, he1⟩ := minOver_attained k hk (fun t => R.at t + (if x = t then 0 else 1))
    rw [← he1] at hUx
    have hR1 := hR t1 ht1
    have hRx := hR x hx.1
    have hm1 := hmin t1 ht1
    have hlip := through_lipschitz k hk f t1 x ht1 hx.1
    by_cases e : x = t1
    · subst e; simp at hUx; omega
    · simp [e] at hUx; omega
  · -- D does not contain p: D = {x}, and the minimiser of (through f)(p) is x
    rw [heq] at hx
    have hts' : ts = x := (hx.2 ts hts).mp ((hDopt ts hts).mpr htsMin)
    subst hts'
    rw [hgp, ← hes]
    by_cases e : ts = p
    · subst e; simp
    · have : ¬ p = ts := fun e' => e e'.symm
      simp [e, this]; omega

/- a non-root subtree in its context (`u`: the counts handed down, dual to the outside cost `U`) -/
mutual
theorem del_tree (hk : 0 < k) (MIN : Nat) : ∀ (c : T) (U u pv totv R : Vec) (p : Nat) (C : Nat),
    Dual k C U u → IsSingle k pv p → Set01 k pv → totv.at p = MIN → (∀ t, t < k → MIN ≤ totv.at t) →
    (∀ s, s < k → U.at s = (through k R).at s) →
    (∀ t, t < k → R.at t + (gv k tv c).at t = totv.at t) →
    (∀ n ∈ c.leaves, Set01 k (tv n)) →
    allSingle k (deltran k (some pv) (down k tv (some u) c)).flat = true →
    Traced k tv p c (deltran k (some pv) (down k tv (some u) c))
  | .node d pp [], _, _, _, _, _, p, _, _, hp, _, _, _, _, _, _, hall => by
    simp only [down, deltran] at hall ⊢
    exact Traced.leaf k tv d pp p hp.1 (by simpa [A.flat, A.flatL, allSingle] using hall)
  | .node d pp (y :: ys), U, u, pv, totv, R, p, C, hdual, hp, hpv01, htp, hmin, hU, hR, hl, hall => by
    rw [leaves_node_cons] at hl
    obtain ⟨C', hdual'⟩ := dual_addUp k (us := some u) ⟨C, hdual⟩ (dual_fL k tv hk (y :: ys) hl)
      (vadd k (fL k tv (y :: ys)) U) (fun t ht => by simp only [at_vadd, ht, if_true]; omega)
    have hD : ∀ s, s < k → ((cp k (vadd k u (sumL k tv (y :: ys)))).at s ≠ 0 ↔ ∀ t, t < k →
        (vadd k (fL k tv (y :: ys)) U).at s ≤ (vadd k (fL k tv (y :: ys)) U).at t) :=
      fun s hs => dual_cp k _ hk _ _ hdual' s hs
    simp only [down, downL, deltran, A.flat, allSingle, List.all_cons, Bool.and_eq_true, beq_iff_eq] at hall
    obtain ⟨hS1, hrest⟩ := hall
    have hS := isSingle_of k _ hS1
    have hD01 : Set01 k (cp k (vadd k u (sumL k tv (y :: ys)))) := cp_01 k _
    rw [gv_node_cons] at hR
    obtain ⟨hE, hxmin, hminc⟩ := del_step k hk _ R U _ pv totv MIN p _ hp hpv01 hD01 htp hmin hU hR hD hS
    have hlist := del_treeL hk MIN (y :: ys) hl U (some u) ⟨C, hdual⟩ (vzero k) (vzero k) 0
      (by intro t _; simp [at_vzero]) _ _ _ hS (inter_01 k _ pv hD01) hxmin hminc
      (by intro t ht; simp only [at_vadd, at_vzero, ht, if_true]; omega)
      (by simpa only [downL, allSingle] using hrest)
    simp only [down, deltran]
    exact Traced.node k tv d pp y ys _ _ hS.1 hlist (by rw [gv_node_cons]; exact hE)
theorem del_treeL (hk : 0 < k) (MIN : Nat) : ∀ (ks : Kids), (∀ n ∈ leavesL ks, Set01 k (tv n)) →
    ∀ (U : Vec) (us : Option Vec), UpInv k U us → ∀ (pre' pre : Vec) (Cp : Nat), Dual k Cp pre' pre →
    ∀ (S totc : Vec) (x : Nat), IsSingle k S x → Set01 k S → totc.at x = MIN → (∀ t, t < k → MIN ≤ totc.at t) →
    (∀ t, t < k → totc.at t = U.at t + pre'.at t + (fL k tv ks).at t) →
    allSingle k (A.flatL (deltranL k (some S) (downL k tv us pre ks))) = true →
    TracedL k tv x ks (deltranL k (some S) (downL k tv us pre ks))
  | [], _, _, _, _, _, _, _, _, _, _, x, _, _, _, _, _, _ => by
    simpa only [downL, deltranL] using TracedL.nil k tv x
  | (e, c) :: r, hl, U, us, hinv, pre', pre, Cp, hp, S, totc, x, hS, hS01, hx, hmin, hinvt, hall => by
    have hlc : ∀ n ∈ c.leaves, Set01 k (tv n) := (leavesL_cons hl).1
    have hlr : ∀ n ∈ leavesL r, Set01 k (tv n) := (leavesL_cons hl).2
    obtain ⟨hRc, hinvt'⟩ := tot_split k tv hinvt
    rw [downL_cons] at hall ⊢
    simp only [deltranL, A.flatL, allSingle, List.all_append, Bool.and_eq_true] at hall
    obtain ⟨C0, hC0⟩ := dual_addUp k hinv (dual_vadd k hp (dual_fL k tv hk r hlr))
      (vadd k U (vadd k pre' (fL k tv r))) (fun t ht => by simp only [at_vadd, ht, if_true])
    simp only [deltranL]
    exact TracedL.cons k tv hS.1
      (del_tree hk MIN c _ _ S totc (vadd k U (vadd k pre' (fL k tv r))) x _
        (dual_through k C0 hk _ _ hC0) hS hS01 hx hmin (fun s _ => rfl) hRc hlc hall.1)
      (del_treeL hk MIN r hlr U us hinv _ _ _
        (dual_vadd k hp (dual_child k tv hk c hlc)) S totc x hS hS01 hx hmin hinvt' hall.2)
end

/-- When DELTRAN reports exactly one state at every node, the labelling it spells out respects the tip sets
    and is itself most parsimonious. -/
theorem del_root (hk : 0 < k) (t : T) (h : Ok k tv t)
    (hall : allSingle k (deltran k none (down k tv none t)).flat = true) :
    fits k tv t (labelOf t ((deltran k none (down k tv none t)).flat.map (hd k))).1 = true ∧
    (labelOf t ((deltran k none (down k tv none t)).flat.map (hd k))).1.changes = minCost k tv t := by
  match t, h, hall with
  | .node dt pt [], h, _ => exact absurd rfl h.kids
  | .node dt pt (x :: xs), h, hall =>
    have hl := h.s01'
    obtain ⟨_, hVUat⟩ := up_node k tv hk dt pt x xs hl
    simp only [down, downL, deltran, A.flat, allSingle, List.all_cons, Bool.and_eq_true, beq_iff_eq] at hall
    obtain ⟨hS1, hrest⟩ := hall
    have hS := isSingle_of k _ hS1
    have hmin : (fL k tv (x :: xs)).at (hd k (cp k (sumL k tv (x :: xs)))) = minOver k (fL k tv (x :: xs)).at :=
      (hVUat _ hS.1).mp (by simpa only [upS] using hS.at_self)
    have hlist := del_treeL k tv hk (minOver k (fL k tv (x :: xs)).at) (x :: xs) hl (vzero k) none (fun t _ => at_vzero k t)
      (vzero k) (vzero k) 0 (by intro t _; simp [at_vzero])
      (cp k (sumL k tv (x :: xs))) (vadd k (fL k tv (x :: xs)) (vzero k)) _ hS (cp_01 k _)
      (by simp only [at_vadd, at_vzero, hS.1, if_true]; omega)
      (by intro t ht
          have := minOver_le k (fL k tv (x :: xs)).at t ht
          simp only [at_vadd, at_vzero, ht, if_true]; omega)
      (by intro t ht; simp only [at_vadd, at_vzero, ht, if_true]; omega)
      (by simpa only [downL, allSingle] using hrest)
    have hroot := TracedL.root k tv dt pt x xs _ _ hS.1 hlist
    rw [hmin] at hroot
    simp only [downL] at hroot
    simpa only [down, downL, deltran, minCost, T.kids_node] using hroot

/- ## the plain down-pass -/

/-- a one-state slice written by `computeParsimony` is not changed, as a vector, by the intersection with what a
    parent in one state reports -/
theorem interOpt_cp_single (v : Vec) (x : Nat) (hs : IsSingle k (cp k v) x) (par : Option Vec)
    (hpar : ∀ pv, par = some pv → (∃ p, IsSingle k pv p) ∧ Set01 k pv) : interOpt k (cp k v) par = cp k v := by
  match par, hpar with
  | none, _ => rfl
  | some pv, hpar =>
    obtain ⟨⟨p, hp⟩, hpv01⟩ := hpar pv rfl
    have hs01 := cp_01 k v
    rcases inter_cases k (cp k v) pv with ⟨⟨i0, hi0, hgt⟩, heq⟩ | ⟨_, heq⟩
    · -- the two singletons meet: `x = p`, and the common part is `{x}` again
      have hx0 : i0 = x := (hs.2 i0 hi0).mp (by have := hpv01 i0 hi0; omega)
      have hp0 : i0 = p := (hp.2 i0 hi0).mp (by have := hs01 i0 hi0; omega)
      subst hx0; subst hp0
      simp only [interOpt, heq]
      refine tab_congr k _ _ fun i hi => ?_
      have hci : (cp k v).at i = if v.at i = maxTo v.at k then 1 else 0 := by simp only [cp, at_tab, hi, if_true]
      have h1 := hs01 i hi
      have h2 := hpv01 i hi
      rw [at_vadd, ← hci]
      simp only [hi, if_true]
      by_cases e : i = i0
      · subst e; split <;> omega
      · have : (cp k v).at i = 0 := Decidable.byContradiction fun h0 => e ((hs.2 i hi).mp h0)
        split <;> omega
    · exact heq

/- when every down-pass slice is one state, DELTRAN changes none of them -/
mutual
theorem deltran_down : ∀ (c : T) (us par : Option Vec), (∀ pv, par = some pv → (∃ p, IsSingle k pv p) ∧ Set01 k pv) →
    allSingle k (down k tv us c).flat = true → deltran k par (down k tv us c) = down k tv us c
  | .node _ _ [], _, _, _, _ => by simp only [down, deltran]
  | .node d pp ((e, c) :: xs), us, par, hpar, hall => by
    rw [down_node, downL_cons] at hall ⊢
    simp only [A.flat, allSingle, List.all_cons, Bool.and_eq_true, beq_iff_eq] at hall
    have hS := isSingle_of k _ hall.1
    rw [deltran_node, interOpt_cp_single k _ _ hS par hpar, ← downL_cons,
      deltranL_downL ((e, c) :: xs) us (vzero k) _ (fun pv e => by cases e; exact ⟨⟨_, hS⟩, cp_01 k _⟩)
        (by rw [downL_cons]; exact hall.2)]
theorem deltranL_downL : ∀ (ks : Kids) (us : Option Vec) (pre : Vec) (par : Option Vec),
    (∀ pv, par = some pv → (∃ p, IsSingle k pv p) ∧ Set01 k pv) →
    allSingle k (A.flatL (downL k tv us pre ks)) = true →
    deltranL k par (downL k tv us pre ks) = downL k tv us pre ks
  | [], _, _, _, _, _ => by simp only [downL, deltranL]
  | (e, c) :: r, us, pre, par, hpar, hall => by
    rw [downL_cons] at hall ⊢
    simp only [A.flatL, allSingle, List.all_append, Bool.and_eq_true] at hall
    simp only [deltranL]
    rw [deltran_down c _ par hpar hall.1, deltranL_downL r us _ par hpar hall.2]
end

/-- When the plain down-pass reports exactly one state at every node, the labelling it spells out respects the
    tip sets and is itself most parsimonious: DELTRAN leaves such sets as they are. -/
theorem down_unamb (hk : 0 < k) (t : T) (h : Ok k tv t)
    (hall : allSingle k (down k tv none t).flat = true) :
    fits k tv t (labelOf t ((down k tv none t).flat.map (hd k))).1 = true ∧
    (labelOf t ((down k tv none t).flat.map (hd k))).1.changes = minCost k tv t := by
  have hid := deltran_down k tv t none none (fun _ e => by cases e) hall
  have := del_root k tv hk t h (by rw [hid]; exact hall)
  rwa [hid] at this

/- read as single states, an annotated tree of the shape of `c` spells out any fitting labelling that it agrees
   with path by path -/
mutual
theorem labelOf_agree : ∀ (c : T) (a : A) (l : LT) (rest : List Nat), shapeOk c a → fits k tv c l = true →
    (∀ p s vec, l.get p = some s → a.get p = some vec → hd k vec = s) →
    labelOf c (a.flat.map (hd k) ++ rest) = (l, rest)
  | .node d pp ks, .node v as, .node r ls, rest, hsh, hf, hag => by
    have h0 : hd k v = r := hag [] r v (by simp [LT.get]) (by simp [A.get])
    have hfl : fitsL k tv ks ls = true := by
      cases ks with
      | nil =>
        simp only [fits, Bool.and_eq_true, List.isEmpty_iff] at hf
        rw [hf.1.1]; rfl
      | cons x xs => simp only [fits, Bool.and_eq_true] at hf; exact hf.2
    have hl := labelOfL_agree ks as ls rest (by simpa only [shapeOk] using hsh) hfl
      (fun i p s vec h1 h2 => hag (i :: p) s vec (by simpa [LT.get] using h1) (by simpa [A.get] using h2))
    simp only [A.flat, List.map_cons, List.cons_append, labelOf, List.headD_cons, List.drop_succ_cons, List.drop_zero]
    rw [hl, h0]
theorem labelOfL_agree : ∀ (ks : Kids) (as : List A) (ls : List LT) (rest : List Nat), shapeOkL ks as →
    fitsL k tv ks ls = true →
    (∀ i p s vec, LT.getL ls i p = some s → A.getL as i p = some vec → hd k vec = s) →
    labelOfL ks ((A.flatL as).map (hd k) ++ rest) = (ls, rest)
  | [], [], [], rest, _, _, _ => by simp [A.flatL, labelOfL]
  | [], _ :: _, _, _, hsh, _, _ => by simp [shapeOkL] at hsh
  | _ :: _, [], _, _, hsh, _, _ => by simp [shapeOkL] at hsh
  | [], [], _ :: _, _, _, hf, _ => by simp [fitsL] at hf
  | _ :: _, _ :: _, [], _, _, hf, _ => by simp [fitsL] at hf
  | (e, c) :: r, a :: ar, l :: lr, rest, hsh, hf, hag => by
    simp only [shapeOkL] at hsh
    simp only [fitsL, Bool.and_eq_true] at hf
    have hc := labelOf_agree c a l ((A.flatL ar).map (hd k) ++ rest) hsh.1 hf.1
      (fun p s vec h1 h2 => hag 0 p s vec (by simpa [LT.getL] using h1) (by simpa [A.getL] using h2))
    have hr := labelOfL_agree r ar lr rest hsh.2 hf.2
      (fun i p s vec h1 h2 => hag (i + 1) p s vec (by simpa [LT.getL] using h1) (by simpa [A.getL] using h2))
    simp only [A.flatL, List.map_append, List.append_assoc, labelOfL]
    rw [hc, hr]
end

/- the labelling read off the down-pass slices equals any fitting labelling that agrees with it path by path -/
theorem label_eq : ∀ (c : T) us (l : LT) (rest : List Nat), fits k tv c l = true →
    (∀ p s vec, l.get p = some s → (down k tv us c).get p = some vec → hd k vec = s) →
    labelOf c ((down k tv us c).flat.map (hd k) ++ rest) = (l, rest) :=
  fun c us l rest => labelOf_agree k tv c _ l rest (shape_down k tv c us)

end unamb

end Gotree.C12

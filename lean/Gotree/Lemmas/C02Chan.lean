/-
  C02 — the channel between the reader goroutine and its consumer: what a goroutine can do (`Moves`), what
  every move keeps (`content`) and lowers (`mu`), and why a fair tail ends the run.
-/
import Gotree.Model.C02Chan
namespace Gotree.C02.Chan

variable {α : Type}

/-- The moves of the two goroutines: `Moves closes a s s'` is `step closes a s = some s'` (`moves_of_step`). -/
inductive Moves (closes : Bool) : Actor → Sys α → Sys α → Prop
  | send {s x r} : s.toSend = x :: r → s.buf.length < cap →
      Moves closes .producer s { s with toSend := r, buf := s.buf ++ [x] }
  | close {s} : s.toSend = [] → s.closed = false → closes = true → Moves closes .producer s { s with closed := true }
  | recv {s x b} : s.buf = x :: b → Moves closes .consumer s { s with buf := b, got := s.got ++ [x] }

variable {closes : Bool} {a : Actor} {s s' : Sys α}

theorem moves_of_step (h : step closes a s = some s') : Moves closes a s s' := by
  cases a
  · revert h
    show stepP closes s = _ → _
    fun_cases stepP closes s <;> intro h <;> cases h
    next x r hs hb => exact .send hs hb
    next hs hc => simp at hc; exact .close hs hc.1 hc.2
  · revert h
    show stepC s = _ → _
    fun_cases stepC s <;> intro h <;> cases h
    next x b hb => exact .recv hb

/-- what has been and will be transmitted, in order: constant along every run -/
def content (s : Sys α) : List α := s.got ++ s.buf ++ s.toSend

theorem Moves.content (h : Moves closes a s s') : content s' = content s := by
  cases h with
  | send hs => simp [Chan.content, hs]
  | close => rfl
  | recv hb => simp [Chan.content, hb]

theorem Moves.mu_lt (h : Moves closes a s s') : mu s' < mu s := by
  cases h with
  | send hs => simp [mu, hs]; omega
  | close _ hc => simp [mu, hc]
  | recv hb => simp [mu, hb]

/-- only the producer's `close` closes the channel -/
theorem Moves.closed (h : Moves false a s s') : s'.closed = s.closed := by
  cases h with
  | send | recv => rfl
  | close _ _ hcl => cases hcl

theorem step_mu (closes : Bool) (a : Actor) (s s' : Sys α) (h : step closes a s = some s') : mu s' < mu s :=
  (moves_of_step h).mu_lt

/-- what every move keeps holds all along a schedule -/
theorem run_inv {P : Sys α → Prop} (hP : ∀ {a s s'}, Moves closes a s s' → P s → P s') :
    ∀ (sched : List Actor) (s : Sys α), P s → P (run closes sched s)
  | [], _, h => h
  | a :: r, s, h => by
    unfold run
    split
    · next s' hs => exact run_inv hP r s' (hP (moves_of_step hs) h)
    · exact run_inv hP r s h

theorem run_content (closes : Bool) (sched : List Actor) (s : Sys α) : content (run closes sched s) = content s :=
  run_inv (P := fun t => content t = content s) (fun h ht => h.content.trans ht) sched s rfl

theorem run_mu_le (closes : Bool) (sched : List Actor) : ∀ s : Sys α, mu (run closes sched s) ≤ mu s :=
  fun s => run_inv (P := fun t => mu t ≤ mu s) (fun h ht => Nat.le_trans (Nat.le_of_lt h.mu_lt) ht) sched s (Nat.le_refl _)

theorem run_append (closes : Bool) : ∀ (l l' : List Actor) (s : Sys α),
    run closes (l ++ l') s = run closes l' (run closes l s)
  | [], _, _ => rfl
  | a :: l, l', s => by
    simp only [List.cons_append, run]
    split <;> exact run_append closes l l' _

/-- no deadlock in the current code: unless the range has ended, one of the two goroutines can move -/
theorem progress (s : Sys α) (h : done s = false) :
    (step true .producer s).isSome = true ∨ (step true .consumer s).isSome = true := by
  simp only [step, stepP, stepC]
  cases hs : s.toSend with
  | cons x r =>
    simp only
    by_cases hb : s.buf.length < cap
    · left; simp [hb]
    · right
      cases hbuf : s.buf with
      | nil => simp [hbuf, cap] at hb
      | cons y b => simp
  | nil =>
    simp only
    cases hc : s.closed with
    | false => left; simp
    | true =>
      right
      cases hbuf : s.buf with
      | nil => simp [done, hs, hbuf, hc] at h
      | cons y b => simp

/-- one round of the fair tail lowers the measure unless the range has ended -/
theorem round_mu_lt (s : Sys α) (h : done s = false) : mu (run true [.producer, .consumer] s) < mu s := by
  cases hp : step true .producer s with
  | some s1 =>
    have : run true [.producer, .consumer] s = run true [.consumer] s1 := by simp [run, hp]
    rw [this]
    exact Nat.lt_of_le_of_lt (run_mu_le true _ s1) (step_mu _ _ _ _ hp)
  | none =>
    cases hc : step true .consumer s with
    | some s2 => simpa [run, hp, hc] using step_mu _ _ _ _ hc
    | none => exact (progress s h).elim (by simp [hp]) (by simp [hc])

theorem mu_of_done (h : done s = true) : mu s = 0 := by
  simp [done] at h
  simp [mu, h.1.1, h.1.2, h.2]

/-- a fair tail as long as the measure finishes the run -/
theorem roundRobin_done : ∀ (n : Nat) (s : Sys α), mu s ≤ n → done (run true (roundRobin n) s) = true
  | 0, s, h => by
    cases hd : done s
    · have := round_mu_lt s hd; omega
    · exact hd
  | k + 1, s, h => by
    rw [show roundRobin (k + 1) = [.producer, .consumer] ++ roundRobin k from rfl, run_append]
    apply roundRobin_done k
    cases hd : done s
    · have := round_mu_lt s hd; omega
    · have := run_mu_le true [.producer, .consumer] s
      have := mu_of_done hd
      omega

/-- whatever the schedule, the consumer's range ends and it has received exactly the records, in order -/
theorem simulate_correct (sched : List Actor) (recs : List α) :
    done (simulate sched recs) = true ∧ (simulate sched recs).got = recs := by
  unfold simulate
  simp only
  have hd := roundRobin_done (mu (run true sched (init recs))) (run true sched (init recs)) (Nat.le_refl _)
  refine ⟨hd, ?_⟩
  have hc : content (run true (roundRobin (mu (run true sched (init recs)))) (run true sched (init recs))) = recs := by
    rw [run_content, run_content]; simp [content, init]
  simp [done] at hd
  simpa [content, hd.1.1, hd.1.2] using hc

/-- the variant that returns without closing: once everything is received nobody can move, and the
    consumer's range has not ended — it blocks for ever -/
theorem no_close_deadlocks (recs : List α) (sched : List Actor) :
    done (run false sched (init recs)) = false := by
  have hc : (run false sched (init recs)).closed = false :=
    run_inv (P := fun t => t.closed = false) (fun h ht => h.closed.trans ht) sched _ rfl
  simp [done, hc]

end Gotree.C02.Chan

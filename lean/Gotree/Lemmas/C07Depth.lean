/-
  C07 — topological depth: after `ReinitIndexes` both sides of every branch hold a taxon, so `TopoDepth`
  never fails; the sizes `ReinitIndexes` stores are found again under unique branch ids; the code's depth
  is the Spec's `lightSize`.
-/
import Gotree.Lemmas.C07

namespace Gotree.C07
open Gotree

/- ## `TopoDepth` never fails after `ReinitIndexes`: both sides of every branch hold a taxon -/

theorem below_pos_T : ∀ (c : T), ∀ s ∈ c.splitsBelow, 0 < s.below.length :=
  fun c s hs => List.length_pos_iff.mpr (below_ne_nil c.kids s (c.splitsBelow_eq ▸ hs))

theorem depth_never_errs (t : T) : t.splits.any (depthErr t.tipNames.length) = false := by
  rw [List.any_eq_false]
  intro s hs
  unfold depthErr
  have hpos := List.length_pos_iff.mpr (below_ne_nil t.kids s hs)
  have hle := (below_sublist_leavesL t.kids s hs).length_le
  have htot : t.tipNames.length = (if t.kids.length == 1 then 1 else 0) + (leavesL t.kids).length := by
    unfold T.tipNames
    split <;> simp <;> omega
  simp only [Bool.or_eq_true, beq_iff_eq, not_or]
  refine ⟨?_, by omega⟩
  by_cases h1 : t.kids.length = 1
  · simp [h1] at htot; omega
  · by_cases h2 : 2 ≤ t.kids.length
    · have := below_length_lt h2 s hs
      omega
    · have h0 : t.kids = [] := by
        cases hk : t.kids with
        | nil => rfl
        | cons a r => rw [hk] at h1 h2; cases r <;> simp at h1 h2
      simp [T.splits, h0, splitsL] at hs

/- ## stored subtree sizes -/

theorem find_fresh (l : List SplitE) (total : Nat) (hnd : (l.map (·.e.id)).Nodup) (s : SplitE) (hs : s ∈ l) :
    (l.map fun x => (x.e.id, total - x.below.length, x.below.length)).find? (fun x => x.1 == s.e.id) =
      some (s.e.id, total - s.below.length, s.below.length) := by
  induction l with
  | nil => cases hs
  | cons a r ih =>
    simp only [List.map_cons, List.nodup_cons] at hnd
    rcases List.mem_cons.mp hs with rfl | hs'
    · simp
    · have hne : a.e.id ≠ s.e.id := by
        intro h
        exact hnd.1 (by rw [h]; exact List.mem_map.mpr ⟨s, hs', rfl⟩)
      have : (a.e.id == s.e.id) = false := by simpa using hne
      simp only [List.map_cons, List.find?_cons, this]
      exact ih hnd.2 hs'

theorem storedSizes_fresh (t : T) (hid : uniqueIds t = true) (s : SplitE) (hs : s ∈ t.splits) :
    storedSizes (freshSizes t) s.e.id = (t.tipNames.length - s.below.length, s.below.length) := by
  have hnd : (t.splits.map (·.e.id)).Nodup := by simpa [uniqueIds] using hid
  unfold storedSizes freshSizes
  rw [find_fresh t.splits _ hnd s hs]

/- ## the code's topological depth is the Spec's `lightSize` -/

theorem below_sub_T : ∀ (c : T), ∀ s ∈ c.splitsBelow, ∀ x ∈ s.below, x ∈ c.leaves :=
  fun c s hs _ hx =>
    c.leavesL_kids_sublist.subset ((below_sublist_leavesL c.kids s (c.splitsBelow_eq ▸ hs)).subset hx)

theorem lightSize_eq_topoDepth (t : T) (s : SplitE) (hs : s ∈ t.splits) :
    lightSize t.tipNames s.below = topoDepth t.tipNames.length s := by
  unfold lightSize topoDepth
  have hall : ∀ x ∈ s.below, t.tipNames.contains x = true := by
    intro x hx
    have := (below_sublist_leavesL t.kids s hs).subset hx
    unfold T.tipNames
    simp [this]
  have : s.below.filter t.tipNames.contains = s.below := List.filter_eq_self.mpr hall
  simp only [this]
  exact Nat.min_comm _ _

end Gotree.C07

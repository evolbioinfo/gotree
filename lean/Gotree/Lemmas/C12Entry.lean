/-
  C12 — the entry points `acr`, `asr`, `asrProt`: what an accepted run returns (`acr_some`, `asr_some`,
  `asrProt_some`), and that it meets the hypotheses of the optimality theorems by construction.  ACR: the alphabet
  (sorted distinct states of the map) contains the state of every tip, so every tip slice is a singleton inside
  the alphabet.  ASR: on every column whose characters are keys of `align.IupacCode` (upper-case IUPAC codes and
  `-`) the tip slices are non-empty sets; the other characters are the open finding F59
  (AsrNonIupacCharEmptySet).  Proteins: amino acids, `-`, `*` and `X`.
-/
import Gotree.Lemmas.C12

namespace Gotree.C12
open Gotree

/- ## tips and the tip/state map -/

theorem lookedUp_eq {t : T} (hr : rootOk t = true) : lookedUp t = t.tipNames ∧ t.tipNames = leavesL t.kids := by
  have hlen := (rootOk_kids hr).2
  simp [lookedUp, T.tipNames, hlen]

theorem lookup_mem (m : List (String × String)) (n st : String) (h : lookup m n = some st) :
    st ∈ m.map (·.2) := by
  unfold lookup at h
  cases hf : m.find? (·.1 == n) with
  | none => simp [hf] at h
  | some kv =>
    simp only [hf, Option.map_some, Option.some.injEq] at h
    subst h
    exact List.mem_map_of_mem (List.mem_of_find?_eq_some hf)

/-- what holds of every sequence of the alignment holds of the sequence looked up -/
theorem all_of_lookup {m : List (String × String)} {n sq : String} (h : lookup m n = some sq)
    (f : String → Bool) (hp : (m.all fun kv => f kv.2) = true) : f sq = true := by
  obtain ⟨kv, hkv, rfl⟩ := List.mem_map.mp (lookup_mem m n _ h)
  exact List.all_eq_true.mp hp kv hkv

/-- on a tree whose root is not a Go tip, an accepted run has looked up every leaf -/
theorem lookup_of_all {t : T} {m : List (String × String)} (hr : rootOk t = true)
    (hall : (t.tipNames.all fun n => (lookup m n).isSome) = true) :
    ∀ n ∈ leavesL t.kids, ∃ sq, lookup m n = some sq := by
  rw [(lookedUp_eq hr).2] at hall
  intro n hn
  exact Option.isSome_iff_exists.mp (List.all_eq_true.mp hall n hn)

/-- a slice holding a non-empty list of states below `k` is a non-empty 0/1 set -/
theorem codes_ok (k : Nat) (codes : List Nat) (hlt : ∀ i ∈ codes, i < k) (hne : codes ≠ []) :
    Set01 k (tab k fun i => if codes.contains i then 1 else 0) ∧
    NZ k (tab k fun i => if codes.contains i then 1 else 0) := by
  constructor
  · intro i hi
    simp only [at_tab, hi, if_true]
    split <;> omega
  · match codes, hne with
    | a :: r, _ => exact ⟨a, hlt a (by simp), by simp [at_tab, hlt a (by simp)]⟩

/- ## ACR -/

theorem mem_insertSorted (s x : String) : ∀ l : List String, x ∈ insertSorted s l ↔ x = s ∨ x ∈ l
  | [] => by simp [insertSorted]
  | y :: r => by
    have ih := mem_insertSorted s x r
    unfold insertSorted
    split
    · simp
    · split
      · rename_i h; subst h; simp
      · simp only [List.mem_cons, ih]
        constructor
        · rintro (h | h | h) <;> simp [h]
        · rintro (h | h | h) <;> simp [h]

theorem mem_foldl_insert (x : String) : ∀ (vals acc : List String),
    x ∈ vals.foldl (fun acc s => insertSorted s acc) acc ↔ x ∈ vals ∨ x ∈ acc
  | [], acc => by simp
  | v :: r, acc => by
    simp only [List.foldl_cons, mem_foldl_insert x r, mem_insertSorted, List.mem_cons]
    constructor
    · rintro (h | h | h) <;> simp [h]
    · rintro ((h | h) | h) <;> simp [h]

theorem mem_alphabet (x : String) (vals : List String) : x ∈ alphabet vals ↔ x ∈ vals := by
  unfold alphabet; rw [mem_foldl_insert]; simp

theorem indexOf_lt (a : List String) (s : String) (h : s ∈ a) : indexOf a s < a.length := by
  unfold indexOf
  apply List.findIdx_lt_length_of_exists
  exact ⟨s, h, by simp⟩

theorem every_tree_has_leaf : ∀ c : T, c.leaves ≠ [] := by
  intro c
  induction c using T.induct with
  | h d p ks ih =>
    match ks, ih with
    | [], _ => simp [T.leaves]
    | (e, c) :: r, ih =>
      rw [leaves_node_cons]
      simp only [leavesL]
      have := ih (e, c) (List.mem_cons_self ..)
      intro h
      simp only [List.append_eq_nil_iff] at h
      exact this h.1

/-- the ACR entry point: as soon as `acr` accepts (every tip has a state), the alphabet is not
    empty and every tip slice is a non-empty 0/1 slice -/
theorem acr_hyps (t : T) (m : List (String × String)) (hr : rootOk t = true)
    (hall : (t.tipNames.all fun n => (lookup m n).isSome) = true) :
    0 < (alphabet (m.map (·.2))).length ∧
    tipsOk (alphabet (m.map (·.2))).length (acrTipVec m (alphabet (m.map (·.2)))) t = true := by
  have hvec : ∀ n ∈ leavesL t.kids, ∃ st, lookup m n = some st ∧
      indexOf (alphabet (m.map (·.2))) st < (alphabet (m.map (·.2))).length := by
    intro n hn
    obtain ⟨st, hl⟩ := lookup_of_all hr hall n hn
    exact ⟨st, hl, indexOf_lt _ st ((mem_alphabet st _).mpr (lookup_mem m n st hl))⟩
  have hk : 0 < (alphabet (m.map (·.2))).length := by
    match t, (rootOk_kids hr).1, hvec with
    | .node d p ((e, c) :: r), _, hvec =>
      cases hlv : c.leaves with
      | nil => exact absurd hlv (every_tree_has_leaf c)
      | cons n _ =>
        obtain ⟨st, _, hlt⟩ := hvec n (by simp [leavesL, hlv])
        omega
  refine ⟨hk, (tipsOk_iff _ _ t).mpr fun n hn => ?_⟩
  obtain ⟨st, hl, hlt⟩ := hvec n hn
  constructor
  · intro i hi
    simp only [acrTipVec, hl, at_tab, hi, if_true]
    split <;> omega
  · exact ⟨_, hlt, by simp [acrTipVec, hl, at_tab, hlt]⟩

/-- what an accepted run of `acr` returns on a tree whose root is not a Go tip -/
theorem acr_some (t : T) (m : List (String × String)) (algo : Algo) (out : AcrOut) (hr : rootOk t = true)
    (h : acr t m algo = some out) :
    (t.tipNames.all fun n => (lookup m n).isSome) = true ∧
    out.steps = (runChar (alphabet (m.map (·.2))).length (acrTipVec m (alphabet (m.map (·.2)))) algo t).1 ∧
    out.sets = (runAlgo (alphabet (m.map (·.2))).length (acrTipVec m (alphabet (m.map (·.2)))) algo t).flat.map
      (stateNames (alphabet (m.map (·.2)))) := by
  unfold acr at h
  rw [(lookedUp_eq hr).1] at h
  cases hall : (t.tipNames.all fun n => (lookup m n).isSome) with
  | false => simp [hall] at h
  | true =>
    simp only [hall, Bool.not_true, Bool.false_eq_true, if_false, Option.some.injEq] at h
    subst h
    exact ⟨rfl, rfl, by simp [runChar, (rootOk_kids hr).2]⟩

/- the name→states map of ACR -/

theorem mem_insertKV {β : Type} (kv x : String × β) : ∀ l : List (String × β),
    x ∈ insertKV kv l → x = kv ∨ x ∈ l
  | [], h => by simp only [insertKV, List.mem_cons, List.not_mem_nil, or_false] at h; exact Or.inl h
  | y :: r, h => by
    unfold insertKV at h
    split at h
    · simp only [List.mem_cons] at h ⊢
      rcases h with h | h | h
      · exact Or.inl h
      · exact Or.inr (Or.inl h)
      · exact Or.inr (Or.inr h)
    · split at h
      · simp only [List.mem_cons] at h ⊢
        rcases h with h | h
        · exact Or.inl h
        · exact Or.inr (Or.inr h)
      · simp only [List.mem_cons] at h ⊢
        rcases h with h | h
        · exact Or.inr (Or.inl h)
        · rcases mem_insertKV kv x r h with h' | h'
          · exact Or.inl h'
          · exact Or.inr (Or.inr h')

theorem mem_foldl_insertKV {β : Type} (x : String × β) : ∀ (es acc : List (String × β)),
    x ∈ es.foldl (fun acc kv => insertKV kv acc) acc → x ∈ es ∨ x ∈ acc
  | [], acc, h => Or.inr (by simpa using h)
  | e :: r, acc, h => by
    simp only [List.foldl_cons] at h
    rcases mem_foldl_insertKV x r _ h with h' | h'
    · exact Or.inl (List.mem_cons_of_mem _ h')
    · rcases mem_insertKV e x acc h' with h'' | h''
      · exact Or.inl (by rw [h'']; exact List.mem_cons_self ..)
      · exact Or.inr h''

/- ## ASR -/

/-- entry `j` of the per-site lists `ParsimonyAsr` returns -/
theorem per_site (f : Nat → Nat × List Vec) (g : Vec → List String) (len j : Nat) (hj : j < len) :
    (((List.range len).map f).map (fun r : Nat × List Vec => r.1) ++ [0]).getD j 0 = (f j).1 ∧
    (((List.range len).map f).map fun r => r.2.map g).getD j [] = (f j).2.map g := by
  constructor <;> simp [List.getD_eq_getElem?_getD, List.getElem?_append_left, hj]

theorem iupac_lt6 (c : Char) (i : Nat) (h : i ∈ iupac c) : i < 6 := by
  unfold iupac at h
  split at h <;> simp at h <;> omega

theorem iupacIntended_lt6 (c : Char) (i : Nat) (h : i ∈ iupacIntended c) : i < 6 := by
  unfold iupacIntended at h
  simp only [] at h
  by_cases hu : (c.toUpper == 'U') = true
  · simp [hu] at h; omega
  · cases hi : iupac c.toUpper with
    | nil => simp [hu, hi] at h; omega
    | cons a r =>
      simp only [hu, hi] at h
      exact iupac_lt6 c.toUpper i (by rw [hi]; simpa using h)

theorem iupacIntended_ne (c : Char) : iupacIntended c ≠ [] := by
  unfold iupacIntended
  simp only []
  by_cases hu : (c.toUpper == 'U') = true
  · simp [hu]
  · cases hi : iupac c.toUpper with
    | nil => simp [hu]
    | cons a r => simp [hu]

theorem asrCodes_lt6 (c : Char) (i : Nat) (h : i ∈ asrCodes c) : i < 6 := by
  unfold asrCodes at h
  split at h
  · exact iupacIntended_lt6 c i h
  · exact iupac_lt6 c i h

theorem asrCodes_ne (c : Char) (h : (iupac c).isEmpty = false) : asrCodes c ≠ [] := by
  unfold asrCodes
  split
  · exact iupacIntended_ne c
  · intro e; simp [e] at h

/-- every sequence has, at column `j`, a character `align.IupacCode` knows -/
def iupacCol (m : List (String × String)) (j : Nat) : Bool :=
  m.all fun kv => !(iupac (kv.2.toList.getD j ' ')).isEmpty

theorem asr_hyps (t : T) (m : List (String × String)) (j : Nat) (hr : rootOk t = true)
    (hall : (t.tipNames.all fun n => (lookup m n).isSome) = true) (hp : iupacCol m j = true) :
    tipsOk 6 (asrTipVec m j) t = true := by
  refine (tipsOk_iff _ _ t).mpr fun n hn => ?_
  obtain ⟨sq, hl⟩ := lookup_of_all hr hall n hn
  simp only [asrTipVec, hl]
  exact codes_ok 6 _ (asrCodes_lt6 _) (asrCodes_ne _ (by
    simpa using all_of_lookup hl (fun s => !(iupac (s.toList.getD j ' ')).isEmpty) hp))

/-- what an accepted run of `asr` returns at site `j`, on a tree whose root is not a Go tip -/
theorem asr_some (t : T) (m : List (String × String)) (len : Nat) (algo : Algo) (oa : AsrOut) (hr : rootOk t = true)
    (h : asr t m len algo = some oa) :
    (t.tipNames.all fun n => (lookup m n).isSome) = true ∧ ∀ j, j < len →
      oa.steps.getD j 0 = (runChar 6 (asrTipVec m j) algo t).1 ∧
      oa.sets.getD j [] = (runAlgo 6 (asrTipVec m j) algo t).flat.map (stateNames asrAlphabet) := by
  unfold asr at h
  rw [(lookedUp_eq hr).1] at h
  cases halg : (algo == Algo.none) with
  | true => simp [halg] at h
  | false =>
    cases hall : (t.tipNames.all fun n => (lookup m n).isSome) with
    | false => simp [halg, hall] at h
    | true =>
      simp only [halg, hall, Bool.not_true, Bool.false_eq_true, if_false, Option.some.injEq] at h
      subst h
      refine ⟨rfl, fun j hj => ?_⟩
      have := per_site (fun j => runChar 6 (asrTipVec m j) algo t) (stateNames asrAlphabet) len j hj
      simpa [runChar, (rootOk_kids hr).2] using this

/- ## protein alignments -/

/-- every sequence has, at column `j`, an amino acid, `-`, `*`, or the "any amino acid" code `X` -/
def aaCol (m : List (String × String)) (j : Nat) : Bool :=
  m.all fun kv => kv.2.toList.getD j ' ' == 'X' || aaChars.contains (kv.2.toList.getD j ' ')

theorem aaCodes_lt22 (c : Char) (i : Nat) (h : i ∈ aaCodes c) : i < 22 := by
  unfold aaCodes at h
  split at h
  · simp only [List.mem_range] at h; omega
  · split at h
    · rename_i hc
      simp only [List.mem_cons, List.not_mem_nil, or_false] at h
      subst h
      have : aaChars.findIdx (· == c) < aaChars.length :=
        List.findIdx_lt_length_of_exists ⟨c, by simpa using hc, by simp⟩
      simpa [aaChars] using this
    · simp at h

theorem aaCodes_ne (c : Char) (h : (c == 'X' || aaChars.contains c) = true) : aaCodes c ≠ [] := by
  unfold aaCodes
  split
  · simp
  · rename_i hx
    have : aaChars.contains c = true := by
      cases hxx : (c == 'X') with
      | true => exact absurd hxx hx
      | false => simpa [hxx] using h
    have hm : c ∈ aaChars := by simpa using this
    simp [hm]

theorem asrProt_hyps (t : T) (m : List (String × String)) (j : Nat) (hr : rootOk t = true)
    (hall : (t.tipNames.all fun n => (lookup m n).isSome) = true) (hp : aaCol m j = true) :
    tipsOk 22 (aaTipVec m j) t = true := by
  refine (tipsOk_iff _ _ t).mpr fun n hn => ?_
  obtain ⟨sq, hl⟩ := lookup_of_all hr hall n hn
  simp only [aaTipVec, hl]
  exact codes_ok 22 _ (aaCodes_lt22 _) (aaCodes_ne _
    (all_of_lookup hl (fun s => s.toList.getD j ' ' == 'X' || aaChars.contains (s.toList.getD j ' ')) hp))

/-- the steps an accepted run of `asrProt` returns at site `j` -/
theorem asrProt_some (t : T) (m : List (String × String)) (len : Nat) (algo : Algo) (oa : AsrOut) (hr : rootOk t = true)
    (h : asrProt t m len algo = some oa) :
    (t.tipNames.all fun n => (lookup m n).isSome) = true ∧ ∀ j, j < len →
      oa.steps.getD j 0 = (runChar 22 (aaTipVec m j) algo t).1 := by
  unfold asrProt at h
  rw [(lookedUp_eq hr).1] at h
  cases halg : (algo == Algo.none) with
  | true => simp [halg] at h
  | false =>
    cases hall : (t.tipNames.all fun n => (lookup m n).isSome) with
    | false => simp [halg, hall] at h
    | true =>
      simp only [halg, hall, Bool.not_true, Bool.false_eq_true, if_false, Option.some.injEq] at h
      subst h
      exact ⟨rfl, fun j hj => (per_site (fun j => runChar 22 (aaTipVec m j) algo t) (stateNames aaAlphabet) len j hj).1⟩

end Gotree.C12

/-
  Lemmas of the shared core (`Model/Core.lean`) and of the tree-shape predicates of `Spec/Splits.lean`.

  The functions over `Kids` (`leavesL`, `splitsL`, `nodeNamesL`, `sizeL`, `noSingleL`, `binaryL`) are
  `flatMap` / `all` / `sum` of a per-child function; stated once (`…_eq_flatMap`, `…_eq_all`), append,
  permutation, membership and sublist facts are the library's.  A fact about every entry of a split list
  is an induction over "the entry of a child, or an entry below a child" (`splitsL_induct`), so that no
  user needs a `mutual` block for it.  No lemma here is tagged `simp`: the files above were written
  against the bare definitions, and a global attribute would change what their `simp` calls do.
-/
import Gotree.Model.Core
import Gotree.Spec.Splits

namespace Gotree

/-! ## one node -/

theorem T.isLeaf_node (d : NodeD) (p : Nat) (k : Kids) : (T.node d p k).isLeaf = k.isEmpty := rfl

namespace T

theorem isLeaf_iff {t : T} : t.isLeaf = true ↔ t.kids = [] := List.isEmpty_iff

theorem isLeaf_eq_false_iff {t : T} : t.isLeaf = false ↔ t.kids ≠ [] := by
  rw [← Bool.not_eq_true, isLeaf_iff]

theorem leaves_node_nil (d : NodeD) (p : Nat) : (node d p []).leaves = [d.name] := rfl

theorem leaves_node_cons (d : NodeD) (p : Nat) (x : EdgeD × T) (k : Kids) :
    (node d p (x :: k)).leaves = leavesL (x :: k) := rfl

theorem leaves_node (d : NodeD) (p : Nat) (k : Kids) :
    (T.node d p k).leaves = if k.isEmpty then [d.name] else leavesL k := by
  cases k <;> rfl

theorem leaves_of_kids_nil {t : T} (h : t.kids = []) : t.leaves = [t.name] := by
  obtain ⟨d, p, k⟩ := t; cases (h : k = []); rfl

theorem leaves_of_kids_ne {t : T} (h : t.kids ≠ []) : t.leaves = leavesL t.kids := by
  obtain ⟨d, p, k⟩ := t
  cases k with
  | nil => exact absurd rfl h
  | cons x r => rfl

theorem leaves_node_ne (d : NodeD) (p : Nat) {k : Kids} (h : k ≠ []) : (node d p k).leaves = leavesL k :=
  leaves_of_kids_ne (t := node d p k) h

theorem leaves_eq (t : T) : t.leaves = if t.kids = [] then [t.name] else leavesL t.kids := by
  split
  · next h => exact leaves_of_kids_nil h
  · next h => exact leaves_of_kids_ne h

theorem leaves_of_isLeaf {t : T} (h : t.isLeaf = true) : t.leaves = [t.name] :=
  leaves_of_kids_nil (isLeaf_iff.1 h)

theorem splitsBelow_node (d : NodeD) (p : Nat) (k : Kids) : (T.node d p k).splitsBelow = splitsL k := rfl

/-- `splitsBelow` and `splits` are one function, written by matching and by projection -/
theorem splitsBelow_eq (t : T) : t.splitsBelow = splitsL t.kids := by cases t; rfl

theorem splitsBelow_of_isLeaf {t : T} (h : t.isLeaf = true) : t.splitsBelow = [] := by
  rw [splitsBelow_eq, isLeaf_iff.1 h]; rfl

theorem splits_node (d : NodeD) (p : Nat) (k : Kids) : (T.node d p k).splits = splitsL k := rfl

theorem size_node (d : NodeD) (p : Nat) (k : Kids) : (node d p k).size = 1 + sizeL k := rfl

theorem size_eq (t : T) : t.size = 1 + sizeL t.kids := by cases t; rfl

theorem size_pos (t : T) : 1 ≤ t.size := by rw [size_eq]; omega

theorem sizeL_cons (e : EdgeD) (t : T) (r : Kids) : sizeL ((e, t) :: r) = t.size + sizeL r := rfl

theorem sizeL_eq_sum : ∀ k : Kids, sizeL k = (k.map (·.2.size)).sum
  | [] => rfl
  | (_, t) :: r => by rw [sizeL_cons, sizeL_eq_sum r, List.map_cons, List.sum_cons]

theorem sizeL_append (a b : Kids) : sizeL (a ++ b) = sizeL a + sizeL b := by
  simp only [sizeL_eq_sum, List.map_append, List.sum_append_nat]

theorem nodeNames_node (d : NodeD) (p : Nat) (k : Kids) : (node d p k).nodeNames = d.name :: nodeNamesL k := rfl

theorem tipNames_node (d : NodeD) (p : Nat) (k : Kids) :
    (node d p k).tipNames = (if k.length == 1 then [d.name] else []) ++ leavesL k := rfl

theorem tipNames_of_ne_one {t : T} (h : t.kids.length ≠ 1) : t.tipNames = leavesL t.kids := by
  simp [tipNames, h]

theorem tipNames_of_one {t : T} (h : t.kids.length = 1) : t.tipNames = t.name :: leavesL t.kids := by
  simp [tipNames, h]

theorem tipNames_of_rooted {t : T} (h : t.rooted = true) : t.tipNames = leavesL t.kids :=
  tipNames_of_ne_one (by simp only [rooted, beq_iff_eq] at h; omega)

theorem leavesL_sublist_tipNames (t : T) : (leavesL t.kids).Sublist t.tipNames :=
  List.sublist_append_right _ _

theorem nodup_leavesL_of_tipNames {t : T} (h : t.tipNames.Nodup) : (leavesL t.kids).Nodup :=
  h.sublist t.leavesL_sublist_tipNames

/-- seen from above a node is its name, its number of children and the leaves below them -/
theorem leaves_perm {t u : T} (hname : u.name = t.name) (hlen : u.kids.length = t.kids.length)
    (hl : (leavesL u.kids).Perm (leavesL t.kids)) : u.leaves.Perm t.leaves := by
  by_cases hk : t.kids = []
  · rw [leaves_of_kids_nil hk, leaves_of_kids_nil (List.length_eq_zero_iff.1 (hlen.trans (List.length_eq_zero_iff.2 hk))),
      hname]
  · rw [leaves_of_kids_ne hk, leaves_of_kids_ne fun h => hk (List.length_eq_zero_iff.1 (hlen ▸ List.length_eq_zero_iff.2 h))]
    exact hl

/-- the tips as a multiset are the root's name (when it is a tip) and the leaves below -/
theorem tipNames_perm {t u : T} (hname : u.name = t.name) (hlen : u.kids.length = t.kids.length)
    (hl : (leavesL u.kids).Perm (leavesL t.kids)) : u.tipNames.Perm t.tipNames := by
  unfold tipNames; rw [hname, hlen]; exact hl.append_left _

end T

/-! ## leaves -/

theorem leavesL_nil : leavesL [] = [] := rfl

theorem leavesL_cons (e : EdgeD) (t : T) (r : Kids) : leavesL ((e, t) :: r) = t.leaves ++ leavesL r := rfl

theorem leavesL_eq_flatMap : ∀ k : Kids, leavesL k = k.flatMap (·.2.leaves)
  | [] => rfl
  | (_, t) :: r => by rw [leavesL_cons, leavesL_eq_flatMap r, List.flatMap_cons]

theorem leavesL_append (a b : Kids) : leavesL (a ++ b) = leavesL a ++ leavesL b := by
  simp only [leavesL_eq_flatMap, List.flatMap_append]

theorem leavesL_singleton (et : EdgeD × T) : leavesL [et] = et.2.leaves := List.append_nil _

theorem leavesL_perm {k₁ k₂ : Kids} (h : k₁.Perm k₂) : (leavesL k₁).Perm (leavesL k₂) := by
  simp only [leavesL_eq_flatMap]; exact h.flatMap_right _

theorem mem_leavesL {x : String} {k : Kids} : x ∈ leavesL k ↔ ∃ et ∈ k, x ∈ et.2.leaves := by
  rw [leavesL_eq_flatMap, List.mem_flatMap]

theorem leaves_sublist_leavesL {et : EdgeD × T} {k : Kids} (h : et ∈ k) : et.2.leaves.Sublist (leavesL k) := by
  obtain ⟨a, b, rfl⟩ := List.append_of_mem h
  rw [leavesL_append, leavesL_cons]
  exact (List.sublist_append_left _ _).trans (List.sublist_append_right _ _)

theorem leavesL_map_leaf {α : Type} (e : α → EdgeD) (g : α → String) (l : List α) :
    leavesL (l.map fun i => (e i, T.leaf (g i))) = l.map g := by
  induction l with
  | nil => rfl
  | cons a l ih => rw [List.map_cons, leavesL_cons, ih]; rfl

/-- distinct leaves below a kid list: below each child, and no leaf under two children -/
theorem nodup_leavesL {k : Kids} :
    (leavesL k).Nodup ↔
      (∀ et ∈ k, et.2.leaves.Nodup) ∧ k.Pairwise fun a b => ∀ x ∈ a.2.leaves, x ∉ b.2.leaves := by
  rw [leavesL_eq_flatMap, List.Nodup, List.pairwise_flatMap]
  exact and_congr Iff.rfl
    ⟨List.Pairwise.imp fun h x hx hy => h x hx x hy rfl, List.Pairwise.imp fun h x hx y hy (e : x = y) => h x hx (e ▸ hy)⟩

/-- … in the form with positions -/
theorem leaves_disjoint_of_getElem? {k : Kids} (hn : (leavesL k).Nodup) {i j : Nat} {a b : EdgeD × T}
    (hi : k[i]? = some a) (hj : k[j]? = some b) (hij : i ≠ j) : ∀ x ∈ a.2.leaves, x ∉ b.2.leaves := by
  have hp := List.pairwise_iff_getElem.1 (nodup_leavesL.1 hn).2
  obtain ⟨hi', rfl⟩ := List.getElem?_eq_some_iff.1 hi
  obtain ⟨hj', rfl⟩ := List.getElem?_eq_some_iff.1 hj
  rcases Nat.lt_or_gt_of_ne hij with h | h
  · exact hp i j hi' hj' h
  · exact fun x hx hx' => hp j i hj' hi' h x hx' hx

theorem T.leaves_ne_nil (t : T) : t.leaves ≠ [] := by
  induction t using T.induct with
  | h d p k ih =>
    cases k with
    | nil => exact List.cons_ne_nil _ _
    | cons x r =>
      rw [T.leaves_node_cons, leavesL_cons]
      exact List.append_ne_nil_of_left_ne_nil (ih x List.mem_cons_self) _

theorem T.leaves_length_pos (t : T) : 0 < t.leaves.length := List.length_pos_iff.2 t.leaves_ne_nil

theorem leavesL_ne_nil (k : Kids) (h : k ≠ []) : leavesL k ≠ [] := by
  obtain ⟨x, r, rfl⟩ := List.exists_cons_of_ne_nil h
  exact List.append_ne_nil_of_left_ne_nil x.2.leaves_ne_nil _

/-- every child has a leaf, so a node has at least as many leaves below as children;
    `et` is one of them, the others have one leaf each at least -/
theorem leaves_length_add_le {et : EdgeD × T} : ∀ {k : Kids}, et ∈ k →
    et.2.leaves.length + (k.length - 1) ≤ (leavesL k).length
  | x :: r, h => by
    rw [leavesL_cons, List.length_append, List.length_cons]
    have hx := x.2.leaves_length_pos
    rcases List.mem_cons.1 h with rfl | h
    · have : r.length ≤ (leavesL r).length := by
        cases r with
        | nil => exact Nat.le_refl 0
        | cons y r' => have := leaves_length_add_le (et := y) (k := y :: r') List.mem_cons_self
                       have := y.2.leaves_length_pos; simp only [List.length_cons] at *; omega
      omega
    · have := leaves_length_add_le h
      have := List.length_pos_of_mem h
      omega

theorem length_le_length_leavesL (k : Kids) : k.length ≤ (leavesL k).length := by
  cases k with
  | nil => exact Nat.le_refl 0
  | cons x r =>
    have := leaves_length_add_le (et := x) (k := x :: r) List.mem_cons_self
    have := x.2.leaves_length_pos
    simp only [List.length_cons] at *; omega

theorem T.leavesL_kids_sublist (t : T) : (leavesL t.kids).Sublist t.leaves := by
  rw [t.leaves_eq]; split
  · next h => rw [h]; exact List.nil_sublist _
  · exact List.Sublist.refl _

/-! ## the split list -/

theorem splitsL_nil : splitsL [] = [] := rfl

theorem splitsL_cons (e : EdgeD) (t : T) (r : Kids) :
    splitsL ((e, t) :: r) = ⟨t.leaves, e, t.isLeaf⟩ :: (t.splitsBelow ++ splitsL r) := rfl

/-- the entries contributed by each child: its own branch, then the branches below it -/
theorem splitsL_eq_flatMap : ∀ k : Kids,
    splitsL k = k.flatMap fun et => ⟨et.2.leaves, et.1, et.2.isLeaf⟩ :: et.2.splits
  | [] => rfl
  | (e, t) :: r => by rw [splitsL_cons, splitsL_eq_flatMap r, List.flatMap_cons, T.splitsBelow_eq]; rfl

theorem splitsL_append (a b : Kids) : splitsL (a ++ b) = splitsL a ++ splitsL b := by
  simp only [splitsL_eq_flatMap, List.flatMap_append]

theorem splitsL_singleton (e : EdgeD) (c : T) : splitsL [(e, c)] = ⟨c.leaves, e, c.isLeaf⟩ :: c.splitsBelow := by
  rw [splitsL_cons, splitsL_nil, List.append_nil]

theorem splitsL_perm {k₁ k₂ : Kids} (h : k₁.Perm k₂) : (splitsL k₁).Perm (splitsL k₂) := by
  simp only [splitsL_eq_flatMap]; exact h.flatMap_right _

theorem mem_splitsL {s : SplitE} {k : Kids} :
    s ∈ splitsL k ↔ ∃ et ∈ k, s = ⟨et.2.leaves, et.1, et.2.isLeaf⟩ ∨ s ∈ et.2.splits := by
  simp only [splitsL_eq_flatMap, List.mem_flatMap, List.mem_cons]

theorem mem_splitsL_of_kid {e : EdgeD} {c : T} {k : Kids} (h : (e, c) ∈ k) :
    (⟨c.leaves, e, c.isLeaf⟩ : SplitE) ∈ splitsL k :=
  mem_splitsL.2 ⟨_, h, Or.inl rfl⟩

theorem mem_splitsL_of_below {e : EdgeD} {c : T} {k : Kids} (h : (e, c) ∈ k) {s : SplitE} (hs : s ∈ c.splits) :
    s ∈ splitsL k :=
  mem_splitsL.2 ⟨_, h, Or.inr hs⟩

/-- Induction over the entries of a split list: an entry is the branch of a child, or an entry of the
    split list of a child. -/
theorem splitsL_induct {P : Kids → SplitE → Prop}
    (kid : ∀ (k : Kids) (e : EdgeD) (c : T), (e, c) ∈ k → P k ⟨c.leaves, e, c.isLeaf⟩)
    (below : ∀ (k : Kids) (e : EdgeD) (c : T) (s : SplitE), (e, c) ∈ k → s ∈ c.splits → P c.kids s → P k s)
    (k : Kids) : ∀ s ∈ splitsL k, P k s := by
  suffices h : ∀ t : T, ∀ s ∈ splitsL t.kids, P t.kids s from h (.node default 0 k)
  intro t
  induction t using T.induct with
  | h d p k ih =>
    intro s hs
    obtain ⟨⟨e, c⟩, hm, rfl | hs⟩ := mem_splitsL.1 hs
    · exact kid k e c hm
    · exact below k e c s hm hs (ih _ hm s hs)

/-- the leaves below a branch are below the node, in the same order -/
theorem below_sublist_leavesL (k : Kids) : ∀ s ∈ splitsL k, s.below.Sublist (leavesL k) :=
  splitsL_induct (P := fun k s => s.below.Sublist (leavesL k)) (fun _ _ _ h => leaves_sublist_leavesL h)
    (fun _ _ c _ h _ ih => (ih.trans c.leavesL_kids_sublist).trans (leaves_sublist_leavesL h)) k

theorem T.below_sublist_leaves (t : T) : ∀ s ∈ t.splitsBelow, s.below.Sublist t.leaves :=
  fun s hs => (below_sublist_leavesL _ s (t.splitsBelow_eq ▸ hs)).trans t.leavesL_kids_sublist

theorem below_sublist_tipNames (t : T) : ∀ s ∈ t.splits, s.below.Sublist t.tipNames :=
  fun s hs => (below_sublist_leavesL _ s hs).trans t.leavesL_sublist_tipNames

theorem below_ne_nil (k : Kids) : ∀ s ∈ splitsL k, s.below ≠ [] :=
  splitsL_induct (P := fun _ s => s.below ≠ []) (fun _ _ c _ => c.leaves_ne_nil) (fun _ _ _ _ _ _ ih => ih) k

theorem below_nodup {k : Kids} (h : (leavesL k).Nodup) : ∀ s ∈ splitsL k, s.below.Nodup :=
  fun s hs => h.sublist (below_sublist_leavesL k s hs)

theorem T.below_nodup {t : T} (h : t.tipNames.Nodup) : ∀ s ∈ t.splits, s.below.Nodup :=
  Gotree.below_nodup (T.nodup_leavesL_of_tipNames h)

/-- the entry of a tip branch bears that tip alone -/
theorem below_of_tip (k : Kids) : ∀ s ∈ splitsL k, s.tip = true → ∃ x, s.below = [x] :=
  splitsL_induct (P := fun _ s => s.tip = true → ∃ x, s.below = [x])
    (fun _ _ c _ h => ⟨c.name, T.leaves_of_isLeaf h⟩) (fun _ _ _ _ _ _ ih => ih) k

/-- every leaf below has its tip branch in the list -/
theorem exists_tip_entry (k : Kids) : ∀ x ∈ leavesL k, ∃ s ∈ splitsL k, s.tip = true ∧ s.below = [x] := by
  suffices h : ∀ t : T, ∀ x ∈ leavesL t.kids, ∃ s ∈ splitsL t.kids, s.tip = true ∧ s.below = [x] from
    h (.node default 0 k)
  intro t
  induction t using T.induct with
  | h d p k ih =>
    intro x hx
    obtain ⟨⟨e, c⟩, hm, hx⟩ := mem_leavesL.1 hx
    by_cases hc : c.kids = []
    · refine ⟨_, mem_splitsL_of_kid hm, T.isLeaf_iff.2 hc, ?_⟩
      rw [T.leaves_of_kids_nil hc] at hx ⊢
      rw [List.mem_singleton.1 hx]
    · rw [T.leaves_of_kids_ne hc] at hx
      obtain ⟨s, hs, h⟩ := ih _ hm x hx
      exact ⟨s, mem_splitsL_of_below hm hs, h⟩

/-- an entry lists leaves of one child -/
theorem below_sublist_kid {k : Kids} {s : SplitE} (hs : s ∈ splitsL k) : ∃ et ∈ k, s.below.Sublist et.2.leaves := by
  obtain ⟨⟨e, c⟩, hm, h⟩ := mem_splitsL.1 hs
  refine ⟨_, hm, ?_⟩
  rcases h with rfl | h
  · exact List.Sublist.refl _
  · exact (below_sublist_leavesL _ s h).trans c.leavesL_kids_sublist

/-- every child but the one an entry lies below has a leaf of its own -/
theorem below_length_add_le (k : Kids) : ∀ s ∈ splitsL k, s.below.length + (k.length - 1) ≤ (leavesL k).length := by
  intro s hs
  obtain ⟨et, hm, h⟩ := below_sublist_kid hs
  have := h.length_le
  have := leaves_length_add_le hm
  omega

/-- at a node with two children or more, every branch below leaves out a leaf -/
theorem below_length_lt {k : Kids} (h2 : 2 ≤ k.length) : ∀ s ∈ splitsL k, s.below.length < (leavesL k).length := by
  intro s hs
  have := below_length_add_le k s hs
  omega

/-- … and, the leaves being distinct, one can be named -/
theorem exists_not_mem_below {k : Kids} (h2 : 2 ≤ k.length) (hn : (leavesL k).Nodup) :
    ∀ s ∈ splitsL k, ∃ y ∈ leavesL k, y ∉ s.below := by
  intro s hs
  apply Classical.byContradiction
  intro hno
  have : (leavesL k).length ≤ s.below.length :=
    hn.length_le_of_subset fun y hy => Classical.byContradiction fun hy' => hno ⟨y, hy, hy'⟩
  exact absurd (below_length_lt h2 s hs) (by omega)

/-- at a node with three children or more, two branches below leave out a common leaf: those of a
    child that bears neither -/
theorem exists_not_mem_below₂ {k : Kids} (h3 : 3 ≤ k.length) (hn : (leavesL k).Nodup) :
    ∀ s₁ ∈ splitsL k, ∀ s₂ ∈ splitsL k, ∃ y ∈ leavesL k, y ∉ s₁.below ∧ y ∉ s₂.below := by
  intro s₁ h₁ s₂ h₂
  obtain ⟨c₁, hm₁, hs₁⟩ := below_sublist_kid h₁
  obtain ⟨c₂, hm₂, hs₂⟩ := below_sublist_kid h₂
  obtain ⟨i, hi⟩ := List.getElem?_of_mem hm₁
  obtain ⟨j, hj⟩ := List.getElem?_of_mem hm₂
  obtain ⟨l, hl, hli, hlj⟩ : ∃ l, l < k.length ∧ l ≠ i ∧ l ≠ j := by
    by_cases c0 : i ≠ 0 ∧ j ≠ 0
    · exact ⟨0, by omega, by omega, by omega⟩
    · by_cases c1 : i ≠ 1 ∧ j ≠ 1
      · exact ⟨1, by omega, by omega, by omega⟩
      · exact ⟨2, by omega, by omega, by omega⟩
  have hkl : k[l]? = some k[l] := List.getElem?_eq_getElem hl
  obtain ⟨y, hy⟩ := List.exists_mem_of_ne_nil _ k[l].2.leaves_ne_nil
  exact ⟨y, (leaves_sublist_leavesL (List.getElem_mem hl)).subset hy,
    fun h => leaves_disjoint_of_getElem? hn hkl hi hli y hy (hs₁.subset h),
    fun h => leaves_disjoint_of_getElem? hn hkl hj hlj y hy (hs₂.subset h)⟩

/-- the side below a branch of a tree is never empty and never all the tips -/
theorem T.below_proper (t : T) (s : SplitE) (h : s ∈ t.splits) :
    0 < s.below.length ∧ s.below.length < t.tipNames.length := by
  refine ⟨List.length_pos_iff.2 (below_ne_nil _ s h), ?_⟩
  by_cases h1 : t.kids.length = 1
  · have := (below_sublist_leavesL t.kids s h).length_le
    rw [T.tipNames_of_one h1, List.length_cons]; omega
  · have h2 : 2 ≤ t.kids.length := by
      have : t.kids ≠ [] := fun h0 => by rw [T.splits, h0] at h; cases h
      have := List.length_pos_iff.2 this
      omega
    rw [T.tipNames_of_ne_one h1]
    exact below_length_lt h2 s h

/-- a relation between the entries of a split list, child by child: between the branch of a child and
    the branches below it, among the branches below it, and across two children -/
theorem pairwise_splitsL {R : SplitE → SplitE → Prop} {k : Kids} :
    (splitsL k).Pairwise R ↔
      (∀ et ∈ k, (∀ s ∈ et.2.splits, R ⟨et.2.leaves, et.1, et.2.isLeaf⟩ s) ∧ et.2.splits.Pairwise R) ∧
      k.Pairwise fun a b => ∀ x ∈ splitsL [a], ∀ y ∈ splitsL [b], R x y := by
  rw [splitsL_eq_flatMap, List.pairwise_flatMap]
  simp only [List.pairwise_cons, splitsL_eq_flatMap [_], List.flatMap_singleton]

/-! ## the shape predicates -/

theorem T.noSingleBelow_node (d : NodeD) (p : Nat) (k : Kids) :
    (T.node d p k).noSingleBelow = (k.length != 1 && noSingleL k) := rfl

theorem T.noSingleBelow_eq (t : T) : t.noSingleBelow = (t.kids.length != 1 && noSingleL t.kids) := by cases t; rfl

theorem noSingleL_cons (e : EdgeD) (c : T) (r : Kids) : noSingleL ((e, c) :: r) = (c.noSingleBelow && noSingleL r) := rfl

theorem noSingleL_eq_all : ∀ k : Kids, noSingleL k = k.all (·.2.noSingleBelow)
  | [] => rfl
  | (_, t) :: r => by rw [noSingleL_cons, noSingleL_eq_all r, List.all_cons]

theorem noSingleL_append (a b : Kids) : noSingleL (a ++ b) = (noSingleL a && noSingleL b) := by
  simp only [noSingleL_eq_all, List.all_append]

theorem noSingleL_perm {k₁ k₂ : Kids} (h : k₁.Perm k₂) : noSingleL k₁ = noSingleL k₂ := by
  simp only [noSingleL_eq_all]; exact h.all_eq

theorem noSingleL_iff {k : Kids} : noSingleL k = true ↔ ∀ et ∈ k, et.2.noSingleBelow = true := by
  rw [noSingleL_eq_all, List.all_eq_true]

theorem T.binaryBelow_eq (t : T) :
    t.binaryBelow = ((t.kids.length == 0 || t.kids.length == 2) && binaryL t.kids) := by cases t; rfl

theorem binaryL_eq_all : ∀ k : Kids, binaryL k = k.all (·.2.binaryBelow)
  | [] => rfl
  | (_, t) :: r => by rw [binaryL, binaryL_eq_all r, List.all_cons]

theorem binaryL_iff {k : Kids} : binaryL k = true ↔ ∀ et ∈ k, et.2.binaryBelow = true := by
  rw [binaryL_eq_all, List.all_eq_true]

theorem T.noSingleBelow_of_binaryBelow (t : T) : t.binaryBelow = true → t.noSingleBelow = true := by
  induction t using T.induct with
  | h d p k ih =>
    simp only [T.binaryBelow, T.noSingleBelow, Bool.and_eq_true, Bool.or_eq_true, beq_iff_eq, bne_iff_ne, ne_eq,
      binaryL_iff, noSingleL_iff]
    exact fun ⟨h1, h2⟩ => ⟨by omega, fun et h => ih et h (h2 et h)⟩

theorem noSingleL_of_binaryL {k : Kids} (h : binaryL k = true) : noSingleL k = true :=
  noSingleL_iff.2 fun et hm => et.2.noSingleBelow_of_binaryBelow (binaryL_iff.1 h et hm)

theorem T.noSingle_of_binary (t : T) (h : t.binary = true) : t.noSingle = true := by
  rw [T.binary, Bool.and_eq_true] at h
  exact noSingleL_of_binaryL h.2

/-- a node without single-child nodes below is a leaf or has two leaves at least -/
theorem T.two_le_leaves {t : T} (h : t.noSingleBelow = true) (hk : t.kids ≠ []) : 2 ≤ t.leaves.length := by
  rw [T.leaves_of_kids_ne hk]
  rw [T.noSingleBelow_eq, Bool.and_eq_true, bne_iff_ne] at h
  have := length_le_length_leavesL t.kids
  have := List.length_pos_iff.2 hk
  omega

/-- … and so does the entry of an inner branch -/
theorem two_le_below {k : Kids} (h : noSingleL k = true) : ∀ s ∈ splitsL k, s.tip = false → 2 ≤ s.below.length :=
  fun s hs => splitsL_induct (P := fun k s => noSingleL k = true → s.tip = false → 2 ≤ s.below.length)
    (fun _ _ _ hm hns ht => T.two_le_leaves (noSingleL_iff.1 hns _ hm) (T.isLeaf_eq_false_iff.1 ht))
    (fun _ _ c _ hm _ ih hns => ih (by
      have := noSingleL_iff.1 hns _ hm
      rw [T.noSingleBelow_eq, Bool.and_eq_true] at this
      exact this.2)) k s hs h

/-! ## the split list is laminar -/

/-- In `Edges()` order, a later entry lies inside an earlier one (strictly, when no node has a single
    child) or shares no leaf with it. -/
theorem splitsL_laminar {k : Kids} (hn : (leavesL k).Nodup) :
    (splitsL k).Pairwise fun s₁ s₂ =>
      (s₂.below.Sublist s₁.below ∧ (noSingleL k = true → s₂.below.length < s₁.below.length)) ∨
      ∀ x ∈ s₁.below, x ∉ s₂.below := by
  suffices h : ∀ t : T, (leavesL t.kids).Nodup → (splitsL t.kids).Pairwise fun s₁ s₂ =>
      (s₂.below.Sublist s₁.below ∧ (noSingleL t.kids = true → s₂.below.length < s₁.below.length)) ∨
      ∀ x ∈ s₁.below, x ∉ s₂.below from h (.node default 0 k) hn
  intro t
  induction t using T.induct with
  | h d p k ih =>
    intro hn
    obtain ⟨hkid, hdis⟩ := nodup_leavesL.1 hn
    -- an entry of the block of a child lists leaves of that child
    have hblk : ∀ (a : EdgeD × T), ∀ s ∈ splitsL [a], s.below.Sublist a.2.leaves := fun a s hs => by
      simpa [leavesL_singleton] using below_sublist_leavesL [a] s hs
    refine pairwise_splitsL.2 ⟨fun ⟨e, c⟩ hm => ?_, hdis.imp fun h x hx y hy =>
      Or.inr fun z hz hz' => h z ((hblk _ x hx).subset hz) ((hblk _ y hy).subset hz')⟩
    have hc : (leavesL c.kids).Nodup := (hkid _ hm).sublist c.leavesL_kids_sublist
    have hns : noSingleL k = true → c.noSingleBelow = true := fun h => noSingleL_iff.1 h _ hm
    refine ⟨fun s hs => Or.inl ⟨(below_sublist_leavesL _ s hs).trans c.leavesL_kids_sublist, fun h => ?_⟩,
      (ih _ hm hc).imp fun h => h.imp_left fun ⟨h₁, h₂⟩ => ⟨h₁, fun h => h₂ ?_⟩⟩
    · have hk : c.kids ≠ [] := fun h0 => by rw [T.splits, h0] at hs; cases hs
      have h2 := hns h
      rw [T.noSingleBelow_eq, Bool.and_eq_true, bne_iff_ne] at h2
      have := List.length_pos_iff.2 hk
      rw [show (SplitE.mk c.leaves e c.isLeaf).below = leavesL c.kids from T.leaves_of_kids_ne hk]
      exact below_length_lt (by omega) s hs
    · have h2 := hns h
      rw [T.noSingleBelow_eq, Bool.and_eq_true] at h2
      exact h2.2

/-- Without single-child nodes "strictly inside" can be said with a witness: the form in which the
    properties use laminarity (no two branches bear the same set of leaves). -/
theorem splitsL_laminar_strict {k : Kids} (hn : (leavesL k).Nodup) (hs : noSingleL k = true) :
    (splitsL k).Pairwise fun s₁ s₂ =>
      ((∀ x ∈ s₂.below, x ∈ s₁.below) ∧ ∃ y ∈ s₁.below, y ∉ s₂.below) ∨ ∀ x ∈ s₁.below, x ∉ s₂.below := by
  refine (splitsL_laminar hn).imp_of_mem fun {s₁ s₂} h₁ _ h => h.imp_left fun ⟨hsub, hlt⟩ => ⟨fun _ hx => hsub.subset hx, ?_⟩
  apply Classical.byContradiction
  intro hno
  have : s₁.below.length ≤ s₂.below.length :=
    (below_nodup hn s₁ h₁).length_le_of_subset fun y hy => Classical.byContradiction fun hy' => hno ⟨y, hy, hy'⟩
  exact absurd (hlt hs) (by omega)

end Gotree

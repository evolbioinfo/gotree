/-
  C17 — counting the rearrangements of `Rearrange`: on any tree, and per inner branch on binary trees.
-/
import Gotree.Model.C17
import Gotree.Spec.Splits
import Gotree.Spec.C17

namespace Gotree.C17
open Gotree

/-- number of branches below a list of children whose lower end is not a tip -/
def innerCount (k : Kids) : Nat := ((splitsL k).filter (fun s => !s.tip)).length

theorem innerCount_nil : innerCount [] = 0 := rfl

theorem innerCount_cons (e : EdgeD) (c : T) (r : Kids) :
    innerCount ((e, c) :: r) = (if c.isLeaf then 0 else 1) + innerCount c.kids + innerCount r := by
  obtain ⟨d, p, k⟩ := c
  simp only [innerCount, splitsL, T.splitsBelow, List.filter_cons, List.filter_append, T.kids_node]
  cases h : (T.node d p k).isLeaf <;> simp <;> omega

theorem internalEdges_length (t : T) : t.internalEdges.length = innerCount t.kids := by
  simp [T.internalEdges, T.splits, innerCount]

/-- the branches to the children `rest` of a node with three neighbours, and everything below -/
theorem enumL_length_par3 (isRoot : Bool) (pre : List Nat) (p : Nat) :
    ∀ (rest : Kids) (j : Nat), binaryL rest = true →
      (∀ et ∈ rest, ∀ pre', et.2.binaryBelow = true → (enumT false pre' et.2).length = 2 * innerCount et.2.kids) →
      (enumL isRoot pre p true j rest).length = 2 * innerCount rest := by
  intro rest
  induction rest with
  | nil => intro j _ _; simp [enumL, innerCount_nil]
  | cons ec rest ih =>
    obtain ⟨e, c⟩ := ec
    intro j hb IH
    simp only [binaryL, Bool.and_eq_true] at hb
    rw [enumL, innerCount_cons]
    simp only [List.length_append]
    rw [ih (j + 1) hb.2 (fun et het => IH et (by simp [het])), IH (e, c) (by simp) _ hb.1]
    obtain ⟨d2, p2, k2⟩ := c
    have hk2 := hb.1
    simp only [T.binaryBelow, Bool.and_eq_true, Bool.or_eq_true, beq_iff_eq] at hk2
    rcases hk2.1 with h0 | h2
    · have : k2 = [] := List.length_eq_zero_iff.mp h0
      subst this
      simp [T.isLeaf]
      omega
    · have hne : k2 ≠ [] := by intro h; simp [h] at h2
      simp [T.isLeaf, h2, hne]
      omega

/-- below a node that has not three neighbours (the root of a rooted tree) -/
theorem enumL_length_nopar (isRoot : Bool) (pre : List Nat) (p : Nat) :
    ∀ (rest : Kids) (j : Nat), binaryL rest = true →
      (∀ et ∈ rest, ∀ pre', et.2.binaryBelow = true → (enumT false pre' et.2).length = 2 * innerCount et.2.kids) →
      (enumL isRoot pre p false j rest).length + 2 * (rest.filter (fun et => !et.2.isLeaf)).length = 2 * innerCount rest := by
  intro rest
  induction rest with
  | nil => intro j _ _; simp [enumL, innerCount_nil]
  | cons ec rest ih =>
    obtain ⟨e, c⟩ := ec
    intro j hb IH
    simp only [binaryL, Bool.and_eq_true] at hb
    rw [enumL, innerCount_cons]
    simp only [List.length_append, Bool.false_and, Bool.false_eq_true, if_false, List.length_nil, Nat.zero_add]
    have h1 := ih (j + 1) hb.2 (fun et het => IH et (by simp [het]))
    rw [IH (e, c) (by simp) _ hb.1]
    cases hl : c.isLeaf <;> simp [hl] <;> omega

theorem enumT_length_below : ∀ (t : T) (pre : List Nat), t.binaryBelow = true →
    (enumT false pre t).length = 2 * innerCount t.kids := by
  intro t
  induction t using T.induct with
  | h d p k ih =>
    intro pre hb
    simp only [T.binaryBelow, Bool.and_eq_true, Bool.or_eq_true, beq_iff_eq] at hb
    rw [enumT]
    simp only [Bool.false_eq_true, if_false, T.kids_node]
    rcases hb.1 with h0 | h2
    · have : k = [] := List.length_eq_zero_iff.mp h0
      subst this
      simp [enumL, innerCount_nil]
    · rw [h2]
      exact enumL_length_par3 false pre p k 0 hb.2 (fun et het pre' hbe => ih et het pre' hbe)

/- ## any tree: two rearrangements per branch with both ends of degree three -/

open Gotree.C17.Spec in
theorem enumL_length_general (isRoot : Bool) (pre : List Nat) (p : Nat) (nn : Nat) :
    ∀ (rest : Kids) (j : Nat),
      (∀ et ∈ rest, ∀ pre', (enumT false pre' et.2).length =
        2 * ((endsBelow (et.2.kids.length + 1) et.2).filter fun q => q.1 == 3 && q.2 == 3).length) →
      (enumL isRoot pre p (nn == 3) j rest).length = 2 * ((endsL nn rest).filter fun q => q.1 == 3 && q.2 == 3).length := by
  intro rest
  induction rest with
  | nil => intro j _; simp [enumL, endsL]
  | cons ec rest ih =>
    obtain ⟨e, c⟩ := ec
    intro j IH
    rw [enumL, endsL]
    simp only [List.length_append, List.filter_cons, List.filter_append]
    rw [ih (j + 1) (fun et het => IH et (by simp [het])), IH (e, c) (by simp) _]
    by_cases h1 : nn = 3 <;> by_cases h2 : c.kids.length = 2 <;> simp [h1, h2] <;> omega

open Gotree.C17.Spec in
theorem enumT_length_general : ∀ (t : T) (pre : List Nat),
    (enumT false pre t).length = 2 * ((endsBelow (t.kids.length + 1) t).filter fun q => q.1 == 3 && q.2 == 3).length := by
  intro t
  induction t using T.induct with
  | h d p k ih =>
    intro pre
    rw [enumT, endsBelow]
    simp only [Bool.false_eq_true, if_false, T.kids_node]
    have : (k.length == 2) = (k.length + 1 == 3) := by
      by_cases h : k.length = 2 <;> simp [h]
    rw [this]
    exact enumL_length_general false pre p (k.length + 1) k 0 (fun et het pre' => ih et het pre')

/- ## half of the proposals have `cross = false` -/

theorem enumT_filter_cross : ∀ (t : T) (isRoot : Bool) (pre : List Nat),
    2 * ((enumT isRoot pre t).filter fun r => !r.cross).length = (enumT isRoot pre t).length := by
  intro t
  induction t using T.induct with
  | h d p k ih =>
    have key : ∀ (isRoot : Bool) (pre : List Nat) (p1 : Nat) (par3 : Bool) (rest : Kids), (∀ et ∈ rest, et ∈ k) → ∀ (j : Nat),
        2 * ((enumL isRoot pre p1 par3 j rest).filter fun r => !r.cross).length = (enumL isRoot pre p1 par3 j rest).length := by
      intro isRoot pre p1 par3 rest
      induction rest with
      | nil => intro _ j; simp [enumL]
      | cons ec rest ihr =>
        obtain ⟨e, c⟩ := ec
        intro hsub j
        have h1 : 2 * ((enumT false (pre ++ [j]) c).filter fun r => !r.cross).length = (enumT false (pre ++ [j]) c).length :=
          ih (e, c) (hsub _ (by simp)) false (pre ++ [j])
        have h2 := ihr (fun et het => hsub et (by simp [het])) (j + 1)
        rw [enumL]
        simp only [List.filter_append, List.length_append]
        by_cases hc : (par3 && c.kids.length == 2) = true
        · simp only [hc, if_true, newNNI, List.filter_cons, Bool.not_false, Bool.not_true, Bool.false_eq_true, if_false,
            List.filter_nil, List.length_cons, List.length_nil]
          omega
        · simp only [hc, Bool.false_eq_true, if_false, List.filter_nil, List.length_nil]
          omega
    intro isRoot pre
    rw [enumT]
    exact key isRoot pre p _ k (fun _ h => h) 0

end Gotree.C17

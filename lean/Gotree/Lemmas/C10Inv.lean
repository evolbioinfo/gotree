/-
  C10: the supports depend on a tree — bootstrap or reference — only through its
  set of splits, so not on its rooting nor on the order of its children.
-/
import Gotree.Lemmas.C10Supports

namespace Gotree.C10
open Gotree

/-! ## a bootstrap tree counts through its split set only -/

section anySide
variable {all : List String} {b b' : T}

theorem containsSplit_of_subSplits {side : List String} (hb' : ∀ s ∈ b'.splits, Side all s.below)
    (h : SubSplits all b.splits b'.splits) (hc : containsSplit all side b = true) :
    containsSplit all side b' = true := by
  unfold containsSplit at hc ⊢
  rw [List.any_eq_true] at hc ⊢
  obtain ⟨s, hs, h1⟩ := hc
  obtain ⟨s', hs', h2⟩ := h s hs
  exact ⟨s', hs', sameSplit_trans (hb' s' hs').sub h1 h2⟩

theorem minTransfer_le_of_subSplits {L : List String} (hall : all.Nodup) (hL : Side all L)
    (hb : ∀ s ∈ b.splits, Side all s.below) (hb' : ∀ s ∈ b'.splits, Side all s.below)
    (h : SubSplits all b.splits b'.splits) : minTransfer L all.length b' ≤ minTransfer L all.length b := by
  refine foldl_min_le_of _ _ _ fun x hx => ?_
  obtain ⟨s, hs, rfl⟩ := List.mem_map.1 hx
  obtain ⟨s', hs', hss⟩ := h s hs
  exact ⟨_, List.mem_map.2 ⟨s', hs', rfl⟩,
    Nat.le_of_eq (transferDist_congr hall hL (hb s hs) (hb' s' hs') hss).symm⟩

end anySide

theorem containsSplit_equiv {r b b' : T} (side : List String) (hb : treeOK b = true) (hb' : treeOK b' = true)
    (hT : sameTaxa r b = true) (hT' : sameTaxa r b' = true)
    (h : splitsEquiv r.tipNames b b' = true) :
    containsSplit r.tipNames side b = containsSplit r.tipNames side b' := by
  obtain ⟨h1, h2⟩ := splitsEquiv_iff.1 h
  rw [Bool.eq_iff_iff]
  exact ⟨containsSplit_of_subSplits (sides_of_sameTaxa hb' hT') h1,
    containsSplit_of_subSplits (sides_of_sameTaxa hb hT) h2⟩

theorem minTransfer_equiv {r b b' : T} (L : List String) (hr : r.tipNames.Nodup) (hL : Side r.tipNames L)
    (hb : treeOK b = true) (hb' : treeOK b' = true)
    (hT : sameTaxa r b = true) (hT' : sameTaxa r b' = true)
    (h : splitsEquiv r.tipNames b b' = true) :
    minTransfer L r.tipNames.length b = minTransfer L r.tipNames.length b' := by
  obtain ⟨h1, h2⟩ := splitsEquiv_iff.1 h
  have s := sides_of_sameTaxa hb hT
  have s' := sides_of_sameTaxa hb' hT'
  exact Nat.le_antisymm (minTransfer_le_of_subSplits hr hL s' s h2) (minTransfer_le_of_subSplits hr hL s s' h1)

/-! ## collections presented otherwise, tree by tree -/

/-- `bs'` is `bs` with every tree presented otherwise -/
def Repres (all : List String) : List T → List T → Prop
  | [], [] => True
  | b :: bs, b' :: bs' => splitsEquiv all b b' = true ∧ Repres all bs bs'
  | _, _ => False

theorem repres_refl (all : List String) : ∀ (bs : List T), Repres all bs bs
  | [] => trivial
  | b :: bs => ⟨splitsEquiv_refl all b, repres_refl all bs⟩

/-- a function that does not tell presentations apart takes the same values along both collections -/
theorem repres_map {all : List String} {γ : Type} (f : T → γ) : ∀ {bs bs' : List T},
    Repres all bs bs' →
    (∀ b ∈ bs, ∀ b' ∈ bs', splitsEquiv all b b' = true → f b = f b') → bs.map f = bs'.map f
  | [], [], _, _ => rfl
  | b :: bs, b' :: bs', h, hp => by
    have e := hp b (List.mem_cons_self ..) b' (List.mem_cons_self ..) h.1
    have ih := repres_map f (bs := bs) (bs' := bs') h.2
      (fun x hx y hy => hp x (List.mem_cons_of_mem _ hx) y (List.mem_cons_of_mem _ hy))
    simp [e, ih]
  | [], _ :: _, h, _ => by cases h
  | _ :: _, [], h, _ => by cases h

theorem repres_length {all : List String} {bs bs' : List T} (h : Repres all bs bs') : bs.length = bs'.length := by
  simpa using congrArg List.length (repres_map (fun _ => ()) h fun _ _ _ _ _ => rfl)

theorem repres_filter_length {all : List String} (P : T → Bool) {bs bs' : List T} (h : Repres all bs bs')
    (hp : ∀ b ∈ bs, ∀ b' ∈ bs', splitsEquiv all b b' = true → P b = P b') :
    (bs.filter P).length = (bs'.filter P).length := by
  simpa [← List.countP_eq_length_filter, List.countP_map, Function.comp_def] using
    congrArg (List.countP id) (repres_map P h hp)

theorem expected_repres (r : T) (bs bs' : List T) (h : hypOK r bs = true) (h' : hypOK r bs' = true)
    (hrep : Repres r.tipNames bs bs') :
    fbpExpected r bs = fbpExpected r bs' ∧ tbeExpected r bs = tbeExpected r bs' := by
  obtain ⟨hr, _, hb⟩ := hypOK_facts h
  obtain ⟨_, _, hb'⟩ := hypOK_facts h'
  have fr := treeOK_facts r hr
  constructor
  · refine List.map_congr_left fun s _ => ?_
    unfold fbpOf fbpSpec
    rw [repres_length hrep, repres_filter_length _ hrep fun b hbm b' hbm' he =>
      containsSplit_equiv s.below (hb b hbm).1 (hb' b' hbm').1 (hb b hbm).2 (hb' b' hbm').2 he]
  · refine List.map_congr_left fun s hs => ?_
    unfold tbeOf tbeSpec
    simp only []
    rw [repres_length hrep, repres_map _ hrep fun b hbm b' hbm' he =>
      minTransfer_equiv _ fr.nodup ((fr.side s hs).lightSide fr.nodup)
        (hb b hbm).1 (hb' b' hbm').1 (hb b hbm).2 (hb' b' hbm').2 he]

/-! ## the reference presented otherwise -/

theorem hypOK_reference {r r' : T} {bs : List T} (h : hypOK r bs = true) (hr' : treeOK r' = true)
    (hT : sameTaxa r r' = true) : hypOK r' bs = true := by
  obtain ⟨_, hne, hb⟩ := hypOK_facts h
  have t := sameTaxa_iff.1 hT
  exact hypOK_of hr' hne fun b hbm =>
    ⟨(hb b hbm).1, sameTaxa_iff.2 fun x => (t x).symm.trans (sameTaxa_iff.1 (hb b hbm).2 x)⟩

/-- the same unrooted reference, the same branch: the same two supports -/
theorem spec_reference_equiv (r r' : T) (bs : List T) (h : hypOK r bs = true) (hr' : treeOK r' = true)
    (hT : sameTaxa r r' = true) (s s' : SplitE) (hs : s ∈ r.splits) (hs' : s' ∈ r'.splits)
    (hss : sameSplit r.tipNames s.below s'.below = true) :
    depth r.tipNames s.below = depth r'.tipNames s'.below ∧
    fbpSpec r.tipNames s.below bs = fbpSpec r'.tipNames s'.below bs ∧
    tbeSpec r.tipNames s.below bs = tbeSpec r'.tipNames s'.below bs := by
  obtain ⟨hr, _, hb⟩ := hypOK_facts h
  have fr := treeOK_facts r hr
  have fr' := treeOK_facts r' hr'
  have t := sameTaxa_iff.1 hT
  have hS := fr.side s hs
  have hS' := sides_of_sameTaxa hr' hT s' hs'
  have hlen : r.tipNames.length = r'.tipNames.length := length_eq_of_mem_iff fr.nodup fr'.nodup t
  have hd : depth r.tipNames s.below = depth r'.tipNames s'.below := by
    rw [depth_of_sameSplit fr.nodup hS hS' hss]
    unfold depth; rw [hlen]
  -- the light sides define the same split
  have hL := hS.lightSide fr.nodup
  have hL' : Side r.tipNames (lightSide r'.tipNames s'.below) :=
    ((fr'.side s' hs').lightSide fr'.nodup).congr fun x => (t x).symm
  have hLL : sameSplit r.tipNames (lightSide r.tipNames s.below) (lightSide r'.tipNames s'.below) = true := by
    have a2 := sameSplit_lightSide_self r'.tipNames s'.below
    rw [← sameSplit_congr_all t] at a2
    exact sameSplit_trans hL'.sub (sameSplit_trans hS'.sub (sameSplit_lightSide_self _ _) hss)
      (sameSplit_symm hS'.sub a2)
  have hLlen : (lightSide r.tipNames s.below).length = (lightSide r'.tipNames s'.below).length := by
    rw [lightSide_length fr.nodup hS, lightSide_length fr'.nodup (fr'.side s' hs'), hd]
  have hc : ∀ b ∈ bs, containsSplit r.tipNames s.below b = containsSplit r'.tipNames s'.below b := by
    intro b hbm
    have hbs := sides_of_sameTaxa (hb b hbm).1 (hb b hbm).2
    unfold containsSplit
    rw [Bool.eq_iff_iff, List.any_eq_true, List.any_eq_true]
    constructor
    · rintro ⟨c, hc, h1⟩
      refine ⟨c, hc, ?_⟩
      rw [← sameSplit_congr_all t]
      exact sameSplit_trans (hbs c hc).sub (sameSplit_symm hS'.sub hss) h1
    · rintro ⟨c, hc, h1⟩
      rw [← sameSplit_congr_all t] at h1
      exact ⟨c, hc, sameSplit_trans (hbs c hc).sub hss h1⟩
  have hm : ∀ b ∈ bs, minTransfer (lightSide r.tipNames s.below) r.tipNames.length b =
      minTransfer (lightSide r'.tipNames s'.below) r'.tipNames.length b := by
    intro b hbm
    have hbs := sides_of_sameTaxa (hb b hbm).1 (hb b hbm).2
    unfold minTransfer
    rw [hLlen, ← hlen]
    congr 1
    exact List.map_congr_left fun c hc => transferDist_congr_left fr.nodup hL hL' (hbs c hc) hLL
  refine ⟨hd, ?_, ?_⟩
  · unfold fbpSpec
    rw [List.filter_congr hc]
  · unfold tbeSpec
    simp only []
    rw [List.map_congr_left hm, hLlen]

end Gotree.C10

/-
  C13 — PhyloXML: decoding the element the encoder writes for a tree, in the writer's spelling and in the
  alternative ones; Nextstrain JSON.
-/
import Gotree.Lemmas.C13
import Gotree.Model.C13PxForms
import Gotree.Model.C13NsSpec

namespace Gotree.C13
open Gotree
open Px

mutual
/-- the `Clade` struct that `xml.Unmarshal` builds from what `writeClade` wrote -/
def cladeOf : Option EdgeD → T → Clade
  | oe, .node d _ k =>
    .mk d.name
      (match oe with | none => none | some e => if e.len != NIL then some e.len else none)
      (match oe with | none => none | some e => if !k.isEmpty && e.sup != NIL then some e.sup else none)
      "" "" (cladesOf k)
def cladesOf : Kids → List Clade
  | [] => []
  | (e, t) :: r => cladeOf (some e) t :: cladesOf r
end

/- ### renumbering does not touch what is kept -/

mutual
theorem strip_renumberGo : ∀ (t : T) (n : Nat), strip (renumberGo t n).1 = strip t
  | .node d p k, n => by
    simp only [renumberGo, strip]
    rw [stripL_renumberL k n]
theorem stripL_renumberL : ∀ (k : Kids) (n : Nat), stripL (renumberL k n).1 = stripL k
  | [], _ => rfl
  | (e, t) :: r, n => by
    simp only [renumberL, stripL]
    rw [strip_renumberGo t (n + 1), stripL_renumberL r _]
end

theorem strip_renumber (t : T) : strip (renumber t) = strip t := strip_renumberGo t 0

/- ### cladeToTree ∘ cladeOf -/

theorem toT_eq (name : String) (bl conf : Option Rat) (k : List Clade) :
    Clade.toT (.mk name bl conf "" "" k) = .node ⟨name, []⟩ 0 (toKids k) := by
  simp only [Clade.toT, Clade.label]
  by_cases h : name = "" <;> simp [h]

mutual
theorem strip_toT : ∀ (p : Rat → Bool) (oe : Option EdgeD) (t : T), pxKids p t.kids = true →
    strip (cladeOf oe t).toT = strip t
  | p, oe, .node d pp k, h => by
    simp only [cladeOf, toT_eq, strip]
    rw [stripL_toKids p k h]
theorem stripL_toKids : ∀ (p : Rat → Bool) (k : Kids), pxKids p k = true → stripL (toKids (cladesOf k)) = stripL k
  | _, [], _ => rfl
  | p, (e, .node d pp k) :: r, h => by
    simp only [pxKids, pxNode, Bool.and_eq_true] at h
    have ih1 := strip_toT p (some e) (.node d pp k) h.1.2
    have ih2 := stripL_toKids p r h.2
    simp only [cladeOf] at ih1
    simp only [cladesOf, cladeOf, toKids, stripL, ih1, ih2]
    congr 2
    cases k with
    | nil =>
      have hs : e.sup = NIL := by have := h.1.1.2; simp at this; exact this.2
      simp only [cladesOf, hs]
      by_cases hl : e.len = NIL <;> simp [hl]
    | cons x k' =>
      obtain ⟨ex, tx⟩ := x
      simp only [cladesOf]
      by_cases hl : e.len = NIL <;> by_cases hs : e.sup = NIL <;> simp [hl, hs]
end

/- ### decode ∘ encode at element level -/

theorem chardata_txt (s : Txt) : (chardata [txt s]).toList = s := by
  simp [chardata, txt]

theorem childrenTagged_append (tag : String) (a b : List Xml) :
    childrenTagged tag (a ++ b) = childrenTagged tag a ++ childrenTagged tag b := by
  simp [childrenTagged]

theorem decKids_skip (N : NumCodec) (a : List Xml) (K : List Xml) (h : childrenTagged "clade" a = []) :
    decKids N (a ++ K) = decKids N K := by
  induction a with
  | nil => rfl
  | cons x r ih =>
    simp only [childrenTagged, List.filter_cons] at h
    split at h
    · simp at h
    · rename_i hx
      simp only [List.cons_append, decKids, hx]
      exact ih h

def blOf (oe : Option EdgeD) : Option Rat :=
  match oe with | none => none | some e => if e.len != NIL then some e.len else none
def confOf (oe : Option EdgeD) (k : Kids) : Option Rat :=
  match oe with | none => none | some e => if !k.isEmpty && e.sup != NIL then some e.sup else none

theorem cladeOf_eq (oe : Option EdgeD) (d : NodeD) (p : Nat) (k : Kids) :
    cladeOf oe (.node d p k) = .mk d.name (blOf oe) (confOf oe k) "" "" (cladesOf k) := by
  cases oe <;> simp [cladeOf, blOf, confOf]

/-- the numbers written for a node are in the codec's domain -/
def oeOK (p : Rat → Bool) (oe : Option EdgeD) (k : Kids) : Prop :=
  (∀ q, blOf oe = some q → p q = true) ∧ (∀ q, confOf oe k = some q → p q = true)

theorem oeOK_of_pxNode (p : Rat → Bool) (e : EdgeD) (d : NodeD) (pp : Nat) (k : Kids)
    (h : pxNode p e (.node d pp k) = true) : oeOK p (some e) k := by
  simp only [pxNode, Bool.and_eq_true, Bool.or_eq_true, beq_iff_eq] at h
  constructor <;> intro q hq
  · simp only [blOf, bne_iff_ne, ne_eq, Option.ite_none_right_eq_some, Option.some.injEq] at hq
    exact hq.2 ▸ h.1.1.resolve_left hq.1
  · cases k with
    | nil => simp [confOf] at hq
    | cons x r =>
      simp only [confOf, List.isEmpty_cons, Bool.not_false, Bool.true_and, bne_iff_ne, ne_eq,
        Option.ite_none_right_eq_some, Option.some.injEq] at hq
      have h2 := h.1.2
      simp only [Bool.or_eq_true, beq_iff_eq] at h2
      exact hq.2 ▸ h2.resolve_left hq.1

/- # the other spellings of a clade (`Model/C13PxForms.lean`) -/

/-- the `name`, `scientific_name`, `code` fields `xml.Unmarshal` fills for a name written in style `s` -/
def nmOf (s : NameStyle) (n : String) : String :=
  match s with | .name | .nameTax | .twice => n | _ => ""
def sciOf (s : NameStyle) (n : String) : String :=
  match s with | .sci | .sciCode => n | .nameTax => (if n != "" then "Y y" else "") | _ => ""
def codeOf (s : NameStyle) (n : String) : String :=
  match s with | .code => n | .sciCode | .nameTax => (if n != "" then "ZZZ" else "") | _ => ""

mutual
def cladeAlt (sty : String → NameStyle) : Option EdgeD → T → Clade
  | oe, .node d _ k =>
    .mk (nmOf (sty d.name) d.name) (blOf oe) (confOf oe k) (sciOf (sty d.name) d.name) (codeOf (sty d.name) d.name)
      (cladesAlt sty k)
def cladesAlt (sty : String → NameStyle) : Kids → List Clade
  | [] => []
  | (e, t) :: r => cladeAlt sty (some e) t :: cladesAlt sty r
end

theorem label_alt (s : NameStyle) (n : String) (bl conf : Option Rat) :
    (Clade.mk (nmOf s n) bl conf (sciOf s n) (codeOf s n) []).label = n := by
  cases s <;> by_cases h : n = "" <;> simp [Clade.label, nmOf, sciOf, codeOf, h]

/- ### cladeToTree gives the same tree as for gotree's own form -/

theorem cladesAlt_isEmpty (sty : String → NameStyle) (k : Kids) : (cladesAlt sty k).isEmpty = (cladesOf k).isEmpty := by
  cases k with
  | nil => rfl
  | cons x r => obtain ⟨e, t⟩ := x; rfl

mutual
theorem toT_alt (sty : String → NameStyle) : ∀ (oe : Option EdgeD) (t : T), (cladeAlt sty oe t).toT = (cladeOf oe t).toT
  | oe, .node d p k => by
    rw [cladeOf_eq]
    simp only [cladeAlt, Clade.toT, label_alt]
    rw [toKids_alt sty k]
    simp [Clade.label]
theorem toKids_alt (sty : String → NameStyle) : ∀ (k : Kids), toKids (cladesAlt sty k) = toKids (cladesOf k)
  | [] => rfl
  | (e, .node d p kk) :: r => by
    have h1 := toT_alt sty (some e) (.node d p kk)
    have h2 := toKids_alt sty r
    rw [cladeOf_eq] at h1
    simp only [cladeAlt] at h1
    simp only [cladesAlt, cladesOf, cladeAlt, cladeOf_eq, toKids, h1, h2]
    congr 2
    cases kk with
    | nil => rfl
    | cons x r' => obtain ⟨e', t'⟩ := x; rfl
end

mutual
theorem tipsNamed_cladeAlt (sty : String → NameStyle) : ∀ (p : Rat → Bool) (oe : Option EdgeD) (t : T),
    (!t.kids.isEmpty || t.name != "") = true → pxKids p t.kids = true → (cladeAlt sty oe t).tipsNamed = true
  | p, oe, .node d pp [], hroot, _ => by
    simp [T.name] at hroot
    cases hs : sty d.name <;> simp [cladeAlt, cladesAlt, Clade.tipsNamed, tipsNamedL, nmOf, sciOf, codeOf, hs, hroot]
  | p, oe, .node d pp ((e, t) :: r), _, hk => by
    simp only [cladeAlt, cladesAlt, Clade.tipsNamed, Bool.true_and]
    exact tipsNamedL_cladesAlt sty p ((e, t) :: r) hk
theorem tipsNamedL_cladesAlt (sty : String → NameStyle) : ∀ (p : Rat → Bool) (k : Kids),
    pxKids p k = true → tipsNamedL (cladesAlt sty k) = true
  | _, [], _ => rfl
  | p, (e, .node d pp k) :: r, h => by
    simp only [pxKids, pxNode, Bool.and_eq_true] at h
    simp only [cladesAlt, tipsNamedL, Bool.and_eq_true]
    refine ⟨tipsNamed_cladeAlt sty p (some e) (.node d pp k) ?_ h.1.2, tipsNamedL_cladesAlt sty p r h.2⟩
    -- a tip below the root is named (`pxNode`)
    cases k with
    | nil =>
      have := h.1.1.2
      simp at this
      simp [T.name, this.1]
    | cons _ _ => simp
end

/- ### decoding -/

theorem ct_nameAlt_other (s : NameStyle) (n tag : String) (h1 : tag ≠ "name") (h2 : tag ≠ "taxonomy") :
    childrenTagged tag (nameElemsAlt s n) = [] := by
  have e1 : (some "name" == some tag) = false := by simp; exact fun h => h1 h.symm
  have e2 : (some "taxonomy" == some tag) = false := by simp; exact fun h => h2 h.symm
  cases s <;> by_cases h : n = "" <;> simp [nameElemsAlt, childrenTagged, el, Xml.tag?, h, e1, e2]

theorem strField_nameAlt (s : NameStyle) (n : String) :
    (match (childrenTagged "name" (nameElemsAlt s n)).getLast? with
     | none => some ""
     | some x => some (chardata x.kids)) = some (nmOf s n) := by
  cases s <;> by_cases h : n = "" <;>
    simp [nameElemsAlt, childrenTagged, el, Xml.tag?, h, nmOf, chardata, Xml.kids]

theorem taxFields_nameAlt (s : NameStyle) (n : String) :
    taxFields (childrenTagged "taxonomy" (nameElemsAlt s n)) ("", "") = (sciOf s n, codeOf s n) := by
  cases s <;> by_cases h : n = "" <;>
    simp [nameElemsAlt, childrenTagged, el, Xml.tag?, h, sciOf, codeOf, taxFields, chardata, Xml.kids]

theorem junk_tag (junk : List Xml) (h : junkOK junk = true) (tag : String)
    (ht : tag = "name" ∨ tag = "branch_length" ∨ tag = "confidence" ∨ tag = "taxonomy" ∨ tag = "clade") :
    childrenTagged tag junk = [] := by
  simp only [junkOK, List.all_cons, List.all_nil, Bool.and_true, Bool.and_eq_true, List.isEmpty_iff] at h
  rcases ht with h' | h' | h' | h' | h' <;> subst h'
  · exact h.1
  · exact h.2.1
  · exact h.2.2.1
  · exact h.2.2.2.1
  · exact h.2.2.2.2

/- ### white space around the numbers -/

theorem trim_pad (padL padR s : Txt) (hl : padOK padL = true) (hr : padOK padR = true) :
    trim (padL ++ (s ++ padR)) = trim s := by
  simp only [padOK, List.all_eq_true] at hl hr
  simp only [trim, List.dropWhile_append_of_pos hl, List.dropWhile_append (xs := s)]
  split
  · rename_i hu
    rw [List.isEmpty_iff.1 hu, ← List.append_nil padR, List.dropWhile_append_of_pos hr]
    rfl
  · rw [List.reverse_append, List.dropWhile_append_of_pos fun c hc => hr c (List.mem_reverse.1 hc)]

def blElemsP (N : NumCodec) (padL padR : Txt) : Option Rat → List Xml
  | some q => [.elem "branch_length" [] [txt (padL ++ (N.fmt q ++ padR))]]
  | none => []
def confElemsP (N : NumCodec) (padL padR : Txt) : Option Rat → List Xml
  | some q => [.elem "confidence" [("type", "bootstrap")] [txt (padL ++ (N.fmt q ++ padR))]]
  | none => []

theorem ct_blP (N : NumCodec) (padL padR : Txt) (tag : String) (bl : Option Rat) :
    childrenTagged tag (blElemsP N padL padR bl) = if tag = "branch_length" then blElemsP N padL padR bl else [] := by
  unfold blElemsP childrenTagged
  cases bl <;> by_cases ht : tag = "branch_length" <;> simp [ht, Xml.tag?]
  exact fun h => ht h.symm

theorem ct_confP (N : NumCodec) (padL padR : Txt) (tag : String) (c : Option Rat) :
    childrenTagged tag (confElemsP N padL padR c) = if tag = "confidence" then confElemsP N padL padR c else [] := by
  unfold confElemsP childrenTagged
  cases c <;> by_cases ht : tag = "confidence" <;> simp [ht, Xml.tag?]
  exact fun h => ht h.symm

/-- decoding one `<clade>` element: unknown elements, the name in some style, optional branch length,
    optional confidence, then sub-clades `K` that decode to `cs` -/
theorem decClade_elem_alt (N : NumCodec) (NL : NumLaws N) (junk : List Xml) (hj : junkOK junk = true)
    (padL padR : Txt) (hpl : padOK padL = true) (hpr : padOK padR = true)
    (s : NameStyle) (name : String) (bl conf : Option Rat) (K : List Xml) (cs : List Clade)
    (hbl : ∀ q, bl = some q → NL.dom q = true) (hconf : ∀ q, conf = some q → NL.dom q = true)
    (hK : decKids N K = .ok cs) (hKt : ∀ tag, tag ≠ "clade" → childrenTagged tag K = []) :
    decClade N (.elem "clade" [] (junk ++ (nameElemsAlt s name ++ (blElemsP N padL padR bl ++ confElemsP N padL padR conf) ++ K))) =
      .ok (.mk (nmOf s name) bl conf (sciOf s name) (codeOf s name) cs) := by
  obtain ⟨E, hE⟩ : ∃ E, E = junk ++ (nameElemsAlt s name ++ (blElemsP N padL padR bl ++ confElemsP N padL padR conf) ++ K) :=
    ⟨_, rfl⟩
  -- what `E` holds under each tag the decoder asks for
  have hct : ∀ tag, tag ≠ "clade" → childrenTagged tag E = childrenTagged tag junk ++ (childrenTagged tag (nameElemsAlt s name) ++
      ((if tag = "branch_length" then blElemsP N padL padR bl else []) ++ (if tag = "confidence" then confElemsP N padL padR conf else []))) := by
    intro tag ht
    simp only [hE, childrenTagged_append, ct_blP, ct_confP, hKt tag ht, List.append_nil]
  have hdk : decKids N E = .ok cs := by
    rw [hE, decKids_skip N _ _ (junk_tag junk hj "clade" (by simp)), decKids_skip N _ K, hK]
    simp only [childrenTagged_append, ct_blP, ct_confP, ct_nameAlt_other s name "clade" (by decide) (by decide)]
    simp
  have hname : strField "name" E = some (nmOf s name) := by
    unfold strField
    rw [hct "name" (by decide), junk_tag junk hj "name" (by simp)]
    simp only [List.nil_append, String.reduceEq, if_false, List.append_nil]
    exact strField_nameAlt s name
  have hblf : floatField N "branch_length" E = (match bl with | some q => .val q | none => .absent) := by
    unfold floatField
    rw [hct "branch_length" (by decide), junk_tag junk hj "branch_length" (by simp),
      ct_nameAlt_other s name "branch_length" (by decide) (by decide)]
    cases bl with
    | none => simp [blElemsP]
    | some q => simp [blElemsP, floatVals, Xml.kids, chardata_txt, trim_pad _ _ _ hpl hpr, NL.parse_fmt q (hbl q rfl)]
  have hcf : floatField N "confidence" E = (match conf with | some q => .val q | none => .absent) := by
    unfold floatField
    rw [hct "confidence" (by decide), junk_tag junk hj "confidence" (by simp),
      ct_nameAlt_other s name "confidence" (by decide) (by decide)]
    cases conf with
    | none => simp [confElemsP]
    | some q => simp [confElemsP, floatVals, Xml.kids, chardata_txt, trim_pad _ _ _ hpl hpr, NL.parse_fmt q (hconf q rfl)]
  have htax : childrenTagged "taxonomy" E = childrenTagged "taxonomy" (nameElemsAlt s name) := by
    rw [hct "taxonomy" (by decide), junk_tag junk hj "taxonomy" (by simp)]
    simp
  rw [← hE, decClade]
  simp only [hname, hblf, hcf, htax, taxFields_nameAlt, hdk]
  cases bl <;> cases conf <;> rfl

theorem encCladeAlt_eq (N : NumCodec) (sty : String → NameStyle) (junk : List Xml) (padL padR : Txt) (oe : Option EdgeD) (d : NodeD) (p : Nat) (k : Kids) :
    encCladeAlt N sty junk padL padR oe (.node d p k) =
      .elem "clade" [] (junk ++ (nameElemsAlt (sty d.name) d.name ++ (blElemsP N padL padR (blOf oe) ++ confElemsP N padL padR (confOf oe k)) ++
        encKidsAlt N sty junk padL padR k)) := by
  cases oe with
  | none => simp [encCladeAlt, blElemsP, confElemsP, blOf, confOf]
  | some e =>
    simp only [encCladeAlt, blOf, confOf]
    by_cases hl : e.len = NIL <;> by_cases hs : (!k.isEmpty && e.sup != NIL) = true <;>
      simp [hl, hs, blElemsP, confElemsP]

theorem encCladeAlt_tag (N : NumCodec) (sty : String → NameStyle) (junk : List Xml) (padL padR : Txt) (oe : Option EdgeD) :
    ∀ t : T, (encCladeAlt N sty junk padL padR oe t).tag? = some "clade"
  | .node d p k => by rw [encCladeAlt_eq]; rfl

theorem childrenTagged_encKidsAlt (N : NumCodec) (sty : String → NameStyle) (junk : List Xml) (padL padR : Txt) (tag : String)
    (h : tag ≠ "clade") (k : Kids) : childrenTagged tag (encKidsAlt N sty junk padL padR k) = [] := by
  induction k with
  | nil => rfl
  | cons et r ih =>
    have : (some "clade" == some tag) = false := by simpa using fun h' => h h'.symm
    simp only [childrenTagged] at ih
    simp [encKidsAlt, childrenTagged, encCladeAlt_tag, this, ih]

mutual
theorem dec_encAlt_clade (N : NumCodec) (NL : NumLaws N) (sty : String → NameStyle) (junk : List Xml) (hj : junkOK junk = true)
    (padL padR : Txt) (hpl : padOK padL = true) (hpr : padOK padR = true) :
    ∀ (oe : Option EdgeD) (t : T),
    oeOK NL.dom oe t.kids → pxKids NL.dom t.kids = true →
    decClade N (encCladeAlt N sty junk padL padR oe t) = .ok (cladeAlt sty oe t)
  | oe, .node d p k, ho, hk => by
    rw [encCladeAlt_eq]
    simp only [cladeAlt]
    exact decClade_elem_alt N NL junk hj padL padR hpl hpr (sty d.name) d.name (blOf oe) (confOf oe k) (encKidsAlt N sty junk padL padR k)
      (cladesAlt sty k) ho.1 ho.2
      (dec_encAlt_kids N NL sty junk hj padL padR hpl hpr k hk) (fun tag ht => childrenTagged_encKidsAlt N sty junk padL padR tag ht k)
theorem dec_encAlt_kids (N : NumCodec) (NL : NumLaws N) (sty : String → NameStyle) (junk : List Xml) (hj : junkOK junk = true)
    (padL padR : Txt) (hpl : padOK padL = true) (hpr : padOK padR = true) :
    ∀ (k : Kids), pxKids NL.dom k = true →
    decKids N (encKidsAlt N sty junk padL padR k) = .ok (cladesAlt sty k)
  | [], _ => rfl
  | (e, .node d p kk) :: r, h => by
    simp only [pxKids, Bool.and_eq_true] at h
    have hn := h.1
    have h1 := dec_encAlt_clade N NL sty junk hj padL padR hpl hpr (some e) (.node d p kk) (oeOK_of_pxNode NL.dom e d p kk hn)
      (by simp only [pxNode, Bool.and_eq_true] at hn; exact hn.2)
    have h2 := dec_encAlt_kids N NL sty junk hj padL padR hpl hpr r h.2
    simp only [encKidsAlt, cladesAlt, decKids, encCladeAlt_tag, beq_self_eq_true, if_true, h1, h2]
end

/- ### gotree's own form is the spelling `<name>` without unknown elements and padding -/

mutual
theorem cladeAlt_name : ∀ (oe : Option EdgeD) (t : T), cladeAlt (fun _ => .name) oe t = cladeOf oe t
  | oe, .node d p k => by
    rw [cladeOf_eq]
    simp only [cladeAlt, nmOf, sciOf, codeOf]
    rw [cladesAlt_name k]
theorem cladesAlt_name : ∀ k : Kids, cladesAlt (fun _ => .name) k = cladesOf k
  | [] => rfl
  | (e, t) :: r => by simp only [cladesAlt, cladesOf]; rw [cladeAlt_name (some e) t, cladesAlt_name r]
end

mutual
theorem encCladeAlt_name (N : NumCodec) : ∀ (oe : Option EdgeD) (t : T),
    encCladeAlt N (fun _ => .name) [] [] [] oe t = encClade N oe t
  | oe, .node d p k => by
    cases oe <;>
      simp only [encCladeAlt, encClade, nameElemsAlt, el, List.nil_append, List.append_nil, encKidsAlt_name N k]
theorem encKidsAlt_name (N : NumCodec) : ∀ k : Kids, encKidsAlt N (fun _ => .name) [] [] [] k = encKids N k
  | [] => rfl
  | (e, t) :: r => by simp only [encKidsAlt, encKids]; rw [encCladeAlt_name N (some e) t, encKidsAlt_name N r]
end

theorem encodeAlt_name (N : NumCodec) (ts : List T) : encodeAlt N (fun _ => .name) [] [] [] ts = encode N ts := by
  have : encPhylogenyAlt N (fun _ => .name) [] [] [] = encPhylogeny N :=
    funext fun t => by simp only [encPhylogenyAlt, encPhylogeny, encCladeAlt_name]
  simp only [encodeAlt, encode, this]

theorem dec_enc_kids (N : NumCodec) (NL : NumLaws N) : ∀ (k : Kids), pxKids NL.dom k = true →
    decKids N (encKids N k) = .ok (cladesOf k) := fun k h => by
  rw [← encKidsAlt_name, ← cladesAlt_name]
  exact dec_encAlt_kids N NL _ [] rfl [] [] rfl rfl k h

end Gotree.C13

namespace Gotree.C13
open Gotree

/- # Nextstrain: the reader model on the document that describes a tree -/

mutual
theorem ns_tipsNamed : ∀ (div : Rat) (t : T), nsNodeOK t = true → (nsOf div t).tipsNamed = true
  | div, .node d p k, h => by
    simp only [nsNodeOK, Bool.and_eq_true] at h
    simp only [nsOf, Ns.Node.tipsNamed, Bool.and_eq_true]
    refine ⟨?_, ns_tipsNamedL div k h.2⟩
    cases k with
    | nil => simpa [nsKids] using h.1
    | cons x r => obtain ⟨e, t⟩ := x; simp [nsKids]
theorem ns_tipsNamedL : ∀ (div : Rat) (k : Kids), nsKidsOK k = true → Ns.tipsNamedL (nsKids div k) = true
  | _, [], _ => rfl
  | div, (e, t) :: r, h => by
    simp only [nsKidsOK, Bool.and_eq_true] at h
    simp only [nsKids, Ns.tipsNamedL, Bool.and_eq_true]
    exact ⟨ns_tipsNamed _ t h.1.2, ns_tipsNamedL div r h.2⟩
end

mutual
theorem ns_strip : ∀ (div : Rat) (t : T), nsNodeOK t = true → strip (nsOf div t).toT = strip t
  | div, .node d p k, h => by
    simp only [nsNodeOK, Bool.and_eq_true] at h
    simp only [nsOf, Ns.Node.toT, strip]
    rw [ns_stripL div k h.2]
theorem ns_stripL : ∀ (div : Rat) (k : Kids), nsKidsOK k = true → stripL (Ns.toKids div (nsKids div k)) = stripL k
  | _, [], _ => rfl
  | div, (e, .node d p kk) :: r, h => by
    simp only [nsKidsOK, Bool.and_eq_true, beq_iff_eq] at h
    have h1 := ns_strip (div + e.len) (.node d p kk) h.1.2
    have h2 := ns_stripL div r h.2
    simp only [nsOf] at h1
    have e1 : div + e.len - div = e.len := by rw [Rat.add_comm, Rat.add_sub_cancel]
    simp only [nsKids, nsOf, Ns.toKids, stripL, h1, h2, e1, h.1.1]
end

end Gotree.C13

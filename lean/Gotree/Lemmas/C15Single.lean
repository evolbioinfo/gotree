/-
  C15 — `RemoveSingleNodes`.  What it does to the split list is a relation of its own (`Fuses`):
  entries are kept, or fused with the entry of an only child, and reordered.  One induction over
  `rsNode`/`rsKids` establishes it; path lengths, admissible lengths and the unrooted split map
  (`Spec/Splits.lean`, shared library `Lemmas/C05Splits.lean`) then follow from `Fuses` alone.
  Core Lean only.
-/
import Gotree.Lemmas.C15

namespace Gotree.C15
open Gotree Gotree.C14

/-- `math.Max(0, l)`: what the length rule of the code adds -/
def wPos (e : EdgeD) : Rat := max 0 e.len

theorem wPos_fuse (ec e : EdgeD) : wPos (fuseEdge fuseLenGo ec e) = wPos ec + wPos e := by
  have hn : NIL = (-1 : Rat) := rfl
  simp only [wPos, fuseEdge, fuseLenGo]
  split
  · grind
  · rename_i h
    simp only [Bool.or_eq_true, bne_iff_ne, ne_eq, not_or, Decidable.not_not] at h
    rw [h.1, h.2, hn]; grind

/-- a length the generator draws / the property is about: absent or ≥ 0 -/
def okE (e : EdgeD) : Prop := e.len = NIL ∨ 0 ≤ e.len

theorem okE_iff_goodL (e : EdgeD) : okE e ↔ GoodL e.len := Iff.rfl

theorem okE_fuse (ec e : EdgeD) : okE (fuseEdge fuseLenGo ec e) := by
  simp only [okE, fuseEdge, fuseLenGo]
  split
  · right; grind
  · rename_i h
    simp only [Bool.or_eq_true, bne_iff_ne, ne_eq, not_or, Decidable.not_not] at h
    exact Or.inl h.1

theorem rsKids_cons (fl : Rat → Rat → Rat) (e : EdgeD) (t : T) (r : Kids) (pp i : Nat) :
    rsKids fl ((e, t) :: r) pp i =
      match (rsNode fl t).kids with
      | [(ec, c)] => ((rsKids fl r pp (i + 1)).1, (fuseEdge fl ec e, c) :: (rsKids fl r pp (i + 1)).2.1,
          (rsKids fl r pp (i + 1)).2.2 + (if i < pp then 1 else 0))
      | _ => ((e, rsNode fl t) :: (rsKids fl r pp (i + 1)).1, (rsKids fl r pp (i + 1)).2.1, (rsKids fl r pp (i + 1)).2.2) := by
  simp only [rsKids]
  rcases (rsNode fl t).kids with _ | ⟨⟨ec, c⟩, _ | ⟨y, ys⟩⟩ <;> rfl

theorem rsNode_eq (fl : Rat → Rat → Rat) (d : NodeD) (p : Nat) (k : Kids) :
    rsNode fl (.node d p k) = .node d (p - (rsKids fl k p 0).2.2) ((rsKids fl k p 0).1 ++ (rsKids fl k p 0).2.1) := by
  simp [rsNode]

/-! ## the effect on the split list -/

/-- `Fuses fl l l'`: `l'` is `l` after some entries have been fused with the entry of an only child.
    `keep`: a branch that stays (the leaves below it may come in another order);
    `fuse`: the branch `s` above a removed node and the branch `c` below it — same leaves — become
    one branch carrying `fuseEdge fl c.e s.e`; the rest is bookkeeping (children are re-appended
    at the end of their parent's slice). -/
inductive Fuses (fl : Rat → Rat → Rat) : List SplitE → List SplitE → Prop
  | nil : Fuses fl [] []
  | keep {s s' : SplitE} {l l' : List SplitE} : s'.e = s.e → s'.below.Perm s.below → Fuses fl l l' →
      Fuses fl (s :: l) (s' :: l')
  | fuse {s c : SplitE} {l l' : List SplitE} : c.below.Perm s.below → Fuses fl l (c :: l') →
      Fuses fl (s :: l) (⟨c.below, fuseEdge fl c.e s.e, c.tip⟩ :: l')
  | append {a a' b b' : List SplitE} : Fuses fl a a' → Fuses fl b b' → Fuses fl (a ++ b) (a' ++ b')
  | perm {l l' l'' : List SplitE} : Fuses fl l l' → l'.Perm l'' → Fuses fl l l''

/-- what the induction carries for the children of one node; `r` is the result of `rsKids` -/
structure RsK (fl : Rat → Rat → Rat) (k : Kids) (r : Kids × Kids × Nat) : Prop where
  splits : Fuses fl (splitsL k) (splitsL r.1 ++ splitsL r.2.1)
  perm : (leavesL r.1 ++ leavesL r.2.1).Perm (leavesL k)
  len : r.1.length + r.2.1.length = k.length
  ns : noSingleL r.1 = true ∧ noSingleL r.2.1 = true

/-- … and for one node -/
structure RsT (fl : Rat → Rat → Rat) (t t' : T) : Prop where
  splits : Fuses fl t.splitsBelow t'.splitsBelow
  perm : t'.leaves.Perm t.leaves
  ns : noSingleL t'.kids = true

mutual
theorem rsNode_spec (fl : Rat → Rat → Rat) : ∀ (t : T), RsT fl t (rsNode fl t)
  | .node d p k => by
    have hk := rsKids_spec fl k p 0
    rw [rsNode_eq]
    refine ⟨by simpa [splitsL_append] using hk.splits, ?_, by simp [noSingleL_append, hk.ns]⟩
    cases k with
    | nil => simp [rsKids]
    | cons y r =>
      have hne : (rsKids fl (y :: r) p 0).1 ++ (rsKids fl (y :: r) p 0).2.1 ≠ [] := fun h0 => by
        have h1 := congrArg List.length h0
        have h2 := hk.len
        simp only [List.length_append, List.length_nil, List.length_cons] at h1 h2
        omega
      rw [T.leaves_node_ne _ _ hne, T.leaves_node_cons, leavesL_append]
      exact hk.perm
theorem rsKids_spec (fl : Rat → Rat → Rat) : ∀ (k : Kids) (pp i : Nat), RsK fl k (rsKids fl k pp i)
  | [], _, _ => ⟨.nil, .refl _, rfl, rfl, rfl⟩
  | (e, t) :: r, pp, i => by
    have ht := rsNode_spec fl t
    have hr := rsKids_spec fl r pp (i + 1)
    rw [rsKids_cons]
    split
    · -- `t` has become a single-child node: it goes, its child `c` is appended on the fused branch
      rename_i ec c heq
      have hsb : (rsNode fl t).splitsBelow = ⟨c.leaves, ec, c.isLeaf⟩ :: c.splitsBelow := by
        rw [T.splitsBelow_eq, heq]; simp [splitsL]
      have hc : c.leaves.Perm t.leaves := by
        have := ht.perm
        rwa [T.leaves_of_kids_ne (by simp [heq]), heq, leavesL_cons, leavesL_nil, List.append_nil] at this
      have hns := ht.ns
      simp only [heq, noSingleL, Bool.and_true] at hns
      refine ⟨?_, ?_, by have := hr.len; simp only [List.length_cons]; omega, hr.ns.1, by simp [noSingleL, hns, hr.ns.2]⟩
      · have h1 := Fuses.fuse (s := ⟨t.leaves, e, t.isLeaf⟩) hc (Fuses.append (hsb ▸ ht.splits) hr.splits)
        rw [splitsL_cons, splitsL_cons]
        exact h1.perm (List.perm_middle.trans (List.Perm.cons _ (List.perm_append_comm_assoc _ _ _))).symm
      · simp only [leavesL_cons]
        exact (List.perm_append_comm_assoc _ _ _).trans (hc.append hr.perm)
    · rename_i hno
      have hlen : (rsNode fl t).kids.length ≠ 1 := fun h1 => by
        match hk : (rsNode fl t).kids, h1 with
        | [(ec, c)], _ => exact hno ec c hk
      refine ⟨?_, ?_, by have := hr.len; simp only [List.length_cons]; omega,
        by simp [noSingleL, T.noSingleBelow_eq, hlen, ht.ns, hr.ns.1], hr.ns.2⟩
      · rw [splitsL_cons, splitsL_cons, List.cons_append, List.append_assoc]
        exact .keep rfl ht.perm (.append ht.splits hr.splits)
      · simp only [leavesL_cons, List.append_assoc]
        exact ht.perm.append hr.perm
end

/-! ## what follows from `Fuses` -/

/-- path sums, for any weight that is additive under the fusion of two branches -/
theorem Fuses.distW {fl : Rat → Rat → Rat} {w : EdgeD → Rat} (hw : ∀ ec e, w (fuseEdge fl ec e) = w ec + w e)
    {l l' : List SplitE} (h : Fuses fl l l') (a b : String) : distW w l' a b = distW w l a b := by
  induction h with
  | nil => rfl
  | keep he hp _ ih => rw [distW_cons, distW_cons, ih, sep_of_perm hp, he]
  | @fuse s c l l' hp _ ih =>
    rw [← distW_fuse w s c ⟨c.below, fuseEdge fl c.e s.e, c.tip⟩ l' a b (sep_of_perm hp a b).symm rfl
      (by rw [hw, Rat.add_comm]), distW_cons, ih, ← distW_cons]
  | append _ _ ih₁ ih₂ => rw [distW_append, distW_append, ih₁, ih₂]
  | perm _ hp ih => rw [← distW_perm w hp, ih]

/-- admissible lengths stay admissible -/
theorem Fuses.good {l l' : List SplitE} (h : Fuses fuseLenGo l l') (hg : ∀ s ∈ l, okE s.e) : ∀ s ∈ l', okE s.e := by
  induction h with
  | nil => exact hg
  | keep he _ _ ih => rw [List.forall_mem_cons] at hg ⊢; exact ⟨he ▸ hg.1, ih hg.2⟩
  | fuse _ _ ih => rw [List.forall_mem_cons] at hg ⊢; exact ⟨okE_fuse _ _, (List.forall_mem_cons.mp (ih hg.2)).2⟩
  | append _ _ ih₁ ih₂ => rw [List.forall_mem_append] at hg ⊢; exact ⟨ih₁ hg.1, ih₂ hg.2⟩
  | perm _ hp ih => exact fun x hx => ih hg x (hp.mem_iff.mpr hx)

/-! ### lists of unrooted splits up to what `usplitsAll` computes from them -/

theorem ufoldU_append (l₁ l₂ acc : List USplit) : ufoldU (l₁ ++ l₂) acc = ufoldU l₂ (ufoldU l₁ acc) := by
  simp [ufoldU, List.foldl_append]

theorem ufoldU_good : ∀ (l acc : List USplit), GoodU l → GoodU acc → GoodU (ufoldU l acc)
  | [], _, _, ha => ha
  | s :: l, acc, hl, ha =>
    ufoldU_good l _ (fun x hx => hl x (by simp [hx])) (insertU_good s (hl s (by simp)) acc ha)

theorem ufoldU_sidesNodup : ∀ (l acc : List USplit), SidesNodup acc → SidesNodup (ufoldU l acc)
  | [], _, ha => ha
  | s :: l, acc, ha => ufoldU_sidesNodup l _ (insertU_sidesNodup s acc ha)

structure UEqv (l₁ l₂ : List USplit) : Prop where
  g1 : GoodU l₁
  g2 : GoodU l₂
  eq : ∀ acc, GoodU acc → SidesNodup acc → (ufoldU l₁ acc).Perm (ufoldU l₂ acc)

theorem UEqv.refl {l : List USplit} (h : GoodU l) : UEqv l l := ⟨h, h, fun _ _ _ => List.Perm.refl _⟩

theorem UEqv.symm {l₁ l₂ : List USplit} (h : UEqv l₁ l₂) : UEqv l₂ l₁ :=
  ⟨h.g2, h.g1, fun acc ha hn => (h.eq acc ha hn).symm⟩

theorem UEqv.trans {l₁ l₂ l₃ : List USplit} (h : UEqv l₁ l₂) (h' : UEqv l₂ l₃) : UEqv l₁ l₃ :=
  ⟨h.g1, h'.g2, fun acc ha hn => (h.eq acc ha hn).trans (h'.eq acc ha hn)⟩

theorem UEqv.of_perm {l₁ l₂ : List USplit} (h : l₁.Perm l₂) (hg : GoodU l₁) : UEqv l₁ l₂ :=
  ⟨hg, fun x hx => hg x (h.mem_iff.2 hx), fun acc ha hn => ufoldU_perm h hg acc hn ha⟩

theorem goodU_append {l₁ l₂ : List USplit} (h₁ : GoodU l₁) (h₂ : GoodU l₂) : GoodU (l₁ ++ l₂) :=
  fun x hx => (List.mem_append.mp hx).elim (h₁ x) (h₂ x)

theorem goodU_cons {x : USplit} {l : List USplit} (gx : GoodL x.len) (gl : GoodU l) : GoodU (x :: l) :=
  fun y hy => (List.mem_cons.mp hy).elim (fun h => h ▸ gx) (gl y)

theorem UEqv.append {a a' b b' : List USplit} (h : UEqv a a') (h' : UEqv b b') : UEqv (a ++ b) (a' ++ b') := by
  refine ⟨goodU_append h.g1 h'.g1, goodU_append h.g2 h'.g2, fun acc ha hn => ?_⟩
  rw [ufoldU_append, ufoldU_append]
  exact (ufoldU_perm_acc b (h.eq acc ha hn) (ufoldU_sidesNodup a acc hn)).trans
    (h'.eq _ (ufoldU_good a' acc h.g2 ha) (ufoldU_sidesNodup a' acc hn))

theorem UEqv.cons (x : USplit) (gx : GoodL x.len) {l l' : List USplit} (h : UEqv l l') : UEqv (x :: l) (x :: l') :=
  UEqv.append (UEqv.refl (l := [x]) (goodU_cons gx (fun _ h => nomatch h))) h

theorem UEqv.fuse (x y : USplit) (l : List USplit) (hs : x.side = y.side) (gx : GoodL x.len) (gy : GoodL y.len)
    (gl : GoodU l) : UEqv (x :: y :: l) (fuseU x y :: l) :=
  ⟨goodU_cons gx (goodU_cons gy gl), goodU_cons (fuseLen_good gx gy) gl,
    fun acc ha _ => by rw [ufoldU_fuse x y l acc hs gx gy ha]⟩

/-- the code's fusion of a child branch with the branch of its removed parent is the Spec's
    fusion of two entries with the same side (lengths absent or ≥ 0) -/
theorem toU_fuseEdge (all : List String) (s c : SplitE) (hp : c.below.Perm s.below) (ge : GoodL s.e.len) (gc : GoodL c.e.len) :
    toU all ⟨c.below, fuseEdge fuseLenGo c.e s.e, c.tip⟩ = fuseU (toU all s) (toU all c) := by
  have hn : NIL = (-1 : Rat) := rfl
  simp only [toU, fuseU, fuseEdge, canonSide_perm_side all hp]
  have hl : fuseLenGo c.e.len s.e.len = fuseLen s.e.len c.e.len := by
    simp only [fuseLenGo, fuseLen, GoodL, hn] at *
    by_cases h1 : c.e.len = -1 <;> by_cases h2 : s.e.len = -1 <;> simp [h1, h2] <;> grind
  have hs : fuseSupGo c.e.sup s.e.sup = fuseSup s.e.sup c.e.sup := by
    simp only [fuseSupGo, fuseSup]
    grind
  rw [hl, hs]

theorem goodU_map {l : List SplitE} (all : List String) (h : ∀ s ∈ l, okE s.e) : GoodU (l.map (toU all)) := by
  intro x hx
  obtain ⟨s, hs, rfl⟩ := List.mem_map.1 hx
  exact h s hs

/-- the unrooted entries before and after build the same split map -/
theorem Fuses.ueqv (all : List String) {l l' : List SplitE} (h : Fuses fuseLenGo l l') (hg : ∀ s ∈ l, okE s.e) :
    UEqv (l'.map (toU all)) (l.map (toU all)) := by
  induction h with
  | nil => exact UEqv.refl (fun _ h => nomatch h)
  | @keep s s' l l' he hp _ ih =>
    rw [List.forall_mem_cons] at hg
    have : toU all s' = toU all s := by simp [toU, he, canonSide_perm_side all hp]
    rw [List.map_cons, List.map_cons, this]
    exact UEqv.cons (toU all s) hg.1 (ih hg.2)
  | @fuse s c l l' hp h ih =>
    rw [List.forall_mem_cons] at hg
    have hcl := List.forall_mem_cons.mp (h.good hg.2)
    rw [List.map_cons, List.map_cons, toU_fuseEdge all s c hp hg.1 hcl.1]
    exact (UEqv.fuse (toU all s) (toU all c) _ (by simp [toU, canonSide_perm_side all hp]) hg.1 hcl.1
      (goodU_map all hcl.2)).symm.trans (UEqv.cons (toU all s) hg.1 (by simpa using ih hg.2))
  | append _ _ ih₁ ih₂ =>
    rw [List.forall_mem_append] at hg
    rw [List.map_append, List.map_append]
    exact UEqv.append (ih₁ hg.1) (ih₂ hg.2)
  | perm h hp ih => exact (UEqv.of_perm (hp.map _) (goodU_map all (h.good hg))).symm.trans (ih hg)

theorem rsNode_ueqv (all : List String) : ∀ (t : T), (∀ s ∈ t.splitsBelow, okE s.e) →
    UEqv ((rsNode fuseLenGo t).splitsBelow.map (toU all)) (t.splitsBelow.map (toU all)) :=
  fun t h => (rsNode_spec fuseLenGo t).splits.ueqv all h

/-! ## nothing to remove: nothing changes -/

mutual
theorem rsNode_id (fl : Rat → Rat → Rat) : ∀ (t : T), noSingleL t.kids = true → rsNode fl t = t
  | .node d p k, h => by
    simp only [T.kids_node] at h
    rw [rsNode_eq, rsKids_id fl k p 0 h]
    simp
theorem rsKids_id (fl : Rat → Rat → Rat) : ∀ (k : Kids) (pp i : Nat), noSingleL k = true → rsKids fl k pp i = (k, [], 0)
  | [], _, _, _ => by simp [rsKids]
  | (e, t) :: r, pp, i, h => by
    simp only [noSingleL, Bool.and_eq_true, T.noSingleBelow_eq, bne_iff_ne, ne_eq] at h
    obtain ⟨⟨hlen, hk⟩, hr⟩ := h
    rw [rsKids_cons, rsNode_id fl t hk, rsKids_id fl r pp (i + 1) hr]
    split
    · rename_i ec c heq
      rw [heq] at hlen
      exact absurd rfl hlen
    · rfl
end

theorem removeSingleBy_id (fl : Rat → Rat → Rat) (t : T) (h : t.noSingle = true) : removeSingleBy fl t = t := by
  cases t with
  | node d p k =>
    simp only [T.noSingle, T.kids_node] at h
    simp [removeSingleBy, rsKids_id fl k 0 0 h]

/-! ## the whole operation -/

theorem distW_congr (w w' : EdgeD → Rat) (a b : String) : ∀ (l : List SplitE), (∀ s ∈ l, w s.e = w' s.e) →
    distW w l a b = distW w' l a b
  | [], _ => rfl
  | s :: l, h => by
    rw [distW_cons, distW_cons, h s (by simp), distW_congr w w' a b l (fun s hs => h s (by simp [hs]))]

/-- on admissible lengths "absent counts 0" and `math.Max(0, l)` are the same weight -/
theorem lenOr0_eq_wPos (e : EdgeD) (h : okE e) : e.lenOr0 = wPos e := by
  have hn : NIL = (-1 : Rat) := rfl
  simp only [EdgeD.lenOr0, wPos, beq_iff_eq]
  rcases h with h | h
  · rw [h, hn]; grind
  · split
    · rename_i h1; rw [h1, hn] at h; grind
    · grind

theorem lengthsOK_iff (t : T) : lengthsOK t = true ↔ ∀ s ∈ t.splits, okE s.e := by
  simp only [lengthsOK, T.edges, List.all_map, List.all_eq_true, Function.comp, okE, Bool.or_eq_true, beq_iff_eq,
    decide_eq_true_eq, ge_iff_le]

theorem removeSingle_fuses (t : T) : Fuses fuseLenGo t.splits (removeSingle t).splits := by
  simpa [removeSingle, removeSingleBy, T.splits, splitsL_append] using (rsKids_spec fuseLenGo t.kids 0 0).splits

theorem removeSingle_lengthsOK (t : T) (h : lengthsOK t = true) : lengthsOK (removeSingle t) = true :=
  (lengthsOK_iff _).mpr ((removeSingle_fuses t).good ((lengthsOK_iff t).mp h))

theorem removeSingle_tips' (t : T) : (removeSingle t).tipNames.Perm t.tipNames := by
  have hk := rsKids_spec fuseLenGo t.kids 0 0
  simp only [T.tipNames, removeSingle, removeSingleBy, T.kids_node, T.name, T.d_node, List.length_append, hk.len, leavesL_append]
  exact hk.perm.append_left _

theorem removeSingle_noSingle' (t : T) : (removeSingle t).noSingle = true := by
  have := (rsKids_spec fuseLenGo t.kids 0 0).ns
  simp [T.noSingle, removeSingle, removeSingleBy, noSingleL_append, this.1, this.2]

end Gotree.C15

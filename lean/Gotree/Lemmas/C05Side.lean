/-
  C05 — an outgroup that is one side of a split is found with no foreign tip below the
  ancestor (the converse direction needed by `outgroup_clade` in non-strict mode).
-/
import Gotree.Lemmas.C05Lca

namespace Gotree.C05
open Gotree

/-! ## more about `found`: when no foreign tip is counted -/

def FoundOK2 (S : List String) (nS : Nat) (t : T) (p es : List Nat) (tp : Bool) (df : Nat) : Prop :=
  (p = [] ∨ ∃ j e c p', p = j :: p' ∧ t.kids[j]? = some (e, c) ∧ lcaNode S nS c = .found p' es tp df) ∧
  (p = [] → (tp = true → df = 0) ∧ (tp = false →
    (∀ i ∈ es, ∀ (e : EdgeD) (c : T), t.kids[i]? = some (e, c) → 0 < cntIn S c.leaves) ∧
    ((∀ i ∈ es, ∀ (e : EdgeD) (c : T), t.kids[i]? = some (e, c) → cntOut S c.leaves = 0) → df = 0) ∧
    (∀ (i : Nat) (e : EdgeD) (c : T), t.kids[i]? = some (e, c) → cntIn S c.leaves ≠ nS)))

def AccInv2 (S : List String) (nS : Nat) (K : Kids) (idx : Nat) (edges : List Nat) (different : Nat) : Prop :=
  (∀ i ∈ edges, ∀ (e : EdgeD) (c : T), K[i]? = some (e, c) → 0 < cntIn S c.leaves) ∧
  ((∀ i ∈ edges, ∀ (e : EdgeD) (c : T), K[i]? = some (e, c) → cntOut S c.leaves = 0) → different = 0) ∧
  (∀ i, i < idx → ∀ (e : EdgeD) (c : T), K[i]? = some (e, c) → cntIn S c.leaves ≠ nS)

mutual
theorem lcaNode_sem2 (S : List String) (nS : Nat) (hn : 0 < nS) : ∀ (t : T),
    (∀ com df, lcaNode S nS t = .nf com df → com ≠ nS) ∧
    (∀ p es tp df, lcaNode S nS t = .found p es tp df → FoundOK2 S nS t p es tp df)
  | .node d pp [] => by
    constructor
    · intro com df h
      simp only [lcaNode] at h
      split at h
      · split at h
        · cases h
        · rename_i h1; cases h; intro h2; exact h1 (by simp [h2])
      · cases h; omega
    · intro p es tp df h
      simp only [lcaNode] at h
      split at h
      · split at h
        · cases h
          exact ⟨Or.inl rfl, fun _ => ⟨fun _ => rfl, fun h => by cases h⟩⟩
        · cases h
      · cases h
  | .node d pp (k :: ks) => by
    have inv0 : AccInv2 S nS (k :: ks) 0 [] 0 := ⟨by simp, fun _ => rfl, by simp⟩
    obtain ⟨h1, h2⟩ := lcaKids_sem2 S nS hn d pp (k :: ks) (k :: ks) 0 0 [] 0 0 rfl inv0
    constructor
    · intro com df h
      simp only [lcaNode] at h
      exact h1 com df h
    · intro p es tp df h
      simp only [lcaNode] at h
      exact h2 p es tp df h
theorem lcaKids_sem2 (S : List String) (nS : Nat) (hn : 0 < nS) (d : NodeD) (pp : Nat) (K : Kids) :
    ∀ (k : Kids) (idx common : Nat) (edges : List Nat) (different tmpdiff : Nat),
    K.drop idx = k → AccInv2 S nS K idx edges different →
    (∀ com df, lcaKids S nS k idx common edges different tmpdiff = .nf com df → com ≠ nS) ∧
    (∀ p es tp df, lcaKids S nS k idx common edges different tmpdiff = .found p es tp df →
      FoundOK2 S nS (.node d pp K) p es tp df)
  | [], idx, common, edges, different, tmpdiff, hk, inv => by
    have hlen : K.length ≤ idx := List.drop_eq_nil_iff.1 hk
    constructor
    · intro com df h
      simp only [lcaKids] at h
      split at h
      · cases h
      · rename_i hc; cases h; simpa using hc
    · intro p es tp df h
      simp only [lcaKids] at h
      split at h
      · cases h
        obtain ⟨i1, i2, i3⟩ := inv
        refine ⟨Or.inl rfl, fun _ => ⟨(fun h => by cases h), fun _ => ⟨i1, i2, ?_⟩⟩⟩
        intro i e c hc
        have hlt : i < K.length := (List.getElem?_eq_some_iff.1 hc).1
        exact i3 i (by omega) e c hc
      · cases h
  | (e, t) :: r, idx, common, edges, different, tmpdiff, hk, inv => by
    obtain ⟨hki, hk'⟩ := drop_eq_cons hk
    obtain ⟨n1, n2⟩ := lcaNode_sem2 S nS hn t
    obtain ⟨m1, _⟩ := lcaNode_sem S nS hn t
    cases hres : lcaNode S nS t with
    | found p' es' tp' df' =>
      refine ⟨fun com df h => ?_, fun p es tp df h => ?_⟩ <;> simp only [lcaKids, hres] at h
      · cases h
      · cases h
        exact ⟨Or.inr ⟨idx, e, t, p', rfl, hki, hres⟩, fun h => by cases h⟩
    | nf c1 d1 =>
      -- the invariant after a kid that returned `nf c1 d1`
      obtain ⟨hc1, hd1⟩ := m1 c1 d1 hres
      obtain ⟨i1, i2, i3⟩ := inv
      have i3' : ∀ i, i < idx + 1 → ∀ e' c', K[i]? = some (e', c') → cntIn S c'.leaves ≠ nS := by
        intro i hi e' c' hc'
        by_cases hii : i = idx
        · subst hii; rw [hki] at hc'; cases hc'; rw [← hc1]; exact n1 c1 d1 hres
        · exact i3 i (by omega) e' c' hc'
      simp only [lcaKids, hres]
      by_cases hpos : c1 > 0
      · simp only [hpos, if_true]
        refine lcaKids_sem2 S nS hn d pp K r (idx + 1) _ _ _ _ hk' ⟨?_, ?_, i3'⟩
        · intro i hi e' c' hc'
          rcases List.mem_append.1 hi with hi | hi
          · exact i1 i hi e' c' hc'
          · simp at hi; subst hi; rw [hki] at hc'; cases hc'; omega
        · intro hall
          have h0 := i2 (fun i hi e' c' hc' => hall i (List.mem_append_left _ hi) e' c' hc')
          have h1 := hall idx (by simp) e t hki
          omega
      · simp only [hpos, if_false]
        exact lcaKids_sem2 S nS hn d pp K r (idx + 1) _ _ _ _ hk' ⟨i1, i2, i3'⟩
end

/-- the leaves below a kid list: those of one kid and those of the others -/
theorem kid_leaves_perm {K : Kids} {i : Nat} {e : EdgeD} {c : T} (h : K[i]? = some (e, c)) :
    (leavesL K).Perm (c.leaves ++ leavesL (K.eraseIdx i)) := by
  simpa only [leavesL_cons] using leavesL_perm (perm_cons_eraseIdx h)

theorem kid_leaves_sub {K : Kids} {i : Nat} {e : EdgeD} {c : T} (h : K[i]? = some (e, c)) :
    ∀ l ∈ c.leaves, l ∈ leavesL K :=
  fun _ hl => (leaves_sublist_leavesL (List.mem_of_getElem? h)).subset hl

theorem kid_cntOut_le {S : List String} {K : Kids} {i : Nat} {e : EdgeD} {c : T} (h : K[i]? = some (e, c)) :
    cntOut S c.leaves ≤ cntOut S (leavesL K) := by
  have := ((kid_leaves_perm h).filter (fun x => !S.contains x)).length_eq
  unfold cntOut
  rw [this, List.filter_append, List.length_append]
  omega

theorem kid_leaves_nodup {K : Kids} {i : Nat} {e : EdgeD} {c : T} (hn : (leavesL K).Nodup)
    (h : K[i]? = some (e, c)) : c.leaves.Nodup :=
  (nodup_leavesL.1 hn).1 _ (List.mem_of_getElem? h)

/-- the leaves of a node reached by a path are leaves of the tree -/
theorem descend_leaves_sub : ∀ (p : List Nat) (K : Kids) (e : EdgeD) (y : T), descend K p = some (e, y) →
    ∀ l ∈ y.leaves, l ∈ leavesL K
  | [], _, _, _, h => by simp [descend] at h
  | [i], K, e, y, h => by simp only [descend] at h; exact kid_leaves_sub h
  | i :: j :: r, K, e, y, h => by
    simp only [descend] at h
    cases hk : K[i]? with
    | none => simp [hk] at h
    | some ec =>
      obtain ⟨e0, c0⟩ := ec
      simp only [hk] at h
      intro l hl
      have h1 := descend_leaves_sub (j :: r) c0.kids e y h l hl
      have hne : c0.kids ≠ [] := by
        intro h0; rw [h0] at h; cases r <;> simp [descend] at h
      obtain ⟨d0, p0, k0⟩ := c0
      simp only [T.kids_node] at hne h1
      exact kid_leaves_sub hk l (by rw [T.leaves_node_ne _ _ hne]; exact h1)

theorem atPath_leaves_sub {z y : T} {p : List Nat} (h : AtPath z p y) : ∀ l ∈ y.leaves, l ∈ z.leaves := by
  rcases h with ⟨_, rfl⟩ | ⟨e, hd⟩
  · exact fun l hl => hl
  · intro l hl
    have := descend_leaves_sub p z.kids e y hd l hl
    obtain ⟨d, pp, K⟩ := z
    have hne : K ≠ [] := by
      intro h0; simp only [T.kids_node, h0] at hd
      cases p with
      | nil => simp [descend] at hd
      | cons i r => cases r <;> simp [descend] at hd
    rw [T.leaves_node_ne _ _ hne]; exact this

theorem cntIn_pos {S l : List String} (h : 0 < cntIn S l) : ∃ x ∈ l, x ∈ S := by
  unfold cntIn at h
  obtain ⟨x, hx⟩ := List.exists_mem_of_length_pos h
  have := List.mem_filter.1 hx
  exact ⟨x, this.1, by simpa using this.2⟩

/-- below a node all of whose leaves are outgroup tips, nothing foreign is counted -/
theorem found_pure (S : List String) (nS : Nat) (hn : 0 < nS) : ∀ (z : T) (p es : List Nat) (tp : Bool) (df : Nat),
    cntOut S z.leaves = 0 → lcaNode S nS z = .found p es tp df → df = 0 := by
  intro z
  induction z using T.induct with
  | h d pp K ih =>
    intro p es tp df h0 hf
    obtain ⟨hinv, htop⟩ := (lcaNode_sem2 S nS hn (.node d pp K)).2 p es tp df hf
    rcases hinv with rfl | ⟨j, e, c, p', rfl, hk, hc⟩
    · obtain ⟨h1, h2⟩ := htop rfl
      cases tp with
      | true => exact h1 rfl
      | false =>
        obtain ⟨_, hb, _⟩ := h2 rfl
        apply hb
        intro i _ e c hk
        simp only [T.kids_node] at hk
        rw [leaves_of_kid hk] at h0
        have := kid_cntOut_le (S := S) hk
        omega
    · simp only [T.kids_node] at hk
      rw [leaves_of_kid hk] at h0
      have hle := kid_cntOut_le (S := S) hk
      have hmem : (e, c) ∈ K := List.mem_of_getElem? hk
      have h00 : cntOut S c.leaves = 0 := by omega
      exact ih (e, c) hmem p' es tp df h00 hc

/- some node of the subtree (its top included) has exactly the leaf list `B` -/
mutual
def hasClade (B : List String) : T → Prop
  | .node d p k => (T.node d p k).leaves = B ∨ hasCladeL B k
def hasCladeL (B : List String) : Kids → Prop
  | [] => False
  | (_, t) :: r => hasClade B t ∨ hasCladeL B r
end

theorem hasCladeL_iff (B : List String) : ∀ (K : Kids), hasCladeL B K ↔ ∃ (j : Nat) (e : EdgeD) (c : T), K[j]? = some (e, c) ∧ hasClade B c
  | [] => by simp [hasCladeL]
  | (e, t) :: r => by
    simp only [hasCladeL, hasCladeL_iff B r]
    constructor
    · rintro (h | ⟨j, e', c, hk, hc⟩)
      · exact ⟨0, e, t, by simp, h⟩
      · exact ⟨j + 1, e', c, by simpa using hk, hc⟩
    · rintro ⟨j, e', c, hk, hc⟩
      cases j with
      | zero => simp at hk; obtain ⟨rfl, rfl⟩ := hk; exact Or.inl hc
      | succ j => exact Or.inr ⟨j, e', c, by simpa using hk, hc⟩

theorem hasClade_sub (B : List String) : ∀ (z : T), hasClade B z → ∀ l ∈ B, l ∈ z.leaves := by
  intro z
  induction z using T.induct with
  | h d pp K ih =>
    intro h l hl
    simp only [hasClade] at h
    rcases h with h | h
    · rw [h]; exact hl
    · obtain ⟨j, e, c, hk, hc⟩ := (hasCladeL_iff B K).1 h
      rw [leaves_of_kid hk]
      exact kid_leaves_sub hk l (ih (e, c) (List.mem_of_getElem? hk) hc l hl)

/-- if the outgroup is exactly the leaf set of a node of the subtree, the search counts
    no foreign tip -/
theorem found_clade (S B : List String) (hS : S.Nodup) (hne : S ≠ []) (hB : ∀ l, l ∈ B ↔ l ∈ S) :
    ∀ (z : T) (p es : List Nat) (tp : Bool) (df : Nat), z.leaves.Nodup → hasClade B z →
    lcaNode S S.length z = .found p es tp df → df = 0 := by
  have hn : 0 < S.length := List.length_pos_iff.2 hne
  intro z
  induction z using T.induct with
  | h d pp K ih =>
    intro p es tp df hnd hc hf
    simp only [hasClade] at hc
    rcases hc with hc | hc
    · exact found_pure S S.length hn _ p es tp df
        (cntOut_zero.2 (by rw [hc]; exact fun x hx => (hB x).1 hx)) hf
    · obtain ⟨j, e, c, hk, hcc⟩ := (hasCladeL_iff B K).1 hc
      rw [leaves_of_kid hk] at hnd
      have hcn : c.leaves.Nodup := kid_leaves_nodup hnd hk
      have hSc : ∀ x ∈ S, x ∈ c.leaves := fun x hx => hasClade_sub B c hcc x ((hB x).2 hx)
      have hcnt : cntIn S c.leaves = S.length := length_filter_mem hcn hS hSc
      obtain ⟨hinv, htop⟩ := (lcaNode_sem2 S S.length hn (.node d pp K)).2 p es tp df hf
      rcases hinv with rfl | ⟨j', e', c', p', rfl, hk', hc'⟩
      · obtain ⟨h1, h2⟩ := htop rfl
        cases tp with
        | true => exact h1 rfl
        | false =>
          obtain ⟨_, _, hd⟩ := h2 rfl
          exact absurd hcnt (hd j e c hk)
      · simp only [T.kids_node] at hk'
        by_cases hjj : j' = j
        · subst hjj
          rw [hk] at hk'; cases hk'
          exact ih (e, c) (List.mem_of_getElem? hk) p' es tp df hcn hcc hc'
        · -- the ancestor would lie in another kid, which has no outgroup tip
          exfalso
          obtain ⟨y, hy, hcy, _⟩ := (lcaNode_sem S S.length hn c').2 p' es tp df hc'
          obtain ⟨x, hxy, hxS⟩ := cntIn_pos (by omega : 0 < cntIn S y.leaves)
          have hxc' : x ∈ c'.leaves := atPath_leaves_sub hy x hxy
          exact leaves_disjoint_of_getElem? hnd hk' hk hjj x hxc' (hSc x hxS)

/-- the outgroup is everything but one leaf hanging at the top node -/
theorem found_coleaf (S : List String) (hne : S ≠ []) (d : NodeD) (pp : Nat) (K : Kids)
    (jt : Nat) (et : EdgeD) (dt : NodeD) (pt : Nat) (hkt : K[jt]? = some (et, .node dt pt []))
    (hnd : (leavesL K).Nodup) (hS : ∀ l, l ∈ S ↔ l ∈ leavesL K ∧ l ≠ dt.name)
    (p es : List Nat) (tp : Bool) (df : Nat)
    (hf : lcaNode S S.length (.node d pp K) = .found p es tp df) : df = 0 := by
  have hn : 0 < S.length := List.length_pos_iff.2 hne
  have htl : (T.node dt pt []).leaves = [dt.name] := T.leaves_node_nil dt pt
  -- every other kid consists of outgroup tips
  have hother : ∀ i e c, K[i]? = some (e, c) → i ≠ jt → cntOut S c.leaves = 0 := by
    intro i e c hk hi
    apply cntOut_zero.2
    intro x hx
    refine (hS x).2 ⟨kid_leaves_sub hk x hx, ?_⟩
    intro hxe
    exact leaves_disjoint_of_getElem? hnd hk hkt hi x hx (by rw [htl, hxe]; simp)
  have htS : dt.name ∉ S := fun h => ((hS _).1 h).2 rfl
  obtain ⟨hinv, htop⟩ := (lcaNode_sem2 S S.length hn (.node d pp K)).2 p es tp df hf
  rcases hinv with rfl | ⟨j', e', c', p', rfl, hk', hc'⟩
  · obtain ⟨h1, h2⟩ := htop rfl
    cases tp with
    | true => exact h1 rfl
    | false =>
      obtain ⟨ha, hb, _⟩ := h2 rfl
      apply hb
      intro i hi e c hk
      simp only [T.kids_node] at hk
      refine hother i e c hk ?_
      intro hij
      subst hij
      rw [hkt] at hk; cases hk
      have := ha i hi et _ (by simpa using hkt)
      rw [htl, cntIn_single] at this
      simp [htS] at this
  · simp only [T.kids_node] at hk'
    by_cases hjj : j' = jt
    · subst hjj
      rw [hkt] at hk'; cases hk'
      simp [lcaNode, htS] at hc'
    · exact found_pure S S.length hn c' p' es tp df (hother j' e' c' hk' hjj) hc'

theorem mem_canonSide_compl {all A : List String} {m : String} (hm : minS all = some m)
    (h : m ∈ A ∧ m ∈ all) (x : String) : x ∈ canonSide all A ↔ x ∈ all ∧ x ∉ A := by
  unfold canonSide
  have hc : (sortS (A.filter all.contains)).contains m = true := by
    simpa [mem_sortS, List.mem_filter] using h
  simp only [hm, hc, if_true]
  simp only [mem_sortS, complS, List.mem_filter, List.contains_eq_mem, Bool.not_eq_true', decide_eq_false_iff_not,
    decide_eq_true_eq, not_and]
  constructor
  · rintro ⟨h1, h2⟩; exact ⟨h1, fun ha => h2 ha h1⟩
  · rintro ⟨h1, h2⟩; exact ⟨h1, fun ha _ => h2 ha⟩

theorem mem_canonSide_same {all A : List String} {m : String} (hm : minS all = some m)
    (h : ¬ (m ∈ A ∧ m ∈ all)) (x : String) : x ∈ canonSide all A ↔ x ∈ A ∧ x ∈ all := by
  unfold canonSide
  have hc : (sortS (A.filter all.contains)).contains m = false := by
    simpa [mem_sortS, List.mem_filter] using h
  simp only [hm, hc, Bool.false_eq_true, if_false]
  simp [mem_sortS, List.mem_filter]

/-- two sides with the same canonical presentation are equal or complementary (among `all`) -/
theorem canonSide_inj {all A B : List String} (h : canonSide all A = canonSide all B) :
    (∀ x ∈ all, x ∈ A ↔ x ∈ B) ∨ (∀ x ∈ all, x ∈ A ↔ x ∉ B) := by
  have key : ∀ x, x ∈ canonSide all A ↔ x ∈ canonSide all B := fun x => by rw [h]
  cases hm : minS all with
  | none =>
    have : all = [] := minS_eq_none.1 hm
    subst this; left; intro x hx; cases hx
  | some m =>
    by_cases hA : m ∈ A ∧ m ∈ all <;> by_cases hB : m ∈ B ∧ m ∈ all
    · left; intro x hx
      have := key x
      rw [mem_canonSide_compl hm hA, mem_canonSide_compl hm hB] at this
      constructor
      · intro ha; apply Classical.byContradiction; intro hb; exact (this.2 ⟨hx, hb⟩).2 ha
      · intro hb; apply Classical.byContradiction; intro ha; exact (this.1 ⟨hx, ha⟩).2 hb
    · right; intro x hx
      have := key x
      rw [mem_canonSide_compl hm hA, mem_canonSide_same hm hB] at this
      constructor
      · intro ha hb; exact (this.2 ⟨hb, hx⟩).2 ha
      · intro hb; apply Classical.byContradiction; intro ha; exact hb (this.1 ⟨hx, ha⟩).1
    · right; intro x hx
      have := key x
      rw [mem_canonSide_same hm hA, mem_canonSide_compl hm hB] at this
      constructor
      · intro ha; exact (this.1 ⟨ha, hx⟩).2
      · intro hb; exact (this.2 ⟨hx, hb⟩).1
    · left; intro x hx
      have := key x
      rw [mem_canonSide_same hm hA, mem_canonSide_same hm hB] at this
      constructor
      · intro ha; exact (this.1 ⟨ha, hx⟩).1
      · intro hb; exact (this.2 ⟨hb, hx⟩).1

/- every entry of the split list is the leaf list of a node -/
mutual
theorem splitsBelow_hasClade : ∀ (t : T), ∀ s ∈ t.splitsBelow, hasCladeL s.below t.kids
  | .node d p k => by
    simp only [T.splitsBelow, T.kids_node]
    exact splitsL_hasClade k
theorem splitsL_hasClade : ∀ (k : Kids), ∀ s ∈ splitsL k, hasCladeL s.below k
  | [] => by simp [splitsL]
  | (e, t) :: r => by
    intro s hs
    simp only [splitsL, List.mem_cons, List.mem_append] at hs
    simp only [hasCladeL]
    rcases hs with rfl | hs | hs
    · left
      obtain ⟨d, p, k⟩ := t
      simp [hasClade]
    · left
      have := splitsBelow_hasClade t s hs
      obtain ⟨d, p, k⟩ := t
      simp only [hasClade]
      exact Or.inr this
    · exact Or.inr (splitsL_hasClade r s hs)
end

/-- a leaf that is not in `S` -/
def OutLeaf (S : List String) (l : T) : Prop := l.kids = [] ∧ l.name ∉ S

mutual
theorem firstOutT_sem (S : List String) : ∀ (c : T) (p : List Nat), firstOutT S c = some p →
    (p = [] ∧ OutLeaf S c) ∨ (∃ e l, descend c.kids p = some (e, l) ∧ OutLeaf S l)
  | .node d pp [], p, h => by
    simp only [firstOutT] at h
    split at h
    · cases h
    · rename_i hc
      cases h
      exact Or.inl ⟨rfl, rfl, by simpa [T.name] using hc⟩
  | .node d pp (k :: ks), p, h => by
    simp only [firstOutT] at h
    obtain ⟨j, p', rfl, e, c, hk, hc⟩ := firstOutL_sem S (k :: ks) 0 p h
    right
    simp only [Nat.zero_add, T.kids_node]
    rcases firstOutT_sem S c p' hc with ⟨rfl, hl⟩ | ⟨e', l, hd, hl⟩
    · exact ⟨e, c, by simp [descend, hk], hl⟩
    · exact ⟨e', l, descend_cons hk hd, hl⟩
theorem firstOutL_sem (S : List String) : ∀ (k : Kids) (i : Nat) (p : List Nat), firstOutL S k i = some p →
    ∃ j p', p = (i + j) :: p' ∧ ∃ e c, k[j]? = some (e, c) ∧ firstOutT S c = some p'
  | [], _, _, h => by simp [firstOutL] at h
  | (e, t) :: r, i, p, h => by
    simp only [firstOutL] at h
    cases hc : firstOutT S t with
    | some p' =>
      simp only [hc] at h
      cases h
      exact ⟨0, p', rfl, e, t, by simp, hc⟩
    | none =>
      simp only [hc] at h
      obtain ⟨j, p', rfl, e', c, hk, hc'⟩ := firstOutL_sem S r (i + 1) p h
      exact ⟨j + 1, p', by rw [show i + 1 + j = i + (j + 1) by omega], e', c, by simpa using hk, hc'⟩
end

/-- the tree presented at the neighbour of the temporary root has that temporary root — a leaf
    that is not an outgroup tip — among the kids of its root -/
theorem tempRoot_is_kid (t1 : T) (seff : List String) (spath : List Nat)
    (h : tempRootNeighbour t1 seff = some spath) :
    ∃ (jt : Nat) (et : EdgeD) (l : T), (rerootP t1 spath none []).1.kids[jt]? = some (et, l) ∧ OutLeaf seff l := by
  unfold tempRootNeighbour at h
  split at h
  · -- the root itself is the temporary root
    rename_i hc
    cases h
    simp only [Bool.and_eq_true, beq_iff_eq, Bool.not_eq_true', List.contains_eq_mem, decide_eq_false_iff_not] at hc
    obtain ⟨h1, hn⟩ := hc
    obtain ⟨ec, hk⟩ : ∃ ec, t1.kids[0]? = some ec := by
      cases hkk : t1.kids with
      | nil => rw [hkk] at h1; simp at h1
      | cons a b => exact ⟨a, by simp⟩
    obtain ⟨e, c⟩ := ec
    rw [rerootP_cons_some t1 0 [] none [] e c (by simpa [adjIdx] using hk), rerootP_nil]
    simp only [adjIdx]
    rw [moveRoot_of_get t1 0 e c hk, T.kids_node, insertAt_min]
    refine ⟨_, e, oldRoot t1 0, (eraseIdx_insertAt c.kids _ _ (Nat.min_le_right _ _)).2, ?_, ?_⟩
    · simp only [oldRoot, T.kids_node]
      cases hkk : t1.kids with
      | nil => rw [hkk] at h1; simp at h1
      | cons a b => rw [hkk] at h1; simp at h1; simp [h1]
    · simpa [oldRoot, T.name] using hn
  · cases hf : firstOutL seff t1.kids 0 with
    | none => simp [hf] at h
    | some path =>
      simp only [hf, Option.map_some, Option.some.injEq] at h
      subst h
      obtain ⟨j, p', rfl, e, c, hk, hc⟩ := firstOutL_sem seff t1.kids 0 path hf
      simp only [Nat.zero_add]
      rcases firstOutT_sem seff c p' hc with ⟨rfl, hl⟩ | ⟨e', l, hd, hl⟩
      · -- the temporary root hangs at the root
        simp only [List.dropLast_singleton, rerootP_nil]
        exact ⟨j, e, c, hk, hl⟩
      · -- it hangs at the node reached by all but the last step
        have hp' : p' ≠ [] := by intro h0; rw [h0] at hd; simp [descend] at hd
        have hsplit : p' = p'.dropLast ++ [p'.getLast hp'] := (List.dropLast_concat_getLast hp').symm
        have hdl : (j :: p').dropLast = j :: p'.dropLast := by
          cases p' with
          | nil => exact absurd rfl hp'
          | cons a b => simp
        rw [hdl]
        have hfull : descend t1.kids ((j :: p'.dropLast) ++ [p'.getLast hp']) = some (e', l) := by
          rw [List.cons_append, ← hsplit]
          exact descend_cons hk hd
        obtain ⟨tA, adj, bk, hR, hkl⟩ := rerootP_last _ _ t1 [] e' l hfull
        rw [hR]
        exact ⟨_, e', l, hkl, hl⟩

/-- **A side of a split is found monophyletic**: when the outgroup is one side of a split of the
    tree, the search of `RerootOutGroup` counts no foreign tip below the ancestor. -/
theorem plan_diff_zero {t : T} {S : List String} {strict : Bool} {pl : Plan}
    (hpl : outgroupPlan strict S (unroot t) = .ok pl) (hu : t.tipNames.Nodup) (hg : LensGood t.splits)
    (hs : ∀ s ∈ t.splits, GoodL s.e.sup) (hside : isSide t S = true) : pl.f.diff = 0 := by
  obtain ⟨spath, hseff, hne, htemp, hts, hlen, hfound, _, _, _⟩ := outgroupPlan_ok hpl
  obtain ⟨ST, _⟩ := unroot_rerootP_same t spath [] hu hg hs
  rw [← hts] at ST
  have hseff' : pl.seff = outTips t S := hseff.trans (effOutgroup_eq_outTips t S (unroot_tipNames_perm t))
  have hSn : pl.seff.Nodup := by rw [hseff']; exact nodup_eraseDups _
  -- the tree presented at the neighbour of the temporary root
  rcases hts' : pl.ts with ⟨d, pp, K⟩
  rw [hts'] at hlen hfound ST
  simp only [T.kids_node] at hlen
  have hKne : K ≠ [] := by intro h0; rw [h0] at hlen; simp at hlen
  have hall : (T.node d pp K).tipNames = leavesL K :=
    T.tipNames_of_ne_one (t := .node d pp K) (by rw [T.kids_node]; omega)
  have hnd : (leavesL K).Nodup := by rw [← hall]; exact ST.tips.nodup_iff.2 hu
  have hsub : ∀ x ∈ pl.seff, x ∈ leavesL K := by
    intro x hx
    rw [← hall]
    apply ST.tips.mem_iff.2
    rw [hseff'] at hx
    unfold outTips at hx
    rw [List.mem_eraseDups] at hx
    simpa using (List.mem_filter.1 hx).2
  -- the side, as an entry of the split list of that tree
  have hmem : canonSide (T.node d pp K).tipNames pl.seff ∈ (T.node d pp K).usplitsAll.map (·.side) := by
    rw [ST.sides, canonSide_perm_all ST.tips, hseff']
    unfold isSide at hside
    simp only [Bool.and_eq_true, List.contains_eq_mem, decide_eq_true_eq] at hside
    exact hside.2
  obtain ⟨s, hs1, hs2⟩ := (mem_usplitsAll_sides _ _).1 hmem
  rw [hall] at hs2
  have hcl : hasCladeL s.below K := splitsL_hasClade K s hs1
  have hclt : hasClade s.below (T.node d pp K) := by simp only [hasClade]; exact Or.inr hcl
  have hBsub : ∀ x ∈ s.below, x ∈ leavesL K := by
    intro x hx
    have := hasClade_sub s.below _ hclt x hx
    rwa [T.leaves_node_ne _ _ hKne] at this
  rcases canonSide_inj hs2 with heq | hco
  · -- the outgroup is the leaf set of a node
    have hB : ∀ l, l ∈ s.below ↔ l ∈ pl.seff :=
      fun l => ⟨fun h => (heq l (hBsub l h)).1 h, fun h => (heq l (hsub l h)).2 h⟩
    exact found_clade pl.seff s.below hSn hne hB _ _ _ _ _ (by rw [T.leaves_node_ne _ _ hKne]; exact hnd) hclt hfound
  · -- the outgroup is the complement of the leaf set of a node: that node is the temporary root
    obtain ⟨jt, et, l0, hkt, hl0k, hl0S⟩ := tempRoot_is_kid (unroot t) pl.seff spath htemp
    rw [← hts, hts', T.kids_node] at hkt
    obtain ⟨dt, pt, kt⟩ := l0
    simp only [T.kids_node] at hl0k
    subst hl0k
    simp only [T.name, T.d_node] at hl0S
    have hnameK : dt.name ∈ leavesL K := kid_leaves_sub hkt _ (by simp [T.leaves])
    have hnameB : dt.name ∈ s.below := by
      apply Classical.byContradiction
      intro hnb
      exact hl0S (Classical.byContradiction fun hns => hnb ((hco _ hnameK).2 hns))
    -- the node is the temporary root itself
    obtain ⟨j, e, c, hk, hc⟩ := (hasCladeL_iff s.below K).1 hcl
    have hjt : j = jt := by
      apply Classical.byContradiction
      intro hne'
      exact leaves_disjoint_of_getElem? hnd hk hkt hne' dt.name (hasClade_sub s.below c hc _ hnameB) (by simp [T.leaves])
    subst hjt
    rw [hkt] at hk; cases hk
    have hBeq : s.below = [dt.name] := by
      simp only [hasClade, hasCladeL, or_false] at hc
      rw [← hc]; simp [T.leaves]
    have hS' : ∀ l, l ∈ pl.seff ↔ l ∈ leavesL K ∧ l ≠ dt.name := by
      intro l
      constructor
      · intro h
        refine ⟨hsub l h, fun hl => ?_⟩
        subst hl
        exact hl0S h
      · rintro ⟨h1, h2⟩
        apply Classical.byContradiction
        intro hns
        have := (hco l h1).2 hns
        rw [hBeq] at this
        simp at this
        exact h2 this
    exact found_coleaf pl.seff hne d pp K j et dt pt hkt hnd hS' _ _ _ _ hfound

end Gotree.C05

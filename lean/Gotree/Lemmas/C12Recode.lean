/-
  C12 — the same character coded over two alphabets (ACR: the sorted list of the states that occur; ASR: the
  fixed list A C G T - *).  Re-coding the states of a labelling by a map that respects the tip sets cannot
  increase the number of changes, so the minimum is the same (`minCost_le_of_map`).  For the MODEL itself: if the
  tip slices of the second coding are the images of those of the first under an injection `enc` (left inverse
  `dec`), every slice the algorithms compute corresponds in the same way (`runAlgo_rel`).
-/
import Gotree.Lemmas.C12Tot
import Gotree.Lemmas.C12Narrow

namespace Gotree.C12
open Gotree

mutual
def LT.map (f : Nat → Nat) : LT → LT
  | .node s ks => .node (f s) (LT.mapL f ks)
def LT.mapL (f : Nat → Nat) : List LT → List LT
  | [] => []
  | l :: r => LT.map f l :: LT.mapL f r
end

@[simp] theorem LT.map_s (f : Nat → Nat) : ∀ l : LT, (l.map f).s = f l.s
  | .node s ks => by simp [LT.map]

mutual
theorem LT.changes_map_le (f : Nat → Nat) : ∀ l : LT, (l.map f).changes ≤ l.changes
  | .node s ks => by
    simp only [LT.map, LT.changes]
    exact LT.changesL_map_le f s ks
theorem LT.changesL_map_le (f : Nat → Nat) (s : Nat) : ∀ ls : List LT,
    LT.changesL (f s) (LT.mapL f ls) ≤ LT.changesL s ls
  | [] => by simp [LT.mapL, LT.changesL]
  | l :: r => by
    have h1 := LT.changes_map_le f l
    have h2 := LT.changesL_map_le f s r
    simp only [LT.mapL, LT.changesL, LT.map_s]
    by_cases h : l.s = s
    · simp [h]; omega
    · simp only [h, if_false]
      split <;> omega
end

mutual
theorem LT.get_map (f : Nat → Nat) : ∀ (l : LT) (p : List Nat), (l.map f).get p = (l.get p).map f
  | .node s ks, [] => by simp [LT.map, LT.get]
  | .node s ks, i :: p => by simp only [LT.map, LT.get]; exact LT.getL_map f ks i p
theorem LT.getL_map (f : Nat → Nat) : ∀ (ls : List LT) (i : Nat) (p : List Nat),
    LT.getL (LT.mapL f ls) i p = (LT.getL ls i p).map f
  | [], _, _ => by simp [LT.mapL, LT.getL]
  | l :: r, 0, p => by simp only [LT.mapL, LT.getL]; exact LT.get_map f l p
  | l :: r, i + 1, p => by simp only [LT.mapL, LT.getL]; exact LT.getL_map f r i p
end

section embed
variable (k1 k2 : Nat) (tv1 tv2 : String → Vec) (f : Nat → Nat)

/-- `f` sends states `< k1` to states `< k2` and tip states of the first coding to tip states of
    the second -/
abbrev TipMap (n : String) : Prop := ∀ s, s < k1 → (tv1 n).at s ≠ 0 → (tv2 n).at (f s) ≠ 0

mutual
theorem fits_map (hf : ∀ s, s < k1 → f s < k2) : ∀ (c : T) (l : LT),
    (∀ n ∈ c.leaves, TipMap k1 tv1 tv2 f n) → fits k1 tv1 c l = true → fits k2 tv2 c (l.map f) = true
  | .node d _ [], .node s ls, hl, h => by
    simp only [fits, Bool.and_eq_true, decide_eq_true_eq, List.isEmpty_iff] at h
    obtain ⟨⟨hls, hs⟩, hne⟩ := h
    subst hls
    simp only [LT.map, LT.mapL, fits, List.isEmpty_nil, Bool.true_and, Bool.and_eq_true, decide_eq_true_eq]
    exact ⟨hf s hs, hl d.name (by simp [T.leaves]) s hs hne⟩
  | .node _ _ (x :: xs), .node s ls, hl, h => by
    rw [leaves_node_cons] at hl
    simp only [fits, Bool.and_eq_true, decide_eq_true_eq] at h
    simp only [LT.map, fits, Bool.and_eq_true, decide_eq_true_eq]
    exact ⟨hf s h.1, fits_mapL hf (x :: xs) hl ls h.2⟩
theorem fits_mapL (hf : ∀ s, s < k1 → f s < k2) : ∀ (ks : Kids), (∀ n ∈ leavesL ks, TipMap k1 tv1 tv2 f n) →
    ∀ ls, fitsL k1 tv1 ks ls = true → fitsL k2 tv2 ks (LT.mapL f ls) = true
  | [], _, [], _ => by simp [LT.mapL, fitsL]
  | [], _, _ :: _, h => by simp [fitsL] at h
  | _ :: _, _, [], h => by simp [fitsL] at h
  | (e, c) :: r, hl, l :: lr, h => by
    simp only [fitsL, Bool.and_eq_true] at h
    simp only [LT.mapL, fitsL, Bool.and_eq_true]
    exact ⟨fits_map hf c l (leavesL_cons hl).1 h.1,
      fits_mapL hf r (leavesL_cons hl).2 lr h.2⟩
end

/-- the minimum of the second coding is at most that of the first -/
theorem minCost_le_of_map (hk1 : 0 < k1) (hf : ∀ s, s < k1 → f s < k2) (t : T) (hne : t.kids ≠ [])
    (hl : ∀ n ∈ leavesL t.kids, TipMap k1 tv1 tv2 f n)
    (hne1 : ∀ n ∈ leavesL t.kids, NZ k1 (tv1 n)) :
    minCost k2 tv2 t ≤ minCost k1 tv1 t := by
  obtain ⟨l, hfit, hc⟩ := minCost_attained k1 tv1 hk1 t hne hne1
  have h2 := fits_map k1 k2 tv1 tv2 f hf t l (T.leaves_of_kids_ne hne ▸ hl) hfit
  have h3 := minCost_le k2 tv2 t hne (l.map f) h2
  have h4 := LT.changes_map_le f l
  omega

end embed

/-- least-upper-bound characterisation of the `max` loop -/
theorem maxTo_le_iff (h : Nat → Nat) (M : Nat) : ∀ n, maxTo h n ≤ M ↔ ∀ i, i < n → h i ≤ M
  | 0 => by simp [maxTo]
  | n + 1 => by
    have ih := maxTo_le_iff h M n
    unfold maxTo
    constructor
    · intro hle i hi
      by_cases hin : i = n
      · subst hin; split at hle <;> omega
      · have : maxTo h n ≤ M := by split at hle <;> omega
        exact ih.mp this i (by omega)
    · intro hall
      have h1 := ih.mpr (fun i hi => hall i (by omega))
      have h2 := hall n (by omega)
      split <;> omega

section recode
variable (k1 k2 : Nat) (enc dec : Nat → Nat)

/-- `v2` is `v1` transported along `enc` (0 outside the image) -/
def Rel (v1 v2 : Vec) : Prop :=
  ∀ b, b < k2 → v2.at b = if enc (dec b) = b then v1.at (dec b) else 0

structure Coding : Prop where
  henc : ∀ a, a < k1 → enc a < k2
  hdec : ∀ b, b < k2 → dec b < k1
  hinv : ∀ a, a < k1 → dec (enc a) = a

variable {k1 k2 enc dec}

theorem Rel.at_enc (C : Coding k1 k2 enc dec) {v1 v2 : Vec} (h : Rel k2 enc dec v1 v2) (a : Nat) (ha : a < k1) :
    v2.at (enc a) = v1.at a := by
  have := h (enc a) (C.henc a ha)
  rw [C.hinv a ha] at this
  simpa using this

/-- the one-state slice `{a}` of the first coding corresponds to `{enc a}` in the second -/
theorem rel_single (C : Coding k1 k2 enc dec) (a : Nat) (ha : a < k1) (v1 v2 : Vec)
    (h1 : ∀ i, i < k1 → v1.at i = if i = a then 1 else 0) (h2 : ∀ b, b < k2 → v2.at b = if b = enc a then 1 else 0) :
    Rel k2 enc dec v1 v2 := by
  intro b hb
  rw [h2 b hb, h1 _ (C.hdec b hb)]
  by_cases hba : b = enc a
  · subst hba; simp [C.hinv a ha]
  · by_cases henc : enc (dec b) = b
    · have : ¬ dec b = a := fun e => hba (by rw [← henc, e])
      simp [hba, henc, this]
    · simp [hba, henc]

theorem rel_vzero : Rel k2 enc dec (vzero k1) (vzero k2) := by
  intro b _; simp [at_vzero]

theorem rel_vadd (C : Coding k1 k2 enc dec) {x1 x2 y1 y2 : Vec} (hx : Rel k2 enc dec x1 x2) (hy : Rel k2 enc dec y1 y2) :
    Rel k2 enc dec (vadd k1 x1 y1) (vadd k2 x2 y2) := by
  intro b hb
  have := hx b hb; have := hy b hb
  simp only [at_vadd, hb, C.hdec b hb, if_true]
  split <;> simp_all

theorem rel_maxTo (C : Coding k1 k2 enc dec) {v1 v2 : Vec} (h : Rel k2 enc dec v1 v2) :
    maxTo v2.at k2 = maxTo v1.at k1 := by
  apply Nat.le_antisymm
  · rw [maxTo_le_iff]
    intro b hb
    rw [h b hb]
    split
    · exact le_maxTo _ k1 _ (C.hdec b hb)
    · omega
  · rw [maxTo_le_iff]
    intro a ha
    rw [← h.at_enc C a ha]
    exact le_maxTo _ k2 _ (C.henc a ha)

theorem rel_cp (C : Coding k1 k2 enc dec) {v1 v2 : Vec} (h : Rel k2 enc dec v1 v2) (hnz : NZ k1 v1) :
    Rel k2 enc dec (cp k1 v1) (cp k2 v2) := by
  intro b hb
  have hm := rel_maxTo C h
  obtain ⟨a, ha, hne⟩ := hnz
  have hpos := le_maxTo v1.at k1 a ha
  simp only [cp, at_tab, hb, C.hdec b hb, if_true, hm]
  rw [h b hb]
  split
  · rfl
  · have : ¬ (0 = maxTo v1.at k1) := by omega
    simp [this]

theorem rel_inter (C : Coding k1 k2 enc dec) {s1 s2 p1 p2 : Vec} (hs : Rel k2 enc dec s1 s2) (hp : Rel k2 enc dec p1 p2) :
    Rel k2 enc dec (inter k1 s1 p1) (inter k2 s2 p2) := by
  have hsum := rel_vadd C hs hp
  rcases inter_cases k1 s1 p1 with ⟨⟨a0, ha0, hgt1⟩, heq1⟩ | ⟨hle1, heq1⟩
  · rcases inter_cases k2 s2 p2 with ⟨_, heq2⟩ | ⟨hle2, _⟩
    · rw [heq1, heq2]
      intro b hb
      simp only [at_tab, hb, C.hdec b hb, if_true]
      rw [hsum b hb]
      split <;> simp
    · exfalso
      have := hle2 (enc a0) (C.henc a0 ha0)
      rw [hs.at_enc C a0 ha0, hp.at_enc C a0 ha0] at this
      omega
  · rcases inter_cases k2 s2 p2 with ⟨⟨b0, hb0, hgt2⟩, _⟩ | ⟨_, heq2⟩
    · exfalso
      rw [hs b0 hb0, hp b0 hb0] at hgt2
      split at hgt2
      · have := hle1 (dec b0) (C.hdec b0 hb0); omega
      · omega
    · rw [heq1, heq2]; exact hs

end recode

section recodeTree
variable (k1 k2 : Nat) (enc dec : Nat → Nat) (tv1 tv2 : String → Vec)

/- the annotated trees of the two runs correspond slice by slice -/
mutual
def RelA : A → A → Prop
  | .node s1 ks1, .node s2 ks2 => Rel k2 enc dec s1 s2 ∧ RelAL ks1 ks2
def RelAL : List A → List A → Prop
  | [], [] => True
  | a1 :: r1, a2 :: r2 => RelA a1 a2 ∧ RelAL r1 r2
  | _, _ => False
end

mutual
theorem RelA.get : ∀ (a1 a2 : A), RelA k2 enc dec a1 a2 → ∀ (p : List Nat) (v1 v2 : Vec),
    a1.get p = some v1 → a2.get p = some v2 → Rel k2 enc dec v1 v2
  | .node s1 ks1, .node s2 ks2, h, [], v1, v2, h1, h2 => by
    simp only [RelA] at h
    simp only [A.get, Option.some.injEq] at h1 h2
    subst h1; subst h2; exact h.1
  | .node s1 ks1, .node s2 ks2, h, i :: p, v1, v2, h1, h2 => by
    simp only [RelA] at h
    simp only [A.get] at h1 h2
    exact RelAL.get ks1 ks2 h.2 i p v1 v2 h1 h2
theorem RelAL.get : ∀ (l1 l2 : List A), RelAL k2 enc dec l1 l2 → ∀ (i : Nat) (p : List Nat) (v1 v2 : Vec),
    A.getL l1 i p = some v1 → A.getL l2 i p = some v2 → Rel k2 enc dec v1 v2
  | [], [], _, _, _, _, _, h1, _ => by simp [A.getL] at h1
  | [], _ :: _, h, _, _, _, _, _, _ => by simp [RelAL] at h
  | _ :: _, [], h, _, _, _, _, _, _ => by simp [RelAL] at h
  | a1 :: r1, a2 :: r2, h, 0, p, v1, v2, h1, h2 => by
    simp only [RelAL] at h
    simp only [A.getL] at h1 h2
    exact RelA.get a1 a2 h.1 p v1 v2 h1 h2
  | a1 :: r1, a2 :: r2, h, i + 1, p, v1, v2, h1, h2 => by
    simp only [RelAL] at h
    simp only [A.getL] at h1 h2
    exact RelAL.get r1 r2 h.2 i p v1 v2 h1 h2
end

/-- the parent slices handed down correspond -/
def RelOpt : Option Vec → Option Vec → Prop
  | none, none => True
  | some u1, some u2 => Rel k2 enc dec u1 u2
  | _, _ => False

variable {k1 k2 enc dec}

/- the slices of two corresponding annotated trees, in pre-order -/
inductive RelList (R : Vec → Vec → Prop) : List Vec → List Vec → Prop
  | nil : RelList R [] []
  | cons {a b : Vec} {l1 l2 : List Vec} : R a b → RelList R l1 l2 → RelList R (a :: l1) (b :: l2)

theorem RelList.append {R : Vec → Vec → Prop} : ∀ {a1 a2 b1 b2 : List Vec},
    RelList R a1 a2 → RelList R b1 b2 → RelList R (a1 ++ b1) (a2 ++ b2)
  | _, _, _, _, .nil, h => by simpa using h
  | _, _, _, _, .cons h t, h2 => by simpa using RelList.cons h (RelList.append t h2)

mutual
theorem RelA.flat : ∀ (a1 a2 : A), RelA k2 enc dec a1 a2 → RelList (Rel k2 enc dec) a1.flat a2.flat
  | .node s1 ks1, .node s2 ks2, h => by
    simp only [RelA] at h
    simp only [A.flat]
    exact RelList.cons h.1 (RelAL.flatL ks1 ks2 h.2)
theorem RelAL.flatL : ∀ (l1 l2 : List A), RelAL k2 enc dec l1 l2 → RelList (Rel k2 enc dec) (A.flatL l1) (A.flatL l2)
  | [], [], _ => by simp only [A.flatL]; exact RelList.nil
  | [], _ :: _, h => by simp [RelAL] at h
  | _ :: _, [], h => by simp [RelAL] at h
  | a1 :: r1, a2 :: r2, h => by
    simp only [RelAL] at h
    simp only [A.flatL]
    exact RelList.append (RelA.flat a1 a2 h.1) (RelAL.flatL r1 r2 h.2)
end

/- DELTRAN and ACCTRAN preserve the correspondence -/
theorem rel_interOpt (C : Coding k1 k2 enc dec) {s1 s2 : Vec} (hs : Rel k2 enc dec s1 s2) :
    ∀ (q1 q2 : Option Vec), RelOpt k2 enc dec q1 q2 → Rel k2 enc dec (interOpt k1 s1 q1) (interOpt k2 s2 q2)
  | none, none, _ => hs
  | some _, some _, hq => rel_inter C hs hq
  | none, some _, hq => hq.elim
  | some _, none, hq => hq.elim

mutual
theorem deltran_rel (C : Coding k1 k2 enc dec) : ∀ (a1 a2 : A) (q1 q2 : Option Vec), RelOpt k2 enc dec q1 q2 →
    RelA k2 enc dec a1 a2 → RelA k2 enc dec (deltran k1 q1 a1) (deltran k2 q2 a2)
  | .node s1 [], .node s2 [], _, _, _, h => by simpa [deltran, RelA, RelAL] using h
  | .node s1 [], .node s2 (_ :: _), _, _, _, h => by simp [RelA, RelAL] at h
  | .node s1 (_ :: _), .node s2 [], _, _, _, h => by simp [RelA, RelAL] at h
  | .node s1 (c1 :: r1), .node s2 (c2 :: r2), q1, q2, hq, h => by
    simp only [RelA] at h
    have hs' := rel_interOpt C h.1 q1 q2 hq
    rw [deltran_node, deltran_node]
    simp only [RelA]
    exact ⟨hs', deltranL_rel C (c1 :: r1) (c2 :: r2) _ _ hs' h.2⟩
theorem deltranL_rel (C : Coding k1 k2 enc dec) : ∀ (l1 l2 : List A) (q1 q2 : Option Vec), RelOpt k2 enc dec q1 q2 →
    RelAL k2 enc dec l1 l2 → RelAL k2 enc dec (deltranL k1 q1 l1) (deltranL k2 q2 l2)
  | [], [], _, _, _, _ => by simp [deltranL, RelAL]
  | [], _ :: _, _, _, _, h => by simp [RelAL] at h
  | _ :: _, [], _, _, _, h => by simp [RelAL] at h
  | a1 :: r1, a2 :: r2, q1, q2, hq, h => by
    simp only [RelAL] at h
    simp only [deltranL, RelAL]
    exact ⟨deltran_rel C a1 a2 q1 q2 hq h.1, deltranL_rel C r1 r2 q1 q2 hq h.2⟩
end

theorem acctran_rel (C : Coding k1 k2 enc dec) (a1 a2 : A) (q1 q2 : Option Vec) (hq : RelOpt k2 enc dec q1 q2)
    (h : RelA k2 enc dec a1 a2) : RelA k2 enc dec (acctran k1 q1 a1) (acctran k2 q2 a2) := by
  rw [acctran_eq, acctran_eq]; exact deltran_rel C a1 a2 q1 q2 hq h

theorem acctranL_rel (C : Coding k1 k2 enc dec) : ∀ (l1 l2 : List A) (q1 q2 : Option Vec), RelOpt k2 enc dec q1 q2 →
    RelAL k2 enc dec l1 l2 → RelAL k2 enc dec (acctranL k1 q1 l1) (acctranL k2 q2 l2) := by
  intro l1 l2 q1 q2 hq h
  rw [acctranL_eq, acctranL_eq]; exact deltranL_rel C l1 l2 q1 q2 hq h

/-- the tip slices correspond and are non-empty -/
def TipRel (n : String) : Prop := Rel k2 enc dec (tv1 n) (tv2 n) ∧ NZ k1 (tv1 n)

variable {tv1 tv2}

theorem upS_nz (hk1 : 0 < k1) (c : T) (hl : ∀ n ∈ c.leaves, NZ k1 (tv1 n)) : NZ k1 (upS k1 tv1 c) := by
  match c, hl with
  | .node d p [], hl => simp only [upS]; exact hl d.name (by simp [T.leaves])
  | .node d p (x :: xs), _ => simp only [upS]; exact cp_nz k1 hk1 _

theorem sumL_nz (hk1 : 0 < k1) : ∀ (ks : Kids), ks ≠ [] → (∀ n ∈ leavesL ks, NZ k1 (tv1 n)) → NZ k1 (sumL k1 tv1 ks)
  | [], h, _ => by simp at h
  | (e, c) :: r, _, hl => by
    obtain ⟨a, ha, hne⟩ := upS_nz hk1 c (leavesL_cons hl).1
    exact ⟨a, ha, by simp only [sumL, at_vadd, ha, if_true]; omega⟩

theorem nz_vadd_left {k : Nat} {x y : Vec} (h : NZ k x) : NZ k (vadd k x y) := by
  obtain ⟨a, ha, hne⟩ := h
  exact ⟨a, ha, by simp only [at_vadd, ha, if_true]; omega⟩

theorem nz_vadd_right {k : Nat} {x y : Vec} (h : NZ k y) : NZ k (vadd k x y) := by
  obtain ⟨a, ha, hne⟩ := h
  exact ⟨a, ha, by simp only [at_vadd, ha, if_true]; omega⟩

abbrev LeavesRel (k1 k2 : Nat) (enc dec : Nat → Nat) (tv1 tv2 : String → Vec) (l : List String) : Prop :=
  ∀ n ∈ l, TipRel (k1 := k1) (k2 := k2) (enc := enc) (dec := dec) tv1 tv2 n

/- UPPASS -/
mutual
theorem up_rel (C : Coding k1 k2 enc dec) (hk1 : 0 < k1) : ∀ c : T,
    LeavesRel k1 k2 enc dec tv1 tv2 c.leaves → Rel k2 enc dec (upS k1 tv1 c) (upS k2 tv2 c)
  | .node d _ [], hl => by simp only [upS]; exact (hl d.name (by simp [T.leaves])).1
  | .node _ _ (x :: xs), hl => by
    rw [leaves_node_cons] at hl
    simp only [upS]
    exact rel_cp C (sumL_rel C hk1 (x :: xs) hl) (sumL_nz hk1 (x :: xs) (by simp) (fun n hn => (hl n hn).2))
theorem sumL_rel (C : Coding k1 k2 enc dec) (hk1 : 0 < k1) : ∀ (ks : Kids),
    LeavesRel k1 k2 enc dec tv1 tv2 (leavesL ks) → Rel k2 enc dec (sumL k1 tv1 ks) (sumL k2 tv2 ks)
  | [], _ => by simp only [sumL]; exact rel_vzero
  | (e, c) :: r, hl => by
    simp only [sumL]
    exact rel_vadd C (up_rel C hk1 c (leavesL_cons hl).1)
      (sumL_rel C hk1 r (leavesL_cons hl).2)
end

/- the up-pass slices of all nodes -/
mutual
theorem upA_rel (C : Coding k1 k2 enc dec) (hk1 : 0 < k1) : ∀ c : T,
    LeavesRel k1 k2 enc dec tv1 tv2 c.leaves → RelA k2 enc dec (upA k1 tv1 c) (upA k2 tv2 c)
  | .node d p ks, hl => by
    have hs := up_rel C hk1 (.node d p ks) hl
    simp only [upA, RelA]
    refine ⟨hs, upAL_rel C hk1 ks ?_⟩
    cases ks with
    | nil => intro n hn; simp [leavesL] at hn
    | cons x xs => rw [leaves_node_cons] at hl; exact hl
theorem upAL_rel (C : Coding k1 k2 enc dec) (hk1 : 0 < k1) : ∀ (ks : Kids),
    LeavesRel k1 k2 enc dec tv1 tv2 (leavesL ks) → RelAL k2 enc dec (upAL k1 tv1 ks) (upAL k2 tv2 ks)
  | [], _ => by simp [upAL, RelAL]
  | (e, c) :: r, hl => by
    simp only [upAL, RelAL]
    exact ⟨upA_rel C hk1 c (leavesL_cons hl).1,
      upAL_rel C hk1 r (leavesL_cons hl).2⟩
end

/- DOWNPASS -/
theorem rel_addUp (C : Coding k1 k2 enc dec) {v1 v2 : Vec} (hv : Rel k2 enc dec v1 v2) :
    ∀ (us1 us2 : Option Vec), RelOpt k2 enc dec us1 us2 → Rel k2 enc dec (addUp k1 us1 v1) (addUp k2 us2 v2)
  | none, none, _ => hv
  | some _, some _, hus => rel_vadd C hus hv
  | none, some _, hus => hus.elim
  | some _, none, hus => hus.elim

/- `hcond`: the counts a child is handed are not all zero — an all-zero slice would come back from
   `computeParsimony` as the full set of the alphabet, which is not transported (only at a root with one child) -/
mutual
theorem down_rel (C : Coding k1 k2 enc dec) (hk1 : 0 < k1) : ∀ (c : T) (us1 us2 : Option Vec),
    RelOpt k2 enc dec us1 us2 → (∀ u1, us1 = some u1 → NZ k1 u1) →
    (us1 = none → c.kids.length ≠ 1) → LeavesRel k1 k2 enc dec tv1 tv2 c.leaves →
    RelA k2 enc dec (down k1 tv1 us1 c) (down k2 tv2 us2 c)
  | .node d _ [], _, _, _, _, _, hl => by
    simp only [down, RelA, RelAL]
    exact ⟨(hl d.name (by simp [T.leaves])).1, trivial⟩
  | .node _ _ (x :: xs), us1, us2, hus, hnz, hroot, hl => by
    rw [leaves_node_cons] at hl
    have hsumnz := sumL_nz hk1 (x :: xs) (by simp) (fun n hn => (hl n hn).2)
    have hlist := downL_rel C hk1 (x :: xs) us1 us2 hus hnz (vzero k1) (vzero k2) rel_vzero
      (by
        cases hu : us1 with
        | some _ => exact Or.inl rfl
        | none =>
          right; right
          have := hroot hu
          simp only [T.kids_node, List.length_cons] at this ⊢
          omega) hl
    have hnzst : NZ k1 (addUp k1 us1 (sumL k1 tv1 (x :: xs))) := by
      cases us1 with
      | none => exact hsumnz
      | some u1 => exact nz_vadd_right hsumnz
    rw [down_node, down_node]
    simp only [RelA]
    exact ⟨rel_cp C (rel_addUp C (sumL_rel C hk1 (x :: xs) hl) us1 us2 hus) hnzst, hlist⟩
theorem downL_rel (C : Coding k1 k2 enc dec) (hk1 : 0 < k1) : ∀ (ks : Kids)
    (us1 us2 : Option Vec), RelOpt k2 enc dec us1 us2 → (∀ u1, us1 = some u1 → NZ k1 u1) →
    ∀ (pre1 pre2 : Vec), Rel k2 enc dec pre1 pre2 →
    (us1.isSome = true ∨ NZ k1 pre1 ∨ 2 ≤ ks.length) →
    LeavesRel k1 k2 enc dec tv1 tv2 (leavesL ks) →
    RelAL k2 enc dec (downL k1 tv1 us1 pre1 ks) (downL k2 tv2 us2 pre2 ks)
  | [], _, _, _, _, _, _, _, _, _ => by simp [downL, RelAL]
  | (e, c) :: rest, us1, us2, hus, hnz, pre1, pre2, hpre, hcond, hl => by
    have hlc : LeavesRel k1 k2 enc dec tv1 tv2 c.leaves := (leavesL_cons hl).1
    have hlr : LeavesRel k1 k2 enc dec tv1 tv2 (leavesL rest) := (leavesL_cons hl).2
    have hrec := downL_rel C hk1 rest us1 us2 hus hnz
      (vadd k1 pre1 (upS k1 tv1 c)) (vadd k2 pre2 (upS k2 tv2 c)) (rel_vadd C hpre (up_rel C hk1 c hlc))
      (Or.inr (Or.inl (nz_vadd_right (upS_nz hk1 c (fun n hn => (hlc n hn).2))))) hlr
    have hnzst : NZ k1 (addUp k1 us1 (vadd k1 pre1 (sumL k1 tv1 rest))) := by
      match us1, hnz, hcond with
      | some u1, hnz, _ => exact nz_vadd_left (hnz u1 rfl)
      | none, _, hcond =>
        rcases hcond with h | h | h
        · simp at h
        · exact nz_vadd_left h
        · have : rest ≠ [] := by intro e; subst e; simp at h
          exact nz_vadd_right (sumL_nz hk1 rest this (fun n hn => (hlr n hn).2))
    rw [downL_cons, downL_cons]
    simp only [RelAL]
    exact ⟨down_rel C hk1 c _ _ (rel_cp C (rel_addUp C (rel_vadd C hpre (sumL_rel C hk1 rest hlr)) us1 us2 hus) hnzst)
      (fun u1 e => by cases e; exact cp_nz k1 hk1 _) (fun e => by cases e) hlc, hrec⟩
end

/-- the annotated trees the algorithms compute over two codings related by an injection correspond slice by slice -/
theorem runAlgo_rel (C : Coding k1 k2 enc dec) (hk1 : 0 < k1) (algo : Algo) (t : T) (hlen : t.kids.length ≠ 1)
    (hlr : LeavesRel k1 k2 enc dec tv1 tv2 t.leaves) :
    RelA k2 enc dec (runAlgo k1 tv1 algo t) (runAlgo k2 tv2 algo t) := by
  have hdown := down_rel C hk1 t none none trivial (fun _ e => by cases e) (fun _ => hlen) hlr
  have hup := upA_rel C hk1 t hlr
  cases algo with
  | downpass => exact hdown
  | deltran => exact deltran_rel C _ _ none none trivial hdown
  | acctran => exact acctran_rel C _ _ none none trivial hup
  | none => exact hup

end recodeTree

end Gotree.C12

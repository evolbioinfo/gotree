/-
  C06 — one call of `removeTip(tip, rooted)` and the loop of `RemoveTips`, for every shape of the root
  (≥ 3 neighbours, two neighbours, a tip) and both values of the flag: the call succeeds, removes exactly
  the tip asked for, leaves no single-child node, and the split list of the result derives from the old one
  by `IndR` (flag on) or `Ind` (flag off).  Core Lean only.
-/
import Gotree.Lemmas.C06Canon
import Gotree.Lemmas.C06Ind

namespace Gotree.C06
open Gotree Gotree.C14

theorem disjoint_of_nodup_append {A B : List String} (h : (A ++ B).Nodup) :
    ∀ a ∈ A ++ B, (a ∈ A ↔ a ∉ B) := by
  intro a ha
  have hd := (List.nodup_append.1 h).2.2
  constructor
  · intro h1 h2; exact hd a h1 a h2 rfl
  · intro h2
    rcases List.mem_append.1 ha with m | m
    · exact m
    · exact absurd m h2

theorem noSingleBelow_iff (c : T) : c.noSingleBelow = true ↔ c.kids.length ≠ 1 ∧ noSingleL c.kids = true := by
  obtain ⟨d, p, k⟩ := c
  simp [T.noSingleBelow]

/-- the two branches of a suppressed root are fused into the branch of the second child -/
theorem Ind.fuseRoot {K : List String} (h0 h1 hf : SplitE) (K0 K1 : List SplitE)
    (hf' : Ind K [h0, h1] [hf]) : Ind K (h0 :: (K0 ++ h1 :: K1)) (K0 ++ hf :: K1) := by
  have a1 : Ind K (h0 :: (K0 ++ h1 :: K1)) (K0 ++ (h1 :: K1 ++ [h0])) := by
    simpa [List.append_assoc] using Ind.swap (K := K) [h0] (K0 ++ h1 :: K1)
  have a2 : Ind K (h1 :: K1 ++ [h0]) (h0 :: h1 :: K1) := Ind.swap (h1 :: K1) [h0]
  have a3 : Ind K (h0 :: h1 :: K1) (hf :: K1) := Ind.append hf' (Ind.refl K1)
  exact a1.trans (Ind.append (Ind.refl K0) (a2.trans a3))

/-- a branch with every kept tip below it goes, what hangs under it stays -/
theorem IndR.dropTopKid {K : List String} (e : EdgeD) (c : T) (hn : c.leaves.Nodup) (hK : ∀ a ∈ K, a ∈ c.leaves) :
    IndR K (splitsL [(e, c)]) (splitsL c.kids) := by
  have := IndR.append (IndR.dropTop (K := K) ⟨c.leaves, e, c.isLeaf⟩ hn hK) (IndR.refl c.splitsBelow)
  simpa [splitsL_singleton, T.splitsBelow_eq c] using this

/-- Cases 2, 3) of `removeTip` at a root left with the two kids `ka` (an inner node) and `kb`: `ka` becomes
    the root and gets `kb` as its last child; `ef` is the fused branch, whichever way round its two parts
    were handed to `fuseEdge`.  Seen from the new root the branch of `ka` has become its complement. -/
theorem suppressRoot_spec (ea eb ef : EdgeD) (ka kb : T) (ha : ka.kids.length > 1)
    (hef : ef = fuseEdge ea eb (!kb.isLeaf) ∨ ef = fuseEdge eb ea (!kb.isLeaf))
    (hnsa : ka.noSingleBelow = true) (hnsb : kb.noSingleBelow = true) (hnd : (ka.leaves ++ kb.leaves).Nodup) :
    (T.node ka.d 0 (ka.kids ++ [(ef, reattach kb)])).tipNames = ka.leaves ++ kb.leaves ∧
    (T.node ka.d 0 (ka.kids ++ [(ef, reattach kb)])).noSingle = true ∧
    ∀ K : List String, (∀ a ∈ K, a ∈ ka.leaves ++ kb.leaves) →
      Ind K (splitsL [(ea, ka), (eb, kb)]) (T.node ka.d 0 (ka.kids ++ [(ef, reattach kb)])).splits := by
  have hka : ka.kids ≠ [] := by intro h; rw [h] at ha; simp at ha
  refine ⟨?_, ?_, fun K hK => ?_⟩
  · rw [T.tipNames_of_ne_one (by simp only [T.kids_node, List.length_append]; simp; omega)]
    simp [leavesL_append, leavesL_singleton, T.leaves_of_kids_ne hka]
  · simp [T.noSingle, nodeWise_noSingle.append, nodeWise_noSingle.single, ((noSingleBelow_iff ka).1 hnsa).2, hnsb]
  · have hdis := disjoint_of_nodup_append hnd
    have na : ka.leaves.Nodup := (List.nodup_append.1 hnd).1
    have nb : kb.leaves.Nodup := (List.nodup_append.1 hnd).2.1
    have hf := Ind.fuse (K := K) ⟨ka.leaves, ea, ka.isLeaf⟩ ⟨kb.leaves, eb, kb.isLeaf⟩
      ⟨kb.leaves, ef, kb.isLeaf⟩ na nb nb
      (Or.inr fun a ha => hdis a (hK a ha)) (sameSplit.rfl' _ _) (!kb.isLeaf) (flag_of_leaf K kb) hef
    have := Ind.fuseRoot _ _ _ ka.splitsBelow kb.splitsBelow hf
    simpa [T.splits_node, splitsL_append, splitsL_singleton, splitsL, T.splitsBelow_eq ka] using this

/-- Cases 1b, 2/3) and 3 of `removeTip` for a root left with the kids `ks`, at least 3 tips below them: an only
    child takes the place of the root, a root with two kids is suppressed (the only step that turns a branch
    into its complement), a root with more kids stays. -/
theorem rootAfterLoss_spec (d : NodeD) (p : Nat) (ks : Kids) (hns : noSingleL ks = true)
    (hnd : (leavesL ks).Nodup) (hcount : 3 ≤ (leavesL ks).length) :
    ∃ t', rootAfterLoss d p ks = .ok t' ∧ t'.tipNames.Perm (leavesL ks) ∧ t'.noSingle = true ∧
      2 ≤ t'.kids.length ∧ (2 ≤ ks.length → 3 ≤ t'.kids.length) ∧
      ∀ K : List String, (∀ a ∈ K, a ∈ leavesL ks) →
        Ind K (splitsL ks) t'.splits ∧ (ks.length ≠ 2 → IndR K (splitsL ks) t'.splits) := by
  match ks, hns, hnd, hcount with
  | [], _, _, hcount => simp [leavesL] at hcount
  | [(e, c)], hns, hnd, hcount =>
    simp only [leavesL_singleton] at hnd hcount ⊢
    obtain ⟨hc1, hcns⟩ := (noSingleBelow_iff c).1 (by simpa [noSingleL] using hns)
    have hc : c.kids ≠ [] := by
      intro h0; rw [T.leaves_of_kids_nil h0] at hcount; simp at hcount
    have hc2 : 2 ≤ c.kids.length := by
      have := List.length_pos_iff.2 hc; omega
    refine ⟨.node c.d 0 c.kids, rfl, ?_, hcns, hc2, by simp,
      fun K hK => ⟨(IndR.dropTopKid e c hnd hK).toInd, fun _ => IndR.dropTopKid e c hnd hK⟩⟩
    rw [T.tipNames_of_ne_one (by simpa using hc1), T.leaves_of_kids_ne hc]
    exact List.Perm.refl _
  | [(e0, k0), (e1, k1)], hns, hnd, hcount =>
    simp only [noSingleL, Bool.and_true, Bool.and_eq_true] at hns
    have hLv : leavesL [(e0, k0), (e1, k1)] = k0.leaves ++ k1.leaves := by simp [leavesL]
    rw [hLv] at hnd hcount ⊢
    by_cases h0 : k0.kids.length > 1
    · obtain ⟨g1, g2, g3⟩ := suppressRoot_spec e0 e1 _ k0 k1 h0 (Or.inl rfl) hns.1 hns.2 hnd
      exact ⟨_, by simp only [rootAfterLoss, h0, if_true], g1 ▸ List.Perm.refl _, g2, by simp; omega,
        fun _ => by simp; omega, fun K hK => ⟨g3 K hK, fun h => absurd rfl h⟩⟩
    · by_cases h1 : k1.kids.length > 1
      · have hnd' : (k1.leaves ++ k0.leaves).Nodup := (List.perm_append_comm.nodup_iff).1 hnd
        obtain ⟨g1, g2, g3⟩ := suppressRoot_spec e1 e0 _ k1 k0 h1 (Or.inr rfl) hns.2 hns.1 hnd'
        refine ⟨_, by simp only [rootAfterLoss, h0, h1, if_true, if_false], g1 ▸ List.perm_append_comm, g2,
          by simp; omega, fun _ => by simp; omega, fun K hK => ⟨?_, fun h => absurd rfl h⟩⟩
        have sw : Ind K (splitsL [(e0, k0), (e1, k1)]) (splitsL [(e1, k1), (e0, k0)]) := by
          simpa [splitsL] using Ind.swap (K := K) (splitsL [(e0, k0)]) (splitsL [(e1, k1)])
        exact sw.trans (g3 K fun a ha => List.perm_append_comm.mem_iff.1 (hK a ha))
      · exfalso
        rw [T.leaves_of_kids_nil (kids_of_noSingle_le1 k0 hns.1 h0),
          T.leaves_of_kids_nil (kids_of_noSingle_le1 k1 hns.2 h1)] at hcount
        simp at hcount
  | a :: b :: c :: r, hns, _, _ =>
    refine ⟨.node d p (a :: b :: c :: r), rfl, ?_, hns, by simp, fun _ => by simp,
      fun K _ => ⟨Ind.refl _, fun _ => IndR.refl _⟩⟩
    rw [T.tipNames_of_ne_one (by simp)]
    exact List.Perm.refl _

/-- `t'` is what removals made of `t`, as far as the loop of `RemoveTips` must remember it from one removal
    to the next: the tips are some of the old ones; a root that is not a tip does not become one; without
    the flag a root with ≥ 3 neighbours keeps ≥ 3, and a tip root either is still the root, under its
    name, or is gone and has left a root with ≥ 3 neighbours; the split list, seen from any tips `K` of
    `t'`, derives from the old one (below a tip root `K` must be free of repetitions: the branch of the root
    is a trivial split only then). -/
structure Pruned (rooted : Bool) (t t' : T) : Prop where
  sub : ∀ a ∈ t'.tipNames, a ∈ t.tipNames
  inner : t.kids.length ≠ 1 → t'.kids.length ≠ 1
  wide : rooted = false → 3 ≤ t.kids.length → 3 ≤ t'.kids.length
  tipRoot : rooted = false → t.kids.length = 1 →
    (t'.kids.length = 1 ∧ t'.name = t.name) ∨ (t.name ∉ t'.tipNames ∧ 3 ≤ t'.kids.length)
  ind : ∀ K : List String, (t.kids.length = 1 → K.Nodup) → (∀ a ∈ K, a ∈ t'.tipNames) →
    Ind K t.splits t'.splits ∧ (rooted = true → IndR K t.splits t'.splits)

theorem Pruned.refl (rooted : Bool) (t : T) : Pruned rooted t t :=
  ⟨fun _ h => h, fun h => h, fun _ h => h, fun _ h => Or.inl ⟨h, rfl⟩,
    fun _ _ _ => ⟨Ind.refl _, fun _ => IndR.refl _⟩⟩

theorem Pruned.trans {rooted : Bool} {a b c : T} (h : Pruned rooted a b) (g : Pruned rooted b c) :
    Pruned rooted a c := by
  refine ⟨fun x hx => h.sub x (g.sub x hx), fun ha => g.inner (h.inner ha), fun hr ha => g.wide hr (h.wide hr ha),
    fun hr ha => ?_, fun K hK hKc => ?_⟩
  · rcases h.tipRoot hr ha with ⟨hb1, hbn⟩ | ⟨hn, h3⟩
    · rcases g.tipRoot hr hb1 with ⟨hc1, hcn⟩ | ⟨hn', h3'⟩
      · exact Or.inl ⟨hc1, hcn.trans hbn⟩
      · exact Or.inr ⟨hbn ▸ hn', h3'⟩
    · exact Or.inr ⟨fun hm => hn (g.sub _ hm), g.wide hr h3⟩
  · have h1 := h.ind K hK (fun x hx => g.sub x (hKc x hx))
    have h2 := g.ind K (fun hb1 => hK (Decidable.by_contra fun hne => h.inner hne hb1)) hKc
    exact ⟨h1.1.trans h2.1, fun hr => (h1.2 hr).trans (h2.2 hr)⟩

theorem removeTipR_false (x : String) (t : T) : removeTipR false x t = removeTip x t := by
  simp [removeTipR]

/-- `removeTip(tip, rooted)` when the tip is not the root: the search below the root, then the root itself -/
theorem removeTipR_node (rooted : Bool) (x : String) (d : NodeD) (p : Nat) (kids : Kids)
    (h : ¬ (kids.length = 1 ∧ d.name = x)) :
    removeTipR rooted x (.node d p kids) =
      match rmKids x kids with
      | .notFound => .ok (.node d p kids)
      | .set ks => .ok (.node d p ks)
      | .spl _ ks ei e c => .ok (.node d p (ks ++ [(fuseEdge ei e (decide (ks.length + 1 > 1) && !c.isLeaf), c)]))
      | .del _ ks => if rooted && ks.length == 2 then .ok (.node d p ks) else rootAfterLoss d p ks := by
  have hc : (kids.length == 1 && d.name == x) = false := by simpa using h
  cases rooted <;> simp only [removeTipR, removeTip, hc, Bool.not_true, Bool.not_false, Bool.false_eq_true, if_false,
    if_true, Bool.false_and, Bool.true_and]
  all_goals
    cases rmKids x kids with
    | notFound => rfl
    | set ks => rfl
    | spl i ks ei e c => rfl
    | del i ks =>
      match ks with
      | [] => rfl
      | [(_, _)] => rfl
      | [(_, _), (_, _)] => rfl
      | _ :: _ :: _ :: _ => rfl

/-- below a tip root `r`, the only branch of the root is a trivial split of any set of taxa:
    everything but `r` is below it -/
theorem lightSize_below_tip_root {K A : List String} {r : String} (hK : K.Nodup) (hA : A.Nodup)
    (h : ∀ a ∈ K, a = r ∨ a ∈ A) : ¬ 2 ≤ lightSize K A := by
  unfold lightSize
  simp only
  have c := restr_add_out hK hA
  have := List.Nodup.length_le_of_subset (l₂ := [r]) (hK.filter fun n => !A.contains n) fun a ha =>
    List.mem_singleton.2 ((h a (mem_out.1 ha).1).resolve_right (mem_out.1 ha).2)
  simp only [List.length_singleton] at this
  omega

/-- the root stays where it is and keeps its number of kids: every step below it is oriented -/
theorem Pruned.of_same_root {rooted : Bool} {d : NodeD} {p : Nat} {kids ks : Kids} (hlen : ks.length = kids.length)
    (hsub : ∀ a ∈ (T.node d p ks).tipNames, a ∈ (T.node d p kids).tipNames)
    (hI : ∀ K : List String, (kids.length = 1 → K.Nodup) → (∀ a ∈ K, a ∈ (T.node d p ks).tipNames) →
      IndR K (splitsL kids) (splitsL ks)) : Pruned rooted (.node d p kids) (.node d p ks) :=
  ⟨hsub, fun h => by simpa [hlen] using h, fun _ h => by simpa [hlen] using h,
    fun _ h => Or.inl ⟨by simpa [hlen] using h, rfl⟩, fun K hK hKc => ⟨(hI K hK hKc).toInd, fun _ => hI K hK hKc⟩⟩

/-- **One call of `removeTip(tip, rooted)`** on a tree without single-child inner node and with unique tip
    names, at least 3 tips remaining, whatever the root (with the flag on, not a tip): the call succeeds, the
    tips are the others, no single-child node appears, and `Pruned`. -/
theorem removeTipR_step (rooted : Bool) (x : String) (t : T) (hr : rooted = true → t.kids.length ≠ 1)
    (hns : t.noSingle = true) (hnd : t.tipNames.Nodup) (hcount : 4 ≤ t.tipNames.length) :
    ∃ t', removeTipR rooted x t = .ok t' ∧ t'.tipNames.Perm (t.tipNames.erase x) ∧ t'.noSingle = true ∧
      Pruned rooted t t' := by
  -- what is common to all cases, once the result `t'` and its tips are known
  have fin : ∀ t' : T, t'.tipNames.Perm (t.tipNames.erase x) →
      (∀ a ∈ t'.tipNames, a ∈ t.tipNames) ∧ ∀ K : List String, (∀ a ∈ K, a ∈ t'.tipNames) → x ∉ K :=
    fun t' hp => ⟨fun a ha => List.mem_of_mem_erase (hp.mem_iff.1 ha),
      fun K hK hm => (hnd.mem_erase_iff.1 (hp.mem_iff.1 (hK x hm))).1 rfl⟩
  obtain ⟨d, p, kids⟩ := t
  simp only [T.kids_node, T.noSingle] at hr hns
  by_cases hx : kids.length = 1 ∧ d.name = x
  · -- the tip root goes: its neighbour `c` takes its place and is a root that lost a neighbour
    obtain ⟨h1, rfl⟩ := hx
    have hrf : rooted = false := by cases rooted <;> simp_all
    subst hrf
    match kids, h1, hns, hnd, hcount, fin with
    | [(e, c)], _, hns, hnd, hcount, fin =>
      rw [tipNames_rt] at hnd hcount
      obtain ⟨hdn, hcn⟩ := List.nodup_cons.1 hnd
      have hc : c.kids ≠ [] := by
        intro h0; rw [T.leaves_of_kids_nil h0] at hcount; simp at hcount
      obtain ⟨hc1, hcns⟩ := (noSingleBelow_iff c).1 (by simpa [noSingleL] using hns)
      have hc2 : 2 ≤ c.kids.length := by
        have := List.length_pos_iff.2 hc; omega
      rw [T.leaves_of_kids_ne hc] at hdn hcn hcount
      obtain ⟨t', g1, g2, g3, _, g5, g6⟩ := rootAfterLoss_spec c.d 0 c.kids hcns hcn (by simpa using hcount)
      have hp : t'.tipNames.Perm ((T.node d p [(e, c)]).tipNames.erase d.name) := by
        rw [tipNames_rt, T.leaves_of_kids_ne hc]; simpa using g2
      refine ⟨t', by simp [removeTipR, removeTip, g1], hp, g3, (fin t' hp).1, fun h => absurd rfl h,
        fun _ h => by simp at h, fun _ _ => Or.inr ⟨fun h => hdn (g2.mem_iff.1 h), g5 hc2⟩,
        fun K _ hK => ⟨?_, fun h => by simp at h⟩⟩
      have hK' : ∀ a ∈ K, a ∈ leavesL c.kids := fun a ha => g2.mem_iff.1 (hK a ha)
      exact (IndR.dropTopKid e c (T.leaves_of_kids_ne hc ▸ hcn) (T.leaves_of_kids_ne hc ▸ hK')).toInd.trans (g6 K hK').1
  · rw [removeTipR_node rooted x d p kids hx]
    have hl := rmKids_leaves x kids
    have hn := nodeWise_noSingle.of_rmKids x kids hns
    -- the tips of a node `d` with as many kids as before: the same root tip, if any, then the leaves
    have hxd : kids.length = 1 → x ≠ d.name := fun h e => hx ⟨h, e.symm⟩
    have htn : ∀ ks : Kids, ks.length = kids.length → (leavesL ks).Perm ((leavesL kids).erase x) →
        (T.node d p ks).tipNames.Perm ((T.node d p kids).tipNames.erase x) := by
      intro ks hlen hp
      by_cases h1 : kids.length = 1
      · have hne : ¬ d.name = x := fun e => hxd h1 e.symm
        simpa [T.tipNames, hlen, h1, T.name, hne] using hp
      · simpa [T.tipNames, hlen, h1] using hp
    have hndk : (leavesL kids).Nodup := (List.nodup_append.1 hnd).2.1
    have hI := fun K (hxK : x ∉ K) => rmKids_indR K x hxK kids hndk
    cases hk : rmKids x kids with
    | notFound =>
      rw [hk] at hl
      have hp : (T.node d p kids).tipNames.Perm ((T.node d p kids).tipNames.erase x) :=
        htn kids rfl (by rw [List.erase_of_not_mem hl])
      exact ⟨_, rfl, hp, hns, Pruned.refl _ _⟩
    | set ks =>
      rw [hk] at hl hn
      have hp := htn ks hn.1 hl.2.1
      refine ⟨_, rfl, hp, hn.2, Pruned.of_same_root hn.1 (fin _ hp).1 fun K _ hK => ?_⟩
      have := hI K ((fin _ hp).2 K hK)
      rwa [hk] at this
    | spl i ks ei e c =>
      rw [hk] at hl hn
      obtain ⟨b1, b2, b3⟩ := hn
      have hlen : (ks ++ [(fuseEdge ei e (decide (ks.length + 1 > 1) && !c.isLeaf), c)]).length = kids.length := by
        simp [b1]
      have hp := htn _ hlen (by simpa [leavesL_append, leavesL_singleton] using hl.2)
      refine ⟨_, rfl, hp, by simp [T.noSingle, nodeWise_noSingle.append, nodeWise_noSingle.single, b2, b3],
        Pruned.of_same_root hlen (fin _ hp).1 fun K hKn hK => ?_⟩
      have := hI K ((fin _ hp).2 K hK)
      rw [hk] at this
      rw [splitsL_append, splitsL_singleton]
      refine this _ fun h2 => ?_
      cases ks with
      | cons k0 ks' => simpa using flag_of_leaf K c h2
      | nil =>
        -- the root is a tip: its branch is a trivial split of `K`
        exfalso
        have h1 : kids.length = 1 := by simpa using b1.symm
        have hcn : c.leaves.Nodup := by
          have := (hl.2.nodup_iff).2 (hndk.erase x)
          simpa [leavesL] using this
        refine lightSize_below_tip_root (r := d.name) (hKn h1) hcn (fun a ha => ?_) h2
        have := hK a ha
        simpa [T.tipNames, T.name, leavesL] using this
    | del i ks =>
      rw [hk] at hl hn
      obtain ⟨b1, b2⟩ := hn
      have h1 : kids.length ≠ 1 := by
        intro h1
        have h0 : ks = [] := List.length_eq_zero_iff.1 (by omega)
        have := hl.2.length_eq
        rw [h0, List.length_erase_of_mem hl.1] at this
        simp [T.tipNames, h1, leavesL] at hcount this
        omega
      have hT : (T.node d p kids).tipNames = leavesL kids := T.tipNames_of_ne_one (by simpa using h1)
      rw [hT] at hcount
      have hks : ks.length ≠ 1 → (T.node d p ks).tipNames.Perm ((T.node d p kids).tipNames.erase x) := fun h => by
        rw [hT, T.tipNames_of_ne_one (by simpa using h)]; exact hl.2
      have hdel : ∀ K, x ∉ K → IndR K (splitsL kids) (splitsL ks) := fun K hxK => by
        have := hI K hxK; rwa [hk] at this
      by_cases hflag : (rooted && ks.length == 2) = true
      · -- a root left with two kids is kept
        simp only [hflag, if_true]
        simp only [Bool.and_eq_true, beq_iff_eq] at hflag
        have hp := hks (by omega)
        refine ⟨_, rfl, hp, b2, (fin _ hp).1, fun _ => by simp; omega, fun h => by simp [hflag.1] at h,
          fun h => by simp [hflag.1] at h, fun K _ hK => ?_⟩
        have := hdel K ((fin _ hp).2 K hK)
        exact ⟨this.toInd, fun _ => this⟩
      · simp only [hflag, Bool.false_eq_true, if_false]
        have h3 : 3 ≤ (leavesL ks).length := by
          rw [hl.2.length_eq, List.length_erase_of_mem hl.1]; omega
        obtain ⟨t', g1, g2, g3, g4, g5, g6⟩ :=
          rootAfterLoss_spec d p ks b2 ((hl.2.nodup_iff).2 (hndk.erase x)) h3
        have hp : t'.tipNames.Perm ((T.node d p kids).tipNames.erase x) := hT ▸ g2.trans hl.2
        refine ⟨t', g1, hp, g3, (fin _ hp).1, fun _ => by omega, fun _ h => g5 (by simp at h; omega),
          fun _ h => absurd h h1, fun K _ hK => ?_⟩
        have hd := hdel K ((fin _ hp).2 K hK)
        have hr := g6 K fun a ha => g2.mem_iff.1 (hK a ha)
        refine ⟨hd.toInd.trans hr.1, fun hro => hd.trans (hr.2 fun h2 => hflag ?_)⟩
        simp [hro, h2]

theorem removeLoopR_false : ∀ (todo : List (String × Bool)) (t : T), removeLoopR false todo t = removeLoop todo t
  | [], _ => rfl
  | (n, rm) :: r, t => by
    simp only [removeLoopR, removeLoop, removeTipR_false]
    cases rm with
    | false => simp [removeLoopR_false r t]
    | true =>
      simp only [if_true]
      cases h : removeTip n t with
      | error e => rfl
      | ok t' => simp [removeLoopR_false r t']

theorem filter_erase_flag {l : List String} (hnd : l.Nodup) (n : String) (r : List String) :
    (l.erase n).filter (fun m => !r.contains m) = l.filter (fun m => !(n :: r).contains m) := by
  rw [hnd.erase_eq_filter n, List.filter_filter]
  apply List.filter_congr
  intro m _
  by_cases hmn : m = n
  · subst hmn; simp
  · simp [hmn]

/-- **Induction along the loop of `RemoveTips`**, the work list being the tips of the tree with the decision
    taken for each, at least 3 of them to be kept: whatever invariant `P` of the tree and reflexive transitive
    relation `R` between the tree before and after a single removal establishes (on a tree with ≥ 4 tips)
    hold for the whole loop, which succeeds and removes exactly the flagged tips. -/
theorem removeLoopR_induct (rooted : Bool) (P : T → Prop) (R : T → T → Prop) (hrefl : ∀ t, R t t)
    (htrans : ∀ {a b c : T}, R a b → R b c → R a c)
    (step : ∀ (x : String) (t : T), P t → t.noSingle = true → t.tipNames.Nodup → 4 ≤ t.tipNames.length →
      ∃ t₁, removeTipR rooted x t = .ok t₁ ∧ t₁.tipNames.Perm (t.tipNames.erase x) ∧ t₁.noSingle = true ∧
        P t₁ ∧ R t t₁) :
    ∀ (todo : List (String × Bool)) (t : T), P t → t.noSingle = true → t.tipNames.Nodup →
      (todo.map (·.1)).Nodup → (∀ n ∈ todo.map (·.1), n ∈ t.tipNames) →
      3 + (flagged todo).length ≤ t.tipNames.length →
      ∃ t', removeLoopR rooted todo t = .ok t' ∧
        t'.tipNames.Perm (t.tipNames.filter fun n => !(flagged todo).contains n) ∧
        t'.noSingle = true ∧ t'.tipNames.Nodup ∧ P t' ∧ R t t'
  | [], t, hP, hns, hnd, _, _, _ => by
    refine ⟨t, rfl, ?_, hns, hnd, hP, hrefl t⟩
    have : (t.tipNames.filter fun _ => true) = t.tipNames := List.filter_eq_self.2 (by simp)
    simp [flagged, this]
  | (n, false) :: r, t, hP, hns, hnd, htodo, hsub, hcount => by
    have hn : n ∈ t.tipNames := hsub n (by simp)
    have hf : flagged ((n, false) :: r) = flagged r := by simp [flagged]
    rw [hf] at hcount ⊢
    simp only [List.map_cons, List.nodup_cons] at htodo
    obtain ⟨t', g1, g2⟩ := removeLoopR_induct rooted P R hrefl htrans step r t hP hns hnd htodo.2
      (fun m hm => hsub m (by simp at hm ⊢; exact Or.inr hm)) hcount
    exact ⟨t', by simp [removeLoopR, hn, g1], g2⟩
  | (n, true) :: r, t, hP, hns, hnd, htodo, hsub, hcount => by
    have hn : n ∈ t.tipNames := hsub n (by simp)
    have hf : flagged ((n, true) :: r) = n :: flagged r := by simp [flagged]
    rw [hf] at hcount ⊢
    simp only [List.map_cons, List.nodup_cons] at htodo
    obtain ⟨t₁, h1, h2, h3, h4, h5⟩ := step n t hP hns hnd (by simp at hcount; omega)
    have hnd1 : t₁.tipNames.Nodup := (h2.nodup_iff).2 (hnd.erase n)
    have hsub1 : ∀ m ∈ r.map (·.1), m ∈ t₁.tipNames := by
      intro m hm
      have hmn : m ≠ n := by
        intro h; subst h; exact htodo.1 hm
      exact h2.mem_iff.2 ((List.mem_erase_of_ne hmn).2 (hsub m (by simp at hm ⊢; exact Or.inr hm)))
    have hc1 : 3 + (flagged r).length ≤ t₁.tipNames.length := by
      rw [h2.length_eq, List.length_erase_of_mem hn]; simp at hcount; omega
    obtain ⟨t', g1, g2, g3, g4, g5, g6⟩ :=
      removeLoopR_induct rooted P R hrefl htrans step r t₁ h4 h3 hnd1 htodo.2 hsub1 hc1
    refine ⟨t', by simp [removeLoopR, hn, h1, g1], ?_, g3, g4, g5, htrans h5 g6⟩
    rw [← filter_erase_flag hnd]
    exact g2.trans (h2.filter _)

/-- the loop as it is called by `RemoveTips`, for every shape of the root -/
theorem removeLoopR_pruned (rooted : Bool) (todo : List (String × Bool)) (t : T)
    (hr : rooted = true → t.kids.length ≠ 1) (hns : t.noSingle = true) (hnd : t.tipNames.Nodup)
    (htodo : (todo.map (·.1)).Nodup) (hsub : ∀ n ∈ todo.map (·.1), n ∈ t.tipNames)
    (hcount : 3 + (flagged todo).length ≤ t.tipNames.length) :
    ∃ t', removeLoopR rooted todo t = .ok t' ∧
      t'.tipNames.Perm (t.tipNames.filter fun n => !(flagged todo).contains n) ∧
      t'.noSingle = true ∧ t'.tipNames.Nodup ∧ Pruned rooted t t' := by
  obtain ⟨t', g1, g2, g3, g4, _, g6⟩ := removeLoopR_induct rooted (fun t => rooted = true → t.kids.length ≠ 1)
    (Pruned rooted) (Pruned.refl rooted) Pruned.trans
    (fun x t hP hns hnd hc => by
      obtain ⟨t₁, a, b, c, d⟩ := removeTipR_step rooted x t hP hns hnd hc
      exact ⟨t₁, a, b, c, fun h => d.inner (hP h), d⟩)
    todo t hr hns hnd htodo hsub hcount
  exact ⟨t', g1, g2, g3, g4, g6⟩

theorem removeLoop_rootEff : ∀ (todo : List (String × Bool)) (t : T), t.kids.length ≠ 1 → t.noSingle = true →
    t.tipNames.Nodup → (todo.map (·.1)).Nodup → (∀ n ∈ todo.map (·.1), n ∈ t.tipNames) →
    3 + (flagged todo).length ≤ t.tipNames.length →
    ∀ t', removeLoop todo t = .ok t' → RootEff t'.tipNames t.splits t'.splits := by
  intro todo t hroot hns hnd htodo hsub hcount t' h
  obtain ⟨t'', g1, _, _, _, Pr⟩ := removeLoopR_pruned false todo t (fun h => by cases h) hns hnd htodo hsub hcount
  rw [removeLoopR_false, h] at g1
  cases g1
  exact ind_rootEff (Pr.ind _ (fun h1 => absurd h1 hroot) (fun _ h => h)).1

/-- `RemoveTips` succeeds iff its loop does and leaves unique tip names; the index is then the sorted tip names -/
theorem removeTips_ok_iff (rev : Bool) (S : List String) (t t' : T) (ix : Index) :
    removeTips rev S t = .ok (t', ix) ↔
      removeLoopR t.rooted (workList t S rev) t = .ok t' ∧ t'.tipNames.Nodup ∧ ix = sortNames t'.tipNames := by
  unfold removeTips updateTipIndex
  cases removeLoopR t.rooted (workList t S rev) t with
  | error e => simp
  | ok t'' =>
    by_cases hd : hasDup t''.tipNames = true
    · have : ¬ t''.tipNames.Nodup := fun h => by simp [(hasDup_false_iff _).2 h] at hd
      simp only [hd, if_true, reduceCtorEq, Except.ok.injEq, false_iff, not_and]
      rintro rfl h; exact absurd h this
    · have hn : t''.tipNames.Nodup := (hasDup_false_iff _).1 (by simpa using hd)
      simp only [hd, Bool.false_eq_true, if_false, Except.ok.injEq, Prod.mk.injEq]
      exact ⟨by rintro ⟨rfl, rfl⟩; exact ⟨rfl, hn, rfl⟩, by rintro ⟨rfl, _, rfl⟩; exact ⟨rfl, rfl⟩⟩

/-- only the names that are tips of the tree count -/
theorem removeTips_congr (rev : Bool) {S S' : List String} (t : T)
    (h : ∀ n ∈ t.tipNames, S.contains n = S'.contains n) : removeTips rev S t = removeTips rev S' t := by
  have : workList t S rev = workList t S' rev := List.map_congr_left fun n hn => by rw [h n hn]
  simp [removeTips, this]

/-- everything the theorems of `Proofs/C06.lean` need about `RemoveTips` as it is now
    (`removeLoopR t.rooted`), for every root shape -/
theorem removeTips_coreR (t : T) (S : List String) (rev : Bool) (h₁ : wfR t = true)
    (h₃ : 3 ≤ (kept t S rev).length) :
    ∃ t', removeTips rev S t = .ok (t', sortNames t'.tipNames) ∧ t'.tipNames.Perm (kept t S rev) ∧
      wfR t' = true ∧ rootAfterOK t S rev t' = true ∧
      Ind (kept t S rev) t.splits t'.splits ∧
      (t.rooted = true → IndR (kept t S rev) t.splits t'.splits) := by
  obtain ⟨hnd, hns⟩ := (wfR_iff t).1 h₁
  have hcount : 3 + (flagged (workList t S rev)).length ≤ t.tipNames.length := by
    rw [flagged_workList]
    have := filter_length_compl t.tipNames (fun n => S.contains n != rev)
    have e : (t.tipNames.filter fun n => !(S.contains n != rev)) = kept t S rev := by
      unfold kept; apply List.filter_congr; intro n _; cases S.contains n <;> cases rev <;> rfl
    rw [e] at this
    unfold toRemove; omega
  have hmap : (workList t S rev).map (·.1) = t.tipNames := by
    simp [workList, Function.comp_def]
  have hkeptEq : (t.tipNames.filter fun n => !(toRemove t S rev).contains n) = kept t S rev := by
    unfold kept toRemove
    apply List.filter_congr
    intro n hn
    simp [hn]
    cases S.contains n <;> cases rev <;> simp
  obtain ⟨t', g1, g2, g3, g4, Pr⟩ := removeLoopR_pruned t.rooted (workList t S rev) t
    (fun h => by simp [T.rooted] at h; omega) hns hnd (hmap ▸ hnd) (fun n hn => hmap ▸ hn) hcount
  rw [flagged_workList, hkeptEq] at g2
  have hI := Pr.ind (kept t S rev) (fun _ => hnd.filter _) (fun a ha => g2.mem_iff.2 ha)
  refine ⟨t', (removeTips_ok_iff ..).2 ⟨g1, g4, rfl⟩, g2, (wfR_iff t').2 ⟨g4, g3⟩, ?_, hI⟩
  have hmem : ∀ a, a ∈ kept t S rev ↔ a ∈ t'.tipNames := fun a => g2.mem_iff.symm
  unfold rootAfterOK
  by_cases h1 : t.kids.length = 1
  · have hrf : t.rooted = false := by simp [T.rooted, h1]
    simp only [h1, beq_self_eq_true, if_true]
    rcases Pr.tipRoot hrf h1 with ⟨a, b⟩ | ⟨a, b⟩
    · have : t.name ∈ t'.tipNames := by simp [T.tipNames, a, b]
      simp [(hmem _).2 this, a, b]
    · simp [mt (hmem _).1 a, b]
  · have hb : (t.kids.length == 1) = false := by simpa using h1
    simp only [hb, Bool.false_eq_true, if_false, Bool.and_eq_true, bne_iff_ne, ne_eq, Bool.or_eq_true,
      decide_eq_true_eq]
    refine ⟨Pr.inner h1, ?_⟩
    by_cases h2 : t.kids.length ≤ 2
    · exact Or.inl h2
    · have := Pr.wide (by simp [T.rooted]; omega) (by omega)
      exact Or.inr (by omega)

/-! ## rooted binary trees: no root is ever left with two neighbours, the flag changes nothing -/

theorem removeTip_rootedBin (x : String) (t : T) (h2 : t.kids.length = 2) (hb : binaryL t.kids = true)
    (hnd : t.tipNames.Nodup) (hcount : 4 ≤ t.tipNames.length) :
    ∃ t', removeTip x t = .ok t' ∧ t'.tipNames.Perm (t.tipNames.erase x) ∧ t'.noSingle = true ∧
      (t'.kids.length = 2 ∧ binaryL t'.kids = true) ∧ Pruned true t t' := by
  obtain ⟨t', e1, hp, hns', Pr⟩ := removeTipR_step true x t (fun _ => by omega) (noSingleL_of_binaryL hb) hnd hcount
  obtain ⟨d, p, kids⟩ := t
  simp only [T.kids_node] at h2 hb
  have hx : ¬ (kids.length = 1 ∧ d.name = x) := fun h => by omega
  have B := nodeWise_binary.of_rmKids x kids hb
  rw [h2] at B
  have hlen : 3 ≤ t'.tipNames.length := by
    rw [hp.length_eq, List.length_erase]; split <;> omega
  rw [removeTipR_node true x d p kids hx] at e1
  rw [← removeTipR_false, removeTipR_node false x d p kids hx]
  cases hk : rmKids x kids with
  | notFound => rw [hk] at e1; cases e1; exact ⟨_, rfl, hp, hns', ⟨h2, hb⟩, Pr⟩
  | set ks => rw [hk] at e1 B; cases e1; exact ⟨_, rfl, hp, hns', B, Pr⟩
  | spl i ks ei e c =>
    rw [hk] at e1 B; cases e1
    obtain ⟨b1, b2, b3⟩ := B
    exact ⟨_, rfl, hp, hns', ⟨by simp; omega, by simp [nodeWise_binary.append, nodeWise_binary.single, b2, b3]⟩, Pr⟩
  | del i ks =>
    rw [hk] at e1 B
    match ks, B, e1 with
    | [(e, c)], B, e1 =>
      simp only [List.length_cons, List.length_nil, Nat.zero_add, Nat.reduceBEq, Bool.and_false,
        Bool.false_eq_true, if_false] at e1 ⊢
      refine ⟨t', e1, hp, hns', ?_, Pr⟩
      cases e1
      obtain ⟨dc, pc, kc⟩ := c
      have hcb : (kc.length = 0 ∨ kc.length = 2) ∧ binaryL kc = true := by
        simpa [binaryL, T.binaryBelow] using B.2
      refine ⟨hcb.1.resolve_left fun h0 => ?_, hcb.2⟩
      have : kc = [] := List.length_eq_zero_iff.1 h0
      subst this
      simp [T.tipNames, leavesL] at hlen

theorem removeLoop_bin (todo : List (String × Bool)) (t : T) (h2 : t.kids.length = 2) (hb : binaryL t.kids = true)
    (hnd : t.tipNames.Nodup) (htodo : (todo.map (·.1)).Nodup) (hsub : ∀ n ∈ todo.map (·.1), n ∈ t.tipNames)
    (hcount : 3 + (flagged todo).length ≤ t.tipNames.length) :
    ∃ t', removeLoop todo t = .ok t' ∧ (t'.kids.length = 2 ∧ binaryL t'.kids = true) ∧ Pruned true t t' := by
  obtain ⟨t', g1, _, _, _, gP, gR⟩ := removeLoopR_induct false (fun t => t.kids.length = 2 ∧ binaryL t.kids = true)
    (Pruned true) (Pruned.refl true) Pruned.trans
    (fun x t hP _ hnd hc => by rw [removeTipR_false]; exact removeTip_rootedBin x t hP.1 hP.2 hnd hc)
    todo t ⟨h2, hb⟩ (noSingleL_of_binaryL hb) hnd htodo hsub hcount
  exact ⟨t', by rwa [removeLoopR_false] at g1, gP, gR⟩

theorem removeLoop_rootedBin : ∀ (todo : List (String × Bool)) (t : T), t.kids.length = 2 → binaryL t.kids = true →
    t.tipNames.Nodup → (todo.map (·.1)).Nodup → (∀ n ∈ todo.map (·.1), n ∈ t.tipNames) →
    3 + (flagged todo).length ≤ t.tipNames.length →
    ∀ t', removeLoop todo t = .ok t' → ∀ K : List String, (∀ a ∈ K, a ∈ t'.tipNames) → IndR K t.splits t'.splits := by
  intro todo t h2 hb hnd htodo hsub hcount t' h K hK
  obtain ⟨t'', g1, _, Pr⟩ := removeLoop_bin todo t h2 hb hnd htodo hsub hcount
  rw [h] at g1
  cases g1
  exact (Pr.ind K (fun h1 => by omega) hK).2 rfl

theorem removeLoop_rootedBin_shape : ∀ (todo : List (String × Bool)) (t : T), t.kids.length = 2 → binaryL t.kids = true →
    t.tipNames.Nodup → (todo.map (·.1)).Nodup → (∀ n ∈ todo.map (·.1), n ∈ t.tipNames) →
    3 + (flagged todo).length ≤ t.tipNames.length →
    ∀ t', removeLoop todo t = .ok t' → t'.kids.length = 2 ∧ binaryL t'.kids = true := by
  intro todo t h2 hb hnd htodo hsub hcount t' h
  obtain ⟨t'', g1, gP, _⟩ := removeLoop_bin todo t h2 hb hnd htodo hsub hcount
  rw [h] at g1
  cases g1
  exact gP

end Gotree.C06

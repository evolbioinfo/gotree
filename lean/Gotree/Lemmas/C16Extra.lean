/-
  C16 — the remaining constructors of treegen.go return what they must (helper lemmas).
-/
import Gotree.Spec.C16Extra
import Gotree.Lemmas.C16Oracle
import Gotree.Lemmas.C04Idx

namespace Gotree.C16
open Gotree

/-! ### lists of tips hanging on one node -/

theorem leavesL_tips (f : String → EdgeD) (l : List String) : leavesL (l.map fun x => (f x, T.leaf x)) = l :=
  (leavesL_map_leaf f id l).trans (List.map_id l)

theorem all_leaf_tips (f : String → EdgeD) (l : List String) :
    (l.map fun x => (f x, T.leaf x)).all (fun et => et.2.isLeaf) = true := by
  simp [List.all_map, T.leaf, T.isLeaf]

theorem edgesAllL_tips (p : EdgeD → Bool) (f : String → EdgeD) (h : ∀ x, p (f x) = true) (l : List String) :
    edgesAllL p (l.map fun x => (f x, T.leaf x)) = true :=
  edgesAllL_map_leaf p f id h l

theorem edges_all_eq (p : EdgeD → Bool) (t : T) : t.edges.all p = edgesAllL p t.kids := by
  unfold T.edges T.splits
  rw [List.all_map]
  exact splitsL_all p t.kids

/-! ### stars -/

theorem starOf_kids (l : List (Rat × String)) :
    (starOf l).kids = l.map fun x => (newEdge x.1, T.leaf x.2) := rfl

theorem starIs_starOf (l : List (Rat × String)) : starIs (l.map fun x => (x.2, x.1)) (starOf l) = true := by
  unfold starIs starShape rootTips
  simp only [starOf_kids, List.length_map, beq_self_eq_true, Bool.true_and, List.all_map, List.map_map, Bool.and_eq_true,
    beq_iff_eq]
  refine ⟨by simp [T.leaf, T.isLeaf], ?_⟩
  apply List.map_congr_left
  intro x _
  simp [T.leaf, T.name, newEdge]

theorem starOf_tipNames (l : List (Rat × String)) (h : 2 ≤ l.length) : (starOf l).tipNames = l.map (·.2) := by
  have hk : ((starOf l).kids.length == 1) = false := by simp [starOf_kids]; omega
  unfold T.tipNames
  rw [hk]
  simp only [Bool.false_eq_true, if_false, List.nil_append, starOf_kids]
  exact leavesL_map_leaf (fun x => newEdge x.1) (·.2) l

/-! ### one inner branch -/

def isOne (e : EdgeD) : Bool := e.len == 1

theorem twoStar_tipNames (left right : List String) (hl : 1 ≤ left.length) (hr : 1 ≤ right.length) :
    (twoStar left right).tipNames = right ++ left := by
  have hk : ((twoStar left right).kids.length == 1) = false := by
    simp only [twoStar, T.kids_node, List.length_cons, List.length_map, beq_eq_false_iff_ne, ne_eq]; omega
  unfold T.tipNames
  rw [hk]
  simp only [Bool.false_eq_true, if_false, List.nil_append, twoStar, T.kids_node, leavesL]
  rw [leaves_node_of_pos _ _ _ (by simp only [List.length_map]; omega), leavesL_tips, leavesL_tips]

theorem twoStarOK_twoStar (left right : List String) (hl : 1 ≤ left.length) (hr : 1 ≤ right.length) :
    twoStarOK left right (twoStar left right) = true := by
  unfold twoStarOK
  rw [twoStar_tipNames left right hl hr, edges_all_eq]
  have hp : (right ++ left).Perm (left ++ right) := List.perm_append_comm
  have he : edgesAllL (fun e => e.len == 1) (twoStar left right).kids = true := by
    simp only [twoStar, T.kids_node, edgesAllL, edgesAllT, Bool.and_eq_true]
    refine ⟨⟨by simp [newEdge], edgesAllL_tips _ _ (by intro x; simp [newEdge]) right⟩,
      edgesAllL_tips _ _ (by intro x; simp [newEdge]) left⟩
  rw [he]
  simp only [sameNames_of_perm _ _ hp, Bool.true_and, twoStar, T.kids_node, leavesL_tips,
    sameNames_of_perm _ _ (List.Perm.refl _), all_leaf_tips, Bool.and_true]
  cases right with
  | nil => simp at hr
  | cons a r => simp [T.isLeaf]

/-- EdgeTree never rejects a branch of the tree -/
theorem edgeTree_isOk (tin : T) (k : Nat) (hk : k < tin.splits.length) : (edgeTree tin k).isOk = true := by
  simp [edgeTree, List.getElem?_eq_getElem hk, Res.isOk]

end Gotree.C16

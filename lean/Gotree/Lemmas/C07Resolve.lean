/-
  C07 — `Resolve`: the grouping loop and `resolveNode`; induction over a successful run of `resolveRecur`
  (`resolve_induct`) and what it gives (tips, node data and observed branches kept, added branches new;
  binary below; at most three neighbours); the draws on which the model is defined; distances read off the
  observation list.
-/
import Gotree.Lemmas.C07
import Gotree.Spec.C07

namespace Gotree.C07
open Gotree

/- ## child lists up to order -/

def entry {β : Type} (f : List String → β) (x : EdgeD × T) : Obs β := (f x.2.leaves, x.1, x.2.isLeaf, x.2.d)

theorem obsL_flatMap {β : Type} (f : List String → β) :
    ∀ k : Kids, obsL f k = k.flatMap (fun x => entry f x :: obsT f x.2)
  | [] => by simp [obsL]
  | (e, c) :: r => by simp [obsL, entry, obsL_flatMap f r]

theorem obsL_perm {β : Type} (f : List String → β) {k1 k2 : Kids} (h : k1.Perm k2) : (obsL f k1).Perm (obsL f k2) := by
  rw [obsL_flatMap, obsL_flatMap]; exact h.flatMap_right _

/- ## sorting by key is a permutation -/

theorem insK_perm {α : Type} (x : Nat × α) : ∀ l : List (Nat × α), (insK x l).Perm (x :: l)
  | [] => by simp [insK]
  | y :: r => by
    unfold insK
    split
    · exact List.Perm.refl _
    · exact ((insK_perm x r).cons y).trans (List.Perm.swap x y r)

theorem sortK_perm {α : Type} : ∀ l : List (Nat × α), (sortK l).Perm l
  | [] => by simp [sortK]
  | x :: r => by
    show (insK x (sortK r)).Perm (x :: r)
    exact (insK_perm x _).trans ((sortK_perm r).cons x)

/- ## `rand.Perm` delivers a list of the right length -/

theorem goPermAux_length : ∀ (ds m r : List Nat), goPermAux ds m = some r → r.length = m.length + ds.length
  | [], m, r, h => by simp [goPermAux] at h; subst h; simp
  | j :: ds, m, r, h => by
    unfold goPermAux at h
    split at h
    · have := goPermAux_length ds _ r h
      simp at this
      simp; omega
    · cases h

theorem goPerm_length (ds r : List Nat) (h : goPerm ds = some r) : r.length = ds.length := by
  have := goPermAux_length ds [] r h
  simpa using this

/- ## what is observed, for Resolve -/

/-- a moved branch is a fresh `Edge` object: its comments and id are not carried over (the
    property does not mention them); everything else is observed -/
abbrev ObsR (β : Type) := β × Rat × Rat × Rat × Bool × NodeD

def obsR {β : Type} (x : Obs β) : ObsR β := (x.1, x.2.1.len, x.2.1.sup, x.2.1.pval, x.2.2.1, x.2.2.2)

/-- an added branch: length 0, no support, no p-value, inner, under an unnamed node -/
def IsNew {β : Type} (x : ObsR β) : Prop :=
  x.2.1 = 0 ∧ x.2.2.1 = NIL ∧ x.2.2.2.1 = NIL ∧ x.2.2.2.2.1 = false ∧ x.2.2.2.2.2 = ⟨"", []⟩

def RL {β : Type} (f : List String → β) (k : Kids) : List (ObsR β) := (obsL f k).map obsR
def RT {β : Type} (f : List String → β) (t : T) : List (ObsR β) := (obsT f t).map obsR

theorem RL_append {β : Type} (f : List String → β) (a b : Kids) : RL f (a ++ b) = RL f a ++ RL f b := by
  simp [RL, obsL_append]

theorem RL_cons {β : Type} (f : List String → β) (x : EdgeD × T) (r : Kids) :
    RL f (x :: r) = obsR (entry f x) :: (RT f x.2 ++ RL f r) := by
  obtain ⟨e, c⟩ := x
  simp [RL, RT, obsL, entry]

theorem RL_nil {β : Type} (f : List String → β) : RL f [] = [] := by simp [RL, obsL]

theorem RL_perm {β : Type} (f : List String → β) {k1 k2 : Kids} (h : k1.Perm k2) : (RL f k1).Perm (RL f k2) :=
  (obsL_perm f h).map _

theorem RT_kids {β : Type} (f : List String → β) (t : T) : RT f t = RL f t.kids := by
  simp [RT, RL, obsT_kids]

/- ## moving a neighbour under a new node -/

theorem moveKid_leaves (x : EdgeD × T) : (moveKid x).2.leaves = x.2.leaves := by
  obtain ⟨e, c⟩ := x; cases c; simp [moveKid, T.leaves_node]

theorem moveKid_isLeaf (x : EdgeD × T) : (moveKid x).2.isLeaf = x.2.isLeaf := by
  obtain ⟨e, c⟩ := x; cases c; simp [moveKid, T.isLeaf]

theorem moveKid_d (x : EdgeD × T) : (moveKid x).2.d = x.2.d := by
  obtain ⟨e, c⟩ := x; cases c; simp [moveKid]

theorem moveKid_kids (x : EdgeD × T) : (moveKid x).2.kids = x.2.kids := by
  obtain ⟨e, c⟩ := x; cases c; simp [moveKid]

theorem moveKid_binary (x : EdgeD × T) : (moveKid x).2.binaryBelow = x.2.binaryBelow := by
  obtain ⟨e, c⟩ := x; cases c; simp [moveKid, T.binaryBelow]

theorem RL_moveKid {β : Type} (f : List String → β) (x : EdgeD × T) (r : Kids) :
    RL f (moveKid x :: r) = RL f (x :: r) := by
  rw [RL_cons, RL_cons, RT_kids, RT_kids, moveKid_kids]
  congr 1
  simp only [obsR, entry, moveKid_leaves, moveKid_isLeaf, moveKid_d]
  rfl

theorem joinTwo_RL {β : Type} (f : List String → β) (a b : EdgeD × T) (r : Kids) :
    ∃ nw : ObsR β, IsNew nw ∧ RL f (joinTwo a b :: r) = nw :: RL f (a :: b :: r) := by
  refine ⟨obsR (entry f (joinTwo a b)), ⟨rfl, rfl, rfl, rfl, rfl⟩, ?_⟩
  rw [RL_cons]
  congr 1
  rw [RT_kids]
  show RL f [moveKid a, moveKid b] ++ RL f r = RL f (a :: b :: r)
  have : a :: b :: r = [a, b] ++ r := rfl
  rw [this, RL_append]
  congr 1
  rw [RL_moveKid, RL_cons, RL_moveKid, ← RL_cons]

theorem joinTwo_leaves (a b : EdgeD × T) (r : Kids) : leavesL (joinTwo a b :: r) = leavesL (a :: b :: r) := by
  obtain ⟨ea, ca⟩ := a
  obtain ⟨eb, cb⟩ := b
  simp [joinTwo, leavesL, T.leaves_node, moveKid_leaves]

/- ## the loop `for len(current.Neigh()) > 3` -/

theorem ladder_step (extra dummy fuel : Nat) (a b : Nat × (EdgeD × T)) (rest : List (Nat × (EdgeD × T))) :
    ladder extra dummy (fuel + 1) (a :: b :: rest) =
      if rest.length + 2 + extra > 3 then ladder extra dummy fuel ((dummy, joinTwo a.2 b.2) :: rest) else a :: b :: rest := by
  rw [ladder]

theorem ladder_id (extra dummy : Nat) : ∀ (fuel : Nat) (l : List (Nat × (EdgeD × T))), l.length + extra ≤ 3 →
    ladder extra dummy fuel l = l
  | 0, l, _ => by cases l <;> simp [ladder]
  | fuel + 1, [], _ => by simp [ladder]
  | fuel + 1, [a], _ => by simp [ladder]
  | fuel + 1, a :: b :: rest, h => by
    rw [ladder_step]
    simp only [List.length_cons] at h
    have : ¬ (rest.length + 2 + extra > 3) := by omega
    rw [if_neg this]

theorem ladder_length (extra dummy : Nat) (hx : extra ≤ 1) : ∀ (fuel : Nat) (r : List (Nat × (EdgeD × T))),
    r.length ≤ fuel → 3 < r.length + extra → (ladder extra dummy fuel r).length + extra = 3
  | 0, r, h1, h2 => by
    have : r.length = 0 := by omega
    omega
  | fuel + 1, [], _, h2 => by simp at h2; omega
  | fuel + 1, [a], _, h2 => by simp at h2; omega
  | fuel + 1, a :: b :: rest, h1, h2 => by
    rw [ladder_step]
    simp only [List.length_cons] at h1 h2
    have hc : rest.length + 2 + extra > 3 := by omega
    rw [if_pos hc]
    by_cases h3 : 3 < rest.length + 1 + extra
    · exact ladder_length extra dummy hx fuel _ (by simp; omega) (by simpa using h3)
    · rw [ladder_id]
      · simp; omega
      · simp; omega

theorem ladder_spec {β : Type} (f : List String → β) (extra dummy : Nat) :
    ∀ (fuel : Nat) (r : List (Nat × (EdgeD × T))),
      ∃ ex : List (ObsR β), (∀ x ∈ ex, IsNew x) ∧
        (RL f ((ladder extra dummy fuel r).map (·.2))).Perm (RL f (r.map (·.2)) ++ ex) ∧
        leavesL ((ladder extra dummy fuel r).map (·.2)) = leavesL (r.map (·.2))
  | 0, r => ⟨[], by simp, by cases r <;> simp [ladder], by cases r <;> simp [ladder]⟩
  | fuel + 1, [] => ⟨[], by simp, by simp [ladder], by simp [ladder]⟩
  | fuel + 1, [a] => ⟨[], by simp, by simp [ladder], by simp [ladder]⟩
  | fuel + 1, a :: b :: rest => by
    rw [ladder_step]
    by_cases hc : rest.length + 2 + extra > 3
    · rw [if_pos hc]
      obtain ⟨ex, hnew, hperm, hleaves⟩ := ladder_spec f extra dummy fuel ((dummy, joinTwo a.2 b.2) :: rest)
      obtain ⟨nw, hnw, hj⟩ := joinTwo_RL f a.2 b.2 (rest.map (·.2))
      refine ⟨nw :: ex, List.forall_mem_cons.mpr ⟨hnw, hnew⟩, ?_, ?_⟩
      · refine hperm.trans ?_
        simp only [List.map_cons]
        rw [hj]
        exact (List.perm_middle (a := nw) (l₁ := RL f (a.2 :: b.2 :: rest.map (·.2))) (l₂ := ex)).symm
      · rw [hleaves]
        simp only [List.map_cons]
        exact joinTwo_leaves a.2 b.2 _
    · rw [if_neg hc]
      exact ⟨[], by simp, by simp, rfl⟩

/-- A property `Q` of subtrees that a new node has as soon as its two children have it ("binary below",
    "at most three neighbours everywhere below") passes from the entries of `togroup` to what the loop leaves. -/
theorem ladder_all (Q : T → Bool) (hj : ∀ a b, Q (joinTwo a b).2 = (Q a.2 && Q b.2)) (extra dummy : Nat) :
    ∀ (fuel : Nat) (r : List (Nat × (EdgeD × T))),
      ((r.map (·.2)).all fun x => Q x.2) = true → (((ladder extra dummy fuel r).map (·.2)).all fun x => Q x.2) = true
  | 0, r => by cases r <;> simp [ladder]
  | fuel + 1, [] => by simp [ladder]
  | fuel + 1, [a] => by simp [ladder]
  | fuel + 1, a :: b :: rest => by
    intro h
    rw [ladder_step]
    split
    · apply ladder_all Q hj extra dummy fuel
      simp only [List.map_cons, List.all_cons, hj] at h ⊢
      simpa [Bool.and_assoc] using h
    · exact h

/-- `togroup` reversed, as the loop takes it -/
def togroupR (perm : List Nat) (k : Kids) : List (Nat × (EdgeD × T)) :=
  ((sortK (perm.zip ((List.range k.length).zip k))).map (·.2)).reverse

/-- `togroup`, whatever the permutation drawn, is a rearrangement of the children -/
theorem togroupR_perm (perm : List Nat) (k : Kids) (hl : perm.length = k.length) :
    ((togroupR perm k).map (·.2)).Perm k := by
  have h1 : ((sortK (perm.zip ((List.range k.length).zip k))).map (·.2)).Perm ((perm.zip ((List.range k.length).zip k)).map (·.2)) :=
    (sortK_perm _).map _
  have h2 : (perm.zip ((List.range k.length).zip k)).map Prod.snd = (List.range k.length).zip k := by
    apply List.map_snd_zip
    simp [hl]
  have h3 : ((List.range k.length).zip k).map Prod.snd = k := by
    apply List.map_snd_zip
    simp
  have h4 := (List.reverse_perm ((sortK (perm.zip ((List.range k.length).zip k))).map (·.2))).trans h1
  have h5 := h4.map (·.2)
  rw [show (fun x : Nat × Nat × EdgeD × T => x.2) = Prod.snd from rfl, h2] at h5
  rw [show (fun x : Nat × EdgeD × T => x.2) = Prod.snd from rfl, h3] at h5
  exact h5

theorem togroupR_length (perm : List Nat) (k : Kids) (hl : perm.length = k.length) : (togroupR perm k).length = k.length := by
  simp [togroupR, (sortK_perm (perm.zip ((List.range k.length).zip k))).length_eq, hl]

/-- the loop on `togroup` leaves what makes three neighbours -/
theorem ladder_togroupR {extra : Nat} (hx : extra ≤ 1) (perm : List Nat) (k : Kids) (hpl : perm.length = k.length)
    (hgt : ¬ k.length + extra ≤ 3) : (ladder extra k.length k.length (togroupR perm k)).length + extra = 3 :=
  ladder_length extra k.length hx k.length _ (by rw [togroupR_length _ _ hpl]; exact Nat.le_refl _)
    (by rw [togroupR_length _ _ hpl]; omega)

/-- What a successful `resolveNode` did: nothing at a node with at most three neighbours; otherwise it
    drew a permutation, ran the loop on `togroup`, and the node keeps the survivors and the last new node. -/
theorem resolveNode_some {isRoot : Bool} {d : NodeD} {p : Nat} {k : Kids} {ds : List Nat} {t' : T} {ds' : List Nat}
    (h : resolveNode isRoot d p k ds = some (t', ds')) :
    (k.length + (if isRoot then 0 else 1) ≤ 3 ∧ t' = .node d p k ∧ ds' = ds) ∨
    (¬ k.length + (if isRoot then 0 else 1) ≤ 3 ∧ ∃ perm nw surv,
      goPerm (ds.take k.length) = some perm ∧ perm.length = k.length ∧
      ladder (if isRoot then 0 else 1) k.length k.length (togroupR perm k) = nw :: surv ∧
      t'.d = d ∧ t'.kids.Perm ((nw :: surv).map (·.2)) ∧ ds = ds.take k.length ++ ds') := by
  unfold resolveNode at h
  simp only at h
  generalize (if isRoot = true then 0 else 1) = extra at h ⊢
  split at h
  · rename_i hle
    injection h with h; injection h with h1 h2
    exact Or.inl ⟨hle, h1.symm, h2.symm⟩
  · rename_i hgt
    split at h
    · cases h
    · rename_i hds
      split at h
      · cases h
      · rename_i perm hperm
        split at h
        · cases h
        · rename_i nw surv hlad
          injection h with h; injection h with h1 h2
          subst h1 h2
          refine Or.inr ⟨hgt, perm, nw, surv, hperm, ?_, hlad, rfl, ?_, (List.take_append_drop _ _).symm⟩
          · rw [goPerm_length _ _ hperm]; simp; omega
          · simp only [T.kids_node, List.map_cons]
            exact (List.perm_append_singleton _ _).trans (((sortK_perm surv).map _).cons _)

/-- everything the theorems need about the treatment of one node -/
theorem resolveNode_spec {β : Type} (f : List String → β) (isRoot : Bool) (d : NodeD) (p : Nat) (k : Kids)
    (ds : List Nat) (t' : T) (ds' : List Nat) (h : resolveNode isRoot d p k ds = some (t', ds')) :
    t'.d = d ∧
    (∃ ex : List (ObsR β), (∀ x ∈ ex, IsNew x) ∧ (RL f t'.kids).Perm (RL f k ++ ex)) ∧
    (leavesL t'.kids).Perm (leavesL k) ∧
    (k = [] ↔ t'.kids = []) ∧
    (if k.length + (if isRoot then 0 else 1) ≤ 3 then t'.kids.length = k.length
     else t'.kids.length + (if isRoot then 0 else 1) = 3) := by
  have hx : (if isRoot = true then 0 else 1) ≤ 1 := by split <;> omega
  rcases resolveNode_some h with ⟨hle, rfl, _⟩ | ⟨hgt, perm, nw, surv, _, hpl, hlad, hd, hkids, _⟩
  · exact ⟨rfl, ⟨[], by simp, by simp⟩, List.Perm.refl _, Iff.rfl, by rw [if_pos hle]; rfl⟩
  · generalize (if isRoot = true then 0 else 1) = extra at hx hgt hlad ⊢
    obtain ⟨ex, hnew, hp, hlv⟩ := ladder_spec f extra k.length k.length (togroupR perm k)
    have htg := togroupR_perm perm k hpl
    have hlen := ladder_togroupR hx perm k hpl hgt
    rw [hlad] at hp hlv hlen
    have hklen := hkids.length_eq
    simp only [List.length_map] at hklen
    refine ⟨hd, ⟨ex, hnew, ?_⟩, ?_, ?_, ?_⟩
    · exact (RL_perm f hkids).trans (hp.trans ((RL_perm f htg).append (List.Perm.refl _)))
    · refine (leavesL_perm hkids).trans ?_
      rw [hlv]; exact leavesL_perm htg
    · constructor
      · intro hk; subst hk; simp at hgt; omega
      · intro hk; rw [hk] at hklen; simp at hklen
    · rw [if_neg hgt, hklen]; exact hlen

/-- … and a property of the kind of `ladder_all` passes from the children to the new children -/
theorem resolveNode_all (Q : T → Bool) (hj : ∀ a b, Q (joinTwo a b).2 = (Q a.2 && Q b.2))
    {isRoot : Bool} {d : NodeD} {p : Nat} {k : Kids} {ds : List Nat} {t' : T} {ds' : List Nat}
    (h : resolveNode isRoot d p k ds = some (t', ds')) (hk : (k.all fun x => Q x.2) = true) :
    (t'.kids.all fun x => Q x.2) = true := by
  rcases resolveNode_some h with ⟨_, rfl, _⟩ | ⟨_, perm, nw, surv, _, hpl, hlad, _, hkids, _⟩
  · exact hk
  · have hl := ladder_all Q hj (if isRoot then 0 else 1) k.length k.length (togroupR perm k)
      (by rw [(togroupR_perm perm k hpl).all_eq]; exact hk)
    rw [hlad] at hl
    rw [hkids.all_eq]; exact hl

theorem resolveT_unfold (isRoot : Bool) (d : NodeD) (p : Nat) (k : Kids) (ds : List Nat) (c' : T) (ds' : List Nat)
    (h : resolveT isRoot (.node d p k) ds = some (c', ds')) :
    ∃ k1 ds1, resolveL k ds = some (k1, ds1) ∧ resolveNode isRoot d p k1 ds1 = some (c', ds') := by
  rw [resolveT] at h
  split at h
  · cases h
  · rename_i k1 ds1 hk
    exact ⟨k1, ds1, hk, h⟩

theorem resolveL_unfold (e : EdgeD) (c : T) (r : Kids) (ds : List Nat) (k' : Kids) (ds' : List Nat)
    (h : resolveL ((e, c) :: r) ds = some (k', ds')) :
    ∃ c1 ds1 r1, resolveT false c ds = some (c1, ds1) ∧ resolveL r ds1 = some (r1, ds') ∧ k' = (e, c1) :: r1 := by
  rw [resolveL] at h
  split at h
  · cases h
  · rename_i c1 ds1 hc
    split at h
    · cases h
    · rename_i r1 ds2 hr
      injection h with h; injection h with h1 h2
      subst h1; subst h2
      exact ⟨c1, ds1, r1, hc, hr, rfl⟩

/-- Induction over a successful run of `resolveRecur`: a fact about (input, draws, output, draws left) that
    holds of the empty child list, passes from a child and its right siblings to the list, and from the
    resolved child list through `resolveNode` to the node, holds of every run. -/
theorem resolve_induct {PT : Bool → T → List Nat → T → List Nat → Prop} {PL : Kids → List Nat → Kids → List Nat → Prop}
    (hnil : ∀ ds, PL [] ds [] ds)
    (hcons : ∀ e c r ds c1 ds1 r1 ds2, resolveT false c ds = some (c1, ds1) → resolveL r ds1 = some (r1, ds2) →
      PT false c ds c1 ds1 → PL r ds1 r1 ds2 → PL ((e, c) :: r) ds ((e, c1) :: r1) ds2)
    (hnode : ∀ isRoot d p k ds k1 ds1 c' ds', resolveL k ds = some (k1, ds1) →
      resolveNode isRoot d p k1 ds1 = some (c', ds') → PL k ds k1 ds1 → PT isRoot (.node d p k) ds c' ds') :
    (∀ isRoot c ds c' ds', resolveT isRoot c ds = some (c', ds') → PT isRoot c ds c' ds') ∧
    (∀ k ds k' ds', resolveL k ds = some (k', ds') → PL k ds k' ds') := by
  have hL : ∀ k : Kids, (∀ et ∈ k, ∀ ds c' ds', resolveT false et.2 ds = some (c', ds') → PT false et.2 ds c' ds') →
      ∀ ds k' ds', resolveL k ds = some (k', ds') → PL k ds k' ds' := by
    intro k
    induction k with
    | nil =>
      intro _ ds k' ds' h
      rw [resolveL] at h
      injection h with h; injection h with h1 h2; subst h1; subst h2
      exact hnil ds
    | cons x r ih =>
      intro hk ds k' ds' h
      obtain ⟨e, c⟩ := x
      obtain ⟨c1, ds1, r1, hc, hr, rfl⟩ := resolveL_unfold e c r ds k' ds' h
      exact hcons e c r ds c1 ds1 r1 ds' hc hr (hk (e, c) List.mem_cons_self ds c1 ds1 hc)
        (ih (fun et h => hk et (List.mem_cons_of_mem _ h)) ds1 r1 ds' hr)
  have hT : ∀ c isRoot ds c' ds', resolveT isRoot c ds = some (c', ds') → PT isRoot c ds c' ds' := by
    intro c
    induction c using T.induct with
    | h d p k ih =>
      intro isRoot ds c' ds' h
      obtain ⟨k1, ds1, hk, hn⟩ := resolveT_unfold isRoot d p k ds c' ds' h
      exact hnode isRoot d p k ds k1 ds1 c' ds' hk hn (hL k (fun et h => ih et h false) ds k1 ds1 hk)
  exact ⟨fun isRoot c => hT c isRoot, fun k => hL k (fun et _ => hT et.2 false)⟩

/-- Resolve keeps the tips and the node data, and what is observed of the branches afterwards is
    what was observed before plus added branches. -/
theorem resolve_spec {β : Type} (f : List String → β) (hf : PermInv f) :
    (∀ isRoot c ds c' ds', resolveT isRoot c ds = some (c', ds') →
      c'.leaves.Perm c.leaves ∧ c'.isLeaf = c.isLeaf ∧ c'.d = c.d ∧
      ∃ ex : List (ObsR β), (∀ x ∈ ex, IsNew x) ∧ (RT f c').Perm (RT f c ++ ex)) ∧
    (∀ k ds k' ds', resolveL k ds = some (k', ds') →
      (leavesL k').Perm (leavesL k) ∧ k'.length = k.length ∧
      ∃ ex : List (ObsR β), (∀ x ∈ ex, IsNew x) ∧ (RL f k').Perm (RL f k ++ ex)) := by
  refine resolve_induct ?_ ?_ ?_
  · intro ds
    exact ⟨List.Perm.refl _, rfl, [], by simp, by simp⟩
  · intro e c r ds c1 ds1 r1 ds2 _ _ ⟨hl1, hleaf1, hd1, ex1, hnew1, hp1⟩ ⟨hl2, hlen2, ex2, hnew2, hp2⟩
    refine ⟨?_, by simp [hlen2], ex1 ++ ex2, List.forall_mem_append.mpr ⟨hnew1, hnew2⟩, ?_⟩
    · simp only [leavesL]; exact hl1.append hl2
    · rw [RL_cons, RL_cons]
      have he : obsR (entry f (e, c1)) = obsR (entry f (e, c)) := by
        simp only [entry, hf _ _ hl1, hleaf1, hd1]
      rw [he]
      simp only [List.cons_append]
      refine List.Perm.cons _ ?_
      refine (hp1.append hp2).trans ?_
      simp only [List.append_assoc]
      exact List.Perm.append_left _ (List.perm_append_comm_assoc _ _ _)
  · intro isRoot d p k ds k1 ds1 c' ds' _ hn ⟨hl, hlen, ex1, hnew1, hp1⟩
    obtain ⟨hd, ⟨ex2, hnew2, hp2⟩, hlv, hnil, _⟩ := resolveNode_spec f isRoot d p k1 ds1 c' ds' hn
    have hkk : k = [] ↔ c'.kids = [] := by
      rw [← hnil, ← List.length_eq_zero_iff, ← List.length_eq_zero_iff, hlen]
    refine ⟨?_, ?_, hd, ex1 ++ ex2, List.forall_mem_append.mpr ⟨hnew1, hnew2⟩, ?_⟩
    · by_cases h0 : k = []
      · rw [T.leaves_of_kids_nil (hkk.mp h0), T.leaves_of_kids_nil (t := .node d p k) h0, T.name, hd]; rfl
      · rw [T.leaves_of_kids_ne (fun hh => h0 (hkk.mpr hh)), T.leaves_of_kids_ne (t := .node d p k) h0]
        exact hlv.trans hl
    · show c'.kids.isEmpty = k.isEmpty
      rw [Bool.eq_iff_iff, List.isEmpty_iff, List.isEmpty_iff]
      exact hkk.symm
    · rw [RT_kids, RT_kids, T.kids_node, ← List.append_assoc]
      exact hp2.trans (hp1.append (List.Perm.refl _))

theorem permInv_unit : PermInv (fun _ : List String => ()) := fun _ _ _ => rfl

theorem resolveL_length (k : Kids) (ds : List Nat) (k' : Kids) (ds' : List Nat) (h : resolveL k ds = some (k', ds')) :
    k'.length = k.length :=
  ((resolve_spec (fun _ => ()) permInv_unit).2 k ds k' ds' h).2.1

/-- the number of children afterwards: unchanged at a node with at most three neighbours, otherwise
    what makes three neighbours -/
theorem resolveT_count (isRoot : Bool) (c : T) (ds : List Nat) (c' : T) (ds' : List Nat)
    (h : resolveT isRoot c ds = some (c', ds')) :
    if c.kids.length + (if isRoot then 0 else 1) ≤ 3 then c'.kids.length = c.kids.length
    else c'.kids.length + (if isRoot then 0 else 1) = 3 := by
  obtain ⟨d, p, k⟩ := c
  obtain ⟨k1, ds1, hk, hn⟩ := resolveT_unfold isRoot d p k ds c' ds' h
  have hc := (resolveNode_spec (fun _ => ()) isRoot d p k1 ds1 c' ds' hn).2.2.2.2
  rwa [resolveL_length k ds k1 ds1 hk] at hc

theorem joinTwo_binary (a b : EdgeD × T) : (joinTwo a b).2.binaryBelow = (a.2.binaryBelow && b.2.binaryBelow) := by
  simp [joinTwo, T.binaryBelow, binaryL, moveKid_binary]

/-- Resolve makes every node below binary, on a tree without single-child nodes. -/
theorem resolve_binary :
    (∀ isRoot c ds c' ds', resolveT isRoot c ds = some (c', ds') → noSingleL c.kids = true → binaryL c'.kids = true) ∧
    (∀ k ds k' ds', resolveL k ds = some (k', ds') → noSingleL k = true → binaryL k' = true) := by
  refine resolve_induct ?_ ?_ ?_
  · intro _ _; rfl
  · intro e c r ds c1 ds1 r1 ds2 hc _ h1 h2 hns
    rw [noSingleL_cons] at hns
    simp only [Bool.and_eq_true] at hns
    have hcount := resolveT_count false c ds c1 ds1 hc
    obtain ⟨d, p, k⟩ := c
    obtain ⟨d1, p1, k1⟩ := c1
    rw [T.noSingleBelow_node] at hns
    simp only [Bool.and_eq_true, bne_iff_ne, ne_eq] at hns
    simp only [T.kids_node, Bool.false_eq_true, if_false] at hcount h1
    simp only [binaryL, T.binaryBelow, Bool.and_eq_true, Bool.or_eq_true, beq_iff_eq]
    exact ⟨⟨by split at hcount <;> omega, h1 hns.1.2⟩, h2 hns.2⟩
  · intro isRoot d p k ds k1 ds1 c' ds' _ hn hb hns
    rw [binaryL_eq_all]
    exact resolveNode_all _ joinTwo_binary hn (by rw [← binaryL_eq_all]; exact hb hns)

theorem resolve_some (t : T) (ds : List Nat) (t' : T) (h : resolve t ds = some t') :
    resolveT true t ds = some (t', []) := by
  unfold resolve at h
  split at h
  · rename_i t1 heq
    injection h with h; subst h; exact heq
  · cases h

/- ## the model of Resolve is defined exactly on the draws of the script -/

/-- `draws` answers the successive `Intn(bound)` calls: same number, each within its bound -/
def okDraws : List Nat → List Nat → Bool
  | [], [] => true
  | b :: bs, d :: ds => decide (d < b) && okDraws bs ds
  | _, _ => false

theorem okDraws_length : ∀ (bs ds : List Nat), okDraws bs ds = true → ds.length = bs.length
  | [], [], _ => rfl
  | [], _ :: _, h => by simp [okDraws] at h
  | _ :: _, [], h => by simp [okDraws] at h
  | b :: bs, d :: ds, h => by
    simp only [okDraws, Bool.and_eq_true] at h
    simp [okDraws_length bs ds h.2]

theorem okDraws_append : ∀ (b1 b2 ds : List Nat), okDraws (b1 ++ b2) ds = true →
    ∃ d1 d2, ds = d1 ++ d2 ∧ okDraws b1 d1 = true ∧ okDraws b2 d2 = true
  | [], b2, ds, h => ⟨[], ds, rfl, rfl, h⟩
  | b :: b1, b2, [], h => by simp [okDraws] at h
  | b :: b1, b2, d :: ds, h => by
    simp only [List.cons_append, okDraws, Bool.and_eq_true] at h
    obtain ⟨d1, d2, he, h1, h2⟩ := okDraws_append b1 b2 ds h.2
    exact ⟨d :: d1, d2, by simp [he], by simp [okDraws, h.1, h1], h2⟩

theorem goPermAux_ok : ∀ (ds m : List Nat), okDraws (List.range' (m.length + 1) ds.length) ds = true →
    ∃ r, goPermAux ds m = some r
  | [], m, _ => ⟨m, rfl⟩
  | j :: ds, m, h => by
    simp only [List.length_cons, List.range'_succ, okDraws, Bool.and_eq_true, decide_eq_true_eq] at h
    unfold goPermAux
    rw [if_pos (by omega)]
    apply goPermAux_ok ds
    simpa using h.2

theorem goPerm_ok (l : Nat) (ds : List Nat) (h : okDraws (List.range' 1 l) ds = true) : ∃ r, goPerm ds = some r := by
  have hl := okDraws_length _ _ h
  simp at hl
  apply goPermAux_ok ds []
  simpa [hl] using h

theorem resolveNode_ok (isRoot : Bool) (d : NodeD) (p : Nat) (k : Kids) (dl rest : List Nat)
    (h : okDraws (if k.length + (if isRoot then 0 else 1) ≤ 3 then [] else List.range' 1 k.length) dl = true) :
    ∃ t', resolveNode isRoot d p k (dl ++ rest) = some (t', rest) := by
  unfold resolveNode
  simp only
  have hx : (if isRoot = true then 0 else 1) ≤ 1 := by split <;> omega
  generalize (if isRoot = true then 0 else 1) = extra at h hx ⊢
  by_cases hle : k.length + extra ≤ 3
  · rw [if_pos hle] at h ⊢
    cases dl with
    | nil => exact ⟨_, rfl⟩
    | cons _ _ => simp [okDraws] at h
  · rw [if_neg hle] at h ⊢
    have hl := okDraws_length _ _ h
    simp at hl
    have h1 : ¬ (dl ++ rest).length < k.length := by simp; omega
    rw [if_neg h1]
    have htake : List.take k.length (dl ++ rest) = dl := by
      rw [← hl]; simp
    have hdrop : List.drop k.length (dl ++ rest) = rest := by
      rw [← hl]; simp
    obtain ⟨perm, hperm⟩ := goPerm_ok k.length dl h
    rw [htake, hperm]
    have hpl : perm.length = k.length := by rw [goPerm_length _ _ hperm, hl]
    have hlen := ladder_togroupR hx perm k hpl hle
    unfold togroupR at hlen
    simp only
    cases hlad : ladder extra k.length k.length ((sortK (perm.zip ((List.range k.length).zip k))).map (·.2)).reverse with
    | nil => rw [hlad] at hlen; simp at hlen; omega
    | cons nw surv => simp only [hdrop]; exact ⟨_, rfl⟩

theorem scriptT_node (isRoot : Bool) (d p k) :
    scriptT isRoot (.node d p k) =
      scriptL k ++ (if k.length + (if isRoot then 0 else 1) ≤ 3 then [] else List.range' 1 k.length) := by
  rw [scriptT]

/- Resolve is defined on every draw list that follows the script of the tree, and leaves the rest. -/
theorem resolveL_ok_of : ∀ (k : Kids),
    (∀ et ∈ k, ∀ ds rest, okDraws (scriptT false et.2) ds = true → ∃ c', resolveT false et.2 (ds ++ rest) = some (c', rest)) →
    ∀ ds rest, okDraws (scriptL k) ds = true → ∃ k', resolveL k (ds ++ rest) = some (k', rest)
  | [], _, ds, rest, h => by
    cases ds with
    | nil => exact ⟨[], by simp [resolveL]⟩
    | cons _ _ => simp [scriptL, okDraws] at h
  | (e, c) :: r, hk, ds, rest, h => by
    rw [scriptL] at h
    obtain ⟨d1, d2, he, h1, h2⟩ := okDraws_append _ _ ds h
    subst he
    obtain ⟨c1, hc⟩ := hk (e, c) List.mem_cons_self d1 (d2 ++ rest) h1
    obtain ⟨r1, hr⟩ := resolveL_ok_of r (fun et h => hk et (List.mem_cons_of_mem _ h)) d2 rest h2
    refine ⟨(e, c1) :: r1, ?_⟩
    rw [resolveL, List.append_assoc, hc]
    simp only [hr]

theorem resolveT_ok (isRoot : Bool) (c : T) (ds rest : List Nat) (h : okDraws (scriptT isRoot c) ds = true) :
    ∃ c', resolveT isRoot c (ds ++ rest) = some (c', rest) := by
  induction c using T.induct generalizing isRoot ds rest with
  | h d p k ih =>
    rw [scriptT_node] at h
    obtain ⟨d1, d2, he, h1, h2⟩ := okDraws_append _ _ ds h
    subst he
    obtain ⟨k1, hk⟩ := resolveL_ok_of k (fun et h => ih et h false) d1 (d2 ++ rest) h1
    rw [← resolveL_length k _ k1 _ hk] at h2
    obtain ⟨t', ht⟩ := resolveNode_ok isRoot d p k1 d2 rest h2
    refine ⟨t', ?_⟩
    rw [resolveT, List.append_assoc, hk]
    exact ht

theorem resolveL_ok : ∀ (k : Kids) (ds rest : List Nat), okDraws (scriptL k) ds = true →
    ∃ k', resolveL k (ds ++ rest) = some (k', rest) :=
  fun k => resolveL_ok_of k (fun et _ => resolveT_ok false et.2)

/- ## … and only on those -/

theorem okDraws_app : ∀ (b1 b2 d1 d2 : List Nat), okDraws b1 d1 = true → okDraws b2 d2 = true →
    okDraws (b1 ++ b2) (d1 ++ d2) = true
  | [], b2, [], d2, _, h2 => h2
  | [], _, _ :: _, _, h1, _ => by simp [okDraws] at h1
  | _ :: _, _, [], _, h1, _ => by simp [okDraws] at h1
  | b :: b1, b2, d :: d1, d2, h1, h2 => by
    simp only [okDraws, Bool.and_eq_true] at h1
    simp only [List.cons_append, okDraws, Bool.and_eq_true]
    exact ⟨h1.1, okDraws_app b1 b2 d1 d2 h1.2 h2⟩

theorem goPermAux_some_ok : ∀ (ds m r : List Nat), goPermAux ds m = some r →
    okDraws (List.range' (m.length + 1) ds.length) ds = true
  | [], m, r, _ => by simp [okDraws]
  | j :: ds, m, r, h => by
    unfold goPermAux at h
    split at h
    · rename_i hj
      have := goPermAux_some_ok ds _ r h
      simp only [List.length_cons, List.range'_succ, okDraws, Bool.and_eq_true, decide_eq_true_eq]
      refine ⟨by omega, ?_⟩
      simpa using this
    · cases h

theorem resolveNode_some_ok (isRoot : Bool) (d : NodeD) (p : Nat) (k : Kids) (ds : List Nat) (t' : T) (ds' : List Nat)
    (h : resolveNode isRoot d p k ds = some (t', ds')) :
    ∃ dl, ds = dl ++ ds' ∧
      okDraws (if k.length + (if isRoot then 0 else 1) ≤ 3 then [] else List.range' 1 k.length) dl = true := by
  rcases resolveNode_some h with ⟨hle, _, rfl⟩ | ⟨hgt, perm, _, _, hperm, hpl, _, _, _, hds⟩
  · exact ⟨[], rfl, by rw [if_pos hle]; rfl⟩
  · refine ⟨ds.take k.length, hds, ?_⟩
    rw [if_neg hgt]
    have := goPermAux_some_ok (ds.take k.length) [] perm hperm
    rw [← goPerm_length _ _ hperm, hpl] at this
    simpa using this

theorem resolve_some_ok :
    (∀ isRoot c ds c' ds', resolveT isRoot c ds = some (c', ds') →
      ∃ dl, ds = dl ++ ds' ∧ okDraws (scriptT isRoot c) dl = true) ∧
    (∀ k ds k' ds', resolveL k ds = some (k', ds') → ∃ dl, ds = dl ++ ds' ∧ okDraws (scriptL k) dl = true) := by
  refine resolve_induct ?_ ?_ ?_
  · intro ds
    exact ⟨[], rfl, by simp [scriptL, okDraws]⟩
  · intro e c r ds c1 ds1 r1 ds2 _ _ ⟨d1, he1, ho1⟩ ⟨d2, he2, ho2⟩
    refine ⟨d1 ++ d2, by rw [he1, he2, List.append_assoc], ?_⟩
    rw [scriptL]
    exact okDraws_app _ _ _ _ ho1 ho2
  · intro isRoot d p k ds k1 ds1 c' ds' hk hn ⟨d1, he1, ho1⟩
    obtain ⟨d2, he2, ho2⟩ := resolveNode_some_ok isRoot d p k1 ds1 c' ds' hn
    rw [resolveL_length k ds k1 ds1 hk] at ho2
    refine ⟨d1 ++ d2, by rw [he1, he2, List.append_assoc], ?_⟩
    rw [scriptT_node]
    exact okDraws_app _ _ _ _ ho1 ho2

theorem resolveL_some_ok : ∀ (k : Kids) (ds : List Nat) (k' : Kids) (ds' : List Nat),
    resolveL k ds = some (k', ds') → ∃ dl, ds = dl ++ ds' ∧ okDraws (scriptL k) dl = true :=
  resolve_some_ok.2

/- ## on ARBITRARY trees (single-child nodes allowed) no node is left with more than three neighbours -/

theorem deg3L_all : ∀ k : Kids, deg3L k = k.all (fun x => deg3Below x.2)
  | [] => by simp [deg3L]
  | (e, c) :: r => by simp [deg3L, deg3L_all r]

theorem joinTwo_deg3 (a b : EdgeD × T) : deg3Below (joinTwo a b).2 = (deg3Below a.2 && deg3Below b.2) := by
  obtain ⟨ea, ⟨da, pa, ka⟩⟩ := a
  obtain ⟨eb, ⟨db, pb, kb⟩⟩ := b
  simp [joinTwo, moveKid, deg3Below, deg3L]

theorem resolve_deg3_all :
    (∀ isRoot c ds c' ds', resolveT isRoot c ds = some (c', ds') → deg3L c'.kids = true) ∧
    (∀ k ds k' ds', resolveL k ds = some (k', ds') → deg3L k' = true) := by
  refine resolve_induct (PT := fun _ _ _ c' _ => deg3L c'.kids = true) (PL := fun _ _ k' _ => deg3L k' = true) ?_ ?_ ?_
  · intro _; rfl
  · intro e c r ds c1 ds1 r1 ds2 hc _ h1 h2
    have hcount := resolveT_count false c ds c1 ds1 hc
    obtain ⟨d1, p1, k1⟩ := c1
    simp only [T.kids_node, Bool.false_eq_true, if_false] at hcount h1
    simp only [deg3L, deg3Below, Bool.and_eq_true, decide_eq_true_eq]
    exact ⟨⟨by split at hcount <;> omega, h1⟩, h2⟩
  · intro isRoot d p k ds k1 ds1 c' ds' _ hn hb
    rw [deg3L_all]
    exact resolveNode_all _ joinTwo_deg3 hn (by rw [← deg3L_all]; exact hb)

theorem resolveT_deg3 : ∀ (c : T) (ds : List Nat) (c' : T) (ds' : List Nat),
    resolveT false c ds = some (c', ds') → deg3Below c' = true := by
  intro c ds c' ds' h
  have h1 := resolve_deg3_all.1 false c ds c' ds' h
  have hcount := resolveT_count false c ds c' ds' h
  obtain ⟨d', p', k'⟩ := c'
  simp only [T.kids_node, Bool.false_eq_true, if_false] at hcount h1
  simp only [deg3Below, Bool.and_eq_true, decide_eq_true_eq]
  exact ⟨by split at hcount <;> omega, h1⟩

theorem resolve_deg3 (t t' : T) (ds : List Nat) (h : resolve t ds = some t') : deg3 t' = true := by
  have h' := resolve_some t ds t' h
  have hcount := resolveT_count true t ds t' [] h'
  simp only [if_true, Nat.add_zero] at hcount
  simp only [deg3, Bool.and_eq_true, decide_eq_true_eq]
  exact ⟨by split at hcount <;> omega, resolve_deg3_all.1 true t ds t' [] h'⟩

/-- a root that is a tip stays one, and only then is the root a tip afterwards -/
theorem resolve_kids_one (t t' : T) (draws : List Nat) (h : resolve t draws = some t') :
    (t'.kids.length == 1) = (t.kids.length == 1) := by
  have hcount := resolveT_count true t draws t' [] (resolve_some t draws t' h)
  simp only [if_true, Nat.add_zero] at hcount
  split at hcount
  · rw [hcount]
  · rw [beq_eq_false_iff_ne.mpr (by omega), beq_eq_false_iff_ne.mpr (by omega)]

/-- Resolve keeps the tip names, the root included when it is a tip -/
theorem resolve_tipNames (t t' : T) (draws : List Nat) (h : resolve t draws = some t') :
    t'.tipNames.Perm t.tipNames := by
  obtain ⟨hl, hleaf, hd, _⟩ := (resolve_spec (fun _ => ()) permInv_unit).1 true t draws t' [] (resolve_some t draws t' h)
  exact tipNames_perm hl hleaf hd (resolve_kids_one t t' draws h)

/- ## distances from the observation list -/

theorem sum_perm {l1 l2 : List Rat} (h : l1.Perm l2) : l1.sum = l2.sum := by
  induction h with
  | nil => rfl
  | cons x _ ih => simp [ih]
  | swap x y l => simp only [List.sum_cons]; grind
  | trans _ _ ih1 ih2 => exact ih1.trans ih2

theorem sum_map_zero {α : Type} (g : α → Rat) : ∀ l : List α, (∀ x ∈ l, g x = 0) → (l.map g).sum = 0
  | [], _ => rfl
  | x :: r, h => by
    rw [List.map_cons, List.sum_cons, h x List.mem_cons_self,
      sum_map_zero g r (fun y hy => h y (List.mem_cons_of_mem _ hy))]
    exact Rat.add_zero 0

/-- the separation test of the patristic distance, as an order-independent observation -/
def sepf (a b : String) (l : List String) : Bool := (l.contains a) != (l.contains b)

theorem sepf_permInv (a b : String) : PermInv (sepf a b) := by
  intro l l' hp
  unfold sepf
  rw [hp.contains_eq (a := a), hp.contains_eq (a := b)]

/-- what an observed branch contributes to the distance between `a` and `b` -/
def wR (x : ObsR Bool) : Rat := if x.1 then (if x.2.1 == NIL then 0 else x.2.1) else 0

/-- `T.dist` (Core: sum of the lengths of the separating branches, absent = 0) read off the
    observation list -/
theorem dist_eq_RT (t : T) (a b : String) : t.dist a b = ((RT (sepf a b) t).map wR).sum := by
  unfold T.dist distW T.splits
  rw [RT_kids]
  unfold RL
  have h := splitsL_obs (sepf a b) t.kids
  have h1 : (splitsL t.kids).map (fun s => if s.sep a b then s.e.lenOr0 else 0) =
      ((splitsL t.kids).map (fun s => (sepf a b s.below, s.e, s.tip))).map (fun y => if y.1 then y.2.1.lenOr0 else 0) := by
    rw [List.map_map]; rfl
  rw [h1, h, List.map_map, List.map_map]
  rfl

end Gotree.C07

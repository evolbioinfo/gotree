/-
  C06 — literal equality of the sorted split lists compared by the oracle
  (`t'.usplitSet = restrictSplits …`), given that the rendering `toString` used as sort key
  tells the sides involved apart (`Spec.sidesInj`, evaluated per case by the driver).
  Core Lean only.
-/
import Gotree.Lemmas.C06Data

namespace Gotree.C06
open Gotree

/-- the order the split lists are sorted by -/
def sideLe (a b : List String) : Bool := decide (toString a ≤ toString b)

theorem sideLe_trans (a b c : List String) : sideLe a b = true → sideLe b c = true → sideLe a c = true := by
  simp only [sideLe, decide_eq_true_eq]; exact String.le_trans

theorem sideLe_total (a b : List String) : (sideLe a b || sideLe b a) = true := by
  simp only [sideLe, Bool.or_eq_true, decide_eq_true_eq]; exact String.le_total _ _

theorem nodup_eraseDups : ∀ (n : Nat) (l : List (List String)), l.length ≤ n → l.eraseDups.Nodup
  | _, [], _ => by simp
  | 0, _ :: _, h => by simp at h
  | n + 1, a :: as, h => by
    rw [List.eraseDups_cons, List.nodup_cons]
    constructor
    · intro hm
      have := List.mem_eraseDups.1 hm
      simp at this
    · apply nodup_eraseDups n
      have := List.length_filter_le (fun b => !b == a) as
      simp at h; omega

theorem restrictSplits_nodup (all keep : List String) (sides : List (List String)) :
    (restrictSplits all keep sides).Nodup := by
  unfold restrictSplits
  exact (List.mergeSort_perm _ _).nodup_iff.2 (nodup_eraseDups _ _ (Nat.le_refl _))

theorem restrictSplits_sorted (all keep : List String) (sides : List (List String)) :
    (restrictSplits all keep sides).Pairwise (fun a b => sideLe a b = true) := by
  unfold restrictSplits
  exact List.pairwise_mergeSort (le := sideLe) sideLe_trans sideLe_total _

theorem sorted_fold (L : List USplit) : ((ufoldU L []).mergeSort uLe).Pairwise (fun a b => uLe a b = true) :=
  List.pairwise_mergeSort (le := uLe)
    (fun a b c => by simp only [uLe, decide_eq_true_eq]; exact String.le_trans)
    (fun a b => by simp only [uLe, Bool.or_eq_true, decide_eq_true_eq]; exact String.le_total _ _) _

theorem sidesNodup_fold (L : List USplit) : SidesNodup ((ufoldU L []).mergeSort uLe) := by
  unfold SidesNodup
  exact ((List.mergeSort_perm _ _).map _).nodup_iff.2 (C05.ufoldU_sidesNodup _ [] (by simp [SidesNodup]))

theorem usplitsAll_sorted (t : T) : t.usplitsAll.Pairwise (fun a b => uLe a b = true) := by
  rw [T.usplitsAll_eq]; exact sorted_fold _

theorem usplitSet_nodup (t : T) : t.usplitSet.Nodup := by
  unfold T.usplitSet T.usplits
  exact (C05.usplitsAll_sidesNodup t).sublist ((List.filter_sublist).map _)

theorem usplitSet_sorted (t : T) : t.usplitSet.Pairwise (fun a b => sideLe a b = true) := by
  unfold T.usplitSet T.usplits
  rw [List.pairwise_map]
  exact ((usplitsAll_sorted t).sublist List.filter_sublist).imp (fun h => h)

theorem sidesInj_iff (l : List (List String)) :
    sidesInj l = true ↔ ∀ a ∈ l, ∀ b ∈ l, toString a = toString b → a = b := by
  simp only [sidesInj, List.all_eq_true, Bool.or_eq_true, bne_iff_ne, ne_eq, beq_iff_eq]
  constructor
  · intro h a ha b hb e
    exact (h a ha b hb).resolve_left (fun h' => h' e)
  · intro h a ha b hb
    by_cases e : toString a = toString b
    · exact Or.inr (h a ha b hb e)
    · exact Or.inl e

theorem eq_of_key_nodup {α : Type} (key : α → List String) (l : List α) (hn : (l.map key).Nodup) :
    ∀ a ∈ l, ∀ b ∈ l, key a = key b → a = b := by
  have h : l.Pairwise fun a b => key a = key b → a = b := (List.pairwise_map.1 hn).imp fun h e => absurd e h
  exact fun a ha b hb => List.Pairwise.forall_of_forall_of_flip (fun _ _ _ => rfl) h
    (h.imp fun h e => (h e.symm).symm) ha hb

/-- lists keyed by a side: permutations of each other, sorted by the rendering of the key, keys
    without repetition and told apart by the rendering: equal -/
theorem eq_of_perm_keyed {α : Type} (key : α → List String) {l₁ l₂ : List α} (hp : l₁.Perm l₂)
    (s₁ : l₁.Pairwise (fun a b => sideLe (key a) (key b) = true))
    (s₂ : l₂.Pairwise (fun a b => sideLe (key a) (key b) = true))
    (hn : (l₁.map key).Nodup) (hinj : sidesInj (l₁.map key) = true) : l₁ = l₂ := by
  have hI := (sidesInj_iff _).1 hinj
  apply List.Perm.eq_of_pairwise (le := fun a b => sideLe (key a) (key b) = true) _ s₁ s₂ hp
  intro a b ha hb h1 h2
  simp only [sideLe, decide_eq_true_eq] at h1 h2
  have hb' : b ∈ l₁ := hp.mem_iff.2 hb
  have hk : key a = key b :=
    hI _ (List.mem_map_of_mem ha) _ (List.mem_map_of_mem hb') (String.le_antisymm h1 h2)
  exact eq_of_key_nodup key l₁ hn a ha b hb' hk

/-- two duplicate-free lists of sides, sorted by the rendering, with the same members, are equal
    as soon as the rendering tells the members apart -/
theorem eq_of_same_members {l₁ l₂ : List (List String)} (n₁ : l₁.Nodup) (n₂ : l₂.Nodup)
    (s₁ : l₁.Pairwise (fun a b => sideLe a b = true)) (s₂ : l₂.Pairwise (fun a b => sideLe a b = true))
    (hm : ∀ a, a ∈ l₁ ↔ a ∈ l₂) (hinj : sidesInj l₁ = true) : l₁ = l₂ :=
  eq_of_perm_keyed id ((List.perm_ext_iff_of_nodup n₁ n₂).2 hm) s₁ s₂ (by simpa using n₁) (by simpa using hinj)

/-- Parts (`filter`) of two lists of unrooted splits sorted by the rendering of the side, seen through `g`
    which keeps the side as key: permutations of each other are equal as soon as the sides of the first list
    are without repetition and told apart by the rendering. -/
theorem eq_of_perm_parts {β : Type} (g : USplit → β) (key : β → List String) (hk : ∀ u, key (g u) = u.side)
    {l₁ l₂ : List USplit} {p q : USplit → Bool} (hp : ((l₁.filter p).map g).Perm ((l₂.filter q).map g))
    (s₁ : l₁.Pairwise (fun a b => uLe a b = true)) (s₂ : l₂.Pairwise (fun a b => uLe a b = true))
    (hn : SidesNodup l₁) (hinj : sidesInj (l₁.map (·.side)) = true) :
    (l₁.filter p).map g = (l₂.filter q).map g := by
  have hkey : ((l₁.filter p).map g).map key = (l₁.filter p).map (·.side) := by
    rw [List.map_map]; exact List.map_congr_left fun u _ => hk u
  have hsorted : ∀ {l : List USplit} (r : USplit → Bool), l.Pairwise (fun a b => uLe a b = true) →
      ((l.filter r).map g).Pairwise (fun a b => sideLe (key a) (key b) = true) := fun r h => by
    rw [List.pairwise_map]
    exact (h.sublist List.filter_sublist).imp fun {a b} h => by simpa only [sideLe, uLe, hk] using h
  have hI := (sidesInj_iff _).1 hinj
  refine eq_of_perm_keyed key hp (hsorted p s₁) (hsorted q s₂) ?_ ((sidesInj_iff _).2 fun a ha b hb e => ?_)
  · rw [hkey]; exact hn.sublist (List.filter_sublist.map _)
  · rw [hkey] at ha hb
    exact hI a ((List.filter_sublist.map _).subset ha) b ((List.filter_sublist.map _).subset hb) e

theorem restrictU_sorted (t : T) (keep : List String) :
    (restrictU t keep).Pairwise (fun a b => uLe a b = true) := by
  rw [restrictU_eq]; exact sorted_fold _

theorem restrictU_sidesNodup (t : T) (keep : List String) : SidesNodup (restrictU t keep) := by
  rw [restrictU_eq]; exact sidesNodup_fold _

/-! ## the derived `==` on unrooted splits is reflexive -/

theorem usplit_beq_self (u : USplit) : (u == u) = true := by
  cases u with
  | mk s l p =>
    have : s.beq s = true := by
      have := (beq_self_eq_true s); simpa [BEq.beq] using this
    simp [BEq.beq, instBEqUSplit.beq, this]

theorem list_usplit_beq_self : ∀ (l : List USplit), (l == l) = true
  | [] => rfl
  | a :: r => by
    have h1 := usplit_beq_self a
    have h2 := list_usplit_beq_self r
    show List.beq (a :: r) (a :: r) = true
    simp only [List.beq, Bool.and_eq_true]
    exact ⟨h1, h2⟩

theorem canonSide_subset (all side : List String) : ∀ x ∈ canonSide all side, x ∈ all := by
  intro x hx
  unfold canonSide at hx
  have hs : ∀ y ∈ sortS (side.filter all.contains), y ∈ all := by
    intro y hy
    have := (List.mem_filter.1 (mem_sortS.1 hy)).2
    simpa using this
  cases hm : minS all with
  | none => rw [hm] at hx; exact hs x hx
  | some m =>
    rw [hm] at hx
    simp only at hx
    split at hx
    · exact (List.mem_filter.1 (mem_sortS.1 hx)).1
    · exact hs x hx

theorem goodNames_iff (t : T) : goodNames t = true ↔ ∀ x ∈ t.tipNames, C05.goodName x := by
  simp [goodNames, C05.goodName, List.all_eq_true]

/-- with delimitable tip names the rendering tells all the sides of a tree apart -/
theorem sidesInj_of_goodNames (t' : T) (h : ∀ x ∈ t'.tipNames, C05.goodName x) :
    sidesInj (t'.usplitsAll.map (·.side)) = true := by
  rw [sidesInj_iff]
  have hg : ∀ a ∈ t'.usplitsAll.map (·.side), ∀ x ∈ a, C05.goodName x := by
    intro a ha x hx
    obtain ⟨s, _, rfl⟩ := (C05.mem_usplitsAll_sides t' a).1 ha
    exact h x (canonSide_subset _ _ x hx)
  intro a ha b hb e
  exact C05.toString_sides_inj a b (hg a ha) (hg b hb) e

end Gotree.C06

/-
  C14 — the literal loops of `AvgDistanceMatrix` (Model/C14Go.lean: `checkNames`, `addRow`, `addRows`,
  `avgStepG`, `avgLoopG`, `avgFinish`) compute what the summarising `avgMatrix` of Model/C14.lean says, as
  soon as the per-tree matrices agree.
-/
import Gotree.Lemmas.C14
import Gotree.Model.C14Go

namespace Gotree.C14
open Gotree Gotree.C14.Go

def avgMsg : String := "trees do not have the same sets of tip names"

/-! ## tables -/

theorem map_div_one (M : List (List Rat)) : (M.map fun r => r.map fun x => x / ((0 + 1 : Nat) : Rat)) = M := by
  have : ∀ x : Rat, x / ((0 + 1 : Nat) : Rat) = x := by
    intro x
    have h1 : ((0 + 1 : Nat) : Rat) = 1 := by simp
    rw [h1]; grind
  simp only [this, List.map_id']

theorem sum_perm {l₁ l₂ : List Rat} (h : l₁.Perm l₂) : l₁.sum = l₂.sum := by
  induction h with
  | nil => rfl
  | cons x _ ih => simp only [List.sum_cons, ih]
  | swap x y l => simp only [List.sum_cons]; grind
  | trans _ _ ih₁ ih₂ => exact ih₁.trans ih₂

/-- a table is determined by its shape and its entries -/
theorem square_ext {n : Nat} {A B : List (List Rat)} (hA : Square n A) (hB : Square n B)
    (h : ∀ i j, (A.getD i []).getD j 0 = (B.getD i []).getD j 0) : A = B := by
  apply List.ext_getElem (hA.length.trans hB.length.symm)
  intro i h1 h2
  have ra : A[i].length = n := hA.row_length _ (List.getElem_mem h1)
  have rb : B[i].length = n := hB.row_length _ (List.getElem_mem h2)
  apply List.ext_getElem (ra.trans rb.symm)
  intro j h3 h4
  have := h i j
  simpa [List.getD_eq_getElem?_getD, List.getElem?_eq_getElem, h1, h2, h3, h4] using this

theorem square_of_lengths {n : Nat} {M : List (List Rat)} (h1 : M.length = n) (h2 : ∀ r ∈ M, r.length = n) :
    Square n M := by
  unfold Square
  rw [List.eq_replicate_iff]
  exact ⟨by simpa using h1, fun x hx => by
    obtain ⟨r, hr, rfl⟩ := List.mem_map.1 hx
    exact h2 r hr⟩

/-! ## the name check -/

theorem drop_of_getElem? {α : Type} {l : List α} {i : Nat} {b : α} (h : l[i]? = some b) :
    l.drop i = b :: l.drop (i + 1) := by
  obtain ⟨hi, rfl⟩ := List.getElem?_eq_some_iff.1 h
  exact List.drop_eq_getElem_cons hi

/-- `checkNames tips i tips2` succeeds iff `tips` is, from position `i` on, a prefix of `tips2` -/
theorem checkNames_ok_iff : ∀ (tips : List String) (i : Nat) (tips2 : List String),
    (∃ u, checkNames tips i tips2 = .ok u) ↔ tips <+: tips2.drop i
  | [], i, tips2 => by simp [checkNames]
  | a :: r, i, tips2 => by
    unfold checkNames
    cases h : tips2[i]? with
    | none =>
      have : tips2.drop i = [] := by
        rw [List.drop_eq_nil_iff]; exact List.getElem?_eq_none_iff.1 h
      simp [this]
    | some b =>
      have hd := drop_of_getElem? h
      by_cases hab : a = b
      · subst hab
        simp only [bne_self_eq_false, Bool.false_eq_true, if_false, hd, List.cons_prefix_cons, true_and]
        exact checkNames_ok_iff r (i + 1) tips2
      · have : (a != b) = true := by simpa using hab
        simp [this, hd, List.cons_prefix_cons, hab]

/-- it panics iff `tips2` runs out first: what is left of `tips2` is a strict prefix of `tips` -/
theorem checkNames_panic_iff : ∀ (tips : List String) (i : Nat) (tips2 : List String),
    (∃ msg, checkNames tips i tips2 = .panic msg) ↔
      (tips2.drop i <+: tips ∧ (tips2.drop i).length < tips.length)
  | [], i, tips2 => by simp [checkNames]
  | a :: r, i, tips2 => by
    unfold checkNames
    cases h : tips2[i]? with
    | none =>
      have : tips2.drop i = [] := by
        rw [List.drop_eq_nil_iff]; exact List.getElem?_eq_none_iff.1 h
      simp [this]
    | some b =>
      have hd := drop_of_getElem? h
      by_cases hab : a = b
      · subst hab
        simp only [bne_self_eq_false, Bool.false_eq_true, if_false, hd, List.cons_prefix_cons, true_and,
          List.length_cons, Nat.add_lt_add_iff_right]
        exact checkNames_panic_iff r (i + 1) tips2
      · have : (a != b) = true := by simpa using hab
        have hba : ¬ b = a := fun h => hab h.symm
        simp [this, hd, List.cons_prefix_cons, hba]

theorem checkNames_cases : ∀ (tips : List String) (i : Nat) (tips2 : List String),
    checkNames tips i tips2 = .ok () ∨ checkNames tips i tips2 = .err avgMsg ∨
      ∃ e, checkNames tips i tips2 = .panic e
  | [], _, _ => Or.inl (by simp [checkNames])
  | a :: r, i, tips2 => by
    unfold checkNames
    cases tips2[i]? with
    | none => exact Or.inr (Or.inr ⟨_, rfl⟩)
    | some b =>
      by_cases hab : a = b
      · subst hab
        simp only [bne_self_eq_false, Bool.false_eq_true, if_false]
        exact checkNames_cases r (i + 1) tips2
      · have : (a != b) = true := by simpa using hab
        simp only [this, if_true]
        exact Or.inr (Or.inl rfl)

theorem checkNames_self (names : List String) : checkNames names 0 names = .ok () := by
  obtain ⟨u, hu⟩ := (checkNames_ok_iff names 0 names).2 (by simp)
  cases u; exact hu

theorem checkNames_ne {names names2 : List String} (hl : names2.length = names.length) (hne : names2 ≠ names) :
    checkNames names 0 names2 = .err avgMsg := by
  rcases checkNames_cases names 0 names2 with h | h | ⟨e, h⟩
  · have := (checkNames_ok_iff names 0 names2).1 ⟨_, h⟩
    simp only [List.drop_zero] at this
    exact absurd (this.eq_of_length hl.symm).symm hne
  · exact h
  · have := (checkNames_panic_iff names 0 names2).1 ⟨_, h⟩
    simp only [List.drop_zero] at this
    omega

/-! ## the addition loops -/

/-- the loop has done the prefix: it adds the remaining `suf2` onto the remaining `suf` -/
theorem addRow_suffix : ∀ (suf suf2 pre pre2 : List Rat), pre.length = pre2.length → suf.length = suf2.length →
    addRow (pre ++ suf) (pre2 ++ suf2) suf.length pre.length = .ok (pre ++ List.zipWith (· + ·) suf suf2)
  | [], _, pre, pre2, _, _ => by simp [addRow]
  | x :: s, [], _, _, _, h => by simp at h
  | x :: s, y :: s2, pre, pre2, hp, hl => by
    have h1 : (pre ++ x :: s)[pre.length]? = some x := by simp
    have h2 : (pre2 ++ y :: s2)[pre.length]? = some y := by rw [hp]; simp
    have h3 : (pre ++ x :: s).set pre.length (x + y) = (pre ++ [x + y]) ++ s := by simp
    rw [List.length_cons, addRow, h1, h2]
    simp only
    rw [h3, show pre2 ++ y :: s2 = (pre2 ++ [y]) ++ s2 by simp,
      show pre.length + 1 = (pre ++ [x + y]).length by simp,
      addRow_suffix s s2 _ _ (by simp [hp]) (by simpa using hl)]
    simp

theorem addRow_full {n : Nat} (row row2 : List Rat) (h1 : row.length = n) (h2 : row2.length = n) :
    addRow row row2 n 0 = .ok (List.zipWith (· + ·) row row2) := by
  have := addRow_suffix row row2 [] [] rfl (h1.trans h2.symm)
  rwa [h1] at this

theorem addRows_suffix {n : Nat} : ∀ (suf suf2 pre pre2 : List (List Rat)), pre.length = pre2.length →
    suf.length = suf2.length → (∀ r ∈ suf, r.length = n) → (∀ r ∈ suf2, r.length = n) →
    addRows (pre ++ suf) (pre2 ++ suf2) n suf.length pre.length = .ok (pre ++ addM suf suf2)
  | [], _, pre, pre2, _, _, _, _ => by simp [addRows, addM]
  | x :: s, [], _, _, _, h, _, _ => by simp at h
  | x :: s, y :: s2, pre, pre2, hp, hl, hx, hy => by
    have hxl : x.length = n := hx x (by simp)
    have hyl : y.length = n := hy y (by simp)
    have ih := addRows_suffix s s2 (pre ++ [List.zipWith (· + ·) x y]) (pre2 ++ [y]) (by simp [hp]) (by simpa using hl)
      (fun r hr => hx r (by simp [hr])) (fun r hr => hy r (by simp [hr]))
    have e2 : pre2 ++ y :: s2 = (pre2 ++ [y]) ++ s2 := by simp
    have e3 : pre.length + 1 = (pre ++ [List.zipWith (· + ·) x y]).length := by simp
    rw [List.length_cons, addRows]
    by_cases hn : n = 0
    · -- the rows are empty: nothing to add
      have hx0 : x = [] := List.eq_nil_of_length_eq_zero (hn ▸ hxl)
      rw [hx0] at ih e3 ⊢
      simp only [hn, beq_self_eq_true, if_true]
      rw [show pre ++ [] :: s = (pre ++ [List.zipWith (· + ·) [] y]) ++ s by simp, e2, e3, ← hn, ih]
      simp [addM]
    · have h1 : (pre ++ x :: s)[pre.length]? = some x := by simp
      have h2 : (pre2 ++ y :: s2)[pre.length]? = some y := by rw [hp]; simp
      have hn' : (n == 0) = false := by simpa using hn
      simp only [hn', Bool.false_eq_true, if_false, h1, h2, addRow_full x y hxl hyl]
      rw [show (pre ++ x :: s).set pre.length (List.zipWith (· + ·) x y) = (pre ++ [List.zipWith (· + ·) x y]) ++ s by simp,
        e2, e3, ih]
      simp [addM]

theorem addRows_full {n : Nat} (acc m2 : List (List Rat)) (h1 : Square n acc) (h2 : Square n m2) :
    addRows acc m2 n n 0 = .ok (addM acc m2) := by
  have := addRows_suffix acc m2 [] [] rfl (h1.length.trans h2.length.symm) h1.row_length h2.row_length
  rwa [h1.length] at this

/-! ## the loop over the later trees -/

theorem avgLoop_later (metric : Int) (m : Metric) (names : List String) :
    ∀ (us : List T) (acc : List (List Rat)) (tips2 : List String) (k : Nat),
    Square names.length acc → (∀ u ∈ us, matrixGo metric u = some (matrix m u)) →
    avgLoop metric ⟨some acc, names, tips2, k⟩ us =
      if us.all (fun u => (matrix m u).1 == names) then
        .ok ⟨some (sumM m us acc), names, (if us.isEmpty then tips2 else names), k + us.length⟩
      else .err avgMsg
  | [], acc, tips2, k, _, _ => by simp [avgLoop, avgLoopG, sumM]
  | u :: us, acc, tips2, k, hacc, hgo => by
    have hu := hgo u (by simp)
    simp only [avgLoop, avgLoopG, avgStepG, hu, Bool.not_false, Bool.true_and, List.all_cons]
    by_cases hn : (matrix m u).1 = names
    · have hsq : Square names.length (matrix m u).2 := by
        have := matrix_isSquare m u
        rwa [hn] at this
      simp only [hn, bne_self_eq_false, Bool.false_eq_true, if_false, checkNames_self, beq_self_eq_true, Bool.true_and]
      rw [addRows_full acc _ hacc hsq]
      simp only
      have hacc' : Square names.length (addM acc (matrix m u).2) := by
        unfold Square; rw [addM_square acc _ hacc hsq]; exact hacc
      have ih := avgLoop_later metric m names us _ names (k + 1) hacc' (fun v hv => hgo v (by simp [hv]))
      simp only [avgLoop] at ih
      rw [ih]
      have e1 : k + 1 + us.length = k + (us.length + 1) := by omega
      simp only [sumM, List.foldl_cons, List.length_cons, List.isEmpty_cons, Bool.false_eq_true, if_false, e1, ite_self]
    · have hf : ((matrix m u).1 == names) = false := by simpa using hn
      simp only [hf, Bool.false_and, Bool.false_eq_true, if_false]
      by_cases hl : (matrix m u).1.length = names.length
      · have hne : ((matrix m u).1.length != names.length) = false := by simp [hl]
        simp only [hne, Bool.false_eq_true, if_false, checkNames_ne hl hn]
      · have hne : ((matrix m u).1.length != names.length) = true := by simpa using hl
        simp only [hne, if_true]
        rfl

/-! ## the final division -/

theorem zipIdx_map_lt {α : Type} (f : α → α) (n : Nat) : ∀ (l : List α) (k : Nat), k + l.length ≤ n →
    (l.zipIdx k).map (fun p => if p.2 < n then f p.1 else p.1) = l.map f
  | [], _, _ => rfl
  | x :: l, k, h => by
    simp only [List.length_cons] at h
    have hk : k < n := by omega
    simp only [List.zipIdx_cons, List.map_cons, hk, if_true]
    rw [zipIdx_map_lt f n l (k + 1) (by omega)]

theorem zipIdx_map_zero {α : Type} (f : α → α) : ∀ (l : List α) (k : Nat),
    (l.zipIdx k).map (fun p => if p.2 < 0 then f p.1 else p.1) = l
  | [], _ => rfl
  | x :: l, k => by
    have ih := zipIdx_map_zero f l (k + 1)
    simp only [Nat.not_lt_zero, if_false] at ih
    simp only [List.zipIdx_cons, List.map_cons, Nat.not_lt_zero, if_false, ih]

theorem avgFinish_later {n : Nat} (names : List String) (M : List (List Rat)) (c : Nat)
    (hn : names.length = n) (hM : Square n M) :
    avgFinish ⟨some M, names, names, c⟩ = (names, M.map fun r => r.map fun x => x / (c : Rat)) := by
  unfold avgFinish
  simp only [Option.getD_some, hn]
  congr 1
  rw [zipIdx_map_lt (fun r : List Rat => r.zipIdx.map fun xj => if xj.2 < n then xj.1 / (c : Rat) else xj.1) n M 0
    (by rw [hM.length]; omega)]
  apply List.map_congr_left
  intro r hr
  exact zipIdx_map_lt (fun x : Rat => x / (c : Rat)) n r 0 (by rw [hM.row_length r hr]; omega)

theorem avgFinish_first {n : Nat} (names : List String) (M : List (List Rat)) (c : Nat)
    (hn : names.length = n) (hM : Square n M) :
    avgFinish ⟨some M, names, [], c⟩ = (names, M) := by
  unfold avgFinish
  simp only [Option.getD_some, hn, List.length_nil]
  congr 1
  rw [zipIdx_map_lt (fun r : List Rat => r.zipIdx.map fun xj => if xj.2 < 0 then xj.1 / (c : Rat) else xj.1) n M 0
    (by rw [hM.length]; omega)]
  have : ∀ r ∈ M, (fun r : List Rat => r.zipIdx.map fun xj => if xj.2 < 0 then xj.1 / (c : Rat) else xj.1) r = id r := by
    intro r _
    exact zipIdx_map_zero (fun x : Rat => x / (c : Rat)) r 0
  rw [List.map_congr_left this, List.map_id]

/-! ## the statement-level average is the summarised one -/

/-- Provided the statement-level matrix of every tree is the rose-tree one (what the driver
    checks on every case, op `matrix`), the literal loops of `AvgDistanceMatrix` return
    exactly the result of `avgMatrix` — the names and mean that `avg_is_mean` describes — and
    the error "trees do not have the same sets of tip names" exactly when `avgMatrix`
    rejects; they never index out of range. -/
theorem avgGo_eq (metric : Int) (m : Metric) (ts : List T)
    (hgo : ∀ t ∈ ts, matrixGo metric t = some (matrix m t)) :
    avgDistanceMatrix metric ts =
      match avgMatrix m ts with
      | some r => .ok r
      | none => .err avgMsg := by
  cases ts with
  | nil => simp [avgDistanceMatrix, avgLoop, avgLoopG, avgFinish, avgMatrix]
  | cons t us =>
    have ht := hgo t (by simp)
    have hsq := matrix_isSquare m t
    have h1 : avgLoop metric {} (t :: us) = avgLoop metric ⟨some (matrix m t).2, (matrix m t).1, [], 1⟩ us := by
      simp [avgLoop, avgLoopG, avgStepG, ht]
    rw [avgDistanceMatrix, h1, avgLoop_later metric m (matrix m t).1 us _ [] 1 hsq (fun v hv => hgo v (by simp [hv])),
      avgMatrix_cons]
    by_cases hall : (us.all fun u => (matrix m u).1 == (matrix m t).1) = true
    · simp only [hall, if_true]
      have hsq' : Square (matrix m t).1.length (sumM m us (matrix m t).2) :=
        (sumM_spec m _ us _ hsq (fun u hu => by
          simp only [List.all_eq_true, beq_iff_eq] at hall
          rw [hall u hu])).1
      cases us with
      | nil =>
        simp only [List.isEmpty_nil, if_true, List.length_nil]
        rw [avgFinish_first _ _ _ rfl hsq']
        simp only [sumM, List.foldl_nil]
        rw [map_div_one]
      | cons u us =>
        simp only [List.isEmpty_cons, Bool.false_eq_true, if_false]
        rw [avgFinish_later _ _ _ rfl hsq']
        have : 1 + (u :: us).length = (u :: us).length + 1 := by omega
        rw [this]
    · simp only [hall, Bool.false_eq_true, if_false]

end Gotree.C14

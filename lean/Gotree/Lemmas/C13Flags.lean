/-
  C13 — the regenerated tables (Gotree/Gen/C13Tables.lean) against the model, and the format flag.
-/
import Gotree.Model.C13Flags
import Gotree.Gen.C13Tables

namespace Gotree.C13

theorem formatOfFlag_table (s : String) :
    (formatOfFlag s).constName = tableLookup Gen.C13.formatFlags Gen.C13.formatDefault s := by
  unfold formatOfFlag
  simp only [Gen.C13.formatFlags, Gen.C13.formatDefault, tableLookup]
  split
  · rfl
  · split
    · rfl
    · split
      · rfl
      · split <;> rfl

theorem formatOfFlag_nexus (s : String) : formatOfFlag s = .nexus ↔ s = "nexus" := by
  unfold formatOfFlag
  constructor
  · intro h
    split at h
    · cases h
    · split at h
      · assumption
      · split at h
        · cases h
        · split at h <;> cases h
  · intro h; subst h; decide

theorem formatOfFlag_phyloxml (s : String) : formatOfFlag s = .phyloxml ↔ s = "phyloxml" := by
  unfold formatOfFlag
  constructor
  · intro h
    split at h
    · cases h
    · split at h
      · cases h
      · split at h
        · assumption
        · split at h <;> cases h
  · intro h; subst h; decide

theorem formatOfFlag_nextstrain (s : String) : formatOfFlag s = .nextstrain ↔ s = "nextstrain" := by
  unfold formatOfFlag
  constructor
  · intro h
    split at h
    · cases h
    · split at h
      · cases h
      · split at h
        · cases h
        · split at h
          · assumption
          · cases h
  · intro h; subst h; decide

theorem formatOfFlag_other (s : String) (h1 : s ≠ "nexus") (h2 : s ≠ "phyloxml") (h3 : s ≠ "nextstrain") :
    formatOfFlag s = .newick := by
  unfold formatOfFlag
  simp [h1, h2, h3]

namespace Nex

theorem keywordOf_table (s : String) : keywordOf s = keywordOfTable Gen.C13.lexerKeywords s := by
  unfold keywordOf keywordOfTable
  generalize String.ofList (s.toList.map upperGo) = u
  simp only [Gen.C13.lexerKeywords, tableLookup]
  split <;> first
    | rfl
    | (rename_i h1 h2 h3 h4 h5 h6 h7 h8 h9 h10 h11 h12 h13 h14 h15 h16 h17 h18
       rw [if_neg h1, if_neg h2, if_neg h3, if_neg h4, if_neg h5, if_neg h6, if_neg h7, if_neg h8, if_neg h9,
         if_neg h10, if_neg h11, if_neg h12, if_neg h13, if_neg h14, if_neg h15, if_neg h16, if_neg h17, if_neg h18]
       rfl)

theorem isIdent_table (c : Char) :
    isIdent c = identOfTable Gen.C13.identStops Gen.C13.whitespaceChars c := by
  unfold isIdent identOfTable isWs
  simp [Gen.C13.identStops, Gen.C13.whitespaceChars, Bool.and_assoc]

theorem isWs_table (c : Char) : isWs c = wsOfTable Gen.C13.whitespaceChars c := by
  unfold isWs wsOfTable
  simp [Gen.C13.whitespaceChars]

end Nex

end Gotree.C13

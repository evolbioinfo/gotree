/-
  C06 — lengths and supports of the induced subtree at the level of the whole tree: if the split
  list of `t'` derives from that of `t` by `Ind K`, the unrooted split map (side ↦ length, support)
  of `t'` is the fused restriction of the original one (`Spec.restrictU`), which is what `dataOK`
  compares.  Uses the fold lemmas of `Gotree.Lemmas.C05Splits`.  Core Lean only.
-/
import Gotree.Lemmas.C06Canon
import Gotree.Lemmas.C06Ind

namespace Gotree.C06
open Gotree Gotree.C14

theorem ufoldU_append (A B acc : List USplit) : ufoldU (A ++ B) acc = ufoldU B (ufoldU A acc) := by
  simp [ufoldU, List.foldl_append]

theorem ufoldU_good : ∀ (l acc : List USplit), GoodU l → GoodU acc → GoodU (ufoldU l acc)
  | [], _, _, h => h
  | s :: l, acc, hl, h =>
    ufoldU_good l _ (fun w hw => hl w (by simp [hw])) (insertU_good s (hl s (by simp)) acc h)

/-- same result of the fold, whatever was accumulated before -/
def UEq (A B : List USplit) : Prop :=
  ∀ acc, SidesNodup acc → GoodU acc → (ufoldU A acc).Perm (ufoldU B acc)

theorem UEq.refl (A : List USplit) : UEq A A := fun _ _ _ => List.Perm.refl _

theorem UEq.trans {A B C : List USplit} (h : UEq A B) (g : UEq B C) : UEq A C :=
  fun acc hn hg => (h acc hn hg).trans (g acc hn hg)

theorem UEq.append {A A' B B' : List USplit} (gA : GoodU A) (gA' : GoodU A') (h : UEq A A') (g : UEq B B') :
    UEq (A ++ B) (A' ++ B') := by
  intro acc hn hg
  rw [ufoldU_append, ufoldU_append]
  have p1 := h acc hn hg
  have s1 := C05.ufoldU_sidesNodup A acc hn
  have s2 := C05.ufoldU_sidesNodup A' acc hn
  have g2 := ufoldU_good A' acc gA' hg
  exact (ufoldU_perm_acc B p1 s1).trans (g _ s2 g2)

theorem UEq.swap {A B : List USplit} (gA : GoodU A) (gB : GoodU B) : UEq (A ++ B) (B ++ A) := by
  intro acc hn hg
  exact ufoldU_perm List.perm_append_comm
    (fun w hw => (List.mem_append.1 hw).elim (gA w) (gB w)) acc hn hg

theorem UEq.fuse (x y : USplit) (h : x.side = y.side) (gx : GoodL x.len) (gy : GoodL y.len) :
    UEq [x, y] [fuseU x y] := by
  intro acc _ hg
  rw [ufoldU_fuse x y [] acc h gx gy hg]

/-- the restriction of the branch to `K` has both sides non-empty (what `restrictU` keeps) -/
def nd (K : List String) (s : SplitE) : Bool :=
  !((s.below.filter K.contains).isEmpty || (s.below.filter K.contains).length == K.length)

/-- the branch as an unrooted split over `K`; the support of a trivial split is not observed -/
def tu (K : List String) (s : SplitE) : USplit :=
  ⟨canonSide K s.below, s.e.len, if 2 ≤ lightSize K (canonSide K s.below) then s.e.sup else NIL⟩

def UL (K : List String) (L : List SplitE) : List USplit := (L.filter (nd K)).map (tu K)

theorem UL_append (K : List String) (A B : List SplitE) : UL K (A ++ B) = UL K A ++ UL K B := by
  simp [UL]

theorem UL_good (K : List String) {L : List SplitE} (h : LensGood L) : GoodU (UL K L) := by
  intro u hu
  obtain ⟨s, hs, rfl⟩ := List.mem_map.1 hu
  exact h s (List.mem_filter.1 hs).1

theorem restr_len_le {K A : List String} (hK : K.Nodup) (hA : A.Nodup) :
    (A.filter K.contains).length ≤ K.length := by
  have := restr_add_out hK hA; omega

theorem nd_eq (K : List String) (s : SplitE) :
    nd K s = decide ((s.below.filter K.contains).length ≠ 0 ∧ (s.below.filter K.contains).length ≠ K.length) := by
  unfold nd
  cases h : s.below.filter K.contains with
  | nil => simp
  | cons a r =>
    simp only [List.isEmpty_cons, Bool.false_or, List.length_cons, ne_eq, Nat.add_eq_zero_iff, Nat.succ_ne_self,
      and_false, not_false_eq_true, true_and]
    by_cases e : r.length + 1 = K.length <;> simp [e]

theorem nd_of_sameSplit {K : List String} {s s' : SplitE} (hK : K.Nodup) (hs : s.below.Nodup)
    (hs' : s'.below.Nodup) (h : sameSplit K s.below s'.below) : nd K s = nd K s' := by
  have l1 := restr_len_le hK hs
  have l2 := restr_len_le hK hs'
  rw [nd_eq, nd_eq]
  rcases restr_len_of_sameSplit hK hs hs' h with e | e
  · rw [e]
  · apply decide_eq_decide.2
    constructor <;> intro h' <;> omega

theorem tu_side_of_sameSplit {K : List String} {s s' : SplitE} (hK : K.Nodup) (hs : s.below.Nodup)
    (hs' : s'.below.Nodup) (h : sameSplit K s.below s'.below) : (tu K s).side = (tu K s').side :=
  canonSide_of_sameSplit hK hs hs' h

theorem rmax0_of_good {l : Rat} (h : GoodL l) : rmax 0 l = if l = NIL then 0 else l := by
  rcases h with h | h
  · simp [h, rmax0_nil]
  · have : l ≠ NIL := by intro h'; rw [h'] at h; exact absurd h (by decide)
    simp [this, rmax0_nonneg h]

theorem fuseLen_eq_fuseEdge {e1 e2 : EdgeD} (h1 : GoodL e1.len) (h2 : GoodL e2.len) (b : Bool) :
    fuseLen e1.len e2.len = (fuseEdge e1 e2 b).len := by
  unfold fuseLen fuseEdge
  simp only [rmax0_of_good h1, rmax0_of_good h2]
  by_cases a1 : e1.len = NIL <;> by_cases a2 : e2.len = NIL <;> simp [a1, a2]

theorem fuseSup_eq_fuseEdge (e1 e2 : EdgeD) :
    fuseSup e1.sup e2.sup = (fuseEdge e1 e2 true).sup := by
  unfold fuseSup fuseEdge rmax
  by_cases a1 : e1.sup = NIL <;> by_cases a2 : e2.sup = NIL <;> simp_all

theorem tu_fuse {K : List String} (hK : K.Nodup) {s1 s2 s' : SplitE} (n1 : s1.below.Nodup) (n2 : s2.below.Nodup)
    (n' : s'.below.Nodup) (h1 : sameSplit K s1.below s'.below) (h2 : sameSplit K s2.below s'.below) (b : Bool)
    (hb : 2 ≤ lightSize K s'.below → b = true) (g1 : GoodL s1.e.len) (g2 : GoodL s2.e.len)
    (he : s'.e = fuseEdge s1.e s2.e b) : fuseU (tu K s1) (tu K s2) = tu K s' := by
  have c1 : canonSide K s1.below = canonSide K s'.below := canonSide_of_sameSplit hK n1 n' h1
  have c2 : canonSide K s2.below = canonSide K s'.below := canonSide_of_sameSplit hK n2 n' h2
  have hl : lightSize K (canonSide K s'.below) = lightSize K s'.below := lightSize_canonSide hK n'
  unfold fuseU tu
  simp only [c1, c2, he, hl]
  congr 1
  · exact fuseLen_eq_fuseEdge g1 g2 b
  · by_cases hnt : 2 ≤ lightSize K s'.below
    · have := hb hnt
      subst this
      simp only [hnt, if_true]
      exact fuseSup_eq_fuseEdge _ _
    · simp only [hnt, if_false]
      unfold fuseSup; simp

theorem UL_single (K : List String) (s : SplitE) : UL K [s] = if nd K s = true then [tu K s] else [] := by
  by_cases h : nd K s = true <;> simp [UL, h]

theorem UL_eq_nil (K : List String) {A : List SplitE} (h : ∀ s ∈ A, nd K s = false) : UL K A = [] := by
  unfold UL
  rw [List.filter_eq_nil_iff.2 fun s hs => by simp [h s hs]]; rfl

theorem ind_ueq {K : List String} (hK : K.Nodup) {L L' : List SplitE} (h : Ind K L L') :
    LensGood L → UEq (UL K L) (UL K L') ∧ LensGood L' := by
  induction h with
  | refl L => exact fun hg => ⟨UEq.refl _, hg⟩
  | trans _ _ ih1 ih2 =>
    intro hg
    obtain ⟨a1, a2⟩ := ih1 hg
    obtain ⟨b1, b2⟩ := ih2 a2
    exact ⟨a1.trans b1, b2⟩
  | @append A A' B B' _ _ ih1 ih2 =>
    intro hg
    have gA : LensGood A := fun s hs => hg s (List.mem_append_left _ hs)
    obtain ⟨a1, a2⟩ := ih1 gA
    obtain ⟨b1, b2⟩ := ih2 fun s hs => hg s (List.mem_append_right _ hs)
    rw [UL_append, UL_append]
    exact ⟨UEq.append (UL_good K gA) (UL_good K a2) a1 b1,
      fun s hs => (List.mem_append.1 hs).elim (a2 s) (b2 s)⟩
  | swap A B =>
    intro hg
    rw [UL_append, UL_append]
    exact ⟨UEq.swap (UL_good K fun s hs => hg s (List.mem_append_left _ hs))
        (UL_good K fun s hs => hg s (List.mem_append_right _ hs)),
      fun s hs => hg s (List.mem_append.2 (List.mem_append.1 hs).symm)⟩
  | single s s' hs hs' h he =>
    intro hg
    have e1 : nd K s = nd K s' := nd_of_sameSplit hK hs hs' (Or.inl h)
    have e2 : tu K s = tu K s' := by
      unfold tu; rw [canonSide_of_sameSplit hK hs hs' (Or.inl h), he]
    rw [UL_single, UL_single, e1, e2]
    exact ⟨UEq.refl _, fun t ht => by simp at ht; subst ht; rw [he]; exact hg s (by simp)⟩
  | drop A h =>
    intro _
    rw [UL_eq_nil K fun s hs => by
      have : s.below.filter K.contains = [] :=
        List.filter_eq_nil_iff.2 fun a ha hc => h s hs a (by simpa using hc) ha
      simp [nd, this]]
    exact ⟨UEq.refl _, fun t ht => by cases ht⟩
  | dropTop hc hn h =>
    intro _
    have hl : (hc.below.filter K.contains).length = K.length := by
      rw [count_swap hK hn]
      exact congrArg _ (List.filter_eq_self.2 fun a ha => by simpa using h a ha)
    rw [UL_eq_nil K fun s hs => by simp at hs; subst hs; simp [nd, hl]]
    exact ⟨UEq.refl _, fun t ht => by cases ht⟩
  | fuse s1 s2 s' n1 n2 n' h1 h2 b hb he =>
    intro hg
    have g1 := hg s1 (by simp)
    have g2 := hg s2 (by simp)
    refine ⟨?_, fun t ht => by
      simp at ht; subst ht
      rcases he with he | he <;> rw [he] <;> exact fuse_lenOK _ _ _⟩
    have u : UL K [s1, s2] = UL K [s1] ++ UL K [s2] := UL_append K [s1] [s2]
    rw [u, UL_single, UL_single, UL_single, nd_of_sameSplit hK n1 n' h1, nd_of_sameSplit hK n2 n' h2]
    by_cases hn : nd K s' = true
    · simp only [hn, if_true, List.cons_append, List.nil_append]
      have hside : (tu K s1).side = (tu K s2).side :=
        (tu_side_of_sameSplit hK n1 n' h1).trans (tu_side_of_sameSplit hK n2 n' h2).symm
      rcases he with he | he
      · rw [← tu_fuse hK n1 n2 n' h1 h2 b hb g1 g2 he]
        exact UEq.fuse _ _ hside g1 g2
      · rw [← tu_fuse hK n2 n1 n' h2 h1 b hb g2 g1 he]
        exact (UEq.swap (A := [tu K s1]) (B := [tu K s2]) (fun w hw => by simp at hw; subst hw; exact g1)
          (fun w hw => by simp at hw; subst hw; exact g2)).trans (UEq.fuse _ _ hside.symm g2 g1)
    · simp only [hn, Bool.false_eq_true, if_false, List.append_nil]; exact UEq.refl _

theorem restrictU_fold (k : List String) : ∀ (L : List SplitE) (acc : List USplit),
    L.foldl (fun acc s =>
      let side := s.below.filter k.contains
      if side.isEmpty || side.length == k.length then acc
      else insertU ⟨canonSide k side, s.e.len, s.e.sup⟩ acc) acc
    = ufoldU ((L.filter (nd k)).map (toU k)) acc
  | [], acc => rfl
  | s :: L, acc => by
    simp only [List.foldl_cons]
    rw [restrictU_fold k L]
    by_cases h : ((s.below.filter k.contains).isEmpty || (s.below.filter k.contains).length == k.length) = true
    · have hn : nd k s = false := by simp [nd, h]
      simp [h, hn]
    · have hn : nd k s = true := by simp [nd, h]
      simp only [h, hn, List.filter_cons, if_true, List.map_cons, ufoldU_cons, Bool.false_eq_true, if_false]
      simp [toU, canonSide_restr]

theorem restrictU_eq (t : T) (keep : List String) :
    restrictU t keep = (ufoldU ((t.splits.filter (nd (t.tipNames.filter keep.contains))).map
      (toU (t.tipNames.filter keep.contains))) []).mergeSort uLe := by
  unfold restrictU
  simp only
  rw [restrictU_fold]
  rfl

/-! ## supports of trivial splits are not observed -/

def normU (K : List String) (u : USplit) : USplit :=
  ⟨u.side, u.len, if 2 ≤ lightSize K u.side then u.sup else NIL⟩

theorem tu_eq_norm (K : List String) (s : SplitE) : tu K s = normU K (toU K s) := rfl

theorem normU_fuse (K : List String) (x u : USplit) (h : x.side = u.side) :
    normU K (fuseU x u) = fuseU (normU K x) (normU K u) := by
  unfold normU fuseU
  simp only [h]
  by_cases hn : 2 ≤ lightSize K u.side
  · simp [hn]
  · simp only [hn, if_false]
    congr 1

theorem insertU_normU (K : List String) (u : USplit) : ∀ acc : List USplit,
    insertU (normU K u) (acc.map (normU K)) = (insertU u acc).map (normU K)
  | [] => rfl
  | x :: r => by
    by_cases h : x.side = u.side
    · rw [List.map_cons, insertU_cons_eq (normU K u) (normU K x) _ (by simpa [normU] using h), insertU_cons_eq u x r h]
      simp only [List.map_cons]
      rw [normU_fuse K x u h]
    · rw [List.map_cons, insertU_cons_ne (normU K u) (normU K x) _ (by simpa [normU] using h), insertU_cons_ne u x r h]
      simp only [List.map_cons]
      rw [insertU_normU K u r]

theorem ufoldU_normU (K : List String) : ∀ (l acc : List USplit),
    ufoldU (l.map (normU K)) (acc.map (normU K)) = (ufoldU l acc).map (normU K)
  | [], _ => rfl
  | u :: l, acc => by
    simp only [List.map_cons, ufoldU_cons]
    rw [insertU_normU, ufoldU_normU K l]

theorem filter_nt_normU (K : List String) : ∀ l : List USplit,
    (l.map (normU K)).filter (fun s => decide (2 ≤ lightSize K s.side)) =
      l.filter (fun s => decide (2 ≤ lightSize K s.side))
  | [] => rfl
  | u :: l => by
    simp only [List.map_cons, List.filter_cons]
    rw [filter_nt_normU K l]
    by_cases h : 2 ≤ lightSize K u.side
    · have : normU K u = u := by simp [normU, h]
      simp [this, h]
    · simp [normU, h]

theorem filter_triv_normU (K : List String) : ∀ l : List USplit,
    ((l.map (normU K)).filter (fun s => decide (lightSize K s.side ≤ 1))).map (fun s => (s.side, s.len)) =
      (l.filter (fun s => decide (lightSize K s.side ≤ 1))).map (fun s => (s.side, s.len))
  | [] => rfl
  | u :: l => by
    simp only [List.map_cons, List.filter_cons]
    have ih := filter_triv_normU K l
    by_cases h : lightSize K u.side ≤ 1
    · simp only [normU, h, decide_true, if_true, List.map_cons]
      rw [← ih]
    · simp only [normU, h, decide_false, Bool.false_eq_true, if_false]
      exact ih

/-- two lists of unrooted splits that agree once the unobserved supports are blanked have the same non-trivial
    members, and the same trivial ones up to the support -/
theorem perm_of_perm_normU {K : List String} {X Y : List USplit} (h : (Y.map (normU K)).Perm (X.map (normU K))) :
    (Y.filter fun s => decide (2 ≤ lightSize K s.side)).Perm (X.filter fun s => decide (2 ≤ lightSize K s.side)) ∧
    ((Y.filter fun s => decide (lightSize K s.side ≤ 1)).map fun s => (s.side, s.len)).Perm
      ((X.filter fun s => decide (lightSize K s.side ≤ 1)).map fun s => (s.side, s.len)) := by
  constructor
  · rw [← filter_nt_normU K Y, ← filter_nt_normU K X]; exact h.filter _
  · rw [← filter_triv_normU K Y, ← filter_triv_normU K X]; exact (h.filter _).map _

theorem below_ne_nil : ∀ (t : T), ∀ s ∈ t.splitsBelow, s.below ≠ [] :=
  fun t => t.splitsBelow_eq ▸ Gotree.below_ne_nil t.kids

theorem exists_outside : ∀ (k : Kids), 2 ≤ k.length → (leavesL k).Nodup →
    ∀ s ∈ splitsL k, ∃ y ∈ leavesL k, y ∉ s.below
  | [], h, _ => by simp at h
  | (e, t) :: r, h2, hnd => by
    intro s hs
    have hr : r ≠ [] := by intro h0; subst h0; simp at h2
    simp only [leavesL_cons] at hnd ⊢
    have hdis := (List.nodup_append.1 hnd).2.2
    simp only [splitsL, List.mem_cons, List.mem_append] at hs
    have inT : (s = ⟨t.leaves, e, t.isLeaf⟩ ∨ s ∈ t.splitsBelow) → ∃ y ∈ t.leaves ++ leavesL r, y ∉ s.below := by
      intro h
      obtain ⟨y, hy⟩ := List.exists_mem_of_ne_nil _ (leavesL_ne_nil r hr)
      refine ⟨y, List.mem_append_right _ hy, fun hm => ?_⟩
      have : y ∈ t.leaves := by
        rcases h with rfl | h
        · exact hm
        · exact below_sub t s h y hm
      exact hdis y this y hy rfl
    rcases hs with h | h | h
    · exact inT (Or.inl h)
    · exact inT (Or.inr h)
    · obtain ⟨y, hy⟩ := List.exists_mem_of_ne_nil _ (T.leaves_ne_nil t)
      refine ⟨y, List.mem_append_left _ hy, fun hm => ?_⟩
      exact hdis y hy y (below_subL r s h y hm) rfl

theorem nd_of_outside {K : List String} {s : SplitE} (hK : K.Nodup) (hsn : s.below.Nodup)
    (hsub : ∀ a ∈ s.below, a ∈ K) (hne : s.below ≠ []) {y : String} (hyK : y ∈ K) (hym : y ∉ s.below) :
    nd K s = true := by
  have hself : s.below.filter K.contains = s.below :=
    List.filter_eq_self.2 (fun a ha => by simpa using hsub a ha)
  rw [nd_eq, hself]
  simp only [ne_eq, decide_eq_true_eq]
  refine ⟨fun h0 => hne (List.length_eq_zero_iff.1 h0), fun hl => ?_⟩
  have c := restr_add_out hK hsn
  rw [hself] at c
  have := List.length_pos_of_mem (mem_out.2 ⟨hyK, hym⟩)
  omega

/-- every branch of a tree with unique tip names has tips on both sides -/
theorem nd_all_any (t' : T) (K : List String) (hnd : t'.tipNames.Nodup) (hperm : t'.tipNames.Perm K) :
    ∀ s ∈ t'.splits, nd K s = true := by
  intro s hs
  have hsub : ∀ a ∈ s.below, a ∈ leavesL t'.kids := below_subL t'.kids s hs
  have htip : ∀ a ∈ leavesL t'.kids, a ∈ K := fun a ha =>
    hperm.mem_iff.1 (by unfold T.tipNames; exact List.mem_append_right _ ha)
  have hndk : (leavesL t'.kids).Nodup := (List.nodup_append.1 hnd).2.1
  obtain ⟨y, hyK, hym⟩ : ∃ y ∈ K, y ∉ s.below := by
    by_cases h1 : t'.kids.length = 1
    · -- below a tip root, the root itself
      have hn : (t'.name :: leavesL t'.kids).Nodup := by simpa [T.tipNames, h1] using hnd
      exact ⟨t'.name, hperm.mem_iff.1 (by simp [T.tipNames, h1]), fun hm => (List.nodup_cons.1 hn).1 (hsub _ hm)⟩
    · have h2 : 2 ≤ t'.kids.length := by
        have : t'.kids ≠ [] := fun h0 => by rw [T.splits, h0] at hs; simp [splitsL] at hs
        have := List.length_pos_iff.2 this
        omega
      obtain ⟨y, hy, hym⟩ := exists_outside t'.kids h2 hndk s hs
      exact ⟨y, htip y hy, hym⟩
  exact nd_of_outside (hperm.nodup_iff.1 hnd) (T.below_nodup hnd s hs) (fun a ha => htip a (hsub a ha))
    (Gotree.below_ne_nil t'.kids s hs) hyK hym

/-- **Lengths and supports of the induced subtree.**  If the split list of `t'` derives from that of `t`
    by the steps of `removeTip` (`Ind`) and every branch of `t'` has kept tips on both sides, then the
    unrooted split map of `t'` (non-trivial splits with length and support; tip branches with length) is the
    fused restriction `restrictU` of that of `t`, up to the order of the list. -/
theorem data_of_ind_gen (t t' : T) (p : String → Bool) (hT : t.tipNames.Nodup)
    (hperm : t'.tipNames.Perm (t.tipNames.filter p))
    (hnd_all : ∀ s ∈ t'.splits, nd (t.tipNames.filter p) s = true)
    (hI : Ind (t.tipNames.filter p) t.splits t'.splits) (hg : LensGood t.splits) :
    t'.usplits.Perm ((restrictU t (t.tipNames.filter p)).filter
      (fun s => decide (2 ≤ lightSize (t.tipNames.filter p) s.side))) ∧
    t'.tipLens.Perm (((restrictU t (t.tipNames.filter p)).filter
      (fun s => decide (lightSize (t.tipNames.filter p) s.side ≤ 1))).map (fun s => (s.side, s.len))) := by
  have hY := (ind_ueq (hT.filter p) hI hg).1 [] (by simp [SidesNodup]) (by intro x hx; cases hx)
  -- both folds, with the supports of trivial splits blanked
  have eU : ∀ L : List SplitE, ufoldU (UL (t.tipNames.filter p) L) [] =
      (ufoldU ((L.filter (nd (t.tipNames.filter p))).map (toU (t.tipNames.filter p))) []).map
        (normU (t.tipNames.filter p)) := fun L => by
    rw [← ufoldU_normU]; simp only [UL, List.map_map, List.map_nil]; rfl
  rw [eU, eU, List.filter_eq_self.2 hnd_all] at hY
  have eR := restrictU_eq t (t.tipNames.filter p)
  rw [filter_filter_contains] at eR
  have eA : t'.usplitsAll = (ufoldU (t'.splits.map (toU (t.tipNames.filter p))) []).mergeSort uLe := by
    rw [T.usplitsAll_eq, toU_perm_all hperm]
  have h : (t'.usplitsAll.map (normU (t.tipNames.filter p))).Perm
      ((restrictU t (t.tipNames.filter p)).map (normU (t.tipNames.filter p))) := by
    rw [eA, eR]
    exact (((List.mergeSort_perm _ _).map _).trans hY.symm).trans ((List.mergeSort_perm _ _).map _).symm
  unfold T.usplits T.tipLens
  simpa only [lightSize_perm_all hperm] using perm_of_perm_normU h

theorem data_of_ind (t t' : T) (p : String → Bool) (hT : t.tipNames.Nodup)
    (hperm : t'.tipNames.Perm (t.tipNames.filter p)) (h2 : 2 ≤ t'.kids.length)
    (hI : Ind (t.tipNames.filter p) t.splits t'.splits) (hg : LensGood t.splits) :
    t'.usplits.Perm ((restrictU t (t.tipNames.filter p)).filter
      (fun s => decide (2 ≤ lightSize (t.tipNames.filter p) s.side))) ∧
    t'.tipLens.Perm (((restrictU t (t.tipNames.filter p)).filter
      (fun s => decide (lightSize (t.tipNames.filter p) s.side ≤ 1))).map (fun s => (s.side, s.len))) :=
  data_of_ind_gen t t' p hT hperm
    (nd_all_any t' _ (hperm.nodup_iff.2 (hT.filter _)) hperm) hI hg

end Gotree.C06

/-
  C17 — an NNI keeps "no single-child inner node" (`Spec/Splits.lean: noSingleL`), on any tree
  (binary or not).  Wanted by C03 (`history_inv`).
-/
import Gotree.Lemmas.C17Sim

namespace Gotree.C17
open Gotree

/-- same number of children, and no single-child node below afterwards if none before -/
structure RN (S S' : T) : Prop where
  nkids : S'.kids.length = S.kids.length
  ns : noSingleL S.kids = true → noSingleL S'.kids = true

theorem RN.noSingleBelow {S S' : T} (h : RN S S') (hb : S.noSingleBelow = true) : S'.noSingleBelow = true := by
  obtain ⟨d, p, k⟩ := S
  obtain ⟨d', p', k'⟩ := S'
  have hn := h.nkids
  simp only [T.kids_node] at hn
  simp only [T.noSingleBelow, Bool.and_eq_true] at hb ⊢
  exact ⟨by rw [hn]; exact hb.1, h.ns hb.2⟩

theorem RN.up {c c' : T} (h : RN c c') (d : NodeD) (p : Nat) (k : Kids) (i : Nat) (e : EdgeD)
    (hk : k[i]? = some (e, c)) : RN (.node d p k) (.node d p (k.set i (e, c'))) where
  nkids := by simp
  ns := allKids_set noSingleL T.noSingleBelow (fun _ _ _ => rfl) c c' e h.noSingleBelow k i hk

theorem RN.lift (f : T → Option T) : ∀ (q : List Nat) (t t' S : T), subAt q t = some S →
    modAt q f t = some t' → (∀ S', f S = some S' → RN S S') → RN t t' :=
  modAt_lift RN f fun d p k i e _ _ hk h => h.up d p k i e hk

macro "rn_fields" : tactic => `(tactic|
  exact ⟨rfl, by simp [noSingleL, T.noSingleBelow] <;> (intros; simp_all)⟩)

/-- the local fact, from what `Apply` makes of the subtree at a site -/
theorem local_RN {path : List Nat} {isRoot : Bool} {p1 : Nat} {k1 : Kids} {j : Nat}
    {e : EdgeD} {d2 : NodeD} {p2 : Nat} {u v : EdgeD × T} (d1 : NodeD) (cross : Bool)
    (s : Site path isRoot p1 k1 j e d2 p2 u v) :
    ∀ S', applyLocal isRoot (newNNI path isRoot p1 j p2 cross) (.node d1 p1 k1) = some S' →
      RN (.node d1 p1 k1) S' := by
  refine site_cases s (fun isRoot p1 k1 j p2 =>
    ∀ S', applyLocal isRoot (newNNI path isRoot p1 j p2 cross) (.node d1 p1 k1) = some S' →
      RN (.node d1 p1 k1) S') ?_ ?_
  · intro y z p1 hp2
    obtain ⟨a0, a1, a2⟩ := applyLocal_root path d1 d2 p1 p2 cross e u v y z hp2
    simp only [a0, a1, a2, Option.some.injEq, forall_eq']
    obtain ⟨eu, tu⟩ := u
    obtain ⟨ev, tv⟩ := v
    obtain ⟨ey, ty⟩ := y
    obtain ⟨ez, tz⟩ := z
    rcases kids2_cases p2 cross (eu, tu) (ev, tv) with ⟨hm, -, hk⟩ | ⟨hm, -, hk⟩ <;> simp only [hm, hk] <;>
      refine ⟨?_, ?_, ?_⟩ <;> rn_fields
  · intro y hp1 hp2
    obtain ⟨a01, a10, a12⟩ := applyLocal_inner path d1 d2 p2 cross e u v y hp2
    obtain ⟨b02, b00, b11⟩ := applyLocal_inner_up path d1 d2 p2 cross e u v y hp2
    obtain ⟨eu, tu⟩ := u
    obtain ⟨ev, tv⟩ := v
    obtain ⟨ey, ty⟩ := y
    have h1 : p1 = 0 ∨ p1 = 1 ∨ p1 = 2 := by omega
    rcases kids2_cases p2 cross (eu, tu) (ev, tv) with ⟨hm, hk', hk⟩ | ⟨hm, hk', hk⟩ <;>
      rcases kidsTop_cases p2 cross with ht | ht <;> rcases h1 with rfl | rfl | rfl <;>
      simp only [a01, a10, a12, b02, b00, b11, Option.some.injEq, forall_eq', hm, hk, hk', ht] <;>
      refine ⟨?_, ?_⟩ <;> rn_fields

end Gotree.C17

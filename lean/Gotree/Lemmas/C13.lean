/-
  C13 — helper lemmas (text level: lines, chunks; the multi-tree reader; the first-tree hypothesis).
-/
import Gotree.Spec.C13

namespace Gotree.C13
open Gotree

/- ## lines -/

theorem splitLinesGo_line (a rest cur : Txt) (ha : ∀ c ∈ a, c ≠ '\n') :
    splitLinesGo (a ++ '\n' :: rest) cur = (dropCR (a.reverse ++ cur)).reverse :: splitLinesGo rest [] := by
  induction a generalizing cur with
  | nil => simp [splitLinesGo]
  | cons c a ih =>
    have hc : c ≠ '\n' := ha c (by simp)
    have : (c == '\n') = false := by simpa using hc
    simp only [List.cons_append, splitLinesGo, this]
    have := ih (c :: cur) (fun x hx => ha x (by simp [hx]))
    simpa using this

theorem dropCR_of_head {l : Txt} (h : l.head? ≠ some '\r') : dropCR l = l := by
  cases l with
  | nil => rfl
  | cons c r =>
    unfold dropCR
    split
    · rename_i r' heq
      simp at h
      injection heq with h1 _
      exact absurd h1 h
    · rfl

/-- a text that has no line break and does not end with '\r' is one line -/
def oneLine (a : Txt) : Prop := (∀ c ∈ a, c ≠ '\n') ∧ a.getLast? ≠ some '\r'

theorem splitLines_cons (a rest : Txt) (h : oneLine a) :
    splitLines (a ++ '\n' :: rest) = a :: splitLines rest := by
  unfold splitLines
  rw [splitLinesGo_line a rest [] h.1]
  have : dropCR a.reverse = a.reverse := by
    apply dropCR_of_head
    simpa [List.head?_reverse] using h.2
  simp [this]

def unlines : List Txt → Txt
  | [] => []
  | l :: r => l ++ '\n' :: unlines r

theorem splitLines_unlines (ls : List Txt) (h : ∀ l ∈ ls, oneLine l) : splitLines (unlines ls) = ls := by
  induction ls with
  | nil => rfl
  | cons l r ih =>
    simp only [unlines]
    rw [splitLines_cons l _ (h l (by simp)), ih (fun x hx => h x (by simp [hx]))]

/- ## last non-blank character -/

theorem lastNonBlankRev_blank (b : Txt) (hb : ∀ c ∈ b, isBlank c = true) (x : Txt) (c : Char) (hc : isBlank c = false) :
    lastNonBlankRev (b ++ c :: x) = c := by
  induction b with
  | nil =>
    cases x with
    | nil => rfl
    | cons y x => simp [lastNonBlankRev, hc]
  | cons d b ih =>
    have hd : isBlank d = true := hb d (by simp)
    have ih' := ih (fun y hy => hb y (by simp [hy]))
    cases hbx : b ++ c :: x with
    | nil => simp at hbx
    | cons y z =>
      simp only [List.cons_append, hbx, lastNonBlankRev, hd, if_true]
      rw [← hbx]; exact ih'

/-- a buffer `x ++ ";" ++ blanks` ends the chunk -/
theorem lastNonBlank_semi (x b : Txt) (hb : ∀ c ∈ b, isBlank c = true) : lastNonBlank (x ++ ';' :: b) = ';' := by
  unfold lastNonBlank
  have : (x ++ ';' :: b).reverse = b.reverse ++ ';' :: x.reverse := by simp
  rw [this]
  apply lastNonBlankRev_blank
  · intro c hc; exact hb c (by simpa using hc)
  · decide

theorem lastNonBlankRev_mem (l : Txt) (h : lastNonBlankRev l = ';') : ';' ∈ l := by
  induction l with
  | nil => simp [lastNonBlankRev] at h
  | cons c r ih =>
    cases r with
    | nil => simp [lastNonBlankRev] at h; simp [h]
    | cons d r' =>
      simp only [lastNonBlankRev] at h
      split at h
      · have := ih h; simp [this]
      · simp [h]

/-- a buffer without ';' never ends a chunk -/
theorem lastNonBlank_ne_semi (l : Txt) (h : ';' ∉ l) : (lastNonBlank l == ';') = false := by
  cases hh : lastNonBlank l == ';' with
  | false => rfl
  | true =>
    have := lastNonBlankRev_mem l.reverse (by simpa [lastNonBlank] using hh)
    exact absurd (by simpa using this) h

/- ## the multi-tree reader as "parse the chunks in order" -/

/-- the chunks of a list of lines: lines are concatenated until the buffer's last non-blank
    character is ';' -/
def chunksGo : List Txt → Txt → List Txt
  | [], _ => []
  | l :: ls, acc => if lastNonBlank (acc ++ l) == ';' then (acc ++ l) :: chunksGo ls [] else chunksGo ls (acc ++ l)

/-- what is left in the buffer at the end of the input (text after the last chunk) -/
def tailGo : List Txt → Txt → Txt
  | [], acc => acc
  | l :: ls, acc => if lastNonBlank (acc ++ l) == ';' then tailGo ls [] else tailGo ls (acc ++ l)

def chunks (doc : Txt) : List Txt := chunksGo (splitLines doc) []
def tail (doc : Txt) : Txt := tailGo (splitLines doc) []

/-- the trees of a chunk: its first tree ends it (only white space follows the first ';' outside a comment) -/
def singleTree (c : Txt) : Prop := (afterTree c false).all isNewickWs = true

theorem afterTree_prefix (a bl : Txt) (ha : ∀ c ∈ a, c ≠ ';' ∧ c ≠ '[') : afterTree (a ++ ';' :: bl) false = bl := by
  induction a with
  | nil => simp [afterTree]
  | cons c r ih =>
    have hc := ha c (by simp)
    have h1 : (c == '[') = false := by simpa using hc.2
    have h2 : (c == ';') = false := by simpa using hc.1
    simp only [List.cons_append, afterTree, Bool.false_eq_true, if_false, h1, h2]
    exact ih (fun x hx => ha x (by simp [hx]))

/-- a text `a;bl` with no ';' and no '[' in `a` and only white space in `bl` holds one tree -/
theorem singleTree_of (a bl : Txt) (ha : ∀ c ∈ a, c ≠ ';' ∧ c ≠ '[') (hbl : ∀ c ∈ bl, isNewickWs c = true) :
    singleTree (a ++ ';' :: bl) := by
  unfold singleTree
  rw [afterTree_prefix a bl ha, List.all_eq_true]
  exact hbl

theorem singleTree_write (C : NewickCodec) (L : NewickLaws C) (t : T) (h : L.wf t = true) :
    singleTree (C.write t) := by
  obtain ⟨body, hb, hbody⟩ := L.write_shape t h
  rw [hb]
  exact singleTree_of body [] (fun x hx => ⟨(hbody x hx).2.2.1, (hbody x hx).2.2.2⟩) (by simp)

theorem parse_writes (C : NewickCodec) (L : NewickLaws C) (ts : List T) (h : ∀ t ∈ ts, L.wf t = true) :
    (ts.map C.write).map C.parse = (ts.map L.norm).map some := by
  rw [List.map_map, List.map_map]
  apply List.map_congr_left
  intro t ht
  exact L.parse_write t (h t ht)

/-- the texts of one or more well-formed trees, one after the other, make one line that ends with ';':
    the text is `pre ++ [';']` with no line end in `pre` -/
theorem writes_line (C : NewickCodec) (L : NewickLaws C) (g : List T) (hne : g ≠ []) (hw : ∀ t ∈ g, L.wf t = true) :
    oneLine (g.map C.write).flatten ∧ lastNonBlank (g.map C.write).flatten = ';' := by
  have : ∃ pre, (g.map C.write).flatten = pre ++ [';'] ∧ ∀ c ∈ pre, c ≠ '\n' := by
    induction g with
    | nil => exact absurd rfl hne
    | cons t r ih =>
      obtain ⟨b, e, hb⟩ := L.write_shape t (hw t (by simp))
      cases r with
      | nil => exact ⟨b, by simp [e], fun c hc => (hb c hc).1⟩
      | cons t' r' =>
        obtain ⟨pre, e', hpre⟩ := ih (by simp) (fun x hx => hw x (by simp [hx]))
        refine ⟨b ++ ';' :: pre, ?_, ?_⟩
        · rw [List.map_cons, List.flatten_cons, e', e]
          simp
        · intro c hc
          rcases List.mem_append.1 hc with h | h
          · exact (hb c h).1
          · rcases List.mem_cons.1 h with h | h
            · rw [h]; decide
            · exact hpre c h
  obtain ⟨pre, e, hpre⟩ := this
  rw [e]
  refine ⟨⟨?_, by simp⟩, lastNonBlank_semi pre [] (by simp)⟩
  intro c hc
  rcases List.mem_append.1 hc with h | h
  · exact hpre c h
  · rw [List.mem_singleton.1 h]; decide

theorem chunkGo_err(C : NewickCodec) (f : Nat) (c : Txt) (id : Nat) (hp : C.parse c = none) :
    chunkGo C (f + 1) c id = ([⟨id, .err⟩], none) := by
  simp [chunkGo, hp]

theorem chunkGo_single (C : NewickCodec) (f : Nat) (c : Txt) (t : T) (id : Nat) (hp : C.parse c = some t)
    (hs : singleTree c) : chunkGo C (f + 1) c id = ([⟨id, .ok t⟩], some (id + 1)) := by
  simp only [singleTree] at hs
  simp [chunkGo, hp, hs]

/-- the first record of a chunk is the parser's answer on the chunk -/
theorem chunkGo_head (C : NewickCodec) (f : Nat) (c : Txt) (id : Nat) :
    headOut (chunkGo C (f + 1) c id).1 = (match C.parse c with | some t => .ok t | none => .err) := by
  simp only [chunkGo]
  cases C.parse c with
  | none => rfl
  | some t =>
    simp only []
    split <;> rfl

/-- parse the chunks in order — every tree of a chunk (`chunkGo`); stop at the first error, which is
    reported with its identifier; no chunk at all (id 0) is reported as an error; text left after the last
    chunk is reported as an error with the next identifier -/
def deliver (C : NewickCodec) (tl : Txt) : List Txt → Nat → List Rec
  | [], id => if id == 0 then [⟨0, .err⟩] else if tl.all isSpaceGo then [] else [⟨id, .err⟩]
  | c :: r, id =>
    match (chunkGo C (c.length + 1) c id).2 with
    | none => (chunkGo C (c.length + 1) c id).1
    | some nid => (chunkGo C (c.length + 1) c id).1 ++ deliver C tl r nid

theorem multiGo_eq_deliver (C : NewickCodec) (ls : List Txt) (acc : Txt) (id : Nat) :
    multiGo C ls acc id = deliver C (tailGo ls acc) (chunksGo ls acc) id := by
  induction ls generalizing acc id with
  | nil => simp [multiGo, chunksGo, tailGo, deliver]
  | cons l ls ih =>
    simp only [multiGo, chunksGo, tailGo]
    split
    · simp only [deliver]
      cases (chunkGo C ((acc ++ l).length + 1) (acc ++ l) id).2 with
      | none => rfl
      | some nid => simp only []; rw [ih]
    · exact ih _ _

theorem chunksGo_lines (ls : List Txt) (h : ∀ l ∈ ls, lastNonBlank l = ';') : chunksGo ls [] = ls := by
  induction ls with
  | nil => rfl
  | cons l r ih =>
    simp only [chunksGo, List.nil_append]
    rw [h l (by simp)]
    simp [ih (fun x hx => h x (by simp [hx]))]

theorem tailGo_lines (ls : List Txt) (h : ∀ l ∈ ls, lastNonBlank l = ';') : tailGo ls [] = [] := by
  induction ls with
  | nil => rfl
  | cons l r ih =>
    simp only [tailGo, List.nil_append]
    rw [h l (by simp)]
    simp [ih (fun x hx => h x (by simp [hx]))]

/-- a file whose lines each end with ';': every line is a chunk, nothing is left over -/
theorem readMultiNewick_lines (C : NewickCodec) (ls : List Txt) (h : ∀ l ∈ ls, oneLine l ∧ lastNonBlank l = ';') :
    readMultiNewick C (unlines ls) = deliver C [] ls 0 := by
  unfold readMultiNewick
  rw [multiGo_eq_deliver, splitLines_unlines _ (fun l hl => (h l hl).1), chunksGo_lines _ (fun l hl => (h l hl).2),
    tailGo_lines _ (fun l hl => (h l hl).2)]

theorem deliver_ok (C : NewickCodec) (cs : List Txt) (ts : List T) (id : Nat)
    (h : cs.map C.parse = ts.map some) (hs : ∀ c ∈ cs, singleTree c) (hne : cs ≠ [] ∨ id ≠ 0) :
    deliver C [] cs id = recsOfTrees ts id := by
  induction cs generalizing ts id with
  | nil =>
    cases ts with
    | nil =>
      cases hne with
      | inl h => exact absurd rfl h
      | inr h => simp [deliver, recsOfTrees, h]
    | cons _ _ => simp at h
  | cons c cs ih =>
    cases ts with
    | nil => simp at h
    | cons t ts =>
      simp only [List.map_cons, List.cons.injEq] at h
      simp only [deliver, chunkGo_single C _ c t id h.1 (hs c (by simp)), recsOfTrees, List.singleton_append]
      congr 1
      exact ih ts (id + 1) h.2 (fun x hx => hs x (by simp [hx])) (Or.inr (by omega))

theorem deliver_err (C : NewickCodec) (tl : Txt) (cs : List Txt) (ts : List T) (bad : Txt) (rest : List Txt) (id : Nat)
    (h : cs.map C.parse = ts.map some) (hs : ∀ c ∈ cs, singleTree c) (hb : C.parse bad = none) :
    deliver C tl (cs ++ bad :: rest) id = recsOfTrees ts id ++ [⟨id + ts.length, .err⟩] := by
  induction cs generalizing ts id with
  | nil =>
    cases ts with
    | nil => simp [deliver, chunkGo_err C _ bad id hb, recsOfTrees]
    | cons _ _ => simp at h
  | cons c cs ih =>
    cases ts with
    | nil => simp at h
    | cons t ts =>
      simp only [List.map_cons, List.cons.injEq] at h
      simp only [List.cons_append, deliver, chunkGo_single C _ c t id h.1 (hs c (by simp)), recsOfTrees,
        List.length_cons]
      rw [ih ts (id + 1) h.2 (fun x hx => hs x (by simp [hx]))]
      have e : id + 1 + ts.length = id + (ts.length + 1) := by omega
      rw [e]
      rfl

/- ## what the formats keep -/

mutual
theorem keptEqT_of_strip : ∀ (a b : T), strip a = strip b → keptEqT a b = true
  | .node d₁ _ k₁, .node d₂ _ k₂, h => by
    simp only [strip, T.node.injEq, NodeD.mk.injEq] at h
    simp [keptEqT, h.1.1, keptEqL_of_strip k₁ k₂ h.2.2]
theorem keptEqL_of_strip : ∀ (a b : Kids), stripL a = stripL b → keptEqL a b = true
  | [], [], _ => rfl
  | [], (_, _) :: _, h => by simp [stripL] at h
  | (_, _) :: _, [], h => by simp [stripL] at h
  | (e₁, t₁) :: r₁, (e₂, t₂) :: r₂, h => by
    simp only [stripL, List.cons.injEq, Prod.mk.injEq, EdgeD.mk.injEq] at h
    simp [keptEqL, h.1.1.1, h.1.1.2.1, keptEqT_of_strip t₁ t₂ h.1.2, keptEqL_of_strip r₁ r₂ h.2]
end

mutual
theorem strip_of_keptEqT : ∀ (a b : T), keptEqT a b = true → strip a = strip b
  | .node d₁ _ k₁, .node d₂ _ k₂, h => by
    simp only [keptEqT, Bool.and_eq_true, beq_iff_eq] at h
    simp [strip, h.1, strip_of_keptEqL k₁ k₂ h.2]
theorem strip_of_keptEqL : ∀ (a b : Kids), keptEqL a b = true → stripL a = stripL b
  | [], [], _ => rfl
  | [], (_, _) :: _, h => by simp [keptEqL] at h
  | (_, _) :: _, [], h => by simp [keptEqL] at h
  | (e₁, t₁) :: r₁, (e₂, t₂) :: r₂, h => by
    simp only [keptEqL, Bool.and_eq_true, beq_iff_eq] at h
    simp [stripL, h.1.1.1, h.1.1.2, strip_of_keptEqT t₁ t₂ h.1.2, strip_of_keptEqL r₁ r₂ h.2]
end

theorem sameKept_iff (a b : T) : sameKept a b = true ↔ strip a = strip b :=
  ⟨strip_of_keptEqT a b, keptEqT_of_strip a b⟩

theorem recsAre_recsOfTrees (ts us : List T) (i : Nat) (h : us.map strip = ts.map strip) :
    recsAre ts (recsOfTrees us i) i = true := by
  induction ts generalizing us i with
  | nil =>
    cases us with
    | nil => rfl
    | cons _ _ => simp at h
  | cons t ts ih =>
    cases us with
    | nil => simp at h
    | cons u us =>
      simp only [List.map_cons, List.cons.injEq] at h
      simp only [recsOfTrees, recsAre, Out.keptEq, beq_self_eq_true, Bool.true_and, Bool.and_eq_true]
      exact ⟨(sameKept_iff u t).2 h.1, ih us (i + 1) h.2⟩

/- ## first tree of a Newick stream = first chunk of the multi-tree reader -/

theorem breakSafe_snoc (a : Txt) (c : Char) :
    breakSafe (a ++ [c]) = if isNewickWs c then breakSafe a else isDelim c := by
  simp [breakSafe, breakSafeRev]

theorem lnb_snoc_blank (B : Txt) (c : Char) (hc : isBlank c = true) :
    (lastNonBlank (B ++ [c]) == ';') = (lastNonBlank B == ';') := by
  unfold lastNonBlank
  simp only [List.reverse_append, List.reverse_cons, List.reverse_nil, List.nil_append, List.cons_append]
  cases hB : B.reverse with
  | nil =>
    have : c ≠ ';' := by intro h; subst h; simp [isBlank] at hc
    simp [lastNonBlankRev, this]
  | cons d r => simp [lastNonBlankRev, hc]

theorem lnb_snoc_nonblank (B : Txt) (c : Char) (hc : isBlank c = false) : lastNonBlank (B ++ [c]) = c := by
  unfold lastNonBlank
  simp only [List.reverse_append, List.reverse_cons, List.reverse_nil, List.nil_append, List.cons_append]
  cases hB : B.reverse with
  | nil => simp [lastNonBlankRev]
  | cons d r => simp [lastNonBlankRev, hc]

def outOf : Option T → Out
  | some t => .ok t
  | none => .err

theorem headOut_multiGo_chunk (C : NewickCodec) (ls : List Txt) (acc l : Txt)
    (h : (lastNonBlank (acc ++ l) == ';') = true) :
    headOut (multiGo C (l :: ls) acc 0) = outOf (C.parse (acc ++ l)) := by
  simp only [multiGo, h, if_true]
  have hh := chunkGo_head C (acc ++ l).length (acc ++ l) 0
  cases hp : C.parse (acc ++ l) with
  | none => simp [chunkGo, hp, headOut, outOf]
  | some t =>
    rw [hp] at hh
    simp only [outOf]
    split
    · exact hh
    · rename_i nid _
      cases hr : (chunkGo C ((acc ++ l).length + 1) (acc ++ l) 0).1 with
      | nil => rw [hr] at hh; simp [headOut] at hh
      | cons r rs => rw [hr] at hh; simpa [headOut] using hh

/-- at a line end: the chunk ends here when the buffer ends with ';', else the search goes on with the
    buffer extended by the line -/
theorem chunk_line_end (C : NewickCodec) (r : Txt) (semi : Bool) (cur acc : Txt)
    (hs : semi = (lastNonBlank (acc ++ cur.reverse) == ';')) (h : (semi || chunkEndsGo r semi false) = true)
    (ih : ∀ cur' acc' : Txt, semi = (lastNonBlank (acc' ++ cur'.reverse) == ';') → false = !cur'.isEmpty →
      (cur'.head? = some '\r' → r.head? ≠ some '\n') → chunkEndsGo r semi false = true →
      ∃ x, headOut (multiGo C (splitLinesGo r cur') acc' 0) = outOf (C.parse (acc' ++ cur'.reverse ++ x))) :
    ∃ x, headOut (multiGo C (cur.reverse :: splitLinesGo r []) acc 0) = outOf (C.parse (acc ++ cur.reverse ++ x)) := by
  cases semi with
  | true =>
    refine ⟨[], ?_⟩
    rw [List.append_nil]
    exact headOut_multiGo_chunk C _ acc cur.reverse hs.symm
  | false =>
    simp only [Bool.false_or] at h
    obtain ⟨x, hx⟩ := ih [] (acc ++ cur.reverse) (by simpa using hs) rfl (by simp) h
    refine ⟨x, ?_⟩
    simp only [multiGo, ← hs]
    simpa using hx

/-- once the buffer holds a ';', if the chunk ends at all it is the buffer extended by some text -/
theorem chunk_ends (C : NewickCodec) (r : Txt) (semi nonempty : Bool) :
    ∀ (cur acc : Txt),
      semi = (lastNonBlank (acc ++ cur.reverse) == ';') →
      nonempty = !cur.isEmpty →
      (cur.head? = some '\r' → r.head? ≠ some '\n') →
      chunkEndsGo r semi nonempty = true →
      ∃ x, headOut (multiGo C (splitLinesGo r cur) acc 0) = outOf (C.parse (acc ++ cur.reverse ++ x)) := by
  fun_induction chunkEndsGo r semi nonempty with
  | case1 semi nonempty =>
    intro cur acc hs hn _ h
    simp only [Bool.and_eq_true] at h
    refine ⟨[], ?_⟩
    have hne : cur.isEmpty = false := by rw [h.2] at hn; simpa using hn.symm
    simp only [splitLinesGo, hne, List.append_nil]
    exact headOut_multiGo_chunk C [] acc cur.reverse (by rw [← hs]; exact h.1)
  | case2 r semi nonempty ih =>
    intro cur acc hs hn _ h
    have hstep : splitLinesGo ('\r' :: '\n' :: r) cur = cur.reverse :: splitLinesGo r [] := by
      simp [splitLinesGo, dropCR]
    rw [hstep]
    exact chunk_line_end C r semi cur acc hs h ih
  | case3 c r semi nonempty hnot hnl ih =>
    intro cur acc hs hn hinv h
    have hc : c = '\n' := by simpa using hnl
    subst hc
    have hd : dropCR cur = cur := by
      apply dropCR_of_head
      intro hh; exact hinv hh rfl
    have hstep : splitLinesGo ('\n' :: r) cur = cur.reverse :: splitLinesGo r [] := by
      simp [splitLinesGo, hd]
    rw [hstep]
    exact chunk_line_end C r semi cur acc hs h ih
  | case4 c r semi nonempty hnot hnl hb ih =>
    intro cur acc hs hn hinv h
    have hcn : (c == '\n') = false := by simpa using hnl
    have hstep : splitLinesGo (c :: r) cur = splitLinesGo r (c :: cur) := by
      simp [splitLinesGo, hcn]
    rw [hstep]
    obtain ⟨x, hx⟩ := ih (c :: cur) acc
      (by rw [hs]; simp only [List.reverse_cons, ← List.append_assoc]; exact (lnb_snoc_blank _ c hb).symm)
      (by simp)
      (by intro hh; simp at hh; subst hh; simp [isBlank] at hb) h
    exact ⟨c :: x, by simpa using hx⟩
  | case5 c r semi nonempty hnot hnl hb ih =>
    intro cur acc hs hn hinv h
    have hcn : (c == '\n') = false := by simpa using hnl
    have hbf : isBlank c = false := by simpa using hb
    have hstep : splitLinesGo (c :: r) cur = splitLinesGo r (c :: cur) := by
      simp [splitLinesGo, hcn]
    rw [hstep]
    obtain ⟨x, hx⟩ := ih (c :: cur) acc
      (by simp only [List.reverse_cons, ← List.append_assoc]; rw [lnb_snoc_nonblank _ c hbf])
      (by simp)
      (by
        intro hh; simp at hh; subst hh
        intro hr
        cases r with
        | nil => simp at hr
        | cons d r' => simp at hr; subst hr; exact hnot r' rfl rfl) h
    exact ⟨c :: x, by simpa using hx⟩

theorem first_head_go (C : NewickCodec) (L : NewickStreamLaws C) (doc : Txt) (safe : Bool) :
    ∀ (pre preF cur acc : Txt),
      (∀ s, C.parse (pre ++ s) = C.parse (preF ++ s)) →
      preF = acc ++ cur.reverse →
      (∀ c ∈ preF, c ≠ ';' ∧ c ≠ '[') →
      (safe = true → breakSafe preF = true) →
      '\r' ∉ cur →
      firstHypGo doc safe = true →
      readFirstNewick C (pre ++ doc) = headOut (multiGo C (splitLinesGo doc cur) acc 0) := by
  fun_induction firstHypGo doc safe with
  | case1 safe => intro _ _ _ _ _ _ _ _ _ h; simp at h
  | case2 r safe ih =>
    intro pre preF cur acc hR hF hno hsafe hcr h
    simp only [Bool.and_eq_true] at h
    have hbs := hsafe h.1
    have hstep : splitLinesGo ('\r' :: '\n' :: r) cur = cur.reverse :: splitLinesGo r [] := by
      simp [splitLinesGo, dropCR]
    rw [hstep]
    have hns : (lastNonBlank (acc ++ cur.reverse) == ';') = false := by
      apply lastNonBlank_ne_semi
      intro hm; exact (hno ';' (hF ▸ hm)).1 rfl
    simp only [multiGo, hns]
    have := ih (pre ++ ['\r', '\n']) preF [] (acc ++ cur.reverse)
      (by
        intro s
        have h1 := hR ('\r' :: '\n' :: s)
        have h2 := L.parse_ws_skip preF ['\r', '\n'] s hno hbs (by decide)
        simp only [List.append_assoc, List.cons_append, List.nil_append] at h1 h2 ⊢
        rw [h1, h2])
      (by simp [hF]) hno (fun _ => hbs) (by simp) h.2
    simpa using this
  | case3 c r safe hnot hsemi =>
    intro pre preF cur acc hR hF hno hsafe hcr h
    have hc : c = ';' := by simpa using hsemi
    subst hc
    have hcn : ((';' : Char) == '\n') = false := by decide
    have hstep : splitLinesGo (';' :: r) cur = splitLinesGo r (';' :: cur) := by
      simp [splitLinesGo, hcn]
    rw [hstep]
    obtain ⟨x, hx⟩ := chunk_ends C r true true (';' :: cur) acc
      (by
        simp only [List.reverse_cons, ← List.append_assoc, ← hF]
        rw [lnb_snoc_nonblank _ ';' (by decide)]; rfl)
      (by simp) (by simp) h
    rw [hx]
    have e1 : C.parse (pre ++ ';' :: r) = C.parse (preF ++ [';']) := by
      rw [hR (';' :: r), L.parse_prefix preF r hno]
    have e2 : C.parse (acc ++ (';' :: cur).reverse ++ x) = C.parse (preF ++ [';']) := by
      have : acc ++ (';' :: cur).reverse ++ x = preF ++ ';' :: x := by simp [hF]
      rw [this, L.parse_prefix preF x hno]
    simp only [readFirstNewick, e1, e2]
    cases C.parse (preF ++ [';']) <;> rfl
  | case4 c r safe hnot hsemi hbr => intro _ _ _ _ _ _ _ _ _ h; simp at h
  | case5 c r safe hnot hsemi hbr hnl ih =>
    intro pre preF cur acc hR hF hno hsafe hcr h
    have hc : c = '\n' := by simpa using hnl
    subst hc
    simp only [Bool.and_eq_true] at h
    have hbs := hsafe h.1
    have hd : dropCR cur = cur := by
      apply dropCR_of_head
      intro hh
      cases cur with
      | nil => simp at hh
      | cons x _ => simp at hh; exact hcr (by simp [hh])
    have hstep : splitLinesGo ('\n' :: r) cur = cur.reverse :: splitLinesGo r [] := by
      simp [splitLinesGo, hd]
    rw [hstep]
    have hns : (lastNonBlank (acc ++ cur.reverse) == ';') = false := by
      apply lastNonBlank_ne_semi
      intro hm; exact (hno ';' (hF ▸ hm)).1 rfl
    simp only [multiGo, hns]
    have := ih (pre ++ ['\n']) preF [] (acc ++ cur.reverse)
      (by
        intro s
        have h1 := hR ('\n' :: s)
        have h2 := L.parse_ws_skip preF ['\n'] s hno hbs (by decide)
        simp only [List.append_assoc, List.cons_append, List.nil_append] at h1 h2 ⊢
        rw [h1, h2])
      (by simp [hF]) hno (fun _ => hbs) (by simp) h.2
    simpa using this
  | case6 c r safe hnot hsemi hbr hnl hcrr => intro _ _ _ _ _ _ _ _ _ h; simp at h
  | case7 c r safe hnot hsemi hbr hnl hcrr hws ih =>
    intro pre preF cur acc hR hF hno hsafe hcr h
    have hcn : (c == '\n') = false := by simpa using hnl
    have hstep : splitLinesGo (c :: r) cur = splitLinesGo r (c :: cur) := by
      simp [splitLinesGo, hcn]
    rw [hstep]
    have := ih (pre ++ [c]) (preF ++ [c]) (c :: cur) acc
      (by intro s; simpa using hR (c :: s))
      (by simp [hF])
      (by
        intro x hx
        rcases List.mem_append.1 hx with h1 | h1
        · exact hno x h1
        · simp at h1; subst h1; exact ⟨by simpa using hsemi, by simpa using hbr⟩)
      (by intro hs; rw [breakSafe_snoc]; simp [hws, hsafe hs])
      (by
        intro hm
        rcases List.mem_cons.1 hm with h1 | h1
        · exact hcrr (by simp [← h1])
        · exact hcr h1)
      h
    simpa using this
  | case8 c r safe hnot hsemi hbr hnl hcrr hws ih =>
    intro pre preF cur acc hR hF hno hsafe hcr h
    have hcn : (c == '\n') = false := by simpa using hnl
    have hstep : splitLinesGo (c :: r) cur = splitLinesGo r (c :: cur) := by
      simp [splitLinesGo, hcn]
    rw [hstep]
    have := ih (pre ++ [c]) (preF ++ [c]) (c :: cur) acc
      (by intro s; simpa using hR (c :: s))
      (by simp [hF])
      (by
        intro x hx
        rcases List.mem_append.1 hx with h1 | h1
        · exact hno x h1
        · simp at h1; subst h1; exact ⟨by simpa using hsemi, by simpa using hbr⟩)
      (by intro hs; rw [breakSafe_snoc]; simp [hws, hs])
      (by
        intro hm
        rcases List.mem_cons.1 hm with h1 | h1
        · exact hcrr (by simp [← h1])
        · exact hcr h1)
      h
    simpa using this

end Gotree.C13

/-
  C14 — the documented Spec of the cut (`cutSpecOK`, no arithmetic on the sentinel of an absent length) is
  implied by the characterisation `cutOK` that the models are proved to meet.
-/
import Gotree.Lemmas.C14

namespace Gotree.C14
open Gotree

theorem shortDoc_sound {thr : Rat} {e : EdgeD} {v : Bool} (h : shortDoc thr e = some v) : decide (e.len < thr) = v := by
  unfold shortDoc at h
  by_cases hn : e.len = NIL
  · simp only [hn, beq_self_eq_true, if_true] at h
    by_cases hp : 0 < thr
    · simp only [hp, if_true, Option.some.injEq] at h
      rw [← h, hn]
      have : NIL < thr := by unfold NIL; grind
      simpa using this
    · simp [hp] at h
  · have : (e.len == NIL) = false := by simpa using hn
    simp only [this, Bool.false_eq_true, if_false, Option.some.injEq] at h
    exact h

/-- whenever the documentation decides whether two tips belong together, the characterisation
    by raw lengths (what the code computes) decides the same -/
theorem pathShortDoc_sound {thr : Rat} {t : T} {a b : String} {v : Bool} (h : pathShortDoc thr t a b = some v) :
    pathShort thr t a b = v := by
  unfold pathShortDoc at h
  simp only at h
  unfold pathShort
  split at h
  · rename_i hany
    simp only [Option.some.injEq] at h
    rw [← h]
    simp only [List.any_eq_true, List.mem_filter, beq_iff_eq] at hany
    obtain ⟨s, ⟨hs, hsep⟩, hd⟩ := hany
    have := shortDoc_sound hd
    rw [List.all_eq_false]
    exact ⟨s, hs, by simp [hsep, this]⟩
  · split at h
    · rename_i hall
      simp only [Option.some.injEq] at h
      rw [← h, List.all_eq_true]
      intro s hs
      by_cases hsep : s.sep a b = true
      · simp only [List.all_eq_true, List.mem_filter, beq_iff_eq] at hall
        have := shortDoc_sound (hall s ⟨hs, hsep⟩)
        simp [hsep, this]
      · simp [hsep]
    · cases h

theorem cutSpecOK_of_cutOK (thr : Rat) (t : T) (bags : List (List String)) (h : cutOK thr t bags = true) :
    cutSpecOK thr t bags = true := by
  simp only [cutOK, Bool.and_eq_true, List.all_eq_true, beq_iff_eq] at h
  simp only [cutSpecOK, Bool.and_eq_true, List.all_eq_true, beq_iff_eq]
  refine ⟨h.1, fun a ha b hb => ?_⟩
  cases hd : pathShortDoc thr t a b with
  | none => rfl
  | some v => simp only [beq_iff_eq]; rw [h.2 a ha b hb, pathShortDoc_sound hd]

end Gotree.C14

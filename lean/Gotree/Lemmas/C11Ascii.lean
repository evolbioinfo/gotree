/-
  C11 — reading the characters of an ASCII string off its bytes.  The table decisions of Proofs/C11.lean test
  prefixes of extracted names (`u.toList.take n == p.toList`); the kernel evaluates `String.toList` on a literal
  through the UTF-8 decoder, which is defined by well-founded recursion and costs it tens of thousands of steps
  per character.  On ASCII text the bytes are the characters.  Core Lean only.
-/
namespace Gotree.C11

/-- the UTF-8 encoding of an ASCII character is its code -/
theorem utf8EncodeChar_ascii (b : UInt8) (h : b < 128) : String.utf8EncodeChar (Char.ofNat b.toNat) = [b] := by
  have hb : b.toNat < 128 := by simpa using UInt8.lt_iff_toNat_lt.mp h
  have hv : (Char.ofNat b.toNat).val.toNat = b.toNat := by
    have : b.toNat.isValidChar := Or.inl (by omega)
    simp [Char.ofNat, this, Char.ofNatAux]
  simp only [String.utf8EncodeChar, hv]
  rw [if_pos (by omega), UInt8.ofNat_toNat]

/-- the characters of `s`, read off its bytes when these are all ASCII (`asciiChars_eq`: they are `s.toList`) -/
def asciiChars (s : String) : List Char :=
  if s.toByteArray.data.toList.all (· < 128) then s.toByteArray.data.toList.map fun b => Char.ofNat b.toNat else s.toList

theorem asciiChars_eq (s : String) : asciiChars s = s.toList := by
  unfold asciiChars
  split
  · next h =>
    have enc : ∀ bs : List UInt8, bs.all (· < 128) = true →
        (bs.map fun b => Char.ofNat b.toNat).flatMap String.utf8EncodeChar = bs := by
      intro bs
      induction bs with
      | nil => intro _; rfl
      | cons b r ih =>
        intro hb
        simp only [List.all_cons, Bool.and_eq_true, decide_eq_true_eq] at hb
        simp only [List.map_cons, List.flatMap_cons, utf8EncodeChar_ascii b hb.1, ih hb.2, List.singleton_append]
    -- the string whose characters are these has the bytes of `s`: it is `s`
    have : String.ofList (s.toByteArray.data.toList.map fun b => Char.ofNat b.toNat) = s :=
      String.toByteArray_inj.mp <| ByteArray.ext <| by
        rw [String.toByteArray_ofList, List.utf8Encode, enc _ h, List.data_toByteArray]
    conv => rhs; rw [← this, String.toList_ofList]
  · rfl


end Gotree.C11

/-
  C01 — concrete witnesses (existence statements by kernel evaluation, not property theorems):
  every clause of the quantifier is needed, regression of fix 331c4ae, the example trees.
  `ratCodec` is the lawful all-rationals codec (`1r2` = 1/2); the same witnesses for the codec the driver
  runs (`goCodec`) are `quantifier_clauses_needed` in Proofs/C01.lean and `control_go` below.
-/
import Gotree.Lemmas.C01Codec
import Gotree.Lemmas.C01GoRead

namespace Gotree.C01
open Gotree Gotree.Newick

/-! ### every clause of the quantifier is needed: concrete witnesses (lawful codec `ratCodec`) on which
    the model's own round trip fails once ONE clause of WF01 is dropped -/

def leafE (len : Rat) (name : String) : EdgeD × T := (⟨len, NIL, NIL, [], 0⟩, T.leaf name)
def innerAB (e : EdgeD) (d : NodeD) : EdgeD × T := (e, .node d 0 [leafE NIL "a", leafE NIL "b"])
def root3 (k : EdgeD × T) : T := .node ⟨"", []⟩ 0 [k, leafE NIL "c"]

/-- a tip name with a trailing blank is trimmed by the parser -/
theorem needs_trimmed_tip : roundTripModel ratCodec.toCodec (root3 (leafE NIL "x ")) = false := by decide +kernel
/-- a tip name with a leading blank loses it in the lexer -/
theorem needs_no_leading_blank : roundTripModel ratCodec.toCodec (root3 (leafE NIL " x")) = false := by decide +kernel
/-- a numeric-looking inner name comes back as a support -/
theorem needs_nonnumeric_inner_name :
    roundTripModel ratCodec.toCodec (root3 (innerAB ⟨NIL, NIL, NIL, [], 0⟩ ⟨"12r1", []⟩)) = false := by decide +kernel
/-- a float/float inner name comes back as support and p-value -/
theorem needs_not_float_slash_float :
    roundTripModel ratCodec.toCodec (root3 (innerAB ⟨NIL, NIL, NIL, [], 0⟩ ⟨"1r2/1r4", []⟩)) = false := by decide +kernel
/-- a second branch comment comes back as a node comment -/
theorem needs_one_branch_comment :
    roundTripModel ratCodec.toCodec (root3 (innerAB ⟨1, NIL, NIL, ["x", "y"], 0⟩ ⟨"", []⟩)) = false := by decide +kernel
/-- a branch comment on a branch without length comes back as a node comment -/
theorem needs_length_for_branch_comment :
    roundTripModel ratCodec.toCodec (root3 (innerAB ⟨NIL, NIL, NIL, ["x"], 0⟩ ⟨"", []⟩)) = false := by decide +kernel
/-- a support next to a name is not written -/
theorem needs_name_xor_support :
    roundTripModel ratCodec.toCodec (root3 (innerAB ⟨NIL, 1/2, NIL, [], 0⟩ ⟨"N", []⟩)) = false := by decide +kernel
/-- a p-value without support is not written -/
theorem needs_support_for_pvalue :
    roundTripModel ratCodec.toCodec (root3 (innerAB ⟨NIL, NIL, 1/2, [], 0⟩ ⟨"", []⟩)) = false := by decide +kernel
/-- a support on a tip branch is not written -/
theorem needs_no_support_on_tip :
    roundTripModel ratCodec.toCodec (root3 (⟨NIL, 1/2, NIL, [], 0⟩, T.leaf "x")) = false := by decide +kernel
/-- a `]` inside a comment ends it -/
theorem needs_comment_without_bracket :
    roundTripModel ratCodec.toCodec (root3 (innerAB ⟨NIL, NIL, NIL, [], 0⟩ ⟨"", ["a]b"]⟩)) = false := by decide +kernel
/-- a metacharacter inside a name splits it -/
theorem needs_no_metachar : roundTripModel ratCodec.toCodec (root3 (leafE NIL "x:y")) = false := by decide +kernel
/-- quoting does not protect a metacharacter: the parser knows no quotes (`'x,y'` is two tips) -/
theorem needs_no_metachar_even_quoted : roundTripModel ratCodec.toCodec (root3 (leafE NIL "'x,y'")) = false := by decide +kernel
/-- … while quotes, blanks inside and NHX-style comments as such are harmless -/
theorem quotes_blanks_nhx_roundtrip :
    roundTripModel ratCodec.toCodec (root3 (innerAB ⟨1, NIL, NIL, ["&&NHX:S=x:E=1.1.1"], 0⟩ ⟨"'Homo sapiens'", ["&&NHX:B=100", "&!color=#ff0000"]⟩)) = true ∧
    roundTripModel ratCodec.toCodec (root3 (leafE 2 "it''s \"x\" y")) = true := by decide +kernel
/-- a numeric-looking root name is ignored by the parser ("support attached to the root") -/
theorem needs_nonnumeric_root_name :
    roundTripModel ratCodec.toCodec (.node ⟨"1r2", []⟩ 0 [leafE NIL "a", leafE NIL "b"]) = false := by decide +kernel
/-- and the same shapes inside WF01 do round-trip (the witnesses are not broken for another reason) -/
theorem witnesses_control :
    roundTripModel ratCodec.toCodec (root3 (leafE NIL "x")) = true ∧
    roundTripModel ratCodec.toCodec (root3 (innerAB ⟨1, 1/2, 1/4, ["x"], 0⟩ ⟨"", ["a[b"]⟩)) = true ∧
    roundTripModel ratCodec.toCodec (root3 (innerAB ⟨NIL, NIL, NIL, [], 0⟩ ⟨"1r2/x", []⟩)) = true := by decide +kernel

/-! ### fix 331c4ae (writer, root with a single neighbour): regression theorems -/

def root1 : T := .node ⟨"R", ["rc"]⟩ 0 [innerAB ⟨1, 1/2, NIL, [], 0⟩ ⟨"", []⟩]


/-- with the writer as it is now a root with one child round-trips (instance of `parse_write_gen`) … -/
theorem root1_roundtrip : roundTripModel ratCodec.toCodec root1 = true := by decide +kernel

/-- … while the text of the writer pinned before the fix, "(a,b)1r2:1r1R[rc];", is not read back as the tree. -/
theorem writePinned_root1_fails :
    (match Newick.parse ratCodec.toCodec (Newick.writePinned ratCodec.toCodec root1) with
     | .ok t' => sameTree root1 t'
     | _ => false) = false := by decide +kernel

/-- unrooted, a multifurcation, support/p-value next to two node comments and a branch comment, an inner
    name with a slash, a numeric-looking tip, a blank inside a tip name, absent / zero / negative / fractional
    lengths, root name and root comment, non-zero parent position and arbitrary branch ids -/
def exTree : T :=
  .node ⟨"root", ["rc"]⟩ 0
    [ (⟨3, 9/10, 1/20, ["bc"], 7⟩, .node ⟨"", ["c1", "c;2"]⟩ 0
        [ (⟨1/2, NIL, NIL, [], 0⟩, T.leaf "a"), (⟨NIL, NIL, NIL, [], 0⟩, T.leaf "b c"), (⟨0, NIL, NIL, [], 0⟩, T.leaf "100") ]),
      (⟨NIL, NIL, NIL, [], 3⟩, .node ⟨"N1/x", []⟩ 2 [ (⟨2, NIL, NIL, ["k"], 0⟩, T.leaf "c"), (⟨NIL, NIL, NIL, [], 0⟩, T.leaf "d") ]),
      (⟨-5/4, NIL, NIL, [], 0⟩, T.leaf "e") ]


/-! ### the controls for the executable codec `goCodec` (the one the driver runs against strconv) -/

theorem control_go :
    roundTripModel goCodec (root3 (leafE NIL "x")) = true ∧
    roundTripModel goCodec (root3 (innerAB ⟨1, 1/2, 1/4, ["x"], 0⟩ ⟨"", ["a[b", "95%"]⟩)) = true ∧
    roundTripModel goCodec (root3 (innerAB ⟨NIL, NIL, NIL, [], 0⟩ ⟨"0.5/x", []⟩)) = true ∧
    roundTripModel goCodec root1 = true := by decide +kernel

/-- a tree of float64 values that are not dyadic-short: 0.1, 0.30000000000000004, 1e-320 (sub-normal),
    1.7976931348623157e308 (largest), 1e21, with a multifurcation, comments, support and p-value -/
def exTreeGo : T :=
  .node ⟨"root", ["rc"]⟩ 0
    [ (⟨3602879701896397 / 36028797018963968, 1351079888211149 / 4503599627370496, 2024 / 2 ^ 1074, ["bc"], 7⟩,
        .node ⟨"", ["c1", "95%"]⟩ 0
        [ (⟨(2 ^ 53 - 1) * 2 ^ 971, NIL, NIL, [], 0⟩, T.leaf "a"), (⟨NIL, NIL, NIL, [], 0⟩, T.leaf "b c"),
          (⟨1000000000000000000000, NIL, NIL, [], 0⟩, T.leaf "100") ]),
      (⟨NIL, NIL, NIL, [], 3⟩, .node ⟨"N1/x", []⟩ 2 [ (⟨2, NIL, NIL, ["k"], 0⟩, T.leaf "c"), (⟨NIL, NIL, NIL, [], 0⟩, T.leaf "d") ]),
      (⟨-5/4, NIL, NIL, [], 0⟩, T.leaf "e") ]

/-! ### the example trees are inside the quantifier (evaluated once, used by the examples of Proofs/C01.lean) -/

theorem exTree_wf : WF01 ratCodec.isFloat ratCodec.dom exTree = true := by decide +kernel
theorem exTreeGo_wf : WF01 goCodec.isFloat goDomS exTreeGo = true := by decide +kernel
theorem exTreeGo_wf64 : WF01 goCodec.isFloat isF64 exTreeGo = true := by decide +kernel

end Gotree.C01

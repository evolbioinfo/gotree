/-
  C17 — two rewritings of one tree at one path (the two rearrangements of one branch, `cross = false / true`):
  `RL` (same number of children, same leaves) between the results, and the lifting `modAt_lift2`.
-/
import Gotree.Lemmas.C17Split

namespace Gotree.C17
open Gotree Gotree.C17.Spec

/-- same number of children, same leaves below, same data when there is at most one child -/
structure RL (S S' : T) : Prop where
  nkids : S'.kids.length = S.kids.length
  data : S.kids.length ≤ 1 → S'.d = S.d
  leaves : (leavesL S'.kids).Perm (leavesL S.kids)

theorem RL.of_RK {S S1 S2 : T} (h1 : RK S S1) (h2 : RK S S2) : RL S1 S2 where
  nkids := by rw [h2.nkids, h1.nkids]
  data := fun h => by
    have hS : S.kids.length ≤ 1 := by rw [← h1.nkids]; exact h
    rw [h2.data hS, h1.data hS]
  leaves := h2.leaves.trans h1.leaves.symm

theorem RL.leaves_perm {S S' : T} (h : RL S S') : S'.leaves.Perm S.leaves := by
  obtain ⟨hn, hd, hl⟩ := h
  obtain ⟨d, p, k⟩ := S
  obtain ⟨d', p', k'⟩ := S'
  cases k <;> cases k' <;> simp_all [T.leaves, T.d]

theorem RL.isLeaf_eq {S S' : T} (h : RL S S') : S'.isLeaf = S.isLeaf := by
  have hn := h.nkids
  obtain ⟨d, p, k⟩ := S
  obtain ⟨d', p', k'⟩ := S'
  simp only [T.kids_node] at hn
  cases k <;> cases k' <;> simp_all [T.isLeaf]

theorem leavesL_set2 (c1 c2 : T) (e : EdgeD) (hl : c2.leaves.Perm c1.leaves) (k : Kids) (i : Nat) :
    (leavesL (k.set i (e, c2))).Perm (leavesL (k.set i (e, c1))) := by
  by_cases hi : i < k.length
  · simpa [List.set_set] using leavesL_set c1 c2 e hl (k.set i (e, c1)) i (by simp [hi])
  · rw [List.set_eq_of_length_le (by omega), List.set_eq_of_length_le (by omega)]

theorem RS_set2 (c1 c2 : T) (e : EdgeD) (hr : RS c1 c2) (hl : c2.leaves.Perm c1.leaves) (hleaf : c2.isLeaf = c1.isLeaf)
    (k : Kids) (i : Nat) (hi : i < k.length) :
    OneBranchApart (splitsL (k.set i (e, c1))) (splitsL (k.set i (e, c2))) := by
  simpa [List.set_set] using RS_set c1 c2 e hr hl hleaf (k.set i (e, c1)) i (by simp [hi])

/-- Two rewritings `f1 f2` of the same tree at the same path: a relation between their results at
    the site that goes up one step holds between the two trees. -/
theorem modAt_lift2 (P : T → T → Prop) (f1 f2 : T → Option T)
    (up : ∀ (d : NodeD) (p : Nat) (k : Kids) (i : Nat) (e : EdgeD) (c1 c2 : T), i < k.length → P c1 c2 →
      P (.node d p (k.set i (e, c1))) (.node d p (k.set i (e, c2)))) :
    ∀ (q : List Nat) (t t1 t2 S : T), subAt q t = some S → modAt q f1 t = some t1 → modAt q f2 t = some t2 →
      (∀ S1 S2, f1 S = some S1 → f2 S = some S2 → P S1 S2) → P t1 t2 := by
  intro q
  induction q with
  | nil =>
    intro t t1 t2 S hs h1 h2 hr
    obtain rfl : t = S := by simpa [subAt] using hs
    exact hr t1 t2 (by simpa [modAt] using h1) (by simpa [modAt] using h2)
  | cons i q ih =>
    intro t t1 t2 S hs h1 h2 hr
    obtain ⟨d, pp, k⟩ := t
    obtain ⟨e, c, (hki : k[i]? = some (e, c)), hs⟩ := subAt_cons.mp hs
    simp only [modAt, hki] at h1 h2
    cases hm1 : modAt q f1 c with
    | none => simp [hm1] at h1
    | some c1 =>
      cases hm2 : modAt q f2 c with
      | none => simp [hm2] at h2
      | some c2 =>
        obtain rfl : T.node d pp (k.set i (e, c1)) = t1 := by simpa [hm1] using h1
        obtain rfl : T.node d pp (k.set i (e, c2)) = t2 := by simpa [hm2] using h2
        exact up d pp k i e c1 c2 (List.getElem?_eq_some_iff.mp hki).1 (ih c c1 c2 S hs hm1 hm2 hr)

theorem RLS_lift2 (f1 f2 : T → Option T) : ∀ (q : List Nat) (t t1 t2 S : T), subAt q t = some S →
    modAt q f1 t = some t1 → modAt q f2 t = some t2 →
    (∀ S1 S2, f1 S = some S1 → f2 S = some S2 → RL S1 S2 ∧ RS S1 S2) → RL t1 t2 ∧ RS t1 t2 :=
  modAt_lift2 (fun t1 t2 => RL t1 t2 ∧ RS t1 t2) f1 f2 fun _ _ k i e c1 c2 hi h =>
    ⟨⟨by simp, fun _ => rfl, leavesL_set2 c1 c2 e h.1.leaves_perm k i⟩,
      RS_set2 c1 c2 e h.2 h.1.leaves_perm h.1.isLeaf_eq k i hi⟩

end Gotree.C17

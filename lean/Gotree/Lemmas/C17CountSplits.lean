/-
  C17 — the number of non-trivial splits of a binary tree is at most the number of its
  branches whose lower end is not a tip (a tip branch defines a trivial split).
-/
import Gotree.Lemmas.C17Canon
import Gotree.Lemmas.C17OneSplit

namespace Gotree.C17
open Gotree

/-- the tips below a tip branch: one name -/
theorem tip_entry_singleton : ∀ (k : Kids), ∀ s ∈ splitsL k, s.tip = true → ∃ x, s.below = [x] := by
  have main : ∀ (t : T), ∀ s ∈ splitsL t.kids, s.tip = true → ∃ x, s.below = [x] := by
    intro t
    induction t using T.induct with
    | h d p k ih =>
      simp only [T.kids_node]
      have : ∀ (r : Kids), (∀ et ∈ r, et ∈ k) → ∀ s ∈ splitsL r, s.tip = true → ∃ x, s.below = [x] := by
        intro r
        induction r with
        | nil => intro _ s hs; simp [splitsL] at hs
        | cons et r ihr =>
          obtain ⟨e, c⟩ := et
          intro hsub s hs htip
          rw [splitsL_cons] at hs
          simp only [List.mem_cons, List.mem_append] at hs
          rcases hs with rfl | hs | hs
          · simp only at htip
            obtain ⟨dc, pc, kc⟩ := c
            cases kc with
            | nil => exact ⟨dc.name, by simp [T.leaves]⟩
            | cons _ _ => simp [T.isLeaf] at htip
          · exact ih (e, c) (hsub _ (by simp)) s (by simpa [T.splitsBelow_eq] using hs) htip
          · exact ihr (fun et het => hsub et (by simp [het])) s hs htip
      exact this k (fun _ h => h)
  intro k
  exact main (.node default 0 k)

theorem length_le_one_of {α : Type} {l : List α} {a : α} (hn : l.Nodup) (h : ∀ b ∈ l, b = a) : l.length ≤ 1 := by
  match l, hn, h with
  | [], _, _ => simp
  | [_], _, _ => simp
  | x :: y :: r, hn, h =>
    have hx := h x (by simp)
    have hy := h y (by simp)
    simp only [List.nodup_cons, List.mem_cons, not_or] at hn
    exact absurd (hx.trans hy.symm) hn.1.1

/-- a side with one taxon is trivial -/
theorem lightSize_singleton {all : List String} (ha : all.Nodup) (x : String) :
    lightSize all (canonSide all [x]) ≤ 1 := by
  cases hm : minS all with
  | none =>
    have : all = [] := minS_eq_none.1 hm
    subst this
    unfold lightSize
    have : (canonSide [] [x]).filter ([] : List String).contains = [] := by
      apply List.filter_eq_nil_iff.2
      intro a _
      simp
    rw [this]
    simp
  | some m =>
    have hmem := mem_canonSide (X := [x]) hm
    have hY := canonSide_nodup (X := [x]) ha (by simp)
    have hsub : ∀ z ∈ canonSide all [x], z ∈ all := fun z hz => ((hmem z).mp hz).1
    have hfil : (canonSide all [x]).filter all.contains = canonSide all [x] :=
      List.filter_eq_self.2 (fun z hz => by simpa using hsub z hz)
    have hlen := length_split ha hY hsub
    unfold lightSize
    rw [hfil]
    show min (canonSide all [x]).length (all.length - (canonSide all [x]).length) ≤ 1
    by_cases hmx : m = x
    · -- the side is everything but `x`: its complement has at most one member
      have : (all.filter fun z => !(canonSide all [x]).contains z).length ≤ 1 := by
        apply length_le_one_of (ha.sublist List.filter_sublist) (a := x)
        intro b hb
        simp only [List.mem_filter, Bool.not_eq_true', List.contains_eq_mem, decide_eq_false_iff_not, hmem] at hb
        obtain ⟨hb1, hb2⟩ := hb
        apply Classical.byContradiction
        intro hne
        apply hb2
        refine ⟨hb1, ?_⟩
        simp [hne, hmx]
      omega
    · have : (canonSide all [x]).length ≤ 1 := by
        apply length_le_one_of hY (a := x)
        intro b hb
        have := ((hmem b).mp hb).2
        simp only [List.mem_singleton] at this
        exact this.mpr hmx
      omega

/-- at most as many non-trivial splits as branches whose lower end is not a tip -/
theorem usplitSet_length_le (t : T) (hu : t.tipNames.Nodup) : t.usplitSet.length ≤ t.internalEdges.length := by
  have h1 : t.internalEdges.length = ((t.splits.filter (fun s => !s.tip)).map fun s => canonSide t.tipNames s.below).length := by
    simp [T.internalEdges]
  rw [h1]
  apply List.Nodup.length_le_of_subset (usplitSet_nodup t)
  intro a ha
  obtain ⟨⟨s, hs, heq⟩, hl⟩ := (mem_usplitSet t a).mp ha
  simp only [List.mem_map, List.mem_filter, Bool.not_eq_eq_eq_not, Bool.not_true]
  refine ⟨s, ⟨hs, ?_⟩, heq⟩
  cases htip : s.tip with
  | false => rfl
  | true =>
    exfalso
    obtain ⟨x, hx⟩ := tip_entry_singleton t.kids s (by simpa [T.splits] using hs) htip
    rw [hx] at heq
    have := lightSize_singleton hu x
    rw [heq] at this
    omega

theorem filter_and_lt {α : Type} (p q : α → Bool) : ∀ (l : List α) (x : α), x ∈ l → p x = true → q x = false →
    (l.filter (fun a => p a && q a)).length + 1 ≤ (l.filter p).length := by
  intro l
  induction l with
  | nil => intro x hx; simp at hx
  | cons y l ih =>
    intro x hx hp hq
    have hle : (l.filter (fun a => p a && q a)).length ≤ (l.filter p).length := by
      have : l.filter (fun a => p a && q a) = (l.filter p).filter q := by rw [List.filter_filter]; congr 1; funext a; exact Bool.and_comm _ _
      rw [this]
      exact List.filter_sublist.length_le
    rcases List.mem_cons.mp hx with rfl | hx
    · simp only [List.filter_cons, hp, hq, Bool.and_false, Bool.false_eq_true, if_false, if_true, List.length_cons]
      omega
    · have := ih x hx hp hq
      simp only [List.filter_cons]
      cases hpy : p y <;> cases hqy : q y <;> simp <;> omega

/-- sharper: only the non-trivial ones among the branches whose lower end is not a tip count -/
theorem usplitSet_length_le' (t : T) (hu : t.tipNames.Nodup) :
    t.usplitSet.length ≤ (t.splits.filter fun s => !s.tip &&
      decide (2 ≤ lightSize t.tipNames (canonSide t.tipNames s.below))).length := by
  rw [← List.length_map (f := fun s : SplitE => canonSide t.tipNames s.below)]
  apply List.Nodup.length_le_of_subset (usplitSet_nodup t)
  intro a ha
  obtain ⟨⟨s, hs, heq⟩, hl⟩ := (mem_usplitSet t a).mp ha
  simp only [List.mem_map, List.mem_filter, Bool.and_eq_true, Bool.not_eq_eq_eq_not, Bool.not_true, decide_eq_true_eq]
  refine ⟨s, ⟨hs, ?_, by rw [heq]; exact hl⟩, heq⟩
  cases htip : s.tip with
  | false => rfl
  | true =>
    exfalso
    obtain ⟨x, hx⟩ := tip_entry_singleton t.kids s (by simpa [T.splits] using hs) htip
    rw [hx] at heq
    have := lightSize_singleton hu x
    rw [heq] at this
    omega

/-- rooted tree with exactly one tip at the root: the branch to the other child of the root is
    not a tip branch, but its split is trivial -/
theorem usplitSet_length_lt_rooted_tip (t : T) (hu : t.tipNames.Nodup) (hr : t.rooted = true)
    (h1 : (t.kids.filter (fun et => !et.2.isLeaf)).length = 1) :
    t.usplitSet.length + 1 ≤ t.internalEdges.length := by
  have hle := usplitSet_length_le' t hu
  have hint : t.internalEdges.length = (t.splits.filter fun s => !s.tip).length := by simp [T.internalEdges]
  rw [hint]
  suffices ∃ s ∈ t.splits, (!s.tip) = true ∧
      decide (2 ≤ lightSize t.tipNames (canonSide t.tipNames s.below)) = false by
    obtain ⟨s, hs, hp, hq⟩ := this
    have := filter_and_lt (fun s : SplitE => !s.tip)
      (fun s : SplitE => decide (2 ≤ lightSize t.tipNames (canonSide t.tipNames s.below))) t.splits s hs hp hq
    omega
  obtain ⟨d, p, k⟩ := t
  simp only [T.rooted, T.kids_node, beq_iff_eq] at hr h1
  clear hle hint
  match k, hr, hu, h1 with
  | [(e1, a), (e2, b)], _, hu, h1 =>
    have hall : (T.node d p [(e1, a), (e2, b)]).tipNames = a.leaves ++ b.leaves := by
      simp [T.tipNames, leavesL]
    rw [hall] at hu ⊢
    simp only [List.filter_cons, List.filter_nil] at h1
    cases ha : a.isLeaf <;> cases hb : b.isLeaf <;> simp [ha, hb] at h1
    · -- `b` is the tip: the branch to `a`
      obtain ⟨db, pb, kb⟩ := b
      have hkb : kb = [] := by simpa [T.isLeaf] using hb
      subst hkb
      refine ⟨⟨a.leaves, e1, a.isLeaf⟩, by simp [T.splits, splitsL], by simp [ha], ?_⟩
      have hc : canonSide (a.leaves ++ (T.node db pb []).leaves) a.leaves =
          canonSide (a.leaves ++ (T.node db pb []).leaves) (T.node db pb []).leaves :=
        canonSide_compl hu (List.Perm.refl _)
      simp only [decide_eq_false_iff_not, Nat.not_le]
      rw [hc]
      have := lightSize_singleton hu db.name
      simp only [T.leaves] at this ⊢
      omega
    · -- `a` is the tip: the branch to `b`
      obtain ⟨da, pa, ka⟩ := a
      have hka : ka = [] := by simpa [T.isLeaf] using ha
      subst hka
      refine ⟨⟨b.leaves, e2, b.isLeaf⟩, by simp [T.splits, splitsL], by simp [hb], ?_⟩
      have hc : canonSide ((T.node da pa []).leaves ++ b.leaves) (T.node da pa []).leaves =
          canonSide ((T.node da pa []).leaves ++ b.leaves) b.leaves :=
        canonSide_compl hu (List.Perm.refl _)
      simp only [decide_eq_false_iff_not, Nat.not_le]
      rw [← hc]
      have := lightSize_singleton hu da.name
      simp only [T.leaves] at this ⊢
      omega

/-- the root is a tip and its only child an inner node: the branch between them is not a tip
    branch in the split list, but its split is trivial (the root alone on one side) -/
theorem usplitSet_length_lt_tip_rooted (t : T) (hu : t.tipNames.Nodup) (h1 : t.kids.length = 1)
    (hin : t.kids.all (fun et => !et.2.isLeaf) = true) :
    t.usplitSet.length + 1 ≤ t.internalEdges.length := by
  have hle := usplitSet_length_le' t hu
  have hint : t.internalEdges.length = (t.splits.filter fun s => !s.tip).length := by simp [T.internalEdges]
  rw [hint]
  suffices ∃ s ∈ t.splits, (!s.tip) = true ∧
      decide (2 ≤ lightSize t.tipNames (canonSide t.tipNames s.below)) = false by
    obtain ⟨s, hs, hp, hq⟩ := this
    have := filter_and_lt (fun s : SplitE => !s.tip)
      (fun s : SplitE => decide (2 ≤ lightSize t.tipNames (canonSide t.tipNames s.below))) t.splits s hs hp hq
    omega
  obtain ⟨d, p, k⟩ := t
  simp only [T.kids_node] at h1 hin
  clear hle hint
  match k, h1, hu, hin with
  | [(e, c)], _, hu, hin =>
    have hc : c.isLeaf = false := by simpa using hin
    have hall : (T.node d p [(e, c)]).tipNames = [d.name] ++ c.leaves := by
      simp [T.tipNames, leavesL, T.name]
    rw [hall] at hu ⊢
    refine ⟨⟨c.leaves, e, c.isLeaf⟩, by simp [T.splits, splitsL], by simp [hc], ?_⟩
    have hcs : canonSide ([d.name] ++ c.leaves) [d.name] = canonSide ([d.name] ++ c.leaves) c.leaves :=
      canonSide_compl hu (List.Perm.refl _)
    simp only [decide_eq_false_iff_not, Nat.not_le]
    rw [← hcs]
    have := lightSize_singleton hu d.name
    omega

/-- rooted tree whose root has two inner children: the two branches at the root define the
    same split -/
theorem usplitSet_length_lt_rooted_inner (t : T) (hu : t.tipNames.Nodup) (hr : t.rooted = true)
    (h2 : (t.kids.filter (fun et => !et.2.isLeaf)).length = 2) :
    t.usplitSet.length + 1 ≤ t.internalEdges.length := by
  obtain ⟨d, p, k⟩ := t
  simp only [T.rooted, T.kids_node, beq_iff_eq] at hr h2
  match k, hr, hu, h2 with
  | [(e1, a), (e2, b)], _, hu, h2 =>
    have hall : (T.node d p [(e1, a), (e2, b)]).tipNames = a.leaves ++ b.leaves := by
      simp [T.tipNames, leavesL]
    simp only [List.filter_cons, List.filter_nil] at h2
    have ha : a.isLeaf = false := by
      cases ha : a.isLeaf <;> cases hb : b.isLeaf <;> simp [ha, hb] at h2 ⊢
    have hb : b.isLeaf = false := by
      cases ha : a.isLeaf <;> cases hb : b.isLeaf <;> simp [ha, hb] at h2 ⊢
    have hc : canonSide (a.leaves ++ b.leaves) a.leaves = canonSide (a.leaves ++ b.leaves) b.leaves :=
      canonSide_compl (hall ▸ hu) (List.Perm.refl _)
    -- the inner entries, and the same list without the branch to `b`
    have hsplits : (T.node d p [(e1, a), (e2, b)]).splits =
        ⟨a.leaves, e1, a.isLeaf⟩ :: (a.splitsBelow ++ (⟨b.leaves, e2, b.isLeaf⟩ :: b.splitsBelow)) := by
      simp [T.splits, splitsL]
    have hint : (T.node d p [(e1, a), (e2, b)]).internalEdges.length =
        ((⟨a.leaves, e1, a.isLeaf⟩ :: (a.splitsBelow.filter (fun s => !s.tip) ++ b.splitsBelow.filter (fun s => !s.tip)) : List SplitE).map
          fun s => canonSide (a.leaves ++ b.leaves) s.below).length + 1 := by
      simp [T.internalEdges, hsplits, List.filter_append, ha, hb]
      omega
    rw [hint]
    apply Nat.succ_le_succ
    apply List.Nodup.length_le_of_subset (usplitSet_nodup _)
    intro x hx
    obtain ⟨⟨s, hs, heq⟩, hl⟩ := (mem_usplitSet _ x).mp hx
    rw [hall] at heq hl
    have htip : s.tip = false := by
      cases htip : s.tip with
      | false => rfl
      | true =>
        exfalso
        obtain ⟨y, hy⟩ := tip_entry_singleton _ s (by simpa [T.splits] using hs) htip
        rw [hy] at heq
        have := lightSize_singleton (hall ▸ hu) y
        rw [heq] at this
        omega
    rw [hsplits] at hs
    simp only [List.mem_cons, List.mem_append] at hs
    simp only [List.map_cons, List.map_append, List.mem_cons, List.mem_append, List.mem_map, List.mem_filter,
      Bool.not_eq_eq_eq_not, Bool.not_true]
    rcases hs with rfl | hs | rfl | hs
    · exact Or.inl heq.symm
    · exact Or.inr (Or.inl ⟨s, ⟨hs, htip⟩, heq⟩)
    · exact Or.inl (by rw [← heq]; exact hc.symm ▸ rfl)
    · exact Or.inr (Or.inr ⟨s, ⟨hs, htip⟩, heq⟩)

end Gotree.C17

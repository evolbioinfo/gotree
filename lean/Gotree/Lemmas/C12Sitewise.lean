/-
  C12 — one unambiguous alignment column.  The ACR tip slices of the column (`colMap`: its own sorted alphabet,
  without duplicates) and the ASR tip slices of the site are a pair of codings in the sense of
  Lemmas/C12Recode.lean: the ACR alphabet injects into A C G T - * (`col_coding`, `col_rel`), and corresponding
  slices are printed as the same set of state names (`names_rel`).
-/
import Gotree.Lemmas.C12Recode
import Gotree.Lemmas.C12Entry

namespace Gotree.C12
open Gotree

/- ## the alphabet is strictly sorted, hence without duplicates -/

def StrictSorted : List String → Prop
  | [] => True
  | x :: r => (∀ y ∈ r, x < y) ∧ StrictSorted r

theorem insertSorted_sorted (s : String) : ∀ l : List String, StrictSorted l → StrictSorted (insertSorted s l)
  | [], _ => by simp [insertSorted, StrictSorted]
  | x :: r, h => by
    unfold insertSorted
    split
    · rename_i hlt
      refine ⟨?_, h⟩
      intro y hy
      cases hy with
      | head => exact hlt
      | tail _ hy' => exact String.lt_trans hlt (h.1 y hy')
    · split
      · exact h
      · rename_i h1 h2
        refine ⟨?_, insertSorted_sorted s r h.2⟩
        intro y hy
        rcases (mem_insertSorted s y r).mp hy with e | hy'
        · subst e; exact Std.lt_of_le_of_ne (String.not_lt.mp h1) (Ne.symm h2)
        · exact h.1 y hy'

theorem foldl_insert_sorted : ∀ (vals acc : List String), StrictSorted acc →
    StrictSorted (vals.foldl (fun acc s => insertSorted s acc) acc)
  | [], acc, h => by simpa using h
  | v :: r, acc, h => by
    simp only [List.foldl_cons]
    exact foldl_insert_sorted r _ (insertSorted_sorted v acc h)

theorem alphabet_sorted (vals : List String) : StrictSorted (alphabet vals) :=
  foldl_insert_sorted vals [] trivial

/- ## positions in a duplicate-free list -/

theorem indexOf_cons (x s : String) (r : List String) :
    indexOf (x :: r) s = if x = s then 0 else indexOf r s + 1 := by
  unfold indexOf
  rw [List.findIdx_cons]
  by_cases h : x = s
  · simp [h]
  · have hb : (x == s) = false := by simp [h]
    simp [hb, h]

theorem getD_indexOf : ∀ (l : List String) (s : String), s ∈ l → l.getD (indexOf l s) "" = s
  | [], _, h => by simp at h
  | x :: r, s, h => by
    rw [indexOf_cons]
    by_cases hx : x = s
    · simp [hx]
    · have : s ∈ r := by
        cases h with
        | head => exact absurd rfl hx
        | tail _ h' => exact h'
      simp only [hx, if_false, List.getD_cons_succ]
      exact getD_indexOf r s this

theorem indexOf_getD_sorted : ∀ (l : List String), StrictSorted l → ∀ a, a < l.length →
    indexOf l (l.getD a "") = a
  | [], _, a, h => by simp at h
  | x :: r, hs, 0, _ => by simp [indexOf_cons]
  | x :: r, hs, a + 1, h => by
    simp only [List.getD_cons_succ]
    rw [indexOf_cons]
    have hlt : a < r.length := by simpa using h
    have hmem : r.getD a "" ∈ r := by
      rw [List.getD_eq_getElem?_getD, List.getElem?_eq_getElem hlt]
      simp
    have hne : ¬ x = r.getD a "" := by
      intro e
      have := hs.1 _ hmem
      rw [← e] at this
      exact String.lt_irrefl x this
    simp only [hne, if_false]
    rw [indexOf_getD_sorted r hs.2 a hlt]

/- ## one alignment column -/

def plainChars : List Char := ['A', 'C', 'G', 'T', '-']

/-- the tip/state map ACR is given for column `j` -/
def colMap (m : List (String × String)) (j : Nat) : List (String × String) :=
  m.map fun kv => (kv.1, String.singleton (kv.2.toList.getD j ' '))

/-- every sequence has an unambiguous character at column `j` -/
def plainCol (m : List (String × String)) (j : Nat) : Bool :=
  m.all fun kv => plainChars.contains (kv.2.toList.getD j ' ')

theorem lookup_cons (kv : String × String) (r : List (String × String)) (n : String) :
    lookup (kv :: r) n = if kv.1 == n then some kv.2 else lookup r n := by
  unfold lookup
  rw [List.find?_cons]
  cases h : kv.1 == n <;> simp

theorem lookup_colMap (j : Nat) (n sq : String) : ∀ (m : List (String × String)), lookup m n = some sq →
    lookup (colMap m j) n = some (String.singleton (sq.toList.getD j ' '))
  | [], h => by simp [lookup] at h
  | kv :: r, h => by
    rw [lookup_cons] at h
    have hc : colMap (kv :: r) j = (kv.1, String.singleton (kv.2.toList.getD j ' ')) :: colMap r j := by
      simp [colMap]
    rw [hc, lookup_cons]
    cases hk : kv.1 == n with
    | true =>
      simp only [hk, if_true, Option.some.injEq] at h
      subst h; simp
    | false =>
      simp only [hk] at h
      simpa using lookup_colMap j n sq r (by simpa using h)

/-- the values of the column map are one-character strings over `A C G T -` -/
theorem colMap_vals (m : List (String × String)) (j : Nat) (hp : plainCol m j = true) (st : String)
    (h : st ∈ (colMap m j).map (·.2)) : ∃ c, c ∈ plainChars ∧ st = String.singleton c := by
  simp only [colMap, List.map_map, List.mem_map, Function.comp] at h
  obtain ⟨kv, hkv, e⟩ := h
  simp only [plainCol, List.all_eq_true] at hp
  exact ⟨_, by simpa using hp kv hkv, e.symm⟩

/-- position of a plain character in A C G T - * (whatever the value of `asrNonIupacFixedInRepo`) -/
theorem plain_facts (c : Char) (h : c ∈ plainChars) :
    indexOf asrAlphabet (String.singleton c) < 6 ∧
    asrAlphabet.getD (indexOf asrAlphabet (String.singleton c)) "" = String.singleton c ∧
    asrCodes c = [indexOf asrAlphabet (String.singleton c)] := by
  simp only [plainChars, List.mem_cons, List.mem_nil_iff, or_false] at h
  rcases h with h | h | h | h | h <;> subst h <;> decide

/- ## the two codings of a column -/

/-- ACR state index → ASR state index -/
def colEnc (alpha : List String) (a : Nat) : Nat := indexOf asrAlphabet (alpha.getD a "")

/-- ASR state index → ACR state index (0 for the characters that do not occur) -/
def colDec (alpha : List String) (b : Nat) : Nat :=
  if indexOf alpha (asrAlphabet.getD b "") < alpha.length then indexOf alpha (asrAlphabet.getD b "") else 0

theorem col_entry (m : List (String × String)) (j : Nat) (hp : plainCol m j = true) (a : Nat)
    (ha : a < (alphabet ((colMap m j).map (·.2))).length) :
    ∃ c, c ∈ plainChars ∧ (alphabet ((colMap m j).map (·.2))).getD a "" = String.singleton c := by
  rw [List.getD_eq_getElem?_getD, List.getElem?_eq_getElem ha, Option.getD_some]
  have hmem := List.getElem_mem ha
  rw [mem_alphabet] at hmem
  exact colMap_vals m j hp _ hmem

theorem col_coding (m : List (String × String)) (j : Nat) (hp : plainCol m j = true)
    (hk : 0 < (alphabet ((colMap m j).map (·.2))).length) :
    Coding (alphabet ((colMap m j).map (·.2))).length 6
      (colEnc (alphabet ((colMap m j).map (·.2)))) (colDec (alphabet ((colMap m j).map (·.2)))) := by
  refine ⟨?_, ?_, ?_⟩
  · intro a ha
    obtain ⟨c, hc, he⟩ := col_entry m j hp a ha
    simp only [colEnc, he]
    exact (plain_facts c hc).1
  · intro b _
    unfold colDec
    split
    · assumption
    · exact hk
  · intro a ha
    obtain ⟨c, hc, he⟩ := col_entry m j hp a ha
    have hidx := indexOf_getD_sorted _ (alphabet_sorted ((colMap m j).map (·.2))) a ha
    simp only [colEnc, colDec, he, (plain_facts c hc).2.1]
    rw [he] at hidx
    simp [hidx, ha]

theorem col_rel (m : List (String × String)) (j : Nat) (hp : plainCol m j = true) (n sq : String)
    (hl : lookup m n = some sq) :
    Rel 6 (colEnc (alphabet ((colMap m j).map (·.2)))) (colDec (alphabet ((colMap m j).map (·.2))))
      (acrTipVec (colMap m j) (alphabet ((colMap m j).map (·.2))) n) (asrTipVec m j n) := by
  have hc : sq.toList.getD j ' ' ∈ plainChars := by
    simpa using all_of_lookup hl (fun s => plainChars.contains (s.toList.getD j ' ')) hp
  have hlc := lookup_colMap j n sq m hl
  have hmem : String.singleton (sq.toList.getD j ' ') ∈ alphabet ((colMap m j).map (·.2)) :=
    (mem_alphabet _ _).mpr (lookup_mem _ n _ hlc)
  have hia := indexOf_lt _ _ hmem
  have C := col_coding m j hp (by omega)
  obtain ⟨_, _, hiu⟩ := plain_facts _ hc
  refine rel_single C _ hia _ _ (fun i hi => ?_) (fun b hb => ?_)
  · simp only [acrTipVec, hlc, at_tab, hi, if_true]
  · simp only [asrTipVec, hl, hiu, at_tab, hb, if_true, colEnc, getD_indexOf _ _ hmem]
    by_cases e : b = indexOf asrAlphabet (String.singleton (sq.toList.getD j ' ')) <;> simp [e]

/-- the ACR run on column `j` and the ASR run at site `j` start from corresponding tip slices -/
theorem col_leaves_rel (t : T) (m : List (String × String)) (j : Nat) (hr : rootOk t = true)
    (hall : (t.tipNames.all fun n => (lookup m n).isSome) = true) (hp : plainCol m j = true) :
    (t.tipNames.all fun n => (lookup (colMap m j) n).isSome) = true ∧
    ∀ n ∈ leavesL t.kids, Rel 6 (colEnc (alphabet ((colMap m j).map (·.2)))) (colDec (alphabet ((colMap m j).map (·.2))))
      (acrTipVec (colMap m j) (alphabet ((colMap m j).map (·.2))) n) (asrTipVec m j n) := by
  have hl := lookup_of_all hr hall
  constructor
  · rw [(lookedUp_eq hr).2, List.all_eq_true]
    intro n hn
    obtain ⟨sq, hs⟩ := hl n hn
    simp [lookup_colMap j n sq m hs]
  · intro n hn
    obtain ⟨sq, hs⟩ := hl n hn
    exact col_rel m j hp n sq hs

/- ## the names written -/

theorem mem_rawNames (alpha : List String) (v : Vec) (x : String) :
    x ∈ (List.range alpha.length).filterMap (fun i => if v.at i > 0 then alpha[i]? else none) ↔
    ∃ i, i < alpha.length ∧ v.at i ≠ 0 ∧ alpha[i]? = some x := by
  simp only [List.mem_filterMap, List.mem_range]
  constructor
  · rintro ⟨i, hi, h⟩
    by_cases hv : v.at i > 0
    · simp only [hv, if_true] at h
      exact ⟨i, hi, by omega, h⟩
    · simp [hv] at h
  · rintro ⟨i, hi, hv, h⟩
    refine ⟨i, hi, ?_⟩
    have : v.at i > 0 := by omega
    simp [this, h]

/-- same members -/
def SameSet (a b : List String) : Prop := ∀ x, x ∈ a ↔ x ∈ b

theorem stateNames_same (alpha1 alpha2 : List String) (v1 v2 : Vec)
    (h : ∀ x, x ∈ (List.range alpha1.length).filterMap (fun i => if v1.at i > 0 then alpha1[i]? else none) ↔
              x ∈ (List.range alpha2.length).filterMap (fun i => if v2.at i > 0 then alpha2[i]? else none)) :
    SameSet (stateNames alpha1 v1) (stateNames alpha2 v2) := by
  unfold stateNames
  simp only []
  generalize (List.range alpha1.length).filterMap (fun i => if v1.at i > 0 then alpha1[i]? else none) = l1 at h
  generalize (List.range alpha2.length).filterMap (fun i => if v2.at i > 0 then alpha2[i]? else none) = l2 at h
  cases l1 with
  | nil =>
    cases l2 with
    | nil => intro x; simp
    | cons y r => have := (h y).mpr (by simp); simp at this
  | cons y r =>
    cases l2 with
    | nil => have := (h y).mp (by simp); simp at this
    | cons z r2 => intro x; simpa using h x

theorem getElem?_of_getD {l : List String} {i : Nat} {x : String} (hi : i < l.length) (h : l.getD i "" = x) :
    l[i]? = some x := by
  rw [List.getD_eq_getElem?_getD, List.getElem?_eq_getElem hi] at h
  rw [List.getElem?_eq_getElem hi]
  simpa using h

theorem getD_of_getElem? {l : List String} {i : Nat} {x : String} (h : l[i]? = some x) : l.getD i "" = x := by
  rw [List.getD_eq_getElem?_getD, h]; rfl

/-- names of corresponding slices (ACR alphabet of the column vs A C G T - *) -/
theorem names_rel (m : List (String × String)) (j : Nat) (hp : plainCol m j = true) (v1 v2 : Vec)
    (hk : 0 < (alphabet ((colMap m j).map (·.2))).length)
    (hrel : Rel 6 (colEnc (alphabet ((colMap m j).map (·.2)))) (colDec (alphabet ((colMap m j).map (·.2)))) v1 v2) :
    SameSet (stateNames (alphabet ((colMap m j).map (·.2))) v1) (stateNames asrAlphabet v2) := by
  have C := col_coding m j hp hk
  apply stateNames_same
  intro x
  rw [mem_rawNames, mem_rawNames]
  constructor
  · rintro ⟨i, hi, hv, hx⟩
    obtain ⟨c, hc, he⟩ := col_entry m j hp i hi
    have hxe : x = String.singleton c := by
      have := getD_of_getElem? hx; rw [he] at this; exact this.symm
    refine ⟨colEnc _ i, C.henc i hi, ?_, ?_⟩
    · rw [hrel.at_enc C i hi]; exact hv
    · apply getElem?_of_getD (C.henc i hi)
      simp only [colEnc, he, (plain_facts c hc).2.1, hxe]
  · rintro ⟨b, hb, hv, hx⟩
    have hb6 : b < 6 := hb
    have hr := hrel b hb6
    by_cases hin : colEnc (alphabet ((colMap m j).map (·.2))) (colDec (alphabet ((colMap m j).map (·.2))) b) = b
    · simp only [hin, if_true] at hr
      have hd := C.hdec b hb6
      obtain ⟨c, hc, he⟩ := col_entry m j hp _ hd
      refine ⟨_, hd, by rw [← hr]; exact hv, ?_⟩
      apply getElem?_of_getD hd
      rw [he]
      have hxb := getD_of_getElem? hx
      rw [← hxb, ← hin]
      simp only [colEnc, he, (plain_facts c hc).2.1]
    · simp only [hin, if_false] at hr
      exact absurd hr hv

/-- lists of name sets that agree entry by entry -/
inductive SameSets : List (List String) → List (List String) → Prop
  | nil : SameSets [] []
  | cons {a b : List String} {l1 l2 : List (List String)} : SameSet a b → SameSets l1 l2 → SameSets (a :: l1) (b :: l2)

theorem sameSets_of_rel (m : List (String × String)) (j : Nat) (hp : plainCol m j = true)
    (hk : 0 < (alphabet ((colMap m j).map (·.2))).length) : ∀ (l1 l2 : List Vec),
    RelList (Rel 6 (colEnc (alphabet ((colMap m j).map (·.2)))) (colDec (alphabet ((colMap m j).map (·.2))))) l1 l2 →
    SameSets (l1.map (stateNames (alphabet ((colMap m j).map (·.2))))) (l2.map (stateNames asrAlphabet))
  | _, _, .nil => by simpa using SameSets.nil
  | _, _, .cons h t => by
    simp only [List.map_cons]
    exact SameSets.cons (names_rel m j hp _ _ hk h) (sameSets_of_rel m j hp hk _ _ t)

end Gotree.C12

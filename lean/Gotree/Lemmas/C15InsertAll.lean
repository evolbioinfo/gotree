/-
  C15 — `InsertIdenticalTips` as a whole: the invariant carried over the insertions, whether the call
  succeeds or stops half-way (the insertions made so far stay), and the groups it refuses.
  Core Lean only.
-/
import Gotree.Lemmas.C15Insert

namespace Gotree.C15
open Gotree Gotree.C14

theorem insertOne_ok {t t' : T} {tips : List String} {old new : String} (h : insertOne t tips old new = .ok t') :
    new ∉ tips ∧ ∃ k', insKids (t.kids.length == 1) old new t.kids = some k' ∧ t' = .node t.d t.ppos k' := by
  unfold insertOne at h
  split at h
  · cases h
  · rename_i hc
    split at h
    · rename_i k hk
      injection h with h
      exact ⟨by simpa using hc, k, hk, h.symm⟩
    · cases h

/-- what one insertion does, under the invariant -/
structure Step (t t' : T) (old new : String) : Prop where
  out : ∀ a b, a ≠ new → b ≠ new → t'.dist a b = t.dist a b
  twin : ∀ x, x ≠ new → t'.dist new x = t.dist old x
  perm : t'.tipNames.Perm (new :: t.tipNames)
  old_mem : old ∈ t.tipNames

theorem insertOne_step {t t' : T} {tips : List String} {old new : String} (h : insertOne t tips old new = .ok t')
    (hu : t.tipNames.Nodup) (hsub : ∀ x ∈ t.tipNames, x ∈ tips) : Step t t' old new := by
  obtain ⟨hnew, k', hk, rfl⟩ := insertOne_ok h
  have hnl : new ∉ leavesL t.kids := fun hx => hnew (hsub _ (t.leavesL_sublist_tipNames.subset hx))
  have hold : old ∈ leavesL t.kids := insKids_old_mem _ _ hk
  have hperm := insKids_perm _ _ hk
  have hsp := (insKids_splits _ _ hk).2
  refine ⟨fun a b ha hb => hsp.dist_out ha hb,
    fun x hx => hsp.dist_new (T.nodup_leavesL_of_tipNames hu) (out_of_subL _ _ hnl) hx, ?_, t.leavesL_sublist_tipNames.subset hold⟩
  simp only [T.tipNames, T.kids_node, T.name, T.d_node, insKids_rootTip hk]
  exact (hperm.append_left _).trans List.perm_middle

/-! ### the scan of one group -/

/-- the scan of a group returns its one existing member and, behind `news`, its other members -/
theorem scanGroup_spec (tips : List String) : ∀ (r : List String) (old : String) (news : List String) (o : String) (ns : List String),
    "" ∉ r → scanGroup tips r old news = .ok (o, ns) →
    (old ≠ "" → o = old) ∧ (old = "" → o ∈ r ∧ o ∈ tips) ∧
    (∀ x ∈ ns, x ∈ news ∨ x ∈ r) ∧ (∀ x ∈ news, x ∈ ns) ∧ ∀ x ∈ r, x = o ∨ x ∈ ns
  | [], old, news, o, ns, _, h => by
    simp only [scanGroup] at h
    split at h
    · cases h
    · rename_i hne
      simp only [Except.ok.injEq, Prod.mk.injEq] at h
      obtain ⟨rfl, rfl⟩ := h
      simp at hne
      simp [hne]
  | name :: r, old, news, o, ns, hr, h => by
    simp only [List.mem_cons, not_or] at hr
    simp only [scanGroup] at h
    split at h
    · rename_i hc
      simp only [Bool.and_eq_true, beq_iff_eq, List.contains_eq_mem, decide_eq_true_eq] at hc
      have := scanGroup_spec tips r name news o ns hr.2 h
      grind
    · split at h
      · cases h
      · have := scanGroup_spec tips r old (news ++ [name]) o ns hr.2 h
        grind

/-! ### the invariant -/

/-- `t` is `t0` after some insertions: `tips` is its tip index, the old tips are where they were, every
    other tip comes from `A`, and each group of `Z` sits at distance 0 -/
structure Inv (t0 t : T) (tips : List String) (A : List String) (Z : List (List String)) : Prop where
  nodup : t.tipNames.Nodup
  tips_iff : ∀ x, x ∈ tips ↔ x ∈ t.tipNames
  keep : ∀ a ∈ t0.tipNames, ∀ b ∈ t0.tipNames, t.dist a b = t0.dist a b
  sub : ∀ a ∈ t0.tipNames, a ∈ t.tipNames
  only : ∀ x ∈ t.tipNames, x ∈ t0.tipNames ∨ x ∈ A
  zero : ∀ g ∈ Z, ∀ x ∈ g, ∀ y ∈ g, t.dist x y = 0 ∧ x ∈ t.tipNames

theorem Inv.start {t : T} (hu : t.tipNames.Nodup) (A : List String) : Inv t t t.tipNames A [] :=
  ⟨hu, fun _ => Iff.rfl, fun _ _ _ _ => rfl, fun _ ha => ha, fun _ hx => Or.inl hx, fun _ hg => nomatch hg⟩

/-- the groups may be listed in any order and cut down to some of their members -/
theorem Inv.regroup {t0 t : T} {tips A : List String} {Z Z' : List (List String)} (hI : Inv t0 t tips A Z)
    (h : ∀ g ∈ Z', ∃ g' ∈ Z, ∀ x ∈ g, x ∈ g') : Inv t0 t tips A Z' :=
  ⟨hI.nodup, hI.tips_iff, hI.keep, hI.sub, hI.only, fun g hg x hx y hy => by
    obtain ⟨g', hg', hsub⟩ := h g hg
    exact hI.zero g' hg' x (hsub x hx) y (hsub y hy)⟩

/-- a tip is a group by itself -/
theorem Inv.push {t0 t : T} {tips A : List String} {Z : List (List String)} (hI : Inv t0 t tips A Z) {old : String}
    (h : old ∈ t.tipNames) : Inv t0 t tips A ([old] :: Z) :=
  ⟨hI.nodup, hI.tips_iff, hI.keep, hI.sub, hI.only, fun g hg x hx y hy => by
    rcases List.mem_cons.mp hg with rfl | hg
    · obtain rfl := List.mem_singleton.mp hx
      obtain rfl := List.mem_singleton.mp hy
      exact ⟨distW_self _ _ _, h⟩
    · exact hI.zero g hg x hx y hy⟩

/-- one insertion next to a member `old` of the group `S` keeps the invariant; the new tip joins the group -/
theorem Inv.step {t0 t t1 : T} {tips A S : List String} {Z : List (List String)} {old n : String}
    (hI : Inv t0 t tips A (S :: Z)) (hold : old ∈ S) (st : Step t t1 old n) (hn : n ∉ t.tipNames) (hA : n ∈ A) :
    Inv t0 t1 (tips ++ [n]) A ((S ++ [n]) :: Z) := by
  have mem1 : ∀ x, x ∈ t1.tipNames ↔ x = n ∨ x ∈ t.tipNames := fun x => by rw [st.perm.mem_iff]; simp
  have ne_of : ∀ x ∈ t.tipNames, x ≠ n := fun x hx h0 => hn (h0 ▸ hx)
  have old_zero : ∀ g ∈ S :: Z, ∀ x ∈ g, ∀ y ∈ g, t1.dist x y = 0 ∧ x ∈ t1.tipNames := fun g hg x hx y hy => by
    obtain ⟨h0, hx'⟩ := hI.zero g hg x hx y hy
    have hy' := (hI.zero g hg y hy x hx).2
    exact ⟨by rw [st.out x y (ne_of x hx') (ne_of y hy')]; exact h0, (mem1 x).mpr (Or.inr hx')⟩
  refine ⟨?_, fun x => ?_, fun a ha b hb => ?_, fun a ha => ?_, fun x hx => ?_, fun g hg x hx y hy => ?_⟩
  · exact st.perm.nodup_iff.mpr (List.nodup_cons.mpr ⟨hn, hI.nodup⟩)
  · rw [mem1, List.mem_append, hI.tips_iff]; simp [or_comm]
  · rw [st.out a b (ne_of a (hI.sub a ha)) (ne_of b (hI.sub b hb))]; exact hI.keep a ha b hb
  · exact (mem1 a).mpr (Or.inr (hI.sub a ha))
  · rcases (mem1 x).mp hx with rfl | hx
    · exact Or.inr hA
    · exact hI.only x hx
  · rcases List.mem_cons.mp hg with rfl | hg
    · -- the new tip is where `old` is, and `old` is at distance 0 from the group
      have hm : ∀ x ∈ S, x ∈ t.tipNames := fun x hx => (hI.zero S (by simp) x hx x hx).2
      have hz : ∀ x ∈ S, t.dist old x = 0 := fun x hx => (hI.zero S (by simp) old hold x hx).1
      simp only [List.mem_append, List.mem_singleton] at hx hy
      rcases hx with hx | rfl <;> rcases hy with hy | rfl
      · exact old_zero S (by simp) x hx y hy
      · exact ⟨by rw [T.dist, distW_comm, ← T.dist, st.twin x (ne_of x (hm x hx))]; exact hz x hx, (mem1 x).mpr (Or.inr (hm x hx))⟩
      · exact ⟨by rw [st.twin y (ne_of y (hm y hy))]; exact hz y hy, (mem1 _).mpr (Or.inl rfl)⟩
      · exact ⟨distW_self _ _ _, (mem1 _).mpr (Or.inl rfl)⟩
    · exact old_zero g (List.mem_cons_of_mem _ hg) x hx y hy

/-- the new tips of one group (`S` = its members that are in the tree already), one after the other: the invariant
    is kept whatever the outcome `r`, and when all insertions succeed the whole group has joined -/
theorem insertNews_inv {t0 : T} {A : List String} {Z : List (List String)} {old : String} :
    ∀ (news : List String) (t : T) (tips : List String) (S : List String) (t' : T) (tips' : List String) (r : Option String),
    Inv t0 t tips A (S :: Z) → old ∈ S → (∀ x ∈ news, x ∈ A) → insertNews old news t tips = (t', tips', r) →
    ∃ S', Inv t0 t' tips' A (S' :: Z) ∧ (r = none → S' = S ++ news)
  | [], t, tips, S, t', tips', r, hI, _, _, h => by
    simp only [insertNews, Prod.mk.injEq] at h
    obtain ⟨rfl, rfl, _⟩ := h
    exact ⟨S, hI, fun _ => by simp⟩
  | n :: ns, t, tips, S, t', tips', r, hI, hold, hA, h => by
    simp only [insertNews] at h
    split at h
    · rename_i t1 h1
      have hsub : ∀ x ∈ t.tipNames, x ∈ tips := fun x hx => (hI.tips_iff x).mpr hx
      obtain ⟨S', hI', hS⟩ := insertNews_inv ns t1 (tips ++ [n]) (S ++ [n]) t' tips' r
        (hI.step hold (insertOne_step h1 hI.nodup hsub) (fun hx => (insertOne_ok h1).1 (hsub _ hx)) (hA n (by simp)))
        (by simp [hold]) (fun x hx => hA x (List.mem_cons_of_mem _ hx)) h
      exact ⟨S', hI', fun hr => by simp [hS hr]⟩
    · simp only [Prod.mk.injEq] at h
      obtain ⟨rfl, rfl, rfl⟩ := h
      exact ⟨S, hI, fun h => nomatch h⟩

/-- all groups: the invariant is kept whatever the outcome; on success every group sits at distance 0 -/
theorem insertGroups_spec {t0 : T} {A : List String} :
    ∀ (gs : List (List String)) (Z : List (List String)) (t : T) (tips : List String) (t' : T) (r : Option String),
    Inv t0 t tips A Z → (∀ g ∈ gs, "" ∉ g) → (∀ g ∈ gs, ∀ x ∈ g, x ∈ A) →
    insertGroups gs t tips = (t', r) → ∃ tips' Z', Inv t0 t' tips' A Z' ∧ (r = none → Z' = Z ++ gs)
  | [], Z, t, tips, t', r, hI, _, _, h => by
    simp only [insertGroups, Prod.mk.injEq] at h
    obtain ⟨rfl, _⟩ := h
    exact ⟨tips, Z, hI, fun _ => by simp⟩
  | g :: gs, Z, t, tips, t', r, hI, hne, hA, h => by
    have stop : ∀ {tips' Z'}, Inv t0 t' tips' A Z' → r ≠ none → ∃ tips' Z', Inv t0 t' tips' A Z' ∧ (r = none → Z' = Z ++ g :: gs) :=
      fun hI' hr => ⟨_, _, hI', fun h0 => absurd h0 hr⟩
    simp only [insertGroups] at h
    split at h
    · simp only [Prod.mk.injEq] at h
      obtain ⟨rfl, rfl⟩ := h
      exact stop hI nofun
    · split at h
      · simp only [Prod.mk.injEq] at h
        obtain ⟨rfl, rfl⟩ := h
        exact stop hI nofun
      · rename_i old news hscan
        obtain ⟨_, h2, hb, _, hc⟩ := scanGroup_spec tips g "" [] old news (hne g (by simp)) hscan
        have hnews := fun {t1 tips1 r1} => insertNews_inv (t0 := t0) (Z := Z) (old := old) news t tips [old] t1 tips1 r1
          (hI.push ((hI.tips_iff old).mp (h2 rfl).2)) (by simp)
          (fun x hx => hA g (by simp) x ((hb x hx).resolve_left (fun h => nomatch h)))
        split at h
        · rename_i t1 tips1 hn
          obtain ⟨S', hI1, hS⟩ := hnews hn
          obtain rfl := hS rfl
          simpa [List.append_assoc] using insertGroups_spec gs (Z ++ [g]) t1 tips1 t' r
            (hI1.regroup fun g' hg' => by
              rcases List.mem_append.mp hg' with hg' | hg'
              · exact ⟨g', List.mem_cons_of_mem _ hg', fun _ hx => hx⟩
              · obtain rfl := List.mem_singleton.mp hg'
                exact ⟨_, List.mem_cons_self, fun x hx => by rcases hc x hx with h | h <;> simp [h]⟩)
            (fun g' hg' => hne g' (List.mem_cons_of_mem _ hg')) (fun g' hg' => hA g' (List.mem_cons_of_mem _ hg')) h
        · rename_i t1 tips1 m hn
          simp only [Prod.mk.injEq] at h
          obtain ⟨rfl, rfl⟩ := h
          obtain ⟨_, hI1, _⟩ := hnews hn
          exact stop hI1 nofun

theorem insertGroups_inv {t0 : T} {A : List String} :
    ∀ (gs : List (List String)) (Z : List (List String)) (t : T) (tips : List String) (t' : T),
    Inv t0 t tips A Z → (∀ g ∈ gs, "" ∉ g) → (∀ g ∈ gs, ∀ x ∈ g, x ∈ A) →
    insertGroups gs t tips = (t', none) → ∃ tips', Inv t0 t' tips' A (Z ++ gs) := by
  intro gs Z t tips t' hI hne hA h
  obtain ⟨tips', Z', hI', hZ⟩ := insertGroups_spec gs Z t tips t' none hI hne hA h
  exact ⟨tips', hZ rfl ▸ hI'⟩

theorem insertIdentical_ok {idx : Bool} {t t' : T} {groups : List (List String)}
    (h : insertIdentical idx t groups = (t', none)) : insertGroups groups t (if idx then t.tipNames else []) = (t', none) := by
  unfold insertIdentical at h
  split at h
  · injection h with _ h2; cases h2
  · exact h

/-! ### groups that are refused -/

def isErr {α : Type} : Except String α → Bool
  | .error _ => true
  | .ok _ => false

/-- number of members of the group that are tips already -/
def existing (tips g : List String) : Nat := (g.filter (tips.contains ·)).length

theorem existing_cons_mem {tips : List String} {name : String} (r : List String) (h : name ∈ tips) :
    existing tips (name :: r) = existing tips r + 1 := by
  simp [existing, h]

theorem existing_cons_not_mem {tips : List String} {name : String} (r : List String) (h : name ∉ tips) :
    existing tips (name :: r) = existing tips r := by
  simp [existing, h]

/-- the scan fails unless exactly one name — `old`, when it is set already, counted — is a tip -/
theorem scanGroup_refuses (tips : List String) : ∀ (r : List String) (old : String) (news : List String),
    "" ∉ r → existing tips r + (if old = "" then 0 else 1) ≠ 1 → isErr (scanGroup tips r old news) = true
  | [], old, news, _, h => by
    have ho : old = "" := by
      simp only [existing, List.filter_nil, List.length_nil] at h
      split at h <;> simp_all
    simp [scanGroup, ho, isErr]
  | name :: r, old, news, hne, h => by
    simp only [List.mem_cons, not_or] at hne
    simp only [scanGroup]
    by_cases hm : name ∈ tips
    · rw [existing_cons_mem r hm] at h
      by_cases ho : old = ""
      · subst ho
        simp only [List.contains_eq_mem, hm, decide_true, Bool.true_and, beq_self_eq_true, if_true]
        exact scanGroup_refuses tips r name news hne.2 (by simpa [Ne.symm hne.1] using h)
      · simp [hm, ho, isErr]
    · rw [existing_cons_not_mem r hm] at h
      simp only [List.contains_eq_mem, hm, decide_false, Bool.false_and, if_false, Bool.false_eq_true]
      exact scanGroup_refuses tips r old (news ++ [name]) hne.2 h

/-- a first group with no member, or with more than one member, among the tips is refused
    (the tree is then left as it was) -/
theorem insertGroups_refuse (t : T) (tips : List String) (g : List String) (gs : List (List String))
    (hne : "" ∉ g) (h : existing tips g ≠ 1) : insertGroups (g :: gs) t tips = (t, (insertGroups (g :: gs) t tips).2) ∧
    (insertGroups (g :: gs) t tips).2 ≠ none := by
  have herr := scanGroup_refuses tips g "" [] hne (by simpa using h)
  simp only [insertGroups]
  split
  · exact ⟨rfl, by simp⟩
  · split
    · exact ⟨rfl, by simp⟩
    · rename_i heq
      rw [heq] at herr
      simp [isErr] at herr

end Gotree.C15

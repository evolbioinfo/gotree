/-
  C17 — the sites of `Rearrange` and the path to them: a fact true at all sites holds for every
  proposal (`rearrangements_generic`), a relation that parents inherit holds between the whole trees
  (`modAt_lift`); what `Apply` makes of the subtree at a site (`applyLocal_root`, `_inner`, `_inner_up`),
  and that `Undo` gives it back.
-/
import Gotree.Model.C17

namespace Gotree.C17
open Gotree

theorem rot1_eq (i : Nat) (h : i < 3) : rot1 i = (i + 1) % 3 := by
  have : i = 0 ∨ i = 1 ∨ i = 2 := by omega
  rcases this with rfl | rfl | rfl <;> rfl

theorem rot2_eq (i : Nat) (h : i < 3) : rot2 i = (i + 2) % 3 := by
  have : i = 0 ∨ i = 1 ∨ i = 2 := by omega
  rcases this with rfl | rfl | rfl <;> rfl

/-- the subtree at a child-index path -/
def subAt : List Nat → T → Option T
  | [], t => some t
  | i :: p, .node _ _ k =>
    match k[i]? with
    | none => none
    | some (_, c) => subAt p c

/-- one step of a path: into child `i` -/
theorem subAt_cons {i : Nat} {q : List Nat} {t S : T} :
    subAt (i :: q) t = some S ↔ ∃ e c, t.kids[i]? = some (e, c) ∧ subAt q c = some S := by
  obtain ⟨d, p, k⟩ := t
  simp only [subAt, T.kids_node]
  cases k[i]? with
  | none => simp
  | some ec =>
    obtain ⟨e, c⟩ := ec
    simp [and_assoc]

/-- the hypotheses under which `Rearrange` creates an NNI at the node `node d1 p1 k1`
    (reached by `path`) for its child number `j` -/
structure Site (path : List Nat) (isRoot : Bool) (p1 : Nat) (k1 : Kids) (j : Nat)
    (e : EdgeD) (d2 : NodeD) (p2 : Nat) (u v : EdgeD × T) : Prop where
  root : isRoot = path.isEmpty
  deg : if isRoot then k1.length = 3 else (k1.length = 2 ∧ p1 ≤ 2)
  kid : k1[j]? = some (e, T.node d2 p2 [u, v])
  pp2 : p2 ≤ 2

/-- Lifting: a fact `P S r` that holds at every site holds for every rearrangement of the
    enumeration, `S` being the subtree at `r.path`. -/
theorem enumL_generic (P : T → NNI → Prop)
    (hP : ∀ path isRoot d1 p1 k1 j e d2 p2 u v cross, Site path isRoot p1 k1 j e d2 p2 u v →
      P (.node d1 p1 k1) (newNNI path isRoot p1 j p2 cross))
    (d : NodeD) (p : Nat) (k : Kids) (isRoot : Bool) (pre : List Nat) (hroot : isRoot = pre.isEmpty)
    (hpp : isRoot = false → p ≤ k.length) (par3 : Bool)
    (hpar3 : par3 = (if isRoot then k.length == 3 else k.length == 2)) :
    ∀ (rest done : Kids), k = done ++ rest → pposOKL rest = true →
      (∀ et ∈ rest, ∀ pre', pre' ≠ [] → pposOKBelow et.2 = true → ∀ r ∈ enumT false pre' et.2,
          ∃ q S, r.path = pre' ++ q ∧ subAt q et.2 = some S ∧ P S r) →
      ∀ r ∈ enumL isRoot pre p par3 done.length rest,
        ∃ q S, r.path = pre ++ q ∧ subAt q (.node d p k) = some S ∧ P S r := by
  intro rest
  induction rest with
  | nil => intro done _ _ _ r hr; simp [enumL] at hr
  | cons ec rest ih =>
    obtain ⟨e, c⟩ := ec
    intro done hk hpos IH r hr
    have hkj : k[done.length]? = some (e, c) := by simp [hk]
    simp only [pposOKL, Bool.and_eq_true] at hpos
    rw [enumL] at hr
    simp only [List.mem_append] at hr
    rcases hr with (hr | hr) | hr
    · -- the branch to `c` itself
      split at hr
      · rename_i hcond
        simp only [Bool.and_eq_true] at hcond
        obtain ⟨hpar, hc2⟩ := hcond
        rw [hpar3] at hpar
        obtain ⟨d2, p2, k2⟩ := c
        simp only [T.kids_node, beq_iff_eq] at hc2
        match k2, hc2 with
        | [u, v], _ =>
          have hp2 : p2 ≤ 2 := by
            have := hpos.1
            simp [pposOKBelow] at this
            exact this.1
          have site : Site pre isRoot p k done.length e d2 p2 u v := by
            refine ⟨hroot, ?_, hkj, hp2⟩
            cases isRoot with
            | true => simpa using hpar
            | false =>
              have h2 : k.length = 2 := by simpa using hpar
              exact ⟨h2, h2 ▸ hpp rfl⟩
          simp only [T.ppos_node, List.mem_cons, List.not_mem_nil, or_false] at hr
          rcases hr with rfl | rfl
          · exact ⟨[], _, by simp [newNNI], rfl, hP _ _ d _ _ _ _ _ _ _ _ false site⟩
          · exact ⟨[], _, by simp [newNNI], rfl, hP _ _ d _ _ _ _ _ _ _ _ true site⟩
      · simp at hr
    · -- below `c`
      obtain ⟨q, S, hq, hs, hPS⟩ := IH (e, c) (by simp) (pre ++ [done.length]) (by simp) hpos.1 r hr
      refine ⟨done.length :: q, S, by simp [hq], ?_, hPS⟩
      simp [subAt, hkj, hs]
    · -- the later children
      have := ih (done ++ [(e, c)]) (by simp [hk]) hpos.2 (fun et het => IH et (by simp [het])) r
        (by simpa using hr)
      exact this

theorem enumT_generic (P : T → NNI → Prop)
    (hP : ∀ path isRoot d1 p1 k1 j e d2 p2 u v cross, Site path isRoot p1 k1 j e d2 p2 u v →
      P (.node d1 p1 k1) (newNNI path isRoot p1 j p2 cross)) :
    ∀ (t : T) (pre : List Nat), pre ≠ [] → pposOKBelow t = true → ∀ r ∈ enumT false pre t,
      ∃ q S, r.path = pre ++ q ∧ subAt q t = some S ∧ P S r := by
  intro t
  induction t using T.induct with
  | h d p k ih =>
    intro pre hpre hpos r hr
    simp only [pposOKBelow, Bool.and_eq_true, decide_eq_true_eq] at hpos
    have hroot : false = pre.isEmpty := by
      cases pre with
      | nil => exact absurd rfl hpre
      | cons _ _ => rfl
    exact enumL_generic P hP d p k false pre hroot (fun _ => hpos.1) _ rfl k [] rfl hpos.2
      (fun et het pre' hpre' hp' r' hr' => ih et het pre' hpre' hp' r' hr') r (by simpa [enumT] using hr)

/-- every rearrangement of the enumeration sits at a site, and a fact true at all sites is
    true of it -/
theorem rearrangements_generic (P : T → NNI → Prop)
    (hP : ∀ path isRoot d1 p1 k1 j e d2 p2 u v cross, Site path isRoot p1 k1 j e d2 p2 u v →
      P (.node d1 p1 k1) (newNNI path isRoot p1 j p2 cross))
    (t : T) (hpos : pposOK t = true) :
    ∀ r ∈ rearrangements t, ∃ S, subAt r.path t = some S ∧ P S r := by
  intro r hr
  obtain ⟨d, p, k⟩ := t
  have := enumL_generic P hP d p k true [] rfl (by simp) _ rfl k [] rfl (by simpa [pposOK] using hpos)
    (fun et _ pre' hpre' hp' r' hr' => enumT_generic P hP et.2 pre' hpre' hp' r' hr') r
    (by simpa [rearrangements, enumT] using hr)
  obtain ⟨q, S, hq, hs, hPS⟩ := this
  simp at hq
  subst hq
  exact ⟨S, hs, hPS⟩

/-- the same with the rootness of the site in place of `r.path.isEmpty` -/
theorem rearrangements_sites (P : Bool → T → NNI → Prop)
    (hP : ∀ path isRoot d1 p1 k1 j e d2 p2 u v cross, Site path isRoot p1 k1 j e d2 p2 u v →
      P isRoot (.node d1 p1 k1) (newNNI path isRoot p1 j p2 cross))
    (t : T) (hpos : pposOK t = true) : ∀ r ∈ rearrangements t, ∃ S, subAt r.path t = some S ∧ P r.path.isEmpty S r :=
  rearrangements_generic (fun S r => P r.path.isEmpty S r)
    (fun path isRoot d1 p1 k1 j e d2 p2 u v cross site => by
      have hr : (newNNI path isRoot p1 j p2 cross).path.isEmpty = isRoot := by simp [newNNI, site.root]
      rw [hr]
      exact hP path isRoot d1 p1 k1 j e d2 p2 u v cross site)
    t hpos

/-- rewriting at a path with `f` then with `g`, when `g` undoes `f` on the subtree there -/
theorem modAt_roundtrip (f g : T → Option T) :
    ∀ (q : List Nat) (t S S' : T), subAt q t = some S → f S = some S' → g S' = some S →
      ∃ t', modAt q f t = some t' ∧ modAt q g t' = some t := by
  intro q
  induction q with
  | nil =>
    intro t S S' hs hf hg
    simp only [subAt, Option.some.injEq] at hs
    subst hs
    exact ⟨S', by simp [modAt, hf], by simp [modAt, hg]⟩
  | cons i q ih =>
    intro t S S' hs hf hg
    obtain ⟨d, pp, k⟩ := t
    obtain ⟨e, c, (hki : k[i]? = some (e, c)), hs⟩ := subAt_cons.mp hs
    obtain ⟨c', h1, h2⟩ := ih c S S' hs hf hg
    have hi : i < k.length := by
      rcases List.getElem?_eq_some_iff.mp hki with ⟨h, _⟩
      exact h
    refine ⟨.node d pp (k.set i (e, c')), by simp [modAt, hki, h1], ?_⟩
    have hget : (k.set i (e, c'))[i]? = some (e, c') := by simp [hi]
    simp only [modAt, hget, h2, List.set_set]
    have : k.set i (e, c) = k := by
      rcases List.getElem?_eq_some_iff.mp hki with ⟨h, hv⟩
      rw [← hv]
      exact List.set_getElem_self h
    rw [this]

/-- a relation between a subtree and its rewriting that every parent inherits holds between the whole trees -/
theorem modAt_lift (P : T → T → Prop) (f : T → Option T)
    (up : ∀ (d : NodeD) (p : Nat) (k : Kids) (i : Nat) (e : EdgeD) (c c' : T), k[i]? = some (e, c) → P c c' →
      P (.node d p k) (.node d p (k.set i (e, c')))) :
    ∀ (q : List Nat) (t t' S : T), subAt q t = some S → modAt q f t = some t' → (∀ S', f S = some S' → P S S') → P t t' := by
  intro q
  induction q with
  | nil =>
    intro t t' S hs hm hr
    simp only [subAt, Option.some.injEq] at hs
    subst hs
    exact hr t' (by simpa [modAt] using hm)
  | cons i q ih =>
    intro t t' S hs hm hr
    obtain ⟨d, pp, k⟩ := t
    obtain ⟨e, c, (hki : k[i]? = some (e, c)), hs⟩ := subAt_cons.mp hs
    simp only [modAt, hki] at hm
    cases hmc : modAt q f c with
    | none => simp [hmc] at hm
    | some c' =>
      simp only [hmc, Option.some.injEq] at hm
      subst hm
      exact up d pp k i e c c' hki (ih c c' S hs hmc hr)

theorem modAt_none (f : T → Option T) : ∀ (q : List Nat) (t S : T), subAt q t = some S → f S = none → modAt q f t = none := by
  intro q
  induction q with
  | nil => intro t S hs hn; simp only [subAt, Option.some.injEq] at hs; subst hs; simpa [modAt] using hn
  | cons i q ih =>
    intro t S hs hn
    obtain ⟨d, pp, k⟩ := t
    obtain ⟨e, c, (hki : k[i]? = some (e, c)), hs⟩ := subAt_cons.mp hs
    simp [modAt, hki, ih c S hs hn]

/-- destructuring of a site into the shapes of the children list (the n2 child first, second or third) -/
theorem site_cases {path : List Nat} {isRoot : Bool} {p1 : Nat} {k1 : Kids} {j : Nat}
    {e : EdgeD} {d2 : NodeD} {p2 : Nat} {u v : EdgeD × T}
    (s : Site path isRoot p1 k1 j e d2 p2 u v) (Q : Bool → Nat → Kids → Nat → Nat → Prop)
    (hroot : ∀ (y z : EdgeD × T) p1, p2 ≤ 2 →
      Q true p1 [(e, T.node d2 p2 [u, v]), y, z] 0 p2 ∧ Q true p1 [y, (e, T.node d2 p2 [u, v]), z] 1 p2 ∧
      Q true p1 [y, z, (e, T.node d2 p2 [u, v])] 2 p2)
    (hnon : ∀ (y : EdgeD × T), p1 ≤ 2 → p2 ≤ 2 →
      Q false p1 [(e, T.node d2 p2 [u, v]), y] 0 p2 ∧ Q false p1 [y, (e, T.node d2 p2 [u, v])] 1 p2) :
    Q isRoot p1 k1 j p2 := by
  obtain ⟨_, hdeg, hkid, hp2⟩ := s
  cases isRoot with
  | true =>
    simp only [if_true] at hdeg
    match k1, hdeg with
    | [x, y, z], _ =>
      match j, hkid with
      | 0, hkid => simp at hkid; subst hkid; exact (hroot y z p1 hp2).1
      | 1, hkid => simp at hkid; subst hkid; exact (hroot x z p1 hp2).2.1
      | 2, hkid => simp at hkid; subst hkid; exact (hroot x y p1 hp2).2.2
      | j + 3, hkid => simp at hkid
  | false =>
    simp only [Bool.false_eq_true, if_false] at hdeg
    obtain ⟨hlen, hp1⟩ := hdeg
    match k1, hlen with
    | [x, y], _ =>
      match j, hkid with
      | 0, hkid => simp at hkid; subst hkid; exact (hnon y hp1 hp2).1
      | 1, hkid => simp at hkid; subst hkid; exact (hnon x hp1 hp2).2
      | j + 2, hkid => simp at hkid

/- ## what `Apply` makes of the subtree at a site

   The tables below are evaluations of `applyLocal` (slot of n2 in n1 × slot of n1 in n2 × `cross`), with the
   subtrees, data and branches as variables.  n1_2 is the neighbour of n1 two slots after n2: a child of n1 at the
   root and when n1_1 is the parent, else the parent. -/

/-- the child of n2 that `Apply` hands to n1: n2_1 (slot `(p2+1)%3` of n2) if `cross`, else n2_2; with children `[u, v]` and the
    parent in slot `p2`, that is `v` exactly when `cross ↔ p2 = 1` -/
def movedKid (p2 : Nat) (cross : Bool) (u v : EdgeD × T) : EdgeD × T := if cross = (p2 == 1) then v else u

def keptKid (p2 : Nat) (cross : Bool) (u v : EdgeD × T) : EdgeD × T := if cross = (p2 == 1) then u else v

/-- the children of n2 after `Apply`: `b` in the place of the one that moved -/
def kids2 (p2 : Nat) (cross : Bool) (u v b : EdgeD × T) : Kids := if cross = (p2 == 1) then [u, b] else [b, v]

/-- at the root: n1_2 (two slots after n2) and the moved child of n2 change places -/
theorem applyLocal_root (path : List Nat) (d1 d2 : NodeD) (p1 p2 : Nat) (cross : Bool) (e : EdgeD) (u v y z : EdgeD × T) (hp2 : p2 ≤ 2) :
    applyLocal true (newNNI path true p1 0 p2 cross) (.node d1 p1 [(e, .node d2 p2 [u, v]), y, z]) =
      some (.node d1 p1 [(e, .node d2 p2 (kids2 p2 cross u v z)), y, movedKid p2 cross u v]) ∧
    applyLocal true (newNNI path true p1 1 p2 cross) (.node d1 p1 [y, (e, .node d2 p2 [u, v]), z]) =
      some (.node d1 p1 [movedKid p2 cross u v, (e, .node d2 p2 (kids2 p2 cross u v y)), z]) ∧
    applyLocal true (newNNI path true p1 2 p2 cross) (.node d1 p1 [y, z, (e, .node d2 p2 [u, v])]) =
      some (.node d1 p1 [y, movedKid p2 cross u v, (e, .node d2 p2 (kids2 p2 cross u v z))]) := by
  have h2 : p2 = 0 ∨ p2 = 1 ∨ p2 = 2 := by omega
  rcases h2 with rfl | rfl | rfl <;> cases cross <;> refine ⟨?_, ?_, ?_⟩ <;> rfl

/-- the slot of the neighbour of n2 that `Apply` exchanges: n2_1 at `(i2+1)%3` if `cross`, else n2_2 at `(i2+2)%3` -/
def xslot (i2 : Nat) (cross : Bool) : Nat := if cross then rot1 i2 else rot2 i2

theorem xslot_le (i2 : Nat) (cross : Bool) : xslot i2 cross ≤ 2 := by
  unfold xslot rot1 rot2; split <;> split <;> omega

/-- the two entries in slot order: `n` (slot `p2`) and the kept child of n2, the slot of the moved child being the parent's now -/
def kidsTop (p2 : Nat) (cross : Bool) (n k : EdgeD × T) : Kids := if p2 = 0 ∨ (p2 = 1 ∧ cross = false) then [n, k] else [k, n]

/-- a site below the root whose n1_2 is a child of n1 (n1_1 is the parent): as at the root -/
theorem applyLocal_inner (path : List Nat) (d1 d2 : NodeD) (p2 : Nat) (cross : Bool) (e : EdgeD) (u v y : EdgeD × T) (hp2 : p2 ≤ 2) :
    applyLocal false (newNNI path false 1 0 p2 cross) (.node d1 1 [(e, .node d2 p2 [u, v]), y]) =
      some (.node d1 1 [(e, .node d2 p2 (kids2 p2 cross u v y)), movedKid p2 cross u v]) ∧
    applyLocal false (newNNI path false 0 1 p2 cross) (.node d1 0 [y, (e, .node d2 p2 [u, v])]) =
      some (.node d1 0 [movedKid p2 cross u v, (e, .node d2 p2 (kids2 p2 cross u v y))]) ∧
    applyLocal false (newNNI path false 2 1 p2 cross) (.node d1 2 [y, (e, .node d2 p2 [u, v])]) =
      some (.node d1 2 [movedKid p2 cross u v, (e, .node d2 p2 (kids2 p2 cross u v y))]) := by
  have h2 : p2 = 0 ∨ p2 = 1 ∨ p2 = 2 := by omega
  rcases h2 with rfl | rfl | rfl <;> cases cross <;> refine ⟨?_, ?_, ?_⟩ <;> rfl

/-- a site below the root whose n1_2 is the parent of n1: the central branch is inverted, n2 comes on top with the parent in
    the slot of the child that moved, n1 below it in slot `p2` -/
theorem applyLocal_inner_up (path : List Nat) (d1 d2 : NodeD) (p2 : Nat) (cross : Bool) (e : EdgeD) (u v y : EdgeD × T) (hp2 : p2 ≤ 2) :
    applyLocal false (newNNI path false 2 0 p2 cross) (.node d1 2 [(e, .node d2 p2 [u, v]), y]) =
      some (.node d2 (xslot p2 cross)
        (kidsTop p2 cross (e, .node d1 0 [y, movedKid p2 cross u v]) (keptKid p2 cross u v))) ∧
    applyLocal false (newNNI path false 0 0 p2 cross) (.node d1 0 [(e, .node d2 p2 [u, v]), y]) =
      some (.node d2 (xslot p2 cross)
        (kidsTop p2 cross (e, .node d1 1 [movedKid p2 cross u v, y]) (keptKid p2 cross u v))) ∧
    applyLocal false (newNNI path false 1 1 p2 cross) (.node d1 1 [y, (e, .node d2 p2 [u, v])]) =
      some (.node d2 (xslot p2 cross)
        (kidsTop p2 cross (e, .node d1 2 [y, movedKid p2 cross u v]) (keptKid p2 cross u v))) := by
  have h2 : p2 = 0 ∨ p2 = 1 ∨ p2 = 2 := by omega
  rcases h2 with rfl | rfl | rfl <;> cases cross <;> refine ⟨?_, ?_, ?_⟩ <;> rfl
theorem kids2_cases (p2 : Nat) (cross : Bool) (u v : EdgeD × T) :
    (movedKid p2 cross u v = u ∧ keptKid p2 cross u v = v ∧ ∀ b, kids2 p2 cross u v b = [b, v]) ∨
    (movedKid p2 cross u v = v ∧ keptKid p2 cross u v = u ∧ ∀ b, kids2 p2 cross u v b = [u, b]) := by
  unfold movedKid keptKid kids2
  split
  · exact Or.inr ⟨rfl, rfl, fun _ => rfl⟩
  · exact Or.inl ⟨rfl, rfl, fun _ => rfl⟩

theorem kidsTop_cases (p2 : Nat) (cross : Bool) :
    (∀ n k, kidsTop p2 cross n k = [n, k]) ∨ (∀ n k, kidsTop p2 cross n k = [k, n]) := by
  unfold kidsTop
  split
  · exact Or.inl fun _ _ => rfl
  · exact Or.inr fun _ _ => rfl

/-- ★ local form: at every site, `Undo` after `Apply` gives back the subtree -/
theorem local_undo_apply {path : List Nat} {isRoot : Bool} {p1 : Nat} {k1 : Kids} {j : Nat}
    {e : EdgeD} {d2 : NodeD} {p2 : Nat} {u v : EdgeD × T} (d1 : NodeD) (cross : Bool)
    (s : Site path isRoot p1 k1 j e d2 p2 u v) :
    ∃ S', applyLocal isRoot (newNNI path isRoot p1 j p2 cross) (.node d1 p1 k1) = some S' ∧
      undoLocal isRoot (newNNI path isRoot p1 j p2 cross) S' = some (.node d1 p1 k1) := by
  refine site_cases s (fun isRoot p1 k1 j p2 =>
    ∃ S', applyLocal isRoot (newNNI path isRoot p1 j p2 cross) (.node d1 p1 k1) = some S' ∧
      undoLocal isRoot (newNNI path isRoot p1 j p2 cross) S' = some (.node d1 p1 k1)) ?_ ?_
  · intro y z p1 hp2
    obtain ⟨a0, a1, a2⟩ := applyLocal_root path d1 d2 p1 p2 cross e u v y z hp2
    have h2 : p2 = 0 ∨ p2 = 1 ∨ p2 = 2 := by omega
    rcases h2 with rfl | rfl | rfl <;> cases cross <;> refine ⟨⟨_, a0, ?_⟩, ⟨_, a1, ?_⟩, ⟨_, a2, ?_⟩⟩ <;> rfl
  · intro y hp1 hp2
    obtain ⟨a01, a10, a12⟩ := applyLocal_inner path d1 d2 p2 cross e u v y hp2
    obtain ⟨b02, b00, b11⟩ := applyLocal_inner_up path d1 d2 p2 cross e u v y hp2
    have h1 : p1 = 0 ∨ p1 = 1 ∨ p1 = 2 := by omega
    have h2 : p2 = 0 ∨ p2 = 1 ∨ p2 = 2 := by omega
    rcases h1 with rfl | rfl | rfl
    · rcases h2 with rfl | rfl | rfl <;> cases cross <;> refine ⟨⟨_, b00, ?_⟩, ⟨_, a10, ?_⟩⟩ <;> rfl
    · rcases h2 with rfl | rfl | rfl <;> cases cross <;> refine ⟨⟨_, a01, ?_⟩, ⟨_, b11, ?_⟩⟩ <;> rfl
    · rcases h2 with rfl | rfl | rfl <;> cases cross <;> refine ⟨⟨_, b02, ?_⟩, ⟨_, a12, ?_⟩⟩ <;> rfl

end Gotree.C17

/-
  C15 — lemmas about the whole-input command models (Model/C15Cmd.lean): the group file format
  reads back what was written; the tree loop prints a prefix.
-/
import Gotree.Model.C15Cmd

namespace Gotree.C15
open Gotree

theorem splitC_ne_nil (c : Char) (l : List Char) : splitC c l ≠ [] := by
  cases l with
  | nil => simp [splitC]
  | cons x r =>
    rw [splitC]
    split
    · simp
    · cases splitC c r <;> simp [consHead]

theorem splitC_cons_eq (c : Char) (r : List Char) : splitC c (c :: r) = [] :: splitC c r := by
  rw [splitC]; simp

theorem splitC_cons_ne (c x : Char) (r : List Char) (h : (x == c) = false) :
    splitC c (x :: r) = consHead x (splitC c r) := by
  rw [splitC]; simp [h]

theorem splitC_of_not_mem (c : Char) (l : List Char) (h : c ∉ l) : splitC c l = [l] := by
  induction l with
  | nil => rfl
  | cons x r ih =>
    rw [splitC_cons_ne c x r (beq_eq_false_iff_ne.mpr (List.ne_of_not_mem_cons h).symm), ih (List.not_mem_of_not_mem_cons h)]
    rfl

theorem splitC_append (c : Char) (l r : List Char) (h : c ∉ l) :
    splitC c (l ++ c :: r) = l :: splitC c r := by
  induction l with
  | nil => exact splitC_cons_eq c r
  | cons x l ih =>
    show splitC c (x :: (l ++ c :: r)) = _
    rw [splitC_cons_ne c x _ (beq_eq_false_iff_ne.mpr (List.ne_of_not_mem_cons h).symm), ih (List.not_mem_of_not_mem_cons h)]
    rfl

/-- `strings.Split(strings.Join(items, ","), ",") = items` for items free of the separator -/
theorem splitC_joinC (c : Char) (items : List (List Char)) (hne : items ≠ [])
    (h : ∀ i ∈ items, c ∉ i) : splitC c (joinC c items) = items := by
  induction items with
  | nil => exact absurd rfl hne
  | cons a r ih =>
    cases r with
    | nil => simpa [joinC] using splitC_of_not_mem c a (h a (by simp))
    | cons b r' =>
      show splitC c (a ++ c :: joinC c (b :: r')) = _
      rw [splitC_append c a _ (h a (by simp)), ih (by simp) (fun i hi => h i (List.mem_cons_of_mem _ hi))]

theorem joinC_not_mem (c d : Char) (items : List (List Char)) (hd : d ≠ c) (h : ∀ i ∈ items, d ∉ i) :
    d ∉ joinC c items := by
  induction items with
  | nil => simp [joinC]
  | cons a r ih =>
    cases r with
    | nil => simpa [joinC] using h a (by simp)
    | cons b r' =>
      show d ∉ a ++ c :: joinC c (b :: r')
      simp only [List.mem_append, List.mem_cons, not_or]
      exact ⟨h a (by simp), hd, ih (fun i hi => h i (List.mem_cons_of_mem _ hi))⟩

theorem dropCR_of_not_mem (l : List Char) (h : '\r' ∉ l) : dropCR l = l := by
  unfold dropCR
  split
  · rename_i hl
    have : l.getLast? = some '\r' := by simpa using hl
    exact absurd (List.mem_of_getLast? this) h
  · rfl

/-- lines each followed by "\n" are read back one by one -/
theorem readLines_terminated (ls : List (List Char)) (h : ∀ l ∈ ls, '\n' ∉ l ∧ '\r' ∉ l) :
    readLines (ls.flatMap fun l => l ++ ['\n']) = ls := by
  have key : ∀ ls : List (List Char), (∀ l ∈ ls, '\n' ∉ l) →
      splitC '\n' (ls.flatMap fun l => l ++ ['\n']) = ls ++ [[]] := by
    intro ls
    induction ls with
    | nil => intro _; rfl
    | cons a r ih =>
      intro h
      have : (List.flatMap (fun l => l ++ ['\n']) (a :: r)) = a ++ '\n' :: (r.flatMap fun l => l ++ ['\n']) := by
        simp [List.flatMap_cons]
      rw [this, splitC_append _ _ _ (h a (by simp)), ih (fun l hl => h l (List.mem_cons_of_mem _ hl))]
      rfl
  unfold readLines readLinesBy
  rw [key ls (fun l hl => (h l hl).1)]
  simp only [List.dropLast_concat, List.getLast?_concat, List.append_nil]
  induction ls with
  | nil => rfl
  | cons a r ih =>
    simp only [List.map_cons]
    rw [dropCR_of_not_mem a (h a (by simp)).2, ih (fun l hl => h l (List.mem_cons_of_mem _ hl))]

/-- a text without "\n" is one unterminated line: delivered unless it is empty — or, in the code as it is,
    fills the buffer exactly -/
theorem readLinesBy_unterminated (d : Bool) (l : List Char) (h : '\n' ∉ l) (hne : l ≠ []) :
    readLinesBy d l = if d && l.length % bufSize == 0 then [] else [l] := by
  unfold readLinesBy
  rw [splitC_of_not_mem _ _ h]
  cases l with
  | nil => exact absurd rfl hne
  | cons x r => simp

theorem cleanName_spec {n : String} (h : cleanName n = true) :
    ',' ∉ n.toList ∧ '\n' ∉ n.toList ∧ '\r' ∉ n.toList := by
  simpa [cleanName, and_assoc] using h

theorem repopulateLoop_length (gs : List (List String)) (ts : List T) :
    (repopulateLoop gs ts).1.length ≤ ts.length ∧
    ((repopulateLoop gs ts).2 = true → (repopulateLoop gs ts).1.length = ts.length) := by
  induction ts with
  | nil => simp [repopulateLoop]
  | cons t r ih =>
    unfold repopulateLoop
    split
    · simp
    · split
      · simp only [List.length_cons]
        exact ⟨by omega, fun h => by rw [ih.2 h]⟩
      · simp

/-- on exit 0 every input tree was printed, and each printed tree is `InsertIdenticalTips` of its input -/
theorem repopulateLoop_ok (gs : List (List String)) (ts outs : List T)
    (h : repopulateLoop gs ts = (outs, true)) :
    outs.length = ts.length ∧ ∀ p ∈ ts.zip outs, insertIdentical true p.1 gs = (p.2, none) := by
  induction ts generalizing outs with
  | nil =>
    simp [repopulateLoop] at h
    subst h
    simp
  | cons t r ih =>
    unfold repopulateLoop at h
    split at h
    · simp at h
    · split at h
      · rename_i t' hi
        simp only [Prod.mk.injEq] at h
        obtain ⟨h1, h2⟩ := h
        subst h1
        obtain ⟨hl, hz⟩ := ih _ (Prod.ext rfl h2)
        refine ⟨by simp [hl], ?_⟩
        intro p hp
        simp only [List.zip_cons_cons, List.mem_cons] at hp
        rcases hp with rfl | hp
        · exact hi
        · exact hz p hp
      · simp at h

/-- groups accepted for every tree of the input: exit 0 -/
theorem repopulateLoop_accepts (gs : List (List String)) (ts : List T)
    (h : ∀ t ∈ ts, (tipIndex t).2 = true ∧ (insertIdentical true t gs).2 = none) :
    (repopulateLoop gs ts).2 = true := by
  induction ts with
  | nil => rfl
  | cons t r ih =>
    obtain ⟨h1, h2⟩ := h t (by simp)
    unfold repopulateLoop
    simp only [h1, Bool.not_true, Bool.false_eq_true, if_false]
    rcases hi : insertIdentical true t gs with ⟨t', _ | m⟩
    · simpa using ih (fun t ht => h t (List.mem_cons_of_mem _ ht))
    · rw [hi] at h2; simp at h2

end Gotree.C15

/-
  C12 — Sankoff's first pass against the Go counting: slices, maxima/minima over the states, the
  counting identity of Fitch/Hartigan (key lemma of DESIGN Appendix F), and the meaning of `minCost`
  (a lower bound for every fitting labelling, attained by one).
-/
import Gotree.Spec.C12
import Gotree.Lemmas.Core

namespace Gotree.C12
open Gotree

/- ## slices -/

theorem at_tab (k : Nat) (h : Nat → Nat) (i : Nat) : (tab k h).at i = if i < k then h i else 0 := by
  unfold tab Vec.at
  by_cases hi : i < k <;> simp [hi, List.getD_eq_getElem?_getD]

theorem at_vzero (k i : Nat) : (vzero k).at i = 0 := by
  unfold vzero; rw [at_tab]; split <;> rfl

theorem at_vadd (k : Nat) (a b : Vec) (i : Nat) : (vadd k a b).at i = if i < k then a.at i + b.at i else 0 := by
  unfold vadd; rw [at_tab]

theorem tab_congr (k : Nat) (f g : Nat → Nat) (h : ∀ i, i < k → f i = g i) : tab k f = tab k g :=
  List.map_congr_left fun i hi => h i (List.mem_range.mp hi)

section sets
variable (k : Nat)

/-- the slice is a set: entries 0 or 1 below `k` -/
def Set01 (v : Vec) : Prop := ∀ i, i < k → v.at i ≤ 1

/-- some entry below `k` is non-zero -/
def NZ (v : Vec) : Prop := ∃ a, a < k ∧ v.at a ≠ 0

end sets

/- ## maxima (the loops of computeParsimony / parsimonyUPPASS) -/

theorem le_maxTo (h : Nat → Nat) : ∀ n i, i < n → h i ≤ maxTo h n
  | 0, _, hi => by omega
  | n + 1, i, hi => by
    unfold maxTo
    by_cases hin : i = n
    · subst hin; split <;> omega
    · have := le_maxTo h n i (by omega)
      split <;> omega

theorem argTo_snd (h : Nat → Nat) : ∀ n, (argTo h n).2 = maxTo h n
  | 0 => rfl
  | n + 1 => by
    unfold argTo maxTo
    rw [argTo_snd h n]
    split
    · rfl
    · exact argTo_snd h n

theorem argTo_fst (h : Nat → Nat) : ∀ n, 0 < n → (argTo h n).1 < n ∧ h (argTo h n).1 = maxTo h n
  | 0, hn => by omega
  | n + 1, _ => by
    unfold argTo maxTo
    rw [argTo_snd h n]
    by_cases hgt : h n > maxTo h n
    · simp [hgt]
    · simp [hgt]
      by_cases hn0 : n = 0
      · subst hn0
        simp [argTo, maxTo] at *
        omega
      · have := argTo_fst h n (by omega)
        omega

/-- `computeParsimony` keeps exactly the maxima -/
theorem cp_ne_zero (k : Nat) (v : Vec) (s : Nat) (hs : s < k) : (cp k v).at s ≠ 0 ↔ v.at s = maxTo v.at k := by
  simp only [cp, at_tab, hs, if_true]
  split <;> simp_all

theorem cp_01 (k : Nat) (v : Vec) : Set01 k (cp k v) := by
  intro i _
  simp only [cp]; rw [at_tab]; split <;> (try split) <;> omega

theorem cp_nz (k : Nat) (hk : 0 < k) (v : Vec) : NZ k (cp k v) := by
  obtain ⟨hi, he⟩ := argTo_fst v.at k hk
  exact ⟨_, hi, (cp_ne_zero k v _ hi).mpr he⟩

/- ## minima (Sankoff) -/

theorem minTo_le (h : Nat → Nat) : ∀ n i, i ≤ n → minTo h n ≤ h i
  | 0, i, hi => by
    have : i = 0 := by omega
    subst this; unfold minTo; omega
  | n + 1, i, hi => by
    unfold minTo
    by_cases hin : i = n + 1
    · subst hin; split <;> omega
    · have := minTo_le h n i (by omega)
      split <;> omega

theorem minTo_attained (h : Nat → Nat) : ∀ n, ∃ i, i ≤ n ∧ h i = minTo h n
  | 0 => ⟨0, by omega, rfl⟩
  | n + 1 => by
    unfold minTo
    obtain ⟨i, hi, he⟩ := minTo_attained h n
    by_cases hlt : h (n + 1) < minTo h n
    · exact ⟨n + 1, by omega, by simp [hlt]⟩
    · exact ⟨i, by omega, by simp [hlt, he]⟩

theorem minOver_le (k : Nat) (h : Nat → Nat) (t : Nat) (ht : t < k) : minOver k h ≤ h t :=
  minTo_le h (k - 1) t (by omega)

theorem minOver_attained (k : Nat) (hk : 0 < k) (h : Nat → Nat) : ∃ t, t < k ∧ h t = minOver k h := by
  obtain ⟨i, hi, he⟩ := minTo_attained h (k - 1)
  exact ⟨i, by omega, he⟩

theorem minOver_iff (k : Nat) (hk : 0 < k) (h : Nat → Nat) (s : Nat) (hs : s < k) :
    h s = minOver k h ↔ ∀ t, t < k → h s ≤ h t := by
  constructor
  · intro e t ht; rw [e]; exact minOver_le k h t ht
  · intro hle
    obtain ⟨i, hi, he⟩ := minOver_attained k hk h
    have h1 := hle _ hi
    have h2 := minOver_le k h s hs
    omega

theorem minOver_congr (k : Nat) (hk : 0 < k) (h h' : Nat → Nat) (e : ∀ t, t < k → h t = h' t) :
    minOver k h = minOver k h' := by
  obtain ⟨a, ha, hea⟩ := minOver_attained k hk h
  obtain ⟨b, hb, heb⟩ := minOver_attained k hk h'
  have h1 := minOver_le k h b hb
  have h2 := minOver_le k h' a ha
  have := e a ha
  have := e b hb
  omega

/-- DESIGN Appendix F: seen through one more branch, a cost function becomes
    "its minimum, plus one off its argmin". -/
theorem minOver_through (k : Nat) (hk : 0 < k) (h : Nat → Nat) (s : Nat) (hs : s < k) :
    minOver k (fun t => h t + (if s = t then 0 else 1)) = minOver k h + (if h s = minOver k h then 0 else 1) := by
  obtain ⟨t0, ht0, he0⟩ := minOver_attained k hk (fun t => h t + (if s = t then 0 else 1))
  obtain ⟨t1, ht1, he1⟩ := minOver_attained k hk h
  have hs' := minOver_le k (fun t => h t + (if s = t then 0 else 1)) s hs
  have ht1' := minOver_le k (fun t => h t + (if s = t then 0 else 1)) t1 ht1
  have hm0 := minOver_le k h t0 ht0
  have hms := minOver_le k h s hs
  simp only [] at he0 hs' ht1'
  simp at hs'
  by_cases hst0 : s = t0
  · subst hst0
    simp at he0
    by_cases hst1 : s = t1
    · subst hst1; simp [he1]; omega
    · simp [hst1] at ht1'
      split <;> omega
  · simp [hst0] at he0
    by_cases hst1 : s = t1
    · subst hst1; simp [he1]; omega
    · simp [hst1] at ht1'
      split <;> omega

theorem at_through (k : Nat) (R : Vec) (s : Nat) (hs : s < k) :
    (through k R).at s = minOver k fun t => R.at t + (if s = t then 0 else 1) := by
  simp only [through, at_tab, hs, if_true]

theorem through_le (k : Nat) (R : Vec) (s t : Nat) (hs : s < k) (ht : t < k) :
    (through k R).at s ≤ R.at t + (if s = t then 0 else 1) := by
  rw [at_through k R s hs]
  exact minOver_le k (fun t => R.at t + (if s = t then 0 else 1)) t ht

theorem through_congr (k : Nat) (hk : 0 < k) (R R' : Vec) (h : ∀ t, t < k → R.at t = R'.at t) (s : Nat) :
    (through k R).at s = (through k R').at s := by
  simp only [through, at_tab]
  split
  · exact minOver_congr k hk _ _ (fun t ht => by rw [h t ht])
  · rfl

/-- seen through a branch, a cost vector is 1-Lipschitz -/
theorem through_lipschitz (k : Nat) (hk : 0 < k) (f : Vec) (s t : Nat) (hs : s < k) (ht : t < k) :
    (through k f).at s ≤ (through k f).at t + 1 := by
  rw [at_through k f t ht]
  obtain ⟨u, hu, he⟩ := minOver_attained k hk (fun u => f.at u + (if t = u then 0 else 1))
  have h1 := through_le k f s u hs hu
  rw [← he]
  split at h1 <;> split <;> omega

/-- the minimum of `totv = R + through f` bounds `f + through R` from below (`f`: a node seen from inside, `R`: the rest
    of the tree seen from its parent) -/
theorem min_le_through (k : Nat) (hk : 0 < k) (f R totv : Vec) (MIN : Nat) (hmin : ∀ t, t < k → MIN ≤ totv.at t)
    (hR : ∀ t, t < k → R.at t + (through k f).at t = totv.at t) (s : Nat) (hs : s < k) :
    MIN ≤ f.at s + (through k R).at s := by
  rw [at_through k R s hs]
  obtain ⟨t0, ht0, he0⟩ := minOver_attained k hk (fun t => R.at t + (if s = t then 0 else 1))
  rw [← he0]
  have hg := through_le k f t0 s ht0 hs
  have := hR t0 ht0
  have := hmin t0 ht0
  by_cases hst : s = t0
  · subst hst; simp at hg ⊢; omega
  · have : ¬ t0 = s := fun e => hst e.symm
    simp [hst, this] at hg ⊢; omega

/- ## leaves -/

theorem leaves_mem_kids (ks : Kids) (et : EdgeD × T) (h : et ∈ ks) (n : String) (hn : n ∈ et.2.leaves) :
    n ∈ leavesL ks :=
  mem_leavesL.mpr ⟨et, h, hn⟩

theorem leaves_node_cons (d : NodeD) (p : Nat) (x : EdgeD × T) (xs : Kids) :
    (T.node d p (x :: xs)).leaves = leavesL (x :: xs) := rfl

/-- a property of all leaves below a list of children holds below the first child and below the others -/
theorem leavesL_cons {P : String → Prop} {e : EdgeD} {c : T} {r : Kids} (h : ∀ n ∈ leavesL ((e, c) :: r), P n) :
    (∀ n ∈ c.leaves, P n) ∧ (∀ n ∈ leavesL r, P n) := by
  simp only [leavesL, List.mem_append] at h
  exact ⟨fun n hn => h n (Or.inl hn), fun n hn => h n (Or.inr hn)⟩

theorem gv_node_cons (k : Nat) (tv : String → Vec) (d : NodeD) (p : Nat) (x : EdgeD × T) (xs : Kids) :
    gv k tv (.node d p (x :: xs)) = through k (fL k tv (x :: xs)) := by
  simp only [gv]

/- ## the counting identity -/

section counting
variable (k : Nat) (tv : String → Vec)

theorem upS_le_one (c : T) (h : ∀ n ∈ c.leaves, Set01 k (tv n)) : Set01 k (upS k tv c) := by
  match c with
  | .node d p [] => simp only [upS]; exact h d.name (by simp [T.leaves])
  | .node d p (x :: xs) => simp only [upS]; exact cp_01 k _

theorem sum_miss (s : Nat) (hs : s < k) : ∀ (ks : Kids),
    (∀ et ∈ ks, (upS k tv et.2).at s ≤ 1) → (sumL k tv ks).at s + miss k tv s ks = ks.length
  | [], _ => by simp [sumL, miss, at_vzero]
  | (e, c) :: r, h => by
    have ih := sum_miss s hs r (fun et het => h et (List.mem_cons_of_mem _ het))
    have hc := h (e, c) (List.mem_cons_self ..)
    simp only [sumL, miss, at_vadd, hs, if_true, List.length_cons]
    simp only [] at hc
    split <;> omega

theorem fL_eq (t : Nat) (ht : t < k) : ∀ (ks : Kids),
    (∀ et ∈ ks, (gv k tv et.2).at t = upN k tv et.2 + (if (upS k tv et.2).at t = 0 then 1 else 0)) →
    (fL k tv ks).at t = upNL k tv ks + miss k tv t ks
  | [], _ => by simp [fL, upNL, miss, at_vzero]
  | (e, c) :: r, h => by
    have ih := fL_eq t ht r (fun et het => h et (List.mem_cons_of_mem _ het))
    have hc := h (e, c) (List.mem_cons_self ..)
    simp only [fL, upNL, miss, at_vadd, ht, if_true]
    simp only [] at hc
    omega

/-- what one node does: the minimum of the Sankoff vector is "steps below + children
    lacking the state the code picked", and its argmin is the set kept by computeParsimony -/
theorem node_min (hk : 0 < k) (ks : Kids)
    (h01 : ∀ et ∈ ks, ∀ i, i < k → (upS k tv et.2).at i ≤ 1)
    (hkey : ∀ et ∈ ks, ∀ s, s < k →
      (gv k tv et.2).at s = upN k tv et.2 + (if (upS k tv et.2).at s = 0 then 1 else 0)) :
    minOver k (fL k tv ks).at = upNL k tv ks + miss k tv (maxState k (sumL k tv ks)) ks ∧
    ∀ s, s < k → ((sumL k tv ks).at s = maxTo (sumL k tv ks).at k ↔
                  (fL k tv ks).at s = minOver k (fL k tv ks).at) := by
  obtain ⟨hms, hmax⟩ := argTo_fst (sumL k tv ks).at k hk
  have hsm : ∀ t, t < k → (sumL k tv ks).at t + miss k tv t ks = ks.length :=
    fun t ht => sum_miss k tv t ht ks (fun et het => h01 et het t ht)
  have hf : ∀ t, t < k → (fL k tv ks).at t = upNL k tv ks + miss k tv t ks :=
    fun t ht => fL_eq k tv t ht ks (fun et het => hkey et het t ht)
  have hle : ∀ t, t < k → (sumL k tv ks).at t ≤ maxTo (sumL k tv ks).at k :=
    fun t ht => le_maxTo _ k t ht
  obtain ⟨t1, ht1, he1⟩ := minOver_attained k hk (fL k tv ks).at
  have hmle := minOver_le k (fL k tv ks).at (maxState k (sumL k tv ks)) hms
  have a1 := hsm _ hms
  have a2 := hsm _ ht1
  have a3 := hf _ hms
  have a4 := hf _ ht1
  have a5 := hle _ ht1
  have hm : minOver k (fL k tv ks).at = upNL k tv ks + miss k tv (maxState k (sumL k tv ks)) ks := by
    unfold maxState at *
    omega
  refine ⟨hm, ?_⟩
  intro s hs
  have b1 := hsm _ hs
  have b2 := hf _ hs
  have b3 := hle _ hs
  unfold maxState at *
  constructor <;> intro hh <;> omega

/-- DESIGN Appendix F, key lemma: g_child s = m_child + [s ∉ VU_child] -/
theorem key (hk : 0 < k) : ∀ c : T, (∀ n ∈ c.leaves, Set01 k (tv n)) → ∀ s, s < k →
    (gv k tv c).at s = upN k tv c + (if (upS k tv c).at s = 0 then 1 else 0) := by
  intro c
  induction c using T.induct with
  | h d p ks ih =>
    intro hl s hs
    match ks, ih, hl with
    | [], _, _ =>
      simp only [gv, upN, upS]
      rw [at_tab]
      simp only [hs, if_true]
      split <;> simp_all
    | x :: xs, ih, hl =>
      rw [leaves_node_cons] at hl
      have hl' : ∀ et ∈ x :: xs, ∀ n ∈ et.2.leaves, Set01 k (tv n) :=
        fun et het n hn => hl n (leaves_mem_kids (x :: xs) et het n hn)
      obtain ⟨hm, hiff⟩ := node_min k tv hk (x :: xs)
        (fun et het => upS_le_one k tv et.2 (hl' et het))
        (fun et het s hs => ih et het (hl' et het) s hs)
      have hthr := minOver_through k hk (fL k tv (x :: xs)).at s hs
      simp only [gv, through, upN, upS, cp, at_tab, hs, if_true]
      rw [hthr, hm]
      have := hiff s hs
      by_cases hmx : (sumL k tv (x :: xs)).at s = maxTo (sumL k tv (x :: xs)).at k
      · have := this.mp hmx
        simp [hmx, this, hm]
      · have hne : ¬ (fL k tv (x :: xs)).at s = minOver k (fL k tv (x :: xs)).at := fun h => hmx (this.mpr h)
        rw [hm] at hne
        simp [hmx, hne]

/-- at a node with children, the up-pass counts the minimum of its Sankoff vector and keeps the argmin -/
theorem up_node (hk : 0 < k) (d : NodeD) (p : Nat) (x : EdgeD × T) (xs : Kids)
    (hl : ∀ n ∈ leavesL (x :: xs), Set01 k (tv n)) :
    upN k tv (.node d p (x :: xs)) = minOver k (fL k tv (x :: xs)).at ∧
    ∀ s, s < k → ((upS k tv (.node d p (x :: xs))).at s ≠ 0 ↔
      (fL k tv (x :: xs)).at s = minOver k (fL k tv (x :: xs)).at) := by
  have hl' : ∀ et ∈ x :: xs, ∀ n ∈ et.2.leaves, Set01 k (tv n) :=
    fun et het n hn => hl n (leaves_mem_kids (x :: xs) et het n hn)
  obtain ⟨hm, hiff⟩ := node_min k tv hk (x :: xs)
    (fun et het => upS_le_one k tv et.2 (hl' et het))
    (fun et het => key k tv hk et.2 (hl' et het))
  refine ⟨by simp only [upN]; omega, fun s hs => ?_⟩
  rw [← hiff s hs]
  simp only [upS]
  exact cp_ne_zero k _ s hs

end counting

/- ## labellings: the Sankoff vectors bound every labelling from below and are attained -/

@[simp] theorem LT.s_node (r : Nat) (ls : List LT) : (LT.node r ls).s = r := rfl

section labellings
variable (k : Nat) (tv : String → Vec)

theorem fits_s_lt : ∀ (c : T) (l : LT), fits k tv c l = true → l.s < k
  | .node d p [], .node r ls, h => by
    simp only [fits, Bool.and_eq_true, decide_eq_true_eq] at h; exact h.1.2
  | .node d p (x :: xs), .node r ls, h => by
    simp only [fits, Bool.and_eq_true, decide_eq_true_eq] at h; exact h.1

mutual
theorem lb : ∀ (c : T) (l : LT), fits k tv c l = true → ∀ s, s < k →
    (gv k tv c).at s ≤ (if l.s = s then 0 else 1) + l.changes
  | .node d _ [], .node r ls, hf, s, hs => by
    simp only [fits, Bool.and_eq_true, decide_eq_true_eq] at hf
    simp only [gv, at_tab, hs, if_true, LT.s_node]
    by_cases h0 : (tv d.name).at s = 0
    · have : r ≠ s := fun e => hf.2 (e ▸ h0)
      simp [h0, this]
    · simp [h0]
  | .node _ _ (x :: xs), .node r ls, hf, s, hs => by
    simp only [fits, Bool.and_eq_true, decide_eq_true_eq] at hf
    have h1 := fL_le r hf.1 (x :: xs) ls hf.2
    have h2 := through_le k (fL k tv (x :: xs)) s r hs hf.1
    simp only [gv, LT.s_node, LT.changes]
    by_cases hrs : r = s
    · subst hrs; simp at h2 ⊢; omega
    · have : ¬ s = r := fun e => hrs e.symm
      simp [this] at h2
      simp [hrs]; omega
/-- below a node in state `t`, a fitting list of labellings costs at least `fL … t` -/
theorem fL_le (t : Nat) (ht : t < k) : ∀ (ks : Kids) (ls : List LT), fitsL k tv ks ls = true →
    (fL k tv ks).at t ≤ LT.changesL t ls
  | [], [], _ => by simp [fL, at_vzero]
  | [], _ :: _, h => by simp [fitsL] at h
  | _ :: _, [], h => by simp [fitsL] at h
  | (e, c) :: r, l :: lr, h => by
    simp only [fitsL, Bool.and_eq_true] at h
    have ih := fL_le t ht r lr h.2
    have h1 := lb c l h.1 t ht
    simp only [fL, at_vadd, ht, if_true, LT.changesL]
    omega
end

theorem lb_list (t : Nat) (ht : t < k) : ∀ (ks : Kids) (ls : List LT),
    (∀ et ∈ ks, ∀ l, fits k tv et.2 l = true →
      (gv k tv et.2).at t ≤ (if l.s = t then 0 else 1) + l.changes) →
    fitsL k tv ks ls = true → (fL k tv ks).at t ≤ LT.changesL t ls :=
  fun ks ls _ => fL_le k tv t ht ks ls

theorem minCost_le (t : T) (hne : t.kids ≠ []) (l : LT) (hf : fits k tv t l = true) :
    minCost k tv t ≤ l.changes := by
  match t, l, hne, hf with
  | .node d p [], _, hne, _ => simp at hne
  | .node d p (x :: xs), .node r ls, _, hf =>
    simp only [fits, Bool.and_eq_true, decide_eq_true_eq] at hf
    have h1 := fL_le k tv r hf.1 (x :: xs) ls hf.2
    have h2 := minOver_le k (fL k tv (x :: xs)).at r hf.1
    simp only [minCost, T.kids_node, LT.changes]
    omega

theorem att_list (t : Nat) (ht : t < k) : ∀ (ks : Kids),
    (∀ et ∈ ks, ∃ l, fits k tv et.2 l = true ∧
      (if l.s = t then 0 else 1) + l.changes = (gv k tv et.2).at t) →
    ∃ ls, fitsL k tv ks ls = true ∧ LT.changesL t ls = (fL k tv ks).at t
  | [], _ => ⟨[], by simp [fitsL], by simp [LT.changesL, fL, at_vzero]⟩
  | (e, c) :: r, h => by
    obtain ⟨ls, hls, hcs⟩ := att_list t ht r (fun et het => h et (List.mem_cons_of_mem _ het))
    obtain ⟨l, hl, hc⟩ := h (e, c) (List.mem_cons_self ..)
    refine ⟨l :: ls, by simp [fitsL, hl, hls], ?_⟩
    simp only [fL, at_vadd, ht, if_true, LT.changesL]
    simp only [] at hc
    omega

mutual
theorem att (hk : 0 < k) : ∀ (c : T), (∀ n ∈ c.leaves, NZ k (tv n)) → ∀ s, s < k →
    ∃ l, fits k tv c l = true ∧ (if l.s = s then 0 else 1) + l.changes = (gv k tv c).at s
  | .node d _ [], hl, s, hs => by
    obtain ⟨i, hi, hne⟩ := hl d.name (by simp [T.leaves])
    by_cases h0 : (tv d.name).at s = 0
    · refine ⟨.node i [], by simp [fits, hi, hne], ?_⟩
      have : i ≠ s := fun e => hne (e ▸ h0)
      simp [gv, at_tab, hs, h0, LT.changes, LT.changesL, this]
    · refine ⟨.node s [], by simp [fits, hs, h0], ?_⟩
      simp [gv, at_tab, hs, h0, LT.changes, LT.changesL]
  | .node _ _ (x :: xs), hl, s, hs => by
    rw [leaves_node_cons] at hl
    obtain ⟨t0, ht0, he0⟩ := minOver_attained k hk (fun t => (fL k tv (x :: xs)).at t + (if s = t then 0 else 1))
    obtain ⟨ls, hls, hcs⟩ := fL_att hk t0 ht0 (x :: xs) hl
    refine ⟨.node t0 ls, by simp [fits, ht0, hls], ?_⟩
    simp only [gv, through, at_tab, hs, if_true, LT.s_node, LT.changes]
    rw [← he0, hcs]
    by_cases hts : t0 = s
    · subst hts; simp
    · have : ¬ s = t0 := fun e => hts e.symm
      simp [hts, this]; omega
/-- below a node in state `t`, some fitting list of labellings costs exactly `fL … t` -/
theorem fL_att (hk : 0 < k) (t : Nat) (ht : t < k) : ∀ (ks : Kids), (∀ n ∈ leavesL ks, NZ k (tv n)) →
    ∃ ls, fitsL k tv ks ls = true ∧ LT.changesL t ls = (fL k tv ks).at t
  | [], _ => ⟨[], by simp [fitsL], by simp [LT.changesL, fL, at_vzero]⟩
  | (e, c) :: r, hl => by
    obtain ⟨ls, hls, hcs⟩ := fL_att hk t ht r (leavesL_cons hl).2
    obtain ⟨l, hl, hc⟩ := att hk c (leavesL_cons hl).1 t ht
    refine ⟨l :: ls, by simp [fitsL, hl, hls], ?_⟩
    simp only [fL, at_vadd, ht, if_true, LT.changesL]
    omega
end

theorem minCost_attained (hk : 0 < k) (t : T) (hne : t.kids ≠ [])
    (hl : ∀ n ∈ leavesL t.kids, NZ k (tv n)) :
    ∃ l, fits k tv t l = true ∧ l.changes = minCost k tv t := by
  match t, hne, hl with
  | .node d p [], hne, _ => simp at hne
  | .node d p (x :: xs), _, hl =>
    simp only [T.kids_node] at hl
    obtain ⟨t0, ht0, he0⟩ := minOver_attained k hk (fL k tv (x :: xs)).at
    obtain ⟨ls, hls, hcs⟩ := fL_att k tv hk t0 ht0 (x :: xs) hl
    exact ⟨.node t0 ls, by simp [fits, ht0, hls], by simp [LT.changes, minCost, hcs, he0]⟩

end labellings

/- ## the standing hypotheses -/

/-- what the optimality theorems assume: the root has children and every tip slice is a non-empty 0/1 set
    (`rootOk` and `tipsOk` give this; a root with a single child is allowed here) -/
structure Ok (k : Nat) (tv : String → Vec) (t : T) : Prop where
  kids : t.kids ≠ []
  s01 : ∀ n ∈ t.leaves, Set01 k (tv n)
  nz : ∀ n ∈ t.leaves, NZ k (tv n)

theorem tipsOk_iff (k : Nat) (tv : String → Vec) (t : T) :
    tipsOk k tv t = true ↔ ∀ n ∈ leavesL t.kids, Set01 k (tv n) ∧ NZ k (tv n) := by
  simp only [tipsOk, List.all_eq_true, Bool.and_eq_true, List.any_eq_true, decide_eq_true_eq, List.mem_range]
  exact Iff.rfl

theorem tipsOk_spec (k : Nat) (tv : String → Vec) (t : T) (h : tipsOk k tv t = true) :
    ∀ n ∈ leavesL t.kids, Set01 k (tv n) ∧ NZ k (tv n) :=
  (tipsOk_iff k tv t).mp h

theorem rootOk_kids {t : T} (hr : rootOk t = true) : t.kids ≠ [] ∧ ¬ t.kids.length = 1 := by
  simp only [rootOk, decide_eq_true_eq] at hr
  exact ⟨fun h => by simp [h] at hr, by omega⟩

theorem Ok.of {k : Nat} {tv : String → Vec} {t : T} (hr : rootOk t = true) (ht : tipsOk k tv t = true) :
    Ok k tv t := by
  have hne := (rootOk_kids hr).1
  have hs := tipsOk_spec k tv t ht
  rw [← T.leaves_of_kids_ne hne] at hs
  exact ⟨hne, fun n hn => (hs n hn).1, fun n hn => (hs n hn).2⟩

theorem Ok.s01' {k : Nat} {tv : String → Vec} {t : T} (h : Ok k tv t) : ∀ n ∈ leavesL t.kids, Set01 k (tv n) := by
  rw [← T.leaves_of_kids_ne h.kids]; exact h.s01

theorem Ok.nz' {k : Nat} {tv : String → Vec} {t : T} (h : Ok k tv t) : ∀ n ∈ leavesL t.kids, NZ k (tv n) := by
  rw [← T.leaves_of_kids_ne h.kids]; exact h.nz

/-- the number of steps of the up-pass is the Sankoff minimum -/
theorem upN_eq_minCost (k : Nat) (tv : String → Vec) (hk : 0 < k) (t : T) (hne : t.kids ≠ [])
    (hl : ∀ n ∈ leavesL t.kids, Set01 k (tv n)) : upN k tv t = minCost k tv t := by
  match t, hne, hl with
  | .node d p [], hne, _ => simp at hne
  | .node d p (x :: xs), _, hl => exact (up_node k tv hk d p x xs hl).1

end Gotree.C12

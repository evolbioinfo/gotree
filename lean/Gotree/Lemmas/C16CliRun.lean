/-
  C16 — the command loop: what it writes and how it exits (lemmas).
-/
import Gotree.Model.C16CliRun

namespace Gotree.C16
open Gotree

/-- when every call succeeds with a tree satisfying `Q`: exit status 0, nothing logged, one tree per
    call, each satisfying `Q` -/
theorem cliLoop_ok (gen : Nat → Res Out) (Q : T → Prop) (f i : Nat) (acc : List T)
    (h : ∀ j, i ≤ j → j < i + f → ∃ o, gen j = .ok o ∧ Q o.t) (hacc : ∀ t ∈ acc, Q t) :
    (cliLoop gen f i acc).exit = 0 ∧ (cliLoop gen f i acc).logged = false ∧
    (cliLoop gen f i acc).trees.length = acc.length + f ∧ ∀ t ∈ (cliLoop gen f i acc).trees, Q t := by
  induction f generalizing i acc with
  | zero => exact ⟨rfl, rfl, by simp [cliLoop], fun t ht => hacc t (by simpa [cliLoop] using ht)⟩
  | succ f ih =>
    obtain ⟨o, ho, hq⟩ := h i (Nat.le_refl _) (by omega)
    have := ih (i + 1) (o.t :: acc) (fun j h1 h2 => h j (by omega) (by omega))
      (fun t ht => (List.mem_cons.mp ht).elim (fun e => e ▸ hq) (hacc t))
    simp only [cliLoop, ho, List.length_cons] at this ⊢
    exact ⟨this.1, this.2.1, by omega, this.2.2.2⟩

theorem cliLoop_first_fails (gen : Nat → Res Out) (f i : Nat) (h : (gen i).isOk = false) :
    cliLoop gen (f + 1) i [] = ⟨1, true, []⟩ := by
  unfold cliLoop
  cases hg : gen i with
  | ok o => rw [hg] at h; simp [Res.isOk] at h
  | err m => rfl
  | panic m => rfl

end Gotree.C16

/-
  C10: tip sets as duplicate-free lists inside the taxa `all` (`Side all a`).
  `sameSplit all` is an equivalence on them; the count of "ones" the code keeps
  gives the transfer distance of the definition, which is zero exactly for the
  same bipartition and depends on either argument through its bipartition only.
  Then the split list of a tree with unique tips: every entry is such a set.
-/
import Gotree.Lemmas.C10
import Gotree.Lemmas.C14
import Gotree.Lemmas.Core

namespace Gotree.C10
open Gotree

/-! ## duplicate-free lists as finite sets -/

theorem subset_of_nodup_length_le {l₁ l₂ : List String} (hn : l₁.Nodup) (hs : ∀ x ∈ l₁, x ∈ l₂)
    (hl : l₂.length ≤ l₁.length) : ∀ x ∈ l₂, x ∈ l₁ := by
  intro x hx
  refine Classical.byContradiction fun h => ?_
  have := (List.nodup_cons.2 ⟨h, hn⟩).length_le_of_subset (l₂ := l₂)
    fun y hy => (List.mem_cons.1 hy).elim (· ▸ hx) (hs y)
  simp only [List.length_cons] at this; omega

theorem length_eq_of_mem_iff {a b : List String} (ha : a.Nodup) (hb : b.Nodup) (h : ∀ x, x ∈ a ↔ x ∈ b) :
    a.length = b.length :=
  Nat.le_antisymm (ha.length_le_of_subset fun x => (h x).1) (hb.length_le_of_subset fun x => (h x).2)

/-- `a` is a set of taxa: no name twice, every name among `all` -/
structure Side (all a : List String) : Prop where
  nodup : a.Nodup
  sub : ∀ x ∈ a, x ∈ all

theorem Side.length_le {all a : List String} (h : Side all a) : a.length ≤ all.length :=
  h.nodup.length_le_of_subset h.sub

theorem Side.congr {all all' a : List String} (h : ∀ x, x ∈ all ↔ x ∈ all') (ha : Side all a) : Side all' a :=
  ⟨ha.nodup, fun x hx => (h x).1 (ha.sub x hx)⟩

theorem mem_diff {a b : List String} {x : String} : x ∈ diff a b ↔ x ∈ a ∧ x ∉ b := by
  simp [diff]

theorem nodup_diff {a : List String} (b : List String) (h : a.Nodup) : (diff a b).Nodup :=
  List.Nodup.sublist List.filter_sublist h

theorem Side.diff {all : List String} (b : List String) (h : all.Nodup) : Side all (diff all b) :=
  ⟨nodup_diff b h, fun _ hx => (mem_diff.1 hx).1⟩

/-- a set of taxa is counted on `all` -/
theorem Side.length_filter {all a : List String} (hall : all.Nodup) (ha : Side all a) (q : String → Bool) :
    (a.filter q).length = all.countP fun x => a.contains x && q x := by
  rw [List.countP_eq_length_filter]
  refine length_eq_of_mem_iff (ha.nodup.sublist List.filter_sublist) (hall.sublist List.filter_sublist) fun x => ?_
  simp only [List.mem_filter, List.contains_eq_mem, Bool.and_eq_true, decide_eq_true_eq]
  exact ⟨fun ⟨h1, h2⟩ => ⟨ha.sub x h1, h1, h2⟩, fun ⟨_, h1, h2⟩ => ⟨h1, h2⟩⟩

theorem Side.length_eq {all a : List String} (hall : all.Nodup) (ha : Side all a) :
    a.length = all.countP fun x => a.contains x := by
  have := ha.length_filter hall fun _ => true
  simpa only [List.filter_eq_self.2 fun _ _ => rfl, Bool.and_true] using this

theorem countP_xor {α : Type} (f g : α → Bool) : ∀ l : List α,
    l.countP (fun x => f x && !g x) + l.countP (fun x => g x && !f x) = l.countP fun x => f x != g x
  | [] => rfl
  | x :: l => by
    simp only [List.countP_cons, ← countP_xor f g l]
    cases f x <;> cases g x <;> simp <;> omega

theorem countP_not {α : Type} (f : α → Bool) (l : List α) :
    l.countP (fun x => !f x) = l.length - l.countP f := by
  have := List.length_eq_countP_add_countP f (l := l)
  simp only [Bool.not_eq_true, Bool.decide_eq_false] at this
  omega

/-- `|L △ B|` is the number of taxa on which the two sets differ -/
theorem symDiff_eq {all L B : List String} (hall : all.Nodup) (hL : Side all L) (hB : Side all B) :
    symDiff L B = all.countP fun x => L.contains x != B.contains x := by
  unfold symDiff diff
  rw [hL.length_filter hall, hB.length_filter hall, countP_xor]

/-- the part of `a` inside `b` -/
def inter (a b : List String) : List String := a.filter fun x => b.contains x

theorem mem_inter {a b : List String} {x : String} : x ∈ inter a b ↔ x ∈ a ∧ x ∈ b := by
  simp [inter]

theorem length_diff_add_inter (a b : List String) : (diff a b).length + (inter a b).length = a.length := by
  induction a with
  | nil => rfl
  | cons x l ih =>
    simp only [diff, inter, List.filter_cons] at ih ⊢
    cases b.contains x <;> simp only [Bool.not_true, Bool.not_false, Bool.false_eq_true, if_false, if_true,
      List.length_cons] <;> omega

theorem inter_length_comm {a b : List String} (ha : a.Nodup) (hb : b.Nodup) :
    (inter a b).length = (inter b a).length :=
  length_eq_of_mem_iff (List.Nodup.sublist List.filter_sublist ha) (List.Nodup.sublist List.filter_sublist hb)
    fun x => by rw [mem_inter, mem_inter]; exact And.comm

/-- `|all \ b| = n - |b|` -/
theorem length_diff_of_subset {all b : List String} (ha : all.Nodup) (hb : Side all b) :
    (diff all b).length = all.length - b.length := by
  have h1 := length_diff_add_inter all b
  have h2 := inter_length_comm ha hb.nodup
  have h3 : inter b all = b := List.filter_eq_self.2 fun x hx => by simpa using hb.sub x hx
  rw [h3] at h2
  omega

theorem onesOf_eq (light : String → Bool) (L B : List String)
    (h : ∀ x ∈ B, light x = L.contains x) : onesOf light B = (diff B L).length := by
  unfold onesOf diff
  rw [List.countP_eq_length_filter]
  exact congrArg _ (List.filter_congr fun x hx => by rw [h x hx])

/-- the code's distance of one bootstrap branch is the transfer distance of the definition -/
theorem dOf_eq_transferDist {all L B : List String} (light : String → Bool) (hall : all.Nodup) (hL : Side all L)
    (hB : Side all B) (hl : ∀ x ∈ B, light x = L.contains x) :
    dOf light (L.length : Int) (all.length : Int) B = ((transferDist L B all.length : Nat) : Int) := by
  unfold dOf edgeDist transferDist
  rw [onesOf_eq light L B hl]
  have h1 := length_diff_add_inter L B
  have h2 := length_diff_add_inter B L
  have h3 := inter_length_comm hL.nodup hB.nodup
  have h4 : symDiff L B ≤ all.length := symDiff_eq hall hL hB ▸ List.countP_le_length
  unfold symDiff at h4 ⊢
  simp only []
  split <;> omega

/-! ## `sameSplit all` is an equivalence on the subsets of `all` -/

theorem setEq_iff {a b : List String} : setEq a b = true ↔ (∀ x, x ∈ a ↔ x ∈ b) := by
  simp only [setEq, subset, Bool.and_eq_true, List.all_eq_true, List.contains_eq_mem, decide_eq_true_eq]
  exact ⟨fun ⟨h1, h2⟩ x => ⟨h1 x, h2 x⟩, fun h => ⟨fun x => (h x).1, fun x => (h x).2⟩⟩

theorem sameSplit_iff {all a b : List String} :
    sameSplit all a b = true ↔ (∀ x, x ∈ a ↔ x ∈ b) ∨ (∀ x, x ∈ a ↔ (x ∈ all ∧ x ∉ b)) := by
  unfold sameSplit
  rw [Bool.or_eq_true, setEq_iff, setEq_iff]
  simp only [← diff.eq_def, mem_diff]

theorem sameSplit_refl (all a : List String) : sameSplit all a a = true :=
  sameSplit_iff.2 (Or.inl fun _ => Iff.rfl)

/-- a set and its complement define the same split -/
theorem sameSplit_diff (all a : List String) : sameSplit all (diff all a) a = true :=
  sameSplit_iff.2 (Or.inr fun _ => mem_diff)

theorem sameSplit_symm {all a b : List String} (hb : ∀ x ∈ b, x ∈ all)
    (h : sameSplit all a b = true) : sameSplit all b a = true := by
  rw [sameSplit_iff] at h ⊢
  refine h.imp (fun h x => (h x).symm) fun h x => ⟨fun hxb => ⟨hb x hxb, fun hxa => ((h x).1 hxa).2 hxb⟩, ?_⟩
  rintro ⟨hall, hxa⟩
  exact Classical.byContradiction fun hxb => hxa ((h x).2 ⟨hall, hxb⟩)

theorem sameSplit_trans {all a b c : List String} (hc : ∀ x ∈ c, x ∈ all)
    (h₁ : sameSplit all a b = true) (h₂ : sameSplit all b c = true) : sameSplit all a c = true := by
  rw [sameSplit_iff] at h₁ h₂ ⊢
  rcases h₁ with h₁ | h₁ <;> rcases h₂ with h₂ | h₂
  · exact Or.inl fun x => (h₁ x).trans (h₂ x)
  · exact Or.inr fun x => (h₁ x).trans (h₂ x)
  · refine Or.inr fun x => (h₁ x).trans ?_
    rw [h₂ x]
  · refine Or.inl fun x => (h₁ x).trans ⟨fun ⟨ha, hnb⟩ => ?_, fun hxc => ⟨hc x hxc, fun hxb => ((h₂ x).1 hxb).2 hxc⟩⟩
    exact Classical.byContradiction fun hxc => hnb ((h₂ x).2 ⟨ha, hxc⟩)

theorem sameSplit_congr_all {all all' a c : List String} (h : ∀ x, x ∈ all ↔ x ∈ all') :
    sameSplit all a c = sameSplit all' a c := by
  rw [Bool.eq_iff_iff, sameSplit_iff, sameSplit_iff]
  simp only [h]

/-- on subsets of `all`: the same indicator on `all`, or opposite ones -/
theorem sameSplit_on {all a b : List String} (ha : ∀ x ∈ a, x ∈ all) (hb : ∀ x ∈ b, x ∈ all) :
    sameSplit all a b = true ↔
      (∀ x ∈ all, a.contains x = b.contains x) ∨ (∀ x ∈ all, a.contains x = !b.contains x) := by
  rw [sameSplit_iff]
  refine or_congr ⟨fun h x _ => by simpa using h x, fun h x => ?_⟩ ⟨fun h x hx => ?_, fun h x => ?_⟩
  · exact ⟨fun hx => by simpa [hx] using (h x (ha x hx)).symm, fun hx => by simpa [hx] using h x (hb x hx)⟩
  · have := h x; simp only [hx, true_and] at this
    by_cases hxb : x ∈ b <;> simp_all
  · constructor
    · intro hx; have := h x (ha x hx); exact ⟨ha x hx, by simp_all⟩
    · rintro ⟨hx, hxb⟩; have := h x hx; simpa [hxb] using this

/-- the two sides of a split have `|b|` and `n - |b|` elements -/
theorem sameSplit_length {all a b : List String} (hall : all.Nodup) (ha : Side all a) (hb : Side all b)
    (h : sameSplit all a b = true) : a.length = b.length ∨ a.length = all.length - b.length := by
  rw [ha.length_eq hall, hb.length_eq hall]
  refine ((sameSplit_on ha.sub hb.sub).1 h).imp (fun h => List.countP_congr fun x hx => by rw [h x hx])
    fun h => ?_
  rw [← countP_not]
  exact List.countP_congr fun x hx => by rw [h x hx]

/-! ## the transfer distance and the bipartitions -/

theorem transferDist_comm (a b : List String) (n : Nat) : transferDist a b n = transferDist b a n := by
  unfold transferDist symDiff; rw [Nat.add_comm]

/-- a zero transfer distance is the same bipartition: the sets differ nowhere, or everywhere -/
theorem transferDist_eq_zero_iff {all L B : List String} (hall : all.Nodup) (hL : Side all L) (hB : Side all B) :
    transferDist L B all.length = 0 ↔ sameSplit all L B = true := by
  have hle := List.countP_le_length (p := fun x => L.contains x != B.contains x) (l := all)
  rw [sameSplit_on hL.sub hB.sub, transferDist, symDiff_eq hall hL hB]
  have h0 := List.countP_eq_zero (p := fun x => L.contains x != B.contains x) (l := all)
  have hn := List.countP_eq_length (p := fun x => L.contains x != B.contains x) (l := all)
  simp only [bne_iff_ne, ne_eq, Decidable.not_not] at h0 hn
  rw [← h0, ← hn.trans (forall₂_congr fun x _ => (Bool.eq_not (a := L.contains x) (b := B.contains x)).symm)]
  omega

/-- the transfer distance depends on the bootstrap branch through its split: complementing it
    turns `|L △ B|` into `n - |L △ B|` -/
theorem transferDist_congr {all L B B' : List String} (hall : all.Nodup) (hL : Side all L) (hB : Side all B)
    (hB' : Side all B') (h : sameSplit all B B' = true) :
    transferDist L B all.length = transferDist L B' all.length := by
  have hle := List.countP_le_length (p := fun x => L.contains x != B'.contains x) (l := all)
  unfold transferDist
  rw [symDiff_eq hall hL hB, symDiff_eq hall hL hB']
  rcases (sameSplit_on hB.sub hB'.sub).1 h with h | h
  · rw [List.countP_congr fun x hx => by rw [h x hx]]
  · rw [List.countP_congr (q := fun x => !(L.contains x != B'.contains x)) fun x hx => by
      rw [h x hx]; cases L.contains x <;> cases B'.contains x <;> rfl, countP_not]
    omega

theorem transferDist_congr_left {all L L' B : List String} (hall : all.Nodup) (hL : Side all L)
    (hL' : Side all L') (hB : Side all B) (h : sameSplit all L L' = true) :
    transferDist L B all.length = transferDist L' B all.length := by
  rw [transferDist_comm L, transferDist_comm L']
  exact transferDist_congr hall hB hL hL' h

/-- the tip branch of a taxon of `L` is at distance `|L| - 1` -/
theorem transferDist_tip {L : List String} (hL : L.Nodup) (x : String) (hx : x ∈ L) (n : Nat) :
    transferDist L [x] n ≤ L.length - 1 := by
  unfold transferDist symDiff
  have h1 := length_diff_add_inter L [x]
  have h2 := inter_length_comm hL (List.nodup_cons.2 ⟨by simp, List.nodup_nil⟩ : [x].Nodup)
  have h3 : (inter [x] L).length = 1 := by simp [inter, hx]
  have h4 : diff [x] L = [] := by simp [diff, hx]
  rw [h4]
  simp only [List.length_nil, Nat.add_zero]
  omega

/-! ## the light side of a reference branch, its size -/

section light
variable {all below : List String}

theorem Side.lightSide (ha : all.Nodup) (hb : Side all below) : Side all (lightSide all below) := by
  unfold C10.lightSide; split
  · exact Side.diff _ ha
  · exact hb

theorem lightSide_length (ha : all.Nodup) (hb : Side all below) :
    (lightSide all below).length = depth all below := by
  have hle := hb.length_le
  unfold lightSide depth; split
  · rw [length_diff_of_subset ha hb]; omega
  · omega

theorem lightOf_eq (s : SplitE) (x : String) (hx : x ∈ all) :
    lightOf all.length s x = (lightSide all s.below).contains x := by
  unfold lightOf lightSide
  simp only []
  split
  · have : (diff all s.below).contains x = !s.below.contains x := by
      by_cases h : x ∈ s.below <;> simp [diff, h, hx]
    rw [this]
  · rfl

/-- the split of the light side is the split of the branch -/
theorem sameSplit_lightSide_self (all below : List String) :
    sameSplit all (lightSide all below) below = true := by
  unfold lightSide; split
  · exact sameSplit_diff all below
  · exact sameSplit_refl all below

theorem sameSplit_lightSide (B : List String) (hs : ∀ x ∈ below, x ∈ all) (hB : ∀ x ∈ B, x ∈ all) :
    sameSplit all (lightSide all below) B = sameSplit all below B := by
  have hl := sameSplit_lightSide_self all below
  rw [Bool.eq_iff_iff]
  exact ⟨sameSplit_trans hB (sameSplit_symm hs hl), sameSplit_trans hB hl⟩

end light

theorem depth_le_left (all below : List String) : depth all below ≤ below.length := by
  unfold depth; omega

theorem depth_of_sameSplit {all a a' : List String} (hall : all.Nodup) (ha : Side all a) (ha' : Side all a')
    (h : sameSplit all a a' = true) : depth all a = depth all a' := by
  have l1 := ha.length_le
  have l2 := ha'.length_le
  unfold depth
  rcases sameSplit_length hall ha ha' h with e | e <;> omega

/-- `Edge.TopoDepth()` above 1 is the size of the light side, at least 2 -/
theorem topoDepth_gt_one_iff {all : List String} {s : SplitE} :
    1 < topoDepth all.length s ↔ 2 ≤ depth all s.below := by
  unfold topoDepth depth
  simp only [Bool.or_eq_true, beq_iff_eq]
  split <;> omega

theorem topoDepth_eq_depth {all : List String} {s : SplitE} (h : 2 ≤ depth all s.below) :
    topoDepth all.length s = ((depth all s.below : Nat) : Int) := by
  unfold topoDepth depth at *
  simp only [Bool.or_eq_true, beq_iff_eq]
  split <;> omega

/-- a non-trivial split is never the split of a tip branch -/
theorem not_tip_of_sameSplit {all below B : List String} (ha : all.Nodup) (hb : Side all below)
    (hB : Side all B) (h2 : 2 ≤ depth all below) (h1 : B.length = 1)
    (h : sameSplit all below B = true) : False := by
  have := hB.length_le
  unfold depth at h2
  rcases sameSplit_length ha hb hB h with e | e <;> omega

/-! ## folds of `min` over natural numbers -/

theorem foldl_min_cast (l : List Nat) (a : Nat) :
    ((l.foldl min a : Nat) : Int) = (l.map fun (x : Nat) => ((x : Nat) : Int)).foldl min (a : Int) := by
  induction l generalizing a with
  | nil => rfl
  | cons x l ih =>
    simp only [List.foldl_cons, List.map_cons]
    rw [ih]
    congr 1
    omega

/-- the fold is below its start value and the elements, and is one of them -/
theorem foldl_min_spec (l : List Nat) (a : Nat) :
    l.foldl min a ≤ a ∧ (∀ x ∈ l, l.foldl min a ≤ x) ∧ (l.foldl min a = a ∨ l.foldl min a ∈ l) := by
  induction l generalizing a with
  | nil => simp
  | cons y l ih =>
    obtain ⟨h1, h2, h3⟩ := ih (min a y)
    simp only [List.foldl_cons, List.mem_cons, forall_eq_or_imp]
    refine ⟨by omega, ⟨by omega, h2⟩, ?_⟩
    rcases h3 with h | h
    · rw [h]; rcases Nat.le_total a y with hy | hy
      · exact Or.inl (by omega)
      · exact Or.inr (Or.inl (by omega))
    · exact Or.inr (Or.inr h)

theorem foldl_min_le_of (l l' : List Nat) (a : Nat) (h : ∀ x ∈ l, ∃ y ∈ l', y ≤ x) :
    l'.foldl min a ≤ l.foldl min a := by
  obtain ⟨h1, h2, _⟩ := foldl_min_spec l' a
  rcases (foldl_min_spec l a).2.2 with e | e
  · rw [e]; exact h1
  · obtain ⟨y, hy, hyx⟩ := h _ e
    exact Nat.le_trans (h2 y hy) hyx

/-- a start value that some element undercuts can be dropped -/
theorem foldl_min_cap (a x : Nat) (xs : List Nat) (h : ∃ y ∈ x :: xs, y ≤ a) :
    (x :: xs).foldl min a = xs.foldl min x := by
  obtain ⟨p1, p2, p3⟩ := foldl_min_spec xs x
  obtain ⟨q1, q2, q3⟩ := foldl_min_spec (x :: xs) a
  have key : ∀ y ∈ x :: xs, xs.foldl min x ≤ y := fun y hy =>
    (List.mem_cons.1 hy).elim (fun e => e ▸ p1) (p2 y)
  apply Nat.le_antisymm
  · rcases p3 with e | e
    · rw [e]; exact q2 x (List.mem_cons_self ..)
    · exact q2 _ (List.mem_cons_of_mem _ e)
  · rcases q3 with e | e
    · obtain ⟨y, hy, hya⟩ := h
      rw [e]; exact Nat.le_trans (key y hy) hya
    · exact key _ e

/-! ## the split list of a tree with unique tips -/

theorem below_nodup : ∀ (t : T), t.leaves.Nodup → ∀ s ∈ t.splitsBelow, s.below.Nodup :=
  fun t h s hs => Gotree.below_nodup (h.sublist t.leavesL_kids_sublist) s (t.splitsBelow_eq ▸ hs)

theorem tip_belowL (k : Kids) : ∀ s ∈ splitsL k, s.tip = true → s.below.length = 1 :=
  fun s hs ht => List.length_eq_one_iff.2 (below_of_tip k s hs ht)

/- a tip entry has one leaf below -/
theorem tip_below : ∀ (t : T), ∀ s ∈ t.splitsBelow, s.tip = true → s.below.length = 1 :=
  fun t s hs => tip_belowL t.kids s (t.splitsBelow_eq ▸ hs)

/- every tip has its entry -/
theorem exists_tip_entry : ∀ (t : T), ∀ x ∈ t.leaves, t.kids ≠ [] → ∃ s ∈ t.splitsBelow, s.below = [x] :=
  fun t x hx hk => by
    obtain ⟨s, hs, _, h⟩ := Gotree.exists_tip_entry t.kids x (T.leaves_of_kids_ne hk ▸ hx)
    exact ⟨s, t.splitsBelow_eq ▸ hs, h⟩

/-- what `treeOK` gives: unique tips, at least one, the root not a tip, every branch a set of taxa -/
structure TreeFacts (t : T) : Prop where
  nodup : t.tipNames.Nodup
  ne_nil : t.tipNames ≠ []
  root : t.kids.length ≠ 1
  tips : t.tipNames = leavesL t.kids
  side : ∀ s ∈ t.splits, Side t.tipNames s.below

theorem treeOK_iff {t : T} : treeOK t = true ↔ t.tipNames.Nodup ∧ t.tipNames ≠ [] ∧ t.kids.length ≠ 1 := by
  simp [treeOK, reinitOk, and_assoc]

theorem treeOK_facts (t : T) (h : treeOK t = true) : TreeFacts t := by
  obtain ⟨hn, hne, hr⟩ := treeOK_iff.1 h
  have ht := T.tipNames_of_ne_one hr
  refine ⟨hn, hne, hr, ht, fun s hs => ?_⟩
  rw [ht] at hn ⊢
  exact ⟨Gotree.below_nodup hn s hs, fun x hx => (below_sublist_leavesL t.kids s hs).subset hx⟩

theorem reinitOk_of_treeOK {t : T} (h : treeOK t = true) : reinitOk t = true := by
  simp only [treeOK, Bool.and_eq_true] at h; exact h.1

theorem sameTaxa_iff {r b : T} : sameTaxa r b = true ↔ ∀ x, x ∈ r.tipNames ↔ x ∈ b.tipNames := setEq_iff

/-- the branches of a tree on the taxa of `r` are sets of taxa of `r` -/
theorem sides_of_sameTaxa {r b : T} (hb : treeOK b = true) (hT : sameTaxa r b = true) :
    ∀ s ∈ b.splits, Side r.tipNames s.below := fun s hs =>
  ((treeOK_facts b hb).side s hs).congr fun x => (sameTaxa_iff.1 hT x).symm

theorem hypOK_facts {r : T} {bs : List T} (h : hypOK r bs = true) :
    treeOK r = true ∧ bs ≠ [] ∧ ∀ b ∈ bs, treeOK b = true ∧ sameTaxa r b = true := by
  simp only [hypOK, Bool.and_eq_true, Bool.not_eq_true', List.isEmpty_eq_false_iff,
    List.all_eq_true] at h
  exact ⟨h.1.1, h.1.2, h.2⟩

theorem hypOK_of {r : T} {bs : List T} (hr : treeOK r = true) (hne : bs ≠ [])
    (hb : ∀ b ∈ bs, treeOK b = true ∧ sameTaxa r b = true) : hypOK r bs = true := by
  simp only [hypOK, Bool.and_eq_true, Bool.not_eq_true', List.isEmpty_eq_false_iff, List.all_eq_true]
  exact ⟨⟨hr, hne⟩, hb⟩

/-! ## acceptance by `ReinitIndexes` / `CompareTipIndexes` -/

theorem accepts_of_hyp {r b : T} (hr : treeOK r = true) (hb : treeOK b = true)
    (hT : sameTaxa r b = true) : reinitOk b = true ∧ compareTips r b = true := by
  have fr := treeOK_facts r hr
  have fb := treeOK_facts b hb
  have hT' := sameTaxa_iff.1 hT
  have hlen := length_eq_of_mem_iff fr.nodup fb.nodup hT'
  have hr0 : r.tipNames.length ≠ 0 := fun h => fr.ne_nil (List.eq_nil_of_length_eq_zero h)
  refine ⟨reinitOk_of_treeOK hb, ?_⟩
  simp only [compareTips, Bool.and_eq_true, bne_iff_ne, ne_eq, beq_iff_eq, List.all_eq_true,
    List.contains_eq_mem, decide_eq_true_eq]
  exact ⟨⟨⟨hr0, by omega⟩, hlen⟩, fun x hx => (hT' x).1 hx⟩

theorem sameTaxa_of_compareTips {r b : T} (hr : r.tipNames.Nodup) (h : compareTips r b = true) : sameTaxa r b = true := by
  simp only [compareTips, Bool.and_eq_true, bne_iff_ne, ne_eq, beq_iff_eq, List.all_eq_true,
    List.contains_eq_mem, decide_eq_true_eq] at h
  obtain ⟨⟨_, hl⟩, hs⟩ := h
  exact sameTaxa_iff.2 fun x => ⟨hs x, subset_of_nodup_length_le hr hs (by omega) x⟩

/-! ## trees with the same set of splits -/

/-- every split of `l` is defined by some entry of `l'` -/
def SubSplits (all : List String) (l l' : List SplitE) : Prop :=
  ∀ s ∈ l, ∃ s' ∈ l', sameSplit all s.below s'.below = true

theorem splitsEquiv_iff {all : List String} {b b' : T} :
    splitsEquiv all b b' = true ↔ SubSplits all b.splits b'.splits ∧ SubSplits all b'.splits b.splits := by
  simp [splitsEquiv, SubSplits, List.all_eq_true, List.any_eq_true]

theorem SubSplits.of_subset {all : List String} {l l' : List SplitE} (h : ∀ s ∈ l, s ∈ l') : SubSplits all l l' :=
  fun s hs => ⟨s, h s hs, sameSplit_refl _ _⟩

theorem SubSplits.perm {all : List String} {l l' l₁ l₁' : List SplitE} (h : SubSplits all l l')
    (p : l₁.Perm l) (p' : l₁'.Perm l') : SubSplits all l₁ l₁' := fun s hs =>
  (h s (p.mem_iff.1 hs)).imp fun _ ⟨hs', e⟩ => ⟨p'.mem_iff.2 hs', e⟩

/-- one more entry on the left, matched on the right -/
theorem SubSplits.cons {all : List String} {l l' : List SplitE} {x y : SplitE} (h : SubSplits all l l')
    (hy : y ∈ l') (hxy : sameSplit all x.below y.below = true) : SubSplits all (x :: l) l' := fun s hs =>
  (List.mem_cons.1 hs).elim (fun e => ⟨y, hy, e ▸ hxy⟩) (h s)

theorem SubSplits.trans {all : List String} {a b c : List SplitE} (hc : ∀ s ∈ c, ∀ x ∈ s.below, x ∈ all)
    (h₁ : SubSplits all a b) (h₂ : SubSplits all b c) : SubSplits all a c := fun s hs => by
  obtain ⟨s', hs', e1⟩ := h₁ s hs
  obtain ⟨s'', hs'', e2⟩ := h₂ s' hs'
  exact ⟨s'', hs'', sameSplit_trans (hc s'' hs'') e1 e2⟩

theorem SubSplits.congr_all {all all' : List String} {l l' : List SplitE} (h : ∀ x, x ∈ all ↔ x ∈ all')
    (hs : SubSplits all l l') : SubSplits all' l l' := fun s m =>
  (hs s m).imp fun _ ⟨m', e⟩ => ⟨m', sameSplit_congr_all h ▸ e⟩

theorem splitsEquiv_congr_all {all all' : List String} (b b' : T) (h : ∀ x, x ∈ all ↔ x ∈ all') :
    splitsEquiv all b b' = splitsEquiv all' b b' := by
  unfold splitsEquiv
  simp only [sameSplit_congr_all h]

theorem splitsEquiv_refl (all : List String) (b : T) : splitsEquiv all b b = true :=
  splitsEquiv_iff.2 ⟨.of_subset fun _ => id, .of_subset fun _ => id⟩

theorem splitsEquiv_comm (all : List String) (a b : T) : splitsEquiv all a b = splitsEquiv all b a := by
  unfold splitsEquiv; exact Bool.and_comm _ _

end Gotree.C10

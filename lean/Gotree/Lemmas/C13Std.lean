/-
  C13 — gotree's Nexus reader on the standard-form documents of `Model/C13Std.lean`.
-/
import Gotree.Model.C13Std
import Gotree.Lemmas.C13Tips
import Gotree.Lemmas.C13Foreign

namespace Gotree.C13
open Gotree
open Nex

theorem stdMap_eq (k : Nat) (ls : List String) : stdMap k ls = mapFrom k ls := by
  induction ls generalizing k with
  | nil => rfl
  | cons l r ih => simp [stdMap, mapFrom, ih]

/- ## scanning -/

theorem scan_stdSep (X : Txt) : scanGo (stdSep ++ X) none = scanGo X none :=
  scanGo_chunk (toks := []) (by decide +kernel) (by decide +kernel) X

/-- a word is accumulated; what follows decides where it ends -/
theorem scanGo_word_cur (w : Txt) (hw : isWord w) (r : Txt) : scanGo (w ++ r) none = scanGo r (some w.reverse) := by
  obtain ⟨c, w', rfl⟩ := List.exists_cons_of_ne_nil hw.1
  have hc := hw.2 c (by simp)
  rw [List.cons_append, scanGo_cons c (isIdent_ne_cr hc), hc]
  simp only [if_true, Option.getD_none]
  rw [scanGo_idents w' (fun x hx => hw.2 x (by simp [hx]))]
  simp

theorem flush_word (l : String) : flush (some l.toList.reverse) = [classify l] := by
  simp [flush]

/-- the label list, one label per line, up to the line end before the ';'.  Every line begins with a
    line end, so the statement holds with a word pending (the keyword before the list, the label
    before the next line) and the induction needs no look-ahead. -/
theorem scan_stdLabels (ls : List String) (h : ∀ l ∈ ls, tokLabel l) (rest : Txt) (cur : Option Txt) :
    scanGo (stdLabels ls ++ '\n' :: rest) cur =
      flush cur ++ (ls.flatMap (fun l => [.eol, classify l]) ++ .eol :: scanGo rest none) := by
  induction ls generalizing cur with
  | nil =>
    rw [stdLabels, List.nil_append, scanGo_sep '\n' (by decide)]
    rfl
  | cons l r ih =>
    simp only [stdLabels, List.cons_append, List.append_assoc, List.flatMap_cons]
    rw [scanGo_sep '\n' (by decide), scan_stdSep, scanGo_word_cur _ (h l (by simp)).1,
      ih (fun x hx => h x (by simp [hx])), flush_word]
    rfl

def stdTrToks (m : List (String × String)) : List String → List Tok
  | [] => []
  | [l] => [.eol, classify (idxOf m l), classify l]
  | l :: r => .eol :: classify (idxOf m l) :: classify l :: .comma :: stdTrToks m r

theorem stdTrLines_eq (m : List (String × String)) (l : String) (r : List String) :
    stdTrLines m (l :: r) = '\n' :: (stdSep ++ ((idxOf m l).toList ++ ' ' :: (l.toList ++
      (match r with | [] => [] | _ :: _ => ',' :: stdTrLines m r)))) := by
  cases r <;> simp only [stdTrLines, idxOf, List.append_nil] <;> cases lookup m l <;> rfl

theorem scan_stdTrLines (m : List (String × String)) (ls : List String)
    (h : ∀ l ∈ ls, tokLabel l ∧ tokLabel (idxOf m l)) (rest : Txt) (cur : Option Txt) :
    scanGo (stdTrLines m ls ++ '\n' :: rest) cur = flush cur ++ (stdTrToks m ls ++ .eol :: scanGo rest none) := by
  induction ls generalizing cur with
  | nil =>
    rw [stdTrLines, List.nil_append, scanGo_sep '\n' (by decide)]
    rfl
  | cons l r ih =>
    obtain ⟨h1, h2⟩ := h l (by simp)
    have ih' := ih (fun x hx => h x (by simp [hx]))
    rw [stdTrLines_eq]
    simp only [List.cons_append, List.append_assoc]
    rw [scanGo_sep '\n' (by decide), scan_stdSep, scanGo_word _ h2.1 ' ' (by decide), scanGo_word_cur _ h1.1]
    cases r with
    | nil =>
      have := ih' (some l.toList.reverse)
      simp only [stdTrLines, List.nil_append, stdTrToks] at this ⊢
      rw [this, flush_word]
      simp [sepToks, isWs]
    | cons a b =>
      simp only [List.cons_append, stdTrToks]
      rw [scanGo_sep ',' (by decide), ih', flush_word]
      simp [flush, sepToks, isWs]

/-- a TREE command with a rooting comment: name, `=`, `[&U]`, the tree text, the line end -/
def stdCmdToks (name : String) (btoks : List Tok) : List Tok :=
  [.kw .tree "tree", classify name, .equal, .openbrack, .ident "&U", .closebrack] ++ btoks ++ [.eol]

def stdCmdsToks (cs : List Cmd) : List Tok := cs.flatMap fun c => stdCmdToks c.name c.btoks

theorem scan_stdTreeLines (C : NewickCodec) (m : List (String × String)) (i : Nat) (ts : List T)
    (h : ∀ t ∈ ts, ∃ body, C.write (renameT m t) = body ++ [';'] ∧ ∀ c ∈ body, c ≠ '\r') (rest : Txt) :
    scanGo (stdTreeLines C m i ts ++ rest) none =
      stdCmdsToks (((enumFrom i ts).map fun it => (it.1, renameT m it.2)).map (cmdOf C)) ++ scanGo rest none := by
  induction ts generalizing i with
  | nil => simp [stdCmdsToks, stdTreeLines, enumFrom]
  | cons t r ih =>
    obtain ⟨body, hb, hcr⟩ := h t (by simp)
    have e : stdTreeLines C m i (t :: r) ++ rest =
        stdTree ++ ((litTree2 ++ natTxt i) ++ ' ' :: (stdEq ++ (body ++ ';' :: ('\n' :: (stdTreeLines C m (i + 1) r ++ rest))))) := by
      simp only [stdTreeLines, hb, List.append_assoc, List.cons_append, List.nil_append]
    have hw : isWord (litTree2 ++ natTxt i) := by
      refine ⟨by simp [litTree2], ?_⟩
      intro c hc
      have ht : ∀ c ∈ litTree2, isIdent c = true := by decide
      rcases List.mem_append.1 hc with h | h
      · exact ht c h
      · exact (natTxt_word i).2 c h
    rw [e, scanGo_chunk (toks := [.kw .tree "tree"]) (by decide +kernel) (by decide +kernel),
      scanGo_word _ hw ' ' (by decide),
      scanGo_chunk (toks := [.equal, .openbrack, .ident "&U", .closebrack]) (by decide +kernel) (by decide +kernel),
      scanGo_append body ';' (by decide) hcr, scanGo_sep '\n' (by decide), ofList_tree_nat,
      ih (i + 1) (fun x hx => h x (by simp [hx]))]
    simp [stdCmdToks, stdCmdsToks, cmdOf, enumFrom, hb, sepToks, isWs, flush]

def stdTaxaToks (nS : String) (labels : List String) : List Tok :=
  [.eol, .kw .dimensions "dimensions", .kw .ntax "ntax", .equal, .numeric nS, .endcmd, .eol, .kw .taxlabels "taxlabels"] ++
  labels.flatMap (fun l => [.eol, classify l]) ++ [.eol, .endcmd, .eol, .kw .end_ "end", .endcmd]

/-- the tokens of the standard-form document after `#NEXUS` -/
def stdDocToks (nS : String) (labels : List String) (m : List (String × String)) (cs : List Cmd) : List Tok :=
  [.eol, .kw .begin_ "begin", .kw .taxa "taxa", .endcmd] ++ stdTaxaToks nS labels ++
  [.eol, .eol, .kw .begin_ "begin", .kw .trees "trees", .endcmd, .eol, .kw .translate "translate"] ++
  stdTrToks m labels ++ [.eol, .endcmd, .eol] ++ stdCmdsToks cs ++ [.kw .end_ "end", .endcmd, .eol]

theorem scan_stdDoc (C : NewickCodec) (labels : List String) (ts : List T)
    (hn : labels.length ≤ 9223372036854775807)
    (hl : ∀ l ∈ labels, tokLabel l ∧ tokLabel (idxOf (stdMap 1 labels) l))
    (h : ∀ t ∈ ts, ∃ body, C.write (renameT (stdMap 1 labels) t) = body ++ [';'] ∧ ∀ c ∈ body, c ≠ '\r') :
    scan (writeNexusStd C labels ts) =
      .kw .nexus "#NEXUS" :: stdDocToks (toString labels.length) labels (stdMap 1 labels)
        (((enumFrom 1 ts).map fun it => (it.1, renameT (stdMap 1 labels) it.2)).map (cmdOf C)) := by
  unfold scan writeNexusStd
  rw [scanGo_chunk (toks := [.kw .nexus "#NEXUS", .eol, .kw .begin_ "begin", .kw .taxa "taxa", .endcmd, .eol,
      .kw .dimensions "dimensions", .kw .ntax "ntax", .equal]) (by decide +kernel) (by decide +kernel),
    scanGo_word _ (natTxt_word _) ';' (by decide), classify_natTxt _ hn,
    scanGo_chunk (toks := [.eol]) (by decide +kernel) (by decide +kernel),
    scanGo_word_cur _ ⟨by decide, by decide⟩, scan_stdLabels _ (fun l hl' => (hl l hl').1),
    (by decide : flush (some stdTaxlabels.reverse) = [.kw .taxlabels "taxlabels"]), scanGo_sep ';' (by decide),
    scanGo_chunk (toks := [.eol, .kw .end_ "end", .endcmd, .eol, .eol, .kw .begin_ "begin", .kw .trees "trees",
      .endcmd, .eol]) (by decide +kernel) (by decide +kernel),
    scanGo_word_cur _ ⟨by decide, by decide⟩, scan_stdTrLines _ _ hl,
    (by decide : flush (some stdTranslate.reverse) = [.kw .translate "translate"]), scanGo_sep ';' (by decide),
    scanGo_chunk (toks := [.eol]) (by decide +kernel) (by decide +kernel), scan_stdTreeLines C _ 1 ts h,
    (by decide +kernel : scanGo stdE none = [.kw .end_ "end", .endcmd, .eol])]
  simp [stdDocToks, stdTaxaToks, sepToks, isWs, flush]

/- ## parsing -/

theorem parseTaxlabels_std (ls : List String) (h : ∀ l ∈ ls, keywordOf l = none) (acc : List String) (rest : List Tok) :
    parseTaxlabels (ls.flatMap (fun l => [.eol, classify l]) ++ .eol :: .endcmd :: rest) acc =
      .ok (ls.foldl insertLabel acc, rest) := by
  induction ls generalizing acc with
  | nil => simp [parseTaxlabels]
  | cons l ls ih =>
    have ih' := fun acc => ih (fun x hx => h x (by simp [hx])) acc
    simp only [List.flatMap_cons, List.cons_append, List.nil_append, List.foldl_cons]
    rcases classify_cases l (h l (by simp)) with e | e <;>
      (rw [e]; simp only [parseTaxlabels]; exact ih' _)

theorem parseTaxa_std (f : Nat) (nS : String) (labels : List String) (h : ∀ l ∈ labels, keywordOf l = none)
    (rest : List Tok) :
    parseTaxa (f + 6) (stdTaxaToks nS labels ++ rest) (-1) [] =
      .ok ((intVal nS, labels.foldl insertLabel []), rest) := by
  simp only [stdTaxaToks, List.cons_append, List.nil_append, List.append_assoc]
  simp only [parseTaxa, parseDims]
  rw [parseTaxlabels_std labels h]

theorem parseTransl_std (m : List (String × String)) (ls : List String)
    (h : ∀ l ∈ ls, keywordOf l = none ∧ keywordOf (idxOf m l) = none) (acc : List (String × String)) (rest : List Tok) :
    parseTransl (stdTrToks m ls ++ .eol :: .endcmd :: rest) acc = .ok (tableOf m ls acc, rest) := by
  induction ls generalizing acc with
  | nil => simp [parseTransl, tableOf, stdTrToks]
  | cons l ls ih =>
    obtain ⟨h1, h2⟩ := h l (by simp)
    have ih' := ih (fun x hx => h x (by simp [hx]))
    cases ls with
    | nil =>
      simp only [stdTrToks, List.cons_append, List.nil_append, tableOf, List.foldl_cons, List.foldl_nil]
      rcases classify_cases _ h2 with e2 | e2 <;> rcases classify_cases _ h1 with e1 | e1 <;>
        (rw [e1, e2]; simp [parseTransl, Tok.name?])
    | cons l' ls' =>
      simp only [stdTrToks, List.cons_append, tableOf, List.foldl_cons] at ih' ⊢
      rcases classify_cases _ h2 with e2 | e2 <;> rcases classify_cases _ h1 with e1 | e1 <;>
        (rw [e1, e2]; simp only [parseTransl, Tok.name?]; exact ih' _)

theorem parseTreeStr_head (l : List Tok) (acc s : Txt) (r : List Tok) (h : parseTreeStr l acc = .ok (s, r)) :
    dropEol l = l := by
  cases l with
  | nil => rfl
  | cons t r' => cases t <;> first | rfl | (simp [parseTreeStr] at h)

theorem parseTrees_stdcmd (f : Nat) (name : String) (btoks : List Tok) (body : Txt) (rest : List Tok) (a : TreesAcc)
    (hn : keywordOf name = none) (hb : parseTreeStr btoks [] = .ok (body, [])) :
    parseTrees (f + 2) (stdCmdToks name btoks ++ rest) a =
      parseTrees f rest { a with trees := a.trees ++ [(name, body)] } := by
  have hp := parseTreeStr_append btoks [] body (.eol :: rest) hb
  have hd : dropEol (btoks ++ .eol :: rest) = btoks ++ .eol :: rest :=
    parseTreeStr_head _ _ _ _ hp
  have hs : skipComment (.ident "&U" :: .closebrack :: (btoks ++ .eol :: rest)) = some (btoks ++ .eol :: rest) :=
    skipComment_spec [.ident "&U"] _ (by simp)
  simp only [stdCmdToks, List.cons_append, List.nil_append, List.append_assoc]
  rw [parseTrees]
  simp only [classify_name name hn, hs, Option.map_some, hd, hp]
  rw [parseTrees]

theorem parseTrees_stdcmds (cs : List Cmd) (h : ∀ c ∈ cs, c.ok) (f : Nat) (rest : List Tok) (a : TreesAcc) :
    parseTrees (f + 2 * cs.length) (stdCmdsToks cs ++ rest) a =
      parseTrees f rest { a with trees := a.trees ++ cs.map fun c => (c.name, c.body) } := by
  induction cs generalizing a with
  | nil => simp [stdCmdsToks]
  | cons c cs ih =>
    obtain ⟨h1, h2, _⟩ := h c (by simp)
    have e : f + 2 * (c :: cs).length = (f + 2 * cs.length) + 2 := by simp; omega
    rw [e]
    simp only [stdCmdsToks, List.flatMap_cons, List.append_assoc]
    rw [parseTrees_stdcmd _ c.name c.btoks c.body _ a h1 h2]
    have := ih (fun x hx => h x (by simp [hx])) { a with trees := a.trees ++ [(c.name, c.body)] }
    simp only [stdCmdsToks] at this
    rw [this]
    simp

theorem parseTrees_std (m : List (String × String)) (labels : List String)
    (hl : ∀ l ∈ labels, keywordOf l = none ∧ keywordOf (idxOf m l) = none)
    (cs : List Cmd) (h : ∀ c ∈ cs, c.ok) (f : Nat) (hf : 2 * cs.length + 4 ≤ f)
    (rest : List Tok) (a : TreesAcc) :
    parseTrees f (.eol :: .kw .translate "translate" :: (stdTrToks m labels ++
        .eol :: .endcmd :: .eol :: (stdCmdsToks cs ++ .kw .end_ "end" :: .endcmd :: rest))) a =
      .ok ({ trees := a.trees ++ cs.map fun c => (c.name, c.body), transl := some (tableOf m labels []) }, rest) := by
  obtain ⟨g, rfl⟩ : ∃ g, f = (((g + 1 + 2 * cs.length) + 1) + 1) + 1 := ⟨f - (2 * cs.length + 4), by omega⟩
  rw [parseTrees, parseTrees]
  rw [parseTransl_std m labels hl]
  simp only []
  rw [parseTrees]
  rw [parseTrees_stdcmds cs h (g + 1)]
  rw [parseTrees]

theorem parseLoop_stdDoc (nS : String) (labels : List String) (m : List (String × String)) (cs : List Cmd)
    (hl : ∀ l ∈ labels, keywordOf l = none ∧ keywordOf (idxOf m l) = none) (hc : ∀ c ∈ cs, c.ok)
    (f : Nat) (hf : 2 * cs.length + 13 ≤ f) :
    parseLoop f (stdDocToks nS labels m cs) {} =
      .ok { ntax := intVal nS, taxlabels := some (labels.foldl insertLabel []),
            trees := some (cs.map fun c => (c.name, c.body)), transl := some (tableOf m labels []) } := by
  obtain ⟨g, rfl⟩ : ∃ g, f = g + 2 * cs.length + 13 := ⟨f - (2 * cs.length + 13), by omega⟩
  simp only [stdDocToks, List.cons_append, List.nil_append, List.append_assoc]
  rw [parseLoop, parseLoop]
  simp only []
  have e1 : g + 2 * cs.length + 11 = (g + 2 * cs.length + 5) + 6 := by omega
  rw [e1, parseTaxa_std _ nS labels (fun l h => (hl l h).1)]
  simp only []
  rw [parseLoop, parseLoop, parseLoop]
  simp only []
  rw [parseTrees_std m labels hl cs hc _ (by omega)]
  simp only [List.nil_append]
  rw [parseLoop, parseLoop]
  simp

/- ## the whole document -/

theorem stdTrToks_noCR (m : List (String × String)) (ls : List String) : Tok.loneCR ∉ stdTrToks m ls := by
  have hc : ∀ s, Tok.loneCR ≠ classify s := fun s h => classify_ne_loneCR s h.symm
  induction ls with
  | nil => simp [stdTrToks]
  | cons l r ih => cases r <;> simp_all [stdTrToks]

theorem stdCmdsToks_length (cs : List Cmd) : 2 * cs.length ≤ (stdCmdsToks cs).length := by
  induction cs with
  | nil => simp [stdCmdsToks]
  | cons c cs ih =>
    simp only [stdCmdsToks, List.flatMap_cons, List.length_append, List.length_cons, stdCmdToks] at ih ⊢
    omega

/-- gotree's Nexus reader on a standard-form document: every tree comes back -/
theorem parse_std (C : NewickCodec) (L : NewickLaws C) (labels : List String) (ts : List T)
    (hn : labels.length ≤ 9223372036854775807)
    (hlab : ∀ l ∈ labels, labelOK l = true)
    (hnd : hasDup labels = false)
    (hset : ∀ t ∈ ts, sameSet t.tipNames labels = true)
    (htnd : ∀ t ∈ ts, hasDup t.tipNames = false)
    (hnames : ∀ t ∈ ts, namesOK t = true)
    (hw : ∀ t ∈ ts, L.wf (renameT (stdMap 1 labels) t) = true)
    (hs : ∀ t ∈ ts, treeTextOK (C.write (renameT (stdMap 1 labels) t)) = true) :
    ∃ d, Nex.parse C (writeNexusStd C labels ts) = .ok d ∧ recsAre ts (recsOfTrees (d.map (·.2)) 0) 0 = true := by
  rw [stdMap_eq] at hw hs
  have hN : labels.Nodup := (hasDup_false_iff _).1 hnd
  have hne : ∀ x ∈ labels, x ≠ "" := fun x hx he => by simpa [he, labelOK] using hlab x hx
  have hmem : ∀ t ∈ ts, ∀ x, x ∈ t.tipNames ↔ x ∈ labels := by
    intro t ht x
    have := hset t ht
    simp only [sameSet, Bool.and_eq_true, List.all_eq_true, List.contains_iff_mem] at this
    exact ⟨this.1 x, this.2 x⟩
  have hl : ∀ l ∈ labels, tokLabel l ∧ tokLabel (idxOf (mapFrom 1 labels) l) :=
    fun l hl' => tokLabel_idx 1 labels l hl' (hlab l hl')
  have hper : ∀ t ∈ ts, renameChecked (tableOf (mapFrom 1 labels) labels []) (renameT (mapFrom 1 labels) t) = some t ∧
      okTaxa labels t = true := by
    intro t ht
    have htn : t.tipNames.Nodup := (hasDup_false_iff _).1 (htnd t ht)
    refine ⟨(tr_tree_ok 1 labels labels t hN hne hN (fun _ => Iff.rfl) (hmem t ht) htn (hnames t ht)).2, ?_⟩
    simp only [okTaxa, List.all_eq_true, List.contains_iff_mem]
    exact fun x hx => (hmem t ht x).1 hx
  have hb := backOK_of (tableOf (mapFrom 1 labels) labels []) labels (renameT (mapFrom 1 labels)) ts 1 hper
  have hwW := forall_enum_map (renameT (mapFrom 1 labels)) (fun x => L.wf x = true) ts 1 hw
  have hsW := forall_enum_map (renameT (mapFrom 1 labels)) (fun x => treeTextOK (C.write x) = true) ts 1 hs
  have hbody : ∀ t ∈ ts, ∃ body, C.write (renameT (mapFrom 1 labels) t) = body ++ [';'] ∧ ∀ c ∈ body, c ≠ '\r' := by
    intro t ht
    obtain ⟨body, hb', hc⟩ := L.write_shape _ (hw t ht)
    exact ⟨body, hb', fun c hc' => (hc c hc').2.1⟩
  have hscan := scan_stdDoc C labels ts hn (by rw [stdMap_eq]; exact hl) (by rw [stdMap_eq]; exact hbody)
  rw [stdMap_eq] at hscan
  generalize (enumFrom 1 ts).map (fun it => (it.1, renameT (mapFrom 1 labels) it.2)) = W at hb hwW hsW hscan
  have hcs : ∀ c ∈ W.map (cmdOf C), c.ok := by
    intro c hc
    obtain ⟨it, hit, rfl⟩ := List.mem_map.1 hc
    exact cmdOf_ok C it (hsW it hit)
  have hkw : ∀ l ∈ labels, keywordOf l = none ∧ keywordOf (idxOf (mapFrom 1 labels) l) = none :=
    fun l hl' => ⟨(hl l hl').1.2, (hl l hl').2.2⟩
  have hfold : labels.foldl insertLabel [] = labels := by
    rw [foldl_insertLabel _ [] (by simpa using hnd)]; simp
  obtain ⟨d, hd, hr⟩ := buildTrees_tr C L _ _ W ts 0 hwW hb
  refine ⟨d, ?_, hr⟩
  refine parse_of_scan C hscan ?_
    (by
      rw [parseLoop_stdDoc _ _ _ _ hkw hcs _ (by
        have := stdCmdsToks_length (W.map (cmdOf C))
        simp only [stdDocToks, stdTaxaToks, List.length_append, List.length_cons, List.length_nil, List.length_map] at this ⊢
        omega), hfold])
    (intVal_natStr _) hd
  intro hm
  simp only [stdDocToks, stdTaxaToks, List.mem_cons, List.mem_append, List.mem_flatMap,
    List.not_mem_nil, reduceCtorEq, false_or, or_false] at hm
  rcases hm with ((⟨l, _, h⟩ | h) | hm)
  · exact classify_ne_loneCR l h.symm
  · exact stdTrToks_noCR _ _ h
  · simp only [stdCmdsToks, List.mem_flatMap] at hm
    obtain ⟨c, hc, hm⟩ := hm
    simp only [stdCmdToks, List.mem_append, List.mem_cons, List.not_mem_nil, or_false, reduceCtorEq, false_or] at hm
    rcases hm with h | h
    · exact classify_ne_loneCR _ h.symm
    · exact parseTreeStr_noCR _ _ _ _ (hcs c hc).2.1 (by simp) h

end Gotree.C13

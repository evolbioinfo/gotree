/-
  C05 — `branchesDistinct` (a semantic hypothesis) derived from a structural one: no node
  with exactly two neighbours.
-/
import Gotree.Lemmas.C05Out

namespace Gotree.C05
open Gotree

/-! ## no node with exactly two neighbours ⇒ distinct branches carry distinct splits -/

/-- how two entries of a split list (in `Edges()` order) relate: the later one lies strictly
    inside the earlier one, or they have no leaf in common -/
def Laminar (s1 s2 : SplitE) : Prop :=
  ((∀ x ∈ s2.below, x ∈ s1.below) ∧ ∃ y ∈ s1.below, y ∉ s2.below) ∨ (∀ x ∈ s1.below, x ∉ s2.below)

theorem splitsL_kid : ∀ (K : Kids) (s : SplitE), s ∈ splitsL K →
    ∃ (i : Nat) (e : EdgeD) (c : T), K[i]? = some (e, c) ∧ ∀ x ∈ s.below, x ∈ c.leaves := by
  intro K s h
  obtain ⟨⟨e, c⟩, hm, h⟩ := mem_splitsL.1 h
  obtain ⟨i, hi⟩ := List.getElem?_of_mem hm
  refine ⟨i, e, c, hi, ?_⟩
  rcases h with rfl | h
  · exact fun _ hx => hx
  · exact fun _ hx => (c.below_sublist_leaves s (c.splitsBelow_eq ▸ h)).subset hx

theorem below_ne_nil : ∀ (t : T), ∀ s ∈ t.splitsBelow, s.below ≠ [] :=
  fun t s hs => Gotree.below_ne_nil _ s (t.splitsBelow_eq ▸ hs)

/-- **No node with exactly two neighbours ⇒ no two branches carry the same split.** -/
theorem sideList_nodup_of (u : T) (hn : u.tipNames.Nodup) (hns : u.noSingle = true) (h2 : u.kids.length ≠ 2) :
    (sideList u).Nodup := by
  unfold sideList
  rw [List.Nodup, List.pairwise_map]
  have hnK : (leavesL u.kids).Nodup := T.nodup_leavesL_of_tipNames hn
  have hsubK : ∀ x ∈ leavesL u.kids, x ∈ u.tipNames := fun x hx => u.leavesL_sublist_tipNames.subset hx
  have hlam : u.splits.Pairwise Laminar := splitsL_laminar_strict hnK hns
  refine hlam.imp_of_mem ?_
  intro a b ha hb hab heq
  unfold T.splits at ha hb
  obtain ⟨i, ei, ci, hki, hai⟩ := splitsL_kid u.kids a ha
  obtain ⟨j, ej, cj, hkj, hbj⟩ := splitsL_kid u.kids b hb
  have haK : ∀ x ∈ a.below, x ∈ leavesL u.kids := fun _ hx => (below_sublist_leavesL _ a ha).subset hx
  have hbK : ∀ x ∈ b.below, x ∈ leavesL u.kids := fun _ hx => (below_sublist_leavesL _ b hb).subset hx
  obtain ⟨xa, hxa⟩ := List.exists_mem_of_ne_nil _ (Gotree.below_ne_nil u.kids a ha)
  obtain ⟨xb, hxb⟩ := List.exists_mem_of_ne_nil _ (Gotree.below_ne_nil u.kids b hb)
  rcases canonSide_inj heq with hsame | hcompl
  · rcases hab with ⟨_, y, hy, hny⟩ | hdis
    · exact hny ((hsame y (hsubK y (haK y hy))).1 hy)
    · exact hdis xa hxa ((hsame xa (hsubK xa (haK xa hxa))).1 hxa)
  · rcases hab with ⟨hsub, _⟩ | hdis
    · have := hsub xb hxb
      exact (hcompl xb (hsubK xb (hbK xb hxb))).1 this hxb
    · -- a taxon below neither
      obtain ⟨z, hzall, hza, hzb⟩ : ∃ z, z ∈ u.tipNames ∧ z ∉ a.below ∧ z ∉ b.below := by
        by_cases h1 : u.kids.length = 1
        · rw [T.tipNames_of_one h1] at hn ⊢
          have hroot : u.name ∉ leavesL u.kids := (List.nodup_cons.1 hn).1
          exact ⟨u.name, List.mem_cons_self, fun h => hroot (haK _ h), fun h => hroot (hbK _ h)⟩
        · have hlen : 3 ≤ u.kids.length := by
            have := (List.getElem?_eq_some_iff.1 hki).1; omega
          obtain ⟨k, hk, hki', hkj'⟩ : ∃ k, k < u.kids.length ∧ k ≠ i ∧ k ≠ j := by
            by_cases a0 : i ≠ 0 ∧ j ≠ 0
            · exact ⟨0, by omega, fun h => a0.1 h.symm, fun h => a0.2 h.symm⟩
            · by_cases a1 : i ≠ 1 ∧ j ≠ 1
              · exact ⟨1, by omega, fun h => a1.1 h.symm, fun h => a1.2 h.symm⟩
              · exact ⟨2, by omega, by omega, by omega⟩
          have hkk : u.kids[k]? = some (u.kids[k]) := List.getElem?_eq_getElem hk
          obtain ⟨z, hz⟩ := List.exists_mem_of_ne_nil _ (T.leaves_ne_nil _)
          refine ⟨z, hsubK z (kid_leaves_sub (e := (u.kids[k]).1) (c := (u.kids[k]).2) hkk z hz), ?_, ?_⟩
          · exact fun h => leaves_disjoint_of_getElem? hnK hkk hki hki' z hz (hai z h)
          · exact fun h => leaves_disjoint_of_getElem? hnK hkk hkj hkj' z hz (hbj z h)
      exact hza ((hcompl z hzall).2 hzb)

/-- **`branchesDistinct` from a structural hypothesis**: a tree with distinct tip names and no
    node with exactly one child (i.e. no node with exactly two neighbours, the root of a rooted tree
    aside) has, once unrooted, pairwise distinct splits on its branches. -/
theorem branchesDistinct_of_noSingle (t : T) (hu : t.tipNames.Nodup) (hns : t.noSingle = true) :
    branchesDistinct t = true := by
  rw [branchesDistinct_iff]
  obtain ⟨h1, h2⟩ := unroot_noSingle t hns
  exact sideList_nodup_of (unroot t) ((unroot_tipNames_perm t).nodup_iff.2 hu) h1 h2

end Gotree.C05

/-
  C20 — every unrooted binary topology is produced by the uniform-tree generator
  (surjectivity half of `uniform_unrooted_bijective`).  Core Lean only.
-/
import Gotree.Lemmas.C20

namespace Gotree.C20
open Gotree List

def BT.isTip (i : Nat) : BT → Bool
  | .tip j => j == i
  | .node _ _ => false

/-- remove the tip `i`: its sibling takes the place of their parent -/
def rem (i : Nat) : BT → BT
  | .tip j => .tip j
  | .node l r =>
    if l.isTip i then r else if r.isTip i then l
    else if l.leaves.contains i then .node (rem i l) r else .node l (rem i r)

/-- the leaves of the sibling of the tip `i` -/
def sib (i : Nat) : BT → List Nat
  | .tip _ => []
  | .node l r =>
    if l.isTip i then r.leaves else if r.isTip i then l.leaves
    else if l.leaves.contains i then sib i l else sib i r

/-- the clusters of the proper subtrees -/
def BT.rest (m : Nat) : BT → List (List Nat)
  | .tip _ => []
  | .node l r => l.clusters m ++ r.clusters m

theorem BT.clusters_eq (m : Nat) (t : BT) : t.clusters m = clOf m t.leaves :: t.rest m := by
  cases t <;> rfl

theorem BT.leaves_ne_nil (t : BT) : t.leaves ≠ [] := by
  induction t with
  | tip i => simp [BT.leaves]
  | node l r ihl _ => simp [BT.leaves, ihl]

theorem isTip_eq {i : Nat} {t : BT} (h : t.isTip i = true) : t = .tip i := by
  cases t with
  | tip j => simp [BT.isTip] at h; rw [h]
  | node l r => simp [BT.isTip] at h

/-! ### `clOf` -/

theorem mem_clOf {m y : Nat} {ls : List Nat} : y ∈ clOf m ls ↔ y < m ∧ y ∈ ls := by
  simp [clOf]

theorem clOf_succ (m : Nat) (ls : List Nat) :
    clOf (m + 1) ls = clOf m ls ++ (if ls.contains m then [m] else []) := by
  simp only [clOf, List.range_succ, List.filter_append]
  congr 1
  by_cases h : m ∈ ls <;> simp [h]

theorem clOf_congr {m : Nat} {l1 l2 : List Nat} (h : ∀ y, y < m → (y ∈ l1 ↔ y ∈ l2)) :
    clOf m l1 = clOf m l2 := by
  simp only [clOf]
  apply List.filter_congr
  intro y hy
  have := h y (List.mem_range.1 hy)
  by_cases h1 : y ∈ l1 <;> simp_all

theorem clOf_succ_of_not_mem {m : Nat} {ls : List Nat} (h : m ∉ ls) : clOf (m + 1) ls = clOf m ls := by
  rw [clOf_succ]; simp [h]

theorem clOf_succ_of_mem {m : Nat} {ls : List Nat} (h : m ∈ ls) : clOf (m + 1) ls = clOf m ls ++ [m] := by
  rw [clOf_succ]; simp [h]

theorem clOf_singleton_self (i : Nat) : clOf (i + 1) [i] = [i] := by
  rw [clOf_succ_of_mem (by simp)]
  have : clOf i [i] = [] := by
    simp only [clOf, List.filter_eq_nil_iff]
    intro a ha
    have := List.mem_range.1 ha
    simp; omega
  simp [this]

/-! ### clusters -/

theorem clusters_succ_of_lt {m : Nat} (t : BT) (h : ∀ y ∈ t.leaves, y < m) :
    t.clusters (m + 1) = t.clusters m := by
  induction t with
  | tip i =>
    have : m ∉ [i] := by intro hm; have := h m (by simpa [BT.leaves] using hm); omega
    simp [BT.clusters, clOf_succ_of_not_mem this]
  | node l r ihl ihr =>
    have hl : ∀ y ∈ l.leaves, y < m := fun y hy => h y (by simp [BT.leaves, hy])
    have hr : ∀ y ∈ r.leaves, y < m := fun y hy => h y (by simp [BT.leaves, hy])
    have : m ∉ l.leaves ++ r.leaves := by
      intro hm; have := h m (by simpa [BT.leaves] using hm); omega
    simp [BT.clusters, ihl hl, ihr hr, clOf_succ_of_not_mem this]

/-- a cluster of `t` is the cluster of the leaves of a subtree -/
theorem mem_clusters {m : Nat} (t : BT) {c : List Nat} (hc : c ∈ t.clusters m) :
    ∃ ls, ls ≠ [] ∧ (∀ y ∈ ls, y ∈ t.leaves) ∧ c = clOf m ls := by
  induction t with
  | tip i =>
    exact ⟨[i], by simp, by simp [BT.leaves], by simpa [BT.clusters] using hc⟩
  | node l r ihl ihr =>
    simp only [BT.clusters, List.mem_cons, List.mem_append] at hc
    rcases hc with rfl | hc | hc
    · exact ⟨_, (BT.node l r).leaves_ne_nil, fun y hy => hy, rfl⟩
    · obtain ⟨ls, h1, h2, h3⟩ := ihl hc
      exact ⟨ls, h1, fun y hy => by simp [BT.leaves, h2 y hy], h3⟩
    · obtain ⟨ls, h1, h2, h3⟩ := ihr hc
      exact ⟨ls, h1, fun y hy => by simp [BT.leaves, h2 y hy], h3⟩

theorem mem_clusters_sub {m : Nat} (t : BT) {c : List Nat} (hc : c ∈ t.clusters m) :
    ∀ y ∈ c, y ∈ t.leaves := by
  obtain ⟨ls, _, hs, rfl⟩ := mem_clusters t hc
  exact fun y hy => hs y (mem_clOf.1 hy).2

/-- a cluster `b` with an element outside `t` is contained in no cluster of `t` -/
theorem map_ext_of_outside {m : Nat} (t : BT) (b : List Nat) (i y : Nat) (hy : y ∈ b) (hn : y ∉ t.leaves) :
    (t.clusters m).map (extCl b i) = t.clusters m := by
  conv => rhs; rw [← List.map_id (t.clusters m)]
  apply List.map_congr_left
  intro c hc
  exact extCl_of_not_subset i (subset_false_of_witness hy fun hyc => hn (mem_clusters_sub t hc y hyc))

theorem rest_missing {m : Nat} (t : BT) (hn : t.leaves.Nodup) (hlt : ∀ y ∈ t.leaves, y < m)
    {c : List Nat} (hc : c ∈ t.rest m) : ∃ y ∈ clOf m t.leaves, y ∉ c := by
  cases t with
  | tip i => simp [BT.rest] at hc
  | node l r =>
    simp only [BT.leaves] at hn hlt
    have hd := (List.nodup_append.1 hn).2.2
    simp only [BT.rest, List.mem_append] at hc
    rcases hc with hc | hc
    · obtain ⟨y, hy⟩ := List.exists_mem_of_ne_nil _ r.leaves_ne_nil
      refine ⟨y, mem_clOf.2 ⟨hlt y (by simp [hy]), by simp [BT.leaves, hy]⟩, ?_⟩
      intro hyc
      have := mem_clusters_sub l hc y hyc
      exact hd y this y hy rfl
    · obtain ⟨y, hy⟩ := List.exists_mem_of_ne_nil _ l.leaves_ne_nil
      refine ⟨y, mem_clOf.2 ⟨hlt y (by simp [hy]), by simp [BT.leaves, hy]⟩, ?_⟩
      intro hyc
      have := mem_clusters_sub r hc y hyc
      exact hd y hy y this rfl

theorem map_ext_self {m : Nat} (t : BT) (i : Nat) (hn : t.leaves.Nodup) (hlt : ∀ y ∈ t.leaves, y < m) :
    (t.clusters m).map (extCl (clOf m t.leaves) i) = (clOf m t.leaves ++ [i]) :: t.rest m := by
  rw [BT.clusters_eq, List.map_cons]
  congr 1
  · simp [extCl, subset_refl]
  · conv => rhs; rw [← List.map_id (t.rest m)]
    apply List.map_congr_left
    intro c hc
    obtain ⟨y, hy, hyc⟩ := rest_missing t hn hlt hc
    exact extCl_of_not_subset i (subset_false_of_witness hy hyc)

/-! ### removing a tip -/

structure RemHyp (i : Nat) (t : BT) : Prop where
  mem : i ∈ t.leaves
  nodup : t.leaves.Nodup
  notTip : t.isTip i = false
  le : ∀ y ∈ t.leaves, y ≤ i

theorem not_mem_of_isTip_false_tip {i j : Nat} (h : (BT.tip j).isTip i = false) : i ≠ j := by
  intro e; simp [BT.isTip, e] at h

/-- hypotheses for the subtree that holds the tip -/
theorem RemHyp.left {i : Nat} {l r : BT} (h : RemHyp i (.node l r)) (hl : l.isTip i = false)
    (hm : i ∈ l.leaves) : RemHyp i l :=
  ⟨hm, (List.nodup_append.1 h.nodup).1, hl, fun y hy => h.le y (by simp [BT.leaves, hy])⟩

theorem RemHyp.right {i : Nat} {l r : BT} (h : RemHyp i (.node l r)) (hr : r.isTip i = false)
    (hc : i ∉ l.leaves) : RemHyp i r :=
  ⟨(List.mem_append.1 h.mem).resolve_left hc, (List.nodup_append.1 h.nodup).2.1, hr,
    fun y hy => h.le y (by simp [BT.leaves, hy])⟩

theorem RemHyp.not_tip {i j : Nat} (h : RemHyp i (.tip j)) : False :=
  not_mem_of_isTip_false_tip h.notTip (by simpa [BT.leaves] using h.mem)

theorem lt_of_le_of_not_mem {i : Nat} {ls : List Nat} (hi : i ∉ ls) (hle : ∀ y ∈ ls, y ≤ i) :
    ∀ y ∈ ls, y < i :=
  fun y hy => Nat.lt_of_le_of_ne (hle y hy) fun e => hi (e ▸ hy)

theorem RemHyp.disj {i : Nat} {l r : BT} (h : RemHyp i (.node l r)) :
    ∀ y, y ∈ l.leaves → y ∈ r.leaves → False := by
  intro y h1 h2
  exact (List.nodup_append.1 h.nodup).2.2 y h1 y h2 rfl

/-- where the tip `i` sits in `.node l r` (left child, right child, deeper on the left, deeper on the right),
    and what `rem` and `sib` are there -/
theorem RemHyp.cases {i : Nat} {l r : BT} (h : RemHyp i (.node l r)) :
    (l = .tip i ∧ rem i (.node l r) = r ∧ sib i (.node l r) = r.leaves) ∨
    (r = .tip i ∧ rem i (.node l r) = l ∧ sib i (.node l r) = l.leaves) ∨
    (RemHyp i l ∧ rem i (.node l r) = .node (rem i l) r ∧ sib i (.node l r) = sib i l) ∨
    (RemHyp i r ∧ i ∉ l.leaves ∧ rem i (.node l r) = .node l (rem i r) ∧ sib i (.node l r) = sib i r) := by
  by_cases hl : l.isTip i = true
  · exact Or.inl ⟨isTip_eq hl, by simp [rem, sib, hl]⟩
  by_cases hr : r.isTip i = true
  · exact Or.inr (Or.inl ⟨isTip_eq hr, by simp [rem, sib, hl, hr]⟩)
  by_cases hc : i ∈ l.leaves
  · exact Or.inr (Or.inr (Or.inl ⟨h.left (by simpa using hl) hc, by simp [rem, sib, hl, hr, hc]⟩))
  · exact Or.inr (Or.inr (Or.inr ⟨h.right (by simpa using hr) hc, hc, by simp [rem, sib, hl, hr, hc]⟩))

theorem leaves_rem {i : Nat} (t : BT) (h : RemHyp i t) : t.leaves.Perm (i :: (rem i t).leaves) := by
  induction t with
  | tip j => exact h.not_tip.elim
  | node l r ihl ihr =>
    rcases h.cases with ⟨rfl, e, _⟩ | ⟨rfl, e, _⟩ | ⟨hL, e, _⟩ | ⟨hR, _, e, _⟩ <;> rw [e] <;> simp only [BT.leaves]
    · simp
    · exact List.perm_append_singleton _ _
    · exact ((ihl hL).append_right _).trans (by simp)
    · exact ((ihr hR).append_left _).trans List.perm_middle

theorem mem_leaves_rem {i : Nat} (t : BT) (h : RemHyp i t) (y : Nat) :
    y ∈ (rem i t).leaves ↔ (y ∈ t.leaves ∧ y ≠ i) := by
  have hp := leaves_rem t h
  have hnd := List.nodup_cons.1 (hp.nodup_iff.1 h.nodup)
  rw [hp.mem_iff, List.mem_cons]
  exact ⟨fun hy => ⟨Or.inr hy, fun e => hnd.1 (e ▸ hy)⟩, fun ⟨hy, hne⟩ => hy.resolve_left hne⟩

theorem lt_of_mem_rem {i : Nat} (t : BT) (h : RemHyp i t) : ∀ y ∈ (rem i t).leaves, y < i := fun y hy =>
  have h' := (mem_leaves_rem t h y).1 hy
  Nat.lt_of_le_of_ne (h.le y h'.1) h'.2

theorem sib_sub {i : Nat} (t : BT) (h : RemHyp i t) :
    sib i t ≠ [] ∧ ∀ y ∈ sib i t, y ∈ (rem i t).leaves := by
  induction t with
  | tip j => exact h.not_tip.elim
  | node l r ihl ihr =>
    rcases h.cases with ⟨_, e1, e2⟩ | ⟨_, e1, e2⟩ | ⟨hL, e1, e2⟩ | ⟨hR, _, e1, e2⟩ <;> rw [e1, e2]
    · exact ⟨r.leaves_ne_nil, fun y hy => hy⟩
    · exact ⟨l.leaves_ne_nil, fun y hy => hy⟩
    · exact ⟨(ihl hL).1, fun y hy => by simp [BT.leaves, (ihl hL).2 y hy]⟩
    · exact ⟨(ihr hR).1, fun y hy => by simp [BT.leaves, (ihr hR).2 y hy]⟩

/-- the cluster of the sibling is a cluster of the tree without the tip -/
theorem sib_mem_clusters {i : Nat} (m : Nat) (t : BT) (h : RemHyp i t) :
    clOf m (sib i t) ∈ (rem i t).clusters m := by
  induction t with
  | tip j => exact h.not_tip.elim
  | node l r ihl ihr =>
    rcases h.cases with ⟨_, e1, e2⟩ | ⟨_, e1, e2⟩ | ⟨hL, e1, e2⟩ | ⟨hR, _, e1, e2⟩ <;> rw [e1, e2]
    · rw [BT.clusters_eq]; simp
    · rw [BT.clusters_eq]; simp
    · simp [BT.clusters, ihl hL]
    · simp [BT.clusters, ihr hR]

/-- the sibling of the tip lies inside `t`: the clusters of a tree disjoint from `t` are not extended -/
theorem map_ext_sib {i m : Nat} {t : BT} (h : RemHyp i t) (o : BT) (hd : ∀ y, y ∈ t.leaves → y ∈ o.leaves → False) :
    (o.clusters m).map (extCl (clOf i (sib i t)) i) = o.clusters m := by
  obtain ⟨hne, hsub⟩ := sib_sub t h
  obtain ⟨y0, hy0⟩ := List.exists_mem_of_ne_nil _ hne
  have hrem := hsub y0 hy0
  exact map_ext_of_outside o _ i y0 (mem_clOf.2 ⟨lt_of_mem_rem t h y0 hrem, hy0⟩)
    (hd y0 ((mem_leaves_rem t h y0).1 hrem).1)

/-! ### the key step: the clusters of a tree from those of the tree without its largest tip -/

/-- adding the tip `i` to a set of leaves appends `i` to its cluster -/
theorem clOf_succ_eq {i : Nat} {L' L : List Nat} (hi : i ∈ L) (hc : ∀ y, y < i → (y ∈ L' ↔ y ∈ L)) :
    clOf (i + 1) L = clOf i L' ++ [i] := by
  rw [clOf_succ_of_mem hi, clOf_congr hc]

theorem clOf_append_tip_left {i : Nat} (ls : List Nat) : clOf (i + 1) ([i] ++ ls) = clOf i ls ++ [i] :=
  clOf_succ_eq (by simp) fun y hy => by simp; omega

theorem clOf_append_tip_right {i : Nat} (ls : List Nat) : clOf (i + 1) (ls ++ [i]) = clOf i ls ++ [i] :=
  clOf_succ_eq (by simp) fun y hy => by simp; omega

/-- the cluster of a tree that holds the sibling `b` of the new tip `i`, extended by `i` -/
theorem extCl_top {i : Nat} {b L' L : List Nat} (hsub : ∀ y ∈ b, y ∈ L') (hi : i ∈ L)
    (hc : ∀ y, y < i → (y ∈ L' ↔ y ∈ L)) : extCl (clOf i b) i (clOf i L') = clOf (i + 1) L := by
  have hs : subset (clOf i b) (clOf i L') = true :=
    subset_iff.2 fun y hy => mem_clOf.2 ⟨(mem_clOf.1 hy).1, hsub y (mem_clOf.1 hy).2⟩
  rw [extCl, if_pos hs, clOf_succ_eq hi hc]

theorem clusters_graft {i : Nat} (t : BT) (h : RemHyp i t) :
    (t.clusters (i + 1)).Perm
      (((rem i t).clusters i).map (extCl (clOf i (sib i t)) i) ++ [[i], clOf i (sib i t)]) := by
  induction t with
  | tip j => exact h.not_tip.elim
  | node l r ihl ihr =>
    have hndl := (List.nodup_append.1 h.nodup).1
    have hndr := (List.nodup_append.1 h.nodup).2.1
    rcases h.cases with ⟨rfl, e1, e2⟩ | ⟨rfl, e1, e2⟩ | ⟨hL, e1, e2⟩ | ⟨hR, hil, e1, e2⟩ <;> rw [e1, e2]
    · -- the tip is the left child
      have hir : i ∉ r.leaves := fun hm => h.disj i (by simp [BT.leaves]) hm
      have hlt := lt_of_le_of_not_mem hir fun y hy => h.le y (by simp [BT.leaves, hy])
      rw [map_ext_self r i hndr hlt]
      simp only [BT.clusters, BT.leaves]
      rw [clOf_append_tip_left, clOf_singleton_self, clusters_succ_of_lt r hlt, BT.clusters_eq]
      apply List.Perm.cons
      simp only [List.singleton_append]
      exact (List.perm_append_comm (l₁ := r.rest i) (l₂ := [[i], clOf i r.leaves])).symm
    · -- the tip is the right child
      have hil : i ∉ l.leaves := fun hm => h.disj i hm (by simp [BT.leaves])
      have hlt := lt_of_le_of_not_mem hil fun y hy => h.le y (by simp [BT.leaves, hy])
      rw [map_ext_self l i hndl hlt]
      simp only [BT.clusters, BT.leaves]
      rw [clOf_append_tip_right, clOf_singleton_self, clusters_succ_of_lt l hlt, BT.clusters_eq]
      apply List.Perm.cons
      simp only [List.cons_append]
      have : (clOf i l.leaves :: (l.rest i ++ [[i]])).Perm ((l.rest i ++ [[i]]) ++ [clOf i l.leaves]) :=
        (List.perm_append_singleton _ _).symm
      simpa using this
    · -- the tip is deeper in the left subtree
      have hir : i ∉ r.leaves := fun hm' => h.disj i hL.mem hm'
      have hltr := lt_of_le_of_not_mem hir fun y hy => h.le y (by simp [BT.leaves, hy])
      simp only [BT.clusters, List.map_cons, List.map_append]
      rw [clusters_succ_of_lt r hltr, map_ext_sib hL r h.disj]
      -- the top cluster
      rw [extCl_top (L := l.leaves ++ r.leaves) (fun y hy => by simp [(sib_sub l hL).2 y hy]) (by simp [hL.mem])
        fun y hy => by
          have : y ≠ i := by omega
          simp [mem_leaves_rem l hL y, this]]
      apply List.Perm.cons
      refine ((ihl hL).append_right _).trans ?_
      show _ ~ (_ ++ _) ++ _
      rw [List.append_assoc, List.append_assoc]
      exact List.Perm.append_left _ List.perm_append_comm
    · -- the tip is deeper in the right subtree
      have hltl := lt_of_le_of_not_mem hil fun y hy => h.le y (by simp [BT.leaves, hy])
      simp only [BT.clusters, List.map_cons, List.map_append]
      rw [clusters_succ_of_lt l hltl, map_ext_sib hR l fun y hy hy' => h.disj y hy' hy]
      rw [extCl_top (L := l.leaves ++ r.leaves) (fun y hy => by simp [(sib_sub r hR).2 y hy]) (by simp [hR.mem])
        fun y hy => by
          have : y ≠ i := by omega
          simp [mem_leaves_rem r hR y, this]]
      apply List.Perm.cons
      show _ ~ (_ ++ _) ++ _
      rw [List.append_assoc]
      exact List.Perm.append_left _ (ihr hR)

/-! ### every topology is produced -/

theorem utree_surjective (m : Nat) (bt : BT) (h : bt.leaves.Perm (List.range' 1 (m + 1))) :
    ∃ d, inBounds (loopBounds 1 m) d = true ∧
      (utreeLoop d 2 (utreeInit false)).Perm (bt.clusters (m + 2)) := by
  induction m generalizing bt with
  | zero =>
    refine ⟨[], by simp [loopBounds, inBounds], ?_⟩
    cases bt with
    | tip j =>
      have : j = 1 := by
        have := h.mem_iff (a := j)
        simp [BT.leaves] at this
        exact this
      subst this
      decide
    | node l r =>
      have := h.length_eq
      simp [BT.leaves] at this
      have h1 : l.leaves.length ≠ 0 := fun e => l.leaves_ne_nil (List.eq_nil_of_length_eq_zero e)
      have h2 : r.leaves.length ≠ 0 := fun e => r.leaves_ne_nil (List.eq_nil_of_length_eq_zero e)
      omega
  | succ m ih =>
    -- the tip added last
    have hrange : List.range' 1 (m + 1 + 1) = List.range' 1 (m + 1) ++ [m + 2] := by
      rw [List.range'_concat]; simp; omega
    have hyp : RemHyp (m + 2) bt := by
      refine ⟨?_, ?_, ?_, ?_⟩
      · exact h.mem_iff.2 (by rw [List.mem_range'_1]; omega)
      · exact h.nodup_iff.2 (List.nodup_range')
      · cases bt with
        | tip j =>
          have := h.length_eq
          simp [BT.leaves] at this
        | node l r => rfl
      · intro y hy
        have := h.mem_iff.1 hy
        simp [List.mem_range'] at this
        omega
    have hp1 := leaves_rem bt hyp
    have hleaves' : (rem (m + 2) bt).leaves.Perm (List.range' 1 (m + 1)) := by
      have h2 : ((m + 2) :: (rem (m + 2) bt).leaves).Perm ((m + 2) :: List.range' 1 (m + 1)) := by
        refine hp1.symm.trans (h.trans ?_)
        rw [hrange]
        exact List.perm_append_singleton _ _
      exact List.Perm.cons_inv h2
    obtain ⟨d', hb', hp'⟩ := ih (rem (m + 2) bt) hleaves'
    obtain ⟨hinv, hlen, hdl⟩ := utreeLoop_inv (utreeInit false) 2 (utreeInit_inv false) m d' hb'
    have hE : (utreeInit false).length = 1 := rfl
    rw [hE] at hlen
    -- the branch the last tip was grafted on
    have hbmem : clOf (m + 2) (sib (m + 2) bt) ∈ utreeLoop d' 2 (utreeInit false) :=
      hp'.mem_iff.2 (sib_mem_clusters (m + 2) bt hyp)
    have hj : (utreeLoop d' 2 (utreeInit false)).idxOf (clOf (m + 2) (sib (m + 2) bt)) <
        (utreeLoop d' 2 (utreeInit false)).length := List.idxOf_lt_length_of_mem hbmem
    refine ⟨d' ++ [(utreeLoop d' 2 (utreeInit false)).idxOf (clOf (m + 2) (sib (m + 2) bt))], ?_, ?_⟩
    · rw [loopBounds, inBounds_snoc]
      simp only [hb', Bool.true_and, decide_eq_true_eq]
      omega
    · rw [utreeLoop_snoc, hdl, show 2 + m = m + 2 by omega, graft_spec _ _ _ hj, List.getElem_idxOf hj]
      have h1 := (hp'.map (extCl (clOf (m + 2) (sib (m + 2) bt)) (m + 2))).append_right
        [[m + 2], clOf (m + 2) (sib (m + 2) bt)]
      exact h1.trans (clusters_graft bt hyp).symm

/-! ### every value of the generator is a topology -/

/-- graft the tip `i` next to the subtree whose cluster is `b` -/
def ins (b : List Nat) (i : Nat) : BT → BT
  | .tip j => .node (.tip j) (.tip i)
  | .node l r =>
    if clOf i (l.leaves ++ r.leaves) == b then .node (.node l r) (.tip i)
    else if subset b (clOf i l.leaves) then .node (ins b i l) r else .node l (ins b i r)

theorem isTip_false_of_lt {i : Nat} (t : BT) (h : ∀ y ∈ t.leaves, y < i) : t.isTip i = false := by
  cases t with
  | tip j =>
    have := h j (by simp [BT.leaves])
    simp [BT.isTip]; omega
  | node l r => rfl

theorem cluster_ne_nil {m : Nat} (t : BT) (hlt : ∀ y ∈ t.leaves, y < m) {c : List Nat}
    (hc : c ∈ t.clusters m) : c ≠ [] := by
  obtain ⟨ls, hne, hs, rfl⟩ := mem_clusters t hc
  obtain ⟨y, hy⟩ := List.exists_mem_of_ne_nil _ hne
  exact List.ne_nil_of_mem (mem_clOf.2 ⟨hlt y (hs y hy), hy⟩)

theorem mem_clusters_lt {m : Nat} (t : BT) {c : List Nat} (hc : c ∈ t.clusters m) : ∀ y ∈ c, y < m := by
  obtain ⟨ls, _, _, rfl⟩ := mem_clusters t hc
  exact fun y hy => (mem_clOf.1 hy).1

theorem leaves_ins (b : List Nat) (i : Nat) (t : BT) : (ins b i t).leaves.Perm (i :: t.leaves) := by
  induction t with
  | tip j => exact List.Perm.swap _ _ _
  | node l r ihl ihr =>
    unfold ins
    split
    · exact List.perm_append_singleton _ _
    · split
      · exact ihl.append_right _
      · exact (ihr.append_left _).trans List.perm_middle

theorem isTip_ins (b : List Nat) (i : Nat) (t : BT) : (ins b i t).isTip i = false := by
  cases t with
  | tip j => rfl
  | node l r =>
    unfold ins
    split
    · rfl
    · split <;> rfl

theorem remHyp_ins {i : Nat} (t : BT) (b : List Nat) (hn : t.leaves.Nodup) (hlt : ∀ y ∈ t.leaves, y < i) :
    RemHyp i (ins b i t) := by
  have hp := leaves_ins b i t
  refine ⟨hp.mem_iff.2 List.mem_cons_self,
    hp.nodup_iff.2 (List.nodup_cons.2 ⟨fun hm => Nat.lt_irrefl _ (hlt i hm), hn⟩), isTip_ins b i t, ?_⟩
  intro y hy
  rcases List.mem_cons.1 (hp.mem_iff.1 hy) with rfl | hy
  · exact Nat.le_refl _
  · exact Nat.le_of_lt (hlt y hy)

theorem ins_spec {i : Nat} (t : BT) (b : List Nat) (hn : t.leaves.Nodup) (hlt : ∀ y ∈ t.leaves, y < i)
    (hb : b ∈ t.clusters i) :
    rem i (ins b i t) = t ∧ clOf i (sib i (ins b i t)) = b := by
  induction t with
  | tip j =>
    have hj : j < i := hlt j (by simp [BT.leaves])
    simp only [BT.clusters, List.mem_singleton] at hb
    have hji : (j == i) = false := by simp; omega
    exact ⟨by simp [ins, rem, BT.isTip, hji], by simp [ins, sib, BT.isTip, hji, BT.leaves, hb]⟩
  | node l r ihl ihr =>
    simp only [BT.leaves] at hn hlt
    have hndl := (List.nodup_append.1 hn).1
    have hndr := (List.nodup_append.1 hn).2.1
    have hd := (List.nodup_append.1 hn).2.2
    have hltl : ∀ y ∈ l.leaves, y < i := fun y hy => hlt y (by simp [hy])
    have hltr : ∀ y ∈ r.leaves, y < i := fun y hy => hlt y (by simp [hy])
    have hil : i ∉ l.leaves := fun hm => Nat.lt_irrefl _ (hltl i hm)
    unfold ins
    by_cases htop : (clOf i (l.leaves ++ r.leaves) == b) = true
    · rw [if_pos htop]
      have htop' : clOf i (l.leaves ++ r.leaves) = b := by simpa using htop
      exact ⟨by simp [rem, BT.isTip], by simp [sib, BT.isTip, BT.leaves, htop']⟩
    · rw [if_neg htop]
      have hb' : b ∈ l.clusters i ∨ b ∈ r.clusters i := by
        simp only [BT.clusters, List.mem_cons, List.mem_append] at hb
        rcases hb with rfl | hb | hb
        · simp at htop
        · exact Or.inl hb
        · exact Or.inr hb
      have hlt' : l.isTip i = false := isTip_false_of_lt l hltl
      have hrt : r.isTip i = false := isTip_false_of_lt r hltr
      by_cases hs : subset b (clOf i l.leaves) = true
      · rw [if_pos hs]
        have hbl : b ∈ l.clusters i := by
          rcases hb' with hbl | hbr
          · exact hbl
          · exfalso
            obtain ⟨y, hy⟩ := List.exists_mem_of_ne_nil _ (cluster_ne_nil r hltr hbr)
            have h1 := mem_clusters_sub r hbr y hy
            have h2 := (mem_clOf.1 (subset_iff.1 hs y hy)).2
            exact hd y h2 y h1 rfl
        obtain ⟨hrem, hsib⟩ := ihl hndl hltl hbl
        have hm := (remHyp_ins l b hndl hltl).mem
        exact ⟨by simp [rem, isTip_ins, hrt, hm, hrem], by simp [sib, isTip_ins, hrt, hm, hsib]⟩
      · rw [if_neg hs]
        have hbr : b ∈ r.clusters i := by
          rcases hb' with hbl | hbr
          · exfalso
            apply hs
            rw [subset_iff]
            intro y hy
            exact mem_clOf.2 ⟨mem_clusters_lt l hbl y hy, mem_clusters_sub l hbl y hy⟩
          · exact hbr
        obtain ⟨hrem, hsib⟩ := ihr hndr hltr hbr
        exact ⟨by simp [rem, isTip_ins, hlt', hil, hrem], by simp [sib, isTip_ins, hlt', hil, hsib]⟩
theorem utree_welldefined (m : Nat) (d : List Nat) (hb : inBounds (loopBounds 1 m) d = true) :
    ∃ bt : BT, bt.leaves.Perm (List.range' 1 (m + 1)) ∧
      (utreeLoop d 2 (utreeInit false)).Perm (bt.clusters (m + 2)) := by
  induction m generalizing d with
  | zero =>
    obtain rfl := inBounds_nil hb
    exact ⟨.tip 1, by decide, by decide⟩
  | succ m ih =>
    rw [loopBounds] at hb
    obtain ⟨d', j, rfl, hb', hj⟩ := inBounds_snoc_elim hb
    obtain ⟨bt', hl', hp'⟩ := ih d' hb'
    obtain ⟨hinv, hlen, hdl⟩ := utreeLoop_inv (utreeInit false) 2 (utreeInit_inv false) m d' hb'
    have hE : (utreeInit false).length = 1 := rfl
    rw [hE] at hlen
    have hj' : j < (utreeLoop d' 2 (utreeInit false)).length := by omega
    have hbmem : (utreeLoop d' 2 (utreeInit false))[j] ∈ bt'.clusters (m + 2) :=
      hp'.mem_iff.1 (List.getElem_mem hj')
    have hnd : bt'.leaves.Nodup := hl'.nodup_iff.2 List.nodup_range'
    have hlt : ∀ y ∈ bt'.leaves, y < m + 2 := by
      intro y hy
      have := hl'.mem_iff.1 hy
      rw [List.mem_range'_1] at this
      omega
    have hR := remHyp_ins bt' (utreeLoop d' 2 (utreeInit false))[j] hnd hlt
    obtain ⟨hrem, hsib⟩ := ins_spec bt' _ hnd hlt hbmem
    refine ⟨ins ((utreeLoop d' 2 (utreeInit false))[j]) (m + 2) bt', ?_, ?_⟩
    · have h1 := leaves_rem _ hR
      rw [hrem] at h1
      refine h1.trans ?_
      have hrange : List.range' 1 (m + 1 + 1) = List.range' 1 (m + 1) ++ [m + 2] := by
        rw [List.range'_concat]; simp; omega
      rw [hrange]
      exact ((List.Perm.cons _ hl').trans (List.perm_append_singleton _ _).symm)
    · rw [utreeLoop_snoc, hdl, show 2 + m = m + 2 by omega, graft_spec _ _ _ hj']
      have hK := clusters_graft _ hR
      rw [hrem, hsib] at hK
      have h1 := (hp'.map (extCl ((utreeLoop d' 2 (utreeInit false))[j]) (m + 2))).append_right
        [[m + 2], (utreeLoop d' 2 (utreeInit false))[j]]
      exact h1.trans hK.symm

end Gotree.C20

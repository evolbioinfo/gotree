/-
  C13 ∘ C01 — the Newick codec of property C01 (its verified model of io/newick and Node.Newick,
  `Gotree.Newick.parse` / `Gotree.Newick.write`) as an instance of this property's `NewickCodec`: the three
  base laws of `NewickLaws` from C01's theorem `parse_write`, the number-codec law from C01's float-codec
  laws, and the two stream laws of `NewickStreamLaws` (the parser stops at the first ';', and skips white
  space right after a delimiter) proved about `Gotree.Newick.parse`.
-/
import Gotree.Lemmas.C13
import Gotree.Model.C13Codec
import Gotree.Proofs.C01
import Gotree.Lemmas.C13Dec

namespace Gotree.C13
open Gotree

/-- C01's model as a `NewickCodec` -/
def c01Codec (F : Newick.FloatCodec) : NewickCodec := codecOf F.toCodec

/-- the text is one line, ends with ';', and has no other ';' and no comment -/
def plainText (w : Txt) : Bool :=
  match w.reverse with
  | ';' :: body => body.all fun c => c != '\n' && c != '\r' && c != ';' && c != '['
  | _ => false

mutual
theorem strip_normFrom : ∀ (t : T) (n : Nat), strip (Newick.normFrom n t).1 = strip t
  | .node d p k, n => by
    simp only [Newick.normFrom, strip]
    rw [stripL_normFromL k n]
theorem stripL_normFromL : ∀ (k : Kids) (n : Nat), stripL (Newick.normFromL n k).1 = stripL k
  | [], _ => rfl
  | (e, t) :: r, n => by
    simp only [Newick.normFromL, stripL]
    rw [strip_normFrom t (n + 1), stripL_normFromL r _]
end

/-- the base laws hold of C01's codec on the trees of C01's quantifier whose text has no comment and
    no ';' or line break inside a name -/
def c01Laws (F : Newick.FloatCodec) : NewickLaws (c01Codec F) where
  wf t := C01.WF01 F.isFloat F.dom t && plainText (Newick.write F.toCodec t)
  norm := T.normIds
  parse_write := by
    intro t h
    simp only [Bool.and_eq_true] at h
    simp only [c01Codec, codecOf, C01.parse_write F t h.1]
  norm_strip := by
    intro t _
    exact strip_normFrom t 0
  write_shape := by
    intro t h
    simp only [Bool.and_eq_true] at h
    have h2 := h.2
    simp only [plainText] at h2
    split at h2
    · rename_i body heq
      refine ⟨body.reverse, ?_, ?_⟩
      · have := congrArg List.reverse heq
        simp only [List.reverse_reverse, List.reverse_cons] at this
        exact this
      · intro c hc
        rw [List.all_eq_true] at h2
        have := h2 c (by simpa using hc)
        simp only [Bool.and_eq_true, bne_iff_ne, ne_eq] at this
        exact ⟨this.1.1.1, this.1.1.2, this.1.2, this.2⟩
    · cases h2

/- # the number-codec law from the float-codec laws of C01 -/

theorem goNum_eq : goNum = numOf Newick.goCodec := rfl

/-- C01's three laws of a float codec (`fmt_clean`, `fmt_isFloat`, `parse_fmt`) give the law this property
    needs for PhyloXML numbers: `parse (TrimSpace (fmt x)) = x` on the same domain -/
def c01NumLaws (F : Newick.FloatCodec) : NumLaws (numOf F.toCodec) where
  dom := F.dom
  parse_fmt := by
    intro q h
    have hc := (F.fmt_clean q h).2
    have ht : Px.trim (F.fmt q) = F.fmt q := trim_id _ (fun c hc' => by
      have := List.all_eq_true.1 hc c hc'
      simp only [Newick.numClean, Bool.not_eq_true', Bool.or_eq_false_iff] at this
      simp only [Bool.or_eq_false_iff]
      exact ⟨⟨⟨this.1.1.1.1.2, this.1.1.1.2⟩, this.1.1.2⟩, this.1.2⟩)
    simp only [numOf, ht, F.fmt_isFloat q h, if_true, F.parse_fmt q h]

/-- the law for the codec the DRIVER runs (`goNum`, C01's executable model of FormatFloat/ParseFloat), on
    C01's structural domain `goDomS` (all four laws of `goFloatCodecS` are proved in C01) -/
def goNumLaws : NumLaws goNum := c01NumLaws Newick.goFloatCodecS

theorem goNumLaws_dom : goNumLaws.dom = Newick.goDomS := rfl

open Gotree.Newick

/- # the two stream laws for C01's parser

   Both are instances of one fact about the loop of `parseIter` on an input `p ++ d :: tl`, where `p` holds
   no ';' and no comment and `d` is one of `( ) , : ;`: because `d` ends every token, the loop reads `p`
   without looking at `tl`, so on two tails it fails in the same way or arrives at `d` in the same state
   (`run_tails`). -/

/- ## the lexer on `p ++ d :: tl` -/

/-- no ';' and no comment -/
def Plain (p : List Char) : Prop := ∀ c ∈ p, c ≠ ';' ∧ c ≠ '['

/-- the characters that are a token by themselves, `[ ]` apart -/
def isStop (d : Char) : Bool := isDelim d || d == ';'

theorem isStop_cases {d : Char} (h : isStop d = true) : d = '(' ∨ d = ')' ∨ d = ',' ∨ d = ':' ∨ d = ';' := by
  simpa [isStop, isDelim, or_assoc] using h

theorem isStop_not {d : Char} (h : isStop d = true) : isWhitespace d = false ∧ isIdent false d = false := by
  rcases isStop_cases h with rfl | rfl | rfl | rfl | rfl <;> exact ⟨rfl, rfl⟩

theorem skipWs_stop (C : Codec) {d : Char} (h : isStop d = true) (tl : List Char) : skipWs C (d :: tl) = d :: tl := by
  rw [skipWs_eq_dropWhile, List.dropWhile_cons, (isStop_not h).1]; rfl

theorem scan_stop (C : Codec) {d : Char} (hd : isStop d = true) :
    ∃ t, t ≠ .ws ∧ t ≠ .numeric ∧ t ≠ .openbrack ∧ t ≠ .eof ∧ (t = .eot → d = ';') ∧
      ∀ tl, scan C false (d :: tl) = (t, [d], tl) := by
  rcases isStop_cases hd with rfl | rfl | rfl | rfl | rfl
  · exact ⟨.openpar, nofun, nofun, nofun, nofun, nofun, fun _ => rfl⟩
  · exact ⟨.closepar, nofun, nofun, nofun, nofun, nofun, fun _ => rfl⟩
  · exact ⟨.newsibling, nofun, nofun, nofun, nofun, nofun, fun _ => rfl⟩
  · exact ⟨.startlen, nofun, nofun, nofun, nofun, nofun, fun _ => rfl⟩
  · exact ⟨.eot, nofun, nofun, nofun, nofun, fun _ => rfl, fun _ => rfl⟩

/-- the next token of `p ++ d :: tl` is `d` itself when `p` is blank, else it is that of `p`, whatever `tl` -/
theorem scanIW_tails (C : Codec) {d : Char} (hd : isStop d = true) (p : List Char) (hp : Plain p) :
    (∃ t, t ≠ .numeric ∧ t ≠ .openbrack ∧ t ≠ .eof ∧ (t = .eot → d = ';') ∧
      ∀ tl, skipWs C (p ++ d :: tl) = d :: tl ∧ scanIW C (p ++ d :: tl) = (t, [d], tl)) ∨
    (∃ t l q, t ≠ .eot ∧ t ≠ .eof ∧ t ≠ .openbrack ∧ Plain q ∧ q.length < p.length ∧
      ∀ tl, scanIW C (p ++ d :: tl) = (t, l, q ++ d :: tl)) := by
  obtain ⟨t, hws, hnum, hob, hef, het, hs⟩ := scan_stop C hd
  obtain ⟨hw, hi⟩ := isStop_not hd
  have hsk : ∀ tl, skipWs C (p ++ d :: tl) = p.dropWhile isWhitespace ++ d :: tl := fun tl => by
    rw [skipWs_eq_dropWhile, dropWhile_append_of_not _ p tl hw]
  have hsuf : p.dropWhile isWhitespace <:+ p := List.dropWhile_suffix _
  cases hq : p.dropWhile isWhitespace with
  | nil =>
    refine Or.inl ⟨t, hnum, hob, hef, het, fun tl => ?_⟩
    have e : skipWs C (p ++ d :: tl) = d :: tl := by rw [hsk, hq]; rfl
    exact ⟨e, by rw [scanIW, e]; exact hs tl⟩
  | cons c r =>
    -- the first token of `p`: `d` ends it at the latest (`scan_append`)
    have hp0 : scanIW C p = scan C false (c :: r) := by rw [scanIW, skipWs_eq_dropWhile, hq]
    rw [hq] at hsuf
    have hc := hp c (hsuf.subset List.mem_cons_self)
    obtain ⟨t', _, ht', -, -, hne, -⟩ := scan_cons C false c r
    have hne : (scanIW C p).1 ≠ .eof := by rw [hp0, ht']; exact hne
    refine Or.inr ⟨(scanIW C p).1, (scanIW C p).2.1, (scanIW C p).2.2, fun e => hc.1 ((scan_tok_char C false c r).1 (hp0 ▸ e)), hne,
      fun e => hc.2 ((scan_tok_char C false c r).2 (hp0 ▸ e)), fun x hx => ?_, scanIW_lt C p hne, fun tl => ?_⟩
    · refine hp x (hsuf.subset ?_)
      rw [← scan_lit_rest C false (c :: r), ← hp0]
      exact List.mem_append_right _ hx
    · rw [scanIW, hsk, hq, List.cons_append, scan_append C false c r tl hw hi, ← hp0]

/- ## the loop -/

theorem scanIW_congr (C : Codec) (x y : List Char) (h : skipWs C x = skipWs C y) : scanIW C x = scanIW C y := by
  simp only [scanIW, h]

/-- the loop on `p ++ d :: tl₁` and on `p ++ d :: tl₂`: it comes to the same end, or stops at the `d` in the
    same state, as soon as that holds of the loop started on the `d` -/
theorem run_tails (C : Codec) {d : Char} (hd : isStop d = true) (tl₁ tl₂ : List Char)
    (base : ∀ st, run C st (d :: tl₁) = run C st (d :: tl₂) ∨
      ∃ st', run C st (d :: tl₁) = .ok (st', d :: tl₁) ∧ run C st (d :: tl₂) = .ok (st', d :: tl₂)) :
    ∀ (n : Nat) (p : List Char) (st : PState), p.length ≤ n → Plain p →
      run C st (p ++ d :: tl₁) = run C st (p ++ d :: tl₂) ∨
      ∃ st', run C st (p ++ d :: tl₁) = .ok (st', d :: tl₁) ∧ run C st (p ++ d :: tl₂) = .ok (st', d :: tl₂) := by
  intro n
  induction n with
  | zero =>
    intro p st hn _
    cases p with
    | nil => exact base st
    | cons _ _ => simp at hn
  | succ n ih =>
    intro p st hn hp
    rcases scanIW_tails C hd p hp with ⟨_, _, _, _, _, h⟩ | ⟨t, l, q, ht1, ht2, ht3, hq, hlt, h⟩
    · -- `p` is blank
      have e : ∀ tl, run C st (p ++ d :: tl) = run C st (d :: tl) := fun tl =>
        run_congr C st _ _ ((h tl).1.trans (skipWs_stop C hd tl).symm)
      rw [e tl₁, e tl₂]
      exact base st
    · -- the token after a ':' is the same on both sides
      have hla : (scanIW C (q ++ d :: tl₁)).1 = (scanIW C (q ++ d :: tl₂)).1 ∧
          (scanIW C (q ++ d :: tl₁)).2.1 = (scanIW C (q ++ d :: tl₂)).2.1 := by
        rcases scanIW_tails C hd q hq with ⟨_, _, _, _, _, h'⟩ | ⟨_, _, _, _, _, _, _, _, h'⟩
        · rw [(h' tl₁).2, (h' tl₂).2]; exact ⟨rfl, rfl⟩
        · rw [h' tl₁, h' tl₂]; exact ⟨rfl, rfl⟩
      have step : ∀ tl i, iter C st t l (skipWs C (p ++ d :: tl)) (q ++ d :: tl) = i →
          iter C st (scanIW C (p ++ d :: tl)).1 (scanIW C (p ++ d :: tl)).2.1 (skipWs C (p ++ d :: tl))
            (scanIW C (p ++ d :: tl)).2.2 = i := fun tl i hi => by rw [h tl]; exact hi
      have hne : ∀ tl, (scanIW C (p ++ d :: tl)).1 ≠ .eof := fun tl => by rw [h tl]; exact ht2
      by_cases hsl : t = .startlen
      · subst hsl
        obtain ⟨i, -, i1, i2, hi⟩ := iter_colon C st l (skipWs C (p ++ d :: tl₁)) (q ++ d :: tl₁) l
          (skipWs C (p ++ d :: tl₂)) (q ++ d :: tl₂) hla.1 hla.2
        cases i with
        | stop o =>
          rw [run_stop C st _ o (step _ _ i1), run_stop C st _ o (step _ _ i2)]
          exact Or.inl rfl
        | cont st' _ =>
          rw [run_cont C st _ st' _ (step _ _ i1) (hne _), run_cont C st _ st' _ (step _ _ i2) (hne _)]
          rcases scanIW_tails C hd q hq with ⟨_, hx, _, _, _, h'⟩ | ⟨_, _, q', _, _, _, hq', hlt', h'⟩
          · rw [(h' tl₁).2] at hi
            rcases hi with hi | ⟨_, hi⟩
            · exact absurd hi hx
            · cases hi
          · rw [h' tl₁, h' tl₂]
            exact ih q' st' (by omega) hq'
      · obtain ⟨i, -, hi⟩ := iter_plain C st t l hsl ht3 ht1 ht2
        cases i with
        | stop o =>
          rw [run_stop C st _ o (step _ _ (hi _ _)), run_stop C st _ o (step _ _ (hi _ _))]
          exact Or.inl rfl
        | cont st' _ =>
          rw [run_cont C st _ st' _ (step _ _ (hi _ _)) (hne _), run_cont C st _ st' _ (step _ _ (hi _ _)) (hne _)]
          exact ih q st' (by omega) hq

theorem parse_tails (C : Codec) {d : Char} (hd : isStop d = true) (tl₁ tl₂ : List Char)
    (base : ∀ st, run C st (d :: tl₁) = run C st (d :: tl₂) ∨
      ∃ st', run C st (d :: tl₁) = .ok (st', d :: tl₁) ∧ run C st (d :: tl₂) = .ok (st', d :: tl₂))
    (p : List Char) (hp : Plain p) : Newick.parse C (p ++ d :: tl₁) = Newick.parse C (p ++ d :: tl₂) := by
  have hhead : (scanIW C (p ++ d :: tl₁)).1 = (scanIW C (p ++ d :: tl₂)).1 ∧
      (scanIW C (p ++ d :: tl₂)).1 ≠ .openbrack := by
    rcases scanIW_tails C hd p hp with ⟨_, _, hb, _, _, h⟩ | ⟨_, _, _, _, _, hb, _, _, h⟩
    · rw [(h tl₁).2, (h tl₂).2]; exact ⟨rfl, hb⟩
    · rw [h tl₁, h tl₂]; exact ⟨rfl, hb⟩
  have hsk : ∀ tl, skipWs C (p ++ d :: tl) = p.dropWhile isWhitespace ++ d :: tl := fun tl => by
    rw [skipWs_eq_dropWhile, dropWhile_append_of_not _ p tl (isStop_not hd).1]
  have hrun := run_tails C hd tl₁ tl₂ base _ (p.dropWhile isWhitespace) {} (Nat.le_refl _)
    fun x hx => hp x ((List.dropWhile_suffix _).subset hx)
  have hend : (scanIW C (d :: tl₁)).1 = (scanIW C (d :: tl₂)).1 := by
    rcases scanIW_tails C hd [] nofun with ⟨_, _, _, _, _, h⟩ | ⟨_, _, _, _, _, _, _, hlt, _⟩
    · exact (congrArg (·.1) (h tl₁).2).trans (congrArg (·.1) (h tl₂).2).symm
    · cases hlt
  unfold Newick.parse
  simp only [hhead.1, hhead.2, if_false, hsk]
  split
  · rfl
  · rcases hrun with e | ⟨st', e1, e2⟩
    · rw [e]
    · rw [e1, e2]
      simp only [hend]

/-- STREAM LAW 1 for C01's parser: it stops at the first ';' (no comment before it) -/
theorem c01_parse_prefix (C : Codec) (a rest : List Char) (ha : ∀ c ∈ a, c ≠ ';' ∧ c ≠ '[') :
    Newick.parse C (a ++ ';' :: rest) = Newick.parse C (a ++ [';']) := by
  refine parse_tails C (d := ';') rfl rest [] (fun st => ?_) a ha
  have e : ∀ tl, run C st (';' :: tl) =
      if st.level != 0 then .err "Mismatched parenthesis at ;"
      else if st.stale then .err "strconv.ParseFloat: invalid syntax"
      else .ok ({ st with prevTok := some .eot }, ';' :: tl) := fun tl => by
    apply run_stop
    show iter C st .eot [';'] (';' :: tl) tl = _
    simp only [iter]
    repeat' split
    all_goals rfl
  rw [e, e]
  repeat' split
  · exact Or.inl rfl
  · exact Or.inl rfl
  · exact Or.inr ⟨_, rfl, rfl⟩

/- ## STREAM LAW 2: white space after a delimiter -/

theorem dropWhile_allws (W b : List Char) (h : ∀ c ∈ W, isWhitespace c = true) :
    (W ++ b).dropWhile isWhitespace = b.dropWhile isWhitespace := by
  induction W with
  | nil => rfl
  | cons c W ih => simp [h c (by simp), ih (fun x hx => h x (by simp [hx]))]

/-- behind a delimiter the loop goes on at the next token that is not blank -/
theorem run_delim (C : Codec) {d : Char} (hd : isDelim d = true) (st : PState) (tl₁ tl₂ : List Char)
    (h : skipWs C tl₁ = skipWs C tl₂) : run C st (d :: tl₁) = run C st (d :: tl₂) := by
  have hs : isStop d = true := by simp only [isStop, hd, Bool.true_or]
  obtain ⟨t, hws, _, hob, hef, het, hsc⟩ := scan_stop C hs
  have hne : t ≠ .eot := fun e => by rw [het e] at hd; cases hd
  have hW := scanIW_congr C _ _ h
  have e : ∀ tl, scanIW C (d :: tl) = (t, [d], tl) := fun tl => by rw [scanIW, skipWs_stop C hs, hsc]
  have step : ∀ tl i, iter C st t [d] (skipWs C (d :: tl)) tl = i →
      iter C st (scanIW C (d :: tl)).1 (scanIW C (d :: tl)).2.1 (skipWs C (d :: tl)) (scanIW C (d :: tl)).2.2 = i :=
    fun tl i hi => by rw [e tl]; exact hi
  have hnf : ∀ tl, (scanIW C (d :: tl)).1 ≠ .eof := fun tl => by rw [e tl]; exact hef
  by_cases hsl : t = .startlen
  · subst hsl
    obtain ⟨i, -, i1, i2, _⟩ := iter_colon C st [d] (skipWs C (d :: tl₁)) tl₁ [d] (skipWs C (d :: tl₂)) tl₂
      (by rw [hW]) (by rw [hW])
    cases i with
    | stop o => rw [run_stop C st _ o (step _ _ i1), run_stop C st _ o (step _ _ i2)]
    | cont st' _ =>
      rw [run_cont C st _ st' _ (step _ _ i1) (hnf _), run_cont C st _ st' _ (step _ _ i2) (hnf _), hW]
  · obtain ⟨i, -, hi⟩ := iter_plain C st t [d] hsl hob hne hef
    cases i with
    | stop o => rw [run_stop C st _ o (step _ _ (hi _ _)), run_stop C st _ o (step _ _ (hi _ _))]
    | cont st' _ =>
      rw [run_cont C st _ st' _ (step _ _ (hi _ _)) (hnf _), run_cont C st _ st' _ (step _ _ (hi _ _)) (hnf _)]
      exact run_congr C st' _ _ h

theorem parse_of_skipWs_eq (C : Codec) (x y : List Char) (h : skipWs C x = skipWs C y) :
    Newick.parse C x = Newick.parse C y := by
  have hs := scanIW_congr C x y h
  unfold Newick.parse
  by_cases hb : (scanIW C y).1 = .openbrack
  · simp only [hb, if_true, hs]
  · simp only [hb, if_false, hs, h]

theorem breakSafeRev_eq (l : Txt) :
    breakSafeRev l = match l.dropWhile isNewickWs with | [] => true | c :: _ => isDelim c := by
  induction l with
  | nil => rfl
  | cons c r ih => by_cases hc : isNewickWs c = true <;> simp [breakSafeRev, List.dropWhile_cons, hc, ih]

/-- a text after whose last non-blank character white space may be put is blank, or ends with a
    delimiter and blanks -/
theorem allws_or_decomp (a : List Char) (h : breakSafe a = true) :
    (∀ c ∈ a, isWhitespace c = true) ∨
    ∃ pre d tl, a = pre ++ d :: tl ∧ isDelim d = true ∧ ∀ c ∈ tl, isWhitespace c = true := by
  obtain ⟨tw, dw, htw, hdw⟩ : ∃ tw dw, a.reverse.takeWhile isNewickWs = tw ∧ a.reverse.dropWhile isNewickWs = dw :=
    ⟨_, _, rfl, rfl⟩
  have hb : ∀ c ∈ tw.reverse, isWhitespace c = true := fun c hc =>
    List.all_eq_true.1 (htw ▸ List.all_takeWhile) c (List.mem_reverse.1 hc)
  have e : a = dw.reverse ++ tw.reverse := by
    rw [← htw, ← hdw, ← List.reverse_append, List.takeWhile_append_dropWhile, List.reverse_reverse]
  rw [breakSafe, breakSafeRev_eq, hdw] at h
  cases dw with
  | nil => exact Or.inl (by rw [e]; simpa using hb)
  | cons c r => exact Or.inr ⟨r.reverse, c, tw.reverse, by rw [e]; simp, h, hb⟩

/-- STREAM LAW 2 for C01's parser: white space right after a delimiter `( ) , :` (or in front of the
    tree) is skipped -/
theorem c01_parse_ws_skip (C : Codec) (a ws b : List Char) (ha : ∀ c ∈ a, c ≠ ';' ∧ c ≠ '[')
    (hs : breakSafe a = true) (hws : ∀ c ∈ ws, isNewickWs c = true) :
    Newick.parse C (a ++ ws ++ b) = Newick.parse C (a ++ b) := by
  have hsk : ∀ W : List Char, (∀ c ∈ W, isWhitespace c = true) → skipWs C (W ++ ws ++ b) = skipWs C (W ++ b) :=
    fun W hW => by
      rw [skipWs_eq_dropWhile, skipWs_eq_dropWhile, List.append_assoc, dropWhile_allws W _ hW,
        dropWhile_allws ws b hws, dropWhile_allws W b hW]
  rcases allws_or_decomp a hs with hall | ⟨pre, d, tl, e, hd, htl⟩
  · exact parse_of_skipWs_eq C _ _ (hsk a hall)
  · subst e
    have hs : isStop d = true := by simp only [isStop, hd, Bool.true_or]
    have := parse_tails C hs (tl ++ ws ++ b) (tl ++ b) (fun st => Or.inl (run_delim C hd st _ _ (hsk tl htl)))
      pre fun c hc => ha c (by simp [hc])
    simpa using this

/-- C01's codec satisfies ALL the laws: `first_eq_head` holds for it without assumption on the parser -/
def c01StreamLaws (F : Newick.FloatCodec) : NewickStreamLaws (c01Codec F) where
  toNewickLaws := c01Laws F
  parse_prefix := by
    intro a rest ha
    show (match Newick.parse F.toCodec (a ++ ';' :: rest) with | .ok t => some t | _ => none) =
      (match Newick.parse F.toCodec (a ++ [';']) with | .ok t => some t | _ => none)
    rw [c01_parse_prefix F.toCodec a rest ha]
  parse_ws_skip := by
    intro a ws b ha hs hws
    show (match Newick.parse F.toCodec (a ++ ws ++ b) with | .ok t => some t | _ => none) =
      (match Newick.parse F.toCodec (a ++ b) with | .ok t => some t | _ => none)
    rw [c01_parse_ws_skip F.toCodec a ws b ha hs hws]

end Gotree.C13

/-
  C17 — two different inner branches (both ends of degree three) of a tree with unique tip
  names define different splits.
-/
import Gotree.Lemmas.C17OneSplit
import Gotree.Lemmas.C17ApartLocal

namespace Gotree.C17
open Gotree

/-- two paths: equal, one a proper prefix of the other, or diverging -/
theorem path_cases : ∀ (P Q : List Nat),
    P = Q ∨ (∃ a s, Q = P ++ a :: s) ∨ (∃ a s, P = Q ++ a :: s) ∨
    (∃ W a b s1 s2, a ≠ b ∧ P = W ++ a :: s1 ∧ Q = W ++ b :: s2)
  | [], [] => Or.inl rfl
  | [], b :: Q => Or.inr (Or.inl ⟨b, Q, rfl⟩)
  | a :: P, [] => Or.inr (Or.inr (Or.inl ⟨a, P, rfl⟩))
  | a :: P, b :: Q => by
    by_cases hab : a = b
    · subst hab
      rcases path_cases P Q with h | ⟨x, s, h⟩ | ⟨x, s, h⟩ | ⟨W, x, y, s1, s2, hxy, h1, h2⟩
      · exact Or.inl (by rw [h])
      · exact Or.inr (Or.inl ⟨x, s, by rw [h]; rfl⟩)
      · exact Or.inr (Or.inr (Or.inl ⟨x, s, by rw [h]; rfl⟩))
      · exact Or.inr (Or.inr (Or.inr ⟨a :: W, x, y, s1, s2, hxy, by rw [h1]; rfl, by rw [h2]; rfl⟩))
    · exact Or.inr (Or.inr (Or.inr ⟨[], a, b, P, Q, hab, rfl, rfl⟩))

theorem subAt_append : ∀ (p q : List Nat) (t N : T), subAt (p ++ q) t = some N →
    ∃ M, subAt p t = some M ∧ subAt q M = some N := by
  intro p
  induction p with
  | nil => intro q t N h; exact ⟨t, rfl, h⟩
  | cons i p ih =>
    intro q t N h
    obtain ⟨e, c, hki, h⟩ := subAt_cons.mp h
    obtain ⟨M, h1, h2⟩ := ih q c N h
    exact ⟨M, subAt_cons.mpr ⟨e, c, hki, h1⟩, h2⟩

theorem subAt_append_of : ∀ (p q : List Nat) (t M N : T), subAt p t = some M → subAt q M = some N →
    subAt (p ++ q) t = some N := by
  intro p
  induction p with
  | nil => intro q t M N h1 h2; simp only [subAt, Option.some.injEq] at h1; subst h1; exact h2
  | cons i p ih =>
    intro q t M N h1 h2
    obtain ⟨e, c, hki, h1⟩ := subAt_cons.mp h1
    exact subAt_cons.mpr ⟨e, c, hki, ih q c M N h1 h2⟩

theorem kid_leaves_subset (M : T) (i : Nat) (e : EdgeD) (c : T) (h : M.kids[i]? = some (e, c)) :
    ∀ x ∈ c.leaves, x ∈ leavesL M.kids :=
  fun _ hx => (leaves_sublist_leavesL (List.mem_of_getElem? h)).subset hx

/-- the leaves of a node reached by a path are leaves of the start -/
theorem sub_leaves_subset : ∀ (q : List Nat) (M N : T), subAt q M = some N → ∀ x ∈ N.leaves, x ∈ M.leaves := by
  intro q
  induction q with
  | nil => intro M N h x hx; simp only [subAt, Option.some.injEq] at h; subst h; exact hx
  | cons i q ih =>
    intro M N h x hx
    obtain ⟨e, c, hki, h⟩ := subAt_cons.mp h
    rw [T.leaves_of_kids_ne fun h0 => by simp [h0] at hki]
    exact kid_leaves_subset M i e c hki x (ih c N h x hx)

theorem nodup_kids_of_sub : ∀ (q : List Nat) (t M : T), subAt q t = some M → (leavesL t.kids).Nodup →
    (leavesL M.kids).Nodup := by
  intro q
  induction q with
  | nil => intro t M h hnd; simp only [subAt, Option.some.injEq] at h; subst h; exact hnd
  | cons i q ih =>
    intro t M h hnd
    obtain ⟨e, c, hki, h⟩ := subAt_cons.mp h
    exact ih c M h (nodup_leavesL_kids e c t.kids i hki hnd)

/-- a node with at least two children: below child `j` strictly fewer leaves -/
theorem other_kid (M : T) (j : Nat) (e : EdgeD) (c : T) (hj : M.kids[j]? = some (e, c)) (h2 : 2 ≤ M.kids.length)
    (hnd : (leavesL M.kids).Nodup) : ∃ z, z ∈ leavesL M.kids ∧ z ∉ c.leaves := by
  have : ∃ i, i ≠ j ∧ i < M.kids.length := by
    by_cases h0 : j = 0
    · exact ⟨1, by omega, by omega⟩
    · exact ⟨0, by omega, by omega⟩
  obtain ⟨i, hij, hi⟩ := this
  have hki : M.kids[i]? = some (M.kids[i]) := by simp [hi]
  obtain ⟨z, hz⟩ := List.exists_mem_of_ne_nil _ (T.leaves_ne_nil (M.kids[i]).2)
  refine ⟨z, kid_leaves_subset M i (M.kids[i]).1 (M.kids[i]).2 hki z hz, ?_⟩
  exact leaves_disjoint_of_getElem? hnd hki hj hij z hz

/-- `c` is the lower end of a branch of `t` both of whose ends have three neighbours: child
    number `j` of the node at path `q` -/
def Low (t : T) (q : List Nat) (j : Nat) (c : T) : Prop :=
  ∃ S e, subAt q t = some S ∧ S.kids[j]? = some (e, c) ∧ c.kids.length = 2 ∧
    (if q = [] then S.kids.length = 3 else S.kids.length = 2)

theorem subAt_single (S : T) (j : Nat) (e : EdgeD) (c : T) (h : S.kids[j]? = some (e, c)) : subAt [j] S = some c :=
  subAt_cons.mpr ⟨e, c, h, rfl⟩

/-- the strictly nested case: `c2` lies below child `a` of `c1` -/
theorem nested_ne {all : List String} (c1 c2 : T) (a : Nat) (s : List Nat) (hk : c1.kids.length = 2)
    (hnd : (leavesL c1.kids).Nodup) (hsub : subAt (a :: s) c1 = some c2)
    (hall : ∀ x ∈ leavesL c1.kids, x ∈ all) (hne : all ≠ []) (hk2 : c2.kids ≠ []) :
    canonSide all (leavesL c1.kids) ≠ canonSide all (leavesL c2.kids) := by
  obtain ⟨e, A, hA, hs⟩ := subAt_cons.mp hsub
  have hc2A : ∀ x ∈ c2.leaves, x ∈ A.leaves := sub_leaves_subset s A c2 hs
  obtain ⟨z, hz1, hz2⟩ := other_kid c1 a e A hA (by omega) hnd
  obtain ⟨y, hy⟩ := List.exists_mem_of_ne_nil _ (T.leaves_ne_nil c2)
  have hy1 : y ∈ leavesL c1.kids := kid_leaves_subset c1 a e A hA y (hc2A y hy)
  rw [T.leaves_of_kids_ne hk2] at hy hc2A
  intro heq
  rcases canonSide_eq_cases hne heq with h | h
  · exact hz2 (hc2A z ((h z (hall z hz1)).mp hz1))
  · exact ((h y (hall y hy1)).mp hy1) hy

/-- the same without the condition on the upper end: it has at least two children -/
def Low' (t : T) (q : List Nat) (j : Nat) (c : T) : Prop :=
  ∃ S e, subAt q t = some S ∧ S.kids[j]? = some (e, c) ∧ c.kids.length = 2 ∧ 2 ≤ S.kids.length

theorem Low.low' {t : T} {q : List Nat} {j : Nat} {c : T} (h : Low t q j c) : Low' t q j c := by
  obtain ⟨S, e, h1, h2, h3, h4⟩ := h
  exact ⟨S, e, h1, h2, h3, by split at h4 <;> omega⟩

/-- every proper subtree misses a tip of the tree (true when the root has at least two children,
    and when the root is itself a tip) -/
def ProperOutside (t : T) : Prop :=
  ∀ (q : List Nat) (S : T), q ≠ [] → subAt q t = some S → S.kids ≠ [] → ∃ z, z ∈ t.tipNames ∧ z ∉ leavesL S.kids

theorem properOutside_of_two (t : T) (hu : t.tipNames.Nodup) (hk : 2 ≤ t.kids.length) : ProperOutside t := by
  intro q S hq hs hne
  have hnd : (leavesL t.kids).Nodup := by
    unfold T.tipNames at hu
    exact (List.nodup_append.mp hu).2.1
  obtain ⟨z, hz1, hz2⟩ := outside_nonempty t S q hq hs hne hk hnd
  exact ⟨z, t.leavesL_sublist_tipNames.subset hz1, hz2⟩

/-- the root is a tip: its own name is outside every subtree below it -/
theorem properOutside_of_tipRoot (t : T) (hu : t.tipNames.Nodup) (hk : t.kids.length = 1) : ProperOutside t := by
  intro q S _ hs hne
  refine ⟨t.name, ?_, ?_⟩
  · simp [T.tipNames, hk]
  · intro hin
    have hsub := (sub_leaves_sublist q t S hs hne).subset hin
    unfold T.tipNames at hu
    simp only [hk, beq_self_eq_true, if_true] at hu
    exact (List.nodup_append.mp hu).2.2 t.name (by simp) t.name hsub rfl

/-- Two different branches whose lower ends have two children define different (canonical)
    splits — unless they are the two branches at the root of a rooted tree. -/
theorem low_ne_po (t : T) (hu : t.tipNames.Nodup) (hpo : ProperOutside t) (q1 q2 : List Nat) (j1 j2 : Nat) (c1 c2 : T)
    (h1 : Low' t q1 j1 c1) (h2 : Low' t q2 j2 c2) (hne : ¬(q1 = q2 ∧ j1 = j2))
    (hroot3 : q1 = [] → q2 = [] → t.kids.length = 3) :
    canonSide t.tipNames (leavesL c1.kids) ≠ canonSide t.tipNames (leavesL c2.kids) := by
  obtain ⟨S1, e1, hs1, hj1, hk1, hS1k⟩ := h1
  obtain ⟨S2, e2, hs2, hj2, hk2, hS2k⟩ := h2
  have hnd : (leavesL t.kids).Nodup := by
    unfold T.tipNames at hu
    exact (List.nodup_append.mp hu).2.1
  have hP1 : subAt (q1 ++ [j1]) t = some c1 := subAt_append_of q1 [j1] t S1 c1 hs1 (subAt_single S1 j1 e1 c1 hj1)
  have hP2 : subAt (q2 ++ [j2]) t = some c2 := subAt_append_of q2 [j2] t S2 c2 hs2 (subAt_single S2 j2 e2 c2 hj2)
  have hc1ne : c1.kids ≠ [] := by intro h; rw [h] at hk1; simp at hk1
  have hc2ne : c2.kids ≠ [] := by intro h; rw [h] at hk2; simp at hk2
  have hall1 : ∀ x ∈ leavesL c1.kids, x ∈ t.tipNames := fun x hx =>
    t.leavesL_sublist_tipNames.subset ((sub_leaves_sublist _ t c1 hP1 hc1ne).subset hx)
  have hall2 : ∀ x ∈ leavesL c2.kids, x ∈ t.tipNames := fun x hx =>
    t.leavesL_sublist_tipNames.subset ((sub_leaves_sublist _ t c2 hP2 hc2ne).subset hx)
  obtain ⟨y1, hy1⟩ := List.exists_mem_of_ne_nil _ (leavesL_ne_nil _ hc1ne)
  have hne' : t.tipNames ≠ [] := List.ne_nil_of_mem (hall1 y1 hy1)
  rcases path_cases (q1 ++ [j1]) (q2 ++ [j2]) with h | ⟨a, s, h⟩ | ⟨a, s, h⟩ | ⟨W, a, b, s1, s2, hab, hp1, hp2⟩
  · -- the same branch
    obtain ⟨hq, hj⟩ := List.append_inj' h rfl
    exact absurd ⟨hq, by simpa using hj⟩ hne
  · -- c2 strictly below c1
    rw [h] at hP2
    obtain ⟨M, hM, hsub⟩ := subAt_append _ _ t c2 hP2
    rw [hP1] at hM
    simp only [Option.some.injEq] at hM
    subst hM
    exact nested_ne c1 c2 a s hk1 (nodup_kids_of_sub _ t c1 hP1 hnd) hsub hall1 hne' hc2ne
  · -- c1 strictly below c2
    rw [h] at hP1
    obtain ⟨M, hM, hsub⟩ := subAt_append _ _ t c1 hP1
    rw [hP2] at hM
    simp only [Option.some.injEq] at hM
    subst hM
    exact (nested_ne c2 c1 a s hk2 (nodup_kids_of_sub _ t c2 hP2 hnd) hsub hall2 hne' hc1ne).symm
  · -- the two branches hang below different children of the node at `W`
    rw [hp1] at hP1
    rw [hp2] at hP2
    obtain ⟨M, hM, hsub1⟩ := subAt_append _ _ t c1 hP1
    obtain ⟨M', hM', hsub2⟩ := subAt_append _ _ t c2 hP2
    rw [hM] at hM'
    simp only [Option.some.injEq] at hM'
    subst hM'
    obtain ⟨ea, A, hA, hsA⟩ := subAt_cons.mp hsub1
    obtain ⟨eb, B, hB, hsB⟩ := subAt_cons.mp hsub2
    have hndM : (leavesL M.kids).Nodup := nodup_kids_of_sub W t M hM hnd
    have hdisj : ∀ x ∈ A.leaves, x ∉ B.leaves := leaves_disjoint_of_getElem? hndM hA hB hab
    have hc1A : ∀ x ∈ leavesL c1.kids, x ∈ A.leaves := fun x hx =>
      sub_leaves_subset s1 A c1 hsA x (by rw [T.leaves_of_kids_ne hc1ne]; exact hx)
    have hc2B : ∀ x ∈ leavesL c2.kids, x ∈ B.leaves := fun x hx =>
      sub_leaves_subset s2 B c2 hsB x (by rw [T.leaves_of_kids_ne hc2ne]; exact hx)
    intro heq
    rcases canonSide_eq_cases hne' heq with hsame | hcompl
    · exact hdisj y1 (hc1A y1 hy1) (hc2B y1 ((hsame y1 (hall1 y1 hy1)).mp hy1))
    · -- a tip outside both
      suffices ∃ z, z ∈ t.tipNames ∧ z ∉ leavesL c1.kids ∧ z ∉ leavesL c2.kids by
        obtain ⟨z, hz, hz1, hz2⟩ := this
        have := (hcompl z hz)
        exact hz1 (this.mpr hz2)
      have hAall : ∀ x ∈ A.leaves, x ∈ t.tipNames := fun x hx => by
        have hMl : x ∈ leavesL M.kids := kid_leaves_subset M a ea A hA x hx
        have hMne : M.kids ≠ [] := by intro h0; rw [h0] at hA; simp at hA
        exact t.leavesL_sublist_tipNames.subset ((sub_leaves_sublist W t M hM hMne).subset hMl)
      have hBall : ∀ x ∈ B.leaves, x ∈ t.tipNames := fun x hx => by
        have hMl : x ∈ leavesL M.kids := kid_leaves_subset M b eb B hB x hx
        have hMne : M.kids ≠ [] := by intro h0; rw [h0] at hA; simp at hA
        exact t.leavesL_sublist_tipNames.subset ((sub_leaves_sublist W t M hM hMne).subset hMl)
      rcases List.eq_nil_or_concat s1 with hs1nil | ⟨L, l, hs1c⟩
      · rcases List.eq_nil_or_concat s2 with hs2nil | ⟨L, l, hs2c⟩
        · -- both are children of the node at `W`
          subst hs1nil; subst hs2nil
          obtain ⟨hq1, hj1'⟩ := List.append_inj' hp1 rfl
          obtain ⟨hq2, hj2'⟩ := List.append_inj' hp2 rfl
          simp only [subAt, Option.some.injEq] at hsA hsB
          subst hsA; subst hsB
          rw [hq1, hM] at hs1
          simp only [Option.some.injEq] at hs1
          subst hs1
          by_cases hW : W = []
          · -- the root, with three children
            have hq2W : q2 = W := hq2
            have hMt : M = t := by
              rw [hW] at hM
              simpa [subAt] using hM.symm
            have hd1 : M.kids.length = 3 := by
              rw [hMt]
              exact hroot3 (hq1.trans hW) (hq2W.trans hW)
            have : ∃ i, i ≠ a ∧ i ≠ b ∧ i < M.kids.length := by
              have ha3 : a < 3 := by
                have := (List.getElem?_eq_some_iff.mp hA).1; omega
              have hb3 : b < 3 := by
                have := (List.getElem?_eq_some_iff.mp hB).1; omega
              by_cases h0 : a ≠ 0 ∧ b ≠ 0
              · exact ⟨0, by omega, by omega, by omega⟩
              · by_cases h1 : a ≠ 1 ∧ b ≠ 1
                · exact ⟨1, by omega, by omega, by omega⟩
                · exact ⟨2, by omega, by omega, by omega⟩
            obtain ⟨i, hia, hib, hi⟩ := this
            have hki : M.kids[i]? = some (M.kids[i]) := by simp [hi]
            obtain ⟨z, hz⟩ := List.exists_mem_of_ne_nil _ (T.leaves_ne_nil (M.kids[i]).2)
            have hzM : z ∈ leavesL M.kids := kid_leaves_subset M i _ _ hki z hz
            have hMne : M.kids ≠ [] := by intro h0; rw [h0] at hA; simp at hA
            refine ⟨z, t.leavesL_sublist_tipNames.subset ((sub_leaves_sublist W t M hM hMne).subset hzM), ?_, ?_⟩
            · intro hz1
              exact leaves_disjoint_of_getElem? hndM hki hA hia z hz (hc1A z hz1)
            · intro hz2
              exact leaves_disjoint_of_getElem? hndM hki hB hib z hz (hc2B z hz2)
          · -- an inner node with exactly these two children: a tip outside it
            have hMne : M.kids ≠ [] := by intro h0; rw [h0] at hA; simp at hA
            obtain ⟨z, hz1, hz2⟩ := hpo W M hW hM hMne
            refine ⟨z, hz1, ?_, ?_⟩
            · intro h; exact hz2 (kid_leaves_subset M a ea _ hA z (hc1A z h))
            · intro h; exact hz2 (kid_leaves_subset M b eb _ hB z (hc2B z h))
        · -- c2 is strictly below child `b`: the node above it has another child there
          subst hs2c
          have hp2' : q2 ++ [j2] = (W ++ b :: L) ++ [l] := by rw [hp2]; simp
          obtain ⟨hq2, hj2'⟩ := List.append_inj' hp2' rfl
          have hj2l : j2 = l := by simpa using hj2'
          subst hj2l
          rw [hq2] at hs2
          obtain ⟨M2, hM2, hsubS2⟩ := subAt_append W (b :: L) t S2 hs2
          rw [hM] at hM2
          simp only [Option.some.injEq] at hM2
          subst hM2
          obtain ⟨eb', B', hB', hsS2⟩ := subAt_cons.mp hsubS2
          rw [hB] at hB'
          simp only [Option.some.injEq, Prod.mk.injEq] at hB'
          obtain ⟨_, rfl⟩ := hB'
          have hndS2 : (leavesL S2.kids).Nodup := nodup_kids_of_sub _ t S2 hs2 hnd
          obtain ⟨z, hz1, hz2⟩ := other_kid S2 j2 e2 c2 hj2 hS2k hndS2
          have hS2ne : S2.kids ≠ [] := by intro h0; rw [h0] at hj2; simp at hj2
          have hzB : z ∈ B.leaves := sub_leaves_subset L B S2 hsS2 z (by rw [T.leaves_of_kids_ne hS2ne]; exact hz1)
          refine ⟨z, hBall z hzB, ?_, ?_⟩
          · intro h; exact hdisj z (hc1A z h) hzB
          · intro h; exact hz2 (by rw [T.leaves_of_kids_ne hc2ne]; exact h)
      · -- c1 is strictly below child `a`
        subst hs1c
        have hp1' : q1 ++ [j1] = (W ++ a :: L) ++ [l] := by rw [hp1]; simp
        obtain ⟨hq1, hj1'⟩ := List.append_inj' hp1' rfl
        have hj1l : j1 = l := by simpa using hj1'
        subst hj1l
        rw [hq1] at hs1
        obtain ⟨M1, hM1, hsubS1⟩ := subAt_append W (a :: L) t S1 hs1
        rw [hM] at hM1
        simp only [Option.some.injEq] at hM1
        subst hM1
        obtain ⟨ea', A', hA', hsS1⟩ := subAt_cons.mp hsubS1
        rw [hA] at hA'
        simp only [Option.some.injEq, Prod.mk.injEq] at hA'
        obtain ⟨_, rfl⟩ := hA'
        have hndS1 : (leavesL S1.kids).Nodup := nodup_kids_of_sub _ t S1 hs1 hnd
        obtain ⟨z, hz1, hz2⟩ := other_kid S1 j1 e1 c1 hj1 hS1k hndS1
        have hS1ne : S1.kids ≠ [] := by intro h0; rw [h0] at hj1; simp at hj1
        have hzA : z ∈ A.leaves := sub_leaves_subset L A S1 hsS1 z (by rw [T.leaves_of_kids_ne hS1ne]; exact hz1)
        refine ⟨z, hAall z hzA, ?_, ?_⟩
        · intro h; exact hz2 (by rw [T.leaves_of_kids_ne hc1ne]; exact h)
        · intro h; exact hdisj z hzA (hc2B z h)

/-- Two different branches both of whose ends have three neighbours define different splits. -/
theorem Low.ne_po {t : T} (hu : t.tipNames.Nodup) (hpo : ProperOutside t) {q1 q2 : List Nat} {j1 j2 : Nat} {c1 c2 : T}
    (h1 : Low t q1 j1 c1) (h2 : Low t q2 j2 c2) (hne : ¬(q1 = q2 ∧ j1 = j2)) :
    canonSide t.tipNames (leavesL c1.kids) ≠ canonSide t.tipNames (leavesL c2.kids) := by
  refine low_ne_po t hu hpo q1 q2 j1 j2 c1 c2 h1.low' h2.low' hne ?_
  intro hq1 _
  obtain ⟨S, e, hs, _, _, hd⟩ := h1
  rw [hq1] at hs hd
  simp only [subAt, Option.some.injEq] at hs
  subst hs
  simpa using hd

end Gotree.C17

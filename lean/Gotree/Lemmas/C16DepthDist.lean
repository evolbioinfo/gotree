/-
  C16 — `tipDistOK` means "distance in branches to the closest tip".
-/
import Gotree.Spec.C16DepthDist

namespace Gotree.C16
open Gotree

/-- `Reach adj k v`: there is a walk of `k` branches from node `v` to a tip (a node with one neighbour) -/
inductive Reach (adj : List (List Nat)) : Nat → Nat → Prop where
  | tip (v : Nat) (hv : v < adj.length) (ht : (adj.getD v []).length = 1) : Reach adj 0 v
  | step (k u v : Nat) (hv : v < adj.length) (hu : u ∈ adj.getD v []) (h : Reach adj k u) : Reach adj (k + 1) v

/-- `k` is the number of branches between `v` and the closest tip -/
def IsTipDist (adj : List (List Nat)) (v k : Nat) : Prop :=
  Reach adj k v ∧ ∀ j, Reach adj j v → k ≤ j

theorem minList_le : ∀ (l : List Nat) (a : Nat), a ∈ l → minList l ≤ a
  | [], _, h => by cases h
  | [b], a, h => by simp at h; subst h; simp [minList]
  | b :: c :: r, a, h => by
    simp only [minList]
    rcases List.mem_cons.mp h with rfl | h
    · exact Nat.min_le_left _ _
    · exact Nat.le_trans (Nat.min_le_right _ _) (minList_le (c :: r) a h)

theorem minList_mem : ∀ (l : List Nat), l ≠ [] → minList l ∈ l
  | [], h => absurd rfl h
  | [b], _ => by simp [minList]
  | b :: c :: r, _ => by
    simp only [minList]
    have ih := minList_mem (c :: r) (by simp)
    by_cases hc : b ≤ minList (c :: r)
    · rw [Nat.min_eq_left hc]; exact List.mem_cons_self
    · rw [Nat.min_eq_right (by omega)]; exact List.mem_cons_of_mem _ ih

theorem tipDistAt_of_ok (adj : List (List Nat)) (dep : List Nat) (h : tipDistOK adj dep = true) (v : Nat)
    (hv : v < adj.length) : tipDistAt adj dep v = true := by
  simp only [tipDistOK, Bool.and_eq_true, List.all_eq_true, List.mem_range] at h
  exact h.2 v hv

/-- a walk of `k` branches to a tip bounds the reported depth -/
theorem dep_le_of_reach (adj : List (List Nat)) (dep : List Nat) (h : tipDistOK adj dep = true) :
    ∀ k v, Reach adj k v → dep.getD v 0 ≤ k := by
  intro k v hr
  induction hr with
  | tip v hv ht =>
    have := tipDistAt_of_ok adj dep h v hv
    simp only [tipDistAt, Bool.and_eq_true] at this
    have h2 := this.2
    simp only [ht, beq_self_eq_true, if_true, beq_iff_eq] at h2
    omega
  | step k u v hv hu _ ih =>
    have := tipDistAt_of_ok adj dep h v hv
    simp only [tipDistAt, Bool.and_eq_true] at this
    have h2 := this.2
    by_cases ht : ((adj.getD v []).length == 1) = true
    · simp only [ht, if_true, beq_iff_eq] at h2; omega
    · simp only [ht, Bool.false_eq_true, if_false, Bool.and_eq_true, beq_iff_eq] at h2
      have hm : minList ((adj.getD v []).map fun u => dep.getD u 0) ≤ dep.getD u 0 :=
        minList_le _ _ (List.mem_map.mpr ⟨u, hu, rfl⟩)
      omega

/-- the reported depth is the length of a walk to a tip -/
theorem reach_of_dep (adj : List (List Nat)) (dep : List Nat) (h : tipDistOK adj dep = true) :
    ∀ d v, v < adj.length → dep.getD v 0 = d → Reach adj d v := by
  intro d
  induction d with
  | zero =>
    intro v hv hd
    have := tipDistAt_of_ok adj dep h v hv
    simp only [tipDistAt, Bool.and_eq_true] at this
    have h2 := this.2
    by_cases ht : ((adj.getD v []).length == 1) = true
    · exact Reach.tip v hv (by simpa using ht)
    · simp only [ht, Bool.false_eq_true, if_false, Bool.and_eq_true, beq_iff_eq] at h2
      omega
  | succ d ih =>
    intro v hv hd
    have := tipDistAt_of_ok adj dep h v hv
    simp only [tipDistAt, Bool.and_eq_true] at this
    obtain ⟨hin, h2⟩ := this
    by_cases ht : ((adj.getD v []).length == 1) = true
    · simp only [ht, if_true, beq_iff_eq] at h2; omega
    · simp only [ht, Bool.false_eq_true, if_false, Bool.and_eq_true, beq_iff_eq] at h2
      obtain ⟨hne, heq⟩ := h2
      have hne' : ((adj.getD v []).map fun u => dep.getD u 0) ≠ [] := by
        intro hc
        have : adj.getD v [] = [] := List.map_eq_nil_iff.mp hc
        rw [this] at hne; simp at hne
      obtain ⟨u, hu, hue⟩ := List.mem_map.mp (minList_mem _ hne')
      have hul : u < adj.length := by
        have := List.all_eq_true.mp hin u hu
        simpa using this
      exact Reach.step d u v hv hu (ih u hul (by omega))

/-- ★ depths that pass `tipDistOK` are, node by node, the number of branches to the closest tip -/
theorem tipDistOK_sound (adj : List (List Nat)) (dep : List Nat) (h : tipDistOK adj dep = true) (v : Nat)
    (hv : v < adj.length) : IsTipDist adj v (dep.getD v 0) :=
  ⟨reach_of_dep adj dep h _ v hv rfl, fun j hj => dep_le_of_reach adj dep h j v hj⟩

end Gotree.C16

/-
  C15 — what the Spec predicates of the oracle (`sameNames`, `distAgree`, `newNames`) and the derived
  state (tip index, branch bitsets) need.  Core Lean only.
-/
import Gotree.Lemmas.C15Copy
import Gotree.Lemmas.C15Single
import Gotree.Lemmas.C15InsertAll

namespace Gotree.C15
open Gotree Gotree.C14

theorem sameNames_of_perm {l₁ l₂ : List String} (h : l₁.Perm l₂) : sameNames l₁ l₂ = true := by
  simp [sameNames, sortS_congr h]

theorem distAgree_of {t u : T} {l : List String} (h : ∀ a ∈ l, ∀ b ∈ l, t.dist a b = u.dist a b) :
    distAgree t u l = true := by
  simp only [distAgree, List.all_eq_true, beq_iff_eq]
  exact h

theorem dedupS_mem : ∀ (l : List String) (x : String), x ∈ dedupS l ↔ x ∈ l
  | [], _ => by simp [dedupS]
  | a :: r, x => by
    simp only [dedupS]
    split
    · rename_i h
      have ha : a ∈ r := by simpa using h
      rw [dedupS_mem r x, List.mem_cons]
      constructor
      · exact Or.inr
      · rintro (rfl | h) <;> assumption
    · rw [List.mem_cons, List.mem_cons, dedupS_mem r x]

theorem dedupS_nodup : ∀ (l : List String), (dedupS l).Nodup
  | [] => by simp [dedupS]
  | a :: r => by
    simp only [dedupS]
    split
    · exact dedupS_nodup r
    · rename_i h
      have ha : a ∉ r := by simpa using h
      exact List.nodup_cons.mpr ⟨fun hm => ha ((dedupS_mem r a).mp hm), dedupS_nodup r⟩

theorem mem_newNames (tips : List String) (groups : List (List String)) (x : String) :
    x ∈ newNames tips groups ↔ x ∈ groups.flatten ∧ x ∉ tips := by
  simp only [newNames]
  rw [dedupS_mem, List.mem_filter]
  simp

theorem rootDist_eq (g : T) (b : String) : g.rootDist b = belowW EdgeD.lenOr0 g.splits b := rfl

/-! ## the derived state: tip index and branch bitsets -/

theorem sortN_eq_of_perm {l₁ l₂ : List String} (h : l₁.Perm l₂) : sortN l₁ = sortN l₂ := sortNames_eq_of_perm h

theorem sortN_perm (l : List String) : (sortN l).Perm l := sortNames_perm l

/-- on names without repetition the index is filled completely, in the given (sorted) order -/
theorem tipIndexFill_nodup : ∀ (l acc : List String), l.Nodup → (∀ x ∈ l, x ∉ acc) →
    tipIndexFill l acc = (acc ++ l, true)
  | [], acc, _, _ => by simp [tipIndexFill]
  | a :: r, acc, hn, hd => by
    have ha : a ∉ acc := hd a (by simp)
    have hn' := List.nodup_cons.mp hn
    simp only [tipIndexFill, List.contains_eq_mem, ha, decide_false, if_false, Bool.false_eq_true]
    rw [tipIndexFill_nodup r (acc ++ [a]) hn'.2 (fun x hx hm => by
      rcases List.mem_append.mp hm with hm | hm
      · exact hd x (List.mem_cons_of_mem _ hx) hm
      · simp at hm; subst hm; exact hn'.1 hx)]
    simp

/-- `UpdateTipIndex` on a tree with unique tip names: the sorted tip names, no error -/
theorem tipIndex_of_nodup (t : T) (h : t.tipNames.Nodup) : tipIndex t = (sortN t.tipNames, true) := by
  have := tipIndexFill_nodup (sortN t.tipNames) [] ((sortN_perm _).nodup_iff.mpr h) (fun _ _ hm => by cases hm)
  simpa [tipIndex] using this

theorem tipIndex_congr {t u : T} (h : u.tipNames.Perm t.tipNames) : tipIndex u = tipIndex t := by
  simp [tipIndex, sortN_eq_of_perm h]

theorem bitsets_congr {t u : T} (hs : u.splits = t.splits) (hn : u.tipNames = t.tipNames) : bitsets u = bitsets t := by
  simp [bitsets, tipIndex, hs, hn]

theorem zeroPpos_derived (t : T) : tipIndex (zeroPpos t) = tipIndex t ∧ bitsets (zeroPpos t) = bitsets t :=
  ⟨by simp [tipIndex, zeroPpos_tipNames], bitsets_congr (zeroPpos_splits t) (zeroPpos_tipNames t)⟩

end Gotree.C15

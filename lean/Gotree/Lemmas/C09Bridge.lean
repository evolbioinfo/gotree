/-
  C09 — bridge between the vocabulary of the theorems (`C09.count`: naive table over
  the branch lists of the normal forms `norm t`, bitsets up to complement) and the Spec the
  oracle evaluates (`C09S.count`: over `T.usplitsAll` of the trees as given, canonical sides).
  `UnRoot` and `RemoveSingleNodes` keep the set of bipartitions of a tree (`hasBip_norm`).
-/
import Gotree.Lemmas.C09Dom
import Gotree.Lemmas.C09Rooting

namespace Gotree.C09
open Gotree

/-! ## sorted lists of names -/

theorem sortS_perm (l : List String) : (sortS l).Perm l := List.mergeSort_perm l _

theorem sortS_sorted (l : List String) : (sortS l).Pairwise (fun a b => decide (a ≤ b) = true) := by
  unfold sortS
  apply List.pairwise_mergeSort
  · intro a b c h1 h2
    simp only [decide_eq_true_eq] at h1 h2 ⊢
    exact String.le_trans h1 h2
  · intro a b
    simp only [Bool.or_eq_true, decide_eq_true_eq]
    exact String.le_total a b

/-- sorted lists without repetition are equal as soon as they have the same elements -/
theorem sorted_ext {a b : List String} (ha : a.Nodup) (hb : b.Nodup)
    (sa : a.Pairwise (fun a b => decide (a ≤ b) = true)) (sb : b.Pairwise (fun a b => decide (a ≤ b) = true))
    (h : ∀ x, x ∈ a ↔ x ∈ b) : a = b := by
  apply List.Perm.eq_of_pairwise (le := fun a b => decide (a ≤ b) = true) _ sa sb
    ((List.perm_ext_iff_of_nodup ha hb).2 h)
  intro x y _ _ h1 h2
  simp only [decide_eq_true_eq] at h1 h2
  exact String.le_antisymm h1 h2

theorem mem_sortS {l : List String} {x : String} : x ∈ sortS l ↔ x ∈ l := (sortS_perm l).mem_iff

/-- two lists without repetition and with the same elements have the same sorted form -/
theorem sortS_eq_of_mem {a b : List String} (ha : a.Nodup) (hb : b.Nodup) (h : ∀ x, x ∈ a ↔ x ∈ b) :
    sortS a = sortS b :=
  sorted_ext ((sortS_perm a).nodup_iff.2 ha) ((sortS_perm b).nodup_iff.2 hb) (sortS_sorted a) (sortS_sorted b)
    fun x => by rw [mem_sortS, mem_sortS, h]

/-! ## the least taxon -/

theorem foldl_min_spec : ∀ (r : List String) (a : String),
    let m := r.foldl (fun m x => if x < m then x else m) a
    (m = a ∨ m ∈ r) ∧ m ≤ a ∧ ∀ x ∈ r, m ≤ x
  | [], a => by simp
  | b :: r, a => by
    simp only [List.foldl_cons]
    have ih := foldl_min_spec r (if b < a then b else a)
    simp only at ih
    obtain ⟨i1, i2, i3⟩ := ih
    by_cases hba : b < a
    · simp only [hba, if_true] at i1 i2 i3 ⊢
      refine ⟨?_, ?_, ?_⟩
      · rcases i1 with h | h
        · exact Or.inr (by rw [h]; simp)
        · exact Or.inr (by simp [h])
      · exact String.le_trans i2 (String.not_lt.1 (String.lt_asymm hba))
      · intro x hx
        rcases List.mem_cons.1 hx with rfl | hx
        · exact i2
        · exact i3 x hx
    · simp only [hba, if_false] at i1 i2 i3 ⊢
      refine ⟨?_, i2, ?_⟩
      · rcases i1 with h | h
        · exact Or.inl h
        · exact Or.inr (by simp [h])
      · intro x hx
        rcases List.mem_cons.1 hx with rfl | hx
        · exact String.le_trans i2 (String.not_lt.1 hba)
        · exact i3 x hx

theorem minS_spec {l : List String} {m : String} (h : minS l = some m) : m ∈ l ∧ ∀ x ∈ l, m ≤ x := by
  cases l with
  | nil => simp [minS] at h
  | cons a r =>
    simp only [minS, Option.some.injEq] at h
    have := foldl_min_spec r a
    simp only at this
    rw [h] at this
    obtain ⟨i1, i2, i3⟩ := this
    refine ⟨?_, ?_⟩
    · rcases i1 with h1 | h1 <;> simp [h1]
    · intro x hx
      rcases List.mem_cons.1 hx with rfl | hx
      · exact i2
      · exact i3 x hx

theorem minS_ne_none {l : List String} (h : l ≠ []) : ∃ m, minS l = some m := by
  cases l with
  | nil => exact absurd rfl h
  | cons a r => exact ⟨_, rfl⟩

/-- the least taxon only depends on the set of taxa -/
theorem minS_of_mem {l l' : List String} {m m' : String} (h : ∀ x, x ∈ l ↔ x ∈ l')
    (hm : minS l = some m) (hm' : minS l' = some m') : m = m' := by
  obtain ⟨a1, a2⟩ := minS_spec hm
  obtain ⟨b1, b2⟩ := minS_spec hm'
  exact String.le_antisymm (a2 m' ((h m').2 b1)) (b2 m ((h m).1 a1))

/-! ## canonical sides -/

theorem mem_complS {all side : List String} {x : String} : x ∈ complS all side ↔ x ∈ all ∧ ¬ x ∈ side := by
  unfold complS; simp [List.mem_filter]

/-- `canonSide` written with membership tests on the side itself -/
theorem canonSide_eq (all X : List String) (m : String) (hm : minS all = some m) (hmall : m ∈ all) :
    canonSide all X = if m ∈ X then sortS (complS all (sortS (X.filter all.contains)))
      else sortS (X.filter all.contains) := by
  unfold canonSide
  simp only [hm]
  have : (sortS (X.filter all.contains)).contains m = decide (m ∈ X) := by
    rw [Bool.eq_iff_iff]
    simp only [List.contains_eq_mem, decide_eq_true_eq, mem_sortS, List.mem_filter]
    exact ⟨fun h => h.1, fun h => ⟨h, hmall⟩⟩
  rw [this]
  by_cases h : m ∈ X <;> simp [h]

/-- the canonical side is the side of the bipartition that does not contain the least taxon `m` -/
theorem mem_canonSide {all X : List String} {m x : String} (hm : minS all = some m) :
    x ∈ canonSide all X ↔ x ∈ all ∧ (x ∈ X ↔ ¬ m ∈ X) := by
  rw [canonSide_eq all X m hm (minS_spec hm).1]
  by_cases h : m ∈ X <;>
    simp only [h, if_true, if_false, mem_sortS, mem_complS, List.mem_filter, List.contains_eq_mem,
      decide_eq_true_eq] <;> grind

theorem canonSide_sorted (all X : List String) (hall : all.Nodup) (hX : X.Nodup) :
    (canonSide all X).Nodup ∧ (canonSide all X).Pairwise (fun a b => decide (a ≤ b) = true) := by
  unfold canonSide
  have h1 : (sortS (X.filter all.contains)).Nodup := (sortS_perm _).nodup_iff.2 (hX.filter _)
  split
  · exact ⟨h1, sortS_sorted _⟩
  · dsimp only
    split
    · exact ⟨(sortS_perm _).nodup_iff.2 (hall.filter _), sortS_sorted _⟩
    · exact ⟨h1, sortS_sorted _⟩

/-- two sides have the same canonical form iff they are sides of the same bipartition -/
theorem canonSide_eq_iff (all all' X Y : List String) (hall : all.Nodup) (hall' : all'.Nodup)
    (hmem : ∀ x, x ∈ all ↔ x ∈ all') (hne : all ≠ []) (hX : X.Nodup) (hY : Y.Nodup) :
    canonSide all X = canonSide all' Y ↔ SameSide all X Y := by
  obtain ⟨m, hm⟩ := minS_ne_none hne
  have hne' : all' ≠ [] := by
    obtain ⟨x, hx⟩ := List.exists_mem_of_ne_nil _ hne
    exact List.ne_nil_of_mem ((hmem x).1 hx)
  obtain ⟨m', hm'⟩ := minS_ne_none hne'
  obtain rfl : m = m' := minS_of_mem hmem hm hm'
  have hmall := (minS_spec hm).1
  obtain ⟨n1, s1⟩ := canonSide_sorted all X hall hX
  obtain ⟨n2, s2⟩ := canonSide_sorted all' Y hall' hY
  -- both are sorted without repetition: equal iff they have the same elements
  have key : canonSide all X = canonSide all' Y ↔
      ∀ x ∈ all, ((x ∈ X ↔ ¬ m ∈ X) ↔ (x ∈ Y ↔ ¬ m ∈ Y)) := by
    constructor
    · intro h x hx
      have := mem_canonSide (x := x) (X := X) hm
      rw [h, mem_canonSide hm', ← hmem] at this
      grind
    · intro h
      apply sorted_ext n1 n2 s1 s2
      intro x
      rw [mem_canonSide hm, mem_canonSide hm', ← hmem]
      grind
  rw [key]
  unfold SameSide
  -- the same side iff `m` is on the same side of both
  constructor
  · intro h
    by_cases hm12 : m ∈ X ↔ m ∈ Y
    · left; intro a ha; have := h a ha; grind
    · right; intro a ha; have := h a ha; grind
  · rintro (h | h) <;> intro x hx <;> have := h x hx <;> have := h m hmall <;> grind

/-! ## the sides stored in `T.usplitsAll` -/

theorem mem_sides_insertU (s : USplit) : ∀ (l : List USplit) (c : List String),
    c ∈ (insertU s l).map (·.side) ↔ c = s.side ∨ c ∈ l.map (·.side)
  | [], c => by simp [insertU]
  | x :: r, c => by
    unfold insertU
    split
    · rename_i h
      have hx : x.side = s.side := by simpa using h
      simp only [List.map_cons, List.mem_cons]; grind
    · simp only [List.map_cons, List.mem_cons, mem_sides_insertU s r c]; grind

theorem mem_sides_foldl (all : List String) : ∀ (L : List SplitE) (acc : List USplit) (c : List String),
    c ∈ (L.foldl (fun acc s => insertU ⟨canonSide all s.below, s.e.len, s.e.sup⟩ acc) acc).map (·.side) ↔
      (∃ s ∈ L, canonSide all s.below = c) ∨ c ∈ acc.map (·.side)
  | [], acc, c => by simp
  | s :: L, acc, c => by
    rw [List.foldl_cons, mem_sides_foldl all L _ c, mem_sides_insertU]
    simp only [List.mem_cons, exists_eq_or_imp]; grind

/-- a canonical side is in `usplitsAll` iff some branch of the tree has it -/
theorem usplitsAll_any (t : T) (c : List String) :
    t.usplitsAll.any (·.side == c) = true ↔ ∃ s ∈ t.splits, canonSide t.tipNames s.below = c := by
  unfold T.usplitsAll
  simp only [List.any_eq_true, beq_iff_eq]
  have hm : ∀ (l : List USplit), (∃ x ∈ l.mergeSort (fun a b => decide (toString a.side ≤ toString b.side)), x.side = c) ↔
      c ∈ l.map (·.side) := by
    intro l
    simp only [List.mem_map]
    constructor
    · rintro ⟨x, hx, h⟩; exact ⟨x, (List.mergeSort_perm l _).mem_iff.1 hx, h⟩
    · rintro ⟨x, hx, h⟩; exact ⟨x, (List.mergeSort_perm l _).mem_iff.2 hx, h⟩
  rw [hm, mem_sides_foldl]
  simp

/-- the sides the Spec considers are the canonical sides of the branches of the trees -/
theorem mem_allSides {ts : List T} {a : List String} :
    a ∈ C09S.allSides ts ↔ ∃ t ∈ ts, ∃ s ∈ t.splits, canonSide t.tipNames s.below = a := by
  unfold C09S.allSides
  rw [List.mem_eraseDups, List.mem_flatMap]
  refine exists_congr fun t => and_congr_right fun _ => ?_
  rw [← usplitsAll_any, List.any_eq_true, List.mem_map]
  simp only [beq_iff_eq]

/-! ## `unroot` and the bipartitions of a tree -/

/-- some branch of the list has the bipartition `k | tips \ k` -/
def HasBip (tips : List String) (L : List SplitE) (k : List String) : Prop :=
  ∃ s ∈ L, SameSide tips s.below k

theorem splits_rooted (d : NodeD) (p : Nat) (e1 e2 : EdgeD) (d1 d2 : NodeD) (p1 p2 : Nat) (k1 k2 : Kids) :
    (T.node d p [(e1, .node d1 p1 k1), (e2, .node d2 p2 k2)]).splits =
      (⟨(T.node d1 p1 k1).leaves, e1, (T.node d1 p1 k1).isLeaf⟩ :: splitsL k1) ++
      (⟨(T.node d2 p2 k2).leaves, e2, (T.node d2 p2 k2).isLeaf⟩ :: splitsL k2) := by
  simp [T.splits, splitsL, T.splitsBelow]

/-- the length `UnRoot` gives to the fused root branch -/
def len3 (e1 e2 : EdgeD) : Rat := if e1.len != NIL || e2.len != NIL then max0 e1.len + max0 e2.len else NIL

theorem unroot_splits_inner (d : NodeD) (p : Nat) (e1 e2 : EdgeD) (d1 d2 : NodeD) (p1 p2 : Nat) (k1 k2 : Kids)
    (hk1 : k1 ≠ []) : ∃ e3 : EdgeD, e3.len = len3 e1 e2 ∧
    (unroot (T.node d p [(e1, .node d1 p1 k1), (e2, .node d2 p2 k2)])).splits =
      splitsL k1 ++ (⟨(T.node d2 p2 k2).leaves, e3, (T.node d2 p2 k2).isLeaf⟩ :: splitsL k2) := by
  have hne : k1.isEmpty = false := List.isEmpty_eq_false_iff.2 hk1
  refine ⟨⟨len3 e1 e2, if !k1.isEmpty && !k2.isEmpty && (e1.sup != NIL || e2.sup != NIL)
      then maxR (max0 e1.sup) (max0 e2.sup) else NIL, NIL, [], -1⟩, rfl, ?_⟩
  simp only [unroot, hne, Bool.false_eq_true, if_false, T.splits, T.kids_node, splitsL_append,
    splitsBelow_node, splitsL, List.append_nil, len3]
  congr 2
  cases k2 <;> rfl

theorem unroot_splits_tip (d : NodeD) (p : Nat) (e1 e2 : EdgeD) (d1 d2 : NodeD) (p1 p2 : Nat) (k2 : Kids) :
    ∃ e3 : EdgeD, e3.len = len3 e1 e2 ∧
    (unroot (T.node d p [(e1, .node d1 p1 []), (e2, .node d2 p2 k2)])).splits =
      splitsL k2 ++ [⟨(T.node d1 p1 []).leaves, e3, true⟩] := by
  refine ⟨⟨len3 e1 e2, NIL, NIL, [], -1⟩, rfl, ?_⟩
  simp [unroot, T.splits, splitsL_append, splitsL, T.leaves, T.isLeaf, T.splitsBelow, len3]

/-- the two root branches of a rooted tree are the two sides of one bipartition -/
theorem sameSide_append {b1 b2 : List String} (hnd : (b1 ++ b2).Nodup) : SameSide (b1 ++ b2) b2 b1 := by
  refine Or.inr fun a ha => ⟨fun h2 h1 => (List.nodup_append.1 hnd).2.2 a h1 a h2 rfl, fun h1 => ?_⟩
  rcases List.mem_append.1 ha with h | h
  · exact absurd h h1
  · exact h

theorem hasBip_unroot (t : T) (k : List String) (hnd : t.tipNames.Nodup) :
    HasBip t.tipNames t.splits k ↔ HasBip t.tipNames (unroot t).splits k := by
  by_cases h2 : t.kids.length = 2
  · cases t with
    | node d p kids =>
      match kids, h2 with
      | [(e1, .node d1 p1 k1), (e2, .node d2 p2 k2)], _ =>
        have htn : (T.node d p [(e1, .node d1 p1 k1), (e2, .node d2 p2 k2)]).tipNames =
            (T.node d1 p1 k1).leaves ++ (T.node d2 p2 k2).leaves := by
          simp [T.tipNames, leavesL]
        rw [htn] at hnd ⊢
        have hcomp := sameSide_append hnd
        rw [splits_rooted]
        by_cases hk1 : k1 = []
        · subst hk1
          obtain ⟨e3, _, hun⟩ := unroot_splits_tip d p e1 e2 d1 d2 p1 p2 k2
          rw [hun]
          have hs0 : splitsL ([] : Kids) = [] := rfl
          rw [hs0]
          constructor
          · rintro ⟨s, hs, hss⟩
            rcases List.mem_append.1 hs with h | h
            · have h' : s = ⟨(T.node d1 p1 []).leaves, e1, (T.node d1 p1 []).isLeaf⟩ := by simpa using h
              subst h'
              exact ⟨_, List.mem_append_right _ (List.mem_singleton.2 rfl), hss⟩
            · rcases List.mem_cons.1 h with rfl | h
              · exact ⟨_, List.mem_append_right _ (List.mem_singleton.2 rfl), (hcomp.symm').trans' hss⟩
              · exact ⟨s, List.mem_append_left _ h, hss⟩
          · rintro ⟨s, hs, hss⟩
            rcases List.mem_append.1 hs with h | h
            · exact ⟨s, List.mem_append_right _ (List.mem_cons_of_mem _ h), hss⟩
            · simp only [List.mem_singleton] at h; subst h
              exact ⟨_, List.mem_append_left _ List.mem_cons_self, hss⟩
        · obtain ⟨e3, _, hun⟩ := unroot_splits_inner d p e1 e2 d1 d2 p1 p2 k1 k2 hk1
          rw [hun]
          constructor
          · rintro ⟨s, hs, hss⟩
            rcases List.mem_append.1 hs with h | h
            · rcases List.mem_cons.1 h with rfl | h
              · exact ⟨_, List.mem_append_right _ List.mem_cons_self, hcomp.trans' hss⟩
              · exact ⟨s, List.mem_append_left _ h, hss⟩
            · rcases List.mem_cons.1 h with rfl | h
              · exact ⟨_, List.mem_append_right _ List.mem_cons_self, hss⟩
              · exact ⟨s, List.mem_append_right _ (List.mem_cons_of_mem _ h), hss⟩
          · rintro ⟨s, hs, hss⟩
            rcases List.mem_append.1 hs with h | h
            · exact ⟨s, List.mem_append_left _ (List.mem_cons_of_mem _ h), hss⟩
            · rcases List.mem_cons.1 h with rfl | h
              · exact ⟨_, List.mem_append_right _ List.mem_cons_self, hss⟩
              · exact ⟨s, List.mem_append_right _ (List.mem_cons_of_mem _ h), hss⟩
  · rw [unroot_of_ne2 t h2]

/-! ## bitsets and sides -/

theorem hasSplit_iff (univ : List String) (u : T) (key : List String) :
    hasSplit univ u key = true ↔ ∃ s ∈ u.splits, Eqc univ key (bits univ s.below) := by
  unfold hasSplit edgeKeys
  simp only [List.any_eq_true, List.mem_map]
  constructor
  · rintro ⟨kl, ⟨s, hs, rfl⟩, h⟩; exact ⟨s, hs, (eqc_iff _ _ _).1 h⟩
  · rintro ⟨s, hs, h⟩; exact ⟨_, ⟨s, hs, rfl⟩, (eqc_iff _ _ _).2 h⟩

theorem leavesL_nodup_of_tipNames {t : T} (h : t.tipNames.Nodup) : (leavesL t.kids).Nodup :=
  T.nodup_leavesL_of_tipNames h

/-! ## `RemoveSingleNodes` keeps the leaves and the clades -/

/-- the two split lists have the same clades (sets of tips below a branch) -/
def SameClades (L L' : List SplitE) : Prop :=
  (∀ s ∈ L, ∃ s' ∈ L', s'.below = s.below) ∧ (∀ s' ∈ L', ∃ s ∈ L, s.below = s'.below)

theorem clades_append {a a' b b' : List SplitE} (h1 : ∀ s ∈ a, ∃ s' ∈ a', s'.below = s.below)
    (h2 : ∀ s ∈ b, ∃ s' ∈ b', s'.below = s.below) : ∀ s ∈ a ++ b, ∃ s' ∈ a' ++ b', s'.below = s.below := by
  intro s hs
  rcases List.mem_append.1 hs with h | h
  · obtain ⟨s', h', e⟩ := h1 s h; exact ⟨s', List.mem_append_left _ h', e⟩
  · obtain ⟨s', h', e⟩ := h2 s h; exact ⟨s', List.mem_append_right _ h', e⟩

theorem SameClades.append {a a' b b' : List SplitE} (h1 : SameClades a a') (h2 : SameClades b b') :
    SameClades (a ++ b) (a' ++ b') :=
  ⟨clades_append h1.1 h2.1, clades_append h1.2 h2.2⟩

mutual
theorem removeSinglesT_spec (e : EdgeD) : ∀ t : T,
    (removeSinglesT e t).2.leaves = t.leaves ∧ SameClades (blk (e, t)) (blk (removeSinglesT e t))
  | .node d p k => by
    obtain ⟨hl, hc, hlen⟩ := removeSinglesL_spec k
    unfold removeSinglesT
    cases k with
    | nil =>
      show (T.node d p []).leaves = (T.node d p []).leaves ∧
        SameClades (blk (e, T.node d p [])) (blk (e, T.node d p []))
      exact ⟨rfl, fun s hs => ⟨s, hs, rfl⟩, fun s hs => ⟨s, hs, rfl⟩⟩
    | cons a b =>
      have hk : (a :: b) ≠ [] := by simp
      have hk' : removeSinglesL (a :: b) ≠ [] := by
        intro h; rw [h] at hlen; simp at hlen
      rw [blk_node _ _ _ _ hk]
      split
      · rename_i ec c heq
        rw [heq] at hl hc
        have hcl : c.leaves = leavesL (a :: b) := (leavesL_singleton (ec, c)).symm.trans hl
        have hb : blk (ec, c) = splitsL [(ec, c)] := (splitsL_single _).symm
        refine ⟨by simp only [T.leaves]; exact hcl, ?_, ?_⟩
        · intro s hs
          rcases List.mem_cons.1 hs with rfl | hs
          · exact ⟨⟨c.leaves, _, c.isLeaf⟩, List.mem_cons_self, hcl⟩
          · obtain ⟨s', hs', e'⟩ := hc.1 s hs
            rw [← hb] at hs'
            unfold blk at hs' ⊢
            rcases List.mem_cons.1 hs' with rfl | hs'
            · exact ⟨⟨c.leaves, _, c.isLeaf⟩, List.mem_cons_self, e'⟩
            · exact ⟨s', List.mem_cons_of_mem _ hs', e'⟩
        · intro s' hs'
          unfold blk at hs'
          rcases List.mem_cons.1 hs' with rfl | hs'
          · exact ⟨⟨leavesL (a :: b), e, false⟩, List.mem_cons_self, hcl.symm⟩
          · obtain ⟨s, hs, e'⟩ := hc.2 s' (by rw [← hb]; unfold blk; exact List.mem_cons_of_mem _ hs')
            exact ⟨s, List.mem_cons_of_mem _ hs, e'⟩
      · rw [blk_node _ _ _ _ hk']
        refine ⟨by rw [leaves_node_ne _ _ _ hk', leaves_node_ne _ _ _ hk, hl], ?_, ?_⟩
        · intro s hs
          rcases List.mem_cons.1 hs with rfl | hs
          · exact ⟨_, List.mem_cons_self, hl⟩
          · obtain ⟨s', hs', e'⟩ := hc.1 s hs
            exact ⟨s', List.mem_cons_of_mem _ hs', e'⟩
        · intro s' hs'
          rcases List.mem_cons.1 hs' with rfl | hs'
          · exact ⟨_, List.mem_cons_self, hl.symm⟩
          · obtain ⟨s, hs, e'⟩ := hc.2 s' hs'
            exact ⟨s, List.mem_cons_of_mem _ hs, e'⟩
theorem removeSinglesL_spec : ∀ k : Kids,
    leavesL (removeSinglesL k) = leavesL k ∧ SameClades (splitsL k) (splitsL (removeSinglesL k)) ∧
    (removeSinglesL k).length = k.length
  | [] => ⟨rfl, ⟨fun s hs => ⟨s, hs, rfl⟩, fun s hs => ⟨s, hs, rfl⟩⟩, rfl⟩
  | (e, t) :: r => by
    obtain ⟨h1, h2⟩ := removeSinglesT_spec e t
    obtain ⟨i1, i2, i3⟩ := removeSinglesL_spec r
    unfold removeSinglesL
    refine ⟨?_, ?_, by simp [i3]⟩
    · rw [leavesL_cons, leavesL_cons, h1, i1]
    · rw [splitsL_cons, splitsL_cons]
      exact SameClades.append h2 i2
end

theorem removeSingles_spec (t : T) :
    (removeSingles t).tipNames = t.tipNames ∧ SameClades t.splits (removeSingles t).splits ∧
    (removeSingles t).kids.length = t.kids.length := by
  cases t with
  | node d p k =>
    obtain ⟨h1, h2, h3⟩ := removeSinglesL_spec k
    refine ⟨?_, h2, h3⟩
    show (T.node d p (removeSinglesL k)).tipNames = (T.node d p k).tipNames
    unfold T.tipNames
    simp only [T.kids_node, T.name, T.d_node, h1, h3]
    first | rfl | skip

theorem HasBip.of_clades {tips k : List String} {L L' : List SplitE}
    (h : ∀ s ∈ L, ∃ s' ∈ L', s'.below = s.below) : HasBip tips L k → HasBip tips L' k := by
  rintro ⟨s, hs, hss⟩
  obtain ⟨s', hs', e⟩ := h s hs
  exact ⟨s', hs', by rw [e]; exact hss⟩

theorem hasBip_of_sameClades {tips : List String} {L L' : List SplitE} (h : SameClades L L') (k : List String) :
    HasBip tips L k ↔ HasBip tips L' k :=
  ⟨HasBip.of_clades h.1, HasBip.of_clades h.2⟩

/-- the bipartitions of a tree are those of its normal form -/
theorem hasBip_norm (t : T) (k : List String) (hnd : t.tipNames.Nodup) :
    HasBip t.tipNames t.splits k ↔ HasBip t.tipNames (norm t).splits k := by
  obtain ⟨h1, h2, _⟩ := removeSingles_spec t
  rw [hasBip_of_sameClades h2 k]
  have := hasBip_unroot (removeSingles t) k (by rw [h1]; exact hnd)
  rw [h1] at this
  exact this


/-! ## one tree, the collection -/

/-- one tree: the Spec's test "the canonical side is in `usplitsAll`" is the model's
    test "some branch of the normal form has that bitset up to complement" -/
theorem spec_has_iff_norm (univ taxa : List String) (t : T) (k : List String)
    (hk : k.Nodup) (hnd : t.tipNames.Nodup) (hne : t.tipNames ≠ []) (htaxa : taxa.Nodup)
    (hmem : ∀ x, x ∈ t.tipNames ↔ x ∈ taxa) (hut : ∀ a, a ∈ univ ↔ a ∈ taxa) :
    t.usplitsAll.any (·.side == canonSide taxa k) = hasSplit univ (norm t) (bits univ k) := by
  rw [Bool.eq_iff_iff, usplitsAll_any, hasSplit_iff]
  have hmu : ∀ a, a ∈ t.tipNames ↔ a ∈ univ := fun a => (hmem a).trans (hut a).symm
  have h1 : (∃ s ∈ t.splits, canonSide t.tipNames s.below = canonSide taxa k) ↔ HasBip t.tipNames t.splits k := by
    unfold HasBip
    refine exists_congr fun s => and_congr_right fun hs => ?_
    have hsnd : s.below.Nodup := (below_sublist_L t.kids s hs).nodup (leavesL_nodup_of_tipNames hnd)
    exact canonSide_eq_iff t.tipNames taxa s.below k hnd htaxa hmem hne hsnd hk
  rw [h1, hasBip_norm t k hnd]
  unfold HasBip
  refine exists_congr fun s => and_congr_right fun _ => ?_
  rw [eqc_bits_iff univ k s.below]
  exact ⟨SameSide.of_mem_iff hmu, SameSide.of_mem_iff fun a => (hmu a).symm⟩

/-- the Spec's count of a canonical side is the model's count of the bitset -/
theorem spec_count_eq_norm (ts : List T) (k : List String) (hk : k.Nodup)
    (hnd : ∀ t ∈ ts, t.tipNames.Nodup) (hne : ∀ t ∈ ts, t.tipNames ≠ [])
    (hmem : ∀ t ∈ ts, ∀ x, x ∈ t.tipNames ↔ x ∈ C09S.taxa ts)
    (hut : ∀ a, a ∈ univOf ts ↔ a ∈ C09S.taxa ts) (htaxa : (C09S.taxa ts).Nodup) :
    C09S.count ts (canonSide (C09S.taxa ts) k) = count ts (bits (univOf ts) k) := by
  unfold C09S.count count countM trees
  rw [← List.countP_eq_length_filter, List.countP_map]
  apply List.countP_congr
  intro t ht
  have := spec_has_iff_norm (univOf ts) (C09S.taxa ts) t k hk (hnd t ht) (hne t ht) htaxa (hmem t ht) hut
  simp only [Function.comp]
  rw [this]

theorem spec_count_eq (ts : List T) (k : List String) (hk : k.Nodup)
    (hnd : ∀ t ∈ ts, t.tipNames.Nodup) (hne : ∀ t ∈ ts, t.tipNames ≠ [])
    (hmem : ∀ t ∈ ts, ∀ x, x ∈ t.tipNames ↔ x ∈ C09S.taxa ts)
    (hut : ∀ a, a ∈ univOf ts ↔ a ∈ C09S.taxa ts) (htaxa : (C09S.taxa ts).Nodup)
    (hns : ∀ t ∈ ts, okBelowL t.kids = true) :
    C09S.count ts (canonSide (C09S.taxa ts) k) = count ts (bits (univOf ts) k) :=
  spec_count_eq_norm ts k hk hnd hne hmem hut htaxa

/-! ## the hypotheses of the bridge from the domain -/

theorem unroot_tipNames_perm (t : T) (h3 : 3 ≤ (unroot t).kids.length) : (unroot t).tipNames.Perm t.tipNames := by
  by_cases h2 : t.kids.length = 2
  · cases t with
    | node d p kids =>
      match kids, h2 with
      | [(e1, .node d1 p1 k1), (e2, .node d2 p2 k2)], _ =>
        have htn : (T.node d p [(e1, .node d1 p1 k1), (e2, .node d2 p2 k2)]).tipNames =
            (T.node d1 p1 k1).leaves ++ (T.node d2 p2 k2).leaves := by
          simp [T.tipNames, leavesL]
        rw [htn]
        by_cases hk1 : k1 = []
        · subst hk1
          have hun : unroot (T.node d p [(e1, .node d1 p1 []), (e2, .node d2 p2 k2)]) =
              .node d2 0 (k2 ++ [(⟨if e1.len != NIL || e2.len != NIL then max0 e1.len + max0 e2.len else NIL,
                NIL, NIL, [], -1⟩, .node d1 0 [])]) := by
            simp [unroot]
          rw [hun] at h3 ⊢
          simp only [T.kids_node, List.length_append, List.length_cons, List.length_nil] at h3
          have hk2 : k2 ≠ [] := by intro h; rw [h] at h3; simp at h3
          rw [tipNames_eq_leaves _ (by simp only [T.kids_node, List.length_append, List.length_cons, List.length_nil]; omega)]
          simp only [T.kids_node, leavesL_append, leavesL_cons, leaves_node_ne _ _ _ hk2]
          simp only [T.leaves, leavesL, List.append_nil]
          exact List.perm_append_comm
        · have hne : k1.isEmpty = false := List.isEmpty_eq_false_iff.2 hk1
          have hun : ∃ e3, unroot (T.node d p [(e1, .node d1 p1 k1), (e2, .node d2 p2 k2)]) =
              .node d1 0 (k1 ++ [(e3, .node d2 k2.length k2)]) := by
            refine ⟨⟨if e1.len != NIL || e2.len != NIL then max0 e1.len + max0 e2.len else NIL,
              if !k1.isEmpty && !k2.isEmpty && (e1.sup != NIL || e2.sup != NIL)
                then maxR (max0 e1.sup) (max0 e2.sup) else NIL, NIL, [], -1⟩, ?_⟩
            simp only [unroot, hne, Bool.false_eq_true, if_false]
          obtain ⟨e3, hun⟩ := hun
          rw [hun] at h3 ⊢
          rw [tipNames_eq_leaves _ (by simp only [T.kids_node] at h3 ⊢; omega)]
          simp only [T.kids_node, leavesL_append, leavesL_cons, leaves_node_ne _ _ _ hk1]
          have : (T.node d2 k2.length k2).leaves = (T.node d2 p2 k2).leaves := by cases k2 <;> rfl
          rw [this]
          simp [leavesL]
  · rw [unroot_of_ne2 t h2]

/-- the tips of the normal form are those of the tree -/
theorem norm_tipNames_perm (t : T) (h3 : 3 ≤ (norm t).kids.length) : (norm t).tipNames.Perm t.tipNames := by
  obtain ⟨h1, _, _⟩ := removeSingles_spec t
  have := unroot_tipNames_perm (removeSingles t) h3
  rw [h1] at this
  exact this

/-- for a collection of the domain the hypotheses of `spec_count_eq_norm` hold -/
theorem bridge_hyps_norm (ts : List T) (hd : Dom ts) :
    (∀ t ∈ ts, t.tipNames.Nodup) ∧ (∀ t ∈ ts, t.tipNames ≠ []) ∧
    (∀ t ∈ ts, ∀ x, x ∈ t.tipNames ↔ x ∈ C09S.taxa ts) ∧
    (∀ a, a ∈ univOf ts ↔ a ∈ C09S.taxa ts) ∧ (C09S.taxa ts).Nodup := by
  obtain ⟨t0, r, rfl⟩ : ∃ t0 r, ts = t0 :: r := by
    cases ts with
    | nil => exact absurd rfl hd.ne
    | cons a b => exact ⟨a, b, rfl⟩
  have hu : ∀ t ∈ t0 :: r, norm t ∈ trees (t0 :: r) := fun t ht => List.mem_map.2 ⟨t, ht, rfl⟩
  have hperm : ∀ t ∈ t0 :: r, (norm t).tipNames.Perm t.tipNames :=
    fun t ht => norm_tipNames_perm t (hd.deg _ (hu t ht))
  have hutn : ∀ t ∈ t0 :: r, (norm t).tipNames = leavesL (norm t).kids := fun t ht =>
    tipNames_eq_leaves _ (by have := hd.deg _ (hu t ht); omega)
  have hnd : ∀ t ∈ t0 :: r, t.tipNames.Nodup := fun t ht =>
    (hperm t ht).nodup_iff.1 (by rw [hutn t ht]; exact hd.nodup _ (hu t ht))
  have hmem0 : ∀ t ∈ t0 :: r, ∀ x, x ∈ t.tipNames ↔ x ∈ leavesL (norm t0).kids := fun t ht x => by
    rw [← (hperm t ht).mem_iff, hutn t ht]
    exact (hd.same _ (hu t ht)).mem_iff
  have htaxa : ∀ x, x ∈ C09S.taxa (t0 :: r) ↔ x ∈ leavesL (norm t0).kids := hmem0 t0 (by simp)
  refine ⟨hnd, ?_, ?_, ?_, hnd t0 (by simp)⟩
  · intro t ht h
    have h3 := hd.deg _ (hu t ht)
    have hl := leavesL_len (norm t).kids
    have : (leavesL (norm t).kids).length = 0 := by
      rw [← hutn t ht, (hperm t ht).length_eq, h]; rfl
    omega
  · intro t ht x
    rw [hmem0 t ht, htaxa]
  · intro a
    show a ∈ sortN (norm t0).tipNames ↔ _
    rw [(sortN_perm _).mem_iff, hutn t0 (by simp), htaxa]
theorem bridge_hyps (ts : List T) (hd : Dom ts) (hns : ∀ t ∈ ts, okBelowL t.kids = true) :
    (∀ t ∈ ts, t.tipNames.Nodup) ∧ (∀ t ∈ ts, t.tipNames ≠ []) ∧
    (∀ t ∈ ts, ∀ x, x ∈ t.tipNames ↔ x ∈ C09S.taxa ts) ∧
    (∀ a, a ∈ univOf ts ↔ a ∈ C09S.taxa ts) ∧ (C09S.taxa ts).Nodup :=
  bridge_hyps_norm ts hd

end Gotree.C09

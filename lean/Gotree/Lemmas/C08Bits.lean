/-
  C08 — the model the driver runs keys the `EdgeIndex` by bitsets compared with
  `eqOrCompl` (as the Go code does); the proofs work with the canonical side of the
  split.  This file shows the two models return the same records.  Core Lean only.
-/
import Gotree.Lemmas.C08Tree
import Gotree.Lemmas.C08W

namespace Gotree.C08
open Gotree List

/-! ## canonical sides: equal iff same or complementary sets -/

theorem canonSide_nodup (a A : List String) (hn : a.Nodup) (hA : A.Nodup) : (canonSide a A).Nodup := by
  unfold canonSide
  simp only
  have h1 : (sortS (A.filter a.contains)).Nodup :=
    (Gotree.sortS_perm _).symm.nodup (hA.sublist filter_sublist)
  cases minS a with
  | none => exact h1
  | some m =>
    simp only
    split
    · exact (Gotree.sortS_perm _).symm.nodup (hn.sublist filter_sublist)
    · exact h1

theorem canonSide_sorted (a A : List String) : (canonSide a A).Pairwise (· ≤ ·) := by
  unfold canonSide
  simp only
  cases minS a with
  | none => exact C14.sortNames_sorted _
  | some m => simp only; split <;> exact C14.sortNames_sorted _

/-- canonical sides with the same members are equal -/
theorem canonSide_ext (a A B : List String) (hn : a.Nodup) (hA : A.Nodup) (hB : B.Nodup)
    (h : ∀ x, x ∈ canonSide a A ↔ x ∈ canonSide a B) : canonSide a A = canonSide a B := by
  exact Perm.eq_of_pairwise (le := (· ≤ ·)) (fun _ _ _ _ h1 h2 => String.le_antisymm h1 h2)
    (canonSide_sorted a A) (canonSide_sorted a B)
    ((perm_ext_iff_of_nodup (canonSide_nodup a A hn hA) (canonSide_nodup a B hn hB)).mpr h)

theorem canonSide_eq_iff (a A B : List String) (hn : a.Nodup) (hA : A.Nodup) (hB : B.Nodup) :
    canonSide a A = canonSide a B ↔ (∀ x ∈ a, (x ∈ A ↔ x ∈ B)) ∨ (∀ x ∈ a, (x ∈ A ↔ x ∉ B)) := by
  refine ⟨Canon.canonSide_eq_imp a A B, fun h => canonSide_ext a A B hn hA hB fun x => ?_⟩
  rw [Canon.mem_canonSide, Canon.mem_canonSide]
  unfold Canon.flipB
  cases hm : minS a with
  | none => rw [minS_eq_none.mp hm]; simp
  | some m =>
    -- the least taxon decides which presentation is kept, on both sides alike
    have hma := (Gotree.minS_spec hm).1
    simp only [contains_eq_mem, decide_eq_true_eq]
    by_cases hx : x ∈ a
    · rcases h with h | h <;> have := h m hma <;> have := h x hx <;> grind
    · simp [hx]

/-! ## bitsets: `eqOrCompl` of two keys is equality of the canonical sides -/

theorem eqOrCompl_key (a a' : List String) (A B : SplitE) (hp : a ~ a') (hn : a.Nodup)
    (hA : A.below.Nodup) (hB : B.below.Nodup) :
    eqOrCompl (key a A) (key a' B) = (canonSide a A.below == canonSide a' B.below) := by
  rw [← canonSide_perm_all hp B.below]
  unfold key
  rw [← sortS_congr hp]
  rw [Bool.eq_iff_iff, beq_iff_eq, canonSide_eq_iff a A.below B.below hn hA hB]
  unfold eqOrCompl
  simp only [Bool.or_eq_true, Bool.and_eq_true, beq_iff_eq, length_map, true_and, map_map, map_inj_left,
    Gotree.mem_sortS, Function.comp]
  refine or_congr (forall₂_congr fun x _ => ?_) (forall₂_congr fun x _ => ?_)
  · rw [Bool.eq_iff_iff, contains_iff_mem, contains_iff_mem]
  · rw [Bool.eq_iff_iff, contains_iff_mem, Bool.not_eq_true', contains_eq_mem, decide_eq_false_iff_not]

/-! ## the two indexes run in lockstep -/

inductive Sim (ar : List String) : Index → Canon.Index → Prop
  | nil : Sim ar [] []
  | cons (s : SplitE) (v : Info) (hs : s.below.Nodup) {ixB : Index} {ixC : Canon.Index} :
      Sim ar ixB ixC → Sim ar ((key ar s, v) :: ixB) ((Canon.key ar s, v) :: ixC)

theorem sim_value {ar a' : List String} {ixB : Index} {ixC : Canon.Index} (h : Sim ar ixB ixC)
    (hp : ar ~ a') (hn : ar.Nodup) (e : SplitE) (he : e.below.Nodup) :
    value ixB (key a' e) = Canon.value ixC (Canon.key a' e) := by
  induction h with
  | nil => rfl
  | cons s v hs _ ih =>
    unfold value Canon.value at *
    simp only [find?_cons, lookup_cons]
    rw [eqOrCompl_key ar a' s e hp hn hs he]
    unfold Canon.key
    rw [BEq.comm (a := canonSide a' e.below)]
    cases canonSide ar s.below == canonSide a' e.below with
    | true => rfl
    | false => exact ih

theorem sim_put {ar : List String} {ixB : Index} {ixC : Canon.Index} (h : Sim ar ixB ixC)
    (hn : ar.Nodup) (s : SplitE) (hs : s.below.Nodup) (v : Info) :
    Sim ar (put (key ar s) v ixB) (Canon.put (Canon.key ar s) v ixC) := by
  induction h with
  | nil => exact Sim.cons s v hs Sim.nil
  | cons s0 v0 hs0 h0 ih =>
    unfold put Canon.put
    rw [eqOrCompl_key ar ar s0 s (Perm.refl _) hn hs0 hs]
    unfold Canon.key
    cases canonSide ar s0.below == canonSide ar s.below with
    | true => exact Sim.cons s0 v hs0 h0
    | false => exact Sim.cons s0 v0 hs0 ih

theorem sim_build {ar : List String} (hn : ar.Nodup) (l : List SplitE) (hl : ∀ s ∈ l, s.below.Nodup)
    (i : Nat) {ixB : Index} {ixC : Canon.Index} (h : Sim ar ixB ixC) :
    Sim ar (buildFrom ar l i ixB) (Canon.buildFrom ar l i ixC) := by
  induction l generalizing i ixB ixC with
  | nil => exact h
  | cons s r ih =>
    unfold buildFrom Canon.buildFrom
    exact ih (fun x hx => hl x (by simp [hx])) (i + 1) (sim_put h hn s (hl s (by simp)) _)

theorem sim_index {ar : List String} (hn : ar.Nodup) (l : List SplitE) (hl : ∀ s ∈ l, s.below.Nodup) :
    Sim ar (buildIndex ar l) (Canon.buildIndex ar l) :=
  sim_build hn l hl 0 Sim.nil

/-! ## the loops -/

theorem cmpLoop_eq (idxB : Index) (idxC : Canon.Index) (all : List String) (tips sc : Bool) (l : List SplitE)
    (h : ∀ e ∈ l, value idxB (key all e) = Canon.value idxC (Canon.key all e)) (st : LoopSt) :
    cmpLoop idxB all tips sc l st = Canon.cmpLoop idxC all tips sc l st := by
  induction l generalizing st with
  | nil => rfl
  | cons e r ih =>
    unfold cmpLoop Canon.cmpLoop
    rw [h e (by simp)]
    simp only [ih (fun x hx => h x (by simp [hx]))]

theorem wLoop1_eq (idxB : Index) (idxC : Canon.Index) (all : List String) (tips sc : Bool) (l : List SplitE)
    (h : ∀ e ∈ l, value idxB (key all e) = Canon.value idxC (Canon.key all e)) (same : Bool) :
    wLoop1 idxB all tips sc l same = Canon.wLoop1 idxC all tips sc l same := by
  induction l generalizing same with
  | nil => rfl
  | cons e r ih =>
    unfold wLoop1 Canon.wLoop1
    rw [h e (by simp)]
    simp only [ih (fun x hx => h x (by simp [hx]))]
    rfl

theorem wLoop2_eq (idxB : Index) (idxC : Canon.Index) (all : List String) (tips sc : Bool) (l : List SplitE)
    (h : ∀ e ∈ l, value idxB (key all e) = Canon.value idxC (Canon.key all e)) (same : Bool) :
    wLoop2 idxB all tips sc l same = Canon.wLoop2 idxC all tips sc l same := by
  induction l generalizing same with
  | nil => rfl
  | cons e r ih =>
    unfold wLoop2 Canon.wLoop2
    rw [h e (by simp)]
    simp only [ih (fun x hx => h x (by simp [hx]))]
    rfl

/-! ## the records -/

theorem nodup_of_reinitOk {t : T} (h : reinitOk t = true) : t.tipNames.Nodup := ((Canon.reinitOk_iff t).mp h).1

theorem lookups_agree {r c : T} (hr : reinitOk r = true) (hc : reinitOk c = true)
    (hp : r.tipNames ~ c.tipNames) :
    ∀ e ∈ c.splits, value (buildIndex r.tipNames r.splits) (key c.tipNames e)
      = Canon.value (Canon.buildIndex r.tipNames r.splits) (Canon.key c.tipNames e) := by
  intro e he
  exact sim_value (sim_index (nodup_of_reinitOk hr) r.splits (T.below_nodup (nodup_of_reinitOk hr)))
    hp (nodup_of_reinitOk hr) e (T.below_nodup (nodup_of_reinitOk hc) e he)

/-- the model the driver runs (bitsets, `eqOrCompl`) and the model the proofs use
    (canonical sides) return the same record, for all inputs -/
theorem compare_eq (r c : T) (tips sc : Bool) : compare r c tips sc = Canon.compare r c tips sc := by
  unfold compare Canon.compare
  cases hr : reinitOk r <;> cases hc : reinitOk c <;>
    cases h3 : compareTipIndexes r.tipNames c.tipNames <;> simp
  have hp := Canon.perm_of_compareTipIndexes hr hc h3
  rw [cmpLoop_eq _ _ _ _ _ _ (lookups_agree hr hc hp)]
  simp

theorem comparePinned_eq (r c : T) (tips sc : Bool) :
    comparePinned r c tips sc = Canon.comparePinned r c tips sc := by
  unfold comparePinned Canon.comparePinned
  cases hr : reinitOk r <;> cases hc : reinitOk c <;>
    cases h3 : compareTipIndexes r.tipNames c.tipNames <;> simp
  have hp := Canon.perm_of_compareTipIndexes hr hc h3
  rw [cmpLoop_eq _ _ _ _ _ _ (lookups_agree hr hc hp)]
  simp

theorem compareWeighted_eq (r c : T) (tips sc : Bool) :
    compareWeighted r c tips sc = Canon.compareWeighted r c tips sc := by
  unfold compareWeighted Canon.compareWeighted
  cases hr : reinitOk r <;> cases hc : reinitOk c <;>
    cases h3 : compareTipIndexes r.tipNames c.tipNames <;> simp
  have hp := Canon.perm_of_compareTipIndexes hr hc h3
  rw [wLoop1_eq _ _ _ _ _ _ (lookups_agree hr hc hp)]
  simp only [wLoop2_eq _ _ _ _ _ _ (lookups_agree hc hr hp.symm)]
  simp

theorem findEdge_eq {r c : T} (hr : reinitOk r = true) (hc : reinitOk c = true) (hp : r.tipNames ~ c.tipNames)
    (e : SplitE) (he : e ∈ r.splits) :
    findEdge r.tipNames c.tipNames e c.splits = Canon.findEdge r.tipNames c.tipNames e c.splits := by
  unfold findEdge Canon.findEdge
  have hall : ∀ e2 ∈ c.splits, (e.tip == e2.tip && eqOrCompl (key r.tipNames e) (key c.tipNames e2))
      = (e.tip == e2.tip && Canon.key r.tipNames e == Canon.key c.tipNames e2) := by
    intro e2 he2
    rw [eqOrCompl_key _ _ e e2 hp (nodup_of_reinitOk hr) (T.below_nodup (nodup_of_reinitOk hr) e he)
      (T.below_nodup (nodup_of_reinitOk hc) e2 he2)]
    rfl
  rw [Bool.eq_iff_iff, any_eq_true, any_eq_true]
  constructor
  · rintro ⟨e2, h2, h⟩; exact ⟨e2, h2, by rw [← hall e2 h2]; exact h⟩
  · rintro ⟨e2, h2, h⟩; exact ⟨e2, h2, by rw [hall e2 h2]; exact h⟩

theorem commonLoop_eq (all1 all2 : List String) (tipEdges : Bool) (edges2 l : List SplitE)
    (h : ∀ e ∈ l, findEdge all1 all2 e edges2 = Canon.findEdge all1 all2 e edges2) (acc : Nat × Nat) :
    commonLoop all1 all2 tipEdges edges2 l acc = Canon.commonLoop all1 all2 tipEdges edges2 l acc := by
  induction l generalizing acc with
  | nil => rfl
  | cons e r ih =>
    obtain ⟨t1, co⟩ := acc
    unfold commonLoop Canon.commonLoop
    rw [h e (by simp)]
    simp only [ih (fun x hx => h x (by simp [hx]))]

/-- `CommonEdges` is specified for trees whose indexes are initialised -/
theorem commonEdges_eq (r c : T) (tips : Bool) (hr : reinitOk r = true) (hc : reinitOk c = true) :
    commonEdges r c tips = Canon.commonEdges r c tips := by
  unfold commonEdges Canon.commonEdges
  cases h3 : compareTipIndexes r.tipNames c.tipNames <;> simp
  have hp := Canon.perm_of_compareTipIndexes hr hc h3
  rw [commonLoop_eq _ _ _ _ _ (fun e he => findEdge_eq hr hc hp e he)]
  exact ⟨rfl, rfl⟩

/-! ## any shape: what a lookup finds -/

/-- the canonical sides of all the branches of a tree (with repetitions: the two root branches of
    a rooted tree, the two branches around a single-child node) -/
def allKeys (t : T) : List (List String) := t.splits.map fun s => canonSide t.tipNames s.below

/-- a branch of `c` is "found": tip branches are taken for found, the others are looked up -/
def foundIn (r c : T) (e : SplitE) : Bool := e.tip || (allKeys r).contains (canonSide c.tipNames e.below)

theorem okE_eq_foundIn (r c : T) (e : SplitE) :
    Canon.okE (Canon.buildIndex r.tipNames r.splits) c.tipNames e = foundIn r c e := by
  unfold Canon.okE foundIn
  cases ht : e.tip with
  | true => simp
  | false =>
    simp only [Bool.not_false, if_true, Bool.false_or]
    rw [Bool.eq_iff_iff, Canon.value_buildIndex_isSome, contains_iff_mem]
    rfl

theorem foundIn_self (t : T) (e : SplitE) (he : e ∈ t.splits) : foundIn t t e = true := by
  unfold foundIn allKeys
  simp only [Bool.or_eq_true, contains_iff_mem, mem_map]
  exact Or.inr ⟨e, he, rfl⟩

end Gotree.C08

/-
  The same tree with the children of some nodes listed in another order (`Reord`): what every
  operation that only permutes neighbour slices does (SortNeighborsByTips, RotateInternalNodes,
  ShuffleTips' rotations, reading the same Newick with another child order …).  One theorem says what
  such a reordering keeps; the operations are then shown to be reorderings, each by one recursion
  over its own definition.
-/
import Gotree.Lemmas.Core

namespace Gotree.C14

/- Reordering the children of nodes, at any depth. -/
mutual
inductive Reord : T → T → Prop
  | node (d : NodeD) (p p' : Nat) {k k₂ k' : Kids} : ReordL k k₂ → k'.Perm k₂ → Reord (.node d p k) (.node d p' k')
inductive ReordL : Kids → Kids → Prop
  | nil : ReordL [] []
  | cons (e : EdgeD) {t t' : T} {r r' : Kids} : Reord t t' → ReordL r r' → ReordL ((e, t) :: r) ((e, t') :: r')
end

end Gotree.C14

namespace Gotree
open C14 (Reord ReordL)

/-- what is read off an entry does not depend on the order in which the leaves below are listed -/
def EntryInv {β : Type} (g : SplitE → β) : Prop :=
  ∀ (b b' : List String) (e : EdgeD) (tip : Bool), b'.Perm b → g ⟨b', e, tip⟩ = g ⟨b, e, tip⟩

/-- What a reordering keeps, below a node: -/
structure ReordKeeps {β : Type} (g : SplitE → β) (t t' : T) : Prop where
  leaves : t'.leaves.Perm t.leaves
  isLeaf : t'.isLeaf = t.isLeaf
  len : t'.kids.length = t.kids.length
  d : t'.d = t.d
  leavesL : (leavesL t'.kids).Perm (leavesL t.kids)
  noSingle : t'.noSingle = t.noSingle
  binaryL : binaryL t'.kids = binaryL t.kids
  splits : (t'.splits.map g).Perm (t.splits.map g)

theorem ReordKeeps.noSingleBelow {β : Type} {g : SplitE → β} {t t' : T} (h : ReordKeeps g t t') :
    t'.noSingleBelow = t.noSingleBelow := by
  rw [T.noSingleBelow_eq, T.noSingleBelow_eq, h.len]; exact congrArg _ h.noSingle

theorem ReordKeeps.binaryBelow {β : Type} {g : SplitE → β} {t t' : T} (h : ReordKeeps g t t') :
    t'.binaryBelow = t.binaryBelow := by
  rw [T.binaryBelow_eq, T.binaryBelow_eq, h.len, h.binaryL]

/-- … and below a list of children -/
structure ReordKeepsL {β : Type} (g : SplitE → β) (k k' : Kids) : Prop where
  leaves : (leavesL k').Perm (leavesL k)
  len : k'.length = k.length
  noSingle : noSingleL k' = noSingleL k
  binary : binaryL k' = binaryL k
  splits : ((splitsL k').map g).Perm ((splitsL k).map g)

theorem ReordKeepsL.of_perm {β : Type} (g : SplitE → β) {k k' : Kids} (h : k'.Perm k) : ReordKeepsL g k k' :=
  ⟨leavesL_perm h, h.length_eq, noSingleL_perm h, by simp only [binaryL_eq_all]; exact h.all_eq, (splitsL_perm h).map g⟩

theorem ReordKeepsL.trans {β : Type} {g : SplitE → β} {a b c : Kids} (h₁ : ReordKeepsL g a b) (h₂ : ReordKeepsL g b c) :
    ReordKeepsL g a c :=
  ⟨h₂.leaves.trans h₁.leaves, h₂.len.trans h₁.len, h₂.noSingle.trans h₁.noSingle, h₂.binary.trans h₁.binary,
    h₂.splits.trans h₁.splits⟩

/-- a node over reordered children -/
theorem ReordKeepsL.node {β : Type} {g : SplitE → β} {k k' : Kids} (h : ReordKeepsL g k k') (d : NodeD) (p p' : Nat) :
    ReordKeeps g (.node d p k) (.node d p' k') := by
  have hemp : k' = [] ↔ k = [] := by rw [← List.length_eq_zero_iff, ← List.length_eq_zero_iff, h.len]
  refine ⟨?_, ?_, h.len, rfl, h.leaves, h.noSingle, h.binary, h.splits⟩
  · by_cases hk : k = []
    · rw [T.leaves_of_kids_nil (t := .node d p k) hk, T.leaves_of_kids_nil (t := .node d p' k') (hemp.2 hk)]; exact .refl _
    · rw [T.leaves_node_ne d p hk, T.leaves_node_ne d p' (mt hemp.1 hk)]; exact h.leaves
  · rw [T.isLeaf_node, T.isLeaf_node, Bool.eq_iff_iff, List.isEmpty_iff, List.isEmpty_iff]; exact hemp

namespace C14

mutual
theorem Reord.keeps {β : Type} {g : SplitE → β} (hg : EntryInv g) : ∀ {t t' : T}, Reord t t' → ReordKeeps g t t'
  | _, _, .node d p p' hr hp => ((ReordL.keeps hg hr).trans (ReordKeepsL.of_perm g hp)).node d p p'
theorem ReordL.keeps {β : Type} {g : SplitE → β} (hg : EntryInv g) : ∀ {k k' : Kids}, ReordL k k' → ReordKeepsL g k k'
  | _, _, .nil => ⟨.refl _, rfl, rfl, rfl, .refl _⟩
  | _, _, .cons e (t := t) (t' := t') (r := r) (r' := r') ht hr => by
    have a := Reord.keeps hg ht
    have b := ReordL.keeps hg hr
    refine ⟨a.leaves.append b.leaves, by simp [b.len], ?_, ?_, ?_⟩
    · rw [noSingleL_cons, noSingleL_cons, a.noSingleBelow, b.noSingle]
    · rw [binaryL, binaryL, a.binaryBelow, b.binary]
    · rw [splitsL_cons, splitsL_cons, List.map_cons, List.map_cons, List.map_append, List.map_append, a.isLeaf,
        hg _ _ e t.isLeaf a.leaves, T.splitsBelow_eq, T.splitsBelow_eq]
      exact (a.splits.append b.splits).cons _
end

mutual
theorem Reord.refl : ∀ t : T, Reord t t
  | .node d p k => .node d p p (ReordL.refl k) (.refl k)
theorem ReordL.refl : ∀ k : Kids, ReordL k k
  | [] => .nil
  | (e, t) :: r => .cons e (Reord.refl t) (ReordL.refl r)
end

theorem Reord.tipNames {t t' : T} (h : Reord t t') : t'.tipNames.Perm t.tipNames :=
  have k := Reord.keeps (g := fun _ => ()) (fun _ _ _ _ _ => rfl) h
  T.tipNames_perm (congrArg NodeD.name k.d) k.len k.leavesL

/-- the children of one node reordered -/
theorem Reord.of_perm (d : NodeD) (p p' : Nat) {k k' : Kids} (h : k'.Perm k) : Reord (.node d p k) (.node d p' k') :=
  .node d p p' (ReordL.refl k) h

end C14

end Gotree

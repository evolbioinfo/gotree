/-
  C06 — two relations between split lists (DESIGN §3.1) that say what pruning preserves about
  splits and path lengths.  `Eff x`: the effect of removing the tip `x` below a node, about every
  name but `x` (entries kept up to `x`, entries with nothing else below dropped, two entries with the
  same tips below fused, lengths added); `rmNode` / `rmKids` have it on any tree.  `RootEff K`: the
  same seen from a list `K` of kept taxa, where a branch may also be replaced by its complement
  (`sameSplit`); it composes along a sequence of removals and is what the theorems of
  `Proofs/C06.lean` state.  Core Lean only.
-/
import Gotree.Lemmas.C06

namespace Gotree.C06
open Gotree Gotree.C14

/-- same members, the removed name `x` apart -/
def eqv (x : String) (A B : List String) : Prop := ∀ a, a ≠ x → (a ∈ A ↔ a ∈ B)

theorem eqv.rfl' (x : String) (A : List String) : eqv x A A := fun _ _ => Iff.rfl
theorem eqv.symm' {x : String} {A B : List String} (h : eqv x A B) : eqv x B A := fun a ha => (h a ha).symm
theorem eqv.trans' {x : String} {A B C : List String} (h : eqv x A B) (g : eqv x B C) : eqv x A C :=
  fun a ha => (h a ha).trans (g a ha)

theorem eqv_of_perm_erase {x : String} {l l' : List String} (h : l'.Perm (l.erase x)) : eqv x l' l :=
  fun _ ha => h.mem_iff.trans (List.mem_erase_of_ne ha)

/-- a length is absent or non-negative -/
def lenOKe (e : EdgeD) : Prop := e.len = NIL ∨ 0 ≤ e.len

theorem lensOK_iff (t : T) : lensOK t = true ↔ ∀ s ∈ t.splits, lenOKe s.e := by
  simp [lensOK, T.edges, lenOKe]

theorem sep_eqv {x : String} {s s' : SplitE} (h : eqv x s.below s'.below) (a b : String) (ha : a ≠ x) (hb : b ≠ x) :
    s.sep a b = s'.sep a b := by
  have h1 : s.below.contains a = s'.below.contains a := by
    have := h a ha
    by_cases m : a ∈ s.below <;> simp_all
  have h2 : s.below.contains b = s'.below.contains b := by
    have := h b hb
    by_cases m : b ∈ s.below <;> simp_all
  simp only [SplitE.sep, h1, h2]

theorem rmax0_nil : rmax 0 NIL = 0 := by decide

theorem rmax0_nonneg {l : Rat} (h : 0 ≤ l) : rmax 0 l = l := by
  unfold rmax
  split
  · rename_i h'; exact Rat.le_antisymm h h'
  · rfl

theorem lenOr0_eq_rmax {e : EdgeD} (h : lenOKe e) : e.lenOr0 = rmax 0 e.len := by
  rcases h with h | h
  · simp [EdgeD.lenOr0, h, rmax0_nil]
  · rw [rmax0_nonneg h]
    have : e.len ≠ NIL := by
      intro h'; rw [h'] at h; exact absurd h (by decide)
    simp [EdgeD.lenOr0, this]

theorem rmax0_nonneg' (l : Rat) : 0 ≤ rmax 0 l := by
  unfold rmax
  split
  · exact Rat.le_refl
  · rename_i h; exact Rat.le_of_lt (Rat.not_le.1 h)

theorem fuse_lenOK (e1 e2 : EdgeD) (b : Bool) : lenOKe (fuseEdge e1 e2 b) := by
  unfold lenOKe fuseEdge
  simp only
  split
  · right
    exact Rat.add_nonneg (rmax0_nonneg' e1.len) (rmax0_nonneg' e2.len)
  · left; rfl

theorem fuse_lenOr0 {e1 e2 : EdgeD} (h1 : lenOKe e1) (h2 : lenOKe e2) (b : Bool) :
    (fuseEdge e1 e2 b).lenOr0 = e1.lenOr0 + e2.lenOr0 := by
  rw [lenOr0_eq_rmax h1, lenOr0_eq_rmax h2, lenOr0_eq_rmax (fuse_lenOK e1 e2 b)]
  by_cases hn : (e1.len != NIL || e2.len != NIL) = true
  · have : (fuseEdge e1 e2 b).len = rmax 0 e1.len + rmax 0 e2.len := by simp [fuseEdge, hn]
    rw [this, rmax0_nonneg (Rat.add_nonneg (rmax0_nonneg' _) (rmax0_nonneg' _))]
  · have hn' : e1.len = NIL ∧ e2.len = NIL := by simpa using hn
    simp [fuseEdge, hn'.1, hn'.2, rmax0_nil, Rat.add_zero]

theorem fuse_lenOr0_or {e1 e2 e : EdgeD} (h1 : lenOKe e1) (h2 : lenOKe e2) {b : Bool}
    (he : e = fuseEdge e1 e2 b ∨ e = fuseEdge e2 e1 b) : e.lenOr0 = e1.lenOr0 + e2.lenOr0 := by
  rcases he with he | he
  · rw [he, fuse_lenOr0 h1 h2]
  · rw [he, fuse_lenOr0 h2 h1, Rat.add_comm]

/-- The effect of removing the tip `x` on a split list. -/
structure Eff (x : String) (L L' : List SplitE) : Prop where
  dist : (∀ s ∈ L, lenOKe s.e) → ∀ a b, a ≠ x → b ≠ x →
    distW EdgeD.lenOr0 L' a b = distW EdgeD.lenOr0 L a b
  lens : (∀ s ∈ L, lenOKe s.e) → ∀ s' ∈ L', lenOKe s'.e
  back : ∀ s' ∈ L', ∃ s ∈ L, eqv x s'.below s.below
  fwd : ∀ s ∈ L, (∃ a, a ≠ x ∧ a ∈ s.below) → ∃ s' ∈ L', eqv x s'.below s.below

theorem Eff.refl (x : String) (L : List SplitE) : Eff x L L :=
  ⟨fun _ _ _ _ _ => rfl, fun h => h, fun s hs => ⟨s, hs, eqv.rfl' _ _⟩, fun s hs _ => ⟨s, hs, eqv.rfl' _ _⟩⟩

theorem Eff.trans {x : String} {L L' L'' : List SplitE} (h : Eff x L L') (g : Eff x L' L'') : Eff x L L'' := by
  refine ⟨fun hl a b ha hb => ?_, fun hl => g.lens (h.lens hl), fun s'' hs'' => ?_, fun s hs hne => ?_⟩
  · rw [g.dist (h.lens hl) a b ha hb, h.dist hl a b ha hb]
  · obtain ⟨s', hs', e1⟩ := g.back s'' hs''
    obtain ⟨s, hs, e2⟩ := h.back s' hs'
    exact ⟨s, hs, e1.trans' e2⟩
  · obtain ⟨s', hs', e1⟩ := h.fwd s hs hne
    obtain ⟨a, ha, hm⟩ := hne
    obtain ⟨s'', hs'', e2⟩ := g.fwd s' hs' ⟨a, ha, (e1 a ha).2 hm⟩
    exact ⟨s'', hs'', e2.trans' e1⟩

theorem Eff.append {x : String} {A A' B B' : List SplitE} (h : Eff x A A') (g : Eff x B B') :
    Eff x (A ++ B) (A' ++ B') := by
  refine ⟨fun hl a b ha hb => ?_, fun hl s' hs' => ?_, fun s' hs' => ?_, fun s hs hne => ?_⟩
  · rw [distW_append, distW_append,
      h.dist (fun s hs => hl s (List.mem_append_left _ hs)) a b ha hb,
      g.dist (fun s hs => hl s (List.mem_append_right _ hs)) a b ha hb]
  · rcases List.mem_append.1 hs' with m | m
    · exact h.lens (fun s hs => hl s (List.mem_append_left _ hs)) s' m
    · exact g.lens (fun s hs => hl s (List.mem_append_right _ hs)) s' m
  · rcases List.mem_append.1 hs' with m | m
    · obtain ⟨s, hs, e⟩ := h.back s' m; exact ⟨s, List.mem_append_left _ hs, e⟩
    · obtain ⟨s, hs, e⟩ := g.back s' m; exact ⟨s, List.mem_append_right _ hs, e⟩
  · rcases List.mem_append.1 hs with m | m
    · obtain ⟨s', hs', e⟩ := h.fwd s m hne; exact ⟨s', List.mem_append_left _ hs', e⟩
    · obtain ⟨s', hs', e⟩ := g.fwd s m hne; exact ⟨s', List.mem_append_right _ hs', e⟩

theorem Eff.swap (x : String) (A B : List SplitE) : Eff x (A ++ B) (B ++ A) := by
  refine ⟨fun _ a b _ _ => ?_, fun hl s' hs' => ?_, fun s' hs' => ?_, fun s hs _ => ?_⟩
  · rw [distW_append, distW_append, Rat.add_comm]
  · exact hl s' (List.mem_append.2 (List.mem_append.1 hs').symm)
  · exact ⟨s', List.mem_append.2 (List.mem_append.1 hs').symm, eqv.rfl' _ _⟩
  · exact ⟨s, List.mem_append.2 (List.mem_append.1 hs).symm, eqv.rfl' _ _⟩

theorem Eff.single {x : String} {s s' : SplitE} (h : eqv x s.below s'.below) (he : s'.e = s.e) :
    Eff x [s] [s'] := by
  refine ⟨fun _ a b ha hb => ?_, fun hl t ht => ?_, fun t ht => ?_, fun t ht _ => ?_⟩
  · simp [distW_cons, distW_nil, sep_eqv h a b ha hb, he]
  · simp at ht; subst ht; rw [he]; exact hl s (by simp)
  · simp at ht; subst ht; exact ⟨s, by simp, h.symm'⟩
  · simp at ht; subst ht; exact ⟨s', by simp, h.symm'⟩

theorem Eff.drop {x : String} {A : List SplitE} (h : ∀ s ∈ A, eqv x s.below []) : Eff x A [] := by
  refine ⟨fun _ a b ha hb => ?_, fun _ t ht => (by cases ht), fun t ht => (by cases ht), fun s hs hne => ?_⟩
  · rw [distW_nil, distW_both_out]
    · intro s hs hm; exact absurd ((h s hs a ha).1 hm) (by simp)
    · intro s hs hm; exact absurd ((h s hs b hb).1 hm) (by simp)
  · obtain ⟨a, ha, hm⟩ := hne
    exact absurd ((h s hs a ha).1 hm) (by simp)

theorem Eff.fuse {x : String} {s1 s2 s' : SplitE} (h1 : eqv x s1.below s'.below) (h2 : eqv x s2.below s'.below)
    (b : Bool) (he : s'.e = fuseEdge s1.e s2.e b) : Eff x [s1, s2] [s'] := by
  refine ⟨fun hl a c ha hc => ?_, fun _ t ht => ?_, fun t ht => ?_, fun t ht _ => ?_⟩
  · have l1 := hl s1 (by simp)
    have l2 := hl s2 (by simp)
    simp only [distW_cons, distW_nil, sep_eqv h1 a c ha hc, sep_eqv h2 a c ha hc, he, fuse_lenOr0 l1 l2]
    split <;> simp [Rat.add_zero]
  · simp at ht; subst ht; rw [he]; exact fuse_lenOK _ _ _
  · simp at ht; subst ht; exact ⟨s1, by simp, h1.symm'⟩
  · simp at ht
    rcases ht with rfl | rfl
    · exact ⟨s', by simp, h1.symm'⟩
    · exact ⟨s', by simp, h2.symm'⟩

def OutEff (x : String) (t : T) : Out → Prop
  | .notFound => True
  | .repl t' => Eff x t.splitsBelow t'.splitsBelow
  | .gone => True
  | .splice e c => Eff x t.splitsBelow (⟨c.leaves, e, c.isLeaf⟩ :: c.splitsBelow)

def KOutEff (x : String) (k : Kids) : KOut → Prop
  | .notFound => True
  | .set ks => Eff x (splitsL k) (splitsL ks)
  | .del _ ks => Eff x (splitsL k) (splitsL ks)
  | .spl _ ks ei e c =>
    ∀ b, Eff x (splitsL k) (splitsL ks ++ (⟨c.leaves, fuseEdge ei e b, c.isLeaf⟩ :: c.splitsBelow))

theorem finishNode_eff (x : String) (d : NodeD) (p : Nat) (k : Kids) (ko : KOut)
    (h : KOutEff x k ko) : OutEff x (.node d p k) (finishNode d p ko) := by
  cases ko with
  | notFound => trivial
  | set ks => exact h
  | spl i ks ei e c =>
    show Eff x (splitsL k) (splitsL (ks ++ [(fuseEdge ei e (!c.isLeaf), c)]))
    rw [splitsL_append, splitsL_singleton]; exact h _
  | del i ks =>
    match ks, h with
    | [], _ => trivial
    | [(e, c)], h =>
      show Eff x (splitsL k) (⟨(reattach c).leaves, e, (reattach c).isLeaf⟩ :: (reattach c).splitsBelow)
      have h' : Eff x (splitsL k) (splitsL [(e, c)]) := h
      simpa [splitsL_singleton] using h'
    | a :: b :: r, h => exact h

/-- the head branch `hd` is fused with the branch `hc` that came up from below it -/
theorem Eff.splice {x : String} {hd hc hf : SplitE} {A C R : List SplitE} (h1 : Eff x A (hc :: C))
    (h2 : Eff x [hd, hc] [hf]) : Eff x (hd :: (A ++ R)) (R ++ hf :: C) := by
  have a : Eff x (hd :: (A ++ R)) (hd :: hc :: (C ++ R)) :=
    Eff.append (Eff.refl x [hd]) (Eff.append h1 (Eff.refl x R))
  have b : Eff x (hd :: hc :: (C ++ R)) (hf :: (C ++ R)) := Eff.append h2 (Eff.refl x (C ++ R))
  exact (a.trans b).trans (Eff.swap x (hf :: C) R)

mutual
theorem rmNode_eff (x : String) : ∀ t : T, OutEff x t (rmNode x t)
  | .node d p [] => by
    simp only [rmNode]; split <;> trivial
  | .node d p (k :: ks) => by
    simp only [rmNode]
    exact finishNode_eff x d p _ _ (rmKids_eff x (k :: ks))
theorem rmKids_eff (x : String) : ∀ k : Kids, KOutEff x k (rmKids x k)
  | [] => by simp [rmKids, KOutEff]
  | (e, t) :: r => by
    have h1 := rmNode_eff x t
    have h2 := rmKids_eff x r
    have l1 := rmNode_leaves x t
    simp only [rmKids]
    cases hn : rmNode x t with
    | repl t' =>
      rw [hn] at h1 l1
      exact Eff.append (Eff.single (s := ⟨t.leaves, e, t.isLeaf⟩) (s' := ⟨t'.leaves, e, t'.isLeaf⟩)
        (eqv_of_perm_erase l1.2.1).symm' rfl) (Eff.append h1 (Eff.refl _ _))
    | gone =>
      rw [hn] at l1
      simp only [OutLeaves] at l1
      -- nothing but `x` below: the branch of `t` and everything under it go
      have hd : Eff x (⟨t.leaves, e, t.isLeaf⟩ :: t.splitsBelow) [] := Eff.drop (by
        intro s hs a ha
        refine ⟨fun hm => ?_, fun hm => by cases hm⟩
        have : a ∈ t.leaves := by
          rcases List.mem_cons.1 hs with rfl | hs
          · exact hm
          · exact below_sub t s hs a hm
        rw [l1] at this; simp at this; exact absurd this ha)
      exact Eff.append hd (Eff.refl x (splitsL r))
    | splice e' c =>
      rw [hn] at h1 l1
      intro b
      exact Eff.splice h1 (Eff.fuse (s1 := ⟨t.leaves, e, t.isLeaf⟩) (s2 := ⟨c.leaves, e', c.isLeaf⟩)
        (s' := ⟨c.leaves, fuseEdge e e' b, c.isLeaf⟩) (eqv_of_perm_erase l1.2).symm' (eqv.rfl' _ _) b rfl)
    | notFound =>
      have keep : ∀ {B : List SplitE}, Eff x (splitsL r) B →
          Eff x (splitsL ((e, t) :: r)) (⟨t.leaves, e, t.isLeaf⟩ :: (t.splitsBelow ++ B)) :=
        fun h => Eff.append (Eff.refl x [_]) (Eff.append (Eff.refl x _) h)
      cases hk : rmKids x r with
      | notFound => trivial
      | set ks' => rw [hk] at h2; exact keep h2
      | del i ks' => rw [hk] at h2; exact keep h2
      | spl i ks' ei e' c =>
        rw [hk] at h2
        intro b
        have := keep (h2 b)
        simpa [splitsL, List.append_assoc] using this
end

theorem sameSplit.rfl' (all A : List String) : sameSplit all A A := Or.inl fun _ _ => Iff.rfl

theorem sameSplit.mono {all all' A B : List String} (hsub : ∀ a ∈ all', a ∈ all) (h : sameSplit all A B) :
    sameSplit all' A B := by
  rcases h with h | h
  · exact Or.inl fun a ha => h a (hsub a ha)
  · exact Or.inr fun a ha => h a (hsub a ha)

theorem sameSplit.trans' {all A B C : List String} (h : sameSplit all A B) (g : sameSplit all B C) :
    sameSplit all A C := by
  rcases h with h | h <;> rcases g with g | g
  · exact Or.inl fun a ha => (h a ha).trans (g a ha)
  · exact Or.inr fun a ha => (h a ha).trans (g a ha)
  · exact Or.inr fun a ha => (h a ha).trans (not_congr (g a ha))
  · refine Or.inl fun a ha => (h a ha).trans ?_
    rw [g a ha]; exact Decidable.not_not

theorem sameSplit.symm' {all A B : List String} (h : sameSplit all A B) : sameSplit all B A := by
  rcases h with h | h
  · exact Or.inl fun a ha => (h a ha).symm
  · exact Or.inr fun a ha => Decidable.iff_not_comm.1 (h a ha)

/-- effect on the split list seen from the remaining taxa `all` -/
structure RootEff (all : List String) (L L' : List SplitE) : Prop where
  dist : (∀ s ∈ L, lenOKe s.e) → ∀ a b, a ∈ all → b ∈ all →
    distW EdgeD.lenOr0 L' a b = distW EdgeD.lenOr0 L a b
  lens : (∀ s ∈ L, lenOKe s.e) → ∀ s' ∈ L', lenOKe s'.e
  back : ∀ s' ∈ L', ∃ s ∈ L, sameSplit all s'.below s.below
  fwd : ∀ s ∈ L, (∃ a ∈ all, a ∈ s.below) → (∃ b ∈ all, b ∉ s.below) →
    ∃ s' ∈ L', sameSplit all s'.below s.below

theorem RootEff.refl (K : List String) (L : List SplitE) : RootEff K L L :=
  ⟨fun _ _ _ _ _ => rfl, fun h => h, fun s hs => ⟨s, hs, sameSplit.rfl' _ _⟩,
    fun s hs _ _ => ⟨s, hs, sameSplit.rfl' _ _⟩⟩

theorem RootEff.trans {all all' : List String} {L L' L'' : List SplitE} (hsub : ∀ a ∈ all', a ∈ all)
    (h : RootEff all L L') (g : RootEff all' L' L'') : RootEff all' L L'' := by
  refine ⟨fun hl a b ha hb => ?_, fun hl => g.lens (h.lens hl), fun s'' hs'' => ?_, fun s hs h1 h2 => ?_⟩
  · rw [g.dist (h.lens hl) a b ha hb, h.dist hl a b (hsub a ha) (hsub b hb)]
  · obtain ⟨s', hs', e1⟩ := g.back s'' hs''
    obtain ⟨s, hs, e2⟩ := h.back s' hs'
    exact ⟨s, hs, e1.trans' (e2.mono hsub)⟩
  · obtain ⟨a, ha, hma⟩ := h1
    obtain ⟨b, hb, hmb⟩ := h2
    obtain ⟨s', hs', e1⟩ := h.fwd s hs ⟨a, hsub a ha, hma⟩ ⟨b, hsub b hb, hmb⟩
    have e1' := e1.mono hsub
    have : (∃ a ∈ all', a ∈ s'.below) ∧ (∃ b ∈ all', b ∉ s'.below) := by
      rcases e1' with e | e
      · exact ⟨⟨a, ha, (e a ha).2 hma⟩, ⟨b, hb, fun h' => hmb ((e b hb).1 h')⟩⟩
      · exact ⟨⟨b, hb, (e b hb).2 hmb⟩, ⟨a, ha, fun h' => ((e a ha).1 h') hma⟩⟩
    obtain ⟨s'', hs'', e2⟩ := g.fwd s' hs' this.1 this.2
    exact ⟨s'', hs'', e2.trans' e1'⟩

/-- case 1b: the root is replaced by its only child; the child's branch has every
    remaining taxon below it and disappears -/
theorem RootEff.dropTop {all : List String} (hc : SplitE) (C : List SplitE) (h : ∀ a ∈ all, a ∈ hc.below) :
    RootEff all (hc :: C) C := by
  refine ⟨fun _ a b ha hb => ?_, fun hl s' hs' => hl s' (List.mem_cons_of_mem _ hs'),
    fun s' hs' => ⟨s', List.mem_cons_of_mem _ hs', sameSplit.rfl' _ _⟩, fun s hs _ h2 => ?_⟩
  · rw [distW_cons]
    have : hc.sep a b = false := by simp [SplitE.sep, h a ha, h b hb]
    simp [this, Rat.zero_add]
  · obtain ⟨b, hb, hmb⟩ := h2
    rcases List.mem_cons.1 hs with rfl | hs
    · exact absurd (h b hb) hmb
    · exact ⟨s, hs, sameSplit.rfl' _ _⟩

theorem sep_compl {all : List String} {s s' : SplitE} (h : ∀ a ∈ all, (a ∈ s.below ↔ a ∉ s'.below))
    (a b : String) (ha : a ∈ all) (hb : b ∈ all) : s.sep a b = s'.sep a b := by
  have h1 := h a ha
  have h2 := h b hb
  simp only [SplitE.sep, List.contains_eq_mem]
  by_cases m1 : a ∈ s'.below <;> by_cases m2 : b ∈ s'.below <;> simp_all

theorem sep_of_sameSplit {K : List String} {s s' : SplitE} (h : sameSplit K s.below s'.below)
    (a b : String) (ha : a ∈ K) (hb : b ∈ K) : s.sep a b = s'.sep a b := by
  rcases h with e | e
  · have e1 := e a ha; have e2 := e b hb
    simp only [SplitE.sep, List.contains_eq_mem]
    by_cases m1 : a ∈ s'.below <;> by_cases m2 : b ∈ s'.below <;> simp_all
  · exact sep_compl e a b ha hb

theorem RootEff.append {K : List String} {A A' B B' : List SplitE} (h : RootEff K A A') (g : RootEff K B B') :
    RootEff K (A ++ B) (A' ++ B') := by
  refine ⟨fun hl a b ha hb => ?_, fun hl s' hs' => ?_, fun s' hs' => ?_, fun s hs h1 h2 => ?_⟩
  · rw [distW_append, distW_append,
      h.dist (fun s hs => hl s (List.mem_append_left _ hs)) a b ha hb,
      g.dist (fun s hs => hl s (List.mem_append_right _ hs)) a b ha hb]
  · rcases List.mem_append.1 hs' with m | m
    · exact h.lens (fun s hs => hl s (List.mem_append_left _ hs)) s' m
    · exact g.lens (fun s hs => hl s (List.mem_append_right _ hs)) s' m
  · rcases List.mem_append.1 hs' with m | m
    · obtain ⟨s, hs, e⟩ := h.back s' m; exact ⟨s, List.mem_append_left _ hs, e⟩
    · obtain ⟨s, hs, e⟩ := g.back s' m; exact ⟨s, List.mem_append_right _ hs, e⟩
  · rcases List.mem_append.1 hs with m | m
    · obtain ⟨s', hs', e⟩ := h.fwd s m h1 h2; exact ⟨s', List.mem_append_left _ hs', e⟩
    · obtain ⟨s', hs', e⟩ := g.fwd s m h1 h2; exact ⟨s', List.mem_append_right _ hs', e⟩

theorem RootEff.swap (all : List String) (A B : List SplitE) : RootEff all (A ++ B) (B ++ A) := by
  refine ⟨fun _ a b _ _ => ?_, fun hl s' hs' => ?_, fun s' hs' => ?_, fun s hs _ _ => ?_⟩
  · rw [distW_append, distW_append, Rat.add_comm]
  · exact hl s' (List.mem_append.2 (List.mem_append.1 hs').symm)
  · exact ⟨s', List.mem_append.2 (List.mem_append.1 hs').symm, sameSplit.rfl' _ _⟩
  · exact ⟨s, List.mem_append.2 (List.mem_append.1 hs).symm, sameSplit.rfl' _ _⟩

end Gotree.C06

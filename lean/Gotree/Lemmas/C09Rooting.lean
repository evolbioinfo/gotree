/-
  C09 — the frequency table does not depend on the child order or on the rooting
  of the input trees: reordering children (`rotT`) and moving the root along a
  branch (`moveRoot`) give branch lists that describe the same bipartitions with
  the same lengths (`LEq`), and `LEq` branch lists give the same rows.
-/
import Gotree.Lemmas.C09
import Gotree.Lemmas.C09Insert
import Gotree.Lemmas.Reord

namespace Gotree.C09
open Gotree

/-! ## equivalent branch lists -/

/-- pointwise relation between two lists of the same length -/
inductive F2 {α β : Type} (R : α → β → Prop) : List α → List β → Prop
  | nil : F2 R [] []
  | cons {a : α} {b : β} {l : List α} {l' : List β} : R a b → F2 R l l' → F2 R (a :: l) (b :: l')

theorem F2.length_eq {α β : Type} {R : α → β → Prop} {l : List α} {l' : List β} (h : F2 R l l') :
    l.length = l'.length := by
  induction h with
  | nil => rfl
  | cons _ _ ih => simp [ih]

/-- same bipartition, same length -/
def KEq (all : List String) (a b : KL) : Prop := Eqc all a.1 b.1 ∧ a.2 = b.2

/-- the two lists describe the same bipartitions with the same lengths, up to order -/
def LEq (all : List String) (L L' : List KL) : Prop :=
  ∃ M, L.Perm M ∧ F2 (KEq all) M L'

theorem forall₂_refl (all : List String) (L : List KL) : F2 (KEq all) L L := by
  induction L with
  | nil => exact .nil
  | cons a L ih => exact .cons ⟨Eqc.refl _ _, rfl⟩ ih

theorem LEq.of_perm {all : List String} {L L' : List KL} (h : L.Perm L') : LEq all L L' :=
  ⟨L', h, forall₂_refl all L'⟩

theorem LEq.refl (all : List String) (L : List KL) : LEq all L L := LEq.of_perm (List.Perm.refl _)

theorem LEq.of_forall₂ {all : List String} {L L' : List KL} (h : F2 (KEq all) L L') : LEq all L L' :=
  ⟨L, List.Perm.refl _, h⟩

theorem forall₂_append {all : List String} {a a' b b' : List KL}
    (h1 : F2 (KEq all) a a') (h2 : F2 (KEq all) b b') :
    F2 (KEq all) (a ++ b) (a' ++ b') := by
  induction h1 with
  | nil => simpa using h2
  | cons h _ ih => exact .cons h ih

theorem LEq.append {all : List String} {a a' b b' : List KL} (h1 : LEq all a a') (h2 : LEq all b b') :
    LEq all (a ++ b) (a' ++ b') := by
  obtain ⟨m1, p1, f1⟩ := h1
  obtain ⟨m2, p2, f2⟩ := h2
  exact ⟨m1 ++ m2, p1.append p2, forall₂_append f1 f2⟩

theorem forall₂_mem_left {all : List String} {M L' : List KL} (h : F2 (KEq all) M L')
    {a : KL} (ha : a ∈ M) : ∃ b ∈ L', KEq all a b := by
  induction h with
  | nil => cases ha
  | cons hab _ ih =>
    rcases List.mem_cons.1 ha with rfl | ha
    · exact ⟨_, List.mem_cons_self, hab⟩
    · obtain ⟨b, hb, hk⟩ := ih ha; exact ⟨b, List.mem_cons_of_mem _ hb, hk⟩

theorem eqc_congr_right {all a b c : List String} (ha : IsKey all a) (hb : IsKey all b) (hc : IsKey all c)
    (h : Eqc all a b) : eqc all c a = eqc all c b := by
  rw [eqc_symm_b hc ha, eqc_symm_b hc hb]
  exact eqc_congr_left ha hb hc h

theorem cnt_forall₂ (all : List String) {M L' : List KL} (h : F2 (KEq all) M L')
    (hM : ∀ kl ∈ M, IsKey all kl.1) (hL' : ∀ kl ∈ L', IsKey all kl.1) (k : List String) (hk : IsKey all k) :
    cnt all M k = cnt all L' k ∧ lsum all M k = lsum all L' k := by
  induction h with
  | nil => exact ⟨rfl, rfl⟩
  | @cons a b M L' hab _ ih =>
    have ha := hM a (by simp)
    have hb := hL' b (by simp)
    obtain ⟨i1, i2⟩ := ih (fun x hx => hM x (by simp [hx])) (fun x hx => hL' x (by simp [hx]))
    have e := eqc_congr_right ha hb hk hab.1
    have c1 : cnt all (a :: M) k = cnt all [a] k + cnt all M k := by
      rw [← cnt_append]; rfl
    have c2 : cnt all (b :: L') k = cnt all [b] k + cnt all L' k := by
      rw [← cnt_append]; rfl
    have l1 : lsum all (a :: M) k = lsum all [a] k + lsum all M k := by
      rw [← lsum_append]; rfl
    have l2 : lsum all (b :: L') k = lsum all [b] k + lsum all L' k := by
      rw [← lsum_append]; rfl
    obtain ⟨a1, a2⟩ := a
    obtain ⟨b1, b2⟩ := b
    simp only at e hab
    have h2 : a2 = b2 := hab.2
    rw [c1, c2, l1, l2, cnt_single, cnt_single, lsum_single, lsum_single, i1, i2, e, h2]
    exact ⟨rfl, rfl⟩

theorem cnt_LEq (all : List String) {L L' : List KL} (h : LEq all L L')
    (hL : ∀ kl ∈ L, IsKey all kl.1) (hL' : ∀ kl ∈ L', IsKey all kl.1) (k : List String) (hk : IsKey all k) :
    cnt all L k = cnt all L' k ∧ lsum all L k = lsum all L' k := by
  obtain ⟨M, p, f⟩ := h
  have hM : ∀ kl ∈ M, IsKey all kl.1 := fun kl hkl => hL kl (p.mem_iff.2 hkl)
  obtain ⟨c, l⟩ := cnt_forall₂ all f hM hL' k hk
  exact ⟨(cnt_perm all p k).trans c, (lsum_perm all p k).trans l⟩

/-- indexes over equivalent branch lists have the same rows up to the presentation of the key -/
theorem inv_equiv {all : List String} {idx idx' : List Entry} {L L' : List KL}
    (h : Inv all idx L) (h' : Inv all idx' L') (he : LEq all L L') (x : Entry) (hx : x ∈ idx) :
    ∃ y ∈ idx', eqc all y.key x.key = true ∧ y.count = x.count ∧ y.len = x.len := by
  have hxk := h.keys x hx
  have hpos := h.pos x hx
  rw [(h.vals x hx).1] at hpos
  unfold cnt at hpos
  rw [List.countP_pos_iff] at hpos
  obtain ⟨kl, hkl, hxe⟩ := hpos
  obtain ⟨M, p, f⟩ := he
  obtain ⟨kl', hkl', hkk⟩ := forall₂_mem_left f (p.mem_iff.1 hkl)
  obtain ⟨y, hy, hye⟩ := h'.cover kl' hkl'
  have hklk := h.lkeys kl hkl
  have hkl'k := h'.lkeys kl' hkl'
  have hyk := h'.keys y hy
  have e1 : Eqc all y.key x.key :=
    Eqc.trans hxk (Eqc.trans hklk ((eqc_iff _ _ _).1 hye) (Eqc.symm hkl'k hkk.1))
      (Eqc.symm hklk ((eqc_iff _ _ _).1 hxe))
  obtain ⟨c, l⟩ := cnt_LEq all ⟨M, p, f⟩ h.lkeys h'.lkeys y.key hyk
  refine ⟨y, hy, (eqc_iff _ _ _).2 e1, ?_, ?_⟩
  · rw [(h'.vals y hy).1, (h.vals x hx).1, ← c, cnt_congr all L h.lkeys hyk hxk e1]
  · rw [(h'.vals y hy).2, (h.vals x hx).2, ← l, lsum_congr all L h.lkeys hyk hxk e1]

/-- in particular over permuted branch lists -/
theorem inv_perm {all : List String} {idx idx' : List Entry} {L L' : List KL}
    (h : Inv all idx L) (h' : Inv all idx' L') (hp : L.Perm L') (x : Entry) (hx : x ∈ idx) :
    ∃ y ∈ idx', eqc all y.key x.key = true ∧ y.count = x.count ∧ y.len = x.len :=
  inv_equiv h h' (LEq.of_perm hp) x hx

/-- tree by tree equivalent collections have equivalent flattened branch lists -/
theorem flat_LEq (all : List String) {us us' : List T}
    (h : F2 (fun u u' => LEq all (edgeKeys all u) (edgeKeys all u')) us us') :
    LEq all (us.flatMap (edgeKeys all)) (us'.flatMap (edgeKeys all)) := by
  induction h with
  | nil => exact LEq.refl _ _
  | cons h _ ih => rw [List.flatMap_cons, List.flatMap_cons]; exact LEq.append h ih

/-! ## child order -/

/-- the key of a split entry -/
def keyOf (all : List String) (s : SplitE) : KL := (bits all s.below, s.e.len)

theorem edgeKeys_eq (all : List String) (t : T) : edgeKeys all t = (splitsL t.kids).map (keyOf all) := rfl

theorem bits_perm (all : List String) {a b : List String} (h : a.Perm b) : bits all a = bits all b := by
  unfold bits
  apply List.filter_congr
  intro x _
  rw [Bool.eq_iff_iff]
  simp [h.mem_iff]

/- reorder the children of every node by `f` -/
mutual
def rotT (f : Kids → Kids) : T → T
  | .node d p k => .node d p (f (rotL f k))
def rotL (f : Kids → Kids) : Kids → Kids
  | [] => []
  | (e, t) :: r => (e, rotT f t) :: rotL f r
end

mutual
theorem rotT_reord (f : Kids → Kids) (hf : ∀ k, (f k).Perm k) : ∀ t : T, C14.Reord t (rotT f t)
  | .node d p k => .node d p p (rotL_reord f hf k) (hf _)
theorem rotL_reord (f : Kids → Kids) (hf : ∀ k, (f k).Perm k) : ∀ k : Kids, C14.ReordL k (rotL f k)
  | [] => .nil
  | (e, t) :: r => .cons e (rotT_reord f hf t) (rotL_reord f hf r)
end

theorem entryInv_keyOf (all : List String) : EntryInv (keyOf all) :=
  fun _ _ _ _ h => by unfold keyOf; rw [bits_perm all h]

theorem rotL_spec (all : List String) (f : Kids → Kids) (hf : ∀ k, (f k).Perm k) : ∀ k : Kids,
    (leavesL (rotL f k)).Perm (leavesL k) ∧ (rotL f k).length = k.length ∧
    ((splitsL (rotL f k)).map (keyOf all)).Perm ((splitsL k).map (keyOf all)) :=
  fun k => have a := (rotL_reord f hf k).keeps (entryInv_keyOf all)
    ⟨a.leaves, a.len, a.splits⟩

/-- Reordering the children of every node does not change the branch list of the
    tree (as a multiset of (bitset, length)). -/
theorem rot_keys (all : List String) (f : Kids → Kids) (hf : ∀ k, (f k).Perm k) (t : T) :
    (edgeKeys all (rotT f t)).Perm (edgeKeys all t) :=
  ((rotT_reord f hf t).keeps (entryInv_keyOf all)).splits

/-! ## rooting -/

/-- One step of re-rooting along the branch `e`: the child `c = node dc _ kc` of the
    root becomes the root and the old root (with its other children `pre ++ post`)
    becomes a child of `c`.  Same branch list up to complementing the moved branch. -/
theorem moveRoot_keys (all : List String) (d dc : NodeD) (p pc p' p'' : Nat) (pre post kc : Kids) (e : EdgeD)
    (hkc : kc ≠ []) (hrest : pre ++ post ≠ [])
    (hnd : (leavesL (pre ++ (e, T.node dc pc kc) :: post)).Nodup)
    (hall : ∀ x ∈ all, x ∈ leavesL (pre ++ (e, T.node dc pc kc) :: post)) :
    LEq all (edgeKeys all (.node d p (pre ++ (e, .node dc pc kc) :: post)))
      (edgeKeys all (.node dc p' (kc ++ [(e, .node d p'' (pre ++ post))]))) := by
  have hL : splitsL (pre ++ (e, T.node dc pc kc) :: post) =
      splitsL pre ++ ((⟨leavesL kc, e, false⟩ :: splitsL kc) ++ splitsL post) := by
    rw [splitsL_append, splitsL_cons, blk_node _ _ _ _ hkc]
  have hR : splitsL (kc ++ [(e, T.node d p'' (pre ++ post))]) =
      splitsL kc ++ (⟨leavesL (pre ++ post), e, false⟩ :: (splitsL pre ++ splitsL post)) := by
    rw [splitsL_append, splitsL_cons, blk_node _ _ _ _ hrest, splitsL_append]
    simp [splitsL]
  rw [edgeKeys_eq, edgeKeys_eq, T.kids_node, T.kids_node, hL, hR]
  simp only [List.map_append, List.map_cons]
  refine ⟨(splitsL kc).map (keyOf all) ++ (keyOf all ⟨leavesL kc, e, false⟩ ::
      ((splitsL pre).map (keyOf all) ++ (splitsL post).map (keyOf all))), ?_, ?_⟩
  · -- a rearrangement of the blocks
    have h1 : ((splitsL pre).map (keyOf all) ++
        (keyOf all ⟨leavesL kc, e, false⟩ :: (splitsL kc).map (keyOf all) ++ (splitsL post).map (keyOf all))).Perm
        ((keyOf all ⟨leavesL kc, e, false⟩ :: (splitsL kc).map (keyOf all)) ++
          ((splitsL pre).map (keyOf all) ++ (splitsL post).map (keyOf all))) := by
      rw [← List.append_assoc, ← List.append_assoc]
      exact List.Perm.append_right _ List.perm_append_comm
    refine h1.trans ?_
    rw [List.cons_append]
    exact (List.perm_middle (l₁ := (splitsL kc).map (keyOf all))).symm
  · apply forall₂_append (forall₂_refl all _)
    refine .cons ⟨?_, rfl⟩ (forall₂_refl all _)
    apply bits_compl
    intro x hx
    have hx' := hall x hx
    rw [leavesL_append, leavesL_cons, leaves_node_ne _ _ _ hkc] at hx' hnd
    rw [leavesL_append]
    have hnd1 := List.nodup_append.1 hnd
    have hnd2 := List.nodup_append.1 hnd1.2.1
    constructor
    · intro hxk hxr
      rcases List.mem_append.1 hxr with h | h
      · exact hnd1.2.2 x h x (List.mem_append_left _ hxk) rfl
      · exact hnd2.2.2 x hxk x h rfl
    · intro hn
      rcases List.mem_append.1 hx' with h | h
      · exact absurd (List.mem_append_left _ h) hn
      · rcases List.mem_append.1 h with h | h
        · exact h
        · exact absurd (List.mem_append_right _ h) hn

/-- `Reroot` by one branch as a function: child `i` (an inner node) becomes the root -/
def moveRoot (t : T) (i : Nat) : T :=
  match t with
  | .node d _ k =>
    match k[i]? with
    | some (e, .node dc _ (c :: cs)) =>
      .node dc 0 ((c :: cs) ++ [(e, .node d (k.eraseIdx i).length (k.eraseIdx i))])
    | _ => t

theorem moveRoot_LEq (all : List String) (t : T) (i : Nat) (h3 : 3 ≤ t.kids.length)
    (hnd : (leavesL t.kids).Nodup) (hall : ∀ x ∈ all, x ∈ leavesL t.kids) :
    LEq all (edgeKeys all t) (edgeKeys all (moveRoot t i)) := by
  cases t with
  | node d p k =>
    unfold moveRoot
    simp only
    cases hki : k[i]? with
    | none => exact LEq.refl _ _
    | some et =>
      obtain ⟨e, c⟩ := et
      cases c with
      | node dc pc kc =>
        cases kc with
        | nil => exact LEq.refl _ _
        | cons c cs =>
          simp only
          have hi : i < k.length := by
            rcases Nat.lt_or_ge i k.length with h | h
            · exact h
            · rw [List.getElem?_eq_none h] at hki; cases hki
          have hget : k[i] = (e, T.node dc pc (c :: cs)) := by
            rw [List.getElem?_eq_getElem hi] at hki; exact Option.some.inj hki
          have hdec : k = k.take i ++ (e, T.node dc pc (c :: cs)) :: k.drop (i + 1) := by
            rw [← hget, ← List.drop_eq_getElem_cons hi, List.take_append_drop]
          have her : k.eraseIdx i = k.take i ++ k.drop (i + 1) := List.eraseIdx_eq_take_drop_succ k i
          have hrest : k.take i ++ k.drop (i + 1) ≠ [] := by
            intro h
            have hl : (k.eraseIdx i).length = 0 := by rw [her, h]; rfl
            rw [List.length_eraseIdx_of_lt hi] at hl
            simp only [T.kids_node] at h3; omega
          rw [her]
          simp only [T.kids_node] at hnd hall
          rw [hdec] at hnd hall
          have := moveRoot_keys all d dc p pc 0 (k.take i ++ k.drop (i + 1)).length (k.take i) (k.drop (i + 1)) (c :: cs) e
            (by simp) hrest hnd hall
          rw [← hdec] at this
          exact this

/-- Unrooting a rooted presentation: the root placed on the branch `e` between the
    inner node `n1 = node d1 _ k1` and `n2`, the length of `e` shared between the
    two root branches.  `unroot` gives back the tree rooted at `n1`. -/
theorem unroot_rooting_keys (all : List String) (dr d1 d2 : NodeD) (pr p1 p2 p1' : Nat) (k1 k2 : Kids)
    (e e1 e2 : EdgeD) (hk1 : k1 ≠ []) (hlen : e1.len ≠ NIL ∨ e2.len ≠ NIL)
    (hsum : max0 e1.len + max0 e2.len = e.len) :
    edgeKeys all (unroot (.node dr pr [(e1, .node d1 p1 k1), (e2, .node d2 p2 k2)])) =
      edgeKeys all (.node d1 p1' (k1 ++ [(e, .node d2 p2 k2)])) := by
  have hne : k1.isEmpty = false := List.isEmpty_eq_false_iff.2 hk1
  have hl : (e1.len != NIL || e2.len != NIL) = true := by
    rcases hlen with h | h <;> simp [h]
  unfold unroot
  simp only [hne, hl, if_true, Bool.false_eq_true, if_false]
  rw [edgeKeys_eq, edgeKeys_eq]
  simp only [T.kids_node, splitsL_append, splitsL_cons, List.map_append]
  congr 1
  unfold blk
  simp only [List.map_cons, splitsL, List.append_nil, List.map_nil]
  congr 1
  · unfold keyOf
    simp only [hsum]
    congr 2
    cases k2 <;> rfl

/-- … and when the first child of the root is a tip (a tip hanging off the root),
    `unroot` roots the tree at the other child. -/
theorem unroot_rooting_tip_keys (all : List String) (dr d1 d2 : NodeD) (pr p1 p2 p2' p1' : Nat) (k2 : Kids)
    (e e1 e2 : EdgeD) (hlen : e1.len ≠ NIL ∨ e2.len ≠ NIL)
    (hsum : max0 e1.len + max0 e2.len = e.len) :
    edgeKeys all (unroot (.node dr pr [(e1, .node d1 p1 []), (e2, .node d2 p2 k2)])) =
      edgeKeys all (.node d2 p2' (k2 ++ [(e, .node d1 p1' [])])) := by
  have hl : (e1.len != NIL || e2.len != NIL) = true := by
    rcases hlen with h | h <;> simp [h]
  unfold unroot
  simp only [List.isEmpty_nil, hl, if_true]
  rw [edgeKeys_eq, edgeKeys_eq]
  simp only [T.kids_node, splitsL_append, splitsL_cons, List.map_append]
  congr 1
  unfold blk keyOf
  simp [hsum, T.leaves, T.isLeaf, T.splitsBelow, splitsL]

end Gotree.C09

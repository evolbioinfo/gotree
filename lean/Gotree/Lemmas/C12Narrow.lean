/-
  C12 — the top-down passes.  Since fix a20daad ACCTRAN and DELTRAN are one function (`acctran = deltran`; they are
  applied to the up-pass and to the down-pass slices respectively), and random resolution only keeps one of the
  states of a slice.  All of them narrow the annotated tree top-down (`Narrows`): a node without children is
  kept; the slice of a node with children is intersected with the parent's new slice and a non-empty part of the
  result is kept.  What is reported is therefore contained in what the pass started from (`Narrows.sub`).
-/
import Gotree.Lemmas.C12Paths
import Gotree.Model.C12R

namespace Gotree.C12
open Gotree

/- ## ACCTRAN = DELTRAN -/

mutual
theorem acctran_eq (k : Nat) : ∀ (p : Option Vec) (a : A), acctran k p a = deltran k p a
  | _, .node s [] => by simp only [acctran, deltran]
  | p, .node s (c :: cs) => by simp only [acctran, deltran, acctranL_eq k _ (c :: cs)]
theorem acctranL_eq (k : Nat) : ∀ (p : Option Vec) (l : List A), acctranL k p l = deltranL k p l
  | _, [] => by simp only [acctranL, deltranL]
  | p, a :: r => by simp only [acctranL, deltranL, acctran_eq k p a, acctranL_eq k p r]
end

mutual
theorem acctranR_eq (k : Nat) : ∀ (p : Option Vec) (a : A) (st : List Nat), acctranR k p a st = deltranR k p a st
  | _, .node s [], _ => by simp only [acctranR, deltranR]
  | p, .node s (c :: cs), st => by simp only [acctranR, deltranR, acctranRL_eq k _ (c :: cs)]
theorem acctranRL_eq (k : Nat) : ∀ (p : Option Vec) (l : List A) (st : List Nat), acctranRL k p l st = deltranRL k p l st
  | _, [], _ => by simp only [acctranRL, deltranRL]
  | p, a :: r, st => by simp only [acctranRL, deltranRL, acctranR_eq k p a, acctranRL_eq k p r]
end

/- ## the intersection step -/

theorem inter_cases (k : Nat) (s p : Vec) :
    ((∃ i, i < k ∧ s.at i + p.at i > 1) ∧
      inter k s p = tab k (fun i => if (vadd k s p).at i > 1 then 1 else 0)) ∨
    ((∀ i, i < k → s.at i + p.at i ≤ 1) ∧ inter k s p = s) := by
  unfold inter
  simp only []
  split
  · rename_i h
    left
    refine ⟨?_, rfl⟩
    simp only [List.any_eq_true, List.mem_range, decide_eq_true_eq] at h
    obtain ⟨i, hi, hgt⟩ := h
    rw [at_vadd] at hgt
    simp only [hi, if_true] at hgt
    exact ⟨i, hi, hgt⟩
  · rename_i h
    right
    refine ⟨?_, rfl⟩
    intro i hi
    simp only [List.any_eq_true, List.mem_range, decide_eq_true_eq, not_exists, not_and] at h
    have := h i hi
    rw [at_vadd] at this
    simp only [hi, if_true] at this
    omega

/-- where the intersection is not empty, `inter` holds exactly the states common to both slices -/
theorem inter_at (k : Nat) (s p : Vec) (i : Nat) (hi : i < k) :
    (tab k fun i => if (vadd k s p).at i > 1 then 1 else 0).at i ≠ 0 ↔ s.at i + p.at i > 1 := by
  simp only [at_tab, at_vadd, hi, if_true]
  split <;> simp_all

section inter
variable (k : Nat)

theorem inter_01 (s p : Vec) (hs : Set01 k s) : Set01 k (inter k s p) := by
  rcases inter_cases k s p with ⟨_, heq⟩ | ⟨_, heq⟩ <;> rw [heq]
  · intro i _; rw [at_tab]; split <;> (try split) <;> omega
  · exact hs

theorem inter_sub (s p : Vec) (hp : Set01 k p) (i : Nat) (hi : i < k) (h : (inter k s p).at i ≠ 0) :
    s.at i ≠ 0 := by
  rcases inter_cases k s p with ⟨_, heq⟩ | ⟨_, heq⟩ <;> rw [heq] at h
  · have := (inter_at k s p i hi).mp h
    have := hp i hi
    omega
  · exact h

/-- the slice of a node after the intersection with what its parent reports (nothing at the root) -/
def interOpt (s : Vec) : Option Vec → Vec
  | none => s
  | some pv => inter k s pv

theorem interOpt_01 (s : Vec) (par : Option Vec) (hs : Set01 k s) : Set01 k (interOpt k s par) := by
  cases par with
  | none => exact hs
  | some pv => exact inter_01 k s pv hs

theorem interOpt_sub (s : Vec) (par : Option Vec) (hpar : ∀ pv, par = some pv → Set01 k pv) (i : Nat) (hi : i < k)
    (h : (interOpt k s par).at i ≠ 0) : s.at i ≠ 0 := by
  cases par with
  | none => exact h
  | some pv => exact inter_sub k s pv (hpar pv rfl) i hi h

/-- DELTRAN (= ACCTRAN) at a node that has children -/
theorem deltran_node (s : Vec) (c : A) (cs : List A) (par : Option Vec) :
    deltran k par (.node s (c :: cs)) =
      .node (interOpt k s par) (deltranL k (some (interOpt k s par)) (c :: cs)) := by
  cases par <;> rfl

end inter

/- ## random resolution keeps one state of the slice -/

theorem intn_lt (n : Nat) (hn : 0 < n) : ∀ s : List Nat, (intn n s).1 < n
  | [] => by simp [intn, hn]
  | v :: r => by
    unfold intn
    split
    · have : v &&& (n - 1) ≤ n - 1 := Nat.and_le_right
      simp only; omega
    · split
      · exact intn_lt n hn r
      · exact Nat.mod_lt _ hn

theorem mem_present (k : Nat) (v : Vec) (i : Nat) : i ∈ present k v ↔ i < k ∧ v.at i ≠ 0 := by
  simp only [present, List.mem_filter, List.mem_range, decide_eq_true_eq]
  constructor
  · rintro ⟨h1, h2⟩; exact ⟨h1, by omega⟩
  · rintro ⟨h1, h2⟩; exact ⟨h1, by omega⟩

/-- what `randomlyResolveNodeStates` does to a slice: either nothing, or exactly one of its states is kept -/
theorem resolve_cases (k : Nat) (v : Vec) (s : List Nat) :
    (resolve k v s).1 = v ∨
    ∃ sel, sel < k ∧ v.at sel ≠ 0 ∧ (resolve k v s).1 = tab k fun i => if i = sel then 1 else 0 := by
  unfold resolve
  simp only []
  split
  · rename_i hlen
    right
    have hr := intn_lt (present k v).length (by omega) s
    have hmem : (present k v).getD (intn (present k v).length s).1 0 ∈ present k v := by
      rw [List.getD_eq_getElem?_getD, List.getElem?_eq_getElem hr]
      simp
    rw [mem_present] at hmem
    exact ⟨_, hmem.1, hmem.2, rfl⟩
  · left; rfl

section resolve
variable (k : Nat)

theorem resolve_sub (v : Vec) (s : List Nat) (i : Nat) (hi : i < k) (h : (resolve k v s).1.at i ≠ 0) :
    v.at i ≠ 0 := by
  rcases resolve_cases k v s with e | ⟨sel, _, hv, e⟩
  · rw [e] at h; exact h
  · rw [e, at_tab] at h
    simp only [hi, if_true] at h
    by_cases his : i = sel
    · subst his; exact hv
    · simp [his] at h

theorem resolve_nz (v : Vec) (s : List Nat) (h : ∃ i, i < k ∧ v.at i ≠ 0) :
    ∃ i, i < k ∧ (resolve k v s).1.at i ≠ 0 := by
  rcases resolve_cases k v s with e | ⟨sel, hsel, _, e⟩
  · rw [e]; exact h
  · exact ⟨sel, hsel, by rw [e, at_tab]; simp [hsel]⟩

theorem resolve_01 (v : Vec) (s : List Nat) (h : Set01 k v) : Set01 k (resolve k v s).1 := by
  rcases resolve_cases k v s with e | ⟨sel, _, _, e⟩
  · rw [e]; exact h
  · rw [e]; intro i _; rw [at_tab]; split <;> (try split) <;> omega

/- DOWNPASS with resolution: every slice is contained in the slice of the plain down-pass -/
mutual
theorem resolveA_sub : ∀ (a : A) (st : List Nat) (p : List Nat) (vec vec' : Vec),
    a.get p = some vec → (resolveA k a st).1.get p = some vec' → ∀ i, i < k → vec'.at i ≠ 0 → vec.at i ≠ 0
  | .node s [], st, [], vec, vec', h, h', i, _, hne => by
    simp only [resolveA, A.get, Option.some.injEq] at h h'
    subst h; subst h'; exact hne
  | .node s [], st, j :: p, vec, vec', h, _, i, _, _ => by simp [A.get, A.getL] at h
  | .node s (c :: cs), st, [], vec, vec', h, h', i, hi, hne => by
    simp only [resolveA, A.get, Option.some.injEq] at h h'
    subst h; subst h'
    exact resolve_sub k _ st i hi hne
  | .node s (c :: cs), st, j :: p, vec, vec', h, h', i, hi, hne => by
    simp only [resolveA, A.get] at h h'
    exact resolveAL_sub (c :: cs) _ j p vec vec' h h' i hi hne
theorem resolveAL_sub : ∀ (l : List A) (st : List Nat) (j : Nat) (p : List Nat) (vec vec' : Vec),
    A.getL l j p = some vec → A.getL (resolveAL k l st).1 j p = some vec' →
    ∀ i, i < k → vec'.at i ≠ 0 → vec.at i ≠ 0
  | [], _, _, _, _, _, h, _, _, _, _ => by simp [A.getL] at h
  | a :: r, st, 0, p, vec, vec', h, h', i, hi, hne => by
    simp only [resolveAL, A.getL] at h h'
    exact resolveA_sub a st p vec vec' h h' i hi hne
  | a :: r, st, j + 1, p, vec, vec', h, h', i, hi, hne => by
    simp only [resolveAL, A.getL] at h h'
    exact resolveAL_sub r _ j p vec vec' h h' i hi hne
end

end resolve

/-- DELTRAN (= ACCTRAN) with resolution at a node that has children -/
theorem deltranR_node (k : Nat) (s : Vec) (c : A) (cs : List A) (par : Option Vec) (st : List Nat) :
    deltranR k par (.node s (c :: cs)) st =
      (.node (resolve k (interOpt k s par) st).1
          (deltranRL k (some (resolve k (interOpt k s par) st).1) (c :: cs) (resolve k (interOpt k s par) st).2).1,
        (deltranRL k (some (resolve k (interOpt k s par) st).1) (c :: cs) (resolve k (interOpt k s par) st).2).2) := by
  cases par <;> rfl

/- ## narrowing -/

/-- `v'` is a part of `v`, non-empty if `v` is -/
structure Keeps (k : Nat) (v v' : Vec) : Prop where
  sub : ∀ i, i < k → v'.at i ≠ 0 → v.at i ≠ 0
  nz : NZ k v → NZ k v'
  s01 : Set01 k v → Set01 k v'

theorem Keeps.refl (k : Nat) (v : Vec) : Keeps k v v := ⟨fun _ _ h => h, id, id⟩

theorem keeps_resolve (k : Nat) (v : Vec) (st : List Nat) : Keeps k v (resolve k v st).1 :=
  ⟨resolve_sub k v st, resolve_nz k v st, resolve_01 k v st⟩

mutual
/-- `a'` is `a` narrowed top-down, `par` being the new slice of the parent -/
def Narrows (k : Nat) : Option Vec → A → A → Prop
  | _, .node s [], a' => a' = .node s []
  | par, .node s (c :: cs), .node s' ks' => Keeps k (interOpt k s par) s' ∧ NarrowsL k (some s') (c :: cs) ks'
def NarrowsL (k : Nat) : Option Vec → List A → List A → Prop
  | _, [], [] => True
  | par, a :: r, a' :: r' => Narrows k par a a' ∧ NarrowsL k par r r'
  | _, [], _ :: _ => False
  | _, _ :: _, [] => False
end

section narrows
variable (k : Nat)

mutual
theorem deltran_narrows : ∀ (par : Option Vec) (a : A), Narrows k par a (deltran k par a)
  | _, .node s [] => by simp only [deltran, Narrows]
  | par, .node s (c :: cs) => by
    rw [deltran_node]; simp only [Narrows]
    exact ⟨Keeps.refl k _, deltranL_narrows _ (c :: cs)⟩
theorem deltranL_narrows : ∀ (par : Option Vec) (l : List A), NarrowsL k par l (deltranL k par l)
  | _, [] => by simp only [deltranL, NarrowsL]
  | par, a :: r => by simp only [deltranL, NarrowsL]; exact ⟨deltran_narrows par a, deltranL_narrows par r⟩
end

mutual
theorem deltranR_narrows : ∀ (par : Option Vec) (a : A) (st : List Nat), Narrows k par a (deltranR k par a st).1
  | _, .node s [], _ => by simp only [deltranR, Narrows]
  | par, .node s (c :: cs), st => by
    rw [deltranR_node]; simp only [Narrows]
    exact ⟨keeps_resolve k _ st, deltranRL_narrows _ (c :: cs) _⟩
theorem deltranRL_narrows : ∀ (par : Option Vec) (l : List A) (st : List Nat), NarrowsL k par l (deltranRL k par l st).1
  | _, [], _ => by simp only [deltranRL, NarrowsL]
  | par, a :: r, st => by
    simp only [deltranRL, NarrowsL]; exact ⟨deltranR_narrows par a st, deltranRL_narrows par r _⟩
end

/- what is reported at a node was in the slice the pass started from -/
mutual
theorem Narrows.sub : ∀ (a a' : A) (par : Option Vec), Narrows k par a a' → (∀ pv, par = some pv → Set01 k pv) →
    (∀ v ∈ a.flat, Set01 k v) →
    ∀ (p : List Nat) (vec vec' : Vec), a.get p = some vec → a'.get p = some vec' →
    ∀ i, i < k → vec'.at i ≠ 0 → vec.at i ≠ 0
  | .node s [], _, _, hN, _, _, p, vec, vec', h, h', i, _, hne => by
    simp only [Narrows] at hN
    rw [hN, h] at h'
    exact Option.some.inj h' ▸ hne
  | .node s (c :: cs), .node s' ks', par, hN, hpar, _, [], vec, vec', h, h', i, hi, hne => by
    simp only [Narrows] at hN
    simp only [A.get, Option.some.injEq] at h h'
    subst h; subst h'
    exact interOpt_sub k s par hpar i hi (hN.1.sub i hi hne)
  | .node s (c :: cs), .node s' ks', par, hN, _, hall, j :: p, vec, vec', h, h', i, hi, hne => by
    simp only [Narrows] at hN
    simp only [A.get] at h h'
    exact NarrowsL.subL (c :: cs) ks' (some s') hN.2
      (fun pv e => by cases e; exact hN.1.s01 (interOpt_01 k s par (hall s (by simp [A.flat]))))
      (fun v hv => hall v (by simp only [A.flat, List.mem_cons]; exact Or.inr hv)) j p vec vec' h h' i hi hne
theorem NarrowsL.subL : ∀ (l l' : List A) (par : Option Vec), NarrowsL k par l l' → (∀ pv, par = some pv → Set01 k pv) →
    (∀ v ∈ A.flatL l, Set01 k v) →
    ∀ (j : Nat) (p : List Nat) (vec vec' : Vec), A.getL l j p = some vec → A.getL l' j p = some vec' →
    ∀ i, i < k → vec'.at i ≠ 0 → vec.at i ≠ 0
  | [], _, _, _, _, _, _, _, _, _, h, _, _, _, _ => by simp [A.getL] at h
  | _ :: _, [], _, hN, _, _, _, _, _, _, _, _, _, _, _ => by simp [NarrowsL] at hN
  | a :: r, a' :: r', par, hN, hpar, hall, 0, p, vec, vec', h, h', i, hi, hne => by
    simp only [NarrowsL] at hN
    simp only [A.getL] at h h'
    exact Narrows.sub a a' par hN.1 hpar (fun v hv => hall v (by simp only [A.flatL, List.mem_append]; exact Or.inl hv))
      p vec vec' h h' i hi hne
  | a :: r, a' :: r', par, hN, hpar, hall, j + 1, p, vec, vec', h, h', i, hi, hne => by
    simp only [NarrowsL] at hN
    simp only [A.getL] at h h'
    exact NarrowsL.subL r r' par hN.2 hpar (fun v hv => hall v (by simp only [A.flatL, List.mem_append]; exact Or.inr hv))
      j p vec vec' h h' i hi hne
end

/- DELTRAN, with or without resolution: every slice is contained in the slice it started from -/
theorem deltran_sub : ∀ (a : A) (par : Option Vec), (∀ pv, par = some pv → Set01 k pv) →
    (∀ v ∈ a.flat, Set01 k v) →
    ∀ (p : List Nat) (vec vec' : Vec), a.get p = some vec → (deltran k par a).get p = some vec' →
    ∀ i, i < k → vec'.at i ≠ 0 → vec.at i ≠ 0 :=
  fun a par => Narrows.sub k a _ par (deltran_narrows k par a)

theorem deltranL_sub : ∀ (ks : List A) (par : Option Vec), (∀ pv, par = some pv → Set01 k pv) →
    (∀ v ∈ A.flatL ks, Set01 k v) →
    ∀ (j : Nat) (p : List Nat) (vec vec' : Vec), A.getL ks j p = some vec → A.getL (deltranL k par ks) j p = some vec' →
    ∀ i, i < k → vec'.at i ≠ 0 → vec.at i ≠ 0 :=
  fun ks par => NarrowsL.subL k ks _ par (deltranL_narrows k par ks)

theorem deltranR_sub : ∀ (a : A) (par : Option Vec) (st : List Nat), (∀ pv, par = some pv → Set01 k pv) →
    (∀ v ∈ a.flat, Set01 k v) →
    ∀ (p : List Nat) (vec vec' : Vec), a.get p = some vec → (deltranR k par a st).1.get p = some vec' →
    ∀ i, i < k → vec'.at i ≠ 0 → vec.at i ≠ 0 :=
  fun a par st => Narrows.sub k a _ par (deltranR_narrows k par a st)

theorem deltranRL_sub : ∀ (l : List A) (par : Option Vec) (st : List Nat), (∀ pv, par = some pv → Set01 k pv) →
    (∀ v ∈ A.flatL l, Set01 k v) →
    ∀ (j : Nat) (p : List Nat) (vec vec' : Vec), A.getL l j p = some vec →
    A.getL (deltranRL k par l st).1 j p = some vec' → ∀ i, i < k → vec'.at i ≠ 0 → vec.at i ≠ 0 :=
  fun l par st => NarrowsL.subL k l _ par (deltranRL_narrows k par l st)

/- DELTRAN never rewrites a node without children -/
mutual
theorem deltran_leaf : ∀ (a : A) (par : Option Vec) (p : List Nat) (s : Vec),
    a.sub p = some (.node s []) → (deltran k par a).sub p = some (.node s [])
  | .node s0 [], par, [], s, h => by
    simp only [A.sub, Option.some.injEq] at h; simp [deltran, A.sub, h]
  | .node s0 [], par, j :: p, s, h => by simp [A.sub, A.subL] at h
  | .node s0 (c :: cs), par, [], s, h => by simp [A.sub] at h
  | .node s0 (c :: cs), par, j :: p, s, h => by
    simp only [A.sub] at h
    simp only [deltran, A.sub]
    exact deltranL_leaf (c :: cs) _ j p s h
theorem deltranL_leaf : ∀ (ks : List A) (par : Option Vec) (j : Nat) (p : List Nat) (s : Vec),
    A.subL ks j p = some (.node s []) → A.subL (deltranL k par ks) j p = some (.node s [])
  | [], _, _, _, _, h => by simp [A.subL] at h
  | a :: r, par, 0, p, s, h => by
    simp only [A.subL] at h; simp only [deltranL, A.subL]; exact deltran_leaf a par p s h
  | a :: r, par, j + 1, p, s, h => by
    simp only [A.subL] at h; simp only [deltranL, A.subL]; exact deltranL_leaf r par j p s h
end

variable (tv : String → Vec)

/- since fix a20daad ACCTRAN never rewrites a leaf -/
theorem acctran_leaf_sub : ∀ (c : T) (par : Option Vec) (p : List Nat) (d : NodeD) (pp : Nat),
    sub c p = some (.node d pp []) → (acctran k par (upA k tv c)).sub p = some (.node (tv d.name) []) :=
  fun c par p d pp h => acctran_eq k par _ ▸ deltran_leaf k _ par p _ (upA_leaf_sub k tv c p d pp h)

end narrows

end Gotree.C12

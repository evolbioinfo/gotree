/-
  C10: witness trees (the hypotheses of the theorems are satisfiable; the repaired defects show
  on them) and what the variants of the model with those defects do on all inputs.
-/
import Gotree.Lemmas.C10Pres

namespace Gotree.C10
open Gotree

def Out.isErr {α : Type} : Out α → Bool
  | .err => true
  | _ => false

def Out.isNan {α : Type} : Out α → Bool
  | .nan => true
  | _ => false

def Out.isPanic {α : Type} : Out α → Bool
  | .panic => true
  | _ => false

/-- the support of branch number `i` of an accepted run -/
def supAt (o : Out (List Rat)) (i : Nat) : Option Rat :=
  match o with
  | .ok l => l[i]?
  | _ => none

def wE (i : Int) : EdgeD := ⟨NIL, NIL, NIL, [], i⟩
def wN (k : Kids) : T := .node ⟨"", []⟩ 0 k

/-- `(a,((b,c),d));` — rooted, a tip child of the root; branch 1 is the twin of tip branch 0 -/
def wRef : T :=
  wN [(wE 0, T.leaf "a"), (wE 1, wN [(wE 2, wN [(wE 3, T.leaf "b"), (wE 4, T.leaf "c")]), (wE 5, T.leaf "d")])]
/-- `((b,c),a,d);` -/
def wBoot : T := wN [(wE 0, wN [(wE 1, T.leaf "b"), (wE 2, T.leaf "c")]), (wE 3, T.leaf "a"), (wE 4, T.leaf "d")]
/-- `((b,d),a,c);` -/
def wBoot2 : T := wN [(wE 0, wN [(wE 1, T.leaf "b"), (wE 2, T.leaf "d")]), (wE 3, T.leaf "a"), (wE 4, T.leaf "c")]
/-- `((b,c),a,z);` — other taxa -/
def wBad : T := wN [(wE 0, wN [(wE 1, T.leaf "b"), (wE 2, T.leaf "c")]), (wE 3, T.leaf "a"), (wE 4, T.leaf "z")]
/-- `((a,b),(c,d,e),f);` — unrooted, multifurcating, 6 taxa -/
def wRef6 : T :=
  wN [(wE 0, wN [(wE 1, T.leaf "a"), (wE 2, T.leaf "b")]),
      (wE 3, wN [(wE 4, T.leaf "c"), (wE 5, T.leaf "d"), (wE 6, T.leaf "e")]), (wE 7, T.leaf "f")]
/-- `(((a,c),b),(d,e),f);` -/
def wBoot6 : T :=
  wN [(wE 0, wN [(wE 1, wN [(wE 2, T.leaf "a"), (wE 3, T.leaf "c")]), (wE 4, T.leaf "b")]),
      (wE 5, wN [(wE 6, T.leaf "d"), (wE 7, T.leaf "e")]), (wE 8, T.leaf "f")]

/-- `((c,a),b,((e,d),f));` — `wBoot6` re-rooted, children rotated -/
def wBoot6r : T :=
  wN [(wE 0, wN [(wE 1, T.leaf "c"), (wE 2, T.leaf "a")]), (wE 3, T.leaf "b"),
      (wE 4, wN [(wE 5, wN [(wE 6, T.leaf "e"), (wE 7, T.leaf "d")]), (wE 8, T.leaf "f")])]
/-- `((a,b),((c,d,e),f));` — `wRef6` with a root put on the branch above `(a,b)` (a root with two children, the same splits) -/
def wRef6r : T :=
  wN [(wE 0, wN [(wE 1, T.leaf "a"), (wE 2, T.leaf "b")]),
      (wE 3, wN [(wE 4, wN [(wE 5, T.leaf "c"), (wE 6, T.leaf "d"), (wE 7, T.leaf "e")]), (wE 8, T.leaf "f")])]

/-- `(f,(b,a),(c,d,e));` — `wRef6` with the children of the root and of the node `(a,b)` reordered -/
def wRef6rot : T :=
  wN [(wE 7, T.leaf "f"), (wE 0, wN [(wE 2, T.leaf "b"), (wE 1, T.leaf "a")]),
      (wE 3, wN [(wE 4, T.leaf "c"), (wE 5, T.leaf "d"), (wE 6, T.leaf "e")])]

theorem wRef6_rot : RotT wRef6 wRef6rot :=
  ⟨rfl, [(wE 0, wN [(wE 2, T.leaf "b"), (wE 1, T.leaf "a")]),
         (wE 3, wN [(wE 4, T.leaf "c"), (wE 5, T.leaf "d"), (wE 6, T.leaf "e")]), (wE 7, T.leaf "f")],
    ⟨rfl, ⟨rfl, _, rotK_refl _, List.Perm.swap _ _ _⟩, rfl, rotT_refl _, rfl, rotT_refl _, trivial⟩,
    (List.perm_append_comm (l₁ := [(wE 0, wN [(wE 2, T.leaf "b"), (wE 1, T.leaf "a")]),
         (wE 3, wN [(wE 4, T.leaf "c"), (wE 5, T.leaf "d"), (wE 6, T.leaf "e")])]) (l₂ := [(wE 7, T.leaf "f")]))⟩

theorem zero_div_one : ((0 : Nat) : Rat) / ((1 : Nat) : Rat) = 0 := by
  have : ((0 : Nat) : Rat) = 0 := rfl
  rw [this, Rat.div_def, Rat.zero_mul]

theorem one_div_one : ((1 : Nat) : Rat) / ((1 : Nat) : Rat) = 1 := by
  have : ((1 : Nat) : Rat) = 1 := rfl
  rw [this, Rat.div_def, Rat.mul_inv_cancel _ (by decide)]

/-! ## the variants with the repaired defects, for all inputs -/

theorem fbpLoopPinned14_noerr (r : T) : ∀ (bs : List T) (c : List Nat) (n : Nat),
    (fbpLoopPinned14 r bs c n).2.2 = false
  | [], _, _ => rfl
  | _ :: bs, _, _ => by
    unfold fbpLoopPinned14
    exact fbpLoopPinned14_noerr r bs _ _

theorem tbeLoopPinned15_err (r : T) : ∀ (bs : List T) (sups : List Rat) (n : Nat) (e : Bool),
    (tbeLoopPinned15 r bs sups n e).2.2 =
      match bs.getLast? with
      | none => e
      | some b => !compareTips r b
  | [], _, _, _ => rfl
  | [b], _, _, _ => by simp [tbeLoopPinned15]
  | b :: b' :: bs, sups, n, e => by
    unfold tbeLoopPinned15
    rw [tbeLoopPinned15_err r (b' :: bs), List.getLast?_cons_cons]
    cases h : (b' :: bs).getLast? with
    | none => simp at h
    | some x => rfl

end Gotree.C10

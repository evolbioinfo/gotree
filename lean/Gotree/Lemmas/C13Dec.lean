/-
  C13 — the decimal number codec `decCodec` (FormatFloat 'f' -1 on values with a finite decimal expansion,
  decimal ParseFloat) satisfies the law `parse (trim (fmt q)) = some q` on EVERY rational whose expansion
  ends within the printer's bound.
-/
import Gotree.Lemmas.C13
import Gotree.Model.C13Codec

namespace Gotree.C13
open Gotree

/-- the expansion of `rem/den` ends within `f` digits -/
def fracEnds : Nat → Nat → Nat → Bool
  | 0, rem, _ => rem == 0
  | f + 1, rem, den => rem == 0 || fracEnds f (rem * 10 % den) den

/-- the values the decimal codec represents: finite decimal expansion (within the printer's bound) -/
def decDom (q : Rat) : Bool := fracEnds 1100 (q.num.natAbs % q.den) q.den

theorem digitChar_facts : ∀ k : Nat, k < 10 →
    (Char.ofNat (48 + k)).isDigit = true ∧ (Char.ofNat (48 + k)).toNat - 48 = k := by decide

theorem digitsVal_eq (l : List Char) : digitsVal l = Nat.ofDigitChars 10 l 0 := rfl

theorem digitsVal_cons (c : Char) (r : List Char) : digitsVal (c :: r) = (c.toNat - 48) * 10 ^ r.length + digitsVal r := by
  rw [digitsVal_eq, digitsVal_eq, Nat.ofDigitChars_cons, Nat.ofDigitChars_eq_ofDigitChars_zero]
  simp [Nat.mul_comm]

theorem digitsVal_append (a b : List Char) : digitsVal (a ++ b) = digitsVal a * 10 ^ b.length + digitsVal b := by
  rw [digitsVal_eq, digitsVal_eq, digitsVal_eq, Nat.ofDigitChars_append, Nat.ofDigitChars_eq_ofDigitChars_zero]
  simp [Nat.mul_comm]

theorem fracDigits_spec (f rem den : Nat) (hlt : rem < den) (h : fracEnds f rem den = true) :
    (∀ c ∈ fracDigits f rem den, c.isDigit = true) ∧
    digitsVal (fracDigits f rem den) * den = rem * 10 ^ (fracDigits f rem den).length := by
  induction f generalizing rem with
  | zero =>
    simp only [fracEnds, beq_iff_eq] at h
    simp [fracDigits, h, digitsVal]
  | succ f ih =>
    by_cases h0 : rem = 0
    · simp [fracDigits, h0, digitsVal]
    · have hne : (rem == 0) = false := by simpa using h0
      simp only [fracEnds, hne, Bool.false_or] at h
      have hden : 0 < den := by omega
      have hlt' : rem * 10 % den < den := Nat.mod_lt _ hden
      obtain ⟨ih1, ih2⟩ := ih (rem * 10 % den) hlt' h
      have hk : rem * 10 / den < 10 := by
        apply Nat.div_lt_of_lt_mul
        calc rem * 10 < den * 10 := by omega
          _ = den * 10 := rfl
      obtain ⟨d1, d2⟩ := digitChar_facts (rem * 10 / den) hk
      simp only [fracDigits, hne, Bool.false_eq_true, if_false]
      constructor
      · intro c hc
        rcases List.mem_cons.1 hc with h1 | h1
        · rw [h1]; exact d1
        · exact ih1 c h1
      · rw [digitsVal_cons, d2, List.length_cons, Nat.add_mul, ih2]
        have hdm := Nat.div_add_mod (rem * 10) den
        generalize (fracDigits f (rem * 10 % den) den).length = L at *
        calc rem * 10 / den * 10 ^ L * den + rem * 10 % den * 10 ^ L
            = (den * (rem * 10 / den) + rem * 10 % den) * 10 ^ L := by
              rw [Nat.add_mul]; congr 1; rw [Nat.mul_comm den, Nat.mul_right_comm]
          _ = rem * 10 * 10 ^ L := by rw [hdm]
          _ = rem * 10 ^ (L + 1) := by rw [Nat.pow_succ, Nat.mul_assoc, Nat.mul_comm 10]

theorem span_loop_digits (ip rest acc : List Char) (h : ∀ c ∈ ip, c.isDigit = true)
    (hr : ∀ c r, rest = c :: r → c.isDigit = false) :
    List.span.loop Char.isDigit (ip ++ rest) acc = (acc.reverse ++ ip, rest) := by
  induction ip generalizing acc with
  | nil =>
    cases rest with
    | nil => simp [List.span.loop]
    | cons c r => simp [List.span.loop, hr c r rfl]
  | cons a ip ih =>
    have ha := h a (by simp)
    simp only [List.cons_append, List.span.loop, ha]
    rw [ih (a :: acc) (fun c hc => h c (by simp [hc]))]
    simp

theorem span_digits (ip rest : List Char) (h : ∀ c ∈ ip, c.isDigit = true)
    (hr : ∀ c r, rest = c :: r → c.isDigit = false) : (ip ++ rest).span Char.isDigit = (ip, rest) := by
  unfold List.span
  rw [span_loop_digits ip rest [] h hr]; simp

/-- the decimal parser on `[-] digits [. digits]` -/
theorem parseDec_plain (neg : Bool) (ip fp : List Char) (hip : ∀ c ∈ ip, c.isDigit = true) (hne : ip ≠ [])
    (hfp : ∀ c ∈ fp, c.isDigit = true) :
    parseDec ((if neg then ['-'] else []) ++ ip ++ (if fp.isEmpty then [] else '.' :: fp)) =
      some (if neg then -(((digitsVal (ip ++ fp) : Nat) : Rat) / ((10 ^ fp.length : Nat) : Rat))
            else ((digitsVal (ip ++ fp) : Nat) : Rat) / ((10 ^ fp.length : Nat) : Rat)) := by
  obtain ⟨c0, r0, hc0⟩ : ∃ c r, ip = c :: r := by
    cases ip with
    | nil => exact absurd rfl hne
    | cons c r => exact ⟨c, r, rfl⟩
  have hd0 : c0.isDigit = true := hip c0 (by rw [hc0]; simp)
  have hsplit : splitSign ((if neg then ['-'] else []) ++ ip ++ (if fp.isEmpty then [] else '.' :: fp)) =
      (neg, ip ++ (if fp.isEmpty then [] else '.' :: fp)) := by
    cases neg with
    | true => simp [splitSign]
    | false =>
      simp only [Bool.false_eq_true, if_false, List.nil_append, hc0, List.cons_append]
      unfold splitSign
      split
      · rename_i heq; injection heq with h1 _; rw [h1] at hd0; simp [Char.isDigit] at hd0
      · rename_i heq; injection heq with h1 _; rw [h1] at hd0; simp [Char.isDigit] at hd0
      · rfl
  have hdot : ('.' : Char).isDigit = false := by decide
  by_cases hfe : fp = []
  · subst hfe
    have hspan : (ip ++ ([] : List Char)).span Char.isDigit = (ip, []) := span_digits ip [] hip (by intro c r h; cases h)
    have hipe : ip.isEmpty = false := by rw [hc0]; rfl
    simp only [List.isEmpty_nil, if_true, List.append_nil] at hsplit hspan ⊢
    simp only [parseDec, hsplit, hspan, hipe, Bool.false_and, Bool.false_eq_true, if_false]
    simp
  · have hfe' : fp.isEmpty = false := by
      cases fp with
      | nil => exact absurd rfl hfe
      | cons _ _ => rfl
    have hspan : (ip ++ '.' :: fp).span Char.isDigit = (ip, '.' :: fp) :=
      span_digits ip ('.' :: fp) hip (by intro c r h; injection h with h1 _; rw [← h1]; exact hdot)
    have hspan2 : fp.span Char.isDigit = (fp, []) := by
      have := span_digits fp [] hfp (by intro c r h; cases h)
      simpa using this
    have hipe : ip.isEmpty = false := by rw [hc0]; rfl
    simp only [hfe', Bool.false_eq_true, if_false] at hsplit ⊢
    simp only [parseDec, hsplit, hspan, hspan2, hipe, Bool.false_and, Bool.false_eq_true, if_false]
    simp

theorem dropWhile_head_false {α} (p : α → Bool) (l : List α) (h : ∀ a r, l = a :: r → p a = false) :
    l.dropWhile p = l := by
  cases l with
  | nil => rfl
  | cons a r => simp [List.dropWhile_cons, h a r rfl]

theorem trim_id (s : Txt) (h : ∀ c ∈ s, (c == ' ' || c == '\t' || c == '\n' || c == '\r') = false) : Px.trim s = s := by
  unfold Px.trim
  simp only []
  rw [dropWhile_head_false _ s (fun a r e => h a (by rw [e]; simp))]
  rw [dropWhile_head_false _ s.reverse (fun a r e => h a (by
    have : a ∈ s.reverse := by rw [e]; simp
    simpa using this))]
  simp

theorem digit_not_ws {c : Char} (h : c.isDigit = true) : (c == ' ' || c == '\t' || c == '\n' || c == '\r') = false := by
  simp only [Char.isDigit, Bool.and_eq_true, decide_eq_true_eq, ge_iff_le] at h
  have h1 : '0'.val ≤ c.val := h.1
  simp only [Bool.or_eq_false_iff, beq_eq_false_iff_ne, ne_eq]
  refine ⟨⟨⟨?_, ?_⟩, ?_⟩, ?_⟩ <;> (intro hc; subst hc; revert h1; decide)

/-- the value side: `A / 10^k = n / d` when `A * d = n * 10^k` -/
theorem rat_of_scaled (A k n d : Nat) (hd : d ≠ 0) (h : A * d = n * 10 ^ k) :
    ((A : Nat) : Rat) / ((10 ^ k : Nat) : Rat) = Rat.divInt (n : Int) (d : Int) := by
  have h10 : ((10 ^ k : Nat) : Int) ≠ 0 := by
    have : 0 < 10 ^ k := Nat.pow_pos (by decide)
    omega
  have hd' : (d : Int) ≠ 0 := by omega
  have e : ((A : Nat) : Rat) / ((10 ^ k : Nat) : Rat) = Rat.divInt (A : Int) ((10 ^ k : Nat) : Int) := by
    rw [Rat.divInt_eq_div]; rfl
  rw [e, Rat.divInt_eq_divInt_iff h10 hd']
  have := congrArg (fun x : Nat => (x : Int)) h
  simpa using this

/-- THE LAW of the decimal codec, for every rational with a finite decimal expansion -/
theorem decCodec_parse_fmt (q : Rat) (h : decDom q = true) : decCodec.parse (Px.trim (decCodec.fmt q)) = some q := by
  -- the unifier is slow to see through the two projections by itself
  rw [show decCodec.fmt = fmtRat from rfl, show decCodec.parse = parseDec from rfl]
  have hden : q.den ≠ 0 := q.den_nz
  have hdpos : 0 < q.den := Nat.pos_of_ne_zero hden
  have hlt : q.num.natAbs % q.den < q.den := Nat.mod_lt _ hdpos
  obtain ⟨f1, f2⟩ := fracDigits_spec 1100 (q.num.natAbs % q.den) q.den hlt h
  have hip : ∀ c ∈ Nat.toDigits 10 (q.num.natAbs / q.den), c.isDigit = true :=
    fun c hc => Nat.isDigit_of_mem_toDigits (by decide) (by decide) hc
  have hipne : Nat.toDigits 10 (q.num.natAbs / q.den) ≠ [] := Nat.toDigits_ne_nil
  have hform : fmtRat q = (if decide (q.num < 0) then ['-'] else []) ++ Nat.toDigits 10 (q.num.natAbs / q.den) ++
      (if (fracDigits 1100 (q.num.natAbs % q.den) q.den).isEmpty then [] else
        '.' :: fracDigits 1100 (q.num.natAbs % q.den) q.den) := by
    simp [fmtRat]
  have htrim : Px.trim (fmtRat q) = fmtRat q := by
    apply trim_id
    intro c hc
    rw [hform] at hc
    simp only [List.mem_append] at hc
    rcases hc with (hc | hc) | hc
    · split at hc
      · simp at hc; subst hc; decide
      · simp at hc
    · exact digit_not_ws (hip c hc)
    · split at hc
      · simp at hc
      · rcases List.mem_cons.1 hc with h1 | h1
        · subst h1; decide
        · exact digit_not_ws (f1 c h1)
  rw [htrim, hform, parseDec_plain _ _ _ hip hipne f1]
  -- the value
  have hA : digitsVal (Nat.toDigits 10 (q.num.natAbs / q.den) ++ fracDigits 1100 (q.num.natAbs % q.den) q.den) * q.den =
      q.num.natAbs * 10 ^ (fracDigits 1100 (q.num.natAbs % q.den) q.den).length := by
    rw [digitsVal_append, Nat.add_mul, f2]
    have e1 : digitsVal (Nat.toDigits 10 (q.num.natAbs / q.den)) = q.num.natAbs / q.den := by
      rw [digitsVal_eq]; exact Nat.ofDigitChars_ten_toDigits
    rw [e1]
    have hdm := Nat.div_add_mod q.num.natAbs q.den
    generalize (fracDigits 1100 (q.num.natAbs % q.den) q.den).length = L
    calc q.num.natAbs / q.den * 10 ^ L * q.den + q.num.natAbs % q.den * 10 ^ L
        = (q.den * (q.num.natAbs / q.den) + q.num.natAbs % q.den) * 10 ^ L := by
          rw [Nat.add_mul]; congr 1; rw [Nat.mul_comm q.den, Nat.mul_right_comm]
      _ = q.num.natAbs * 10 ^ L := by rw [hdm]
  have hv := rat_of_scaled _ _ _ _ hden hA
  rw [hv]
  have hq := Rat.num_divInt_den q
  by_cases hneg : q.num < 0
  · have : ((q.num.natAbs : Nat) : Int) = -q.num := by omega
    simp only [hneg, decide_true, if_true, this]
    rw [Rat.neg_divInt, Int.neg_neg, hq]
  · have : ((q.num.natAbs : Nat) : Int) = q.num := by omega
    simp only [hneg, decide_false, Bool.false_eq_true, if_false, this]
    rw [hq]

/-- the decimal codec with its law on the whole domain -/
def decNumLaws : NumLaws decCodec where
  dom := decDom
  parse_fmt := decCodec_parse_fmt

end Gotree.C13

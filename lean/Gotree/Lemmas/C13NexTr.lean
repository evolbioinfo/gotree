/-
  C13 — Nexus with a translate table: the label state the writer builds, scanning and parsing the
  TRANSLATE command, translating the trees back; the TAXA block of the written document.
-/
import Gotree.Lemmas.C13Nex

namespace Gotree.C13
open Gotree

/- # the label state of the writer's loop (`addTips`, `stepState`, `stateLoop`): keys of the map = labels of the slice, without repetition, = the tips seen so far -/

def keys (s : WState) : List String := s.map.map (·.1)

theorem lookup_none_iff (m : List (String × String)) (k : String) : lookup m k = none ↔ k ∉ m.map (·.1) := by
  induction m with
  | nil => simp [lookup]
  | cons x r ih =>
    obtain ⟨a, b⟩ := x
    simp only [lookup, List.map_cons, List.mem_cons, not_or]
    by_cases h : a = k
    · simp [h]
    · have : (a == k) = false := by simpa using h
      simp only [this, Bool.false_eq_true, if_false, ih]
      exact ⟨fun h' => ⟨fun e => h e.symm, h'⟩, fun h' => h'.2⟩

theorem hasDup_false_iff (l : List String) : hasDup l = false ↔ l.Nodup := by
  induction l with
  | nil => simp [hasDup]
  | cons a r ih =>
    simp only [hasDup, Bool.or_eq_false_iff, List.nodup_cons, ih]
    simp

theorem insertS_perm (a : String) (l : List String) : (insertS a l).Perm (a :: l) := by
  induction l with
  | nil => exact List.Perm.refl _
  | cons b r ih =>
    simp only [insertS]
    split
    · exact List.Perm.refl _
    · exact (List.Perm.cons b ih).trans (List.Perm.swap a b r)

theorem sortStr_perm (l : List String) : (sortStr l).Perm l := by
  induction l with
  | nil => exact List.Perm.refl _
  | cons a r ih => exact (insertS_perm a (sortStr r)).trans (List.Perm.cons a ih)

/-- the invariant of the writer's label state -/
structure Inv (s : WState) : Prop where
  perm : s.slice.Perm (keys s)
  nodup : (keys s).Nodup

theorem inv_empty : Inv {} := ⟨List.Perm.refl _, List.nodup_nil⟩

theorem addTips_spec (tips : List String) (s : WState) (h : Inv s) :
    Inv (addTips tips s) ∧ (∀ x, x ∈ keys (addTips tips s) ↔ x ∈ keys s ∨ x ∈ tips) := by
  induction tips generalizing s with
  | nil => exact ⟨h, by simp [addTips]⟩
  | cons tip r ih =>
    simp only [addTips]
    split
    · rename_i v hl
      have hin : tip ∈ keys s := by
        apply Decidable.byContradiction
        intro hc
        have := (lookup_none_iff s.map tip).2 hc
        rw [this] at hl; cases hl
      obtain ⟨h1, h2⟩ := ih s h
      refine ⟨h1, fun x => ?_⟩
      rw [h2 x]
      simp only [List.mem_cons]
      constructor
      · rintro (hx | hx)
        · exact Or.inl hx
        · exact Or.inr (Or.inr hx)
      · rintro (hx | hx | hx)
        · exact Or.inl hx
        · exact Or.inl (hx ▸ hin)
        · exact Or.inr hx
    · rename_i hl
      have hnin : tip ∉ keys s := (lookup_none_iff s.map tip).1 hl
      have hinv : Inv { map := s.map ++ [(tip, toString s.nb)], slice := s.slice ++ [tip], nb := s.nb + 1 } := by
        refine ⟨?_, ?_⟩
        · simp only [keys, List.map_append, List.map_cons, List.map_nil]
          exact List.Perm.append_right _ h.perm
        · simp only [keys, List.map_append, List.map_cons, List.map_nil]
          rw [List.nodup_append]
          refine ⟨h.nodup, by simp, ?_⟩
          intro a ha b hb
          simp at hb
          rintro rfl
          exact hnin (hb ▸ ha)
      obtain ⟨h1, h2⟩ := ih _ hinv
      refine ⟨h1, fun x => ?_⟩
      rw [h2 x]
      simp only [keys, List.map_append, List.map_cons, List.map_nil, List.mem_append, List.mem_cons,
        List.not_mem_nil, or_false]
      constructor
      · rintro ((hx | hx) | hx)
        · exact Or.inl hx
        · exact Or.inr (Or.inl hx)
        · exact Or.inr (Or.inr hx)
      · rintro (hx | hx | hx)
        · exact Or.inl (Or.inl hx)
        · exact Or.inl (Or.inr hx)
        · exact Or.inr hx

theorem stepState_spec (s : WState) (t : T) (h : Inv s) :
    Inv (stepState s t) ∧ (∀ x, x ∈ keys (stepState s t) ↔ x ∈ keys s ∨ x ∈ t.tipNames) := by
  obtain ⟨h1, h2⟩ := addTips_spec t.tipNames s h
  refine ⟨⟨?_, ?_⟩, ?_⟩
  · simp only [stepState, keys]
    exact (sortStr_perm _).trans h1.perm
  · simpa [stepState, keys] using h1.nodup
  · simpa [stepState, keys] using h2

theorem stateLoop_spec (its : List (Nat × T)) (s : WState) (h : Inv s) :
    Inv (stateLoop its s) ∧
      (∀ x, x ∈ keys (stateLoop its s) ↔ x ∈ keys s ∨ ∃ it ∈ its, x ∈ it.2.tipNames) := by
  induction its generalizing s with
  | nil => exact ⟨h, by simp [stateLoop]⟩
  | cons it r ih =>
    obtain ⟨h1, h2⟩ := stepState_spec s it.2 h
    obtain ⟨h3, h4⟩ := ih _ h1
    refine ⟨h3, fun x => ?_⟩
    simp only [stateLoop]
    rw [h4 x, h2 x]
    simp only [List.mem_cons, exists_eq_or_imp]
    constructor
    · rintro ((hx | hx) | hx)
      · exact Or.inl hx
      · exact Or.inr (Or.inl hx)
      · exact Or.inr (Or.inr hx)
    · rintro (hx | hx | hx)
      · exact Or.inl (Or.inl hx)
      · exact Or.inl (Or.inr hx)
      · exact Or.inr hx

theorem enumFrom_snd_mem (i : Nat) (l : List T) (it : Nat × T) (h : it ∈ enumFrom i l) : it.2 ∈ l := by
  induction l generalizing i with
  | nil => simp [enumFrom] at h
  | cons t r ih =>
    simp only [enumFrom, List.mem_cons] at h
    rcases h with h | h
    · simp [h]
    · exact List.mem_cons_of_mem _ (ih (i + 1) h)

theorem mem_enumFrom (i : Nat) (l : List T) : ∀ x, (∃ it ∈ enumFrom i l, x ∈ it.2.tipNames) ↔ ∃ t ∈ l, x ∈ t.tipNames := by
  induction l generalizing i with
  | nil => intro x; simp [enumFrom]
  | cons t r ih =>
    intro x
    simp only [enumFrom, List.mem_cons, exists_eq_or_imp, ih (i + 1) x]

theorem sameTaxa_perm (ts : List T) (h : sameTaxa ts = true) (t u : T) (ht : t ∈ ts) (hu : u ∈ ts) :
    t.tipNames.Perm u.tipNames := by
  cases ts with
  | nil => simp at ht
  | cons t0 r =>
    simp only [sameTaxa, List.all_eq_true, beq_iff_eq] at h
    have key : ∀ v ∈ t0 :: r, v.tipNames.Perm t0.tipNames := by
      intro v hv
      rcases List.mem_cons.1 hv with h1 | h1
      · rw [h1]
      · have := h v h1
        exact (sortStr_perm v.tipNames).symm.trans (this ▸ sortStr_perm t0.tipNames)
    exact (key t ht).trans (key u hu).symm

/-- the state-level hypotheses of `parse_plain`, from conditions on the trees -/
theorem nexusState_ok (ts : List T)
    (htips : ∀ t ∈ ts, t.tipNames.all labelOK = true ∧ hasDup t.tipNames = false ∧ t.tipNames.length ≤ 9223372036854775807)
    (hst : sameTaxa ts = true) :
    let s := stateLoop (enumFrom 0 ts) {}
    s.map.length ≤ 9223372036854775807 ∧ s.map.length = s.slice.length ∧ (∀ l ∈ s.slice, labelOK l = true) ∧
      hasDup s.slice = false ∧ ∀ t ∈ ts, okTaxa s.slice t = true := by
  intro s
  obtain ⟨hinv, hkeys⟩ := stateLoop_spec (enumFrom 0 ts) {} inv_empty
  have hk : ∀ x, x ∈ keys s ↔ ∃ t ∈ ts, x ∈ t.tipNames := by
    intro x
    rw [hkeys x, mem_enumFrom 0 ts x]
    simp [keys]
  have hlen : s.map.length = s.slice.length := by
    have := hinv.perm.length_eq
    simp only [keys, List.length_map] at this
    exact this.symm
  have hperm : ∀ t ∈ ts, (keys s).Perm t.tipNames := by
    intro t ht
    apply (List.perm_ext_iff_of_nodup hinv.nodup ((hasDup_false_iff _).1 (htips t ht).2.1)).2
    intro x
    rw [hk x]
    constructor
    · rintro ⟨u, hu, hx⟩
      exact ((sameTaxa_perm ts hst u t hu ht).mem_iff).1 hx
    · intro hx; exact ⟨t, ht, hx⟩
  refine ⟨?_, hlen, ?_, ?_, ?_⟩
  · cases ts with
    | nil => simp [s, stateLoop, enumFrom]
    | cons t0 r =>
      have := (hperm t0 (by simp)).length_eq
      simp only [keys, List.length_map] at this
      rw [this]
      exact (htips t0 (by simp)).2.2
  · intro l hl
    have := (hinv.perm.mem_iff).1 hl
    obtain ⟨t, ht, hx⟩ := (hk l).1 this
    have := (htips t ht).1
    rw [List.all_eq_true] at this
    exact this l hx
  · exact (hasDup_false_iff _).2 ((hinv.perm.nodup_iff).2 hinv.nodup)
  · intro t ht
    have hp := hinv.perm.trans (hperm t ht)
    simp only [okTaxa, List.all_eq_true]
    intro x hx
    simpa using (hp.mem_iff).2 hx

open Nex

/- # the TRANSLATE command: text, tokens, table -/

theorem translateLine_eq (m : List (String × String)) (tip : String) :
    translateLine m tip = lit3sp ++ ((idxOf m tip).toList ++ ' ' :: (tip.toList ++ ['\n'])) := by
  unfold translateLine idxOf
  cases lookup m tip <;> rfl

def trLineToks (m : List (String × String)) (tip : String) : List Tok :=
  [classify (idxOf m tip), classify tip, .eol]

theorem scan_trLines (m : List (String × String)) (ls : List String)
    (h : ∀ l ∈ ls, tokLabel l ∧ tokLabel (idxOf m l)) (rest : Txt) :
    scanGo (joinMap (translateLine m) ls ++ rest) none = ls.flatMap (trLineToks m) ++ scanGo rest none := by
  induction ls with
  | nil => simp [joinMap]
  | cons l ls ih =>
    obtain ⟨h1, h2⟩ := h l (by simp)
    simp only [joinMap, List.append_assoc, translateLine_eq, List.cons_append, List.nil_append, List.flatMap_cons]
    rw [scanGo_chunk (toks := []) (by decide +kernel) (by decide +kernel), scanGo_word _ h2.1 ' ' (by decide),
      scanGo_word _ h1.1 '\n' (by decide), ih (fun x hx => h x (by simp [hx]))]
    simp [trLineToks, sepToks, isWs]

theorem classify_cases (s : String) (h : keywordOf s = none) : classify s = .numeric s ∨ classify s = .ident s := by
  unfold classify
  split
  · exact Or.inl rfl
  · simp [h]

theorem parseTransl_lines (m : List (String × String)) (ls : List String)
    (h : ∀ l ∈ ls, keywordOf l = none ∧ keywordOf (idxOf m l) = none) (acc : List (String × String)) (rest : List Tok) :
    parseTransl (ls.flatMap (trLineToks m) ++ .endcmd :: rest) acc = .ok (tableOf m ls acc, rest) := by
  induction ls generalizing acc with
  | nil => simp [parseTransl, tableOf]
  | cons l ls ih =>
    obtain ⟨h1, h2⟩ := h l (by simp)
    have ih' := ih (fun x hx => h x (by simp [hx]))
    simp only [List.flatMap_cons, trLineToks, List.cons_append, List.nil_append, tableOf, List.foldl_cons]
    rcases classify_cases _ h2 with e2 | e2 <;> rcases classify_cases _ h1 with e1 | e1 <;>
      (rw [e1, e2]; simp only [parseTransl, Tok.name?]; exact ih' _)

/- ## renaming and what the formats keep -/

mutual
theorem allNames_strip : ∀ t : T, allNames (strip t) = allNames t
  | .node d p k => by simp only [strip, allNames]; rw [allNamesL_strip k]
theorem allNamesL_strip : ∀ k : Kids, allNamesL (stripL k) = allNamesL k
  | [] => rfl
  | (e, t) :: r => by simp only [stripL, allNamesL]; rw [allNames_strip t, allNamesL_strip r]
end

mutual
theorem strip_renameT (m : List (String × String)) : ∀ t : T, strip (renameT m t) = renameT m (strip t)
  | .node d p k => by simp only [renameT, strip]; rw [stripL_renameL m k]
theorem stripL_renameL (m : List (String × String)) : ∀ k : Kids, stripL (renameL m k) = renameL m (stripL k)
  | [] => rfl
  | (e, t) :: r => by simp only [renameL, stripL]; rw [strip_renameT m t, stripL_renameL m r]
end

/-- `renameChecked` depends only on what the formats keep, and so does its result -/
theorem renameChecked_of_strip_eq (m : List (String × String)) (a b : T) (h : strip a = strip b)
    (hb : (renameChecked m b).isSome = true) :
    renameChecked m a = some (renameT m a) ∧ strip (renameT m a) = strip (renameT m b) ∧
      renameChecked m b = some (renameT m b) := by
  have hn : allNames a = allNames b := by rw [← allNames_strip a, h, allNames_strip]
  have hs : strip (renameT m a) = strip (renameT m b) := by rw [strip_renameT, strip_renameT, h]
  have ht : (renameT m a).tipNames = (renameT m b).tipNames := tipNames_of_strip_eq _ _ hs
  simp only [renameChecked, hn, ht] at hb ⊢
  by_cases h1 : hasDup (List.filter (fun x => x != "") (allNames b)) = true
  · simp [h1] at hb
  · by_cases h2 : hasDup (renameT m b).tipNames = true
    · simp [h1, h2] at hb
    · simp [h1, h2, hs]

/- ## the writer's loop with translation -/

theorem writeLoop_tr_snd (C : NewickCodec) (its : List (Nat × T)) (s : WState) (buf : Txt) :
    (writeNexusLoop C true its s buf).2 = buf ++ plainLines C (writtenList its s) := by
  induction its generalizing s buf with
  | nil => simp [writeNexusLoop, plainLines, writtenList]
  | cons it r ih =>
    simp only [writeNexusLoop, writeNexusStep, plainLines, writtenList]
    rw [ih]
    simp

/-- the document with a translate table, for a taxa count, a label list, a map and the written trees -/
def trDoc (C : NewickCodec) (n : Nat) (labels : List String) (m : List (String × String)) (W : List (Nat × T)) : Txt :=
  lit1 ++ (natTxt n ++ ';' :: (lit2a ++ (litTaxlabels ++ (labelsText labels ++ ';' :: (lit3a ++ (litTranslate ++
    (joinMap (translateLine m) labels ++ (litTrEnd ++ (plainLines C W ++ lit4)))))))))

theorem writeNexus_tr_eq (C : NewickCodec) (its : List (Nat × T)) :
    writeNexus C true its =
      trDoc C (stateLoop its {}).map.length (stateLoop its {}).slice (stateLoop its {}).map (writtenList its {}) := by
  have h1 := writeLoop_fst C true its {} []
  have h2 := writeLoop_tr_snd C its {} []
  unfold writeNexus trDoc
  simp only [h1, h2, if_true, List.nil_append, List.append_assoc]

/-- the tokens of the document after `#NEXUS`, with a translate table -/
def docToksTr (nS : String) (labels : List String) (m : List (String × String)) (cs : List Cmd) : List Tok :=
  [.eol, .kw .begin_ "BEGIN", .kw .taxa "TAXA", .endcmd] ++ taxaToks nS labels ++
  [.eol, .kw .begin_ "BEGIN", .kw .trees "TREES", .endcmd, .eol, .kw .translate "TRANSLATE", .eol] ++
  labels.flatMap (trLineToks m) ++ [.endcmd, .eol] ++ cmdsToks cs ++ [.kw .end_ "END", .endcmd, .eol]

theorem scan_trDoc (C : NewickCodec) (n : Nat) (labels : List String) (m : List (String × String)) (W : List (Nat × T))
    (hn : n ≤ 9223372036854775807)
    (hl : ∀ l ∈ labels, tokLabel l ∧ tokLabel (idxOf m l))
    (h : ∀ it ∈ W, ∃ body, C.write it.2 = body ++ [';'] ∧ ∀ c ∈ body, c ≠ '\r') :
    scan (trDoc C n labels m W) = .kw .nexus "#NEXUS" :: docToksTr (toString n) labels m (W.map (cmdOf C)) := by
  unfold scan trDoc
  rw [scan_lit1, scanGo_word _ (natTxt_word _) ';' (by decide), classify_natTxt _ hn, scan_lit2a,
    scan_taxlabels _ (fun l hl' => (hl l hl').1), scan_lit3a,
    scanGo_chunk (toks := [.kw .translate "TRANSLATE", .eol]) (by decide +kernel) (by decide +kernel),
    scan_trLines _ _ hl, scanGo_chunk (toks := [.endcmd, .eol]) (by decide +kernel) (by decide +kernel),
    scan_lines C _ h, scan_lit4]
  simp [docToksTr, taxaToks, sepToks, isWs]

theorem scan_doc_tr (C : NewickCodec) (its : List (Nat × T))
    (hn : (stateLoop its {}).map.length ≤ 9223372036854775807)
    (hl : ∀ l ∈ (stateLoop its {}).slice, tokLabel l ∧ tokLabel (idxOf (stateLoop its {}).map l))
    (h : ∀ it ∈ writtenList its {}, ∃ body, C.write it.2 = body ++ [';'] ∧ ∀ c ∈ body, c ≠ '\r') :
    scan (writeNexus C true its) =
      .kw .nexus "#NEXUS" :: docToksTr (toString (stateLoop its {}).map.length) (stateLoop its {}).slice
        (stateLoop its {}).map ((writtenList its {}).map (cmdOf C)) := by
  rw [writeNexus_tr_eq]
  exact scan_trDoc C _ _ _ _ hn hl h

/- ## parsing -/

theorem parseTrees_block_tr (m : List (String × String)) (labels : List String)
    (hl : ∀ l ∈ labels, keywordOf l = none ∧ keywordOf (idxOf m l) = none)
    (cs : List Cmd) (h : ∀ c ∈ cs, c.ok) (f : Nat) (hf : 2 * cs.length + 4 ≤ f)
    (rest : List Tok) (a : TreesAcc) :
    parseTrees f (.eol :: .kw .translate "TRANSLATE" :: .eol :: (labels.flatMap (trLineToks m) ++
        .endcmd :: .eol :: (cmdsToks cs ++ .kw .end_ "END" :: .endcmd :: rest))) a =
      .ok ({ trees := a.trees ++ cs.map fun c => (c.name, c.body), transl := some (tableOf m labels []) }, rest) := by
  obtain ⟨g, rfl⟩ : ∃ g, f = (((g + 1 + 2 * cs.length) + 1) + 1) + 1 := ⟨f - (2 * cs.length + 4), by omega⟩
  rw [parseTrees, parseTrees]
  simp only [parseTransl]
  rw [parseTransl_lines m labels hl]
  simp only []
  rw [parseTrees]
  rw [parseTrees_cmds cs h (g + 1)]
  rw [parseTrees]

theorem parseLoop_doc_tr (nS : String) (labels : List String) (m : List (String × String)) (cs : List Cmd)
    (hl : ∀ l ∈ labels, keywordOf l = none ∧ keywordOf (idxOf m l) = none) (hc : ∀ c ∈ cs, c.ok)
    (f : Nat) (hf : 2 * cs.length + 12 ≤ f) :
    parseLoop f (docToksTr nS labels m cs) {} =
      .ok { ntax := intVal nS, taxlabels := some (labels.foldl insertLabel []),
            trees := some (cs.map fun c => (c.name, c.body)), transl := some (tableOf m labels []) } := by
  obtain ⟨g, rfl⟩ : ∃ g, f = g + 2 * cs.length + 12 := ⟨f - (2 * cs.length + 12), by omega⟩
  simp only [docToksTr, List.cons_append, List.nil_append, List.append_assoc]
  rw [parseLoop, parseLoop]
  simp only []
  have e1 : g + 2 * cs.length + 10 = (g + 2 * cs.length + 4) + 6 := by omega
  rw [e1, parseTaxa_block _ nS labels (fun l h => (hl l h).1)]
  simp only []
  rw [parseLoop, parseLoop]
  simp only []
  rw [parseTrees_block_tr m labels hl cs hc _ (by omega)]
  simp only [List.nil_append]
  rw [parseLoop, parseLoop]
  simp

theorem buildTrees_tr (C : NewickCodec) (L : NewickLaws C) (table : List (String × String)) (labs : List String)
    (W : List (Nat × T)) (ts : List T) (i : Nat)
    (hw : ∀ w ∈ W, L.wf w.2 = true) (hb : backOK table labs ts W = true) :
    ∃ d, buildTrees C (some table) (some labs) ((W.map (cmdOf C)).map fun c => (c.name, c.body)) = some d ∧
      recsAre ts (recsOfTrees (d.map (·.2)) i) i = true := by
  induction W generalizing ts i with
  | nil =>
    cases ts with
    | nil => exact ⟨[], rfl, rfl⟩
    | cons _ _ => simp [backOK] at hb
  | cons w ws ih =>
    cases ts with
    | nil => simp [backOK] at hb
    | cons t ts =>
      simp only [backOK, Bool.and_eq_true] at hb
      have h1 := hw w (by simp)
      obtain ⟨body, hbd, _⟩ := L.write_shape w.2 h1
      have hp : C.parse ((C.write w.2).dropLast ++ [';']) = some (L.norm w.2) := by
        rw [hbd]; simp only [List.dropLast_concat]; rw [← hbd]; exact L.parse_write w.2 h1
      cases hrc : renameChecked table w.2 with
      | none => rw [hrc] at hb; simp at hb
      | some b =>
        rw [hrc] at hb
        simp only [Bool.and_eq_true] at hb
        obtain ⟨e1, e2, e3⟩ := renameChecked_of_strip_eq table (L.norm w.2) w.2 (L.norm_strip w.2 h1) (by rw [hrc]; rfl)
        have hbb : b = renameT table w.2 := by rw [hrc] at e3; injection e3
        have htn : (renameT table (L.norm w.2)).tipNames = b.tipNames := by
          rw [hbb]; exact tipNames_of_strip_eq _ _ e2
        have hok : okTaxa labs (renameT table (L.norm w.2)) = true := by
          have := hb.1.2
          simp only [okTaxa] at this ⊢
          rw [htn]; exact this
        obtain ⟨d, hd, hr⟩ := ih ts (i + 1) (fun x hx => hw x (by simp [hx])) hb.2
        refine ⟨("tree" ++ toString w.1, renameT table (L.norm w.2)) :: d, ?_, ?_⟩
        · show buildTrees C (some table) (some labs) (("tree" ++ toString w.1, (C.write w.2).dropLast) ::
            ((ws.map (cmdOf C)).map fun c => (c.name, c.body))) = _
          simp only [okTaxa] at hok
          simp only [buildTrees, hp, e1, hok, Bool.not_true, Bool.false_eq_true, if_false, hd]
        · simp only [List.map_cons, recsOfTrees, recsAre, Out.keptEq, beq_self_eq_true, Bool.true_and, Bool.and_eq_true]
          refine ⟨?_, hr⟩
          apply (sameKept_iff _ _).2
          rw [e2, ← hbb]
          exact (sameKept_iff _ _).1 hb.1.1

theorem docToksTr_noCR (nS : String) (labels : List String) (m : List (String × String)) (cs : List Cmd)
    (hcs : ∀ c ∈ cs, c.ok) : Tok.loneCR ∉ docToksTr nS labels m cs := by
  intro hm
  simp only [docToksTr, taxaToks, trLineToks, List.mem_cons, List.mem_append, List.mem_map, List.mem_flatMap,
    List.not_mem_nil, reduceCtorEq, false_or, or_false] at hm
  rcases hm with (⟨l, _, h⟩ | ⟨l, _, h | h⟩) | hm
  · exact classify_ne_loneCR l h
  · exact classify_ne_loneCR _ h.symm
  · exact classify_ne_loneCR _ h.symm
  · exact cmdsToks_noCR _ hcs hm

/-- the document with a translate table, scanned and parsed up to the loop over the tree texts -/
theorem trDoc_parsed (C : NewickCodec) (L : NewickLaws C) (n : Nat) (labels : List String)
    (m : List (String × String)) (W : List (Nat × T))
    (hn : n ≤ 9223372036854775807) (hl : ∀ l ∈ labels, tokLabel l ∧ tokLabel (idxOf m l))
    (hnd : hasDup labels = false) (hw : ∀ w ∈ W, L.wf w.2 = true)
    (hs : ∀ w ∈ W, treeTextOK (C.write w.2) = true) :
    ∃ toks, scan (trDoc C n labels m W) = .kw .nexus "#NEXUS" :: toks ∧ Tok.loneCR ∉ toks ∧
      parseLoop (toks.length + 1) toks {} = .ok ⟨intVal (toString n), some labels,
        some ((W.map (cmdOf C)).map fun c => (c.name, c.body)), some (tableOf m labels [])⟩ := by
  have hbody : ∀ it ∈ W, ∃ body, C.write it.2 = body ++ [';'] ∧ ∀ c ∈ body, c ≠ '\r' := by
    intro it hit
    obtain ⟨body, hb', hc⟩ := L.write_shape it.2 (hw it hit)
    exact ⟨body, hb', fun c hc' => (hc c hc').2.1⟩
  have hcs : ∀ c ∈ W.map (cmdOf C), c.ok := by
    intro c hc
    obtain ⟨it, hit, rfl⟩ := List.mem_map.1 hc
    exact cmdOf_ok C it (hs it hit)
  have hfold : labels.foldl insertLabel [] = labels := by
    rw [foldl_insertLabel _ [] (by simpa using hnd)]; simp
  refine ⟨_, scan_trDoc C n labels m W hn hl hbody, docToksTr_noCR _ _ _ _ hcs, ?_⟩
  rw [parseLoop_doc_tr _ _ _ _ (fun l hl' => ⟨(hl l hl').1.2, (hl l hl').2.2⟩) hcs _ (by
    have := cmdsToks_length (W.map (cmdOf C))
    simp only [docToksTr, taxaToks, List.length_append, List.length_cons, List.length_nil, List.length_map] at this ⊢
    omega), hfold]

/-- `Nex.parse` on the document written WITH a translate table, in terms of the writer's label state -/
theorem parse_tr (C : NewickCodec) (L : NewickLaws C) (its : List (Nat × T)) (ts : List T)
    (hn : (stateLoop its {}).map.length ≤ 9223372036854775807)
    (hlen : (stateLoop its {}).map.length = (stateLoop its {}).slice.length)
    (hl : ∀ l ∈ (stateLoop its {}).slice, tokLabel l ∧ tokLabel (idxOf (stateLoop its {}).map l))
    (hnd : hasDup (stateLoop its {}).slice = false)
    (hw : ∀ w ∈ writtenList its {}, L.wf w.2 = true)
    (hs : ∀ w ∈ writtenList its {}, treeTextOK (C.write w.2) = true)
    (hb : backOK (tableOf (stateLoop its {}).map (stateLoop its {}).slice []) (stateLoop its {}).slice ts (writtenList its {}) = true) :
    ∃ d, Nex.parse C (writeNexus C true its) = .ok d ∧ recsAre ts (recsOfTrees (d.map (·.2)) 0) 0 = true := by
  obtain ⟨d, hd, hr⟩ := buildTrees_tr C L _ _ (writtenList its {}) ts 0 hw hb
  obtain ⟨toks, h1, h2, h3⟩ := trDoc_parsed C L _ _ _ _ hn hl hnd hw hs
  rw [writeNexus_tr_eq]
  exact ⟨d, parse_of_scan C h1 h2 h3 (by rw [intVal_natStr, hlen]) hd, hr⟩

/- # reading back through the table -/

/- ## the map built by `addTips` -/

def mapFrom (k : Nat) : List String → List (String × String)
  | [] => []
  | t :: r => (t, toString k) :: mapFrom (k + 1) r

theorem keys_mapFrom (k : Nat) (tips : List String) : (mapFrom k tips).map (·.1) = tips := by
  induction tips generalizing k with
  | nil => rfl
  | cons t r ih => simp [mapFrom, ih]

theorem addTips_fresh (tips : List String) (s : WState) (hnd : tips.Nodup) (hd : ∀ x ∈ tips, x ∉ keys s) :
    addTips tips s = ⟨s.map ++ mapFrom s.nb tips, s.slice ++ tips, s.nb + tips.length⟩ := by
  induction tips generalizing s with
  | nil => simp [addTips, mapFrom]
  | cons t r ih =>
    have hnone : lookup s.map t = none := (lookup_none_iff s.map t).2 (hd t (by simp))
    rw [List.nodup_cons] at hnd
    simp only [addTips, hnone]
    rw [ih _ hnd.2 (by
      intro x hx
      simp only [keys, List.map_append, List.map_cons, List.map_nil, List.mem_append, List.mem_cons,
        List.not_mem_nil, or_false, not_or]
      exact ⟨hd x (by simp [hx]), fun h => hnd.1 (h ▸ hx)⟩)]
    simp [mapFrom, Nat.add_assoc, Nat.add_comm 1]

theorem addTips_noop (tips : List String) (s : WState) (h : ∀ x ∈ tips, x ∈ keys s) : addTips tips s = s := by
  induction tips with
  | nil => rfl
  | cons t r ih =>
    have : lookup s.map t ≠ none := fun hn => (lookup_none_iff s.map t).1 hn (h t (by simp))
    simp only [addTips]
    split
    · exact ih (fun x hx => h x (by simp [hx]))
    · rename_i hn; exact absurd hn this

/-- the tree written for `t` when the map is `m` (`writtenTree` looks at the map only) -/
def wOf (m : List (String × String)) (t : T) : T :=
  if hasDup ((allNames t).filter (· != "")) then t else renameT m t

theorem writtenTree_eq (s : WState) (t : T) : writtenTree true s t = wOf s.map t := by
  simp only [writtenTree, wOf, if_true]

theorem stepState_map_const (s : WState) (t : T) (h : ∀ x ∈ t.tipNames, x ∈ keys s) :
    (stepState s t).map = s.map ∧ keys (stepState s t) = keys s := by
  simp [stepState, keys, addTips_noop t.tipNames s h]

/-- once every tip is in the map, the loop leaves the map alone and every tree is renamed through it -/
theorem loop_const (its : List (Nat × T)) (s : WState) (h : ∀ it ∈ its, ∀ x ∈ it.2.tipNames, x ∈ keys s) :
    writtenList its s = its.map (fun it => (it.1, wOf s.map it.2)) ∧ (stateLoop its s).map = s.map := by
  induction its generalizing s with
  | nil => exact ⟨rfl, rfl⟩
  | cons it r ih =>
    obtain ⟨h1, h2⟩ := stepState_map_const s it.2 (h it (by simp))
    have := ih (stepState s it.2) (fun x hx y hy => by rw [h2]; exact h x (by simp [hx]) y hy)
    simp only [writtenList, stateLoop, List.map_cons, writtenTree_eq, h1, this.1, this.2]
    exact ⟨trivial, trivial⟩

/-- the map after the whole loop, for trees on the tip set of the first one -/
theorem loop_first (t0 : T) (rest : List T) (hnd : t0.tipNames.Nodup)
    (h : ∀ t ∈ rest, ∀ x ∈ t.tipNames, x ∈ t0.tipNames) :
    (stateLoop (enumFrom 0 (t0 :: rest)) {}).map = mapFrom 0 t0.tipNames ∧
    writtenList (enumFrom 0 (t0 :: rest)) {} =
      (enumFrom 0 (t0 :: rest)).map (fun it => (it.1, wOf (mapFrom 0 t0.tipNames) it.2)) := by
  have hs1 : (stepState {} t0).map = mapFrom 0 t0.tipNames := by
    simp [stepState, addTips_fresh t0.tipNames {} hnd (by simp [keys])]
  have hk1 : keys (stepState {} t0) = t0.tipNames := by
    simp only [keys, hs1, keys_mapFrom]
  have hmem : ∀ it ∈ enumFrom 1 rest, ∀ x ∈ it.2.tipNames, x ∈ keys (stepState {} t0) := by
    intro it hit x hx
    rw [hk1]
    exact h it.2 (enumFrom_snd_mem 1 rest it hit) x hx
  obtain ⟨h1, h2⟩ := loop_const (enumFrom 1 rest) (stepState {} t0) hmem
  simp only [enumFrom, stateLoop, writtenList, List.map_cons, writtenTree_eq, hs1] at h1 h2 ⊢
  exact ⟨h2, by rw [h1]⟩

/- ## index numerals -/

theorem toString_nat_inj {a b : Nat} (h : toString a = toString b) : a = b := by
  have := congrArg intVal h
  rw [intVal_natStr, intVal_natStr] at this
  exact Int.ofNat.inj this

theorem lookup_mapFrom_range (k : Nat) (tips : List String) (x v : String)
    (h : lookup (mapFrom k tips) x = some v) : ∃ j, k ≤ j ∧ v = toString j := by
  induction tips generalizing k with
  | nil => simp [mapFrom, lookup] at h
  | cons t r ih =>
    simp only [mapFrom, lookup] at h
    split at h
    · injection h with h; exact ⟨k, Nat.le_refl _, h.symm⟩
    · obtain ⟨j, hj, hv⟩ := ih (k + 1) h
      exact ⟨j, by omega, hv⟩

theorem lookup_mapFrom_inj (k : Nat) (tips : List String) (hnd : tips.Nodup) (x y v : String)
    (hx : lookup (mapFrom k tips) x = some v) (hy : lookup (mapFrom k tips) y = some v) : x = y := by
  induction tips generalizing k with
  | nil => simp [mapFrom, lookup] at hx
  | cons t r ih =>
    rw [List.nodup_cons] at hnd
    simp only [mapFrom, lookup] at hx hy
    by_cases h1 : t = x <;> by_cases h2 : t = y
    · rw [← h1, ← h2]
    · have e2 : (t == y) = false := by simpa using h2
      simp only [h1, beq_self_eq_true, if_true] at hx
      rw [e2] at hy
      simp only [Bool.false_eq_true, if_false] at hy
      obtain ⟨j, hj, hv⟩ := lookup_mapFrom_range (k + 1) r y v hy
      injection hx with hx
      have := toString_nat_inj (hx.trans hv)
      omega
    · have e1 : (t == x) = false := by simpa using h1
      simp only [h2, beq_self_eq_true, if_true] at hy
      rw [e1] at hx
      simp only [Bool.false_eq_true, if_false] at hx
      obtain ⟨j, hj, hv⟩ := lookup_mapFrom_range (k + 1) r x v hx
      injection hy with hy
      have := toString_nat_inj (hy.trans hv)
      omega
    · have e1 : (t == x) = false := by simpa using h1
      have e2 : (t == y) = false := by simpa using h2
      rw [e1] at hx; rw [e2] at hy
      exact ih (k + 1) hnd.2 hx hy

theorem lookup_mapFrom_mem (k : Nat) (tips : List String) (x : String) (hx : x ∈ tips) :
    ∃ v, lookup (mapFrom k tips) x = some v := by
  cases h : lookup (mapFrom k tips) x with
  | some v => exact ⟨v, rfl⟩
  | none =>
    have := (lookup_none_iff _ x).1 h
    rw [keys_mapFrom] at this
    exact absurd hx this

theorem isDigit_not_bad {c : Char} (h : c.isDigit = true) : badLabelChar c = false := by
  simp only [Char.isDigit, Bool.and_eq_true, decide_eq_true_eq, ge_iff_le] at h
  simp only [badLabelChar, Bool.or_eq_false_iff, beq_eq_false_iff_ne, ne_eq]
  have h1 : '0'.val ≤ c.val := h.1
  have h2 : c.val ≤ '9'.val := h.2
  refine ⟨⟨⟨⟨⟨⟨⟨⟨⟨⟨⟨⟨⟨⟨⟨⟨?_, ?_⟩, ?_⟩, ?_⟩, ?_⟩, ?_⟩, ?_⟩, ?_⟩, ?_⟩, ?_⟩, ?_⟩, ?_⟩, ?_⟩, ?_⟩, ?_⟩, ?_⟩, ?_⟩ <;>
    (intro hc; subst hc; first | (revert h1; decide) | (revert h2; decide))

/-- a decimal numeral is a legal label -/
theorem labelOK_natStr (j : Nat) : labelOK (toString j) = true := by
  have hd : ∀ c ∈ Nat.toDigits 10 j, c.isDigit = true :=
    fun c hc => Nat.isDigit_of_mem_toDigits (by decide) (by decide) hc
  have hl : (toString j).toList = Nat.toDigits 10 j := by simp
  have hne : Nat.toDigits 10 j ≠ [] := Nat.toDigits_ne_nil
  simp only [labelOK, Bool.and_eq_true, Bool.not_eq_true', bne_iff_ne, ne_eq, Option.isNone_iff_eq_none]
  refine ⟨⟨?_, ?_⟩, ?_⟩
  · intro h
    rw [h] at hl
    exact hne hl.symm
  · rw [List.any_eq_false, hl]
    intro c hc
    simp [isDigit_not_bad (hd c hc)]
  · obtain ⟨c, r, h, hc⟩ := toDigits_head j
    exact keywordOf_none_of_digit _ (by simp [h]) hc

/- ## renaming, names and tips -/

mutual
theorem allNames_renameT (m : List (String × String)) : ∀ t : T, allNames (renameT m t) = (allNames t).map (renameName m)
  | .node d p k => by simp only [renameT, allNames, List.map_cons]; rw [allNamesL_renameL m k]
theorem allNamesL_renameL (m : List (String × String)) : ∀ k : Kids, allNamesL (renameL m k) = (allNamesL k).map (renameName m)
  | [] => rfl
  | (e, t) :: r => by
    simp only [renameL, allNamesL, List.map_append]
    rw [allNames_renameT m t, allNamesL_renameL m r]
end

mutual
theorem leaves_renameT (m : List (String × String)) : ∀ t : T, (renameT m t).leaves = t.leaves.map (renameName m)
  | .node d p [] => by simp [renameT, renameL, T.leaves]
  | .node d p ((e, t) :: r) => by
    have := leavesL_renameL m ((e, t) :: r)
    simp only [renameT, renameL, T.leaves] at this ⊢
    exact this
theorem leavesL_renameL (m : List (String × String)) : ∀ k : Kids, leavesL (renameL m k) = (leavesL k).map (renameName m)
  | [] => rfl
  | (e, t) :: r => by
    simp only [renameL, leavesL, List.map_append]
    rw [leaves_renameT m t, leavesL_renameL m r]
end

theorem renameL_length (m : List (String × String)) (k : Kids) : (renameL m k).length = k.length := by
  induction k with
  | nil => rfl
  | cons x r ih => obtain ⟨e, t⟩ := x; simp [renameL, ih]

theorem tipNames_renameT (m : List (String × String)) (t : T) :
    (renameT m t).tipNames = t.tipNames.map (renameName m) := by
  cases t with
  | node d p k =>
    simp only [renameT, T.tipNames, T.kids_node, T.name, T.d_node, renameL_length, leavesL_renameL, List.map_append]
    by_cases h : k.length = 1 <;> simp [h]

mutual
theorem renameT_back (m₁ m₂ : List (String × String)) : ∀ t : T,
    (∀ y ∈ allNames t, renameName m₂ (renameName m₁ y) = y) → renameT m₂ (renameT m₁ t) = t
  | .node d p k, h => by
    simp only [allNames, List.mem_cons] at h
    simp only [renameT]
    rw [renameL_back m₁ m₂ k (fun y hy => h y (Or.inr hy)), h d.name (Or.inl rfl)]
theorem renameL_back (m₁ m₂ : List (String × String)) : ∀ k : Kids,
    (∀ y ∈ allNamesL k, renameName m₂ (renameName m₁ y) = y) → renameL m₂ (renameL m₁ k) = k
  | [], _ => rfl
  | (e, t) :: r, h => by
    simp only [allNamesL, List.mem_append] at h
    simp only [renameL]
    rw [renameT_back m₁ m₂ t (fun y hy => h y (Or.inl hy)), renameL_back m₁ m₂ r (fun y hy => h y (Or.inr hy))]
end

/- ## the parsed translation table -/

theorem lookup_mapSet (t : List (String × String)) (k v k' : String) :
    lookup (mapSet t k v) k' = if k == k' then some v else lookup t k' := by
  induction t with
  | nil => simp [mapSet, lookup]
  | cons x r ih =>
    obtain ⟨a, b⟩ := x
    simp only [mapSet]
    by_cases h : a = k
    · subst h
      simp only [beq_self_eq_true, if_true, lookup]
      split <;> rfl
    · have hak : (a == k) = false := by simpa using h
      simp only [hak, Bool.false_eq_true, if_false, lookup, ih]
      by_cases h2 : a = k'
      · subst h2
        have : (k == a) = false := by simpa using fun e => h e.symm
        simp [this]
      · have : (a == k') = false := by simpa using h2
        simp [this]

theorem tableOf_other (M : List (String × String)) (ls : List String) (acc : List (String × String)) (key : String)
    (h : ∀ l ∈ ls, idxOf M l ≠ key) : lookup (tableOf M ls acc) key = lookup acc key := by
  induction ls generalizing acc with
  | nil => rfl
  | cons l r ih =>
    simp only [tableOf, List.foldl_cons]
    have := ih (mapSet acc (idxOf M l) l) (fun x hx => h x (by simp [hx]))
    simp only [tableOf] at this
    rw [this, lookup_mapSet]
    have : (idxOf M l == key) = false := by simpa using h l (by simp)
    simp [this]

theorem tableOf_mem (M : List (String × String)) (ls : List String) (acc : List (String × String)) (x : String)
    (hnd : ls.Nodup) (hinj : ∀ a ∈ ls, ∀ b ∈ ls, idxOf M a = idxOf M b → a = b) (hx : x ∈ ls) :
    lookup (tableOf M ls acc) (idxOf M x) = some x := by
  induction ls generalizing acc with
  | nil => simp at hx
  | cons l r ih =>
    rw [List.nodup_cons] at hnd
    simp only [tableOf, List.foldl_cons]
    rcases List.mem_cons.1 hx with h | h
    · subst h
      have := tableOf_other M r (mapSet acc (idxOf M x) x) (idxOf M x) (by
        intro l' hl' he
        have := hinj l' (by simp [hl']) x (by simp) he
        exact hnd.1 (this ▸ hl'))
      simp only [tableOf] at this
      rw [this, lookup_mapSet]
      simp
    · have := ih (mapSet acc (idxOf M l) l) hnd.2 (fun a ha b hb => hinj a (by simp [ha]) b (by simp [hb])) h
      simp only [tableOf] at this
      exact this

theorem nodup_map_inj_on {α β : Type} (f : α → β) (l : List α) (hnd : l.Nodup)
    (hinj : ∀ a ∈ l, ∀ b ∈ l, f a = f b → a = b) : (l.map f).Nodup := by
  induction l with
  | nil => exact List.nodup_nil
  | cons a r ih =>
    rw [List.nodup_cons] at hnd
    simp only [List.map_cons, List.nodup_cons, List.mem_map, not_exists, not_and]
    refine ⟨?_, ih hnd.2 (fun x hx y hy => hinj x (by simp [hx]) y (by simp [hy]))⟩
    intro b hb he
    have := hinj b (by simp [hb]) a (by simp) he
    exact hnd.1 (this ▸ hb)

/- ## one tree: written as `renameT M t`, read back as `t` -/

theorem isNumeral_natStr (j : Nat) : isNumeral (toString j) = true := by
  have hd : ∀ c ∈ Nat.toDigits 10 j, c.isDigit = true :=
    fun c hc => Nat.isDigit_of_mem_toDigits (by decide) (by decide) hc
  have hl : (toString j).toList = Nat.toDigits 10 j := by simp
  simp only [isNumeral, Bool.and_eq_true, bne_iff_ne, ne_eq, List.all_eq_true]
  refine ⟨?_, by rw [hl]; exact hd⟩
  intro h
  rw [h] at hl
  exact Nat.toDigits_ne_nil hl.symm

theorem filter_map_ne (f : String → String) (l : List String) (hf : ∀ y ∈ l, (f y = "" ↔ y = "")) :
    (l.map f).filter (· != "") = (l.filter (· != "")).map f := by
  induction l with
  | nil => rfl
  | cons a r ih =>
    have ih' := ih (fun y hy => hf y (by simp [hy]))
    have ha := hf a (by simp)
    by_cases h : a = ""
    · have h2 : f a = "" := ha.2 h
      have e1 : (f a != "") = false := by simp [h2]
      have e2 : (a != "") = false := by simp [h]
      simp only [List.map_cons, List.filter_cons, e1, e2, Bool.false_eq_true, if_false]
      exact ih'
    · have h2 : f a ≠ "" := fun e => h (ha.1 e)
      have e1 : (f a != "") = true := by simpa using h2
      have e2 : (a != "") = true := by simpa using h
      simp only [List.map_cons, List.filter_cons, e1, e2, if_true, ih']

theorem tr_tree_ok (k : Nat) (tips0 slice : List String) (t : T)
    (h0 : tips0.Nodup) (h0ne : ∀ x ∈ tips0, x ≠ "")
    (hsl : slice.Nodup) (hmem : ∀ x, x ∈ slice ↔ x ∈ tips0)
    (htm : ∀ x, x ∈ t.tipNames ↔ x ∈ tips0) (htn : t.tipNames.Nodup)
    (hn : namesOK t = true) :
    wOf (mapFrom k tips0) t = renameT (mapFrom k tips0) t ∧
    renameChecked (tableOf (mapFrom k tips0) slice []) (renameT (mapFrom k tips0) t) = some t := by
  -- notation
  have hM : ∀ x, x ∈ tips0 → ∃ j : Nat, lookup (mapFrom k tips0) x = some (toString j) := by
    intro x hx
    obtain ⟨v, hv⟩ := lookup_mapFrom_mem k tips0 x hx
    obtain ⟨j, _, hj⟩ := lookup_mapFrom_range k tips0 x v hv
    exact ⟨j, by rw [hv, hj]⟩
  have hMout : ∀ x, x ∉ tips0 → lookup (mapFrom k tips0) x = none := by
    intro x hx
    apply (lookup_none_iff _ x).2
    rw [keys_mapFrom]; exact hx
  have fin : ∀ x, x ∈ tips0 → ∃ j : Nat, renameName (mapFrom k tips0) x = toString j ∧ idxOf (mapFrom k tips0) x = toString j := by
    intro x hx
    obtain ⟨j, hj⟩ := hM x hx
    have hne : (x == "") = false := by simpa using h0ne x hx
    exact ⟨j, by simp [renameName, hne, hj], by simp [idxOf, hj]⟩
  have fout : ∀ x, x ∉ tips0 → renameName (mapFrom k tips0) x = x := by
    intro x hx
    simp only [renameName, hMout x hx]
    split <;> rfl
  have finj : ∀ a ∈ tips0, ∀ b ∈ tips0, renameName (mapFrom k tips0) a = renameName (mapFrom k tips0) b → a = b := by
    intro a ha b hb he
    obtain ⟨ja, hja⟩ := hM a ha
    obtain ⟨jb, hjb⟩ := hM b hb
    have ea : renameName (mapFrom k tips0) a = toString ja := by
      have hne : (a == "") = false := by simpa using h0ne a ha
      simp [renameName, hne, hja]
    have eb : renameName (mapFrom k tips0) b = toString jb := by
      have hne : (b == "") = false := by simpa using h0ne b hb
      simp [renameName, hne, hjb]
    rw [ea, eb] at he
    rw [he] at hja
    exact lookup_mapFrom_inj k tips0 h0 a b _ hja hjb
  have idxinj : ∀ a ∈ slice, ∀ b ∈ slice, idxOf (mapFrom k tips0) a = idxOf (mapFrom k tips0) b → a = b := by
    intro a ha b hb he
    obtain ⟨ja, ha1, ha2⟩ := fin a ((hmem a).1 ha)
    obtain ⟨jb, hb1, hb2⟩ := fin b ((hmem b).1 hb)
    exact finj a ((hmem a).1 ha) b ((hmem b).1 hb) (by rw [ha1, hb1, ← ha2, ← hb2, he])
  simp only [namesOK, innerNamesDistinct, nonTipNamesNotNumeral, Bool.and_eq_true, Bool.not_eq_true', List.all_eq_true,
    Bool.or_eq_true, beq_iff_eq] at hn
  obtain ⟨hdup, hcls⟩ := hn
  -- classification of the names of t
  have hcl : ∀ y ∈ allNames t, y = "" ∨ y ∈ tips0 ∨ (y ∉ tips0 ∧ isNumeral y = false) := by
    intro y hy
    rcases hcls y hy with (h | h) | h
    · exact Or.inl h
    · exact Or.inr (Or.inl ((htm y).1 (by simpa using h)))
    · by_cases hin : y ∈ tips0
      · exact Or.inr (Or.inl hin)
      · exact Or.inr (Or.inr ⟨hin, by simpa using h⟩)
  -- (i) the tree is written renamed
  have h1 : renameChecked (mapFrom k tips0) t = some (renameT (mapFrom k tips0) t) := by
    have hd2 : hasDup (renameT (mapFrom k tips0) t).tipNames = false := by
      rw [tipNames_renameT, hasDup_false_iff]
      exact nodup_map_inj_on _ _ htn (fun a ha b hb => finj a ((htm a).1 ha) b ((htm b).1 hb))
    simp [renameChecked, hdup, hd2]
  refine ⟨by simp [wOf, hdup], ?_⟩
  -- (ii) read back through the table
  have hback : ∀ y ∈ allNames t,
      renameName (tableOf (mapFrom k tips0) slice []) (renameName (mapFrom k tips0) y) = y := by
    intro y hy
    rcases hcl y hy with h | h | ⟨h, hnum⟩
    · subst h; simp [renameName]
    · obtain ⟨j, e1, e2⟩ := fin y h
      rw [e1, ← e2]
      have hl := tableOf_mem (mapFrom k tips0) slice [] y hsl idxinj ((hmem y).2 h)
      have hne : (idxOf (mapFrom k tips0) y == "") = false := by
        rw [e2]
        have := isNumeral_natStr j
        simp only [isNumeral, Bool.and_eq_true, bne_iff_ne, ne_eq] at this
        simpa using this.1
      simp [renameName, hne, hl]
    · rw [fout y h]
      have hl := tableOf_other (mapFrom k tips0) slice [] y (by
        intro l hl' he
        obtain ⟨j, _, e2⟩ := fin l ((hmem l).1 hl')
        rw [e2] at he
        rw [← he, isNumeral_natStr] at hnum
        cases hnum)
      simp only [renameName, hl, lookup]
      split <;> rfl
  have hb := renameT_back _ _ t hback
  have hnames : hasDup ((allNames (renameT (mapFrom k tips0) t)).filter (· != "")) = false := by
    rw [allNames_renameT, filter_map_ne _ _ (by
      intro y hy
      rcases hcl y hy with h | h | ⟨h, _⟩
      · subst h; simp [renameName]
      · obtain ⟨j, e1, _⟩ := fin y h
        rw [e1]
        have := isNumeral_natStr j
        simp only [isNumeral, Bool.and_eq_true, bne_iff_ne, ne_eq] at this
        exact ⟨fun e => absurd e this.1, fun e => absurd e (h0ne y h)⟩
      · rw [fout y h]), hasDup_false_iff]
    apply nodup_map_inj_on _ _ ((hasDup_false_iff _).1 hdup)
    intro a ha b hb' he
    have ha' := (List.mem_filter.1 ha)
    have hb'' := (List.mem_filter.1 hb')
    have hane : a ≠ "" := by simpa using ha'.2
    have hbne : b ≠ "" := by simpa using hb''.2
    rcases hcl a ha'.1 with h | h | ⟨h, hna⟩
    · exact absurd h hane
    · rcases hcl b hb''.1 with h' | h' | ⟨h', hnb⟩
      · exact absurd h' hbne
      · exact finj a h b h' he
      · obtain ⟨j, e1, _⟩ := fin a h
        rw [e1, fout b h'] at he
        rw [← he, isNumeral_natStr] at hnb
        cases hnb
    · rcases hcl b hb''.1 with h' | h' | ⟨h', _⟩
      · exact absurd h' hbne
      · obtain ⟨j, e1, _⟩ := fin b h'
        rw [e1, fout a h] at he
        rw [he, isNumeral_natStr] at hna
        cases hna
      · rw [fout a h, fout b h'] at he
        exact he
  have htips : hasDup t.tipNames = false := (hasDup_false_iff _).2 htn
  simp [renameChecked, hnames, hb, htips]

/- ## all the trees -/

theorem backOK_of (table : List (String × String)) (labs : List String) (w : T → T) (ts : List T) (i : Nat)
    (h : ∀ t ∈ ts, renameChecked table (w t) = some t ∧ okTaxa labs t = true) :
    backOK table labs ts ((enumFrom i ts).map fun it => (it.1, w it.2)) = true := by
  induction ts generalizing i with
  | nil => rfl
  | cons t r ih =>
    obtain ⟨h1, h2⟩ := h t (by simp)
    simp only [enumFrom, List.map_cons, backOK, h1, h2, Bool.and_true, Bool.and_eq_true]
    exact ⟨(sameKept_iff t t).2 rfl, ih (i + 1) (fun x hx => h x (by simp [hx]))⟩

theorem map_congr_enum (f g : T → T) (ts : List T) (i : Nat) (h : ∀ t ∈ ts, f t = g t) :
    (enumFrom i ts).map (fun it => (it.1, f it.2)) = (enumFrom i ts).map (fun it => (it.1, g it.2)) := by
  induction ts generalizing i with
  | nil => rfl
  | cons t r ih =>
    simp only [enumFrom, List.map_cons, h t (by simp)]
    rw [ih (i + 1) (fun x hx => h x (by simp [hx]))]

/-- the hypotheses of `nexus_roundtrip_translate_state`, from conditions on the input trees; `M` is the
    map the writer builds from the tips of the first tree -/
theorem nexusTrState_ok (t0 : T) (rest : List T)
    (htips : ∀ t ∈ t0 :: rest, tipsOK t = true) (hst : sameTaxa (t0 :: rest) = true)
    (hn : ∀ t ∈ t0 :: rest, namesOK t = true) :
    nexusTrStateOK (t0 :: rest) = true ∧
    writtenList (enumFrom 0 (t0 :: rest)) {} =
      (enumFrom 0 (t0 :: rest)).map (fun it => (it.1, renameT (mapFrom 0 t0.tipNames) it.2)) := by
  have htips' : ∀ t ∈ t0 :: rest, t.tipNames.all labelOK = true ∧ hasDup t.tipNames = false ∧ t.tipNames.length ≤ 9223372036854775807 := by
    intro t ht
    have := htips t ht
    simp only [tipsOK, Bool.and_eq_true, Bool.not_eq_true', decide_eq_true_eq] at this
    exact ⟨this.1.1, this.1.2, this.2⟩
  obtain ⟨a1, a2, a3, a4, a5⟩ := nexusState_ok (t0 :: rest) htips' hst
  have h0nd : t0.tipNames.Nodup := (hasDup_false_iff _).1 (htips' t0 (by simp)).2.1
  have hperm : ∀ t ∈ t0 :: rest, ∀ x, x ∈ t.tipNames ↔ x ∈ t0.tipNames :=
    fun t ht x => (sameTaxa_perm _ hst t t0 ht (by simp)).mem_iff
  obtain ⟨hmap, hW⟩ := loop_first t0 rest h0nd (fun t ht x hx => (hperm t (by simp [ht]) x).1 hx)
  obtain ⟨hinv, _⟩ := stateLoop_spec (enumFrom 0 (t0 :: rest)) {} inv_empty
  have hslmem : ∀ x, x ∈ (stateLoop (enumFrom 0 (t0 :: rest)) {}).slice ↔ x ∈ t0.tipNames := by
    intro x
    rw [hinv.perm.mem_iff]
    simp only [keys, hmap, keys_mapFrom]
  have hslnd : (stateLoop (enumFrom 0 (t0 :: rest)) {}).slice.Nodup := (hasDup_false_iff _).1 a4
  have h0ne : ∀ x ∈ t0.tipNames, x ≠ "" := by
    intro x hx he
    have := (htips' t0 (by simp)).1
    rw [List.all_eq_true] at this
    have := this x hx
    rw [he] at this
    simp [labelOK] at this
  have hper : ∀ t ∈ t0 :: rest,
      wOf (mapFrom 0 t0.tipNames) t = renameT (mapFrom 0 t0.tipNames) t ∧
      renameChecked (tableOf (mapFrom 0 t0.tipNames) (stateLoop (enumFrom 0 (t0 :: rest)) {}).slice [])
        (renameT (mapFrom 0 t0.tipNames) t) = some t :=
    fun t ht => tr_tree_ok 0 t0.tipNames _ t h0nd h0ne hslnd hslmem (hperm t ht)
      ((hasDup_false_iff _).1 (htips' t ht).2.1) (hn t ht)
  have hW' : writtenList (enumFrom 0 (t0 :: rest)) {} =
      (enumFrom 0 (t0 :: rest)).map (fun it => (it.1, renameT (mapFrom 0 t0.tipNames) it.2)) := by
    rw [hW]
    exact map_congr_enum _ _ _ 0 (fun t ht => (hper t ht).1)
  refine ⟨?_, hW'⟩
  simp only [nexusTrStateOK, Bool.and_eq_true, decide_eq_true_eq, beq_iff_eq, List.all_eq_true, Bool.not_eq_true']
  refine ⟨⟨⟨⟨a1, a2⟩, ?_⟩, a4⟩, ?_⟩
  · intro l hl
    refine ⟨a3 l hl, ?_⟩
    rw [hmap]
    obtain ⟨v, hv⟩ := lookup_mapFrom_mem 0 t0.tipNames l ((hslmem l).1 hl)
    obtain ⟨j, _, hj⟩ := lookup_mapFrom_range 0 t0.tipNames l v hv
    simp only [idxOf, hv, hj]
    exact labelOK_natStr j
  · rw [hW', hmap]
    exact backOK_of _ _ _ _ 0 (fun t ht => ⟨(hper t ht).2, a5 t ht⟩)

/- # the TAXA block names exactly the tips of all the trees -/

theorem classify_ne_endcmd (s : String) : classify s ≠ .endcmd := by
  unfold classify
  split
  · simp
  · split <;> simp

theorem takeWhile_labels (ls : List String) (rest : List Tok) :
    (ls.map classify ++ .endcmd :: rest).takeWhile (· != .endcmd) = ls.map classify := by
  induction ls with
  | nil => simp
  | cons l r ih =>
    have : (classify l != Tok.endcmd) = true := by simpa using classify_ne_endcmd l
    simp [List.takeWhile_cons, this, ih]

theorem filterMap_labels (ls : List String) (h : ∀ l ∈ ls, keywordOf l = none) :
    (ls.map classify).filterMap Tok.name? = ls := by
  induction ls with
  | nil => rfl
  | cons l r ih =>
    simp [List.filterMap_cons, classify_name l (h l (by simp)), ih (fun x hx => h x (by simp [hx]))]

/-- reading the taxa block back from the tokens of a document -/
theorem taxa_docToks (nS : String) (labels : List String) (h : ∀ l ∈ labels, keywordOf l = none) (cs : List Cmd) :
    taxlabelsOf (.kw .nexus "#NEXUS" :: docToks nS labels cs) = some labels ∧
    ntaxOf (.kw .nexus "#NEXUS" :: docToks nS labels cs) = some (intVal nS) := by
  simp only [docToks, taxaToks, List.cons_append, List.nil_append, List.append_assoc, taxlabelsOf, ntaxOf]
  rw [takeWhile_labels, filterMap_labels labels h]
  simp

theorem taxa_docToksTr (nS : String) (labels : List String) (h : ∀ l ∈ labels, keywordOf l = none)
    (m : List (String × String)) (cs : List Cmd) :
    taxlabelsOf (.kw .nexus "#NEXUS" :: docToksTr nS labels m cs) = some labels ∧
    ntaxOf (.kw .nexus "#NEXUS" :: docToksTr nS labels m cs) = some (intVal nS) := by
  simp only [docToksTr, taxaToks, List.cons_append, List.nil_append, List.append_assoc, taxlabelsOf, ntaxOf]
  rw [takeWhile_labels, filterMap_labels labels h]
  simp

theorem sameSet_of_mem (a b : List String) (h : ∀ x, x ∈ a ↔ x ∈ b) : sameSet a b = true := by
  simp only [sameSet, Bool.and_eq_true, List.all_eq_true, List.contains_eq_mem, decide_eq_true_eq]
  exact ⟨fun x hx => (h x).1 hx, fun x hx => (h x).2 hx⟩

/-- the taxa block of `WriteNexus`'s document (with or without translate table, same or different tip
    sets): TAXLABELS lists every tip of every tree exactly once and NTAX is their number -/
theorem taxaBlock_written (C : NewickCodec) (L : NewickLaws C) (tr : Bool) (ts : List T)
    (hn : (stateLoop (enumFrom 0 ts) {}).map.length ≤ 9223372036854775807)
    (hlab : ∀ t ∈ ts, t.tipNames.all labelOK = true)
    (hw : ∀ it ∈ (if tr then writtenList (enumFrom 0 ts) {} else enumFrom 0 ts), L.wf it.2 = true)
    (hidx : tr = true → ∀ l ∈ (stateLoop (enumFrom 0 ts) {}).slice,
      labelOK (idxOf (stateLoop (enumFrom 0 ts) {}).map l) = true) :
    taxaBlockOK ts (writeNexus C tr (enumFrom 0 ts)) = true := by
  obtain ⟨hinv, hkeys⟩ := stateLoop_spec (enumFrom 0 ts) {} inv_empty
  have hk : ∀ x, x ∈ (stateLoop (enumFrom 0 ts) {}).slice ↔ x ∈ ts.flatMap T.tipNames := by
    intro x
    rw [hinv.perm.mem_iff, hkeys x, mem_enumFrom 0 ts x]
    simp [keys, List.mem_flatMap]
  have hl : ∀ l ∈ (stateLoop (enumFrom 0 ts) {}).slice, labelOK l = true := by
    intro l hl
    obtain ⟨t, ht, hx⟩ := List.mem_flatMap.1 ((hk l).1 hl)
    have := hlab t ht
    rw [List.all_eq_true] at this
    exact this l hx
  have hnd : hasDup (stateLoop (enumFrom 0 ts) {}).slice = false :=
    (hasDup_false_iff _).2 ((hinv.perm.nodup_iff).2 hinv.nodup)
  have hlen : (stateLoop (enumFrom 0 ts) {}).map.length = (stateLoop (enumFrom 0 ts) {}).slice.length := by
    have := hinv.perm.length_eq
    simp only [keys, List.length_map] at this
    exact this.symm
  have hkw : ∀ l ∈ (stateLoop (enumFrom 0 ts) {}).slice, keywordOf l = none :=
    fun l h => (labelOK_tokLabel l (hl l h)).2
  have hbody : ∀ it ∈ (if tr then writtenList (enumFrom 0 ts) {} else enumFrom 0 ts),
      ∃ body, C.write it.2 = body ++ [';'] ∧ ∀ c ∈ body, c ≠ '\r' := by
    intro it hit
    obtain ⟨body, hb, hc⟩ := L.write_shape it.2 (hw it hit)
    exact ⟨body, hb, fun c hc' => (hc c hc').2.1⟩
  unfold taxaBlockOK
  cases tr with
  | false =>
    simp only [Bool.false_eq_true, if_false] at hbody
    rw [writeNexus_plain_eq, scan_plainDoc C _ _ _ hn (fun l h => labelOK_tokLabel l (hl l h)) hbody]
    have := taxa_docToks (toString (stateLoop (enumFrom 0 ts) {}).map.length) (stateLoop (enumFrom 0 ts) {}).slice hkw
      ((enumFrom 0 ts).map (cmdOf C))
    simp only [this.1, this.2]
    simp only [intVal_natStr, hnd, hlen, sameSet_of_mem _ _ hk]
    simp
  | true =>
    simp only [if_true] at hbody
    rw [scan_doc_tr C _ hn (fun l h => ⟨labelOK_tokLabel l (hl l h), labelOK_tokLabel _ (hidx rfl l h)⟩) hbody]
    have := taxa_docToksTr (toString (stateLoop (enumFrom 0 ts) {}).map.length) (stateLoop (enumFrom 0 ts) {}).slice hkw
      (stateLoop (enumFrom 0 ts) {}).map ((writtenList (enumFrom 0 ts) {}).map (cmdOf C))
    simp only [this.1, this.2]
    simp only [intVal_natStr, hnd, hlen, sameSet_of_mem _ _ hk]
    simp

end Gotree.C13

/-
  C14 — the outer loop of `CutEdgesMaxLength` (statement-level model) over the branches of the pointer graph of
  a rose tree with unique tip names: it succeeds, and its bags are those of the rose-tree model `cut` up to the
  order of the bags and of the tips inside a bag (`LPerm`), which the Spec does not see.

  The branches are visited in pre-order, so the loop over the branches below a node is the loop over its
  children, each followed by the branches inside it (`loopT`, `loopL`).  The invariant (`LoopPre`) says which
  branches of the part still to do are already marked: those the flood reached, when the component of the
  node has been flooded (`fl`), none otherwise.  A root with a single child is a tip itself (`tipName`): its
  name goes into the bag of its component, which a branch that is not shorter than the threshold closes.
-/
import Gotree.Lemmas.C14Flood

namespace Gotree.C14
open Gotree Gotree.C14.Go

/-! ## lists of bags up to the order of the bags and inside the bags -/

inductive PW : List (List String) → List (List String) → Prop
  | nil : PW [] []
  | cons {a b : List String} {l l' : List (List String)} : a.Perm b → PW l l' → PW (a :: l) (b :: l')

def LPerm (A B : List (List String)) : Prop := ∃ B₂, A.Perm B₂ ∧ PW B₂ B

theorem PW.refl : ∀ (l : List (List String)), PW l l
  | [] => .nil
  | a :: l => .cons (List.Perm.refl a) (PW.refl l)

theorem PW.append : ∀ {a a' b b' : List (List String)}, PW a a' → PW b b' → PW (a ++ b) (a' ++ b')
  | _, _, _, _, .nil, hb => by simpa using hb
  | _, _, _, _, .cons h hr, hb => .cons h (PW.append hr hb)

theorem PW.trans {a b c : List (List String)} (h₁ : PW a b) (h₂ : PW b c) : PW a c := by
  induction h₁ generalizing c with
  | nil => exact h₂
  | cons h _ ih => cases h₂ with | cons h' hr' => exact .cons (h.trans h') (ih hr')

theorem PW.of_map {α : Type} (f g : α → List String) (h : ∀ x, (f x).Perm (g x)) : ∀ (l : List α), PW (l.map f) (l.map g)
  | [] => .nil
  | x :: l => .cons (h x) (PW.of_map f g h l)

/-- a permutation can be pushed through a pointwise relation -/
theorem PW.perm_right : ∀ {l l₂ l' : List (List String)}, PW l l₂ → l₂.Perm l' →
    ∃ l₃ : List (List String), l.Perm l₃ ∧ PW l₃ l' := by
  intro l l₂ l' hf hp
  induction hp generalizing l with
  | nil => cases hf; exact ⟨[], List.Perm.refl _, .nil⟩
  | cons x _ ih =>
    cases hf with
    | cons h hr =>
      obtain ⟨r', pr, fr⟩ := ih hr
      exact ⟨_ :: r', pr.cons _, .cons h fr⟩
  | swap x y l =>
    cases hf with
    | cons h hr =>
      cases hr with
      | cons h' hr' => exact ⟨_ :: _ :: _, List.Perm.swap _ _ _, .cons h' (.cons h hr')⟩
  | trans _ _ ih₁ ih₂ =>
    obtain ⟨a, pa, fa⟩ := ih₁ hf
    obtain ⟨b, pb, fb⟩ := ih₂ fa
    exact ⟨b, pa.trans pb, fb⟩

theorem PW.flatten : ∀ {a b : List (List String)}, PW a b → a.flatten.Perm b.flatten
  | _, _, .nil => List.Perm.refl _
  | _, _, .cons h hr => by simp only [List.flatten_cons]; exact h.append (PW.flatten hr)

theorem PW.mem : ∀ {a b : List (List String)}, PW a b → ∀ x ∈ a, ∃ y ∈ b, x.Perm y
  | _, _, .nil, x, hx => by cases hx
  | _, _, .cons h hr, x, hx => by
    rcases List.mem_cons.1 hx with rfl | hx
    · exact ⟨_, by simp, h⟩
    · obtain ⟨y, hy, hp⟩ := PW.mem hr x hx
      exact ⟨y, by simp [hy], hp⟩

theorem PW.mem' : ∀ {a b : List (List String)}, PW a b → ∀ y ∈ b, ∃ x ∈ a, x.Perm y
  | _, _, .nil, y, hy => by cases hy
  | _, _, .cons h hr, y, hy => by
    rcases List.mem_cons.1 hy with rfl | hy
    · exact ⟨_, by simp, h⟩
    · obtain ⟨x, hx, hp⟩ := PW.mem' hr y hy
      exact ⟨x, by simp [hx], hp⟩

theorem LPerm.refl (l : List (List String)) : LPerm l l := ⟨l, List.Perm.refl _, PW.refl l⟩

theorem LPerm.append {a a' b b' : List (List String)} (h₁ : LPerm a a') (h₂ : LPerm b b') : LPerm (a ++ b) (a' ++ b') := by
  obtain ⟨x, px, fx⟩ := h₁
  obtain ⟨y, py, fy⟩ := h₂
  exact ⟨x ++ y, px.append py, fx.append fy⟩

theorem LPerm.perm_right {a b b' : List (List String)} (h : LPerm a b) (hp : b.Perm b') : LPerm a b' := by
  obtain ⟨x, px, fx⟩ := h
  obtain ⟨y, py, fy⟩ := fx.perm_right hp
  exact ⟨y, px.trans py, fy⟩

theorem LPerm.pw_left {a' a b : List (List String)} (h : LPerm a b) (hp : PW a' a) : LPerm a' b := by
  obtain ⟨x, px, fx⟩ := h
  obtain ⟨y, py, fy⟩ := hp.perm_right px
  exact ⟨y, py, fy.trans fx⟩

theorem LPerm.single {a b : List String} (h : a.Perm b) : LPerm [a] [b] := ⟨[a], List.Perm.refl _, .cons h .nil⟩

def optBag (l : List String) : List (List String) := if l.isEmpty then [] else [l]

theorem LPerm.optBag {a b : List String} (h : a.Perm b) : LPerm (optBag a) (optBag b) := by
  unfold C14.optBag
  have : a.isEmpty = b.isEmpty := by
    cases a <;> cases b <;> simp_all
  rw [this]
  split
  · exact LPerm.refl _
  · exact LPerm.single h

theorem optBag_names (b : Bag) : ((if b.length > 0 then [b] else []).map fun b => b.map (·.1)) = optBag (b.map (·.1)) := by
  cases b <;> simp [optBag]

theorem sameBag_LPerm {A B : List (List String)} (h : LPerm A B) (a b : String) : sameBag A a b = sameBag B a b := by
  obtain ⟨B₂, hp, hf⟩ := h
  rw [Bool.eq_iff_iff, sameBag_true_iff, sameBag_true_iff]
  constructor
  · rintro ⟨x, hx, ha, hb⟩
    obtain ⟨y, hy, hxy⟩ := hf.mem x (hp.mem_iff.1 hx)
    exact ⟨y, hy, hxy.mem_iff.1 ha, hxy.mem_iff.1 hb⟩
  · rintro ⟨y, hy, ha, hb⟩
    obtain ⟨x, hx, hxy⟩ := hf.mem' y hy
    exact ⟨x, hp.mem_iff.2 hx, hxy.mem_iff.2 ha, hxy.mem_iff.2 hb⟩

/-- the Spec does not see the order -/
theorem cutOK_of_LPerm (thr : Rat) (t : T) {A B : List (List String)} (h : LPerm A B) (hB : cutOK thr t B = true) :
    cutOK thr t A = true := by
  simp only [cutOK, Bool.and_eq_true, List.all_eq_true, beq_iff_eq] at hB ⊢
  obtain ⟨⟨h1, h2⟩, h3⟩ := hB
  obtain ⟨B₂, hp, hf⟩ := h
  refine ⟨⟨?_, fun x hx => ?_⟩, fun a ha b hb => ?_⟩
  · rw [← h1]
    exact sortNames_eq_of_perm ((hp.flatten).trans hf.flatten)
  · obtain ⟨y, hy, hxy⟩ := hf.mem x (hp.mem_iff.1 hx)
    cases x with
    | nil => have := hxy.symm.eq_nil; subst this; simpa using h2 [] hy
    | cons _ _ => rfl
  · rw [sameBag_LPerm ⟨B₂, hp, hf⟩, h3 a ha b hb]

/-! ## one turn of the loop -/

theorem step_skip (g : G) (thr : Rat) (bags : List Bag) (vis : Array Bool) (i : Nat) (E : GEdge)
    (he : g.edges[i]? = some E) (hv : vis.getD i false = true) :
    cutStep g thr (bags, vis) i = .ok (bags, vis) := by
  simp [cutStep, he, hv]

theorem step_long (g : G) (thr : Rat) (bags : List Bag) (vis : Array Bool) (i p c : Nat) (e : EdgeD)
    (he : g.edges[i]? = some ⟨p, c, e⟩) (hv : vis.getD i false = false) (hl : ¬ e.len < thr) :
    cutStep g thr (bags, vis) i =
      .ok (bags ++ ((if g.tip p then [[(g.name p, p)]] else []) ++ (if g.tip c then [[(g.name c, c)]] else [])),
        vis.set! i true) := by
  simp only [cutStep, he, hv, Bool.false_eq_true, if_false, hl]
  cases g.tip p <;> cases g.tip c <;> simp

theorem step_flood (g : G) (thr : Rat) (bags : List Bag) (vis : Array Bool) (i p c : Nat) (e : EdgeD)
    (bagA bagB : Bag) (visA visB : Array Bool)
    (he : g.edges[i]? = some ⟨p, c, e⟩) (hv : vis.getD i false = false) (hs : e.len < thr)
    (h1 : cutRecur g thr (g.nodes.size + 1) [] p c (vis.set! i true) = .ok (bagA, visA))
    (h2 : cutRecur g thr (g.nodes.size + 1) bagA c p visA = .ok (bagB, visB)) :
    cutStep g thr (bags, vis) i = .ok (bags ++ (if bagB.length > 0 then [bagB] else []), visB) := by
  simp only [cutStep, he, hv, Bool.false_eq_true, if_false, hs, if_true, h1, h2]
  split <;> simp

/-! ## the loop over the branches below a node -/

/-- branch indices of the children `ks` whose first node is `c` (and of everything below) -/
def Seg (c : Nat) (ks : Kids) (j : Nat) : Prop := c ≤ j + 1 ∧ j + 1 < c + T.sizeL ks

/-- the loop over the segment of `suf` succeeds, marks the whole segment and nothing else,
    and appends bags that are, up to order, `expected` -/
def LoopOK (g : G) (thr : Rat) (bags : List Bag) (vis : Array Bool) (c : Nat) (suf : Kids)
    (expected : List (List String)) : Prop :=
  ∃ (newBags : List Bag) (vis' : Array Bool),
    (List.range' (c - 1) (T.sizeL suf)).foldlM (cutStep g thr) (bags, vis) = .ok (bags ++ newBags, vis') ∧
    vis'.size = vis.size ∧ (∀ j, Seg c suf j → vis'.getD j false = true) ∧
    (∀ j, ¬ Seg c suf j → vis'.getD j false = vis.getD j false) ∧
    LPerm (newBags.map fun b => b.map (·.1)) expected

/-- the name of node `p` when it is a tip (a root with a single child) -/
def tipName (g : G) (p : Nat) : List String := if g.tip p then [g.name p] else []

theorem tipPart_names {g : G} {p : Nat} {nd : GNode} (hnd : g.nodes[p]? = some nd) :
    (NodeCtx.tipPart g p nd).map (·.1) = tipName g p := by
  unfold NodeCtx.tipPart tipName
  rw [gtip_of_node hnd]
  split <;> rfl

/-- what the loop below node `p` (children `all = pre ++ suf`, `suf` still to do) needs; a tip `p` has one
    child, and its component is open exactly as long as that child has not been done -/
structure LoopPre (g : G) (thr : Rat) (p : Nat) (all pre suf : Kids) (fl : Bool) (vis : Array Bool) : Prop where
  split : all = pre ++ suf
  kids : ∀ x ∈ kidsIdx (p + 1) all, KidOK g p (p + 1) all x
  tip : g.tip p = true → all.length = 1 ∧ (fl = false ↔ pre = [])
  ctx : fl = false → NodeCtx g thr p all ∧ ∀ x ∈ pre, ¬ x.1.len < thr
  size : vis.size = g.edges.size
  names : (tipName g p ++ ((kidsIdx (p + 1) all).flatMap fun x => leafIdxT x.1 x.2.2).map g.name).Nodup
  vis : ∀ j, Seg (p + 1 + T.sizeL pre) suf j →
    vis.getD j false = (fl && decide (j ∈ reachL thr (p + 1 + T.sizeL pre) suf))

def LoopGoal (g : G) (thr : Rat) (p : Nat) (all pre suf : Kids) (fl : Bool) (bags : List Bag) (vis : Array Bool) : Prop :=
  LoopOK g thr bags vis (p + 1 + T.sizeL pre) suf
    ((if fl then [] else optBag (tipName g p ++ (compL thr all).1)) ++ (compL thr suf).2)

theorem foldlM_range_split (g : G) (thr : Rat) (s a b : Nat) (st : List Bag × Array Bool) :
    (List.range' s (a + b)).foldlM (cutStep g thr) st =
      ((List.range' s a).foldlM (cutStep g thr) st).bind fun st' => (List.range' (s + a) b).foldlM (cutStep g thr) st' := by
  rw [← List.range'_append_1, List.foldlM_append]
  rfl

theorem foldlM_range3 (g : G) (thr : Rat) (s a b : Nat) (st : List Bag × Array Bool) :
    (List.range' s (1 + (a + b))).foldlM (cutStep g thr) st =
      (cutStep g thr st s).bind fun s1 => ((List.range' (s + 1) a).foldlM (cutStep g thr) s1).bind fun s2 =>
        (List.range' (s + 1 + a) b).foldlM (cutStep g thr) s2 := by
  have : List.range' s (1 + (a + b)) = s :: (List.range' (s + 1) a ++ List.range' (s + 1 + a) b) := by
    rw [List.range'_append_1, Nat.add_comm 1 (a + b), List.range'_succ]
  rw [this, List.foldlM_cons]
  cases cutStep g thr st s with
  | error e => rfl
  | ok s1 =>
    show (List.range' (s + 1) a ++ List.range' (s + 1 + a) b).foldlM (cutStep g thr) s1 = _
    rw [List.foldlM_append]
    rfl

theorem loop_nil (g : G) (thr : Rat) (bags : List Bag) (vis : Array Bool) (c : Nat) : LoopOK g thr bags vis c [] [] := by
  refine ⟨[], vis, by simp [T.sizeL]; rfl, rfl, fun j hj => ?_, fun _ _ => rfl, LPerm.refl _⟩
  simp [Seg, T.sizeL] at hj; omega

theorem seg_cons (c : Nat) (e : EdgeD) (t : T) (r : Kids) (j : Nat) (hc : 1 ≤ c) :
    Seg c ((e, t) :: r) j ↔ (j = c - 1 ∨ Seg (c + 1) t.kids j ∨ Seg (c + t.size) r j) := by
  simp only [Seg, T.sizeL_cons, T.size_eq t]
  omega

/-- the three parts of the segment of `(e, t) :: r` do not meet -/
theorem seg_parts (c : Nat) (t : T) (r : Kids) (j : Nat) (hc : 1 ≤ c) :
    (Seg (c + 1) t.kids j → j ≠ c - 1 ∧ ¬ Seg (c + t.size) r j) ∧ (Seg (c + t.size) r j → j ≠ c - 1) := by
  have := T.size_eq t
  simp only [Seg]
  omega

/-- the flood marks inside the segment it enters -/
theorem reachT_seg {thr : Rat} {c : Nat} {t : T} {j : Nat} (h : j ∈ reachT thr c t) : Seg (c + 1) t.kids j := by
  have := reachT_range thr t c j h
  have := T.size_eq t
  simp only [Seg]; omega

theorem reachL_seg {thr : Rat} {c : Nat} {r : Kids} {j : Nat} (hc : 1 ≤ c) (h : j ∈ reachL thr c r) : Seg c r j :=
  reachL_range thr r c hc j h

theorem LoopOK.congr {g : G} {thr : Rat} {bags : List Bag} {vis : Array Bool} {c : Nat} {suf : Kids}
    {ex ex' : List (List String)} (h : LoopOK g thr bags vis c suf ex) (he : ex = ex') : LoopOK g thr bags vis c suf ex' :=
  he ▸ h

theorem LoopOK_perm {g : G} {thr : Rat} {bags : List Bag} {vis : Array Bool} {c : Nat} {suf : Kids}
    {ex ex' : List (List String)} (h : LoopOK g thr bags vis c suf ex) (hp : ex.Perm ex') : LoopOK g thr bags vis c suf ex' := by
  obtain ⟨nb, v', h1, h2, h3, h4, h5⟩ := h
  exact ⟨nb, v', h1, h2, h3, h4, h5.perm_right hp⟩

/-- the loop over `(e, t) :: r`: the turn for the branch above `t`, then the loop over the branches inside `t`,
    then the loop over `r`, which starts from what the second left outside the segment of `t` -/
theorem loop_cons {g : G} {thr : Rat} {c : Nat} {e : EdgeD} {t : T} {r : Kids} {bags sb : List Bag} {vis vis1 : Array Bool}
    {ex1 exT exR : List (List String)} (hc1 : 1 ≤ c)
    (hstep : cutStep g thr (bags, vis) (c - 1) = .ok (bags ++ sb, vis1))
    (hs1 : vis1.size = vis.size) (hv1 : vis1.getD (c - 1) false = true)
    (hout : ∀ j, j ≠ c - 1 → ¬ Seg (c + t.size) r j → ¬ Seg (c + 1) t.kids j → vis1.getD j false = vis.getD j false)
    (hsb : LPerm (sb.map fun b => b.map (·.1)) ex1)
    (hT : LoopOK g thr (bags ++ sb) vis1 (c + 1) t.kids exT)
    (hR : ∀ (nbT : List Bag) (vis2 : Array Bool), vis2.size = vis1.size →
      (∀ j, ¬ Seg (c + 1) t.kids j → vis2.getD j false = vis1.getD j false) →
      LoopOK g thr (bags ++ sb ++ nbT) vis2 (c + t.size) r exR) :
    LoopOK g thr bags vis c ((e, t) :: r) (ex1 ++ (exT ++ exR)) := by
  obtain ⟨nbT, vis2, hT1, hT2, hT3, hT4, hT5⟩ := hT
  obtain ⟨nbR, vis3, hR1, hR2, hR3, hR4, hR5⟩ := hR nbT vis2 hT2 hT4
  have hts := T.size_eq t
  refine ⟨sb ++ nbT ++ nbR, vis3, ?_, by rw [hR2, hT2, hs1], fun j hj => ?_, fun j hj => ?_, ?_⟩
  · rw [T.sizeL_cons, hts, Nat.add_assoc, foldlM_range3 g thr (c - 1) (T.sizeL t.kids) (T.sizeL r), hstep,
      show c - 1 + 1 = c by omega]
    rw [show c + 1 - 1 = c by omega] at hT1
    rw [show c + t.size - 1 = c + T.sizeL t.kids by omega] at hR1
    simp only [Except.bind, hT1]
    rw [hR1]
    simp only [List.append_assoc]
  · rcases (seg_cons c e t r j hc1).1 hj with rfl | hj' | hj'
    · have n1 : ¬ Seg (c + t.size) r (c - 1) := by simp only [Seg]; omega
      have n2 : ¬ Seg (c + 1) t.kids (c - 1) := by simp only [Seg]; omega
      rw [hR4 _ n1, hT4 _ n2, hv1]
    · have n1 : ¬ Seg (c + t.size) r j := by simp only [Seg] at hj' ⊢; omega
      rw [hR4 _ n1, hT3 _ hj']
    · exact hR3 _ hj'
  · have hn := (not_congr (seg_cons c e t r j hc1)).1 hj
    simp only [not_or] at hn
    rw [hR4 _ hn.2.2, hT4 _ hn.2.1, hout j hn.1 hn.2.2 hn.2.1]
  · simp only [List.map_append, List.append_assoc]
    exact hsb.append (hT5.append hR5)

mutual
theorem loopT (g : G) (thr : Rat) : ∀ (t : T) (c p : Nat) (e : EdgeD) (flTop : Bool) (bags : List Bag) (vis : Array Bool),
    p < c → Sub g.nodes c (flatT (some p) c t) → Sub g.edges c (gedgesT c t) → g.edges[c - 1]? = some ⟨p, c, e⟩ →
    (flTop = false → ¬ e.len < thr) → vis.size = g.edges.size → ((leafIdxT c t).map g.name).Nodup →
    (∀ j, Seg (c + 1) t.kids j → vis.getD j false = (flTop && decide (j ∈ reachT thr c t))) →
    LoopOK g thr bags vis (c + 1) t.kids
      ((if flTop || t.kids.isEmpty then [] else optBag (comp thr t).1) ++ (comp thr t).2)
  | .node d pp [], c, p, e, flTop, bags, vis, hp, hs, he, hedge, hlong, hsz, hnm, hvis => by
    simpa [comp] using loop_nil g thr bags vis (c + 1)
  | .node d pp (x :: k), c, p, e, flTop, bags, vis, hp, hs, he, hedge, hlong, hsz, hnm, hvis => by
    have hok := kids_ok hs he
    have htn : tipName g c = [] := by rw [tipName, hs.tip]; rfl
    have hpre : LoopPre g thr c (x :: k) [] (x :: k) flTop vis := by
      refine ⟨rfl, hok, by rw [hs.tip]; exact fun h => absurd h (by simp),
        fun hfl => ⟨⟨hok, _, hs.node, Or.inr ⟨pp, p, _, hp, rfl, hedge, hlong hfl⟩⟩, by simp⟩,
        hsz, by rw [htn, List.nil_append, leafIdxL_kidsIdx]; rw [leafIdxT_node_ne c d pp (List.cons_ne_nil x k)] at hnm; exact hnm, ?_⟩
      rw [show c + 1 + T.sizeL ([] : Kids) = c + 1 by simp [T.sizeL]]
      exact hvis
    have := loopL g thr (x :: k) c (x :: k) [] flTop bags vis hpre
    rw [LoopGoal, show c + 1 + T.sizeL ([] : Kids) = c + 1 by simp [T.sizeL]] at this
    exact this.congr (by cases flTop <;> simp [comp, htn])
theorem loopL (g : G) (thr : Rat) : ∀ (suf : Kids) (p : Nat) (all pre : Kids) (fl : Bool) (bags : List Bag) (vis : Array Bool),
    LoopPre g thr p all pre suf fl vis → LoopGoal g thr p all pre suf fl bags vis
  | [], p, all, pre, fl, bags, vis, h => by
    unfold LoopGoal
    have : (if fl = true then [] else optBag (tipName g p ++ (compL thr all).1)) ++ (compL thr []).2 = [] := by
      cases fl with
      | true => simp [compL]
      | false =>
        have hall : all = pre := by rw [h.split]; simp
        -- a tip whose component is still open has its child still to do
        have htn : tipName g p = [] := by
          cases htp : g.tip p with
          | false => simp [tipName, htp]
          | true =>
            obtain ⟨h1, h2⟩ := h.tip htp
            rw [hall, h2.1 rfl] at h1
            cases h1
        rw [htn, hall, (open_long thr pre (p + 1) (h.ctx rfl).2).2.2]
        simp [optBag, compL]
    rw [this]
    exact loop_nil g thr bags vis _
  | (e, t) :: r, p, all, pre, fl, bags, vis, h => by
    unfold LoopGoal
    -- names and indices
    let c := p + 1 + T.sizeL pre
    have hc : c = p + 1 + T.sizeL pre := rfl
    rw [← hc]
    have hc1 : 1 ≤ c := by omega
    obtain ⟨hkidx, hne1, hne2⟩ := kidsIdx_split (p + 1) pre e t r
    rw [← h.split, ← hc] at hkidx
    rw [← hc] at hne1 hne2
    have hx := h.kids (c, (e, t)) (by rw [hkidx]; simp)
    have hedge : g.edges[c - 1]? = some ⟨p, c, e⟩ := hx.edge
    have hxn : Sub g.nodes c (flatT (some p) c t) := hx.nodes
    have hxe : Sub g.edges c (gedgesT c t) := hx.edges
    have hpc : p < c := hx.gt
    have hi : c - 1 < vis.size := by rw [h.size]; exact hx.edge_lt
    have hcR : p + 1 + T.sizeL (pre ++ [(e, t)]) = c + t.size := by
      rw [T.sizeL_append, T.sizeL_cons]; simp [T.sizeL]; omega
    have hsegT : ∀ j, Seg (c + 1) t.kids j → Seg c ((e, t) :: r) j :=
      fun j hj => (seg_cons c e t r j hc1).2 (Or.inr (Or.inl hj))
    have hsegR : ∀ j, Seg (c + t.size) r j → Seg c ((e, t) :: r) j :=
      fun j hj => (seg_cons c e t r j hc1).2 (Or.inr (Or.inr hj))
    have hvis : ∀ j, Seg c ((e, t) :: r) j → vis.getD j false = (fl && decide (j ∈ reachL thr c ((e, t) :: r))) := h.vis
    -- the branches inside `t` and the segment of `r` do not meet, nor do they hold the branch above `t`
    have hcr : 1 ≤ c + t.size := Nat.le_add_right_of_le hc1
    have hTR : ∀ j, Seg (c + 1) t.kids j → j ≠ c - 1 ∧ j ∉ reachL thr (c + t.size) r := fun j hj =>
      ⟨((seg_parts c t r j hc1).1 hj).1, fun hm => ((seg_parts c t r j hc1).1 hj).2 (reachL_seg hcr hm)⟩
    have hRT : ∀ j, Seg (c + t.size) r j → j ≠ c - 1 ∧ j ∉ reachT thr c t := fun j hj =>
      ⟨(seg_parts c t r j hc1).2 hj, fun hm => ((seg_parts c t r j hc1).1 (reachT_seg hm)).2 hj⟩
    -- the rest of the loop, given the state after this branch
    have hrest : ∀ (vis1 : Array Bool) (flT flR : Bool) (sb : List Bag) (ex1 : List (List String)),
        cutStep g thr (bags, vis) (c - 1) = .ok (bags ++ sb, vis1) →
        vis1.size = vis.size → vis1.getD (c - 1) false = true →
        (∀ j, j ≠ c - 1 → ¬ Seg (c + t.size) r j → ¬ Seg (c + 1) t.kids j → vis1.getD j false = vis.getD j false) →
        (flT = false → ¬ e.len < thr) →
        (∀ j, Seg (c + 1) t.kids j → vis1.getD j false = (flT && decide (j ∈ reachT thr c t))) →
        (∀ j, Seg (c + t.size) r j → vis1.getD j false = (flR && decide (j ∈ reachL thr (c + t.size) r))) →
        (flR = false → NodeCtx g thr p all ∧ ∀ x ∈ pre ++ [(e, t)], ¬ x.1.len < thr) →
        (g.tip p = true → flR = true) →
        LPerm (sb.map fun b => b.map (·.1)) ex1 →
        LoopOK g thr bags vis c ((e, t) :: r)
          (ex1 ++ (((if flT || t.kids.isEmpty then [] else optBag (comp thr t).1) ++ (comp thr t).2) ++
            ((if flR then [] else optBag (tipName g p ++ (compL thr all).1)) ++ (compL thr r).2))) := by
      intro vis1 flT flR sb ex1 hstep hs1 hv1 hout hlT hvT hvR hctxR htipR hsb
      have hnmT : ((leafIdxT c t).map g.name).Nodup := by
        have := (List.nodup_append.1 h.names).2.1
        rw [hkidx, List.flatMap_append, List.flatMap_cons, List.map_append, List.map_append] at this
        exact (List.nodup_append.1 (List.nodup_append.1 this).2.1).1
      refine loop_cons hc1 hstep hs1 hv1 hout hsb
        (loopT g thr t c p e flT (bags ++ sb) vis1 hpc hxn hxe hedge hlT (by rw [hs1, h.size]) hnmT hvT)
        (fun nbT vis2 hT2 hT4 => ?_)
      have hR := loopL g thr r p all (pre ++ [(e, t)]) flR (bags ++ sb ++ nbT) vis2
        ⟨by rw [h.split]; simp, h.kids, fun htp => ⟨(h.tip htp).1, by simp [htipR htp]⟩, hctxR,
          by rw [hT2, hs1, h.size], h.names, by
          rw [hcR]
          intro j hj
          rw [hT4 j (fun hT => ((seg_parts c t r j hc1).1 hT).2 hj), hvR j hj]⟩
      unfold LoopGoal at hR
      rw [hcR] at hR
      exact hR
    -- the value of `visited` at this branch
    have hvc := hvis (c - 1) (by simp only [Seg]; rw [T.sizeL_cons]; have := T.size_pos t; omega)
    by_cases hshort : e.len < thr
    · have hmem : (c - 1) ∈ reachL thr c ((e, t) :: r) := by simp [reachL, hshort]
      have hcompS : (compL thr ((e, t) :: r)).2 = (comp thr t).2 ++ (compL thr r).2 := by simp [compL, hshort]
      cases fl with
      | true =>
        -- already flooded from above or from an earlier child: skip
        have hv : vis.getD (c - 1) false = true := by rw [hvc]; simp [hmem]
        have := hrest vis true true [] [] (by simpa using step_skip g thr bags vis (c - 1) _ hedge hv) rfl hv
          (fun _ _ _ _ => rfl) (by simp)
          (fun j hj => by rw [hvis j (hsegT j hj)]; simp [reachL, hshort, (hTR j hj).1, (hTR j hj).2])
          (fun j hj => by rw [hvis j (hsegR j hj)]; simp [reachL, hshort, (hRT j hj).1, (hRT j hj).2])
          (by simp) (fun _ => rfl) (LPerm.refl _)
        exact this.congr (by simp [hcompS])
      | false =>
        -- the first short branch below a node that is not flooded yet: flood now
        obtain ⟨ctx, hprelong⟩ := h.ctx rfl
        obtain ⟨nd, hnd, _⟩ := ctx.node
        have hv : vis.getD (c - 1) false = false := by rw [hvc]; simp
        have hall : all ≠ [] := by rw [h.split]; simp
        obtain ⟨hpo, hpr, hpc'⟩ := open_long thr pre (p + 1) hprelong
        have hlo : (kidsIdx (p + 1) all).flatMap (openW thr c) = openL thr (c + t.size) r := by
          rw [hkidx, List.flatMap_append, List.flatMap_cons, (openW_list thr c pre (p + 1) hne1).1,
            (openW_list thr c r (c + t.size) hne2).1, hpo]; simp [openW]
        have hlr : (kidsIdx (p + 1) all).flatMap (reachW thr c) = reachL thr (c + t.size) r := by
          rw [hkidx, List.flatMap_append, List.flatMap_cons, (openW_list thr c pre (p + 1) hne1).2,
            (openW_list thr c r (c + t.size) hne2).2, hpr]; simp [reachW]
        have hrmem : ∀ x ∈ kidsIdx (c + t.size) r, x ∈ kidsIdx (p + 1) all := by
          intro x hx'; rw [hkidx]; exact List.mem_append.2 (Or.inr (List.mem_cons_of_mem _ hx'))
        have hfuel : ∀ x ∈ kidsIdx (p + 1) all, x.1 ≠ c → x.2.2.size ≤ g.nodes.size := by
          intro x hx' _
          have := (h.kids x hx').nodes.bound; rw [flatT_length] at this; omega
        have hA := flood_at g thr p all hall ctx nd hnd g.nodes.size c [] (vis.set! (c - 1) true) hfuel
          (by rw [List.nil_append, tipPart_names hnd]; exact h.names)
        rw [hlo, hlr] at hA
        simp only [List.nil_append] at hA
        -- names: the tip `p` itself, the leaves of `t`, those of the later children
        have hnames := h.names
        rw [hkidx, List.flatMap_append, List.flatMap_cons, leafIdxL_kidsIdx, leafIdxL_kidsIdx, List.map_append, List.map_append] at hnames
        have hnm2 : (tipName g p ++ ((leafIdxL (c + t.size) r).map g.name ++ (leafIdxT c t).map g.name)).Nodup :=
          (List.Perm.append_left _ List.perm_append_comm).nodup_iff.1
            ((List.Sublist.append (List.Sublist.refl _) (List.sublist_append_right _ _)).nodup hnames)
        have hnB : ((NodeCtx.tipPart g p nd ++ tipPairs g (openL thr (c + t.size) r)).map (·.1) ++
            (leafIdxT c t).map g.name).Nodup := by
          rw [List.map_append, tipPart_names hnd, names_of_pairs, List.append_assoc]
          exact (List.Sublist.append (List.Sublist.refl _)
            (List.Sublist.append ((openL_sub thr r (c + t.size)).map _) (List.Sublist.refl _))).nodup hnm2
        have htsz : t.size ≤ g.nodes.size + 1 := by
          have := hxn.bound; rw [flatT_length] at this; omega
        have hB := flood_down g thr t (g.nodes.size + 1) c p _
          (markAll (vis.set! (c - 1) true) (reachL thr (c + t.size) r)) htsz hpc hxn hxe ⟨_, hedge⟩ hnB
        have hstep := step_flood g thr bags vis (c - 1) p c e _ _ _ _ hedge hv hshort hA hB
        -- reading `visited` after the two floods
        have hRb : ∀ j ∈ reachL thr (c + t.size) r, j < (vis.set! (c - 1) true).size := by
          intro j hj; rw [Array.size_set!, h.size]
          exact reach_bound g thr p (p + 1) all r (c + t.size) (fun x hx' => h.kids x (hrmem x hx')) j hj
        have hTb : ∀ j ∈ reachT thr c t, j < (markAll (vis.set! (c - 1) true) (reachL thr (c + t.size) r)).size := by
          intro j hj; rw [markAll_size, Array.size_set!, h.size]
          have h1 := reachT_range thr t c j hj
          have h2 := hxe.bound
          have h3 := gedgesT_length c t
          omega
        have hget : ∀ j, (markAll (markAll (vis.set! (c - 1) true) (reachL thr (c + t.size) r)) (reachT thr c t)).getD j false =
            (((if j = c - 1 then true else vis.getD j false) || decide (j ∈ reachL thr (c + t.size) r)) ||
              decide (j ∈ reachT thr c t)) := by
          intro j
          rw [markAll_get _ _ j hTb, markAll_get _ _ j hRb, getD_set!_lt vis hi]
        have hvfalse : ∀ j, Seg c ((e, t) :: r) j → vis.getD j false = false := by
          intro j hj; rw [hvis j hj]; simp
        have hnames2 : ((NodeCtx.tipPart g p nd ++ tipPairs g (openL thr (c + t.size) r) ++
            tipPairs g (openT thr c t)).map (·.1)).Perm (tipName g p ++ (compL thr all).1) := by
          rw [List.map_append, List.map_append, tipPart_names hnd, names_of_pairs, names_of_pairs,
            openT_names g thr t c (some p) hxn,
            openL_names_kids g thr p r (c + t.size) (fun x hx' => (h.kids x (hrmem x hx')).nodes)]
          have : (compL thr all).1 = (comp thr t).1 ++ (compL thr r).1 := by
            rw [h.split, (compL_append thr pre ((e, t) :: r)).1, hpc']
            simp [compL, hshort]
          rw [this, List.append_assoc]
          exact List.Perm.append_left _ List.perm_append_comm
        have := hrest _ true true _ (optBag (tipName g p ++ (compL thr all).1)) hstep
          (by rw [markAll_size, markAll_size]; simp)
          (by rw [hget]; simp)
          (fun j hj1 hj2 hj3 => by
            rw [hget]
            have r1 : j ∉ reachL thr (c + t.size) r := fun hm => hj2 (reachL_seg hcr hm)
            have r2 : j ∉ reachT thr c t := fun hm => hj3 (reachT_seg hm)
            simp [hj1, r1, r2])
          (by simp)
          (fun j hj => by rw [hget]; simp [(hTR j hj).1, (hTR j hj).2, hvfalse j (hsegT j hj)])
          (fun j hj => by rw [hget]; simp [(hRT j hj).1, (hRT j hj).2, hvfalse j (hsegR j hj)])
          (by simp) (fun _ => rfl)
          (by rw [optBag_names]; exact LPerm.optBag hnames2)
        exact this.congr (by simp [hcompS])
    · -- a branch that is not shorter than the threshold: its tips get their own bags
      have hnl : (c - 1) ∉ reachL thr c ((e, t) :: r) := by
        simp only [reachL, hshort, if_false, List.nil_append]
        exact fun hm => (seg_parts c t r _ hc1).2 (reachL_seg hcr hm) rfl
      have hv : vis.getD (c - 1) false = false := by rw [hvc]; simp [hnl]
      have hstep := step_long g thr bags vis (c - 1) p c e hedge hv hshort
      have hcompL : (compL thr ((e, t) :: r)).2 = optBag (comp thr t).1 ++ ((comp thr t).2 ++ (compL thr r).2) := by
        simp only [compL, hshort, if_false, optBag]
        rcases comp thr t with ⟨o, cc⟩
        rcases compL thr r with ⟨o', c'⟩
        simp
      have hvj : ∀ j, Seg c ((e, t) :: r) j → vis.getD j false = (fl && decide (j ∈ reachL thr (c + t.size) r)) := by
        intro j hj; rw [hvis j hj]; simp [reachL, hshort]
      -- a tip `p` has no other child, its component is still open and holds nothing else
      have htipP : g.tip p = true → r = [] ∧ fl = false ∧ (compL thr all).1 = [] := by
        intro htp
        obtain ⟨h1, h2⟩ := h.tip htp
        rw [h.split, List.length_append, List.length_cons] at h1
        have hp0 : pre = [] := List.eq_nil_of_length_eq_zero (by omega)
        have hr0 : r = [] := List.eq_nil_of_length_eq_zero (by omega)
        refine ⟨hr0, h2.2 hp0, ?_⟩
        rw [h.split, hp0, hr0]
        simp [compL, hshort]
      -- is the node below a tip?
      obtain ⟨d, pp, k⟩ := t
      have hex : LPerm (((if g.tip p then [[(g.name p, p)]] else []) ++
            (if g.tip c then [[(g.name c, c)]] else ([] : List Bag))).map fun b => b.map (·.1))
          (optBag (tipName g p) ++ (if k.isEmpty then optBag (comp thr (.node d pp k)).1 else [])) := by
        rw [List.map_append]
        refine LPerm.append ?_ ?_
        · unfold tipName
          cases g.tip p <;> exact LPerm.refl _
        · rw [hxn.tip]
          cases k with
          | nil => simp [comp, optBag, hxn.name]; exact LPerm.refl _
          | cons x k => simp; exact LPerm.refl _
      have := hrest (vis.set! (c - 1) true) false (fl || g.tip p) _ _ hstep (by simp)
        (by rw [getD_set!_lt vis hi]; simp) (fun j hj1 _ _ => by rw [getD_set!_lt vis hi]; simp [hj1]) (fun _ => hshort)
        (fun j hj => by rw [getD_set!_lt vis hi]; simp [(hTR j hj).1, hvj j (hsegT j hj), (hTR j hj).2])
        (fun j hj => by
          cases htp : g.tip p with
          | true =>
            rw [(htipP htp).1] at hj
            simp only [Seg, T.sizeL] at hj; omega
          | false => rw [getD_set!_lt vis hi]; simp [(hRT j hj).1, hvj j (hsegR j hj)])
        (fun hfl => by
          have hfl' : fl = false := by
            cases fl with
            | false => rfl
            | true => simp at hfl
          exact ⟨(h.ctx hfl').1, fun x hx' => by
            rcases List.mem_append.1 hx' with h' | h'
            · exact (h.ctx hfl').2 x h'
            · simp only [List.mem_singleton] at h'; rw [h']; exact hshort⟩)
        (fun htp => by simp [htp])
        hex
      rw [hcompL]
      refine LoopOK_perm this ?_
      have hnil : optBag ([] : List String) = [] := rfl
      cases htp : g.tip p with
      | false =>
        have htn : tipName g p = [] := by simp [tipName, htp]
        cases hk : k.isEmpty <;>
        · simp only [htn, hnil, hk, T.kids_node, Bool.or_false, Bool.or_true, if_true, if_false,
            Bool.false_eq_true, List.nil_append, List.append_nil]
          rw [List.perm_iff_count]; intro z; simp only [List.count_append]; omega
      | true =>
        obtain ⟨_, hfl, hopen⟩ := htipP htp
        cases hk : k.isEmpty <;>
        · simp only [hfl, hopen, hk, T.kids_node, Bool.or_false, Bool.or_true, if_true, if_false,
            Bool.false_eq_true, List.nil_append, List.append_nil]
          rw [List.perm_iff_count]; intro z; simp only [List.count_append]; omega

end

/-! ## the whole loop -/

/-- the loop below the root, tip or not -/
theorem cut_root (thr : Rat) (d : NodeD) (pp : Nat) (ks : Kids) (hu : (T.node d pp ks).tipNames.Nodup) :
    ∃ bags, cutEdgesMaxLength (G.ofT (.node d pp ks)) thr = .ok bags ∧
      LPerm (bags.map fun b => b.map (·.1)) (cut thr (.node d pp ks)) := by
  generalize hg : G.ofT (.node d pp ks) = g
  have hs : Sub g.nodes 0 (flatT none 0 (.node d pp ks)) := by rw [← hg]; exact Sub.whole _
  have he : Sub g.edges 0 (gedgesT 0 (.node d pp ks)) := by rw [← hg]; exact Sub.whole _
  have hes : g.edges.size = T.sizeL ks := by
    have := edges_size (.node d pp ks); rw [hg, T.size_node] at this; omega
  have hnode := hs.root
  have hok := kids_ok hs he
  have htip : g.tip 0 = (ks.length == 1) := by rw [gtip_of_node hnode, nbrs_length]
  have htn : tipName g 0 = if ks.length == 1 then [d.name] else [] := by rw [tipName, htip, hs.name]
  rw [T.tipNames_node, ← htn] at hu
  have hpre : LoopPre g thr 0 ks [] ks false (Array.replicate g.edges.size false) := by
    refine ⟨rfl, hok, fun h => ⟨by rw [htip] at h; simpa using h, by simp⟩,
      fun _ => ⟨⟨hok, _, hnode, Or.inl rfl⟩, by simp⟩, by simp, ?_, fun j _ => by rw [getD_replicate]; rfl⟩
    rw [leafIdxL_kidsIdx]
    rw [flatT_node] at hs
    rw [leafIdxL_names g ks (0 + 1) 0 hs.tail]; exact hu
  obtain ⟨nb, v', h1, _, _, _, h5⟩ := loopL g thr ks 0 ks [] false [] _ hpre
  refine ⟨nb, ?_, ?_⟩
  · unfold cutEdgesMaxLength
    have hr : List.range g.edges.size = List.range' (0 + 1 + T.sizeL ([] : Kids) - 1) (T.sizeL ks) := by
      rw [List.range_eq_range', hes]; simp [T.sizeL]
    rw [hr, h1]; simp
  · have hcut : cut thr (.node d pp ks) = optBag (tipName g 0 ++ (compL thr ks).1) ++ (compL thr ks).2 := by
      rw [htn]; rfl
    rw [hcut]
    simpa using h5

/-- `CutEdgesMaxLength` of the statement-level model on the pointer graph of a rose tree with
    unique tip names succeeds, and its bags are those of the rose-tree model `cut`, up to the
    order of the bags and of the tips inside a bag. -/
theorem cutGo_LPerm (thr : Rat) (t : T) (hu : t.tipNames.Nodup) :
    ∃ bags, cutGo thr t = .ok bags ∧ LPerm bags (cut thr t) := by
  obtain ⟨d, pp, ks⟩ := t
  obtain ⟨bags0, h1, h2⟩ := cut_root thr d pp ks hu
  refine ⟨bags0.map bagNames, by simp [cutGo, h1], ?_⟩
  exact h2.pw_left (PW.of_map bagNames (fun b : Bag => b.map fun x => x.1) (fun b => by unfold bagNames; exact insSort_perm _ _) bags0)

end Gotree.C14

/-
  C01 — the literal unscan buffer (Model/C01Buf.lean) and the positional model (Model/C01.lean) compute the same.
-/
import Gotree.Model.C01Buf
import Gotree.Lemmas.C01
import Gotree.Lemmas.C01Machine

namespace Gotree.Newick.Buf
open Gotree Gotree.Newick Gotree.C01

/-- the Parser object `b` stands at input position `p` of the positional model: either nothing is buffered and the
    reader holds `p`, or a non-blank token is buffered and `p` is where that token began -/
def Agrees (C : Codec) (b : PBuf) (p : List Char) : Prop :=
  (b.n = false ∧ b.inp = p) ∨ (b.n = true ∧ b.tok ≠ .ws ∧ scan C false p = (b.tok, b.lit, b.inp))

theorem agrees_fresh (C : Codec) (inp : List Char) : Agrees C (fresh inp) inp := Or.inl ⟨rfl, rfl⟩

/-- the state `scanIgnoreWhitespace` leaves: the token in the buffer, flag cleared -/
def afterIW (C : Codec) (p : List Char) : PBuf := ⟨(scanIW C p).2.2, (scanIW C p).1, (scanIW C p).2.1, false⟩

theorem scanIWB_eq (C : Codec) (b : PBuf) (p : List Char) (h : Agrees C b p) :
    scanIWB C b = (((scanIW C p).1, (scanIW C p).2.1), afterIW C p) := by
  rcases h with ⟨hn, hi⟩ | ⟨hn, hws, hs⟩
  · cases b with
    | mk inp tok lit n =>
      simp only at hn hi
      subst hn; subst hi
      simp only [scanIWB, scanB, afterIW, scanIW, skipWs, Bool.false_eq_true, if_false]
      by_cases hw : (scan C false inp).1 = .ws <;> simp [hw]
  · cases b with
    | mk inp tok lit n =>
      simp only at hn hws hs
      subst hn
      have hk : skipWs C p = p := by simp [skipWs, hs, hws]
      simp [scanIWB, scanB, afterIW, scanIW, hk, hs, hws]

theorem agrees_afterIW (C : Codec) (p : List Char) : Agrees C (afterIW C p) (scanIW C p).2.2 := Or.inl ⟨rfl, rfl⟩

/-- after `unscan` the Parser stands where the token it has just read began -/
theorem agrees_unscan (C : Codec) (p : List Char) : Agrees C (unscanB (afterIW C p)) (skipWs C p) :=
  Or.inr ⟨rfl, scanIW_not_ws C p, rfl⟩

/-- `consumeComment` through the Parser object (flag 0): the positional result, the reader after the `]` -/
theorem consumeCommentB_eq (C : Codec) : ∀ (fuel : Nat) (inp : List Char) (tok : Tok) (lit acc : List Char), inp.length < fuel →
    (match consumeComment C inp acc with
     | none => consumeCommentB C fuel ⟨inp, tok, lit, false⟩ acc = none
     | some (c, r) => ∃ b', consumeCommentB C fuel ⟨inp, tok, lit, false⟩ acc = some (c, b') ∧ b'.n = false ∧ b'.inp = r) := by
  intro fuel
  induction fuel with
  | zero => intro inp tok lit acc h; omega
  | succ fuel ih =>
    intro inp tok lit acc hlt
    rw [consumeComment]
    simp only [consumeCommentB, scanB, Bool.false_eq_true, if_false]
    by_cases h1 : (scan C true inp).1 = .closebrack
    · simp only [h1, if_true]
      exact ⟨_, rfl, rfl, rfl⟩
    · simp only [h1, if_false]
      by_cases h2 : (scan C true inp).1 = .eof ∨ (scan C true inp).1 = .illegal
      · simp only [h2, if_true, dite_true]
      · simp only [h2, if_false, dite_false]
        have hlt2 := scan_lt C true inp (fun h3 => h2 (Or.inl h3))
        exact ih _ _ _ _ (by omega)

/-- the outcomes of the two loops correspond: same state, the Parser standing at the position handed on -/
def RelO (C : Codec) (a : Outcome (PState × PBuf)) : Outcome (PState × List Char) → Prop
  | .ok (s, r) => ∃ b, a = .ok (s, b) ∧ Agrees C b r
  | .err m => a = .err m
  | .panic m => a = .panic m
  | .unrep m => a = .unrep m

theorem runBF_rel (C : Codec) : ∀ (fuel : Nat) (st : PState) (b : PBuf) (p : List Char), Agrees C b p → p.length < fuel →
    RelO C (runBF C fuel st b) (run C st p) := by
  intro fuel
  induction fuel with
  | zero => intro st b p _ h; omega
  | succ fuel ih =>
    intro st b p hag hlt
    have hs := scanIWB_eq C b p hag
    rw [run_step]
    simp only [runBF, hs, afterIW]
    by_cases heot : (scanIW C p).1 = .eot
    · -- `;`: both stop; the Parser unscans, the positional loop hands on the position of the `;`
      simp only [heot, iter_eot]
      by_cases hl : (st.level != 0) = true
      · simp [hl, RelO]
      · by_cases hst : st.stale = true
        · simp [hl, hst, RelO]
        · have hu := agrees_unscan C p
          simp only [afterIW, heot] at hu
          simpa [hl, hst, heot, RelO] using hu
    · rw [iter_pos C st _ _ [] (skipWs C p) _ heot]
      have hf := iter_fits C st (scanIW C p).1 (scanIW C p).2.1 (skipWs C p) (scanIW C p).2.2
      cases hi : iter C st (scanIW C p).1 (scanIW C p).2.1 (skipWs C p) (scanIW C p).2.2 with
      | stop o =>
        cases o with
        | ok sr =>
          obtain ⟨s2, r⟩ := sr
          rw [hi] at hf
          rcases hf with ⟨h1, _⟩ | ⟨_, rfl⟩
          · exact absurd h1 heot
          · simp only [heot, if_false, RelO]
            exact ⟨_, rfl, Or.inl ⟨rfl, rfl⟩⟩
        | err m => rfl
        | panic m => rfl
        | unrep m => rfl
      | cont st2 r2 =>
        rw [hi] at hf
        simp only [if_neg hf.1]
        have h1 := iter_le C st _ _ _ _ st2 r2 hi
        have h2 := scanIW_lt C p hf.1
        exact ih st2 _ r2 (Or.inl ⟨rfl, rfl⟩) (by omega)

/-! ### `Parse()` -/

def startB (C : Codec) (b : PBuf) : Option ((Tok × List Char) × PBuf) :=
  if (scanIWB C b).1.1 = .openbrack then
    match consumeCommentB C (fuelOf (scanIWB C b).2) (scanIWB C b).2 [] with
    | none => none
    | some (_, b1) => some (scanIWB C b1)
  else some (scanIWB C b)

def tailB (C : Codec) (s1 : (Tok × List Char) × PBuf) : Outcome T × PBuf :=
  if s1.1.1 ≠ .openpar then (.err "found …, expected (", s1.2)
  else
    match runBF C (fuelOf (unscanB s1.2)) {} (unscanB s1.2) with
    | .err m => (.err m, s1.2)
    | .panic m => (.panic m, s1.2)
    | .unrep m => (.unrep m, s1.2)
    | .ok (st, b2) =>
      if st.level != 0 then (.err "mismatched parenthesis after parsing", b2)
      else
        if (scanIWB C b2).1.1 ≠ .eot then (.err "found …, expected ;", (scanIWB C b2).2)
        else match st.result with
          | none => (.panic "nil root in Tips()", (scanIWB C b2).2)
          | some t => (.ok (trimTips t), (scanIWB C b2).2)

theorem parseB_split (C : Codec) (b : PBuf) :
    parseB C b = (match startB C b with | none => (.err "unmatched bracket", (scanIWB C b).2) | some s1 => tailB C s1) := rfl

theorem start_rel (C : Codec) (b : PBuf) (p : List Char) (h : Agrees C b p) :
    (match startR C p with
     | none => startB C b = none
     | some inp1 => startB C b = some (((scanIW C inp1).1, (scanIW C inp1).2.1), afterIW C inp1)) := by
  have hs := scanIWB_eq C b p h
  unfold startR startB
  simp only [hs]
  by_cases hb : (scanIW C p).1 = .openbrack
  · simp only [hb, if_true]
    have hc := consumeCommentB_eq C (fuelOf (afterIW C p)) (scanIW C p).2.2 (scanIW C p).1 (scanIW C p).2.1 []
      (by simp only [fuelOf, afterIW]; omega)
    cases hcc : consumeComment C (scanIW C p).2.2 [] with
    | none =>
      rw [hcc] at hc
      simp only [afterIW] at hc ⊢
      rw [hc]
    | some cr =>
      obtain ⟨c, r⟩ := cr
      rw [hcc] at hc
      obtain ⟨b', hb', hn, hi⟩ := hc
      simp only [afterIW] at hb' ⊢
      rw [hb']
      simp only []
      rw [scanIWB_eq C b' r (Or.inl ⟨hn, hi⟩)]
      rfl
  · simp only [hb, if_false]

theorem tail_rel (C : Codec) (inp1 : List Char) :
    (match tailR C inp1 with
     | .ok (t, r) => ∃ b', tailB C (((scanIW C inp1).1, (scanIW C inp1).2.1), afterIW C inp1) = (.ok t, b') ∧ Agrees C b' r
     | .err m => (tailB C (((scanIW C inp1).1, (scanIW C inp1).2.1), afterIW C inp1)).1 = .err m
     | .panic m => (tailB C (((scanIW C inp1).1, (scanIW C inp1).2.1), afterIW C inp1)).1 = .panic m
     | .unrep m => (tailB C (((scanIW C inp1).1, (scanIW C inp1).2.1), afterIW C inp1)).1 = .unrep m) := by
  unfold tailR finishR tailB
  simp only []
  by_cases hop : (scanIW C inp1).1 = .openpar
  · simp only [hop, ne_eq, not_true_eq_false, if_false]
    have hfuel : (skipWs C inp1).length < fuelOf (unscanB (afterIW C inp1)) := by
      have := scan_lit_rest C false (skipWs C inp1)
      have h2 := congrArg List.length this
      simp only [List.length_append] at h2
      simp only [fuelOf, unscanB, afterIW, scanIW]
      omega
    have hrel := runBF_rel C (fuelOf (unscanB (afterIW C inp1))) {} (unscanB (afterIW C inp1)) (skipWs C inp1)
      (agrees_unscan C inp1) hfuel
    cases hr : run C {} (skipWs C inp1) with
    | ok sr =>
      obtain ⟨st, rest⟩ := sr
      rw [hr] at hrel
      obtain ⟨b2, hb, hag⟩ := hrel
      rw [hb]
      simp only []
      by_cases hl : (st.level != 0) = true
      · simp only [hl, if_true]
      · simp only [hl]
        rw [scanIWB_eq C b2 rest hag]
        simp only []
        by_cases he : (scanIW C rest).1 = .eot
        · simp only [he, not_true_eq_false, if_false]
          cases st.result with
          | none => simp
          | some t =>
            simp only [Bool.false_eq_true, if_false]
            exact ⟨_, rfl, agrees_afterIW C rest⟩
        · simp [he]
    | _ => rw [hr] at hrel; rw [show runBF C _ _ _ = _ from hrel]
  · simp only [hop, ne_eq, not_false_eq_true, if_true]

/-- `Parse()` on the Parser object and the positional `parseR`: same outcome, and after a success the Parser
    stands at the position `parseR` hands on -/
theorem parseB_rel (C : Codec) (b : PBuf) (p : List Char) (h : Agrees C b p) :
    (match parseR C p with
     | .ok (t, r) => ∃ b', parseB C b = (.ok t, b') ∧ Agrees C b' r
     | .err m => (parseB C b).1 = .err m
     | .panic m => (parseB C b).1 = .panic m
     | .unrep m => (parseB C b).1 = .unrep m) := by
  rw [parseR_eq, parseB_split]
  have hst := start_rel C b p h
  cases hsr : startR C p with
  | none => rw [hsr] at hst; rw [hst]
  | some inp1 => rw [hsr] at hst; rw [hst]; exact tail_rel C inp1

/-- `More()`: the positional answer, and the Parser stands at the first non-blank character -/
theorem moreB_rel (C : Codec) (b : PBuf) (p : List Char) (h : Agrees C b p) :
    (moreB C b).1 = more C p ∧ Agrees C (moreB C b).2 (skipWs C p) := by
  simp only [moreB, scanIWB_eq C b p h, more]
  exact ⟨by simp, agrees_unscan C p⟩

/-! ### the loop of ReadMultiTrees on one Parser object -/

theorem parseWhileMoreB_eq (C : Codec) : ∀ (fuel : Nat) (b : PBuf) (p : List Char), Agrees C b p → p.length < fuel →
    parseWhileMoreB C fuel b = parseWhileMore C p := by
  intro fuel
  induction fuel with
  | zero => intro b p _ h; omega
  | succ fuel ih =>
    intro b p hag hlt
    rw [parseWhileMore_step]
    simp only [parseWhileMoreB]
    have hp := parseB_rel C b p hag
    cases hr : parseR C p with
    | ok tr =>
      obtain ⟨t, r⟩ := tr
      rw [hr] at hp
      obtain ⟨b', hb', hag'⟩ := hp
      rw [hb']
      simp only []
      have hm := moreB_rel C b' r hag'
      rw [hm.1]
      by_cases hmore : more C r = true
      · simp only [hmore, if_true]
        have h1 := parseR_lt C p t r hr
        have h2 := skipWs_le C r
        rw [ih _ _ hm.2 (by omega)]
      · simp [hmore]
    | _ =>
      rw [hr] at hp
      rcases hpb : parseB C b with ⟨o, b1⟩
      rw [hpb] at hp
      simp only at hp
      subst hp
      rfl

end Gotree.Newick.Buf

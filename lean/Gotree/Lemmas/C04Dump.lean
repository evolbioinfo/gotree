/-
  C04 — `Edge.DumpBitSet` (Model/C04Dump.lean) prints the bits from the highest position to the lowest, then a dot,
  which on the record of a branch is the line `gotree stats splits` must show; the pinned `DumpBitSet` (a slice of
  `DumpAsBits`) agrees up to 64 tips.
-/
import Gotree.Model.C04Dump
import Gotree.Spec.C04

namespace Gotree.C04
open Gotree

theorem range_rev_map_drop (f : Nat → Char) (n k : Nat) :
    (((List.range (n + k)).reverse.map f)).drop k = (List.range n).reverse.map f := by
  rw [List.range_add, List.reverse_append, List.map_append]
  apply List.drop_left'
  simp

theorem range_map_getD (g : Bool → Char) (b : List Bool) :
    (List.range b.length).map (fun i => g (b.getD i false)) = b.map g := by
  apply List.ext_getElem
  · simp
  · intro i h1 h2
    simp at h1 h2
    simp [h2]

/-- the repaired `DumpBitSet`: the bits from the highest to the lowest position, then a dot — for every width -/
theorem dumpBitSetL_eq (b : List Bool) : dumpBitSetL (some b) = b.reverse.map bitChar ++ ['.'] := by
  simp only [dumpBitSetL]
  rw [List.map_reverse, range_map_getD, List.map_reverse]

/-- the pinned `DumpBitSet` on a bitset of 1 to 64 positions: the same (fix 405e36d changes nothing there) -/
theorem dumpBitSetPinnedL_le64 (b : List Bool) (h1 : 1 ≤ b.length) (h2 : b.length ≤ 64) :
    dumpBitSetPinnedL (some b) = some (b.reverse.map bitChar ++ ['.']) := by
  have hw : (b.length + 63) / 64 = 1 := by omega
  obtain ⟨k, hk⟩ : ∃ k, 64 = b.length + k := ⟨64 - b.length, by omega⟩
  have hlen : (wordChars b 0).length = 65 := by simp [wordChars]
  simp only [dumpBitSetPinnedL, dumpAsBitsL, hw]
  have : (List.range 1).reverse.flatMap (wordChars b) = wordChars b 0 := by simp [List.range_succ]
  rw [this, hlen]
  have hlt : ¬ (65 < b.length + 1) := by omega
  simp only [hlt, if_false]
  congr 1
  have hd : 65 - b.length - 1 = k := by omega
  rw [hd]
  unfold wordChars
  have hk' : k = ((List.range 64).reverse.map fun i => bitChar (b.getD (64 * 0 + i) false)).length - b.length := by
    simp; omega
  rw [List.drop_append_of_le_length (by simp; omega)]
  congr 1
  rw [hk, range_rev_map_drop]
  simp only [Nat.mul_zero, Nat.zero_add]
  rw [List.map_reverse, range_map_getD, List.map_reverse]

/-- the dump of the record a branch must carry is the line the specification wants -/
theorem dumpBitSet_spec (H : String → UInt64) (tips below : List String) :
    dumpBitSet (some (specIdx H tips below).bits) = specDumpLine tips below := by
  unfold dumpBitSet
  rw [dumpBitSetL_eq]
  simp only [specDumpLine, specIdx]
  congr 2
  rw [← List.map_reverse, List.map_map]
  apply List.map_congr_left
  intro x _
  simp [bitChar]

theorem flatMap_wordChars_length (b : List Bool) (l : List Nat) : (l.flatMap (wordChars b)).length = 65 * l.length := by
  induction l with
  | nil => rfl
  | cons a r ih => simp [List.flatMap_cons, ih, wordChars]; omega

end Gotree.C04

/-
  C05 — the relation `Same` (the same tree up to rooting and neighbour order) and the operations that
  keep it: root moves, the two reorderings, `UnRoot`, cutting a branch by a new root; what a successful
  `outgroupPlan` consists of; child-index paths (`descend`) and what re-rooting along one presents.
-/
import Gotree.Spec.C05
import Gotree.Lemmas.C05Splits
import Gotree.Lemmas.Reord

namespace Gotree.C05
open Gotree

theorem uniq_iff (t : T) : uniq t = true ↔ t.tipNames.Nodup := by simp [uniq]

theorem lensOK_iff (t : T) : lensOK t = true ↔ LensGood t.splits := by
  simp only [lensOK, List.all_eq_true, LensGood, GoodL, Bool.or_eq_true, beq_iff_eq, decide_eq_true_eq]

theorem supsOK_iff (t : T) : supsOK t = true ↔ ∀ s ∈ t.splits, GoodL s.e.sup := by
  simp only [supsOK, List.all_eq_true, GoodL, Bool.or_eq_true, beq_iff_eq, decide_eq_true_eq]

/-- The relation "u is t up to rooting/order": same tips, same unrooted splits (every
    non-trivial split with its length and support, every tip branch with its length), same
    tip-to-tip distances. -/
structure Same (t u : T) : Prop where
  tips : u.tipNames.Perm t.tipNames
  usp : u.usplits.Perm t.usplits
  tl : u.tipLens.Perm t.tipLens
  dist : ∀ (a b : String), a ∈ t.tipNames → b ∈ t.tipNames → u.dist a b = t.dist a b

theorem Same.refl (t : T) : Same t t := ⟨List.Perm.refl _, List.Perm.refl _, List.Perm.refl _, fun _ _ _ _ => rfl⟩

theorem Same.trans {t u v : T} (h₁ : Same t u) (h₂ : Same u v) : Same t v :=
  ⟨h₂.tips.trans h₁.tips, h₂.usp.trans h₁.usp, h₂.tl.trans h₁.tl, fun a b ha hb =>
    (h₂.dist a b (h₁.tips.mem_iff.2 ha) (h₁.tips.mem_iff.2 hb)).trans (h₁.dist a b ha hb)⟩

theorem Same.symm {t u : T} (h : Same t u) : Same u t :=
  ⟨h.tips.symm, h.usp.symm, h.tl.symm, fun a b ha hb =>
    (h.dist a b (h.tips.mem_iff.1 ha) (h.tips.mem_iff.1 hb)).symm⟩

/-- from the full unrooted split map -/
theorem Same.ofAll {t u : T} (tips : u.tipNames.Perm t.tipNames) (h : u.usplitsAll.Perm t.usplitsAll)
    (dist : ∀ (a b : String), a ∈ t.tipNames → b ∈ t.tipNames → u.dist a b = t.dist a b) : Same t u :=
  ⟨tips, usplits_perm_of tips h, tipLens_perm_of tips h, dist⟩

/-- what the property's clauses need, read off `Same` -/
theorem Same.spec {t u : T} (s : Same t u) :
    u.tipNames.Perm t.tipNames ∧ u.usplits.Perm t.usplits ∧ u.tipLens.Perm t.tipLens ∧
    ∀ a b, a ∈ t.tipNames → b ∈ t.tipNames → u.dist a b = t.dist a b :=
  ⟨s.tips, s.usp, s.tl, s.dist⟩

/-- every side is a non-trivial split or a tip branch -/
theorem sides_split (t : T) (a : List String) :
    a ∈ t.usplitsAll.map (·.side) ↔ a ∈ t.usplits.map (·.side) ∨ a ∈ t.tipLens.map (·.1) := by
  unfold T.usplits T.tipLens
  simp only [List.mem_map, List.mem_filter, decide_eq_true_eq]
  constructor
  · rintro ⟨x, hx, rfl⟩
    by_cases h : 2 ≤ lightSize t.tipNames x.side
    · exact Or.inl ⟨x, ⟨hx, h⟩, rfl⟩
    · exact Or.inr ⟨(x.side, x.len), ⟨x, ⟨hx, by omega⟩, rfl⟩, rfl⟩
  · rintro (⟨x, ⟨hx, _⟩, rfl⟩ | ⟨_, ⟨x, ⟨hx, _⟩, rfl⟩, rfl⟩)
    · exact ⟨x, hx, rfl⟩
    · exact ⟨x, hx, rfl⟩

theorem Same.sides {t u : T} (h : Same t u) (a : List String) :
    a ∈ u.usplitsAll.map (·.side) ↔ a ∈ t.usplitsAll.map (·.side) := by
  rw [sides_split, sides_split, (h.usp.map _).mem_iff, (h.tl.map _).mem_iff]

/-- a root move changes no branch data: what holds of all of them still does -/
theorem moveRoot_edgesP (P : EdgeD → Prop) (t : T) (i : Nat) (h : ∀ s ∈ t.splits, P s.e) :
    ∀ s ∈ (moveRoot t i).splits, P s.e := by
  cases hk : t.kids[i]? with
  | none => rw [moveRoot_of_none t i hk]; exact h
  | some ec =>
    obtain ⟨e, c⟩ := ec
    intro s hs
    rcases List.mem_cons.1 ((moveRoot_splits_decomp t i e c hk).mem_iff.1 hs) with rfl | hr
    · exact h ⟨c.leaves, e, c.isLeaf⟩ ((splits_decomp t i e c hk).mem_iff.2 (by simp))
    · exact h s ((splits_decomp t i e c hk).mem_iff.2 (by simp [hr]))

theorem moveRoot_lensGood (t : T) (i : Nat) (hg : LensGood t.splits) : LensGood (moveRoot t i).splits :=
  moveRoot_edgesP (fun e => GoodL e.len) t i hg

theorem moveRoot_same (t : T) (i : Nat) (hu : t.tipNames.Nodup) (hg : LensGood t.splits) :
    Same t (moveRoot t i) :=
  Same.ofAll (moveRoot_tips t i) (moveRoot_usplitsAll t i hu hg) (fun a b ha hb => moveRoot_dist t i hu a b ha hb)

theorem rerootP_nil (t : T) (adj : Option Nat) (back : List Nat) : rerootP t [] adj back = (t, adj, back) := rfl

theorem rerootP_cons_none (t : T) (i : Nat) (rest : List Nat) (adj : Option Nat) (back : List Nat)
    (h : t.kids[adjIdx adj i]? = none) : rerootP t (i :: rest) adj back = (t, adj, back) := by
  simp [rerootP, h]

theorem rerootP_cons_some (t : T) (i : Nat) (rest : List Nat) (adj : Option Nat) (back : List Nat)
    (e : EdgeD) (c : T) (h : t.kids[adjIdx adj i]? = some (e, c)) :
    rerootP t (i :: rest) adj back =
      rerootP (moveRoot t (adjIdx adj i)) rest (some (min c.ppos c.kids.length))
        (backStep back (adjIdx adj i) (min c.ppos c.kids.length)) := by
  simp [rerootP, h]

/-- any fold of root moves -/
theorem rerootP_same : ∀ (path : List Nat) (t : T) (adj : Option Nat) (back : List Nat),
    t.tipNames.Nodup → LensGood t.splits →
    Same t (rerootP t path adj back).1 ∧ LensGood (rerootP t path adj back).1.splits
  | [], t, _, _, _, hg => ⟨Same.refl t, hg⟩
  | i :: rest, t, adj, back, hu, hg => by
    cases h : t.kids[adjIdx adj i]? with
    | none => rw [rerootP_cons_none t i rest adj back h]; exact ⟨Same.refl t, hg⟩
    | some ec =>
      obtain ⟨e, c⟩ := ec
      rw [rerootP_cons_some t i rest adj back e c h]
      have s1 := moveRoot_same t (adjIdx adj i) hu hg
      have hu' : (moveRoot t (adjIdx adj i)).tipNames.Nodup := s1.tips.nodup_iff.2 hu
      have hg' := moveRoot_lensGood t (adjIdx adj i) hg
      obtain ⟨s2, g2⟩ := rerootP_same rest (moveRoot t (adjIdx adj i)) _ _ hu' hg'
      exact ⟨s1.trans s2, g2⟩

/-- the canonical sides of the branches, one per branch -/
def sideList (t : T) : List (List String) := t.splits.map (fun s => canonSide t.tipNames s.below)

theorem moveRoot_sideList (t : T) (i : Nat) (hu : t.tipNames.Nodup) : (sideList (moveRoot t i)).Perm (sideList t) := by
  cases hk : t.kids[i]? with
  | none => rw [moveRoot_of_none t i hk]
  | some ec =>
    obtain ⟨e, c⟩ := ec
    obtain ⟨q1, _⟩ := moveRoot_tipNames_split t i e c hk
    unfold sideList
    rw [show (fun s : SplitE => canonSide (moveRoot t i).tipNames s.below) = (fun s => canonSide t.tipNames s.below) from
      funext fun s => canonSide_perm_all (moveRoot_tips t i) _]
    refine ((moveRoot_splits_decomp t i e c hk).map _).trans (List.Perm.trans ?_ ((splits_decomp t i e c hk).map _).symm)
    simp only [List.map_cons]
    rw [canonSide_compl hu (List.perm_append_comm.trans q1)]

theorem rerootP_sideList : ∀ (path : List Nat) (t : T) (adj : Option Nat) (back : List Nat),
    t.tipNames.Nodup → (sideList (rerootP t path adj back).1).Perm (sideList t)
  | [], t, _, _, _ => List.Perm.refl _
  | i :: rest, t, adj, back, hu => by
    cases hk : t.kids[adjIdx adj i]? with
    | none => rw [rerootP_cons_none t i rest adj back hk]
    | some ec =>
      obtain ⟨e, c⟩ := ec
      rw [rerootP_cons_some t i rest adj back e c hk]
      have hu' : (moveRoot t (adjIdx adj i)).tipNames.Nodup := (moveRoot_tips t _).nodup_iff.2 hu
      exact (rerootP_sideList rest _ _ _ hu').trans (moveRoot_sideList t _ hu)

theorem rerootP_edgesP (P : EdgeD → Prop) : ∀ (path : List Nat) (t : T) (adj : Option Nat) (back : List Nat),
    (∀ s ∈ t.splits, P s.e) → ∀ s ∈ (rerootP t path adj back).1.splits, P s.e
  | [], t, _, _, h => h
  | i :: rest, t, adj, back, h => by
    cases hk : t.kids[adjIdx adj i]? with
    | none => rw [rerootP_cons_none t i rest adj back hk]; exact h
    | some ec =>
      obtain ⟨e, c⟩ := ec
      rw [rerootP_cons_some t i rest adj back e c hk]
      exact rerootP_edgesP P rest _ _ _ (moveRoot_edgesP P t _ h)

/-- a successful `Reroot` is the fold of root moves along the path -/
theorem reroot_ok {t u : T} {p : List Nat} (h : reroot t p = .ok u) : u = (rerootP t p none []).1 := by
  unfold reroot at h
  split at h
  · cases h
  · rename_i n _
    by_cases h2 : (if p.isEmpty then n.kids.length else n.kids.length + 1) < 2
    · rw [if_pos h2] at h; cases h
    · rw [if_neg h2] at h; cases h; rfl

theorem reroot_same (t u : T) (p : List Nat) (h : reroot t p = .ok u) (hu : t.tipNames.Nodup)
    (hg : LensGood t.splits) : Same t u :=
  reroot_ok h ▸ (rerootP_same p t none [] hu hg).1

/-! ## reorderings: entries up to the order in which the leaves below are listed -/

/-- an entry with its leaf list sorted -/
def nrm (s : SplitE) : SplitE := ⟨sortS s.below, s.e, s.tip⟩

theorem sep_nrm (s : SplitE) (a b : String) : (nrm s).sep a b = s.sep a b := by
  simp [nrm, SplitE.sep, List.contains_eq_mem, mem_sortS]

theorem distW_nrm (w : EdgeD → Rat) (l : List SplitE) (a b : String) :
    distW w (l.map nrm) a b = distW w l a b := by
  induction l with
  | nil => rfl
  | cons s l ih => simp only [List.map_cons, C14.distW_cons, ih, sep_nrm]; rfl

theorem toU_nrm (all : List String) (s : SplitE) : toU all (nrm s) = toU all s := by
  simp only [toU, nrm]
  rw [canonSide_perm_side all (sortS_perm s.below)]

theorem map_toU_nrm (all : List String) (l : List SplitE) : (l.map nrm).map (toU all) = l.map (toU all) := by
  simp [List.map_map, Function.comp_def, toU_nrm]

theorem nrm_e (s : SplitE) : (nrm s).e = s.e := rfl

/-- pointwise: same branch data, the subtrees agree up to reordering -/
def KidRel (x y : EdgeD × T) : Prop :=
  y.1 = x.1 ∧ y.2.leaves.Perm x.2.leaves ∧ y.2.isLeaf = x.2.isLeaf ∧
    (y.2.splitsBelow.map nrm).Perm (x.2.splitsBelow.map nrm)

/-- pointwise relation of two kid lists -/
inductive KidsRel : Kids → Kids → Prop where
  | nil : KidsRel [] []
  | cons {x y : EdgeD × T} {k k₂ : Kids} : KidRel x y → KidsRel k k₂ → KidsRel (x :: k) (y :: k₂)

theorem entryInv_nrm : EntryInv nrm := fun _ _ _ _ h => by simp only [nrm, sortS_congr h]

theorem kidsRel_of_reordL : ∀ {k k' : Kids}, C14.ReordL k k' → KidsRel k k'
  | _, _, .nil => .nil
  | _, _, .cons e ht hr =>
    have a := ht.keeps entryInv_nrm
    .cons ⟨rfl, a.leaves, a.isLeaf, by rw [T.splitsBelow_eq, T.splitsBelow_eq]; exact a.splits⟩ (kidsRel_of_reordL hr)

/-- root level: a reordered tree is the same tree -/
theorem same_of_reordered {t u : T} (hname : u.name = t.name) (hlen : u.kids.length = t.kids.length)
    (hl : (leavesL u.kids).Perm (leavesL t.kids)) (hs : (u.splits.map nrm).Perm (t.splits.map nrm))
    (hg : LensGood t.splits) : Same t u := by
  have htips : u.tipNames.Perm t.tipNames := by
    unfold T.tipNames; rw [hname, hlen]; exact List.Perm.append_left _ hl
  refine Same.ofAll htips ?_ ?_
  · refine usplitsAll_perm_of htips ?_ hg
    rw [← map_toU_nrm, ← map_toU_nrm _ t.splits]
    exact hs.map _
  · intro a b _ _
    unfold T.dist
    rw [← distW_nrm, ← distW_nrm _ t.splits, distW_perm _ hs]

/-! ### SortNeighborsByTips -/

theorem insSorted_perm (x : EdgeD × T) : ∀ (k : Kids), (insSorted x k).Perm (x :: k)
  | [] => List.Perm.refl _
  | y :: r => by
    unfold insSorted
    split
    · exact List.Perm.refl _
    · exact (List.Perm.cons y (insSorted_perm x r)).trans (List.Perm.swap x y r)

theorem insSort_perm (k : Kids) : (insSort k).Perm k := by
  unfold insSort
  suffices h : ∀ (k acc : Kids), (k.foldl (fun acc x => insSorted x acc) acc).Perm (acc ++ k) by
    simpa using h k []
  intro k
  induction k with
  | nil => intro acc; simp
  | cons x k ih =>
    intro acc
    simp only [List.foldl_cons]
    refine (ih _).trans ?_
    refine (List.Perm.append_right k (insSorted_perm x acc)).trans ?_
    simp only [List.cons_append]
    exact List.perm_middle.symm

mutual
theorem sortT_reord : ∀ t : T, C14.Reord t (sortT t)
  | .node d p k => .node d p 0 (sortL_reord k) (insSort_perm (sortL k))
theorem sortL_reord : ∀ k : Kids, C14.ReordL k (sortL k)
  | [] => .nil
  | (e, t) :: r => .cons e (sortT_reord t) (sortL_reord r)
end

theorem sortT_rel : ∀ (t : T), (sortT t).leaves.Perm t.leaves ∧ (sortT t).isLeaf = t.isLeaf ∧
    ((sortT t).splitsBelow.map nrm).Perm (t.splitsBelow.map nrm) ∧ (sortT t).kids.length = t.kids.length :=
  fun t => have a := (sortT_reord t).keeps entryInv_nrm
    ⟨a.leaves, a.isLeaf, by rw [T.splitsBelow_eq, T.splitsBelow_eq]; exact a.splits, a.len⟩

theorem same_of_reord {t u : T} (h : C14.Reord t u) (hg : LensGood t.splits) : Same t u :=
  have a := h.keeps entryInv_nrm
  same_of_reordered (congrArg NodeD.name a.d) a.len a.leavesL a.splits hg

theorem sortT_same (t : T) (hg : LensGood t.splits) : Same t (sortT t) := same_of_reord (sortT_reord t) hg

/-! ### RotateInternalNodes -/

theorem set_swap_one {α : Type} : ∀ (r : List α) (j : Nat) (a b : α), r[j]? = some b →
    (b :: r.set j a).Perm (a :: r)
  | [], j, a, b, h => by simp at h
  | y :: r, 0, a, b, h => by
    simp at h; subst h
    simpa using List.Perm.swap a y r
  | y :: r, j + 1, a, b, h => by
    have ih := set_swap_one r j a b (by simpa using h)
    simp only [List.set_cons_succ]
    exact (List.Perm.swap y b _).trans ((List.Perm.cons y ih).trans (List.Perm.swap a y r))

theorem set_set_perm {α : Type} : ∀ (l : List α) (i j : Nat) (a b : α), l[i]? = some a → l[j]? = some b →
    ((l.set i b).set j a).Perm l
  | [], i, j, a, b, h, _ => by simp at h
  | x :: r, 0, 0, a, b, h1, h2 => by
    simp at h1 h2; subst h1; subst h2; simp
  | x :: r, 0, j + 1, a, b, h1, h2 => by
    simp at h1; subst h1
    simp only [List.set_cons_zero, List.set_cons_succ]
    exact set_swap_one r j x b (by simpa using h2)
  | x :: r, i + 1, 0, a, b, h1, h2 => by
    simp at h2; subst h2
    simp only [List.set_cons_zero, List.set_cons_succ]
    exact set_swap_one r i x a (by simpa using h1)
  | x :: r, i + 1, j + 1, a, b, h1, h2 => by
    simp only [List.set_cons_succ]
    exact List.Perm.cons x (set_set_perm r i j a b (by simpa using h1) (by simpa using h2))

theorem swapAt_perm {α : Type} (l : List α) (i j : Nat) : (swapAt l i j).Perm l := by
  unfold swapAt
  cases h1 : l[i]? with
  | none => exact List.Perm.refl _
  | some a =>
    cases h2 : l[j]? with
    | none => exact List.Perm.refl _
    | some b => exact set_set_perm l i j a b h1 h2

theorem shuf_perm {α : Type} : ∀ (s i : Nat) (l : List α) (ds : List Nat), (shuf s i l ds).Perm l
  | 0, _, l, _ => by simp [shuf]
  | _ + 1, _, l, [] => by simp [shuf]
  | s + 1, i, l, j :: ds => by
    simp only [shuf]
    exact (shuf_perm s (i + 1) _ ds).trans (swapAt_perm l i j)

theorem filterMap_id_map_some {α : Type} (l : List α) : (l.map some).filterMap id = l := by
  induction l with
  | nil => rfl
  | cons x l ih => simp [ih]

theorem filterMap_insertAt_none {α : Type} (l : List α) (p : Nat) :
    (insertAt (l.map some) p none).filterMap id = l := by
  unfold insertAt
  rw [List.filterMap_append, List.filterMap_cons_none (by rfl), ← List.map_take, ← List.map_drop,
    filterMap_id_map_some, filterMap_id_map_some, List.take_append_drop]

mutual
theorem rot_reord : ∀ (isRoot : Bool) (t : T) (ds : List Nat), C14.Reord t (rot isRoot t ds).1
  | isRoot, .node d p k, ds => by
    simp only [rot]
    -- the neighbour slice after the shuffle: the rotated kids, and the parent unless the node is the root
    refine .node d p _ (rotL_reord k (ds.drop (k.length + (if isRoot then 0 else 1)))) ?_
    refine ((shuf_perm _ _ _ _).filterMap _).trans ?_
    cases isRoot <;> simp [filterMap_insertAt_none]
theorem rotL_reord : ∀ (k : Kids) (ds : List Nat), C14.ReordL k (rotL k ds).1
  | [], _ => .nil
  | (e, t) :: r, ds => .cons e (rot_reord false t ds) (rotL_reord r _)
end

theorem rotL_rel : ∀ (k : Kids) (ds : List Nat), KidsRel k (rotL k ds).1 :=
  fun k ds => kidsRel_of_reordL (rotL_reord k ds)

theorem rotate_same (t : T) (draws : List Nat) (hg : LensGood t.splits) : Same t (rotate t draws) :=
  same_of_reord (rot_reord true t draws) hg

/-! ## fusing two branches of one split -/

theorem goodU_cons {x : USplit} {l : List USplit} (h : GoodU (x :: l)) : GoodL x.len ∧ GoodU l :=
  ⟨h x (by simp), fun y hy => h y (by simp [hy])⟩

theorem goodU_filter {l : List USplit} (p : USplit → Bool) (h : GoodU l) : GoodU (l.filter p) :=
  fun x hx => h x (List.mem_filter.1 hx).1

theorem goodU_forget {l : List USplit} (h : GoodU l) : GoodU (l.map forgetSup) := by
  intro x hx
  obtain ⟨y, hy, rfl⟩ := List.mem_map.1 hx
  exact h y hy

theorem sidesNodup_nil : SidesNodup [] := by simp [SidesNodup]
theorem goodU_nil : GoodU [] := by intro x hx; cases hx

/-- fold level: two entries of one split against their fusion -/
theorem ufold_fuse_pair {L L' R : List USplit} {x1 x2 y : USplit} (p : USplit → Bool)
    (hp : ∀ a b : USplit, a.side = b.side → p a = p b)
    (hL : L.Perm (x1 :: x2 :: R)) (hL' : L'.Perm (y :: R)) (hg : GoodU L)
    (h12 : x1.side = x2.side) (hy : p x1 = true → y = fuseU x1 x2) (hys : y.side = x1.side) :
    (ufoldU (L'.filter p) []).Perm (ufoldU (L.filter p) []) := by
  have g := GoodU.of_perm hL.symm hg
  obtain ⟨g1, g'⟩ := goodU_cons g
  obtain ⟨g2, gR⟩ := goodU_cons g'
  have q1 : (L.filter p).Perm ((x1 :: x2 :: R).filter p) := hL.filter p
  have q2 : (L'.filter p).Perm ((y :: R).filter p) := hL'.filter p
  have hp2 : p x2 = p x1 := hp _ _ h12.symm
  have hpy : p y = p x1 := hp _ _ hys
  by_cases h : p x1 = true
  · have e1 : (x1 :: x2 :: R).filter p = x1 :: x2 :: R.filter p := by simp [h, hp2]
    have e2 : (y :: R).filter p = y :: R.filter p := by simp [h, hpy]
    rw [e1] at q1; rw [e2] at q2
    have gy : GoodL y.len := by rw [hy h]; exact fuseLen_good g1 g2
    have gl' : GoodU (L'.filter p) := GoodU.of_perm q2 (by
      intro z hz; rcases List.mem_cons.1 hz with rfl | hz
      · exact gy
      · exact goodU_filter p gR z hz)
    refine (ufoldU_perm q2 gl' [] sidesNodup_nil goodU_nil).trans ?_
    refine List.Perm.trans ?_ (ufoldU_perm q1 (goodU_filter p hg) [] sidesNodup_nil goodU_nil).symm
    rw [hy h, ufoldU_fuse x1 x2 _ [] h12 g1 g2 goodU_nil]
  · have hf : p x1 = false := by simpa using h
    have e1 : (x1 :: x2 :: R).filter p = R.filter p := by simp [hf, hp2]
    have e2 : (y :: R).filter p = R.filter p := by simp [hf, hpy]
    rw [e1] at q1; rw [e2] at q2
    have gl' : GoodU (L'.filter p) := GoodU.of_perm q2 (goodU_filter p gR)
    exact (ufoldU_perm q2 gl' [] sidesNodup_nil goodU_nil).trans
      (ufoldU_perm q1 (goodU_filter p hg) [] sidesNodup_nil goodU_nil).symm

/-- Tree level: `t` has two branches `X1`, `X2` on the two complementary sides of one split, `u` has
    the single branch `Y` instead, entered with either side (lengths fused; supports fused when the
    split is not trivial). -/
theorem same_of_fuse {t u : T} {X1 X2 Y : SplitE} {rest : List SplitE}
    (hn : t.tipNames.Nodup) (htips : u.tipNames.Perm t.tipNames)
    (ht : t.splits.Perm (X1 :: X2 :: rest))
    (hu : (u.splits.map nrm).Perm ((Y :: rest).map nrm))
    (hc : (X1.below ++ X2.below).Perm t.tipNames)
    (hY : Y.below = X1.below ∨ Y.below = X2.below)
    (hlen : Y.e.len = fuseLen X1.e.len X2.e.len)
    (hsup : nontrivU t.tipNames (toU t.tipNames X1) = true → Y.e.sup = fuseSup X1.e.sup X2.e.sup)
    (hw : Y.e.lenOr0 = X1.e.lenOr0 + X2.e.lenOr0)
    (hg : LensGood t.splits) : Same t u := by
  have h12 : (toU t.tipNames X1).side = (toU t.tipNames X2).side := canonSide_compl hn hc
  have hys : (toU t.tipNames Y).side = (toU t.tipNames X1).side := by
    rcases hY with h | h
    · exact congrArg (canonSide t.tipNames) h
    · exact (congrArg (canonSide t.tipNames) h).trans h12.symm
  have hsep : ∀ a b, a ∈ t.tipNames → b ∈ t.tipNames → X1.sep a b = Y.sep a b ∧ X2.sep a b = Y.sep a b := by
    intro a b ha hb
    have h12 : X1.sep a b = X2.sep a b := sep_compl hn hc X1.e X2.e X1.tip X2.tip ha hb
    have hYs : Y.sep a b = X1.sep a b ∨ Y.sep a b = X2.sep a b := by
      rcases hY with h | h <;> simp [SplitE.sep, h]
    rcases hYs with h | h <;> rw [h] <;> simp [h12]
  have hL : (t.splits.map (toU t.tipNames)).Perm
      (toU t.tipNames X1 :: toU t.tipNames X2 :: rest.map (toU t.tipNames)) := by
    simpa using ht.map (toU t.tipNames)
  have hL' : (u.splits.map (toU t.tipNames)).Perm (toU t.tipNames Y :: rest.map (toU t.tipNames)) := by
    have := hu.map (toU t.tipNames)
    rw [map_toU_nrm, map_toU_nrm] at this
    simpa using this
  have hgU : GoodU (t.splits.map (toU t.tipNames)) := hg.goodU _
  have hfl : ∀ l : List USplit, (l.map forgetSup).filter (trivU t.tipNames) = (l.filter (trivU t.tipNames)).map forgetSup := by
    intro l
    induction l with
    | nil => rfl
    | cons z l ih =>
      have : trivU t.tipNames (forgetSup z) = trivU t.tipNames z := trivU_side _ _ _ rfl
      by_cases hz : trivU t.tipNames z <;> simp [this, hz, ih]
  obtain ⟨husp, htl⟩ := usplits_tipLens_of_ufold htips
    (ufold_fuse_pair (nontrivU t.tipNames) (nontrivU_side _) hL hL' hgU h12 (by
      intro hp
      simp only [toU, fuseU] at hys ⊢
      rw [hys, hlen, hsup hp]) hys)
    (by
      have hLf := hL.map forgetSup
      have hLf' := hL'.map forgetSup
      simp only [List.map_cons] at hLf hLf'
      have := ufold_fuse_pair (trivU t.tipNames) (trivU_side _) hLf hLf'
        (goodU_forget hgU) (by simpa using h12) (by
          intro _
          simp only [toU, fuseU, forgetSup, fuseSup] at hys ⊢
          rw [hys, hlen]; simp) (by simpa using hys)
      rwa [hfl, hfl] at this)
  refine ⟨htips, husp, htl, ?_⟩
  intro a b ha hb
  unfold T.dist
  rw [← distW_nrm, distW_perm _ hu, distW_nrm, distW_perm _ ht]
  exact (distW_fuse _ X1 X2 Y rest a b (hsep a b ha hb).1 (hsep a b ha hb).2 hw).symm

/-! ## sizes of canonical sides -/

/-- number of taxa of `all` on a side -/
def sz (all A : List String) : Nat := (A.filter all.contains).length

theorem lightSize_eq (all A : List String) : lightSize all A = min (sz all A) (all.length - sz all A) := rfl

theorem length_filter_mem {all B : List String} (hn : all.Nodup) (hB : B.Nodup) (hsub : ∀ x ∈ B, x ∈ all) :
    (all.filter B.contains).length = B.length := by
  apply List.Perm.length_eq
  apply (List.perm_ext_iff_of_nodup (hn.filter _) hB).2
  intro x
  simp only [List.mem_filter, List.contains_eq_mem, decide_eq_true_eq]
  exact ⟨fun h => h.2, fun h => ⟨hsub x h, h⟩⟩

theorem length_filter_compl (all : List String) (p : String → Bool) :
    (all.filter (fun x => !p x)).length + (all.filter p).length = all.length := by
  induction all with
  | nil => rfl
  | cons a l ih => by_cases h : p a <;> simp [h] <;> omega

/-- the canonical side has the size of the side or of its complement -/
theorem sz_canonSide {all A : List String} (hn : all.Nodup) (hA : A.Nodup) :
    sz all (canonSide all A) = sz all A ∨ sz all (canonSide all A) = all.length - sz all A := by
  have hfn : (A.filter all.contains).Nodup := hA.filter _
  have hsub : ∀ x ∈ sortS (A.filter all.contains), x ∈ all := by
    intro x hx; have := (List.mem_filter.1 (mem_sortS.1 hx)).2; simpa using this
  have h1 : sz all (sortS (A.filter all.contains)) = sz all A := by
    unfold sz
    rw [List.filter_eq_self.2 (fun x hx => by simpa using hsub x hx), (sortS_perm _).length_eq]
  have h2 : sz all (sortS (complS all (sortS (A.filter all.contains)))) = all.length - sz all A := by
    unfold sz
    have hall : ∀ x ∈ sortS (complS all (sortS (A.filter all.contains))), all.contains x = true := by
      intro x hx
      have := mem_sortS.1 hx
      simp only [complS, List.mem_filter] at this
      simpa using this.1
    rw [List.filter_eq_self.2 hall, (sortS_perm _).length_eq]
    have hc := length_filter_compl all (sortS (A.filter all.contains)).contains
    have hm := length_filter_mem hn ((sortS_perm _).nodup_iff.2 hfn) hsub
    rw [(sortS_perm _).length_eq] at hm
    simp only [complS]
    omega
  unfold canonSide
  cases minS all with
  | none => exact Or.inl h1
  | some m =>
    simp only
    split
    · exact Or.inr h2
    · exact Or.inl h1

theorem lightSize_canonSide {all A : List String} (hn : all.Nodup) (hA : A.Nodup) :
    lightSize all (canonSide all A) = lightSize all A := by
  have hle : sz all A ≤ all.length := by
    unfold sz
    have hfn : (A.filter all.contains).Nodup := hA.filter _
    exact hfn.length_le_of_subset (fun x hx => by simpa using (List.mem_filter.1 hx).2)
  rw [lightSize_eq, lightSize_eq]
  rcases sz_canonSide hn hA with h | h <;> rw [h] <;> omega

/-- a single tip is a trivial split -/
theorem trivial_singleton {all : List String} (hn : all.Nodup) (x : String) (e : EdgeD) (tp : Bool) :
    nontrivU all (toU all ⟨[x], e, tp⟩) = false := by
  show decide (2 ≤ lightSize all (canonSide all [x])) = false
  rw [lightSize_canonSide hn (by simp : [x].Nodup), lightSize_eq]
  have : sz all [x] ≤ 1 := List.length_filter_le _ [x]
  exact decide_eq_false (by omega)

/-! ## UnRoot -/

theorem unrootLen_eq {e1 e2 : EdgeD} (g1 : GoodL e1.len) (g2 : GoodL e2.len) :
    unrootLen e1 e2 = fuseLen e1.len e2.len := by
  unfold unrootLen fuseLen rmax GoodL NIL at *
  by_cases h1 : e1.len = -1 <;> by_cases h2 : e2.len = -1 <;> simp [h1, h2] <;> grind

theorem unrootLen_lenOr0 {e1 e2 : EdgeD} (g1 : GoodL e1.len) (g2 : GoodL e2.len) (e3 : EdgeD)
    (h : e3.len = unrootLen e1 e2) : e3.lenOr0 = e1.lenOr0 + e2.lenOr0 := by
  unfold EdgeD.lenOr0
  rw [h]
  unfold unrootLen rmax GoodL NIL at *
  by_cases h1 : e1.len = -1 <;> by_cases h2 : e2.len = -1 <;> simp [h1, h2] <;> grind

theorem unrootSup_eq {e1 e2 : EdgeD} (g1 : GoodL e1.sup) (g2 : GoodL e2.sup) :
    unrootSup false false e1 e2 = fuseSup e1.sup e2.sup := by
  unfold unrootSup fuseSup rmax GoodL NIL at *
  by_cases h1 : e1.sup = -1 <;> by_cases h2 : e2.sup = -1 <;> simp [h1, h2] <;> grind

/-- the branch `UnRoot` creates -/
def unrootEdge (b1 b2 : Bool) (e1 e2 : EdgeD) : EdgeD :=
  { EdgeD.blank with len := unrootLen e1 e2, sup := unrootSup b1 b2 e1 e2 }

theorem unroot_rooted (d : NodeD) (p : Nat) (e1 e2 : EdgeD) (d1 d2 : NodeD) (p1 p2 : Nat) (k1 k2 : Kids) :
    unroot (.node d p [(e1, .node d1 p1 k1), (e2, .node d2 p2 k2)]) =
      if k1.isEmpty then .node d2 0 (k2 ++ [(unrootEdge k1.isEmpty k2.isEmpty e1 e2, .node d1 0 k1)])
      else .node d1 0 (k1 ++ [(unrootEdge k1.isEmpty k2.isEmpty e1 e2, .node d2 k2.length k2)]) := rfl

/-- `UnRoot` acts on a root with exactly two children and on nothing else -/
theorem unroot_cases (t : T) : (unroot t = t ∧ t.kids.length ≠ 2) ∨
    ∃ d p e1 c1 e2 c2, t = .node d p [(e1, c1), (e2, c2)] := by
  obtain ⟨d, p, K⟩ := t
  match K with
  | [(e1, c1), (e2, c2)] => exact Or.inr ⟨d, p, e1, c1, e2, c2, rfl⟩
  | [] | [_] | _ :: _ :: _ :: _ =>
    refine Or.inl ⟨?_, by simp⟩
    unfold unroot
    split
    · rename_i heq; simp at heq
    · rfl

/-- a root with exactly two kids -/
theorem two_kids (d : NodeD) (p : Nat) (e1 e2 : EdgeD) (c1 c2 : T) :
    (T.node d p [(e1, c1), (e2, c2)]).tipNames = c1.leaves ++ c2.leaves ∧
    (T.node d p [(e1, c1), (e2, c2)]).splits.Perm
      (⟨c1.leaves, e1, c1.isLeaf⟩ :: ⟨c2.leaves, e2, c2.isLeaf⟩ :: (c1.splitsBelow ++ c2.splitsBelow)) := by
  constructor
  · simp [T.tipNames, leavesL_cons, leavesL_nil]
  · simp only [T.splits, T.kids_node, splitsL_cons, splitsL_nil, List.append_nil]
    exact List.Perm.cons _ List.perm_middle

/-- a subtree hung last below a node -/
theorem hang_last (dA : NodeD) (pA : Nat) (kA : Kids) (e : EdgeD) (B : T) :
    (T.node dA 0 (kA ++ [(e, B)])).tipNames = (T.node dA pA kA).leaves ++ B.leaves ∧
    (T.node dA 0 (kA ++ [(e, B)])).splits.Perm (⟨B.leaves, e, B.isLeaf⟩ :: (B.splitsBelow ++ splitsL kA)) := by
  constructor
  · unfold T.tipNames
    rw [T.kids_node, T.leaves_node, leavesL_append, leavesL_cons, leavesL_nil, List.append_nil, List.length_append]
    cases kA <;> simp [T.name, leavesL_nil]
  · simp only [T.splits, T.kids_node, splitsL_append, splitsL_cons, splitsL_nil, List.append_nil]
    exact List.perm_append_comm

/-- leaves, tip flag and split list of a subtree do not depend on its parent position -/
theorem reppos (c : T) (p : Nat) : (T.node c.d p c.kids).leaves = c.leaves ∧
    (T.node c.d p c.kids).isLeaf = c.isLeaf ∧ (T.node c.d p c.kids).splitsBelow = c.splitsBelow := by
  obtain ⟨d, p', k⟩ := c
  simp [T.leaves_node, T.isLeaf_node, T.splitsBelow_node]

/-- The rooted case of `UnRoot`: the two root branches are replaced by one branch `Y` carrying
    `unrootEdge`, entered in the split list with the leaves of one of the two sides. -/
theorem unroot_splits (d : NodeD) (p : Nat) (e1 e2 : EdgeD) (c1 c2 : T) :
    ∃ Y : SplitE, Y.e = unrootEdge c1.kids.isEmpty c2.kids.isEmpty e1 e2 ∧
      (Y.below = c1.leaves ∨ Y.below = c2.leaves) ∧
      (unroot (.node d p [(e1, c1), (e2, c2)])).tipNames.Perm (c1.leaves ++ c2.leaves) ∧
      (unroot (.node d p [(e1, c1), (e2, c2)])).splits.Perm (Y :: (c1.splitsBelow ++ c2.splitsBelow)) := by
  obtain ⟨d1, p1, k1⟩ := c1
  obtain ⟨d2, p2, k2⟩ := c2
  rw [unroot_rooted]
  by_cases hk1 : k1 = []
  · -- the first neighbour of the root is a tip: the other one becomes the root
    subst hk1
    obtain ⟨h1, h2⟩ := hang_last d2 p2 k2 (unrootEdge true k2.isEmpty e1 e2) (.node d1 0 [])
    refine ⟨⟨(T.node d1 0 []).leaves, unrootEdge true k2.isEmpty e1 e2, (T.node d1 0 []).isLeaf⟩, rfl, Or.inl ?_, ?_, ?_⟩
    · simp [T.leaves_node]
    · simp only [List.isEmpty_nil, if_true, h1]
      simp [T.leaves_node]
    · simpa [T.splitsBelow_node] using h2
  · have hke : k1.isEmpty = false := by cases k1 <;> simp_all
    obtain ⟨h1, h2⟩ := hang_last d1 p1 k1 (unrootEdge false k2.isEmpty e1 e2) (.node d2 k2.length k2)
    refine ⟨⟨(T.node d2 k2.length k2).leaves, unrootEdge false k2.isEmpty e1 e2, k2.isEmpty⟩, by simp [hke], Or.inr ?_, ?_, ?_⟩
    · simp [T.leaves_node]
    · simp only [hke, Bool.false_eq_true, if_false, h1]
      simp [T.leaves_node]
    · simp only [hke, Bool.false_eq_true, if_false]
      exact h2.trans (List.Perm.cons _ (by simpa [T.splitsBelow_node] using List.perm_append_comm))

/-- `UnRoot` keeps the tips -/
theorem unroot_tipNames_perm (t : T) : (unroot t).tipNames.Perm t.tipNames := by
  rcases unroot_cases t with ⟨h, _⟩ | ⟨d, p, e1, c1, e2, c2, rfl⟩
  · rw [h]
  · obtain ⟨_, _, _, h, _⟩ := unroot_splits d p e1 e2 c1 c2
    rw [(two_kids d p e1 e2 c1 c2).1]; exact h

/-- what holds of all branch data, and of a fused branch when it holds of both parts, still holds after `UnRoot` -/
theorem unroot_edgesP (P : EdgeD → Prop) (hP : ∀ b1 b2 e1 e2, P e1 → P e2 → P (unrootEdge b1 b2 e1 e2)) (t : T)
    (h : ∀ s ∈ t.splits, P s.e) : ∀ s ∈ (unroot t).splits, P s.e := by
  rcases unroot_cases t with ⟨h0, _⟩ | ⟨d, p, e1, c1, e2, c2, rfl⟩
  · rw [h0]; exact h
  · obtain ⟨Y, hYe, _, _, hsp⟩ := unroot_splits d p e1 e2 c1 c2
    have ht := (two_kids d p e1 e2 c1 c2).2
    intro s hs
    rcases List.mem_cons.1 (hsp.mem_iff.1 hs) with rfl | hs
    · rw [hYe]
      exact hP _ _ _ _ (h ⟨c1.leaves, e1, c1.isLeaf⟩ (ht.mem_iff.2 (by simp)))
        (h ⟨c2.leaves, e2, c2.isLeaf⟩ (ht.mem_iff.2 (by simp)))
    · exact h s (ht.mem_iff.2 (by simp [hs]))

theorem unroot_lensGood (t : T) (hg : LensGood t.splits) : LensGood (unroot t).splits :=
  unroot_edgesP (fun e => GoodL e.len)
    (fun _ _ _ _ g1 g2 => by show GoodL (unrootLen _ _); rw [unrootLen_eq g1 g2]; exact fuseLen_good g1 g2) t hg

/-- `UnRoot` keeps the tree: the two root branches become one branch carrying the sum of the
    lengths and (when neither end is a tip) the larger support. -/
theorem unroot_same (t : T) (hu : t.tipNames.Nodup) (hg : LensGood t.splits)
    (hs : ∀ s ∈ t.splits, GoodL s.e.sup) : Same t (unroot t) := by
  rcases unroot_cases t with ⟨h, _⟩ | ⟨d, p, e1, c1, e2, c2, rfl⟩
  · rw [h]; exact Same.refl _
  obtain ⟨hall, ht⟩ := two_kids d p e1 e2 c1 c2
  obtain ⟨Y, hYe, hYb, htips, hsp⟩ := unroot_splits d p e1 e2 c1 c2
  have m1 : (⟨c1.leaves, e1, c1.isLeaf⟩ : SplitE) ∈ (T.node d p [(e1, c1), (e2, c2)]).splits := ht.mem_iff.2 (by simp)
  have m2 : (⟨c2.leaves, e2, c2.isLeaf⟩ : SplitE) ∈ (T.node d p [(e1, c1), (e2, c2)]).splits := ht.mem_iff.2 (by simp)
  have g1 : GoodL e1.len := hg _ m1
  have g2 : GoodL e2.len := hg _ m2
  rw [hall] at hu
  refine same_of_fuse (hall ▸ hu) (hall ▸ htips) ht (hsp.map nrm) (hall ▸ List.Perm.refl _) hYb
    (by rw [hYe]; exact unrootLen_eq g1 g2) ?_ (unrootLen_lenOr0 g1 g2 _ (by rw [hYe]; rfl)) hg
  -- the support is kept only when neither side is a single tip, i.e. when the split is not trivial
  intro hp
  rw [hall] at hp
  rw [hYe]
  have single : ∀ (c : T) (e : EdgeD), c.kids = [] →
      nontrivU (c1.leaves ++ c2.leaves) (toU (c1.leaves ++ c2.leaves) ⟨c.leaves, e, c.isLeaf⟩) = false := by
    intro c e hk
    obtain ⟨dc, pc, kc⟩ := c
    simp only [T.kids_node] at hk
    subst hk
    exact trivial_singleton hu _ e _
  by_cases hk1 : c1.kids = []
  · rw [single c1 e1 hk1] at hp; cases hp
  by_cases hk2 : c2.kids = []
  · rw [nontrivU_side _ _ (toU (c1.leaves ++ c2.leaves) ⟨c2.leaves, e2, c2.isLeaf⟩)
      (canonSide_compl hu (List.Perm.refl _)), single c2 e2 hk2] at hp
    cases hp
  have h1 : c1.kids.isEmpty = false := by simpa using hk1
  have h2 : c2.kids.isEmpty = false := by simpa using hk2
  rw [h1, h2]
  exact unrootSup_eq (hs _ m1) (hs _ m2)

/-- the unrooted tree, presented at any of its nodes, is the same tree -/
theorem unroot_rerootP_same (t : T) (p back : List Nat) (hu : t.tipNames.Nodup) (hg : LensGood t.splits)
    (hs : ∀ s ∈ t.splits, GoodL s.e.sup) :
    Same t (rerootP (unroot t) p none back).1 ∧ LensGood (rerootP (unroot t) p none back).1.splits := by
  have S1 := unroot_same t hu hg hs
  obtain ⟨S2, g2⟩ := rerootP_same p (unroot t) none back (S1.tips.nodup_iff.2 hu) (unroot_lensGood t hg)
  exact ⟨S1.trans S2, g2⟩

/-- `UnRoot` creates no node with exactly two neighbours, and its result is not rooted -/
theorem unroot_noSingle (t : T) (h : t.noSingle = true) :
    (unroot t).noSingle = true ∧ (unroot t).kids.length ≠ 2 := by
  rcases unroot_cases t with ⟨h0, h2⟩ | ⟨d, p, e1, ⟨d1, p1, k1⟩, e2, ⟨d2, p2, k2⟩, rfl⟩
  · rw [h0]; exact ⟨h, h2⟩
  rw [unroot_rooted]
  simp only [T.noSingle, T.kids_node, noSingleL, T.noSingleBelow, Bool.and_true, Bool.and_eq_true,
    bne_iff_ne, ne_eq] at h
  obtain ⟨⟨a1, b1⟩, a2, b2⟩ := h
  by_cases hk1 : k1 = []
  · subst hk1
    simp only [List.isEmpty_nil, if_true, T.noSingle, T.kids_node, noSingleL_append, noSingleL, T.noSingleBelow,
      Bool.and_true, b2, List.length_nil, List.length_append, List.length_cons]
    exact ⟨by simp, by omega⟩
  · have hke : k1.isEmpty = false := by cases k1 <;> simp_all
    simp only [hke, Bool.false_eq_true, if_false, T.noSingle, T.kids_node, noSingleL_append, noSingleL, T.noSingleBelow,
      Bool.and_true, b1, b2, List.length_nil, List.length_append, List.length_cons]
    refine ⟨by simpa using a2, by omega⟩

/-! ## cutting a branch by a new root -/

theorem cutAt_eq (t : T) (r : Nat) (ea eb : EdgeD) (aFirst : Bool) (e : EdgeD) (c : T)
    (hk : t.kids[r]? = some (e, c)) :
    cutAt t r ea eb aFirst = some (.node ⟨"", []⟩ 0
      (if aFirst then [(ea, .node t.d (t.kids.length - 1) (t.kids.eraseIdx r)), (eb, .node c.d c.kids.length c.kids)]
       else [(eb, .node c.d c.kids.length c.kids), (ea, .node t.d (t.kids.length - 1) (t.kids.eraseIdx r))])) := by
  obtain ⟨d, p, kids⟩ := t
  obtain ⟨dc, pc, kc⟩ := c
  simp only [T.kids_node] at hk
  simp [cutAt, hk]

/-- tips, split list and root children after cutting the branch to kid `r` by a new root: the two sides
    `oldRoot t r` and `c` of that branch hang on the two new branches -/
theorem cutAt_splits (t u : T) (r : Nat) (ea eb : EdgeD) (aFirst : Bool) (e : EdgeD) (c : T)
    (hk : t.kids[r]? = some (e, c)) (h : cutAt t r ea eb aFirst = some u) :
    u.tipNames.Perm t.tipNames ∧
    u.splits.Perm (⟨(oldRoot t r).leaves, ea, (oldRoot t r).isLeaf⟩ :: ⟨c.leaves, eb, c.isLeaf⟩ ::
      ((oldRoot t r).splitsBelow ++ c.splitsBelow)) ∧
    ∃ cA cB : T, cA.leaves = (oldRoot t r).leaves ∧ cB.leaves = c.leaves ∧
      u.kids = (if aFirst then [(ea, cA), (eb, cB)] else [(eb, cB), (ea, cA)]) := by
  rw [cutAt_eq t r ea eb aFirst e c hk] at h
  obtain rfl := (Option.some.inj h).symm
  have ha := reppos (oldRoot t r) (t.kids.length - 1)
  simp only [show (oldRoot t r).d = t.d from rfl, show (oldRoot t r).kids = t.kids.eraseIdx r from rfl] at ha
  obtain ⟨a1, a2, a3⟩ := ha
  obtain ⟨b1, b2, b3⟩ := reppos c c.kids.length
  obtain ⟨q1, _⟩ := moveRoot_tipNames_split t r e c hk
  cases aFirst
  · obtain ⟨t1, t2⟩ := two_kids ⟨"", []⟩ 0 eb ea (.node c.d c.kids.length c.kids) (.node t.d (t.kids.length - 1) (t.kids.eraseIdx r))
    rw [a1, a2, a3, b1, b2, b3] at t2
    rw [a1, b1] at t1
    exact ⟨t1 ▸ q1, t2.trans ((List.Perm.swap _ _ _).trans (List.Perm.cons _ (List.Perm.cons _ List.perm_append_comm))),
      _, _, a1, b1, rfl⟩
  · obtain ⟨t1, t2⟩ := two_kids ⟨"", []⟩ 0 ea eb (.node t.d (t.kids.length - 1) (t.kids.eraseIdx r)) (.node c.d c.kids.length c.kids)
    rw [a1, a2, a3, b1, b2, b3] at t2
    rw [a1, b1] at t1
    exact ⟨t1 ▸ List.perm_append_comm.trans q1, t2, _, _, a1, b1, rfl⟩

/-- **Cutting a branch by a new root**: the branch `e` between the root `A` of `t` and its kid
    `r` is replaced by two branches `ea` (to `A`) and `eb` (to the kid) below a new root; if the
    lengths add up to the old length and both carry the old support, nothing else changes. -/
theorem cutAt_same (t u : T) (r : Nat) (ea eb : EdgeD) (aFirst : Bool) (e : EdgeD) (c : T)
    (hk : t.kids[r]? = some (e, c)) (h : cutAt t r ea eb aFirst = some u)
    (hn : t.tipNames.Nodup) (hg : LensGood t.splits) (ga : GoodL ea.len) (gb : GoodL eb.len)
    (hlen : e.len = fuseLen ea.len eb.len) (hsup : e.sup = fuseSup ea.sup eb.sup)
    (hw : e.lenOr0 = ea.lenOr0 + eb.lenOr0) : Same t u := by
  obtain ⟨htips, hsp, _⟩ := cutAt_splits t u r ea eb aFirst e c hk h
  obtain ⟨q1, _⟩ := moveRoot_tipNames_split t r e c hk
  have hd := splits_decomp t r e c hk
  have hgu : LensGood u.splits := by
    intro s hs
    rcases List.mem_cons.1 (hsp.mem_iff.1 hs) with rfl | hs
    · exact ga
    · rcases List.mem_cons.1 hs with rfl | hs
      · exact gb
      · exact hg s (hd.mem_iff.2 (List.mem_cons_of_mem _ hs))
  -- `u` has two branches for the split that `t` has one branch for
  exact Same.symm (same_of_fuse (Y := ⟨c.leaves, e, c.isLeaf⟩) (htips.nodup_iff.2 hn) htips.symm hsp (hd.map nrm)
    ((List.perm_append_comm.trans q1).trans htips.symm) (Or.inr rfl) hlen (fun _ => hsup) hw hgu)

/-! ## RerootOutGroup: reading a successful plan -/

theorem Res.bind_ok {α β : Type} {r : Res α} {f : α → Res β} {v : β} (h : r.bind f = .ok v) :
    ∃ x, r = .ok x ∧ f x = .ok v := by
  cases r with
  | ok x => exact ⟨x, rfl, h⟩
  | err m => simp [Res.bind] at h
  | panic m => simp [Res.bind] at h

theorem check_ok_err {c : Bool} {m : String} {u : Unit} (h : check c (.err m) = .ok u) : c = true := by
  unfold check at h; split at h
  · assumption
  · cases h

theorem check_ok_panic {c : Bool} {m : String} {u : Unit} (h : check c (.panic m) = .ok u) : c = true := by
  unfold check at h; split at h
  · assumption
  · cases h

theorem ofOption_ok_err {α : Type} {o : Option α} {m : String} {v : α} (h : ofOption o (.err m) = .ok v) : o = some v := by
  cases o with
  | none => simp [ofOption] at h
  | some x => simp [ofOption] at h; rw [h]

theorem ofOption_ok_panic {α : Type} {o : Option α} {m : String} {v : α} (h : ofOption o (.panic m) = .ok v) : o = some v := by
  cases o with
  | none => simp [ofOption] at h
  | some x => simp [ofOption] at h; rw [h]

/-- what a successful plan consists of -/
theorem outgroupPlan_ok {strict : Bool} {S : List String} {t1 : T} {pl : Plan}
    (h : outgroupPlan strict S t1 = .ok pl) :
    ∃ spath : List Nat,
      pl.seff = effOutgroup t1 S ∧ pl.seff ≠ [] ∧ tempRootNeighbour t1 pl.seff = some spath ∧
      pl.ts = (rerootP t1 spath none []).1 ∧ 1 < pl.ts.kids.length ∧
      lcaNode pl.seff pl.seff.length pl.ts = .found pl.f.p pl.f.es pl.f.tip pl.f.diff ∧
      (strict = true → pl.f.diff = 0) ∧
      (pl.tn, pl.adj, pl.back) = rerootP pl.ts pl.f.p none (rerootP t1 spath none []).2.2 ∧
      rootEdgeIdx pl.tn (pl.f.es.map (adjIdx pl.adj)) = .ok pl.r := by
  unfold outgroupPlan at h
  obtain ⟨_, _, h⟩ := Res.bind_ok h
  obtain ⟨_, h2, h⟩ := Res.bind_ok h
  obtain ⟨spath, h3, h⟩ := Res.bind_ok h
  obtain ⟨_, h4, h⟩ := Res.bind_ok h
  obtain ⟨f, h5, h⟩ := Res.bind_ok h
  obtain ⟨_, h6, h⟩ := Res.bind_ok h
  obtain ⟨r, h7, h⟩ := Res.bind_ok h
  cases h
  refine ⟨spath, rfl, ?_, ofOption_ok_err h3, rfl, ?_, ?_, ?_, rfl, h7⟩
  · have := check_ok_err h2
    intro he
    simp only [Bool.not_eq_true', List.isEmpty_eq_false_iff] at this
    exact this he
  · cases strict
    · simpa using check_ok_err h4
    · simpa using check_ok_err h4
  · unfold lcaRes at h5
    split at h5
    · cases h5
    · cases h5; assumption
  · intro hs
    have := check_ok_err h6
    subst hs
    simpa using this

theorem halfEdge_good {e : EdgeD} (g : GoodL e.len) : GoodL (halfEdge e).len := by
  unfold halfEdge GoodL NIL at *
  by_cases h : e.len = -1 <;> simp [h] <;> grind

theorem halfEdge_len {e : EdgeD} (g : GoodL e.len) : e.len = fuseLen (halfEdge e).len (halfEdge e).len := by
  unfold halfEdge fuseLen GoodL NIL at *
  by_cases h : e.len = -1 <;> simp [h] <;> grind

theorem halfEdge_sup (e : EdgeD) : e.sup = fuseSup (halfEdge e).sup (halfEdge e).sup := by
  simp [halfEdge, fuseSup]

theorem halfEdge_lenOr0 {e : EdgeD} (g : GoodL e.len) : e.lenOr0 = (halfEdge e).lenOr0 + (halfEdge e).lenOr0 := by
  unfold EdgeD.lenOr0 halfEdge GoodL NIL at *
  by_cases h : e.len = -1 <;> simp [h] <;> grind

/-- the branch of kid `r` is in the split list -/
theorem kid_mem_splits (t : T) (r : Nat) (e : EdgeD) (c : T) (hk : t.kids[r]? = some (e, c)) :
    (⟨c.leaves, e, c.isLeaf⟩ : SplitE) ∈ t.splits :=
  (splits_decomp t r e c hk).mem_iff.2 (by simp)

/-! ## what re-rooting along a path presents -/

/-- follow a child-index path: the branch and the node reached -/
def descend : Kids → List Nat → Option (EdgeD × T)
  | _, [] => none
  | K, [i] => K[i]?
  | K, i :: j :: r =>
    match K[i]? with
    | none => none
    | some (_, c) => descend c.kids (j :: r)

theorem insertAt_min {α : Type} (l : List α) (p : Nat) (x : α) : insertAt l p x = insertAt l (min p l.length) x := by
  unfold insertAt
  by_cases h : p ≤ l.length
  · rw [Nat.min_eq_left h]
  · have h' : l.length ≤ p := by omega
    rw [Nat.min_eq_right h', List.take_of_length_le h', List.drop_of_length_le h']
    simp

theorem getElem_insertAt_adj {α : Type} (l : List α) (pos i : Nat) (x : α) (hp : pos ≤ l.length) :
    (insertAt l pos x)[adjIdx (some pos) i]? = l[i]? := by
  unfold insertAt adjIdx
  simp only
  by_cases h : i < pos
  · simp only [h, if_true]
    rw [List.getElem?_append_left (by simp; omega), List.getElem?_take_of_lt h]
  · simp only [h, if_false]
    rw [List.getElem?_append_right (by simp; omega)]
    have : i + 1 - (List.take pos l).length = (i - pos) + 1 := by simp; omega
    rw [this, List.getElem?_cons_succ, List.getElem?_drop]
    congr 1; omega

/-- a loop over `l` that has reached position `i` -/
theorem drop_eq_cons {α : Type} {l : List α} {i : Nat} {x : α} {r : List α} (h : l.drop i = x :: r) :
    l[i]? = some x ∧ l.drop (i + 1) = r := by
  constructor
  · have := congrArg (fun l => l[0]?) h
    simpa using this
  · have := congrArg (List.drop 1) h
    simpa [List.drop_drop, Nat.add_comm] using this

/-- the kids of the root of the moment, seen as the raw kid list `K` of the node it is -/
def Inv (t : T) (adj : Option Nat) (K : Kids) : Prop :=
  match adj with
  | none => t.kids = K
  | some pos => pos ≤ K.length ∧ ∃ x, t.kids = insertAt K pos x

theorem Inv.get {t : T} {adj : Option Nat} {K : Kids} (h : Inv t adj K) (i : Nat) :
    t.kids[adjIdx adj i]? = K[i]? := by
  cases adj with
  | none => simp only [Inv] at h; simp [adjIdx, h]
  | some pos =>
    obtain ⟨hp, x, hx⟩ := h
    rw [hx]; exact getElem_insertAt_adj K pos i x hp

/-- **Re-rooting along a path presents the tree at the node reached**: the root carries the data
    of that node, its kids are the node's kids with the former parent inserted. -/
theorem rerootP_descend : ∀ (path : List Nat) (t : T) (adj : Option Nat) (back : List Nat) (K : Kids)
    (e : EdgeD) (c : T), Inv t adj K → descend K path = some (e, c) →
    ∃ pos x, (rerootP t path adj back).1 = .node c.d 0 (insertAt c.kids pos (e, x)) ∧
      (rerootP t path adj back).2.1 = some pos ∧ pos ≤ c.kids.length
  | [], _, _, _, _, _, _, _, hd => by simp [descend] at hd
  | [i], t, adj, back, K, e, c, hinv, hd => by
    simp only [descend] at hd
    have hk : t.kids[adjIdx adj i]? = some (e, c) := by rw [hinv.get i]; exact hd
    rw [rerootP_cons_some t i [] adj back e c hk, rerootP_nil]
    refine ⟨min c.ppos c.kids.length, oldRoot t (adjIdx adj i), ?_, rfl, Nat.min_le_right _ _⟩
    rw [moveRoot_of_get t _ e c hk, ← insertAt_min]
  | i :: j :: r, t, adj, back, K, e, c, hinv, hd => by
    simp only [descend] at hd
    cases hki : K[i]? with
    | none => simp [hki] at hd
    | some ec0 =>
      obtain ⟨e0, c0⟩ := ec0
      simp only [hki] at hd
      have hk : t.kids[adjIdx adj i]? = some (e0, c0) := by rw [hinv.get i]; exact hki
      rw [rerootP_cons_some t i (j :: r) adj back e0 c0 hk]
      refine rerootP_descend (j :: r) _ _ _ c0.kids e c ?_ hd
      refine ⟨Nat.min_le_right _ _, (e0, oldRoot t (adjIdx adj i)), ?_⟩
      rw [moveRoot_of_get t _ e0 c0 hk, T.kids_node, ← insertAt_min]

/-- the last step of a path -/
theorem descend_snoc : ∀ (q : List Nat) (K : Kids) (i : Nat) (e : EdgeD) (y : T), q ≠ [] →
    descend K (q ++ [i]) = some (e, y) → ∃ e' A, descend K q = some (e', A) ∧ A.kids[i]? = some (e, y)
  | [], _, _, _, _, h, _ => absurd rfl h
  | [j], K, i, e, y, _, h => by
    simp only [List.cons_append, List.nil_append, descend] at h
    cases hk : K[j]? with
    | none => simp [hk] at h
    | some ec =>
      obtain ⟨e0, c0⟩ := ec
      simp only [hk] at h
      exact ⟨e0, c0, by simp [descend, hk], h⟩
  | j :: j2 :: r, K, i, e, y, _, h => by
    simp only [List.cons_append, descend] at h
    cases hk : K[j]? with
    | none => simp [hk] at h
    | some ec =>
      obtain ⟨e0, c0⟩ := ec
      simp only [hk] at h
      obtain ⟨e', A, hd, hA⟩ := descend_snoc (j2 :: r) c0.kids i e y (by simp) (by simpa using h)
      exact ⟨e', A, by simp [descend, hk, hd], hA⟩

theorem descend_snoc_mk : ∀ (q : List Nat) (K : Kids) (i : Nat) (e e' : EdgeD) (A y : T),
    descend K q = some (e', A) → A.kids[i]? = some (e, y) → descend K (q ++ [i]) = some (e, y)
  | [], _, _, _, _, _, _, h, _ => by simp [descend] at h
  | [j], K, i, e, e', A, y, h, hA => by
    simp only [descend] at h
    simp [descend, h, hA]
  | j :: j2 :: r, K, i, e, e', A, y, h, hA => by
    simp only [descend] at h
    cases hk : K[j]? with
    | none => simp [hk] at h
    | some ec =>
      obtain ⟨e0, c0⟩ := ec
      simp only [hk] at h
      have := descend_snoc_mk (j2 :: r) c0.kids i e e' A y h hA
      simp only [List.cons_append] at this ⊢
      simp [descend, hk, this]

/-- re-rooting along all but the last step of a path presents the last branch of the path at the root -/
theorem rerootP_last (q : List Nat) (i : Nat) (t : T) (back : List Nat) (e : EdgeD) (y : T)
    (hd : descend t.kids (q ++ [i]) = some (e, y)) :
    ∃ tA adj bk, rerootP t q none back = (tA, adj, bk) ∧ tA.kids[adjIdx adj i]? = some (e, y) := by
  cases q with
  | nil => exact ⟨t, none, back, rfl, by simpa [descend, adjIdx] using hd⟩
  | cons j q' =>
    obtain ⟨e', A, hdA, hA⟩ := descend_snoc (j :: q') t.kids i e y (by simp) hd
    obtain ⟨pos, x, r1, r2, r3⟩ := rerootP_descend (j :: q') t none back t.kids e' A rfl hdA
    rcases hR : rerootP t (j :: q') none back with ⟨tA, adj, bk⟩
    rw [hR] at r1 r2
    refine ⟨tA, adj, bk, rfl, ?_⟩
    rw [show tA = _ from r1, show adj = _ from r2, T.kids_node, getElem_insertAt_adj _ _ _ _ r3]
    exact hA

/-- branch data along a path given from a kid list -/
def edgesAlongK : Kids → List Nat → List EdgeD
  | _, [] => []
  | K, i :: r =>
    match K[i]? with
    | none => []
    | some (e, c) => e :: edgesAlongK c.kids r

theorem edgesAlong_eq (t : T) (c : List Nat) : edgesAlong t c = edgesAlongK t.kids c := by
  induction c generalizing t with
  | nil => cases t; simp [edgesAlong, edgesAlongK]
  | cons i r ih =>
    simp only [edgesAlong, edgesAlongK]
    cases h : t.kids[i]? with
    | none => rfl
    | some ec => obtain ⟨e, c⟩ := ec; simp [ih]

/-- the path leads somewhere: one branch per index -/
def ValidK (K : Kids) (c : List Nat) : Prop := (edgesAlongK K c).length = c.length

end Gotree.C05

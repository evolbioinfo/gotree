/-
  C01 — simulation: the literal node-stack machine (Model/C01Lit.lean) and the functional machine
  (`Newick.iter` / `Newick.run`) compute the same thing from the initial state.  Core Lean only.
-/
import Gotree.Model.C01Lit
import Gotree.Lemmas.C01


namespace Gotree.Newick.Lit
open Gotree Gotree.Newick

def eraseF (f : LFrame) : Frame := ⟨f.d, f.e.getD EdgeD.blank, f.kids⟩

/-- forget the two variables and the nil-ness of the stored edges -/
def erase (l : LState) : PState := ⟨l.stack.map eraseF, l.level, l.prevTok, l.nedges, l.done, l.stale⟩

def eraseO : Outcome (LState × List Char) → Outcome (PState × List Char)
  | .ok (l, r) => .ok (erase l, r)
  | .err m => .err m
  | .panic m => .panic m
  | .unrep m => .unrep m

def eraseIter : IterL → Iter
  | .cont l r => .cont (erase l) r
  | .stop o => .stop (eraseO o)

/-- only the bottom element was pushed with a nil edge -/
def Shape : List LFrame → Prop
  | [] => True
  | [f] => f.e = none
  | f :: p :: r => (∃ e, f.e = some e) ∧ Shape (p :: r)

/-- the invariant: the variables are what `Head()` would answer, and `Shape` -/
def Inv (l : LState) : Prop :=
  l.nodeNil = l.stack.isEmpty ∧ l.edgeNil = decide (l.stack.length ≤ 1) ∧ Shape l.stack

theorem inv_init : Inv {} := ⟨rfl, rfl, trivial⟩

theorem len2_le_one (n : Nat) : (n + 1 + 1 ≤ 1) = False := eq_false (by omega)

theorem eraseIter_ite {c : Prop} [Decidable c] {a b : IterL} {a' b' : Iter} (ha : eraseIter a = a') (hb : eraseIter b = b') :
    eraseIter (if c then a else b) = if c then a' else b' := by
  split <;> assumption

/-- One turn.  Under the invariant the stack is empty, or the root alone (pushed with a nil edge), or has a node with
    its edge on top; in each case the two variables are known, so the tests on them are evaluated away on both
    sides.  What remains is the same tree of tests on both sides: descend it by congruence (`eraseIter_ite`, after
    a case distinction where a value is matched on), and at each leaf the two states are equal by computation. -/
theorem iter_sim (C : Codec) (l : LState) (tok : Tok) (lit pos rest : List Char) (h : Inv l) :
    eraseIter (iterL C l tok lit pos rest) = iter C (erase l) tok lit pos rest := by
  obtain ⟨stack, nn, en, L, pt, n, dn, sb⟩ := l
  obtain ⟨h1, h2, h3⟩ := h
  rcases stack with _ | ⟨⟨fd, fe, fk⟩, _ | ⟨p, r⟩⟩
  case' cons.nil => simp only [Shape] at h3; subst h3
  case' cons.cons => obtain ⟨⟨e, he⟩, -⟩ := h3; simp only at he; subst he
  all_goals
    simp at h1 h2
    subst h1 h2
    simp only [iterL, iter, LState.pop, PState.pop, PState.nodeNil, PState.edgeNil, erase, List.map_cons, List.map_nil,
      List.isEmpty_cons, List.isEmpty_nil, List.length_cons, List.length_nil, List.length_map, len2_le_one, Nat.le_refl,
      Nat.zero_le, decide_true, decide_false, Bool.not_true, Bool.not_false, Bool.and_true, Bool.and_false, Bool.true_and,
      Bool.false_and, Bool.or_true, Bool.or_false, Bool.false_eq_true, if_true, if_false]
    cases tok
    case' openbrack => cases consumeComment C rest []
    case' startlen => cases C.parse (scanIW C rest).2.1
    case' numeric => simp only [beq_self_eq_true, if_true]; cases C.parse lit
    case' ident =>
      simp only [show (Tok.ident == Tok.numeric) = false from rfl, Bool.false_eq_true, if_false]
      rcases splitSlash lit with _ | ⟨a, _ | ⟨b, _ | ⟨c, t⟩⟩⟩ <;> simp only []
    case' cons.cons.nil => cases C.parse a <;> cases C.parse b
    all_goals repeat' (first | refine eraseIter_ite ?_ ?_ | rfl)

theorem shape_tail (f : LFrame) (s : List LFrame) (h : Shape (f :: s)) : Shape s := by
  cases s with
  | nil => trivial
  | cons p r => exact h.2

/-- the variables after `Head()` satisfy the invariant on any well-shaped stack -/
theorem inv_headVars (l : LState) (h : Shape l.stack) : Inv l.headVars := by
  obtain ⟨stack, nn, en, L, pt, n, dn, sb⟩ := l
  simp only at h
  cases stack with
  | nil => exact ⟨rfl, rfl, trivial⟩
  | cons f s =>
    cases s with
    | nil =>
      simp only [Shape] at h
      simp [Inv, LState.headVars, Shape, h]
    | cons p r =>
      obtain ⟨⟨e, he⟩, h2⟩ := h
      simp [Inv, LState.headVars, Shape, he, h2]

theorem inv_pop (l l' : LState) (h : Inv l) (hp : l.pop = some l') : Inv l' := by
  obtain ⟨stack, nn, en, L, pt, n, dn, sb⟩ := l
  obtain ⟨-, -, h3⟩ := h
  simp only at h3
  cases stack with
  | nil => simp [LState.pop] at hp
  | cons f s =>
    have hs := shape_tail f s h3
    simp only [LState.pop] at hp
    split at hp
    · cases hp
      exact inv_headVars _ hs
    · split at hp
      · rename_i p r2
        cases hp
        apply inv_headVars
        simp only []
        cases r2 with
        | nil => exact hs
        | cons q r3 => exact ⟨hs.1, hs.2⟩
      · cases hp
        exact inv_headVars _ trivial

theorem inv_pushChild (l : LState) (name : String) (h : Inv l) (hn : ¬l.nodeNil = true) : Inv (l.pushChild name) := by
  obtain ⟨stack, nn, en, L, pt, n, dn, sb⟩ := l
  obtain ⟨h1, _, h3⟩ := h
  simp only at h1 h3 hn
  cases stack with
  | nil => simp [hn] at h1
  | cons f s => simp [Inv, LState.pushChild, Shape, h3]

theorem inv_pushRoot (l : LState) (h : Inv l) (hn : l.nodeNil = true) : Inv l.pushRoot := by
  obtain ⟨stack, nn, en, L, pt, n, dn, sb⟩ := l
  obtain ⟨h1, h2, h3⟩ := h
  simp only at h1 h2 h3 hn
  cases stack with
  | nil => simp at h2; simp [Inv, LState.pushRoot, Shape, h2]
  | cons f s => simp [hn] at h1

theorem inv_modTop (l : LState) (g : LFrame → LFrame) (hg : ∀ f, (g f).e.isSome = f.e.isSome) (h : Inv l) :
    Inv (l.modTop g) := by
  obtain ⟨stack, nn, en, L, pt, n, dn, sb⟩ := l
  obtain ⟨h1, h2, h3⟩ := h
  rcases stack with _ | ⟨f, _ | ⟨p, r⟩⟩
  · exact ⟨h1, h2, h3⟩
  · have := hg f
    simp only [Shape] at h3
    rw [h3] at this
    exact ⟨h1, h2, by simpa [Shape, LState.modTop] using this⟩
  · obtain ⟨⟨e, he⟩, h4⟩ := h3
    exact ⟨h1, h2, Option.isSome_iff_exists.1 (by rw [hg f, he]; rfl), h4⟩

theorem inv_fields (l : LState) (L : Int) (pt : Option Tok) (sb : Bool) (h : Inv l) :
    Inv { l with level := L, prevTok := pt, stale := sb } := h

theorem isSome_map {α} (g : α → α) (o : Option α) : (o.map g).isSome = o.isSome := by cases o <;> rfl

theorem inv_onEdge (l : LState) (g : EdgeD → EdgeD) (h : Inv l) : Inv (l.onEdge g) :=
  inv_modTop l _ (fun f => isSome_map g f.e) h

/-- the state a turn goes on with satisfies the invariant -/
def ContInv : IterL → Prop
  | .cont l _ => Inv l
  | .stop _ => True

theorem contInv_ite {c : Prop} [Decidable c] {a b : IterL} (ha : c → ContInv a) (hb : ¬c → ContInv b) :
    ContInv (if c then a else b) := by
  split
  · exact ha ‹_›
  · exact hb ‹_›

theorem iter_contInv (C : Codec) (l : LState) (tok : Tok) (lit pos rest : List Char) (hinv : Inv l) :
    ContInv (iterL C l tok lit pos rest) := by
  cases tok <;> simp only [iterL]
  case' openbrack => cases consumeComment C rest []
  case' startlen => cases C.parse (scanIW C rest).2.1
  case' closepar => cases hp : l.pop <;> simp only []
  case' newsibling => cases hp : l.pop <;> simp only []
  case' numeric => simp only [beq_self_eq_true, if_true]; cases C.parse lit
  case' ident =>
    simp only [show (Tok.ident == Tok.numeric) = false from rfl, Bool.false_eq_true, if_false]
    rcases splitSlash lit with _ | ⟨a, _ | ⟨b, _ | ⟨c, t⟩⟩⟩ <;> simp only []
  case' cons.cons.nil => cases C.parse a <;> cases C.parse b
  all_goals repeat' (first
    | refine contInv_ite (fun hc => ?_) (fun hc => ?_)
    | exact trivial
    | exact hinv
    | exact inv_pushRoot _ hinv ‹l.nodeNil = true›
    | exact inv_pushChild _ _ hinv ‹¬l.nodeNil = true›
    | exact (inv_pop l _ hinv hp : Inv _)
    | exact inv_modTop _ _ (fun _ => rfl) hinv
    | exact inv_onEdge _ _ hinv
    | exact inv_onEdge _ _ (inv_onEdge _ _ hinv))

/- ## the loops -/

theorem runL_step (C : Codec) (st : LState) (p : List Char) :
    runL C st p = (match iterL C st (scanIW C p).1 (scanIW C p).2.1 (skipWs C p) (scanIW C p).2.2 with
      | .stop o => o
      | .cont st' r' => if (scanIW C p).1 = .eof then .err "unreachable: EOF always stops" else runL C st' r') := by
  rw [runL]
  split
  · rename_i o ho; rw [ho]
  · rename_i st' r' hi; rw [hi]; simp only []; split <;> rfl

/-- The literal machine and the functional machine agree on every input, from every state satisfying the
    invariant, and the literal machine ends in a state satisfying it. -/
theorem runL_sim (C : Codec) (l : LState) (inp : List Char) (hinv : Inv l) :
    eraseO (runL C l inp) = run C (erase l) inp ∧ ∀ l' r, runL C l inp = .ok (l', r) → Inv l' := by
  induction l, inp using runL.induct C with
  | case1 l inp o ho =>
    have hsim := iter_sim C l (scanIW C inp).1 (scanIW C inp).2.1 (skipWs C inp) (scanIW C inp).2.2 hinv
    have hf := iterL_fits C l (scanIW C inp).1 (scanIW C inp).2.1 (skipWs C inp) (scanIW C inp).2.2
    rw [ho] at hsim hf
    rw [runL_step, ho, run_stop C (erase l) inp (eraseO o) hsim.symm]
    refine ⟨rfl, fun l' r h => ?_⟩
    subst h
    obtain ⟨pt, rfl⟩ := hf
    exact hinv
  | case2 l inp l' r' hi he =>
    have hf := iterL_fits C l (scanIW C inp).1 (scanIW C inp).2.1 (skipWs C inp) (scanIW C inp).2.2
    rw [hi] at hf
    exact absurd he hf.1
  | case3 l inp l' r' hi he ih =>
    have hsim := iter_sim C l (scanIW C inp).1 (scanIW C inp).2.1 (skipWs C inp) (scanIW C inp).2.2 hinv
    have hci := iter_contInv C l (scanIW C inp).1 (scanIW C inp).2.1 (skipWs C inp) (scanIW C inp).2.2 hinv
    rw [hi] at hsim hci
    rw [runL_step, hi, run_cont C (erase l) inp (erase l') r' hsim.symm he]
    simp only [if_neg he]
    exact ih hci

/-- From the initial state of parseIter the two machines compute the same outcome (state up to the
    forgotten variables): the nil tests that `Newick.iter` derives from the shape of the stack are the
    tests on the variables `node` and `edge` of the code. -/
theorem runL_eq_run (C : Codec) (inp : List Char) : eraseO (runL C {} inp) = run C {} inp :=
  (runL_sim C {} inp inv_init).1

theorem unwind_sim : ∀ (s : List LFrame) (f : LFrame) (acc : Option (EdgeD × T)), Shape (f :: s) →
    LState.unwind (f :: s) acc = PState.unwind (eraseF f :: s.map eraseF) acc := by
  intro s
  induction s with
  | nil =>
    intro f acc hs
    simp only [Shape] at hs
    cases acc <;> simp [LState.unwind, PState.unwind, eraseF, hs, LFrame.toT, Frame.toT]
  | cons p r ih =>
    intro f acc hs
    obtain ⟨⟨e, he⟩, hs2⟩ := hs
    cases acc <;> rw [LState.unwind, List.map_cons, PState.unwind] <;>
      simp only [he, eraseF, Option.getD_some, LFrame.toT, Frame.toT] <;> exact ih p _ hs2

/-- … and they deliver the same tree. -/
theorem result_sim (l : LState) (h : Inv l) : l.result = (erase l).result := by
  obtain ⟨stack, nn, en, L, pt, n, dn, sb⟩ := l
  obtain ⟨-, -, h3⟩ := h
  simp only at h3
  cases stack with
  | nil => rfl
  | cons f s =>
    simp only [LState.result, PState.result, erase, List.map_cons]
    exact unwind_sim s f none h3

/-- `Parse` on the literal machine is `Newick.parse`. -/
theorem parseL_eq_parse (C : Codec) (inp : List Char) : parseL C inp = Newick.parse C inp := by
  unfold parseL Newick.parse
  simp only []
  generalize (if (scanIW C inp).1 = Tok.openbrack then
      (match consumeComment C (scanIW C inp).2.2 [] with
        | none => none
        | some (_, r) => some r)
    else some inp) = start
  cases start with
  | none => rfl
  | some inp1 =>
    simp only []
    by_cases hop : (scanIW C inp1).1 ≠ Tok.openpar
    · rw [if_pos hop, if_pos hop]
    · rw [if_neg hop, if_neg hop]
      have hsim := runL_eq_run C (skipWs C inp1)
      cases hr : runL C {} (skipWs C inp1) with
      | ok p =>
        obtain ⟨l', r⟩ := p
        rw [hr] at hsim; simp only [eraseO] at hsim; rw [← hsim]
        have hinv := (runL_sim C {} _ inv_init).2 l' r hr
        simp only [result_sim l' hinv]
        rfl
      | _ => rw [hr] at hsim; simp only [eraseO] at hsim; rw [← hsim]

end Gotree.Newick.Lit

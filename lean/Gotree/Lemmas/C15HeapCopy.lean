/-
  C15 — Clone / SubTree on the heap.  A copy is a heap program that writes ONLY cells it has
  allocated itself; when moreover every reference it stores is one of its own cells — which is
  what table (d) decides (`allRefFieldsFresh`) — nothing reachable from the new root existed
  before: the copy is disjoint from its source (and from everything else), and the source is
  untouched.  With a `shared` field in the table the stored reference is a path into the
  source, and the statement fails (that is F-like defect "CopyNode shares the comment slice").
  Core Lean only.
-/
import Gotree.Lemmas.C15HeapProg
import Gotree.Model.C15

namespace Gotree.C15.Heap
open Gotree Gotree.C15

theorem writes_fresh {o : Op} (ht : o.freshTarget = true) (hr : o.freshRefs = true) : ∀ s ∈ o.writes, s.isFresh = true := by
  cases o <;> simp_all [Op.writes, Op.freshTarget, Op.freshRefs]

/-- a program that writes only its own cells and stores only references to its own cells: the invariant with
    no old cell at its disposal — every old cell is as it was, the new cells refer to new cells -/
theorem exec_fresh {h0 : H} {r : Addr} (os : List Op) (hos : ∀ o ∈ os, o.freshTarget = true ∧ o.freshRefs = true) :
    GInv (fun _ => False) h0 (exec r h0.next os h0) :=
  GInv.exec os h0 (GInv.init fun _ h => h.elim) fun o ho _ _ s hs _ hr =>
    Or.inr (resolve_fresh (writes_fresh (hos o ho).1 (hos o ho).2 s hs) hr)

/-- ★ a program that writes only its own cells and stores only references to its own cells builds,
    at any of its cells `c`, a structure disjoint from every tree `r'` that existed before — and leaves
    that tree exactly as it was -/
theorem fresh_prog_disjoint (r : Addr) (os : List Op) (h0 : H)
    (hos : ∀ o ∈ os, o.freshTarget = true ∧ o.freshRefs = true) (r' : Addr) (ha' : Alloc h0 r')
    (c : Addr) (hc : h0.next ≤ c ∧ c < (exec r h0.next os h0).next) :
    Disjoint (exec r h0.next os h0) c r' ∧ SameOn h0 (exec r h0.next os h0) r' ∧
    (∀ a, Reach (exec r h0.next os h0) r' a ↔ Reach h0 r' a) ∧ Alloc (exec r h0.next os h0) c := by
  have hi := exec_fresh (h0 := h0) (r := r) os hos
  have hs : SameOn h0 (exec r h0.next os h0) r' := fun a hra => hi.same a (ha' a hra) id
  have hiff : ∀ a, Reach (exec r h0.next os h0) r' a ↔ Reach h0 r' a := fun a => ⟨reach_back hs a, reach_of_sameOn hs a⟩
  have hown : ∀ a, Reach (exec r h0.next os h0) c a → h0.next ≤ a ∧ a < (exec r h0.next os h0).next :=
    fun a hca => (hi.reach (Or.inr hc) a hca).resolve_left id
  exact ⟨fun a hca hra => absurd (ha' a ((hiff a).mp hra)) (Nat.not_lt.mpr (hown a hca).1), hs, hiff,
    fun a hca => (hown a hca).2⟩

/-! ## the copy of `copyTreeRecur` as a heap program

  Layout of the cells (reference fields, in this order):
    Tree  : [root node, tip index]              Node : [comment array, neigh array, br array]
    Edge  : [left, right, comment array, bitset] arrays : their elements
  Every node of the copy takes 4 fresh cells (struct + 3 arrays), every branch 3 (struct,
  comment array, bitset). -/

theorem refSrc_fresh (own : Nat) (p : List Nat) : (refSrc false own p).isFresh = true := by simp [refSrc, Src.isFresh]

/- every operation of the copy program under `Plan.none` has a fresh target and fresh references: the
   operation lists are explicit, so this is read off them piece by piece -/
mutual
theorem copyNodeOps_fresh : ∀ (t : T) (sp : List Nat) (isRoot : Bool) (up : Option (Nat × Nat)) (k : Nat),
    ∀ o ∈ (copyNodeOps Plan.none t sp isRoot up k).1, o.freshTarget = true ∧ o.freshRefs = true
  | .node d pp kids, sp, isRoot, up, k => by
    simp only [copyNodeOps, List.forall_mem_append, List.forall_mem_cons]
    refine ⟨⟨by simp [Op.freshTarget, Op.freshRefs, Src.isFresh, Plan.none, refSrc],
      copyKidsOps_fresh kids sp isRoot pp 0 k (k + 4)⟩, ?_⟩
    cases up <;> simp [Op.freshTarget, Op.freshRefs, Src.isFresh]
theorem copyKidsOps_fresh : ∀ (kids : Kids) (sp : List Nat) (isRoot : Bool) (pp i parent k : Nat),
    ∀ o ∈ (copyKidsOps Plan.none kids sp isRoot pp i parent k).1, o.freshTarget = true ∧ o.freshRefs = true
  | [], _, _, _, _, _, _ => by simp [copyKidsOps]
  | (e, t) :: rest, sp, isRoot, pp, i, parent, k => by
    simp only [copyKidsOps, List.forall_mem_append, List.forall_mem_cons]
    exact ⟨⟨⟨by simp [Op.freshTarget, Op.freshRefs], copyNodeOps_fresh t _ false _ (k + 3)⟩,
      by simp [Op.freshTarget, Op.freshRefs, Src.isFresh, Plan.none, refSrc]⟩,
      copyKidsOps_fresh rest sp isRoot pp (i + 1) parent _⟩
end

theorem sharedIn_false_of_fresh {tb : Table} {rf : RecurFacts} (h : allRefFieldsFresh tb rf = true)
    (owner name : String) (hk : ∀ f ∈ tb, f.owner = owner → f.name = name → f.kind.isRef = true) :
    sharedIn tb owner name = false := by
  simp only [allRefFieldsFresh, Bool.and_eq_true, List.all_eq_true] at h
  have h1 := h.1.1.1.1.1
  simp only [sharedIn, List.any_eq_false, Bool.and_eq_true, beq_iff_eq, not_and]
  intro f hf ho hs
  have := h1 f hf
  have hr := hk f hf ho.1 ho.2
  simp [hr, hs] at this

theorem step_next_mono (r base : Addr) (h : H) (o : Op) : h.next ≤ (step r base h o).next := by
  cases o with
  | setData t v => simp only [step]; split <;> exact Nat.le_refl _
  | setPtrs t l => simp only [step]; split <;> exact Nat.le_refl _
  | copyData t s => simp only [step]; split <;> exact Nat.le_refl _
  | alloc => exact Nat.le_succ _

theorem exec_next_mono (r base : Addr) : ∀ (os : List Op) (h : H), h.next ≤ (exec r base os h).next
  | [], _ => Nat.le_refl _
  | o :: os, h => Nat.le_trans (step_next_mono r base h o) (exec_next_mono r base os _)

/-- the first cell a copy allocates is the struct of its root node -/
theorem cloneOpsAt_cons (tb : Table) (t : T) (sp : List Nat) (b : Bool) : ∃ rest, cloneOpsAt tb t sp b = Op.alloc :: rest := by
  cases t with
  | node d pp kids => exact ⟨_, rfl⟩

theorem disjoint_symm {h : H} {r r' : Addr} (hd : Disjoint h r r') : Disjoint h r' r :=
  fun a ha hb => hd a hb ha

/-- ★ `SubTree` at any node (`b` = the node is the root of the source) with a table that shares nothing, then ANY
    history of heap programs run on the copy: the source keeps every cell content and its set of cells; and the
    same with the roles exchanged (edits of the source never reach the copy). -/
theorem subtree_then_edit_frame (tb : Table) (hp : planOf tb = Plan.none) (t : T) (sp : List Nat) (b : Bool)
    (src : Addr) (h0 : H) (hsrc : Alloc h0 src) (progs : List (H → List Op)) :
    let h1 := exec src h0.next (cloneOpsAt tb t sp b) h0
    let cp := h0.next
    (SameOn h0 h1 src ∧ Disjoint h1 cp src) ∧
    (SameOn h1 (run (progs.map (runProg cp)) h1) src ∧ Disjoint (run (progs.map (runProg cp)) h1) cp src) ∧
    (SameOn h1 (run (progs.map (runProg src)) h1) cp ∧ Disjoint (run (progs.map (runProg src)) h1) src cp) := by
  intro h1 cp
  have hfresh : ∀ o ∈ cloneOpsAt tb t sp b, o.freshTarget = true ∧ o.freshRefs = true := by
    simp only [cloneOpsAt, hp]; exact copyNodeOps_fresh t sp b none 0
  have hlt : h0.next < h1.next := by
    obtain ⟨rest, hr⟩ := cloneOpsAt_cons tb t sp b
    show h0.next < (exec src h0.next (cloneOpsAt tb t sp b) h0).next
    rw [hr]
    exact Nat.lt_of_lt_of_le (Nat.lt_succ_self _) (exec_next_mono src h0.next rest (allocCell h0))
  obtain ⟨hd, hs, hiff, hacp⟩ := fresh_prog_disjoint src (cloneOpsAt tb t sp b) h0 hfresh src hsrc cp ⟨Nat.le_refl _, hlt⟩
  have hasrc : Alloc h1 src := fun a ha =>
    Nat.lt_of_lt_of_le (hsrc a ((hiff a).mp ha)) (exec_next_mono src h0.next _ h0)
  have f1 := progs_frame (r := cp) (r' := src) progs h1 hacp hasrc hd
  have f2 := progs_frame (r := src) (r' := cp) progs h1 hasrc hacp (disjoint_symm hd)
  exact ⟨⟨hs, hd⟩, ⟨f1.1, f1.2.2⟩, ⟨f2.1, f2.2.2⟩⟩

/-- `Clone` (and `SubTree` at the root): `cloneOps` is `cloneOpsAt … true` -/
theorem clone_then_edit_frame (tb : Table) (hp : planOf tb = Plan.none) (t : T) (sp : List Nat)
    (src : Addr) (h0 : H) (hsrc : Alloc h0 src) (progs : List (H → List Op)) :
    let h1 := exec src h0.next (cloneOps tb t sp) h0
    let cp := h0.next
    (SameOn h0 h1 src ∧ Disjoint h1 cp src) ∧
    (SameOn h1 (run (progs.map (runProg cp)) h1) src ∧ Disjoint (run (progs.map (runProg cp)) h1) cp src) ∧
    (SameOn h1 (run (progs.map (runProg src)) h1) cp ∧ Disjoint (run (progs.map (runProg src)) h1) src cp) :=
  subtree_then_edit_frame tb hp t sp true src h0 hsrc progs

end Gotree.C15.Heap

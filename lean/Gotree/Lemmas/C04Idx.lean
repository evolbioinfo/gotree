/-
  C04 — the two-pass index equals the direct definition (`specIdx`), and what follows
  for hash codes and equality of branches.  Core Lean only.
-/
import Gotree.Spec.C04
import Gotree.Lemmas.Core

namespace Gotree.C04
open Gotree

/-! ## sums of name hashes -/

theorem sumH_append (H : String → UInt64) (a b : List String) : sumH H (a ++ b) = sumH H a + sumH H b := by
  induction a with
  | nil => simp [sumH]
  | cons x r ih => simp only [List.cons_append, sumH, ih, UInt64.add_assoc]

theorem sumH_perm (H : String → UInt64) {a b : List String} (p : a.Perm b) : sumH H a = sumH H b := by
  induction p with
  | nil => rfl
  | cons x _ ih => simp only [sumH, ih]
  | swap x y l => simp only [sumH]; rw [← UInt64.add_assoc, ← UInt64.add_assoc, UInt64.add_comm (H y)]
  | trans _ _ ih1 ih2 => exact ih1.trans ih2

/-! ## the right pass -/

mutual
theorem rightT_eq (H : String → UInt64) : ∀ t : T, rightT H t = (sumH H t.leaves, t.leaves.length)
  | .node d _ [] => by simp [rightT, T.leaves, sumH]
  | .node _ _ (k :: ks) => by
    rw [rightT, T.leaves]; exact rightL_eq H (k :: ks)
theorem rightL_eq (H : String → UInt64) : ∀ k : Kids, rightL H k = (sumH H (leavesL k), (leavesL k).length)
  | [] => by simp [rightL, leavesL, sumH]
  | (_, t) :: r => by
    rw [rightL, leavesL, rightT_eq H t, rightL_eq H r, sumH_append, List.length_append]
end

/-! ## complement of a contiguous segment -/

theorem compl_mid {pre below post : List String} (hn : (pre ++ below ++ post).Nodup) :
    compl (pre ++ below ++ post) below = pre ++ post := by
  simp only [List.nodup_append, List.mem_append] at hn
  have e1 : pre.filter (fun x => !below.contains x) = pre :=
    List.filter_eq_self.mpr fun x hx => by simpa using fun hb => hn.1.2.2 x hx x hb rfl
  have e2 : below.filter (fun x => !below.contains x) = [] :=
    List.filter_eq_nil_iff.mpr fun x hx => by simp [hx]
  have e3 : post.filter (fun x => !below.contains x) = post :=
    List.filter_eq_self.mpr fun x hx => by simpa using fun hb => hn.2.2 x (.inr hb) x hx rfl
  rw [compl, List.filter_append, List.filter_append, e1, e2, e3, List.append_nil]

/-! ## bitsets -/

theorem mkBits_eq {sorted below : List String} (hn : sorted.Nodup) (hs : ∀ x ∈ below, x ∈ sorted) :
    mkBits sorted.length (below.map fun x => sorted.idxOf x) = sorted.map fun x => below.contains x := by
  apply List.ext_getElem
  · simp [mkBits]
  · intro i h1 h2
    have hi : i < sorted.length := by simpa [mkBits] using h1
    simp only [mkBits, List.getElem_map, List.getElem_range]
    rw [Bool.eq_iff_iff, List.contains_iff_mem, List.contains_iff_mem, List.mem_map]
    constructor
    · rintro ⟨x, hx, rfl⟩
      rwa [List.getElem_idxOf (List.idxOf_lt_length_of_mem (hs x hx))]
    · exact fun hm => ⟨_, hm, hn.idxOf_getElem i hi⟩
/-! ## the left pass: the model's list is the map of `specIdx` over the split list -/

section
variable (H : String → UInt64) (tips : List String)

/-- the parameters `reinit` passes down -/
abbrev rk : String → Nat := fun x => (sortNames tips).idxOf x

theorem sortNames_perm (l : List String) : (sortNames l).Perm l := List.mergeSort_perm _ _

theorem head_entry (hn : tips.Nodup) {pre below post : List String} (ht : tips = pre ++ below ++ post)
    (hl : Nat) (hh hr : UInt64) (nr : Nat)
    (e1 : hh = sumH H pre + sumH H post) (e2 : hl = pre.length + post.length)
    (e3 : hr = sumH H below) (e4 : nr = below.length) :
    ({ bits := mkBits (sortNames tips).length (below.map (rk tips)), nleft := hl, nright := nr, hleft := hh, hright := hr } : EdgeIdx)
      = specIdx H tips below := by
  have hs : (sortNames tips).Nodup := (sortNames_perm tips).nodup_iff.mpr hn
  have hsub : ∀ x ∈ below, x ∈ sortNames tips := by
    intro x hx
    apply (sortNames_perm tips).mem_iff.mpr
    rw [ht]; exact List.mem_append_left _ (List.mem_append_right _ hx)
  have hc : compl tips below = pre ++ post := by rw [ht]; exact compl_mid (ht ▸ hn)
  unfold specIdx
  rw [hc, sumH_append, List.length_append, mkBits_eq hs hsub, e1, e2, e3, e4]

mutual
theorem idxT_eq (hn : tips.Nodup) : ∀ (t : T) (pre post : List String) (up : UInt64 × Nat),
    tips = pre ++ t.leaves ++ post → up.1 = sumH H pre + sumH H post → up.2 = pre.length + post.length →
    idxT H (rk tips) (sortNames tips).length up t = t.splitsBelow.map fun s => specIdx H tips s.below
  | .node _ _ [], _, _, _, _, _, _ => by simp [idxT, idxL, T.splitsBelow, splitsL]
  | .node _ _ (k :: ks), pre, post, up, ht, h1, h2 => by
    rw [idxT, T.splitsBelow]
    rw [T.leaves] at ht
    exact idxL_eq hn (k :: ks) pre post up (0, 0) ht (by simpa using h1) (by simpa using h2)
theorem idxL_eq (hn : tips.Nodup) : ∀ (k : Kids) (pre post : List String) (up acc : UInt64 × Nat),
    tips = pre ++ leavesL k ++ post → up.1 + acc.1 = sumH H pre + sumH H post → up.2 + acc.2 = pre.length + post.length →
    idxL H (rk tips) (sortNames tips).length up acc k = (splitsL k).map fun s => specIdx H tips s.below
  | [], _, _, _, _, _, _, _ => by simp [idxL, splitsL]
  | (e, t) :: r, pre, post, up, acc, ht, h1, h2 => by
    rw [leavesL] at ht
    have ht1 : tips = pre ++ t.leaves ++ (leavesL r ++ post) := by rw [ht]; simp [List.append_assoc]
    have ht2 : tips = (pre ++ t.leaves) ++ leavesL r ++ post := by rw [ht]; simp [List.append_assoc]
    have hR := rightL_eq H r
    have hT := rightT_eq H t
    have eh : up.1 + acc.1 + (rightL H r).1 = sumH H pre + sumH H (leavesL r ++ post) := by
      rw [hR, h1, sumH_append]
      simp only [UInt64.add_assoc]
      rw [UInt64.add_comm (sumH H post)]
    have en : up.2 + acc.2 + (rightL H r).2 = pre.length + (leavesL r ++ post).length := by
      rw [hR, h2, List.length_append]; simp only; omega
    rw [idxL, splitsL, List.map_cons, List.map_append]
    congr 1
    · exact head_entry H tips hn ht1 _ _ _ _ eh en (by rw [hT]) (by rw [hT])
    · congr 1
      · exact idxT_eq hn t pre (leavesL r ++ post) _ ht1 eh en
      · refine idxL_eq hn r (pre ++ t.leaves) post up _ ht2 ?_ ?_
        · show up.1 + (acc.1 + (rightT H t).1) = _
          rw [hT, ← UInt64.add_assoc, h1, sumH_append]
          simp only [UInt64.add_assoc]
          rw [UInt64.add_comm (sumH H post)]
        · show up.2 + (acc.2 + (rightT H t).2) = _
          rw [hT, List.length_append]; simp only; omega
end

end

/-- `ReinitIndexes` on a tree with unique tip names and at least one tip: the ranks are the
    sorted names, and every branch carries `specIdx` of its split. -/
theorem reinit_eq (H : String → UInt64) (t : T) (hn : t.tipNames.Nodup) (hne : t.tipNames ≠ []) :
    reinit H t = .ok (sortNames t.tipNames, t.splits.map fun s => specIdx H t.tipNames s.below) := by
  have hs : (sortNames t.tipNames).Nodup := (sortNames_perm _).nodup_iff.mpr hn
  have hl : (sortNames t.tipNames).length ≠ 0 := by
    rw [(sortNames_perm _).length_eq]; exact fun h => hne (List.length_eq_zero_iff.mp h)
  unfold reinit
  simp only [hs, decide_true, Bool.not_true, Bool.false_eq_true, if_false, beq_iff_eq, hl]
  congr 2
  have ht : t.tipNames = (if t.kids.length == 1 then [t.name] else []) ++ leavesL t.kids ++ [] := by
    simp [T.tipNames]
  have := idxL_eq H t.tipNames hn t.kids (if t.kids.length == 1 then [t.name] else []) [] (rootUp H t) (0, 0) ht
    (by unfold rootUp; split <;> simp [sumH]) (by unfold rootUp; split <;> simp)
  exact this

/-! ## `sameSplit` is an equivalence that sees `all` only as a set -/

theorem sameSplit_iff (all a b : List String) : sameSplit all a b = true ↔
    (∀ x ∈ all, a.contains x = b.contains x) ∨ (∀ x ∈ all, a.contains x = !b.contains x) := by
  simp only [sameSplit, sameSide, complSide, Bool.or_eq_true, List.all_eq_true, beq_iff_eq, bne_iff_ne, ne_eq, Bool.eq_not]

theorem sameSplit_eq_vec (all a b : List String) :
    sameSplit all a b = sameSplitV (memVec all a) (memVec all b) := by
  rw [Bool.eq_iff_iff, sameSplit_iff]
  simp only [sameSplitV, memVec, Bool.or_eq_true, beq_iff_eq, List.map_map, List.map_inj_left, Function.comp,
    Bool.eq_not, Bool.not_eq]

theorem sameSplit_refl (all a : List String) : sameSplit all a a = true :=
  (sameSplit_iff all a a).mpr (Or.inl fun _ _ => rfl)

theorem sameSplit_symm {all a b : List String} (h : sameSplit all a b = true) : sameSplit all b a = true := by
  rw [sameSplit_iff] at h ⊢
  cases h with
  | inl h => exact Or.inl fun x hx => (h x hx).symm
  | inr h => refine Or.inr fun x hx => ?_; rw [h x hx]; simp

theorem sameSplit_trans {all a b c : List String} (h1 : sameSplit all a b = true) (h2 : sameSplit all b c = true) :
    sameSplit all a c = true := by
  rw [sameSplit_iff] at h1 h2 ⊢
  rcases h1 with h1 | h1 <;> rcases h2 with h2 | h2
  · exact Or.inl fun x hx => (h1 x hx).trans (h2 x hx)
  · exact Or.inr fun x hx => (h1 x hx).trans (h2 x hx)
  · refine Or.inr fun x hx => ?_; rw [h1 x hx, h2 x hx]
  · refine Or.inl fun x hx => ?_; rw [h1 x hx, h2 x hx]; simp

theorem sameSplit_perm {all all' : List String} (p : all.Perm all') (a b : List String) :
    sameSplit all a b = sameSplit all' a b := by
  rw [Bool.eq_iff_iff, sameSplit_iff, sameSplit_iff]
  constructor
  · rintro (h | h)
    · exact Or.inl fun x hx => h x (p.mem_iff.mpr hx)
    · exact Or.inr fun x hx => h x (p.mem_iff.mpr hx)
  · rintro (h | h)
    · exact Or.inl fun x hx => h x (p.mem_iff.mp hx)
    · exact Or.inr fun x hx => h x (p.mem_iff.mp hx)

/-! ## same split ⇒ same hash code, and `equals` ⇔ same split -/

theorem contains_eq_of_mem_iff {a b : List String} (h : ∀ x, x ∈ a ↔ x ∈ b) (x : String) :
    a.contains x = b.contains x := by
  cases ha : a.contains x <;> cases hb : b.contains x <;> simp_all

theorem sortNames_eq_of_perm {a b : List String} (p : a.Perm b) : sortNames a = sortNames b := by
  have hp : (sortNames a).Perm (sortNames b) := ((sortNames_perm a).trans p).trans (sortNames_perm b).symm
  have tr : ∀ (x y z : String), decide (x ≤ y) = true → decide (y ≤ z) = true → decide (x ≤ z) = true := by
    intro x y z h1 h2; simp only [decide_eq_true_eq] at *; exact String.le_trans h1 h2
  have tot : ∀ (x y : String), (decide (x ≤ y) || decide (y ≤ x)) = true := by
    intro x y; cases String.le_total x y with
    | inl h => simp [h]
    | inr h => simp [h]
  refine List.Perm.eq_of_pairwise (le := fun x y => decide (x ≤ y) = true) ?_ (List.pairwise_mergeSort tr tot a) (List.pairwise_mergeSort tr tot b) hp
  intro x y _ _ h1 h2
  simp only [decide_eq_true_eq] at h1 h2
  exact String.le_antisymm h1 h2

theorem hashCode_swap (b1 b2 : List Bool) (nl nr : Nat) (hl hr : UInt64) :
    EdgeIdx.hashCode ⟨b1, nl, nr, hl, hr⟩ = EdgeIdx.hashCode ⟨b2, nr, nl, hr, hl⟩ := by
  unfold EdgeIdx.hashCode
  simp only [beq_iff_eq]
  by_cases h1 : nl = nr
  · subst h1; simp [UInt64.mul_comm]
  · have h1' : ¬ nr = nl := fun h => h1 h.symm
    simp only [h1, h1', if_false]
    by_cases h2 : nl < nr
    · have : ¬ nr < nl := by omega
      simp [h2, this]
    · have : nr < nl := by omega
      simp [h2, this]

theorem compl_nodup {all side : List String} (h : all.Nodup) : (compl all side).Nodup :=
  (List.filter_sublist).nodup h

theorem mem_compl {all side : List String} {x : String} : x ∈ compl all side ↔ x ∈ all ∧ x ∉ side := by
  simp [compl]

/-- two sides, each a sub-list of the tip names of its tree, on trees with the same uniquely named taxa -/
structure Sides (tips₁ tips₂ b₁ b₂ : List String) : Prop where
  n1 : tips₁.Nodup
  n2 : tips₂.Nodup
  p : tips₁.Perm tips₂
  s1 : b₁.Sublist tips₁
  s2 : b₂.Sublist tips₂

theorem Sides.symm {tips₁ tips₂ b₁ b₂ : List String} (S : Sides tips₁ tips₂ b₁ b₂) : Sides tips₂ tips₁ b₂ b₁ :=
  ⟨S.n2, S.n1, S.p.symm, S.s2, S.s1⟩

theorem spec_sameSide (H : String → UInt64) {tips₁ tips₂ b₁ b₂ : List String} (S : Sides tips₁ tips₂ b₁ b₂)
    (h : ∀ x ∈ tips₁, b₁.contains x = b₂.contains x) : specIdx H tips₁ b₁ = specIdx H tips₂ b₂ := by
  have hm : ∀ x, x ∈ b₁ ↔ x ∈ b₂ := fun x =>
    ⟨fun hx => by simpa [hx] using h x (S.s1.subset hx),
     fun hx => by simpa [hx] using h x (S.p.mem_iff.mpr (S.s2.subset hx))⟩
  have hc := contains_eq_of_mem_iff hm
  have pb : b₁.Perm b₂ := (List.perm_ext_iff_of_nodup (S.s1.nodup S.n1) (S.s2.nodup S.n2)).mpr hm
  have pc : (compl tips₁ b₁).Perm (compl tips₂ b₂) := by
    unfold compl
    rw [funext fun x => congrArg (!·) (hc x)]; exact S.p.filter _
  unfold specIdx
  rw [sortNames_eq_of_perm S.p, sumH_perm H pb, sumH_perm H pc, pb.length_eq, pc.length_eq, funext hc]

/-- a side that is the complement of `b₂` inside the taxa is `compl tips₂ b₂` up to order -/
theorem perm_compl {tips₁ tips₂ b₁ b₂ : List String} (S : Sides tips₁ tips₂ b₁ b₂)
    (h : ∀ x ∈ tips₁, b₁.contains x = !b₂.contains x) : b₁.Perm (compl tips₂ b₂) := by
  refine (List.perm_ext_iff_of_nodup (S.s1.nodup S.n1) (compl_nodup S.n2)).mpr fun x => ?_
  rw [mem_compl]
  constructor
  · intro hx
    exact ⟨S.p.mem_iff.mp (S.s1.subset hx), by simpa [hx] using h x (S.s1.subset hx)⟩
  · rintro ⟨hx, hx2⟩
    simpa [hx2] using h x (S.p.mem_iff.mpr hx)

theorem spec_hashCode_of_sameSplit (H : String → UInt64) {tips₁ tips₂ b₁ b₂ : List String} (S : Sides tips₁ tips₂ b₁ b₂)
    (h : sameSplit tips₁ b₁ b₂ = true) :
    (specIdx H tips₁ b₁).hashCode = (specIdx H tips₂ b₂).hashCode := by
  rcases (sameSplit_iff ..).1 h with h | h
  · rw [spec_sameSide H S h]
  · have p1 := perm_compl S h
    have p2 := perm_compl S.symm fun x hx => by rw [h x (S.p.mem_iff.mpr hx), Bool.not_not]
    unfold specIdx
    rw [sumH_perm H p1, p1.length_eq, sumH_perm H p2, p2.length_eq]
    exact hashCode_swap _ _ _ _ _ _

/-- `HashEquals` compares the membership vectors over the sorted names -/
theorem spec_equals_iff_sameSplit (H : String → UInt64) {tips₁ tips₂ b₁ b₂ : List String} (S : Sides tips₁ tips₂ b₁ b₂) :
    (specIdx H tips₁ b₁).equals (specIdx H tips₂ b₂) = sameSplit tips₁ b₁ b₂ := by
  unfold EdgeIdx.equals specIdx
  rw [sameSplit_perm (sortNames_perm tips₁).symm, sameSplit_eq_vec, ← sortNames_eq_of_perm S.p]
  rfl

theorem spec_sameBipartition (H : String → UInt64) {tips₁ tips₂ b₁ b₂ : List String} (S : Sides tips₁ tips₂ b₁ b₂) :
    (specIdx H tips₁ b₁).sameBipartition (specIdx H tips₂ b₂) = sameSplit tips₁ b₁ b₂ := by
  have he := spec_equals_iff_sameSplit H S
  unfold EdgeIdx.sameBipartition
  unfold EdgeIdx.equals at he
  rw [he]
  cases hs : sameSplit tips₁ b₁ b₂ with
  | false => simp
  | true => rw [spec_hashCode_of_sameSplit H S hs]; simp

/-! ## sizes of the two sides -/

theorem below_pos_T : ∀ (t : T) (s : SplitE), s ∈ t.splitsBelow → 0 < s.below.length :=
  fun t s h => List.length_pos_iff.2 (below_ne_nil _ s (t.splitsBelow_eq ▸ h))

theorem filter_not_add (p : String → Bool) (l : List String) :
    (l.filter fun x => !p x).length + (l.filter p).length = l.length := by
  induction l with
  | nil => rfl
  | cons a r ih =>
    simp only [List.filter_cons]
    cases p a <;> simp <;> omega

theorem compl_length {all side : List String} (ha : all.Nodup) (hs : side.Sublist all) :
    (compl all side).length + side.length = all.length := by
  have hp : (all.filter fun x => side.contains x).Perm side := by
    refine (List.perm_ext_iff_of_nodup ((List.filter_sublist).nodup ha) (hs.nodup ha)).mpr ?_
    intro x; simp only [List.mem_filter, List.contains_iff_mem]
    exact ⟨fun h => h.2, fun h => ⟨hs.subset h, h⟩⟩
  rw [← hp.length_eq]
  exact filter_not_add (fun x => side.contains x) all

/-! ## FindEdge -/

theorem spec_bits_not_all_zero (H : String → UInt64) {tips below : List String}
    (hs : below.Sublist tips) (hp : 0 < below.length) : (specIdx H tips below).bits.all (!·) = false := by
  obtain ⟨x, hx⟩ := List.exists_mem_of_length_pos hp
  have hx' : x ∈ sortNames tips := (sortNames_perm tips).mem_iff.mpr (hs.subset hx)
  rw [Bool.eq_false_iff]
  intro h
  simp only [specIdx, List.all_eq_true, List.mem_map] at h
  have := h (below.contains x) ⟨x, hx', rfl⟩
  rw [List.contains_iff_mem.mpr hx] at this
  exact absurd this (by decide)

theorem findEdge_go_spec (H : String → UInt64) {tips₁ tips₂ b : List String} (tip : Bool)
    (n1 : tips₁.Nodup) (n2 : tips₂.Nodup) (p : tips₁.Perm tips₂) (hb : b.Sublist tips₁)
    (l : List SplitE) (hl : ∀ s ∈ l, s.below.Sublist tips₂ ∧ 0 < s.below.length) :
    findEdge.go (specIdx H tips₁ b) tip (l.map fun s => (specIdx H tips₂ s.below, s.tip)) =
      some (specFindEdge tips₁ b tip l) := by
  induction l with
  | nil => rfl
  | cons s r ih =>
    obtain ⟨⟨hs, hpos⟩, hr⟩ := List.forall_mem_cons.1 hl
    have S : Sides tips₁ tips₂ b s.below := ⟨n1, n2, p, hb, hs⟩
    have he : bitsEqualOrComplement _ _ = _ := spec_equals_iff_sameSplit H S
    rw [show specFindEdge tips₁ b tip (s :: r) = ((tip == s.tip && sameSplit tips₁ b s.below) || specFindEdge tips₁ b tip r)
      from rfl]
    simp only [List.map_cons, findEdge.go, he, spec_bits_not_all_zero H hs hpos, ih hr]
    cases hss : sameSplit tips₁ b s.below with
    | false => cases ht : tip == s.tip <;> simp [bne, ht]
    | true => cases ht : tip == s.tip <;> simp [bne, ht, spec_hashCode_of_sameSplit H S hss]
/-- `FindEdge` of a spec record among the spec records of another tree on the same taxa -/
theorem findEdge_spec_level (H : String → UInt64) (t₂ : T) {tips₁ b : List String} (tip : Bool)
    (n1 : tips₁.Nodup) (n2 : t₂.tipNames.Nodup) (p : tips₁.Perm t₂.tipNames) (hb : b.Sublist tips₁) (hpos : 0 < b.length) :
    findEdge (specIdx H tips₁ b) tip (t₂.splits.map fun s => (specIdx H t₂.tipNames s.below, s.tip)) =
      some (specFindEdge tips₁ b tip t₂.splits) := by
  unfold findEdge
  rw [spec_bits_not_all_zero H hb hpos]
  simp only [Bool.false_eq_true, if_false]
  exact findEdge_go_spec H tip n1 n2 p hb t₂.splits
    fun s hs => ⟨below_sublist_tipNames t₂ s hs, (T.below_proper t₂ s hs).1⟩

theorem commonEdgesLoop_spec (H : String → UInt64) (t₂ : T) {tips₁ : List String} (tipEdges : Bool)
    (n1 : tips₁.Nodup) (n2 : t₂.tipNames.Nodup) (p : tips₁.Perm t₂.tipNames)
    (l : List SplitE) (hl : ∀ s ∈ l, s.below.Sublist tips₁ ∧ 0 < s.below.length) (tree1 common : Int) :
    let cons := l.filter fun s => tipEdges || !s.tip
    let com := cons.filter fun s => specFindEdge tips₁ s.below s.tip t₂.splits
    commonEdgesLoop tipEdges (t₂.splits.map fun s => (specIdx H t₂.tipNames s.below, s.tip))
        (l.map fun s => (specIdx H tips₁ s.below, s.tip)) tree1 common =
      some (tree1 + cons.length - (common + com.length), common + com.length) := by
  induction l generalizing tree1 common with
  | nil => simp [commonEdgesLoop]
  | cons s r ih =>
    obtain ⟨⟨hs, hpos⟩, hr⟩ := List.forall_mem_cons.1 hl
    simp only [List.map_cons, commonEdgesLoop, List.filter_cons]
    cases hc : (tipEdges || !s.tip) with
    | false => exact ih hr tree1 common
    | true =>
      simp only [if_true, findEdge_spec_level H t₂ s.tip n1 n2 p hs hpos, ih hr]
      cases hf : specFindEdge tips₁ s.below s.tip t₂.splits <;>
        simp only [hf, List.filter_cons, Bool.false_eq_true, if_false, if_true, List.length_cons, Int.natCast_add,
          Int.natCast_one, Option.some.injEq, Prod.mk.injEq, and_true] <;> omega

/-! ## keys from several trees on the same taxa -/

/-- A branch of some tree on the taxa `tips`: the tip order of its tree (any permutation of `tips`)
    and the leaves below the branch in that order. -/
structure TreeKey (tips : List String) where
  order : List String
  below : List String
  perm : order.Perm tips
  sub : below.Sublist order

/-- the index record `ReinitIndexes` leaves on that branch (theorem `indexOf_eq`) -/
def TreeKey.idx (H : String → UInt64) {tips : List String} (k : TreeKey tips) : EdgeIdx :=
  specIdx H k.order k.below

theorem TreeKey.sides {tips : List String} (hn : tips.Nodup) (a b : TreeKey tips) :
    Sides a.order b.order a.below b.below :=
  ⟨a.perm.nodup_iff.mpr hn, b.perm.nodup_iff.mpr hn, a.perm.trans b.perm.symm, a.sub, b.sub⟩

theorem TreeKey.equals_eq (H : String → UInt64) {tips : List String} (hn : tips.Nodup) (a b : TreeKey tips) :
    (a.idx H).equals (b.idx H) = sameSplit tips a.below b.below := by
  unfold TreeKey.idx
  rw [spec_equals_iff_sameSplit H (TreeKey.sides hn a b), sameSplit_perm a.perm]

end Gotree.C04

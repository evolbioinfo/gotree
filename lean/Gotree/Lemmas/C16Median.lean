/-
  C16 — every unrooted binary tree can be drawn from the node that joins three given tips, with the
  same set of splits (helper lemmas for the unrooted exhaustiveness).
-/
import Gotree.Lemmas.C16Surj
import Gotree.Lemmas.C04Idx
import Gotree.Lemmas.C16Keys

namespace Gotree.C16
open Gotree

theorem TwoOf.mono {a b c : String} {S S' : List String} (h : TwoOf a b c S) (hs : ∀ y ∈ S, y ∈ S') : TwoOf a b c S' := by
  rcases h with h | h | h
  · exact Or.inl ⟨hs _ h.1, hs _ h.2⟩
  · exact Or.inr (Or.inl ⟨hs _ h.1, hs _ h.2⟩)
  · exact Or.inr (Or.inr ⟨hs _ h.1, hs _ h.2⟩)

/-- it is enough to look at the children of the root -/
theorem Q3_of_root (a b c : String) : ∀ (ks : Kids), (∀ et ∈ ks, ¬ TwoOf a b c et.2.leaves) → Q3 a b c (belowsL ks) := by
  intro ks h
  rw [Q3_iff_twoOf]
  induction ks with
  | nil => intro S hS; simp [belowsL] at hS
  | cons k r ih =>
    obtain ⟨e, t⟩ := k
    intro S hS
    simp only [belowsL, List.mem_cons, List.mem_append] at hS
    rcases hS with rfl | hS | hS
    · exact h (e, t) (by simp)
    · exact fun hh => h (e, t) (by simp) (hh.mono (belowsT_sub t S hS))
    · exact ih (fun et het => h et (List.mem_cons_of_mem _ het)) S hS

/-! ### USame is an equivalence on families inside `all` -/

theorem uSame_of_famEq (all : List String) {A B : List (List String)} (h : FamEq A B) : USame all A B :=
  ⟨fun a ha => by obtain ⟨b, hb, hab⟩ := h.1 a ha; exact ⟨b, hb, Or.inl hab⟩,
   fun b hb => by obtain ⟨a, ha, hab⟩ := h.2 b hb; exact ⟨a, ha, Or.inl hab⟩⟩

theorem compEq_setEq {all a b c : List String} (h1 : CompEq all a b) (h2 : SetEq b c) : CompEq all a c :=
  fun y hy => (h1 y hy).trans (not_congr (h2 y))

theorem setEq_compEq {all a b c : List String} (h1 : SetEq a b) (h2 : CompEq all b c) : CompEq all a c :=
  fun y hy => (h1 y).trans (h2 y hy)

theorem compEq_compEq {all a b c : List String} (ha : ∀ y ∈ a, y ∈ all) (hc : ∀ y ∈ c, y ∈ all)
    (h1 : CompEq all a b) (h2 : CompEq all b c) : SetEq a c := by
  intro y
  constructor
  · intro hy
    have hall := ha y hy
    have hnb : y ∉ b := (h1 y hall).mp hy
    exact Classical.byContradiction fun hnc => hnb ((h2 y hall).mpr hnc)
  · intro hy
    have hall := hc y hy
    have hnb : y ∉ b := fun hb => ((h2 y hall).mp hb) hy
    exact Classical.byContradiction fun hna => hnb (Classical.byContradiction fun hnb' =>
      hna ((h1 y hall).mpr hnb'))

theorem CompEq.symm {all a b : List String} (h : CompEq all a b) : CompEq all b a := fun y hy =>
  ⟨fun hb ha => (h y hy).mp ha hb, fun hna => Classical.byContradiction fun hnb => hna ((h y hy).mpr hnb)⟩

/-- "same split" (the same set, or complements) is transitive on subsets of `all` -/
theorem sameSplit_trans {all a b c : List String} (ha : ∀ y ∈ a, y ∈ all) (hc : ∀ y ∈ c, y ∈ all)
    (h1 : SetEq a b ∨ CompEq all a b) (h2 : SetEq b c ∨ CompEq all b c) : SetEq a c ∨ CompEq all a c := by
  rcases h1 with h1 | h1 <;> rcases h2 with h2 | h2
  · exact Or.inl (h1.trans h2)
  · exact Or.inr (setEq_compEq h1 h2)
  · exact Or.inr (compEq_setEq h1 h2)
  · exact Or.inl (compEq_compEq ha hc h1 h2)

theorem USame.trans {all : List String} {A B C : List (List String)} (hA : FamIn all A) (hC : FamIn all C)
    (h1 : USame all A B) (h2 : USame all B C) : USame all A C := by
  constructor
  · intro a ha
    obtain ⟨b, hb, hab⟩ := h1.1 a ha
    obtain ⟨c, hc, hbc⟩ := h2.1 b hb
    exact ⟨c, hc, sameSplit_trans (hA a ha) (hC c hc) hab hbc⟩
  · intro c hc
    obtain ⟨b, hb, hbc⟩ := h2.2 c hc
    obtain ⟨a, ha, hab⟩ := h1.2 b hb
    exact ⟨a, ha, sameSplit_trans (hA a ha) (hC c hc) hab hbc⟩

/-- replacing one member by its complement -/
theorem uSame_cons_comp (all : List String) (x y : List String) (M : List (List String)) (h : CompEq all x y)
    (h' : CompEq all y x) : USame all (x :: M) (y :: M) := by
  constructor
  · intro a ha
    rcases List.mem_cons.mp ha with rfl | ha'
    · exact ⟨y, List.mem_cons_self, Or.inr h⟩
    · exact ⟨a, List.mem_cons_of_mem _ ha', Or.inl (SetEq.refl a)⟩
  · intro b hb
    rcases List.mem_cons.mp hb with rfl | hb'
    · exact ⟨x, List.mem_cons_self, Or.inr h⟩
    · exact ⟨b, List.mem_cons_of_mem _ hb', Or.inl (SetEq.refl b)⟩

theorem uSame_of_perm_right (all : List String) {A B B' : List (List String)} (h : USame all A B') (hp : B'.Perm B) :
    USame all A B :=
  ⟨fun a ha => by obtain ⟨b, hb, hab⟩ := h.1 a ha; exact ⟨b, hp.subset hb, hab⟩,
   fun b hb => h.2 b (hp.symm.subset hb)⟩

/-- a tree drawn from a node of degree three: binary below it, tips = `all` -/
structure U3 (all : List String) (t : T) : Prop where
  deg : t.kids.length = 3
  bin : binaryL t.kids = true
  leaves : (leavesL t.kids).Perm all

/-- moving the root into its first child (an inner node): same splits, the first child's leaf set is
    replaced by its complement -/
theorem rot0 (all : List String) (hall : all.Nodup) (d d0 : NodeD) (p p0 : Nat) (e0 ea eb e1 e2 : EdgeD) (x y t1 t2 : T)
    (h : U3 all (.node d p [(e0, .node d0 p0 [(ea, x), (eb, y)]), (e1, t1), (e2, t2)])) :
    U3 all (.node d0 0 [(ea, x), (eb, y), (e0, .node d 0 [(e1, t1), (e2, t2)])]) ∧
    USame all (belowsL (T.node d p [(e0, .node d0 p0 [(ea, x), (eb, y)]), (e1, t1), (e2, t2)]).kids)
      (belowsL (T.node d0 0 [(ea, x), (eb, y), (e0, .node d 0 [(e1, t1), (e2, t2)])]).kids) := by
  obtain ⟨_, hbin, hleaves⟩ := h
  simp only [T.kids_node, binaryL, T.binaryBelow, Bool.and_eq_true, Bool.and_true] at hbin
  simp only [T.kids_node, leavesL, T.leaves_node_cons, List.append_nil] at hleaves
  have hbx : x.binaryBelow = true := hbin.1.2.1
  have hby : y.binaryBelow = true := hbin.1.2.2
  have hb1 : t1.binaryBelow = true := hbin.2.1
  have hb2 : t2.binaryBelow = true := hbin.2.2
  have hnd : ((x.leaves ++ y.leaves) ++ (t1.leaves ++ t2.leaves)).Nodup := hleaves.nodup_iff.mpr hall
  refine ⟨⟨rfl, by simp [binaryL, T.binaryBelow, hbx, hby, hb1, hb2], ?_⟩, ?_⟩
  · simp only [T.kids_node, leavesL, T.leaves_node_cons, List.append_nil]
    refine List.Perm.trans ?_ hleaves
    simp [List.append_assoc]
  · -- the two families: same members, except the leaf set of the moved branch and its complement
    let P : List (List String) := x.leaves :: (belowsT x ++ y.leaves :: belowsT y)
    let Q : List (List String) := t1.leaves :: (belowsT t1 ++ t2.leaves :: belowsT t2)
    have hA : belowsL (T.node d p [(e0, .node d0 p0 [(ea, x), (eb, y)]), (e1, t1), (e2, t2)]).kids =
        (x.leaves ++ y.leaves) :: (P ++ Q) := by
      simp [P, Q, belowsL, belowsT, T.leaves_node_cons, leavesL]
    have hB : belowsL (T.node d0 0 [(ea, x), (eb, y), (e0, .node d 0 [(e1, t1), (e2, t2)])]).kids =
        P ++ (t1.leaves ++ t2.leaves) :: Q := by
      simp [P, Q, belowsL, belowsT, T.leaves_node_cons, leavesL]
    rw [hA, hB]
    have hc : CompEq all (x.leaves ++ y.leaves) (t1.leaves ++ t2.leaves) := by
      intro z hz
      have hz' := hleaves.symm.subset hz
      have hdis := nodup_append_disjoint hnd
      constructor
      · intro h1 h2; exact hdis z h1 h2
      · intro h2
        rcases List.mem_append.mp hz' with h1 | h1
        · exact h1
        · exact absurd h1 h2
    exact uSame_of_perm_right all (uSame_cons_comp all _ _ (P ++ Q) hc hc.symm) List.perm_middle.symm

theorem two_le_of_two_mem {l : List String} {u v : String} (h : u ≠ v) (hu : u ∈ l) (hv : v ∈ l) : 2 ≤ l.length := by
  match l, hu, hv with
  | [w], hu, hv =>
    exfalso
    rw [List.mem_singleton] at hu hv
    exact h (hu.trans hv.symm)
  | _ :: _ :: _, _, _ => simp

theorem famIn_of_U3 {all : List String} {t : T} (h : U3 all t) : FamIn all (belowsL t.kids) :=
  fun S hS y hy => h.leaves.subset (belowsL_sub t.kids S hS y hy)

theorem U3_of_isoL {all : List String} {t : T} (h : U3 all t) (d : NodeD) (p : Nat) (ks : Kids) (hi : IsoL t.kids ks)
    (hb : binaryL ks = true) : U3 all (.node d p ks) :=
  ⟨by simpa using (IsoL.length_eq hi).symm.trans h.deg, hb, (IsoL.leaves_perm hi).symm.trans h.leaves⟩

/-- the induction on the size of the child of the root that holds two of the three tips -/
theorem to_median (all : List String) (hall : all.Nodup) (a b c : String) (hab : a ≠ b) (hac : a ≠ c) (hbc : b ≠ c) :
    ∀ (m : Nat) (t : T), U3 all t → (∀ et ∈ t.kids, TwoOf a b c et.2.leaves → et.2.leaves.length ≤ m) →
      ∃ t₂, U3 all t₂ ∧ Q3 a b c (belowsL t₂.kids) ∧ USame all (belowsL t.kids) (belowsL t₂.kids)
  | m, t, h, hm => by
    by_cases hex : ∃ et ∈ t.kids, TwoOf a b c et.2.leaves
    · obtain ⟨et, het, htwo⟩ := hex
      -- bring that child to the front
      have front : ∃ e K k1 k2 d p, U3 all (.node d p [(e, K), k1, k2]) ∧ TwoOf a b c K.leaves ∧ K.leaves.length ≤ m ∧
          FamEq (belowsL t.kids) (belowsL [(e, K), k1, k2]) := by
        cases t with
        | node d p ks =>
          have hdeg := h.deg
          simp only [T.kids_node] at hdeg het
          match ks, hdeg, h, hm, het with
          | [k0, k1, k2], _, h, hm, het =>
            simp only [List.mem_cons, List.not_mem_nil, or_false] at het
            have hbin := h.bin
            simp only [T.kids_node] at hbin
            rcases het with rfl | rfl | rfl
            · exact ⟨et.1, et.2, k1, k2, d, p, h, htwo, hm et (by simp) htwo, FamEq.refl _⟩
            · have hi : IsoL [k0, et, k2] [et, k0, k2] := IsoL.swap _ _ _
              obtain ⟨e0, t0⟩ := k0
              obtain ⟨e2, t2⟩ := k2
              refine ⟨et.1, et.2, (e0, t0), (e2, t2), d, p, U3_of_isoL h d p _ hi ?_, htwo, hm et (by simp) htwo, IsoL.famEq hi⟩
              obtain ⟨ee, tt⟩ := et
              simp only [binaryL, Bool.and_eq_true, Bool.and_true] at hbin ⊢
              exact ⟨hbin.2.1, hbin.1, hbin.2.2⟩
            · obtain ⟨e0, t0⟩ := k0
              obtain ⟨e1, t1⟩ := k1
              have hi : IsoL [(e0, t0), (e1, t1), et] [et, (e0, t0), (e1, t1)] :=
                IsoL.trans _ _ _ (IsoL.cons _ _ _ _ _ _ (IsoT.refl t0) (IsoL.swap _ _ _)) (IsoL.swap _ _ _)
              refine ⟨et.1, et.2, (e0, t0), (e1, t1), d, p, U3_of_isoL h d p _ hi ?_, htwo, hm et (by simp) htwo, IsoL.famEq hi⟩
              obtain ⟨ee, tt⟩ := et
              simp only [binaryL, Bool.and_eq_true, Bool.and_true] at hbin ⊢
              exact ⟨hbin.2.2, hbin.1, hbin.2.1⟩
      obtain ⟨e0, K, k1, k2, d, p, hU, hK2, hKm, hfe⟩ := front
      obtain ⟨e1, t1⟩ := k1
      obtain ⟨e2, t2⟩ := k2
      -- that child is an inner node with two children
      have hKbin : K.binaryBelow = true := by
        have := hU.bin; simp only [T.kids_node, binaryL, Bool.and_eq_true] at this; exact this.1
      have hKlen : 2 ≤ K.leaves.length := by
        rcases hK2 with ⟨h1, h2⟩ | ⟨h1, h2⟩ | ⟨h1, h2⟩
        · exact two_le_of_two_mem hab h1 h2
        · exact two_le_of_two_mem hac h1 h2
        · exact two_le_of_two_mem hbc h1 h2
      cases K with
      | node d0 p0 kk =>
        have hkk : kk.length = 2 := by
          simp only [T.binaryBelow, Bool.and_eq_true, Bool.or_eq_true, beq_iff_eq] at hKbin
          rcases hKbin.1 with h0 | h2
          · have : kk = [] := List.length_eq_zero_iff.mp h0
            subst this
            rw [leaves_of_leaf] at hKlen; simp at hKlen
          · exact h2
        match kk, hkk with
        | [(ea, x), (eb, y)], _ =>
          obtain ⟨hU1, hus⟩ := rot0 all hall d d0 p p0 e0 ea eb e1 e2 x y t1 t2 hU
          -- the leaves of all the tips, pairwise different
          have hnd : (leavesL (T.node d p [(e0, .node d0 p0 [(ea, x), (eb, y)]), (e1, t1), (e2, t2)]).kids).Nodup :=
            hU.leaves.nodup_iff.mpr hall
          simp only [T.kids_node, leavesL, T.leaves_node_cons, List.append_nil] at hnd
          have hdis := nodup_append_disjoint hnd
          rw [T.leaves_node_cons] at hK2 hKm hKlen
          simp only [leavesL, List.append_nil, List.length_append] at hKm hKlen
          have hx1 : 1 ≤ x.leaves.length := List.length_pos_iff.mpr (T.leaves_ne_nil x)
          have hy1 : 1 ≤ y.leaves.length := List.length_pos_iff.mpr (T.leaves_ne_nil y)
          simp only [leavesL, List.append_nil] at hK2
          -- the new third child holds at most one of the three names
          have hR : ¬ TwoOf a b c (T.node d 0 [(e1, t1), (e2, t2)]).leaves := by
            rw [T.leaves_node_cons]; simp only [leavesL, List.append_nil]
            intro hR
            rcases hK2 with ⟨k1', k2'⟩ | ⟨k1', k2'⟩ | ⟨k1', k2'⟩ <;> rcases hR with ⟨r1, r2⟩ | ⟨r1, r2⟩ | ⟨r1, r2⟩ <;>
              first
              | exact hdis _ k1' r1 | exact hdis _ k1' r2 | exact hdis _ k2' r1 | exact hdis _ k2' r2
          match m, hKm with
          | 0, hKm => omega
          | m' + 1, hKm =>
            have hbound : ∀ et ∈ (T.node d0 0 [(ea, x), (eb, y), (e0, .node d 0 [(e1, t1), (e2, t2)])]).kids,
                TwoOf a b c et.2.leaves → et.2.leaves.length ≤ m' := by
              intro et het htw
              simp only [T.kids_node, List.mem_cons, List.not_mem_nil, or_false] at het
              rcases het with rfl | rfl | rfl
              · show x.leaves.length ≤ m'; omega
              · show y.leaves.length ≤ m'; omega
              · exact absurd htw hR
            obtain ⟨t₂, hU2, hq2, hus2⟩ := to_median all hall a b c hab hac hbc m' _ hU1 hbound
            refine ⟨t₂, hU2, hq2, ?_⟩
            have s1 : USame all (belowsL t.kids) (belowsL (T.node d p [(e0, .node d0 p0 [(ea, x), (eb, y)]), (e1, t1), (e2, t2)]).kids) :=
              uSame_of_famEq all hfe
            exact USame.trans (famIn_of_U3 h) (famIn_of_U3 hU2)
              (USame.trans (famIn_of_U3 h) (famIn_of_U3 hU1) s1 hus) hus2
    · exact ⟨t, h, Q3_of_root a b c t.kids (fun et het hh => hex ⟨et, het, hh⟩), uSame_of_famEq all (FamEq.refl _)⟩
termination_by m => m

/-- every binary tree drawn from a node of degree three has a drawing from the node joining `a b c`
    with the same set of splits -/
theorem median_drawing (all : List String) (hall : all.Nodup) (a b c : String) (hab : a ≠ b) (hac : a ≠ c) (hbc : b ≠ c)
    (t : T) (h : U3 all t) :
    ∃ t₂, U3 all t₂ ∧ Q3 a b c (belowsL t₂.kids) ∧ USame all (belowsL t.kids) (belowsL t₂.kids) :=
  to_median all hall a b c hab hac hbc all.length t h (fun et het _ => by
    have hm := kid_leaves_mem t.kids et het
    have hnd : (leavesL t.kids).Nodup := h.leaves.nodup_iff.mpr hall
    have hsub : ∀ y ∈ et.2.leaves, y ∈ all := fun y hy => h.leaves.subset (belowsL_sub t.kids _ hm y hy)
    have hnde : et.2.leaves.Nodup := by
      rw [belowsL_eq] at hm
      obtain ⟨s, hs, he⟩ := List.mem_map.mp hm
      rw [← he]
      exact (below_sublist_leavesL t.kids s hs).nodup hnd
    exact hnde.length_le_of_subset hsub)

end Gotree.C16

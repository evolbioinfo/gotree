/-
  C05 — orientation: after `Reroot` every branch points away from the root, `ReorderEdges`
  reports exactly the branches it had to invert, `Parent()` is the parent.
-/
import Gotree.Model.C05Orient
import Gotree.Lemmas.C05

namespace Gotree.C05
open Gotree

theorem eraseL_eq_map : ∀ (k : OKids), eraseL k = k.map (fun x => (x.1.e, x.2.erase))
  | [] => rfl
  | (oe, t) :: r => by simp [eraseL, eraseL_eq_map r]

theorem OT.erase_kids (o : OT) : o.erase.kids = eraseL o.kids := by cases o; simp [OT.erase, OT.kids]
theorem OT.erase_ppos (o : OT) : o.erase.ppos = o.ppos := by cases o; simp [OT.erase, OT.ppos]
theorem OT.erase_d (o : OT) : o.erase.d = o.d := by cases o; simp [OT.erase, OT.d]

mutual
theorem erase_orient : ∀ (t : T), (orient t).erase = t
  | .node d p k => by simp [orient, OT.erase, eraseL_orientL k]
theorem eraseL_orientL : ∀ (k : Kids), eraseL (orientL k) = k
  | [] => rfl
  | (e, t) :: r => by simp [orientL, eraseL, erase_orient t, eraseL_orientL r]
end

mutual
/-- `ReorderEdges` leaves a heap in which every branch points away from the root -/
theorem reorder_fst : ∀ (o : OT), o.reorder.1 = orient o.erase
  | .node d p k => by simp [OT.reorder, OT.erase, orient, reorderL_fst k]
theorem reorderL_fst : ∀ (k : OKids), (reorderL k).1 = orientL (eraseL k)
  | [] => rfl
  | (oe, t) :: r => by simp [reorderL, eraseL, orientL, reorder_fst t, reorderL_fst r]
end

mutual
/-- … and reports exactly the branches that did not, in the order of `Edges()` -/
theorem reorder_snd : ∀ (o : OT), o.reorder.2 = o.wrong
  | .node d p k => by simp [OT.reorder, OT.wrong, reorderL_snd k]
theorem reorderL_snd : ∀ (k : OKids), (reorderL k).2 = wrongL k
  | [] => rfl
  | (oe, t) :: r => by simp [reorderL, wrongL, reorder_snd t, reorderL_snd r]
end

mutual
theorem wrong_orient : ∀ (t : T), (orient t).wrong = []
  | .node d p k => by simp [orient, OT.wrong, wrongL_orientL k]
theorem wrongL_orientL : ∀ (k : Kids), wrongL (orientL k) = []
  | [] => rfl
  | (e, t) :: r => by simp [orientL, wrongL, wrong_orient t, wrongL_orientL r]
end

mutual
theorem flags_orient : ∀ (t : T), ∀ f ∈ (orient t).flags, f = true
  | .node d p k => by simpa [orient, OT.flags] using flagsL_orientL k
theorem flagsL_orientL : ∀ (k : Kids), ∀ f ∈ flagsL (orientL k), f = true
  | [] => by simp [orientL, flagsL]
  | (e, t) :: r => by
    intro f hf
    simp only [orientL, flagsL, List.mem_cons, List.mem_append] at hf
    rcases hf with rfl | hf | hf
    · rfl
    · exact flags_orient t f hf
    · exact flagsL_orientL r f hf
end

theorem map_eraseIdx' {α β : Type} (f : α → β) : ∀ (l : List α) (i : Nat), (l.eraseIdx i).map f = (l.map f).eraseIdx i
  | [], _ => by simp
  | a :: l, 0 => by simp
  | a :: l, i + 1 => by simp [map_eraseIdx' f l i]

/-- `t.root = child` changes no tree: forgetting the orientation gives the root move -/
theorem erase_moveRootO (o : OT) (i : Nat) : (moveRootO o i).erase = moveRoot o.erase i := by
  obtain ⟨d, p, kids⟩ := o
  simp only [moveRootO, OT.erase, moveRoot, eraseL_eq_map, List.getElem?_map]
  cases hk : kids[i]? with
  | none => simp [OT.erase, eraseL_eq_map]
  | some x =>
    obtain ⟨oe, ⟨dc, pc, kc⟩⟩ := x
    simp only [Option.map_some, OT.erase, eraseL_eq_map, insertAt, List.map_append, List.map_cons,
      List.map_take, List.map_drop, map_eraseIdx']

theorem erase_setRootO : ∀ (path : List Nat) (o : OT) (adj : Option Nat) (back : List Nat),
    (setRootO o path adj).erase = (rerootP o.erase path adj back).1
  | [], o, adj, back => by simp [setRootO, rerootP_nil]
  | i :: rest, o, adj, back => by
    simp only [setRootO]
    cases hk : o.kids[adjIdx adj i]? with
    | none =>
      have : o.erase.kids[adjIdx adj i]? = none := by
        rw [OT.erase_kids, eraseL_eq_map, List.getElem?_map, hk]; rfl
      rw [rerootP_cons_none _ i rest adj back this]
    | some x =>
      obtain ⟨oe, c⟩ := x
      have : o.erase.kids[adjIdx adj i]? = some (oe.e, c.erase) := by
        rw [OT.erase_kids, eraseL_eq_map, List.getElem?_map, hk]; rfl
      rw [rerootP_cons_some _ i rest adj back oe.e c.erase this]
      simp only
      rw [erase_setRootO rest _ _ (backStep back (adjIdx adj i) (min c.erase.ppos c.erase.kids.length)),
        erase_moveRootO, OT.erase_ppos, OT.erase_kids, eraseL_eq_map, List.length_map]

/-- **After `Reroot` every branch points away from the root**: `t.root = n; ReorderEdges(n)` on a
    correctly oriented heap gives the correctly oriented heap of the re-rooted tree. -/
theorem rerootO_oriented (t : T) (path : List Nat) : (rerootO t path).1 = orient (rerootP t path none []).1 := by
  unfold rerootO
  rw [reorder_fst, erase_setRootO path (orient t) none [], erase_orient]

/-- the branches `ReorderEdges` reports are exactly those that pointed the wrong way after
    `t.root = n` -/
theorem rerootO_reversed (t : T) (path : List Nat) : (rerootO t path).2 = (setRootO (orient t) path none).wrong := by
  unfold rerootO; exact reorder_snd _

mutual
theorem parents_orient : ∀ (t : T), ∀ s ∈ (orient t).parents (some true), s = "parent"
  | .node d p k => by
    intro s hs
    simp only [orient, OT.parents, List.mem_cons] at hs
    rcases hs with rfl | hs
    · simp [parentClass, parentCount, filter_orientL k]
    · exact parentsL_orientL k s hs
theorem parentsL_orientL : ∀ (k : Kids), ∀ s ∈ parentsL (orientL k), s = "parent"
  | [] => by simp [orientL, parentsL]
  | (e, t) :: r => by
    intro s hs
    simp only [orientL, parentsL, List.mem_append] at hs
    rcases hs with hs | hs
    · exact parents_orient t s hs
    · exact parentsL_orientL r s hs
theorem filter_orientL : ∀ (k : Kids), (orientL k).filter (fun x => !x.1.fwd) = []
  | [] => rfl
  | (e, t) :: r => by simp [orientL, filter_orientL r]
end

/-- in a correctly oriented heap `Parent()` / `ParentEdge()` answer the parent for every node but
    the root, which has none -/
theorem parents_of_oriented (t : T) :
    ∃ rest, (orient t).parents none = "none" :: rest ∧ ∀ s ∈ rest, s = "parent" := by
  obtain ⟨d, p, k⟩ := t
  refine ⟨parentsL (orientL k), ?_, parentsL_orientL k⟩
  simp [orient, OT.parents, parentClass, parentCount, filter_orientL k]

/-! ## `Reroot` inverts exactly the branches between the old and the new root -/

theorem wrongL_append : ∀ (a b : OKids), wrongL (a ++ b) = wrongL a ++ wrongL b
  | [], b => by simp [wrongL]
  | (oe, t) :: r, b => by simp [wrongL, wrongL_append r b]

theorem wrongL_cons (oe : OEdge) (t : OT) (r : OKids) :
    wrongL ((oe, t) :: r) = (if oe.fwd then [] else [oe.e]) ++ t.wrong ++ wrongL r := by simp [wrongL]

theorem OT.wrong_node (d : NodeD) (p : Nat) (k : OKids) : (OT.node d p k).wrong = wrongL k := by simp [OT.wrong]

theorem orientL_eq_map : ∀ (k : Kids), orientL k = k.map (fun x => (⟨x.1, true⟩, orient x.2))
  | [] => rfl
  | (e, t) :: r => by simp [orientL, orientL_eq_map r]

/-- the kids of the root of the moment: the raw kids `K` of the node it is, correctly oriented,
    plus (when the root has moved) the branch towards the old root, seen from its far end -/
def OInv (o : OT) (adj : Option Nat) (K : Kids) : Prop :=
  match adj with
  | none => o.kids = orientL K
  | some pos => pos ≤ K.length ∧ ∃ e old, o.kids = insertAt (orientL K) pos (⟨e, false⟩, old)

theorem OInv.get {o : OT} {adj : Option Nat} {K : Kids} (h : OInv o adj K) (i : Nat) (e : EdgeD) (c : T)
    (hk : K[i]? = some (e, c)) : o.kids[adjIdx adj i]? = some (⟨e, true⟩, orient c) := by
  have hm : (orientL K)[i]? = some (⟨e, true⟩, orient c) := by
    rw [orientL_eq_map, List.getElem?_map, hk]; rfl
  cases adj with
  | none => simp only [OInv] at h; simpa [adjIdx, h] using hm
  | some pos =>
    obtain ⟨hp, e0, old, hx⟩ := h
    rw [hx, getElem_insertAt_adj _ pos i _ (by rw [orientL_eq_map, List.length_map]; exact hp)]
    exact hm

/-- wrong branches outside a correctly oriented kid -/
theorem wrongL_eraseIdx_fwd (k : OKids) (i : Nat) (e : EdgeD) (c : T) (hk : k[i]? = some (⟨e, true⟩, orient c)) :
    wrongL (k.eraseIdx i) = wrongL k := by
  obtain ⟨h1, h2⟩ := list_split_at k i _ hk
  rw [h2]
  conv => rhs; rw [h1]
  simp [wrongL_append, wrongL_cons, wrong_orient]

/-- **The branches that point the wrong way after `t.root = n` are the branches between the old
    and the new root**, from the new root outwards. -/
theorem setRootO_wrong : ∀ (path : List Nat) (o : OT) (adj : Option Nat) (K : Kids),
    OInv o adj K → ValidK K path →
    (setRootO o path adj).wrong = (edgesAlongK K path).reverse ++ o.wrong
  | [], o, adj, K, _, _ => by simp [setRootO, edgesAlongK]
  | i :: rest, o, adj, K, hinv, hv => by
    simp only [ValidK, edgesAlongK] at hv
    cases hk : K[i]? with
    | none => simp [hk] at hv
    | some ec =>
      obtain ⟨e, c⟩ := ec
      simp only [hk, List.length_cons] at hv
      have hget := hinv.get i e c hk
      simp only [setRootO, hget]
      obtain ⟨d, p, kids⟩ := o
      obtain ⟨dc, pc, kc⟩ := c
      simp only [OT.kids] at hget
      have hmove : moveRootO (.node d p kids) (adjIdx adj i) =
          .node dc 0 (insertAt (orientL kc) pc (⟨e, false⟩, .node d (adjIdx adj i) (kids.eraseIdx (adjIdx adj i)))) := by
        simp [moveRootO, hget, orient]
      have hlen : (orientL kc).length = kc.length := by rw [orientL_eq_map, List.length_map]
      have hinv' : OInv (moveRootO (.node d p kids) (adjIdx adj i))
          (some (min (orient (.node dc pc kc)).ppos (orient (.node dc pc kc)).kids.length)) kc := by
        simp only [orient, OT.ppos, OT.kids, hlen]
        refine ⟨Nat.min_le_right _ _, e, .node d (adjIdx adj i) (kids.eraseIdx (adjIdx adj i)), ?_⟩
        rw [hmove, OT.kids, insertAt_min, hlen]
      have hv' : ValidK kc rest := by simp only [ValidK, T.kids_node] at hv ⊢; omega
      rw [setRootO_wrong rest _ _ kc hinv' hv', hmove]
      simp only [edgesAlongK, hk, T.kids_node, List.reverse_cons, List.append_assoc, List.singleton_append]
      congr 1
      simp only [OT.wrong_node, insertAt, wrongL_append, wrongL_cons, Bool.false_eq_true, if_false]
      have h0 : ∀ l : Kids, wrongL (orientL l) = [] := wrongL_orientL
      have ht : wrongL (List.take pc (orientL kc)) = [] := by
        rw [orientL_eq_map, ← List.map_take, ← orientL_eq_map]; exact h0 _
      have hd : wrongL (List.drop pc (orientL kc)) = [] := by
        rw [orientL_eq_map, ← List.map_drop, ← orientL_eq_map]; exact h0 _
      rw [ht, hd, wrongL_eraseIdx_fwd kids _ e (.node dc pc kc) hget]
      simp

/-- `Reroot(n)` on a correctly oriented heap inverts exactly the branches on the path from the old
    root to `n`, and reports them from `n` outwards -/
theorem rerootO_reversed_path (t : T) (path : List Nat) (hv : ValidK t.kids path) :
    (rerootO t path).2 = (edgesAlong t path).reverse := by
  rw [rerootO_reversed, edgesAlong_eq]
  have hinv : OInv (orient t) none t.kids := by
    obtain ⟨d, p, k⟩ := t; simp [OInv, orient, OT.kids]
  rw [setRootO_wrong path (orient t) none t.kids hinv hv, wrong_orient]
  simp

end Gotree.C05

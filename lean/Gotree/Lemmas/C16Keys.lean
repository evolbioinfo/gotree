/-
  C16 — the numeric canonical form identifies exactly the topologies (helper lemmas).
-/
import Gotree.Spec.C16Keys
import Gotree.Lemmas.C16Nodup
import Gotree.Lemmas.C16Oracle

namespace Gotree.C16
open Gotree

/-! ### bit sets -/

theorem testBit_bitsOf : ∀ (l : List Nat) (i : Nat), (bitsOf l).testBit i = decide (i ∈ l)
  | [], i => by simp [bitsOf]
  | a :: r, i => by
    have ih := testBit_bitsOf r i
    unfold bitsOf at ih ⊢
    simp only [List.foldr_cons, Nat.testBit_or, ih, Nat.testBit_two_pow, List.mem_cons]
    by_cases h1 : i ∈ r <;> by_cases h2 : a = i <;> simp [h1, h2, eq_comm]

theorem bitsOf_eq_iff (l1 l2 : List Nat) : bitsOf l1 = bitsOf l2 ↔ ∀ i, i ∈ l1 ↔ i ∈ l2 := by
  constructor
  · intro h i
    have := congrArg (fun x => x.testBit i) h
    simp only [testBit_bitsOf] at this
    simpa using this
  · intro h
    apply Nat.eq_of_testBit_eq
    intro i
    rw [testBit_bitsOf, testBit_bitsOf]
    simp [h i]

/-! ### sorting numbers -/

theorem adjDistinctN_of_nodup : ∀ (l : List Nat), l.Nodup → adjDistinctN l = true
  | [], _ => rfl
  | [_], _ => rfl
  | a :: b :: r, h => by
    have h1 := List.nodup_cons.mp h
    simp only [adjDistinctN, Bool.and_eq_true, bne_iff_ne, ne_eq]
    exact ⟨fun e => h1.1 (e ▸ List.mem_cons_self), adjDistinctN_of_nodup (b :: r) h1.2⟩

theorem nodup_of_sorted_adj : ∀ (l : List Nat), l.Pairwise (· ≤ ·) → adjDistinctN l = true → l.Nodup
  | [], _, _ => List.nodup_nil
  | [_], _, _ => by simp
  | a :: b :: r, hs, hd => by
    simp only [adjDistinctN, Bool.and_eq_true, bne_iff_ne, ne_eq] at hd
    have hs' := List.pairwise_cons.mp hs
    have ih := nodup_of_sorted_adj (b :: r) hs'.2 hd.2
    refine List.nodup_cons.mpr ⟨?_, ih⟩
    intro hm
    -- a ≤ b ≤ every later element, a ≠ b: a cannot reappear
    have hab : a ≤ b := hs'.1 b List.mem_cons_self
    rcases List.mem_cons.mp hm with e | hm'
    · exact hd.1 e
    · have hba : b ≤ a := (List.pairwise_cons.mp hs'.2).1 a hm'
      exact hd.1 (Nat.le_antisymm hab hba)

theorem distinctNat_iff (l : List Nat) : distinctNat l = true ↔ l.Nodup := by
  unfold distinctNat
  have hp := List.mergeSort_perm l (fun a b => decide (a ≤ b))
  constructor
  · intro h
    have hs : (l.mergeSort (fun a b => decide (a ≤ b))).Pairwise (· ≤ ·) := by
      have := List.pairwise_mergeSort (le := fun (a b : Nat) => decide (a ≤ b))
        (fun a b c h1 h2 => by simp only [decide_eq_true_eq] at *; omega)
        (fun a b => by simp only [Bool.or_eq_true, decide_eq_true_eq]; omega) l
      exact this.imp (by intro a b hab; simpa using hab)
    exact hp.nodup_iff.mp (nodup_of_sorted_adj _ hs h)
  · intro h
    exact adjDistinctN_of_nodup _ (hp.nodup_iff.mpr h)

/-! ### leaf sets as numbers -/

theorem idxOf_inj_of_mem (all : List String) (x y : String) (hx : x ∈ all) (h : all.idxOf x = all.idxOf y) : x = y := by
  have hlt : all.idxOf x < all.length := List.idxOf_lt_length_of_mem hx
  have h1 : all[all.idxOf x] = x := List.getElem_idxOf hlt
  have hlt2 : all.idxOf y < all.length := h ▸ hlt
  have h2 : all[all.idxOf y] = y := List.getElem_idxOf hlt2
  rw [← h1, ← h2]; congr 1

theorem maskOf_eq_iff (all S S' : List String) (hS : ∀ x ∈ S, x ∈ all) (hS' : ∀ x ∈ S', x ∈ all) :
    maskOf all S = maskOf all S' ↔ SetEq S S' := by
  unfold maskOf
  rw [bitsOf_eq_iff]
  constructor
  · intro h x
    constructor
    · intro hx
      obtain ⟨y, hy, he⟩ := List.mem_map.mp ((h _).mp (List.mem_map.mpr ⟨x, hx, rfl⟩))
      rw [idxOf_inj_of_mem all x y (hS x hx) he.symm]; exact hy
    · intro hx
      obtain ⟨y, hy, he⟩ := List.mem_map.mp ((h _).mpr (List.mem_map.mpr ⟨x, hx, rfl⟩))
      rw [idxOf_inj_of_mem all x y (hS' x hx) he.symm]; exact hy
  · intro h i
    simp only [List.mem_map]
    constructor
    · rintro ⟨x, hx, rfl⟩; exact ⟨x, (h x).mp hx, rfl⟩
    · rintro ⟨x, hx, rfl⟩; exact ⟨x, (h x).mpr hx, rfl⟩

/-- members of both families lie in the reference list -/
def FamIn (all : List String) (A : List (List String)) : Prop := ∀ S ∈ A, ∀ x ∈ S, x ∈ all

/-- two families get the same key exactly when each member of one has a partner in the other, for a
    relation `R` that the member keys `f` decide -/
theorem keys_eq_iff (f : List String → Nat) (R : List String → List String → Prop) (A B : List (List String))
    (h : ∀ a ∈ A, ∀ b ∈ B, f a = f b ↔ R a b) :
    bitsOf (A.map f) = bitsOf (B.map f) ↔ (∀ a ∈ A, ∃ b ∈ B, R a b) ∧ (∀ b ∈ B, ∃ a ∈ A, R a b) := by
  rw [bitsOf_eq_iff]
  constructor
  · intro hk
    refine ⟨fun a ha => ?_, fun b hb => ?_⟩
    · obtain ⟨b, hb, he⟩ := List.mem_map.mp ((hk _).mp (List.mem_map.mpr ⟨a, ha, rfl⟩))
      exact ⟨b, hb, (h a ha b hb).mp he.symm⟩
    · obtain ⟨a, ha, he⟩ := List.mem_map.mp ((hk _).mpr (List.mem_map.mpr ⟨b, hb, rfl⟩))
      exact ⟨a, ha, (h a ha b hb).mp he⟩
  · intro hk i
    simp only [List.mem_map]
    constructor
    · rintro ⟨a, ha, rfl⟩; obtain ⟨b, hb, he⟩ := hk.1 a ha; exact ⟨b, hb, ((h a ha b hb).mpr he).symm⟩
    · rintro ⟨b, hb, rfl⟩; obtain ⟨a, ha, he⟩ := hk.2 b hb; exact ⟨a, ha, (h a ha b hb).mpr he⟩

/-- rooted: same numeric key exactly when the families of clades are the same sets of sets -/
theorem topoKeyN_rooted_iff (all : List String) (a b : T) (ha : FamIn all (belowFam a)) (hb : FamIn all (belowFam b)) :
    topoKeyN all true a = topoKeyN all true b ↔ FamEq (belowFam a) (belowFam b) := by
  unfold topoKeyN
  simp only [if_true]
  exact keys_eq_iff _ SetEq _ _ (fun x hx y hy => maskOf_eq_iff all x y (ha x hx) (hb y hy))

/-! ### unrooted: a split is a leaf set or its complement -/

/-- is the `i`-th reference tip in `S` -/
def memAt (all S : List String) (i : Nat) : Bool :=
  match all[i]? with
  | some x => decide (x ∈ S)
  | none => false

theorem memAt_idxOf (all S : List String) (y : String) (hy : y ∈ all) : memAt all S (all.idxOf y) = decide (y ∈ S) := by
  have hlt : all.idxOf y < all.length := List.idxOf_lt_length_of_mem hy
  unfold memAt
  rw [List.getElem?_eq_getElem hlt, List.getElem_idxOf hlt]

theorem memAt_of_ge (all S : List String) (i : Nat) (h : all.length ≤ i) : memAt all S i = false := by
  unfold memAt
  rw [List.getElem?_eq_none h]

theorem testBit_maskOf (all S : List String) (hS : ∀ x ∈ S, x ∈ all) (hn : all.Nodup) (i : Nat) :
    (maskOf all S).testBit i = memAt all S i := by
  unfold maskOf
  rw [testBit_bitsOf]
  by_cases hi : i < all.length
  · have hget : all[i]? = some all[i] := List.getElem?_eq_getElem hi
    unfold memAt
    rw [hget]
    simp only
    congr 1
    apply propext
    simp only [List.mem_map]
    constructor
    · rintro ⟨x, hx, he⟩
      have hlt : all.idxOf x < all.length := List.idxOf_lt_length_of_mem (hS x hx)
      have h1 : all[all.idxOf x] = x := List.getElem_idxOf hlt
      have : all[i] = x := by rw [← h1]; congr 1; exact he.symm
      rw [this]; exact hx
    · intro hx
      exact ⟨all[i], hx, hn.idxOf_getElem i hi⟩
  · rw [memAt_of_ge all S i (by omega)]
    simp only [decide_eq_false_iff_not, List.mem_map, not_exists, not_and]
    intro x hx he
    have := List.idxOf_lt_length_of_mem (hS x hx)
    omega

theorem setEq_of_memAt (all S S' : List String) (hS : ∀ x ∈ S, x ∈ all) (hS' : ∀ x ∈ S', x ∈ all)
    (h : ∀ i, i < all.length → memAt all S i = memAt all S' i) : SetEq S S' := by
  intro x
  constructor
  · intro hx
    have hy := hS x hx
    have := h _ (List.idxOf_lt_length_of_mem hy)
    rw [memAt_idxOf all S x hy, memAt_idxOf all S' x hy] at this
    simpa [hx] using this
  · intro hx
    have hy := hS' x hx
    have := h _ (List.idxOf_lt_length_of_mem hy)
    rw [memAt_idxOf all S x hy, memAt_idxOf all S' x hy] at this
    simpa [hx] using this

theorem compEq_iff_memAt (all S S' : List String) (hn : all.Nodup) :
    CompEq all S S' ↔ ∀ i, i < all.length → memAt all S i = !memAt all S' i := by
  constructor
  · intro h i hi
    have hm : all[i] ∈ all := List.getElem_mem hi
    have := h _ hm
    have e : all.idxOf all[i] = i := hn.idxOf_getElem i hi
    rw [← e, memAt_idxOf all S _ hm, memAt_idxOf all S' _ hm]
    by_cases h1 : all[i] ∈ S <;> by_cases h2 : all[i] ∈ S' <;> simp_all
  · intro h y hy
    have := h _ (List.idxOf_lt_length_of_mem hy)
    rw [memAt_idxOf all S y hy, memAt_idxOf all S' y hy] at this
    by_cases h1 : y ∈ S <;> by_cases h2 : y ∈ S' <;> simp_all

/-- the binary digits of the canonical side -/
theorem testBit_canonMask (all S : List String) (hS : ∀ x ∈ S, x ∈ all) (hn : all.Nodup) (i : Nat) :
    (canonMask all (maskOf all S)).testBit i =
      (if memAt all S 0 then (decide (i < all.length) != memAt all S i) else memAt all S i) := by
  unfold canonMask fullMask
  rw [testBit_maskOf all S hS hn 0]
  split
  · rw [Nat.testBit_xor, Nat.testBit_two_pow_sub_one, testBit_maskOf all S hS hn i]
  · exact testBit_maskOf all S hS hn i

theorem canonMask_eq_iff (all S S' : List String) (hS : ∀ x ∈ S, x ∈ all) (hS' : ∀ x ∈ S', x ∈ all) (hn : all.Nodup) :
    canonMask all (maskOf all S) = canonMask all (maskOf all S') ↔ (SetEq S S' ∨ CompEq all S S') := by
  constructor
  · intro h
    have hb : ∀ i, (if memAt all S 0 then (decide (i < all.length) != memAt all S i) else memAt all S i) =
        (if memAt all S' 0 then (decide (i < all.length) != memAt all S' i) else memAt all S' i) := by
      intro i
      rw [← testBit_canonMask all S hS hn i, ← testBit_canonMask all S' hS' hn i, h]
    cases c : memAt all S 0 <;> cases c' : memAt all S' 0
    · left
      exact setEq_of_memAt all S S' hS hS' (fun i _ => by have := hb i; simpa [c, c'] using this)
    · right
      rw [compEq_iff_memAt all S S' hn]
      intro i hi
      have := hb i
      simp only [c, c', hi, decide_true, Bool.false_eq_true, if_false, if_true] at this
      rw [this]; cases memAt all S' i <;> rfl
    · right
      rw [compEq_iff_memAt all S S' hn]
      intro i hi
      have := hb i
      simp only [c, c', hi, decide_true, Bool.false_eq_true, if_false, if_true] at this
      rw [← this]; cases memAt all S i <;> rfl
    · left
      refine setEq_of_memAt all S S' hS hS' (fun i hi => ?_)
      have := hb i
      simp only [c, c', hi, decide_true, if_true] at this
      cases h1 : memAt all S i <;> cases h2 : memAt all S' i <;> simp_all
  · rintro (h | h)
    · rw [(maskOf_eq_iff all S S' hS hS').mpr h]
    · apply Nat.eq_of_testBit_eq
      intro i
      rw [testBit_canonMask all S hS hn i, testBit_canonMask all S' hS' hn i]
      have hm := (compEq_iff_memAt all S S' hn).mp h
      by_cases hi : i < all.length
      · have h0 := hm 0 (by omega)
        have hi' := hm i hi
        rw [h0, hi']
        simp only [hi, decide_true]
        cases memAt all S' 0 <;> cases memAt all S' i <;> rfl
      · rw [memAt_of_ge all S i (by omega), memAt_of_ge all S' i (by omega)]
        have : decide (i < all.length) = false := by simp [hi]
        rw [this]
        cases memAt all S 0 <;> cases memAt all S' 0 <;> rfl

/-- unrooted: same numeric key exactly when the trees have the same set of splits -/
theorem topoKeyN_unrooted_iff (all : List String) (hn : all.Nodup) (a b : T)
    (ha : FamIn all (belowFam a)) (hb : FamIn all (belowFam b)) :
    topoKeyN all false a = topoKeyN all false b ↔ USame all (belowFam a) (belowFam b) := by
  unfold topoKeyN
  simp only [Bool.false_eq_true, if_false]
  exact keys_eq_iff (fun S => canonMask all (maskOf all S)) (fun x y => SetEq x y ∨ CompEq all x y) _ _
    (fun x hx y hy => canonMask_eq_iff all x y (ha x hx) (hb y hy) hn)

/-! ### from the oracle's verdict to the mathematical claim, and back -/

theorem perm_of_sameNames (a b : List String) (h : sameNames a b = true) : a.Perm b := by
  unfold sameNames at h
  rw [beq_iff_eq] at h
  exact (sortNames_perm a).symm.trans (h ▸ sortNames_perm b)

theorem famIn_of_tips (all : List String) (t : T) (h : t.tipNames.Perm all) : FamIn all (belowFam t) := by
  intro S hS x hx
  rw [belowFam_eq] at hS
  have h1 : x ∈ leavesL t.kids := belowsL_sub t.kids S hS x hx
  have h2 : x ∈ t.tipNames := by unfold T.tipNames; exact List.mem_append_right _ h1
  exact h.subset h2

theorem famIn_of_treeOK (n : Nat) (rooted : Bool) (names : List String) (t : T)
    (h : topoTreeOK n rooted t names = true) : FamIn (topoNames names n) (belowFam t) := by
  unfold topoTreeOK at h
  simp only [Bool.and_eq_true] at h
  exact famIn_of_tips _ t (perm_of_sameNames _ _ h.1.1)

/-- the keys of a list of trees on the reference tips are pairwise different exactly when their
    topologies are (rooted: sets of clades, unrooted: sets of splits) — soundness of the enumeration
    oracle in one direction, what the model's enumeration needs in the other -/
theorem distinctNat_keys_iff (all : List String) (rooted : Bool) (hn : all.Nodup) (ts : List T)
    (hin : ∀ t ∈ ts, FamIn all (belowFam t)) :
    distinctNat (ts.map (topoKeyN all rooted)) = true ↔
      ts.Pairwise (fun a b => if rooted then ¬ FamEq (belowFam a) (belowFam b) else ¬ USame all (belowFam a) (belowFam b)) := by
  have key : ∀ a ∈ ts, ∀ b ∈ ts, topoKeyN all rooted a = topoKeyN all rooted b ↔
      (if rooted then FamEq (belowFam a) (belowFam b) else USame all (belowFam a) (belowFam b)) := by
    intro a ha b hb
    cases rooted with
    | true => exact topoKeyN_rooted_iff all a b (hin a ha) (hin b hb)
    | false => exact topoKeyN_unrooted_iff all hn a b (hin a ha) (hin b hb)
  rw [distinctNat_iff, List.Nodup, List.pairwise_map]
  constructor <;> intro hp <;> refine List.Pairwise.imp_of_mem ?_ hp <;> intro a b ha hb hne
  · cases rooted <;> exact fun h => hne ((key a ha b hb).mpr h)
  · cases rooted <;> exact fun h => hne ((key a ha b hb).mp h)

end Gotree.C16

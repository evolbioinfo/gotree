/-
  C07 — from the branch observation list to the unrooted split map `T.usplitsAll` of
  Spec/Splits.lean, through the shared library Lemmas/C05Splits.lean (owner C05, read-only).
-/
import Gotree.Lemmas.C07Loop
import Gotree.Lemmas.C07Resolve
import Gotree.Lemmas.C07Spec
import Gotree.Lemmas.C05Splits

namespace Gotree.C07
open Gotree

/-- the unrooted split map (Spec/Splits: canonical sides, equal sides fused, sorted) of a list of
    unrooted branches; `T.usplitsAll t = usplitsOfU (t.splits.map (toU t.tipNames))` -/
def usplitsOfU (l : List USplit) : List USplit := (ufoldU l []).mergeSort uLe

theorem usplitsAll_eq_ofU (t : T) : t.usplitsAll = usplitsOfU (t.splits.map (toU t.tipNames)) :=
  T.usplitsAll_eq t

theorem usplitsOfU_perm {l₁ l₂ : List USplit} (h : l₁.Perm l₂) (hg : GoodU l₂) :
    (usplitsOfU l₁).Perm (usplitsOfU l₂) := by
  unfold usplitsOfU
  refine (List.mergeSort_perm _ _).trans (List.Perm.trans ?_ (List.mergeSort_perm _ _).symm)
  exact ufoldU_perm h (GoodU.of_perm h hg) [] (by simp [SidesNodup]) (by intro x hx; cases hx)

/-- a tree whose branch list, read as unrooted branches over the taxa of `t`, is a rearrangement of
    `l` has the split map of `l` -/
theorem usplitsAll_perm_list {t u : T} (l : List USplit) (hall : u.tipNames.Perm t.tipNames)
    (hs : (u.splits.map (toU t.tipNames)).Perm l) (hg : GoodU l) :
    u.usplitsAll.Perm (usplitsOfU l) := by
  rw [usplitsAll_eq_ofU, toU_perm_all hall]
  exact usplitsOfU_perm hs hg

/-- reading an observed branch (canonical side first) as an unrooted branch -/
def toUR {γ : Type} (x : ObsR (List String × γ)) : USplit := ⟨x.1.1, x.2.1, x.2.2.1⟩

theorem splits_toU_eq_RT {γ : Type} (all : List String) (g : List String → γ) (t : T) :
    t.splits.map (toU all) = (RT (fun l => (canonSide all l, g l)) t).map toUR := by
  have h := splitsL_obs (fun l => (canonSide all l, g l)) t.kids
  have e1 : t.splits.map (toU all) =
      ((splitsL t.kids).map (fun s => ((canonSide all s.below, g s.below), s.e, s.tip))).map
        (fun y => (⟨y.1.1, y.2.1.len, y.2.1.sup⟩ : USplit)) := by
    rw [List.map_map]; rfl
  rw [e1, h, RT_kids]
  unfold RL
  rw [List.map_map, List.map_map]
  rfl

end Gotree.C07

/-
  C13 — Nexus: scanning the document the writer emits (character level), parsing its tokens.
-/
import Gotree.Lemmas.C13

namespace Gotree.C13
open Gotree
open Nex

/- ## the lexer on words and separators -/

/-- a separator: a character that ends an identifier and is not a carriage return -/
def isSep (c : Char) : Bool := !isIdent c && c != '\r'

def sepToks (c : Char) : List Tok :=
  if isWs c then [] else if c == '\n' then [.eol] else if c == '[' then [.openbrack] else if c == ']' then [.closebrack]
  else if c == ';' then [.endcmd] else if c == '=' then [.equal] else [.comma]

theorem scanGo_nil (cur : Option Txt) : scanGo [] cur = flush cur := rfl

theorem append_sepToks (c : Char) (a b : List Tok) :
    a ++ (sepToks c ++ b) =
      if isWs c then a ++ b else if c == '\n' then a ++ .eol :: b else if c == '[' then a ++ .openbrack :: b
      else if c == ']' then a ++ .closebrack :: b else if c == ';' then a ++ .endcmd :: b
      else if c == '=' then a ++ .equal :: b else a ++ .comma :: b := by
  simp only [sepToks, apply_ite (fun x => a ++ (x ++ b)), List.cons_append, List.nil_append]

/-- `scanGo` is unfolded through its matcher: its equation lemmas are dear to generate because of the
    overlapping `'\r'` patterns -/
theorem scanGo_cons (c : Char) (hc : c ≠ '\r') (r : Txt) (cur : Option Txt) :
    scanGo (c :: r) cur =
      if isIdent c then scanGo r (some (c :: cur.getD []))
      else flush cur ++ (sepToks c ++ scanGo r none) := by
  rw [append_sepToks]
  conv => lhs; unfold scanGo
  split
  · rename_i h; cases h
  · rename_i h; injection h with h; exact absurd h hc
  · rename_i h; injection h with h; exact absurd h hc
  · rename_i h
    injection h with h1 h2
    subst h1 h2
    rfl

theorem scanGo_sep (s : Char) (hs : isSep s = true) (r : Txt) (cur : Option Txt) :
    scanGo (s :: r) cur = flush cur ++ (sepToks s ++ scanGo r none) := by
  simp only [isSep, Bool.and_eq_true, Bool.not_eq_true', bne_iff_ne] at hs
  rw [scanGo_cons s hs.2, hs.1]; simp

def isWord (w : Txt) : Prop := w ≠ [] ∧ ∀ c ∈ w, isIdent c = true

theorem isIdent_ne_cr {c : Char} (h : isIdent c = true) : c ≠ '\r' := by
  intro hc; subst hc; simp [isIdent] at h

/-- a run of identifier characters is accumulated -/
theorem scanGo_idents (w : Txt) (hw : ∀ c ∈ w, isIdent c = true) (r : Txt) (cur : Txt) :
    scanGo (w ++ r) (some cur) = scanGo r (some (w.reverse ++ cur)) := by
  induction w generalizing cur with
  | nil => rfl
  | cons c w ih =>
    have hc := hw c (by simp)
    rw [List.cons_append, scanGo_cons c (isIdent_ne_cr hc), hc]
    simp only [if_true, Option.getD_some]
    rw [ih (fun x hx => hw x (by simp [hx]))]
    simp

/-- a word followed by a separator is one token -/
theorem scanGo_word (w : Txt) (hw : isWord w) (s : Char) (hs : isSep s = true) (r : Txt) :
    scanGo (w ++ s :: r) none = classify (String.ofList w) :: (sepToks s ++ scanGo r none) := by
  obtain ⟨hne, hall⟩ := hw
  cases w with
  | nil => exact absurd rfl hne
  | cons c w =>
    have hc := hall c (by simp)
    rw [List.cons_append, scanGo_cons c (isIdent_ne_cr hc), hc]
    simp only [if_true, Option.getD_none]
    rw [scanGo_idents w (fun x hx => hall x (by simp [hx])), scanGo_sep s hs]
    simp [flush]

/-- pieces of a text: words and separators -/
inductive Piece where
  | w (s : Txt)
  | sep (c : Char)

def Piece.txt : Piece → Txt
  | .w s => s
  | .sep c => [c]

def Piece.toks : Piece → List Tok
  | .w s => [classify (String.ofList s)]
  | .sep c => sepToks c

def render (ps : List Piece) : Txt := ps.flatMap Piece.txt
def pieceToks (ps : List Piece) : List Tok := ps.flatMap Piece.toks

/-- well-formed piece list: every word is a word and is followed by a separator piece -/
def okPieces : List Piece → Prop
  | [] => True
  | .sep c :: r => isSep c = true ∧ okPieces r
  | .w s :: .sep c :: r => isWord s ∧ isSep c = true ∧ okPieces r
  | .w _ :: _ => False

theorem scan_pieces (ps : List Piece) (h : okPieces ps) (rest : Txt) :
    scanGo (render ps ++ rest) none = pieceToks ps ++ scanGo rest none := by
  induction ps using okPieces.induct with
  | case1 => rfl
  | case2 c r ih =>
    simp only [okPieces] at h
    simp only [render, pieceToks, List.flatMap_cons, Piece.txt, Piece.toks, List.cons_append, List.nil_append,
      List.append_assoc] at ih ⊢
    rw [scanGo_sep c h.1, ih h.2]; simp [flush]
  | case3 s c r ih =>
    simp only [okPieces] at h
    simp only [render, pieceToks, List.flatMap_cons, Piece.txt, Piece.toks, List.cons_append, List.nil_append,
      List.append_assoc] at ih ⊢
    rw [scanGo_word s h.1 c h.2.1, ih h.2.2]
  | case4 s r hr =>
    cases r with
    | nil => simp [okPieces] at h
    | cons p r' =>
      cases p with
      | w _ => simp [okPieces] at h
      | sep c => exact absurd rfl (hr c r')

theorem okPieces_append (a b : List Piece) (ha : okPieces a) (hb : okPieces b)
    (hlast : ∀ s, a.getLast? = some (.w s) → False) : okPieces (a ++ b) := by
  induction a using okPieces.induct with
  | case1 => simpa using hb
  | case2 c r ih =>
    simp only [okPieces] at ha
    simp only [List.cons_append, okPieces]
    refine ⟨ha.1, ih ha.2 ?_⟩
    intro s hs
    cases r with
    | nil => simp at hs
    | cons x r' => exact hlast s (by simpa using hs)
  | case3 s c r ih =>
    simp only [okPieces] at ha
    simp only [List.cons_append, okPieces]
    refine ⟨ha.1, ha.2.1, ih ha.2.2 ?_⟩
    intro s' hs
    cases r with
    | nil => simp at hs
    | cons x r' => exact hlast s' (by simpa using hs)
  | case4 s r hr =>
    cases r with
    | nil => exact absurd rfl (hlast s)
    | cons p r' =>
      cases p with
      | w _ => simp [okPieces] at ha
      | sep c => exact absurd rfl (hr c r')

/-- cutting a text right after a separator: the two parts are scanned independently -/
theorem scanGo_append (a : Txt) (s : Char) (hs : isSep s = true) (hcr : ∀ c ∈ a, c ≠ '\r') (rest : Txt) (cur : Option Txt) :
    scanGo (a ++ s :: rest) cur = scanGo (a ++ [s]) cur ++ scanGo rest none := by
  induction a generalizing cur with
  | nil =>
    simp only [List.nil_append]
    rw [scanGo_sep s hs, scanGo_sep s hs]
    simp [scanGo_nil, flush]
  | cons c a ih =>
    have hc := hcr c (by simp)
    have ih' := fun cur => ih (fun x hx => hcr x (by simp [hx])) cur
    simp only [List.cons_append]
    rw [scanGo_cons c hc, scanGo_cons c hc]
    split
    · exact ih' _
    · rw [ih' none]; simp

/- ## numbers -/

theorem natTxt_digits (n : Nat) : natTxt n = Nat.toDigits 10 n := by
  simp [natTxt]

theorem natTxt_isDigit (n : Nat) : ∀ c ∈ natTxt n, c.isDigit = true := by
  intro c hc
  rw [natTxt_digits] at hc
  exact Nat.isDigit_of_mem_toDigits (by decide) (by decide) hc

theorem natTxt_ne_nil (n : Nat) : natTxt n ≠ [] := by
  rw [natTxt_digits]; exact Nat.toDigits_ne_nil

theorem isDigit_isIdent {c : Char} (h : c.isDigit = true) : isIdent c = true := by
  simp only [Char.isDigit, Bool.and_eq_true, decide_eq_true_eq] at h
  have h1 : 48 ≤ c.val.toNat := by have := h.1; simpa [UInt32.le_iff_toNat_le] using this
  have h2 : c.val.toNat ≤ 57 := by have := h.2; simpa [UInt32.le_iff_toNat_le] using this
  simp only [isIdent, isWs, Bool.and_eq_true, bne_iff_ne, ne_eq, Bool.not_eq_true', Bool.or_eq_false_iff,
    beq_eq_false_iff_ne]
  refine ⟨⟨⟨⟨⟨⟨⟨?_, ?_⟩, ?_⟩, ?_⟩, ?_⟩, ?_⟩, ?_⟩, ?_, ?_⟩ <;>
    (intro hc; subst hc; simp at h1 h2)

theorem natTxt_word (n : Nat) : isWord (natTxt n) :=
  ⟨natTxt_ne_nil n, fun c hc => isDigit_isIdent (natTxt_isDigit n c hc)⟩

theorem signSplit_digits (l : Txt) (hd : ∀ c ∈ l, c.isDigit = true) : signSplit l = (false, l) := by
  unfold signSplit
  split
  · rename_i r
    have := hd '-' (by simp)
    simp [Char.isDigit] at this
  · rename_i r
    have := hd '+' (by simp)
    simp [Char.isDigit] at this
  · rfl

theorem digitsNat_toDigits (n : Nat) : digitsNat (Nat.toDigits 10 n) = n := by
  show Nat.ofDigitChars 10 (Nat.toDigits 10 n) 0 = n
  exact Nat.ofDigitChars_ten_toDigits

theorem isInt64_natStr (n : Nat) (hn : n ≤ 9223372036854775807) : isInt64 (toString n) = true := by
  have hl : (toString n).toList = Nat.toDigits 10 n := by simp
  have hd : ∀ c ∈ Nat.toDigits 10 n, c.isDigit = true :=
    fun c hc => Nat.isDigit_of_mem_toDigits (by decide) (by decide) hc
  have hne : (Nat.toDigits 10 n).isEmpty = false := by
    cases h : Nat.toDigits 10 n with
    | nil => exact absurd h Nat.toDigits_ne_nil
    | cons _ _ => rfl
  simp only [isInt64, hl, signSplit_digits _ hd, hne, digitsNat_toDigits]
  simp [hn]
  exact hd

theorem intVal_natStr (n : Nat) : intVal (toString n) = (n : Int) := by
  have hl : (toString n).toList = Nat.toDigits 10 n := by simp
  have hd : ∀ c ∈ Nat.toDigits 10 n, c.isDigit = true :=
    fun c hc => Nat.isDigit_of_mem_toDigits (by decide) (by decide) hc
  simp [intVal, signSplit_digits _ hd, digitsNat_toDigits]

theorem classify_natTxt (n : Nat) (hn : n ≤ 9223372036854775807) :
    classify (String.ofList (natTxt n)) = .numeric (toString n) := by
  have : String.ofList (natTxt n) = toString n := by
    simp only [natTxt, String.ofList_toList]
  rw [this]
  simp only [classify, isInt64_natStr n hn, if_true]

/- ## labels -/

/-- a label that is one Nexus token and not a keyword -/
def tokLabel (s : String) : Prop := isWord s.toList ∧ keywordOf s = none

theorem classify_name (s : String) (h : keywordOf s = none) : (classify s).name? = some s := by
  unfold classify
  split
  · rfl
  · simp [h, Tok.name?]

theorem labelOK_tokLabel (s : String) (h : labelOK s = true) : tokLabel s := by
  simp only [labelOK, Bool.and_eq_true, Bool.not_eq_true', bne_iff_ne, ne_eq, Option.isNone_iff_eq_none] at h
  refine ⟨⟨?_, ?_⟩, h.2⟩
  · intro hnil
    apply h.1.1
    have : s = String.ofList s.toList := by simp
    rw [this, hnil]
  · intro c hc
    have hb : badLabelChar c = false := by
      have := h.1.2
      rw [List.any_eq_false] at this
      simpa using this c hc
    simp only [badLabelChar, Bool.or_eq_false_iff, beq_eq_false_iff_ne] at hb
    simp only [isIdent, isWs, Bool.and_eq_true, bne_iff_ne, ne_eq, Bool.not_eq_true', Bool.or_eq_false_iff,
      beq_eq_false_iff_ne]
    simp_all

/-- the label list of TAXLABELS, up to the ';' -/
theorem scan_labels (ls : List String) (h : ∀ l ∈ ls, tokLabel l) (rest : Txt) :
    scanGo (labelsText ls ++ ';' :: rest) none = ls.map classify ++ .endcmd :: scanGo rest none := by
  induction ls with
  | nil =>
    simp only [labelsText, joinMap, List.nil_append, List.map_nil]
    rw [scanGo_sep ';' (by decide)]; simp [flush, sepToks, isWs]
  | cons l ls ih =>
    have ih' := ih (fun x hx => h x (by simp [hx]))
    have hl := (h l (by simp)).1
    simp only [labelsText, joinMap, List.cons_append, List.append_assoc, List.map_cons] at ih' ⊢
    rw [scanGo_sep ' ' (by decide)]
    simp only [flush, sepToks, isWs, List.nil_append, beq_self_eq_true, Bool.true_or, if_true]
    -- the word `l` is followed by a separator: ' ' (next label) or ';'
    cases ls with
    | nil =>
      simp only [joinMap, List.nil_append, List.map_nil] at ih' ⊢
      rw [scanGo_word l.toList hl ';' (by decide)]
      simp [sepToks, isWs]
    | cons l' ls' =>
      simp only [joinMap, List.cons_append, List.append_assoc] at ih' ⊢
      rw [scanGo_word l.toList hl ' ' (by decide)]
      rw [scanGo_sep ' ' (by decide)] at ih'
      simp only [flush, sepToks, isWs, List.nil_append, beq_self_eq_true, Bool.true_or, if_true] at ih' ⊢
      rw [ih']
      simp

/- ## parsing the tokens of the document -/

theorem parseTaxlabels_labels (ls : List String) (h : ∀ l ∈ ls, keywordOf l = none) (acc : List String) (rest : List Tok) :
    parseTaxlabels (ls.map classify ++ .endcmd :: rest) acc = .ok (ls.foldl insertLabel acc, rest) := by
  induction ls generalizing acc with
  | nil => simp [parseTaxlabels]
  | cons l ls ih =>
    have ih' := fun acc => ih (fun x hx => h x (by simp [hx])) acc
    have hk := h l (by simp)
    simp only [List.map_cons, List.cons_append, List.foldl_cons]
    unfold classify
    split
    · simp only [parseTaxlabels]; exact ih' _
    · simp only [hk, parseTaxlabels]; exact ih' _

theorem parseTreeStr_append (l : List Tok) (acc s : Txt) (rest : List Tok)
    (h : parseTreeStr l acc = .ok (s, [])) : parseTreeStr (l ++ rest) acc = .ok (s, rest) := by
  fun_induction parseTreeStr l acc <;> simp_all [parseTreeStr]

/-- the tokens of the TAXA block after `BEGIN TAXA ;` -/
def taxaToks (nS : String) (labels : List String) : List Tok :=
  [.eol, .kw .dimensions "DIMENSIONS", .kw .ntax "NTAX", .equal, .numeric nS, .endcmd, .eol, .kw .taxlabels "TAXLABELS"] ++
  labels.map classify ++ [.endcmd, .eol, .kw .end_ "END", .endcmd]

theorem parseTaxa_block (f : Nat) (nS : String) (labels : List String) (h : ∀ l ∈ labels, keywordOf l = none)
    (rest : List Tok) :
    parseTaxa (f + 6) (taxaToks nS labels ++ rest) (-1) [] =
      .ok ((intVal nS, labels.foldl insertLabel []), rest) := by
  simp only [taxaToks, List.cons_append, List.nil_append, List.append_assoc]
  simp only [parseTaxa, parseDims]
  rw [parseTaxlabels_labels labels h]

/-- the tokens of one TREE command and the line end after it -/
def treeCmdToks (name : String) (btoks : List Tok) : List Tok :=
  [.kw .tree "TREE", classify name, .equal] ++ btoks ++ [.eol]

theorem parseTrees_cmd (f : Nat) (name : String) (btoks : List Tok) (body : Txt) (rest : List Tok) (a : TreesAcc)
    (hn : keywordOf name = none) (hb : parseTreeStr btoks [] = .ok (body, []))
    (hh : btoks.head? ≠ some .openbrack) :
    parseTrees (f + 2) (treeCmdToks name btoks ++ rest) a =
      parseTrees f rest { a with trees := a.trees ++ [(name, body)] } := by
  have hp := parseTreeStr_append btoks [] body (.eol :: rest) hb
  simp only [treeCmdToks, List.cons_append, List.nil_append, List.append_assoc]
  rw [parseTrees]
  simp only [classify_name name hn]
  cases btoks with
  | nil => simp [parseTreeStr] at hb
  | cons t r =>
    cases t with
    | openbrack => exact absurd rfl hh
    | _ =>
      simp only [List.cons_append] at hp ⊢
      simp only [hp]
      rw [parseTrees]

/-- one TREE command as the writer emits it: name, tokens of the tree text, the text they rebuild -/
structure Cmd where
  name : String
  btoks : List Tok
  body : Txt

def Cmd.ok (c : Cmd) : Prop :=
  keywordOf c.name = none ∧ parseTreeStr c.btoks [] = .ok (c.body, []) ∧ c.btoks.head? ≠ some .openbrack

def cmdsToks (cs : List Cmd) : List Tok := cs.flatMap fun c => treeCmdToks c.name c.btoks

theorem parseTrees_cmds (cs : List Cmd) (h : ∀ c ∈ cs, c.ok) (f : Nat) (rest : List Tok) (a : TreesAcc) :
    parseTrees (f + 2 * cs.length) (cmdsToks cs ++ rest) a =
      parseTrees f rest { a with trees := a.trees ++ cs.map fun c => (c.name, c.body) } := by
  induction cs generalizing a with
  | nil => simp [cmdsToks]
  | cons c cs ih =>
    obtain ⟨h1, h2, h3⟩ := h c (by simp)
    have e : f + 2 * (c :: cs).length = (f + 2 * cs.length) + 2 := by simp; omega
    rw [e]
    simp only [cmdsToks, List.flatMap_cons, List.append_assoc]
    rw [parseTrees_cmd _ c.name c.btoks c.body _ a h1 h2 h3]
    have := ih (fun x hx => h x (by simp [hx])) { a with trees := a.trees ++ [(c.name, c.body)] }
    simp only [cmdsToks] at this
    rw [this]
    simp

/-- the TREES block without a translate table, after `BEGIN TREES ;` -/
theorem parseTrees_block (cs : List Cmd) (h : ∀ c ∈ cs, c.ok) (f : Nat) (hf : 2 * cs.length + 2 ≤ f)
    (rest : List Tok) (a : TreesAcc) :
    parseTrees f (.eol :: (cmdsToks cs ++ .kw .end_ "END" :: .endcmd :: rest)) a =
      .ok ({ a with trees := a.trees ++ cs.map fun c => (c.name, c.body) }, rest) := by
  obtain ⟨g, rfl⟩ : ∃ g, f = (g + 1 + 2 * cs.length) + 1 := ⟨f - (2 * cs.length + 2), by omega⟩
  rw [parseTrees]
  rw [parseTrees_cmds cs h (g + 1)]
  rw [parseTrees]

/-- the whole document after the `#NEXUS` token (no translate table) -/
def docToks (nS : String) (labels : List String) (cs : List Cmd) : List Tok :=
  [.eol, .kw .begin_ "BEGIN", .kw .taxa "TAXA", .endcmd] ++ taxaToks nS labels ++
  [.eol, .kw .begin_ "BEGIN", .kw .trees "TREES", .endcmd, .eol] ++ cmdsToks cs ++
  [.kw .end_ "END", .endcmd, .eol]

theorem parseLoop_doc (nS : String) (labels : List String) (cs : List Cmd)
    (hl : ∀ l ∈ labels, keywordOf l = none) (hc : ∀ c ∈ cs, c.ok) (f : Nat) (hf : 2 * cs.length + 10 ≤ f) :
    parseLoop f (docToks nS labels cs) {} =
      .ok { ntax := intVal nS, taxlabels := some (labels.foldl insertLabel []),
            trees := some (cs.map fun c => (c.name, c.body)), transl := none } := by
  obtain ⟨g, rfl⟩ : ∃ g, f = g + 2 * cs.length + 10 := ⟨f - (2 * cs.length + 10), by omega⟩
  simp only [docToks, List.cons_append, List.nil_append, List.append_assoc]
  rw [parseLoop, parseLoop]
  simp only []
  have e1 : g + 2 * cs.length + 8 = (g + 2 * cs.length + 2) + 6 := by omega
  rw [e1, parseTaxa_block _ nS labels hl]
  simp only []
  rw [parseLoop, parseLoop]
  simp only []
  rw [parseTrees_block cs hc _ (by omega)]
  simp only [List.nil_append]
  rw [parseLoop, parseLoop]
  simp

/- ## the name of a tree (`tree<id>`) is not a keyword -/

theorem upper_digit (c : Char) (h : c.isDigit = true) : upperGo c = c := by
  simp only [Char.isDigit, Bool.and_eq_true, decide_eq_true_eq, ge_iff_le] at h
  have h2 : c.val ≤ '9'.val := h.2
  unfold upperGo
  have a1 : c ≠ 'ı' := by intro hc; subst hc; revert h2; decide
  have a2 : c ≠ 'ſ' := by intro hc; subst hc; revert h2; decide
  simp only [beq_iff_eq, a1, a2, if_false]
  unfold Char.toUpper
  have : ¬ ('a'.val ≤ c.val ∧ c.val ≤ 'z'.val) := by
    intro hh
    have h3 := UInt32.le_trans hh.1 h2
    revert h3; decide
  split
  · rename_i hh; exact absurd hh this
  · rfl

/-- no key word holds a digit -/
theorem keywordOf_none_of_digit (s : String) {c : Char} (hc : c ∈ s.toList) (hd : c.isDigit = true) :
    keywordOf s = none := by
  have hm : c ∈ (String.ofList (s.toList.map upperGo)).toList := by
    rw [String.toList_ofList]; exact List.mem_map.2 ⟨c, hc, upper_digit c hd⟩
  clear hc
  revert hd
  unfold keywordOf
  generalize String.ofList (s.toList.map upperGo) = u at hm
  split <;> first | (intro _; rfl) | (revert c; decide)

theorem toDigits_head (n : Nat) : ∃ c r, Nat.toDigits 10 n = c :: r ∧ c.isDigit = true := by
  cases h : Nat.toDigits 10 n with
  | nil => exact absurd h Nat.toDigits_ne_nil
  | cons c r =>
    exact ⟨c, r, rfl, Nat.isDigit_of_mem_toDigits (b := 10) (n := n) (by decide) (by decide) (by rw [h]; simp)⟩

theorem kw_treeName (id : Nat) : keywordOf ("tree" ++ toString id) = none := by
  obtain ⟨c, r, h, hd⟩ := toDigits_head id
  exact keywordOf_none_of_digit _ (by simp [h]) hd

/- ## scanning literal chunks and tree lines -/

/-- a chunk without carriage return that ends with a separator -/
def endsSepNoCR (lit : Txt) : Bool :=
  lit.all (· != '\r') && (match lit.getLast? with | some s => isSep s | none => false)

theorem scanGo_lit (lit X : Txt) (h : endsSepNoCR lit = true) (cur : Option Txt) :
    scanGo (lit ++ X) cur = scanGo lit cur ++ scanGo X none := by
  simp only [endsSepNoCR, Bool.and_eq_true, List.all_eq_true, bne_iff_ne, ne_eq] at h
  cases hl : lit.getLast? with
  | none => rw [hl] at h; simp at h
  | some s =>
    rw [hl] at h
    have hne : lit ≠ [] := by intro hn; rw [hn] at hl; simp at hl
    have hgl : lit.getLast hne = s := by
      have := List.getLast?_eq_some_getLast hne
      rw [hl] at this; injection this with this; exact this.symm
    have hd : lit.dropLast ++ [s] = lit := by rw [← hgl]; exact List.dropLast_concat_getLast hne
    have hcr : ∀ c ∈ lit.dropLast, c ≠ '\r' := fun c hc => h.1 c (by rw [← hd]; simp [hc])
    rw [← hd, List.append_assoc, List.singleton_append, scanGo_append _ s h.2 hcr X cur]

/-- the writer's literal chunks end with a separator: what follows is scanned by itself -/
theorem scanGo_chunk {lit : Txt} {toks : List Tok} (h : endsSepNoCR lit = true) (hk : scanGo lit none = toks)
    (X : Txt) : scanGo (lit ++ X) none = toks ++ scanGo X none := by
  rw [scanGo_lit lit X h none, hk]

theorem scan_lit1 (X : Txt) : scanGo (lit1 ++ X) none =
    [.kw .nexus "#NEXUS", .eol, .kw .begin_ "BEGIN", .kw .taxa "TAXA", .endcmd, .eol,
      .kw .dimensions "DIMENSIONS", .kw .ntax "NTAX", .equal] ++ scanGo X none :=
  scanGo_chunk (by decide +kernel) (by decide +kernel) X

theorem scan_lit2a (X : Txt) : scanGo (lit2a ++ X) none = [.eol] ++ scanGo X none :=
  scanGo_chunk (by decide +kernel) (by decide +kernel) X

theorem scan_lit3a (X : Txt) : scanGo (lit3a ++ X) none =
    [.eol, .kw .end_ "END", .endcmd, .eol, .kw .begin_ "BEGIN", .kw .trees "TREES", .endcmd, .eol] ++ scanGo X none :=
  scanGo_chunk (by decide +kernel) (by decide +kernel) X

theorem scan_lit4 : scanGo lit4 none = [.kw .end_ "END", .endcmd, .eol] := by decide +kernel

theorem scan_litTree1 (X : Txt) : scanGo (litTree1 ++ X) none = [.kw .tree "TREE"] ++ scanGo X none :=
  scanGo_chunk (by decide +kernel) (by decide +kernel) X

theorem scan_litEq (X : Txt) : scanGo (litEq ++ X) none = [.equal] ++ scanGo X none :=
  scanGo_chunk (by decide +kernel) (by decide +kernel) X

theorem ofList_tree_nat (id : Nat) : String.ofList (litTree2 ++ natTxt id) = "tree" ++ toString id := by
  apply String.toList_inj.1
  simp [natTxt, litTree2]

theorem scan_treeLine (C : NewickCodec) (id : Nat) (t : T) (body : Txt) (hb : C.write t = body ++ [';'])
    (hcr : ∀ c ∈ body, c ≠ '\r') (rest : Txt) :
    scanGo (treeLine C id t ++ rest) none =
      treeCmdToks ("tree" ++ toString id) (scanGo (body ++ [';']) none) ++ scanGo rest none := by
  have e : treeLine C id t ++ rest =
      litTree1 ++ ((litTree2 ++ natTxt id) ++ ' ' :: (litEq ++ (body ++ ';' :: ('\n' :: rest)))) := by
    simp only [treeLine, hb, List.append_assoc, List.cons_append, List.nil_append]
  rw [e, scan_litTree1]
  have hw : isWord (litTree2 ++ natTxt id) := by
    refine ⟨by simp [litTree2], ?_⟩
    intro c hc
    have ht : ∀ c ∈ litTree2, isIdent c = true := by decide
    rcases List.mem_append.1 hc with h | h
    · exact ht c h
    · exact (natTxt_word id).2 c h
  rw [scanGo_word _ hw ' ' (by decide), scan_litEq, scanGo_append body ';' (by decide) hcr,
    scanGo_sep '\n' (by decide), ofList_tree_nat]
  simp [treeCmdToks, sepToks, isWs, flush]

/-- a word followed by a text that starts with a separator -/
theorem scanGo_word' (w : Txt) (hw : isWord w) (s : Char) (hs : isSep s = true) (X : Txt) :
    scanGo (w ++ s :: X) none = classify (String.ofList w) :: scanGo (s :: X) none := by
  rw [scanGo_word w hw s hs, scanGo_sep s hs]; simp [flush]

theorem scan_taxlabels (ls : List String) (h : ∀ l ∈ ls, tokLabel l) (rest : Txt) :
    scanGo (litTaxlabels ++ (labelsText ls ++ ';' :: rest)) none =
      .kw .taxlabels "TAXLABELS" :: (ls.map classify ++ .endcmd :: scanGo rest none) := by
  have hw : isWord litTaxlabels := ⟨by decide, by decide⟩
  have hc : classify (String.ofList litTaxlabels) = .kw .taxlabels "TAXLABELS" := by decide
  cases ls with
  | nil =>
    simp only [labelsText, joinMap, List.nil_append]
    rw [scanGo_word' _ hw ';' (by decide), hc]
    have := scan_labels [] (by simp) rest
    simp only [labelsText, joinMap, List.nil_append] at this
    rw [this]
  | cons l ls =>
    have := scan_labels (l :: ls) h rest
    simp only [labelsText, joinMap, List.cons_append] at this ⊢
    rw [scanGo_word' _ hw ' ' (by decide), hc, this]

/- ## the writer's loop -/

theorem writeLoop_fst (C : NewickCodec) (tr : Bool) (its : List (Nat × T)) (s : WState) (buf : Txt) :
    (writeNexusLoop C tr its s buf).1 = stateLoop its s := by
  induction its generalizing s buf with
  | nil => rfl
  | cons it r ih => simp only [writeNexusLoop, writeNexusStep, stateLoop]; exact ih _ _

def plainLines (C : NewickCodec) : List (Nat × T) → Txt
  | [] => []
  | it :: r => treeLine C it.1 it.2 ++ plainLines C r

theorem writeLoop_plain_snd (C : NewickCodec) (its : List (Nat × T)) (s : WState) (buf : Txt) :
    (writeNexusLoop C false its s buf).2 = buf ++ plainLines C its := by
  induction its generalizing s buf with
  | nil => simp [writeNexusLoop, plainLines]
  | cons it r ih =>
    simp only [writeNexusLoop, writeNexusStep, plainLines]
    rw [ih]
    simp [writtenTree]

/-- the document without translate table, for a taxa count, a label list and the trees -/
def plainDoc (C : NewickCodec) (n : Nat) (labels : List String) (its : List (Nat × T)) : Txt :=
  lit1 ++ (natTxt n ++ ';' :: (lit2a ++ (litTaxlabels ++
    (labelsText labels ++ ';' :: (lit3a ++ (plainLines C its ++ lit4))))))

theorem writeNexus_plain_eq (C : NewickCodec) (its : List (Nat × T)) :
    writeNexus C false its = plainDoc C (stateLoop its {}).map.length (stateLoop its {}).slice its := by
  have h1 := writeLoop_fst C false its {} []
  have h2 := writeLoop_plain_snd C its {} []
  unfold writeNexus plainDoc
  simp only [h1, h2, Bool.false_eq_true, if_false, List.nil_append]

theorem treeNexus_eq (C : NewickCodec) (t : T) :
    treeNexus C t = plainDoc C t.tipNames.length t.tipNames [(1, t)] := by
  simp [treeNexus, plainDoc, plainLines]

/-- the TREE commands of the document -/
def cmdOf (C : NewickCodec) (it : Nat × T) : Cmd :=
  ⟨"tree" ++ toString it.1, scanGo (C.write it.2) none, (C.write it.2).dropLast⟩

theorem scan_lines (C : NewickCodec) (its : List (Nat × T))
    (h : ∀ it ∈ its, ∃ body, C.write it.2 = body ++ [';'] ∧ ∀ c ∈ body, c ≠ '\r') (rest : Txt) :
    scanGo (plainLines C its ++ rest) none = cmdsToks (its.map (cmdOf C)) ++ scanGo rest none := by
  induction its with
  | nil => simp [cmdsToks, plainLines]
  | cons it r ih =>
    obtain ⟨body, hb, hcr⟩ := h it (by simp)
    obtain ⟨id, t⟩ := it
    simp only [plainLines, List.append_assoc, List.map_cons, cmdsToks]
    rw [scan_treeLine C id t body hb hcr, ih (fun x hx => h x (by simp [hx]))]
    simp [cmdOf, cmdsToks, hb]

theorem scan_plainDoc (C : NewickCodec) (n : Nat) (labels : List String) (its : List (Nat × T))
    (hn : n ≤ 9223372036854775807)
    (hl : ∀ l ∈ labels, tokLabel l)
    (h : ∀ it ∈ its, ∃ body, C.write it.2 = body ++ [';'] ∧ ∀ c ∈ body, c ≠ '\r') :
    scan (plainDoc C n labels its) =
      .kw .nexus "#NEXUS" :: docToks (toString n) labels (its.map (cmdOf C)) := by
  unfold scan plainDoc
  rw [scan_lit1, scanGo_word _ (natTxt_word _) ';' (by decide), classify_natTxt _ hn, scan_lit2a,
    scan_taxlabels _ hl, scan_lit3a, scan_lines C its h, scan_lit4]
  simp [docToks, taxaToks, sepToks, isWs]

/- ## from the tokens to the trees -/

theorem classify_ne_loneCR (s : String) : classify s ≠ .loneCR := by
  unfold classify
  split
  · simp
  · split <;> simp

theorem parseTreeStr_noCR (l : List Tok) (acc s : Txt) (r : List Tok) (h : parseTreeStr l acc = .ok (s, r)) (hr : .loneCR ∉ r) :
    .loneCR ∉ l := by
  fun_induction parseTreeStr l acc <;> simp_all

theorem cmdsToks_length (cs : List Cmd) : 2 * cs.length ≤ (cmdsToks cs).length := by
  induction cs with
  | nil => simp [cmdsToks]
  | cons c r ih =>
    simp only [cmdsToks, List.flatMap_cons, List.length_append, List.length_cons, treeCmdToks] at ih ⊢
    omega

theorem hasDup_not_mem (acc : List String) (a : String) (r : List String) (h : hasDup (acc ++ a :: r) = false) : a ∉ acc := by
  induction acc with
  | nil => simp
  | cons x acc ih =>
    simp only [List.cons_append, hasDup, Bool.or_eq_false_iff] at h
    intro hm
    rcases List.mem_cons.1 hm with h1 | h1
    · subst h1
      have := h.1
      simp at this
    · exact ih h.2 h1

theorem foldl_insertLabel (l acc : List String) (h : hasDup (acc ++ l) = false) :
    l.foldl insertLabel acc = acc ++ l := by
  induction l generalizing acc with
  | nil => simp
  | cons a r ih =>
    have hn := hasDup_not_mem acc a r h
    have : insertLabel acc a = acc ++ [a] := by
      unfold insertLabel
      simp [hn]
    simp only [List.foldl_cons, this]
    rw [ih (acc ++ [a]) (by simpa using h)]
    simp

mutual
theorem leaves_strip : ∀ t : T, (strip t).leaves = t.leaves
  | .node d p [] => by simp [strip, stripL, T.leaves]
  | .node d p (k :: ks) => by
    obtain ⟨e, t⟩ := k
    have := leavesL_strip ((e, t) :: ks)
    simp only [strip, stripL, T.leaves] at this ⊢
    exact this
theorem leavesL_strip : ∀ k : Kids, leavesL (stripL k) = leavesL k
  | [] => rfl
  | (e, t) :: r => by
    simp only [stripL, leavesL]
    rw [leaves_strip t, leavesL_strip r]
end

theorem stripL_length (k : Kids) : (stripL k).length = k.length := by
  induction k with
  | nil => rfl
  | cons x r ih => obtain ⟨e, t⟩ := x; simp [stripL, ih]

theorem tipNames_strip (t : T) : (strip t).tipNames = t.tipNames := by
  cases t with
  | node d p k =>
    simp only [strip, T.tipNames, T.kids_node, T.name, T.d_node, stripL_length, leavesL_strip]
    rfl

theorem tipNames_of_strip_eq (a b : T) (h : strip a = strip b) : a.tipNames = b.tipNames := by
  rw [← tipNames_strip a, h, tipNames_strip]

theorem buildTrees_plain (C : NewickCodec) (L : NewickLaws C) (labs : List String) (its : List (Nat × T))
    (hw : ∀ it ∈ its, L.wf it.2 = true) (ht : ∀ it ∈ its, okTaxa labs it.2 = true) :
    buildTrees C none (some labs) ((its.map (cmdOf C)).map fun c => (c.name, c.body)) =
      some (its.map fun it => ("tree" ++ toString it.1, L.norm it.2)) := by
  induction its with
  | nil => rfl
  | cons it r ih =>
    have h1 := hw it (by simp)
    have h2 := ht it (by simp)
    obtain ⟨body, hb, _⟩ := L.write_shape it.2 h1
    have hp : C.parse ((C.write it.2).dropLast ++ [';']) = some (L.norm it.2) := by
      rw [hb]; simp only [List.dropLast_concat]; rw [← hb]; exact L.parse_write it.2 h1
    have htn : (L.norm it.2).tipNames = it.2.tipNames := tipNames_of_strip_eq _ _ (L.norm_strip it.2 h1)
    simp only [okTaxa] at h2
    have := ih (fun x hx => hw x (by simp [hx])) (fun x hx => ht x (by simp [hx]))
    show buildTrees C none (some labs) (("tree" ++ toString it.1, (C.write it.2).dropLast) ::
      ((r.map (cmdOf C)).map fun c => (c.name, c.body))) = _
    simp only [buildTrees, hp, htn, h2, Bool.not_true, Bool.false_eq_true, if_false, this, List.map_cons]

theorem cmdOf_ok (C : NewickCodec) (it : Nat × T) (h : treeTextOK (C.write it.2) = true) : (cmdOf C it).ok := by
  simp only [treeTextOK, Bool.and_eq_true, bne_iff_ne, ne_eq] at h
  refine ⟨kw_treeName it.1, ?_, h.1⟩
  simp only [cmdOf]
  have h2 := h.2
  unfold scan at h2
  split at h2
  · rename_i s heq
    simp only [beq_iff_eq] at h2
    rw [heq, h2]
  · simp at h2

theorem cmdsToks_noCR (cs : List Cmd) (h : ∀ c ∈ cs, c.ok) : Tok.loneCR ∉ cmdsToks cs := by
  intro hm
  simp only [cmdsToks, List.mem_flatMap, treeCmdToks, List.mem_append, List.mem_cons, List.not_mem_nil, or_false,
    reduceCtorEq, false_or] at hm
  obtain ⟨c, hc, h' | h'⟩ := hm
  · exact classify_ne_loneCR _ h'.symm
  · exact parseTreeStr_noCR _ _ _ _ (h c hc).2.1 (by simp) h'

/-- `Nex.parse` once the document is scanned and its tokens are parsed: what is left is the loop over the
    tree texts -/
theorem parse_of_scan (C : NewickCodec) {doc : Txt} {toks : List Tok} {nS : String} {labels : List String}
    {l : List (String × Txt)} {tr : Option (List (String × String))} {d : NexDoc}
    (hscan : scan doc = .kw .nexus "#NEXUS" :: toks) (hcr : Tok.loneCR ∉ toks)
    (hloop : parseLoop (toks.length + 1) toks {} = .ok ⟨intVal nS, some labels, some l, tr⟩)
    (hn : intVal nS = (labels.length : Int)) (hb : buildTrees C tr (some labels) l = some d) :
    Nex.parse C doc = .ok d := by
  have hnocr : (Tok.kw Kw.nexus "#NEXUS" :: toks).contains .loneCR = false := by
    rw [List.contains_eq_mem, decide_eq_false_iff_not]
    simpa using hcr
  unfold Nex.parse
  simp only [hscan, hnocr, hloop, hn, hb, Option.getD_some, bne_self_eq_false, Bool.and_false, Bool.false_eq_true,
    if_false]

/-- `Nex.parse` on a document without translate table -/
theorem parse_plainDoc (C : NewickCodec) (L : NewickLaws C) (n : Nat) (labels : List String) (its : List (Nat × T))
    (hn : n ≤ 9223372036854775807)
    (hlen : n = labels.length)
    (hl : ∀ l ∈ labels, tokLabel l)
    (hnd : hasDup labels = false)
    (hw : ∀ it ∈ its, L.wf it.2 = true)
    (hs : ∀ it ∈ its, treeTextOK (C.write it.2) = true)
    (ht : ∀ it ∈ its, okTaxa labels it.2 = true) :
    Nex.parse C (plainDoc C n labels its) = .ok (its.map fun it => ("tree" ++ toString it.1, L.norm it.2)) := by
  have hbody : ∀ it ∈ its, ∃ body, C.write it.2 = body ++ [';'] ∧ ∀ c ∈ body, c ≠ '\r' := by
    intro it hit
    obtain ⟨body, hb, hc⟩ := L.write_shape it.2 (hw it hit)
    exact ⟨body, hb, fun c hc' => (hc c hc').2.1⟩
  have hcs : ∀ c ∈ its.map (cmdOf C), c.ok := by
    intro c hc
    obtain ⟨it, hit, rfl⟩ := List.mem_map.1 hc
    exact cmdOf_ok C it (hs it hit)
  have hkw : ∀ l ∈ labels, keywordOf l = none := fun l hl' => (hl l hl').2
  have hfold : labels.foldl insertLabel [] = labels := by
    rw [foldl_insertLabel _ [] (by simpa using hnd)]; simp
  refine parse_of_scan C (scan_plainDoc C n labels its hn hl hbody) ?_
    (by
      rw [parseLoop_doc _ _ _ hkw hcs _ (by
        have := cmdsToks_length (its.map (cmdOf C))
        simp only [docToks, taxaToks, List.length_append, List.length_cons, List.length_nil, List.length_map] at this ⊢
        omega), hfold])
    (by rw [intVal_natStr, hlen]) (buildTrees_plain C L _ its hw ht)
  intro hm
  simp only [docToks, taxaToks, List.mem_cons, List.mem_append, List.mem_map, List.not_mem_nil, reduceCtorEq,
    false_or, or_false] at hm
  rcases hm with ⟨l, _, h⟩ | hm
  · exact classify_ne_loneCR l h
  · exact cmdsToks_noCR _ hcs hm

/-- `Nex.parse` on the document written without translate table, in terms of the final label state -/
theorem parse_plain (C : NewickCodec) (L : NewickLaws C) (its : List (Nat × T))
    (hn : (stateLoop its {}).map.length ≤ 9223372036854775807)
    (hlen : (stateLoop its {}).map.length = (stateLoop its {}).slice.length)
    (hl : ∀ l ∈ (stateLoop its {}).slice, tokLabel l)
    (hnd : hasDup (stateLoop its {}).slice = false)
    (hw : ∀ it ∈ its, L.wf it.2 = true)
    (hs : ∀ it ∈ its, treeTextOK (C.write it.2) = true)
    (ht : ∀ it ∈ its, okTaxa (stateLoop its {}).slice it.2 = true) :
    Nex.parse C (writeNexus C false its) = .ok (its.map fun it => ("tree" ++ toString it.1, L.norm it.2)) := by
  rw [writeNexus_plain_eq]
  exact parse_plainDoc C L _ _ its hn hlen hl hnd hw hs ht

/-- `Tree.Nexus()` read back: one tree named tree1 -/
theorem parse_treeNexus (C : NewickCodec) (L : NewickLaws C) (t : T)
    (hw : L.wf t = true) (hs : treeTextOK (C.write t) = true) (ht : tipsOK t = true) :
    Nex.parse C (treeNexus C t) = .ok [("tree1", L.norm t)] := by
  simp only [tipsOK, Bool.and_eq_true, Bool.not_eq_true', decide_eq_true_eq, List.all_eq_true] at ht
  have := parse_plainDoc C L t.tipNames.length t.tipNames [(1, t)] ht.2 rfl
    (fun l hl => labelOK_tokLabel l (ht.1.1 l hl)) ht.1.2
    (by intro it hit; simp at hit; subst hit; exact hw)
    (by intro it hit; simp at hit; subst hit; exact hs)
    (by
      intro it hit; simp at hit; subst hit
      simp only [okTaxa, List.all_eq_true]
      exact fun x hx => by simpa using hx)
  rw [treeNexus_eq, this]
  have : "tree" ++ Nat.repr 1 = "tree1" := by decide
  simp [this]

end Gotree.C13

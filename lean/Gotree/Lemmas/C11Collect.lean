/-
  C11 — what the CALLER sees does not depend on the order in which the workers' messages arrive:
  the collector of FBP (`fbpSupports`: tallies, then one division per branch), the per-bootstrap-tree
  collection of TBE (`tbeCollect`: one raw support per reference branch) and the collection of TBE's
  moved-taxa tallies (`tallyCollect`, Model/C11Tbe.lean) are invariant under permutation of the messages:
  cells are looked up by branch position (distinct keys), shared tallies are sums over the messages, and a
  sum of naturals or rationals does not depend on the order of its terms.  Core Lean only.
-/
import Gotree.Model.C11Tbe
import Gotree.Lemmas.Assoc

namespace Gotree.C11

/-- the FBP collector: the supports are a function of the MULTISET of the workers' messages -/
theorem fbpSupports_perm (ref : T) {sent sent' : List (List Nat)} (h : sent.Perm sent') (ntrees : Nat) :
    fbpSupports ref sent ntrees = fbpSupports ref sent' ntrees := by
  unfold fbpSupports
  apply List.map_congr_left
  intro i _
  rw [(h.map fun l => l.count i).sum_nat]

/-- looking a key up in a list of (key, value) messages with distinct keys does not depend on their order:
    `C04.get_perm`, the lookup spelt with `find?` -/
theorem find_key_perm {γ : Type} {out out' : List (Nat × γ)} (h : out.Perm out') (hk : (out.map (·.1)).Nodup) (i : Nat) :
    (out.find? (·.1 == i)).map (·.2) = (out'.find? (·.1 == i)).map (·.2) := by
  have hu : C04.Uniq (fun a b : Nat => b == a) i out :=
    (List.pairwise_map.mp hk).imp fun {x y} hxy hx => by
      have : x.1 = i := by simpa using hx
      simpa [← this] using fun e : y.1 = x.1 => hxy e.symm
  have := C04.get_perm h hu
  rwa [C04.get_eq_find?, C04.get_eq_find?] at this

/-- the TBE collection for one bootstrap tree: a function of the multiset of (branch, raw support) messages -/
theorem tbeCollect_perm {out out' : List (Nat × Rat)} (h : out.Perm out') (hk : (out.map (·.1)).Nodup) (n : Nat) :
    tbeCollect n out = tbeCollect n out' := by
  unfold tbeCollect
  congr 1
  funext i
  exact find_key_perm h hk i

theorem map_fst_zip_range {γ : Type} : ∀ (n k : Nat) (l : List γ),
    ((List.range' k n).zip l).map (·.1) = (List.range' k n).take l.length
  | 0, _, _ => by simp
  | n + 1, k, [] => by simp
  | n + 1, k, a :: r => by
    simp [List.range'_succ, map_fst_zip_range n (k + 1) r]

/-- items numbered by position carry distinct keys -/
theorem zip_range_keys_nodup {γ : Type} (n : Nat) (l : List γ) : (((List.range n).zip l).map (·.1)).Nodup := by
  rw [List.range_eq_range', map_fst_zip_range]
  exact (List.nodup_range' (step := 1) (by omega)).sublist (List.take_sublist _ _)

/-- the messages of one TBE fan-out carry distinct branch positions -/
theorem tbeItems_keys_nodup (r b : T) (sups : List Rat) :
    (((tbeItems r sups).map (tbeItemFn r b)).map (·.1)).Nodup := by
  rw [List.map_map]
  exact zip_range_keys_nodup _ _

/-! ## The moved-taxa tallies of TBE -/

theorem perm_sum_map_rat {γ : Type} (g : γ → Rat) {l l' : List γ} (h : l.Perm l') :
    (l.map g).sum = (l'.map g).sum := by
  induction h with
  | nil => rfl
  | cons x _ ih => simp [ih]
  | swap x y l =>
    simp only [List.map_cons, List.sum_cons]
    rw [← Rat.add_assoc, ← Rat.add_assoc, Rat.add_comm (g y) (g x)]
  | trans _ _ ih1 ih2 => exact ih1.trans ih2

theorem tmpTotal_perm {out out' : List TallyMsg} (h : out.Perm out') (x : String) : tmpTotal out x = tmpTotal out' x := by
  unfold tmpTotal
  exact perm_sum_map_rat _ h

theorem closeTotal_perm {out out' : List TallyMsg} (h : out.Perm out') : closeTotal out = closeTotal out' := by
  unfold closeTotal
  exact (h.map _).sum_nat

theorem tallyCollect_perm (r : T) (acc : Gotree.C10.Acc) {out out' : List TallyMsg} (h : out.Perm out')
    (hk : (out.map (·.1)).Nodup) : tallyCollect r acc out = tallyCollect r acc out' := by
  unfold tallyCollect
  have h1 : (fun i => (out.find? (·.1 == i)).map (·.2)) = fun i => (out'.find? (·.1 == i)).map (·.2) :=
    funext fun i => find_key_perm h hk i
  simp only [h1, closeTotal_perm h, fun x => tmpTotal_perm h x]

theorem tallyItems_keys_nodup (r b : T) (cutoff : Rat) (acc : Gotree.C10.Acc) :
    (((tallyItems r acc).map (tallyItemFn r b cutoff)).map (·.1)).Nodup := by
  rw [List.map_map]
  exact zip_range_keys_nodup _ _

end Gotree.C11

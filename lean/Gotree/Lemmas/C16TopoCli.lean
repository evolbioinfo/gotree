/-
  C16 — the `generate topologies` command model: helper lemmas.
-/
import Gotree.Model.C16TopoCli

namespace Gotree.C16
open Gotree

/-- an output that cannot be opened: exit status 1, an error logged, nothing written — whatever
    the input and the size -/
theorem topoCli_uncreatable (n : Int) (rooted : Bool) (inp : TopoInput) :
    topoCli n rooted inp false = ⟨1, true, []⟩ := by
  unfold topoCli
  cases inp with
  | unreadable => rfl
  | absent => simp only; split <;> simp
  | names l => simp only; split <;> simp

theorem topoCli_unreadable (n : Int) (rooted : Bool) (creatable : Bool) :
    topoCli n rooted .unreadable creatable = ⟨1, true, []⟩ := rfl

/-- the enumerator's rejection is the command's: exit status 1, logged, nothing written -/
theorem topoCli_of_err (n : Int) (rooted : Bool) (inp : TopoInput) (creatable : Bool)
    (h : (allTopologies (inp.args n).1 rooted (inp.args n).2).isErr = true) :
    topoCli n rooted inp creatable = ⟨1, true, []⟩ := by
  unfold topoCli
  cases inp with
  | unreadable => rfl
  | absent | names l =>
    simp only
    split
    · rename_i hr; rw [hr] at h; simp [Res.isErr] at h
    all_goals rfl

theorem topoCli_of_ok (n : Int) (rooted : Bool) (inp : TopoInput) (ts : List T) (hi : inp ≠ .unreadable)
    (h : allTopologies (inp.args n).1 rooted (inp.args n).2 = .ok ts) :
    topoCli n rooted inp true = ⟨0, false, ts⟩ := by
  unfold topoCli
  cases inp with
  | unreadable => exact absurd rfl hi
  | absent => simp only [h, if_true]
  | names l => simp only [h, if_true]

end Gotree.C16

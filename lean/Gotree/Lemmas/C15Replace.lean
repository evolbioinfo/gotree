/-
  C15 — replacing one leaf by something else, seen from the split list.  `GraftTreeOnTip` puts a
  tree in the place of the tip, `InsertIdenticalTip` a cherry (or one more sibling): for the branches
  above, all that happens is that the leaves `L` of the newcomer stand where the name `tip` stood.
  `Replaced` says this for a whole split list; the statements about path lengths and branch data
  of both operations are its corollaries.  Core Lean only.
-/
import Gotree.Lemmas.C15

namespace Gotree.C15
open Gotree Gotree.C14

theorem perm_append_left_of {α : Type} {l X P : List α} (h : l.Perm (X ++ P)) (A : List α) : (A ++ l).Perm (X ++ (A ++ P)) :=
  (h.append_left A).trans (List.perm_append_comm_assoc A X P)

theorem perm_append_right_of {α : Type} {l X P : List α} (h : l.Perm (X ++ P)) (B : List α) : (l ++ B).Perm (X ++ (P ++ B)) :=
  (h.append_right B).trans (by rw [List.append_assoc])

/-- leaf names before and after: one `tip` has made room for `L` -/
def LeavesRepl (tip : String) (L lv lv' : List String) : Prop :=
  ∃ m, lv.Perm (tip :: m) ∧ lv'.Perm (L ++ m)

theorem LeavesRepl.append_left {tip : String} {L lv lv' : List String} (h : LeavesRepl tip L lv lv') (A : List String) :
    LeavesRepl tip L (A ++ lv) (A ++ lv') := by
  obtain ⟨m, h1, h2⟩ := h
  exact ⟨A ++ m, perm_append_left_of (X := [tip]) h1 A, perm_append_left_of h2 A⟩

theorem LeavesRepl.append_right {tip : String} {L lv lv' : List String} (h : LeavesRepl tip L lv lv') (B : List String) :
    LeavesRepl tip L (lv ++ B) (lv' ++ B) := by
  obtain ⟨m, h1, h2⟩ := h
  exact ⟨m ++ B, perm_append_right_of (X := [tip]) h1 B, perm_append_right_of h2 B⟩

theorem LeavesRepl.tip_mem {tip : String} {L lv lv' : List String} (h : LeavesRepl tip L lv lv') : tip ∈ lv := by
  obtain ⟨m, h1, _⟩ := h
  exact h1.mem_iff.mpr (by simp)

theorem LeavesRepl.mem {tip : String} {L lv lv' : List String} (h : LeavesRepl tip L lv lv') {x : String}
    (hx : x ∈ L ↔ x = tip) : x ∈ lv' ↔ x ∈ lv := by
  obtain ⟨m, h1, h2⟩ := h
  rw [h1.mem_iff, h2.mem_iff, List.mem_append, List.mem_cons, hx]

theorem LeavesRepl.sub {tip : String} {L lv lv' : List String} (h : LeavesRepl tip L lv lv') {x : String}
    (hx : x ∈ L) : x ∈ lv' := by
  obtain ⟨m, _, h2⟩ := h
  exact h2.mem_iff.mpr (List.mem_append_left _ hx)

theorem LeavesRepl.perm_erase {tip : String} {L lv lv' : List String} (h : LeavesRepl tip L lv lv') :
    lv'.Perm (lv.erase tip ++ L) := by
  obtain ⟨m, h1, h2⟩ := h
  have : (lv.erase tip).Perm m := by simpa using h1.erase tip
  exact h2.trans (List.perm_append_comm.trans (this.symm.append_right L))

/-- one branch before and after: it is as it was (and with unique names `tip` is not below it), or
    `tip` was below it and `L` is now; its data are the same.  `nd` stands for "leaf names are unique". -/
def Subst (nd : Prop) (tip : String) (L : List String) (s s' : SplitE) : Prop :=
  s'.e = s.e ∧ ((s' = s ∧ (nd → tip ∉ s.below)) ∨ LeavesRepl tip L s.below s'.below)

theorem Subst.mono {nd nd' : Prop} {tip : String} {L : List String} {s s' : SplitE} (h : Subst nd tip L s s')
    (hn : nd' → nd) : Subst nd' tip L s s' :=
  ⟨h.1, h.2.imp (fun h1 => ⟨h1.1, fun n => h1.2 (hn n)⟩) id⟩

/-- a name that stands where it stood (it is `tip` itself exactly when `tip` is among the new names) -/
theorem Subst.mem_keep {nd : Prop} {tip : String} {L : List String} {s s' : SplitE} (h : Subst nd tip L s s')
    {x : String} (hx : x ∈ L ↔ x = tip) : x ∈ s'.below ↔ x ∈ s.below := by
  rcases h.2 with ⟨rfl, _⟩ | h2
  · exact Iff.rfl
  · exact h2.mem hx

/-- a new name is below exactly the branches `tip` was below -/
theorem Subst.mem_new {nd : Prop} {tip : String} {L : List String} {s s' : SplitE} (h : Subst nd tip L s s')
    (hnd : nd) {x : String} (hx : x ∈ L) (hs : x ∉ s.below) : x ∈ s'.below ↔ tip ∈ s.below := by
  rcases h.2 with ⟨rfl, h1⟩ | h2
  · exact ⟨fun h0 => absurd h0 hs, fun h0 => absurd h0 (h1 hnd)⟩
  · exact ⟨fun _ => h2.tip_mem, fun _ => h2.sub hx⟩

/-- `l'` is the split list `l` after a leaf `tip` has been replaced: the entries `old` at the leaf have
    become `new`, every other entry has changed by `Subst` -/
def Replaced (nd : Prop) (tip : String) (L : List String) (old new l l' : List SplitE) : Prop :=
  ∃ ps : List (SplitE × SplitE), l.Perm (old ++ ps.map (·.1)) ∧ l'.Perm (new ++ ps.map (·.2)) ∧
    ∀ p ∈ ps, Subst nd tip L p.1 p.2

section
variable {nd : Prop} {tip : String} {L : List String} {old new l l' : List SplitE}

theorem Replaced.base (nd : Prop) (tip : String) (L : List String) (old new : List SplitE) :
    Replaced nd tip L old new old new :=
  ⟨[], (List.append_nil old).symm ▸ .refl _, (List.append_nil new).symm ▸ .refl _, fun _ h => nomatch h⟩

theorem Replaced.mono (h : Replaced nd tip L old new l l') {nd' : Prop} (hn : nd' → nd) :
    Replaced nd' tip L old new l l' := by
  obtain ⟨ps, h1, h2, h3⟩ := h
  exact ⟨ps, h1, h2, fun p hp => (h3 p hp).mono hn⟩

theorem Replaced.perm_right (h : Replaced nd tip L old new l l') {l'' : List SplitE} (hp : l''.Perm l') :
    Replaced nd tip L old new l l'' := by
  obtain ⟨ps, h1, h2, h3⟩ := h
  exact ⟨ps, h1, hp.trans h2, h3⟩

/-- the branch above the place of the replacement -/
theorem Replaced.under (h : Replaced nd tip L old new l l') {s s' : SplitE} (hs : Subst nd tip L s s') :
    Replaced nd tip L old new (s :: l) (s' :: l') := by
  obtain ⟨ps, h1, h2, h3⟩ := h
  refine ⟨(s, s') :: ps, (h1.cons s).trans List.perm_middle.symm, (h2.cons s').trans List.perm_middle.symm, ?_⟩
  intro p hp
  rcases List.mem_cons.mp hp with rfl | hp
  · exact hs
  · exact h3 p hp

/-- branches elsewhere in the tree, in front … -/
theorem Replaced.append_left (h : Replaced nd tip L old new l l') (A : List SplitE) (hA : ∀ s ∈ A, nd → tip ∉ s.below) :
    Replaced nd tip L old new (A ++ l) (A ++ l') := by
  obtain ⟨ps, h1, h2, h3⟩ := h
  refine ⟨A.map (fun s => (s, s)) ++ ps, ?_, ?_, fun p hp => ?_⟩
  · simpa [List.map_map, Function.comp_def] using perm_append_left_of h1 A
  · simpa [List.map_map, Function.comp_def] using perm_append_left_of h2 A
  · rcases List.mem_append.mp hp with hp | hp
    · obtain ⟨s, hs, rfl⟩ := List.mem_map.mp hp
      exact ⟨rfl, Or.inl ⟨rfl, hA s hs⟩⟩
    · exact h3 p hp

/-- … and behind -/
theorem Replaced.append_right (h : Replaced nd tip L old new l l') (B : List SplitE) (hB : ∀ s ∈ B, nd → tip ∉ s.below) :
    Replaced nd tip L old new (l ++ B) (l' ++ B) := by
  obtain ⟨ps, h1, h2, h3⟩ := h
  refine ⟨ps ++ B.map (fun s => (s, s)), ?_, ?_, fun p hp => ?_⟩
  · simpa [List.map_map, Function.comp_def] using perm_append_right_of h1 B
  · simpa [List.map_map, Function.comp_def] using perm_append_right_of h2 B
  · rcases List.mem_append.mp hp with hp | hp
    · exact h3 p hp
    · obtain ⟨s, hs, rfl⟩ := List.mem_map.mp hp
      exact ⟨rfl, Or.inl ⟨rfl, hB s hs⟩⟩

/-- path sums over paired lists: entry by entry the same weight and the same separation -/
theorem distW_pairs (w : EdgeD → Rat) (a b a' b' : String) : ∀ (ps : List (SplitE × SplitE)),
    (∀ p ∈ ps, p.2.e = p.1.e ∧ p.2.sep a b = p.1.sep a' b') →
    distW w (ps.map (·.2)) a b = distW w (ps.map (·.1)) a' b'
  | [], _ => rfl
  | p :: ps, h => by
    simp only [List.map_cons, distW_cons]
    rw [(h p (by simp)).1, (h p (by simp)).2, distW_pairs w a b a' b' ps fun q hq => h q (by simp [hq])]

theorem distW_eq_zero (w : EdgeD → Rat) (a b : String) : ∀ (l : List SplitE), (∀ s ∈ l, s.sep a b = false) →
    distW w l a b = 0
  | [], _ => rfl
  | s :: l, h => by
    rw [distW_cons, h s (by simp), distW_eq_zero w a b l fun x hx => h x (by simp [hx])]
    simp [Rat.add_zero]

/-- two names that stand where they stood: only the entries at the leaf count differently -/
theorem Replaced.dist_keep (w : EdgeD → Rat) (h : Replaced nd tip L old new l l') {a b : String}
    (ha : a ∈ L ↔ a = tip) (hb : b ∈ L ↔ b = tip) :
    distW w l' a b + distW w old a b = distW w l a b + distW w new a b := by
  obtain ⟨ps, h1, h2, h3⟩ := h
  rw [distW_perm w h1, distW_perm w h2, distW_append, distW_append,
    distW_pairs w a b a b ps fun p hp => ⟨(h3 p hp).1, sep_congr _ _ a b a b ((h3 p hp).mem_keep ha) ((h3 p hp).mem_keep hb)⟩]
  grind

/-- a name that stands where it stood and a new name (unique leaf names): the new name is where `tip` was -/
theorem Replaced.dist_new (w : EdgeD → Rat) (h : Replaced nd tip L old new l l') (hnd : nd) {a b : String}
    (ha : a ∈ L ↔ a = tip) (hb : b ∈ L) (hbl : ∀ s ∈ l, b ∉ s.below) :
    distW w l' a b + distW w old a tip = distW w l a tip + distW w new a b := by
  obtain ⟨ps, h1, h2, h3⟩ := h
  have hin : ∀ p ∈ ps, p.1 ∈ l := fun p hp =>
    h1.mem_iff.mpr (List.mem_append_right _ (List.mem_map.mpr ⟨p, hp, rfl⟩))
  rw [distW_perm w h1, distW_perm w h2, distW_append, distW_append,
    distW_pairs w a b a tip ps fun p hp => ⟨(h3 p hp).1,
      sep_congr _ _ a tip a b ((h3 p hp).mem_keep ha) ((h3 p hp).mem_new hnd hb (hbl _ (hin p hp)))⟩]
  grind

/-- two new names: no old branch separates them -/
theorem Replaced.dist_new2 (w : EdgeD → Rat) (h : Replaced nd tip L old new l l') {a b : String}
    (ha : a ∈ L) (hb : b ∈ L) (hal : ∀ s ∈ l, a ∉ s.below) (hbl : ∀ s ∈ l, b ∉ s.below) :
    distW w l' a b = distW w new a b := by
  obtain ⟨ps, h1, h2, h3⟩ := h
  have hin : ∀ p ∈ ps, p.1 ∈ l := fun p hp =>
    h1.mem_iff.mpr (List.mem_append_right _ (List.mem_map.mpr ⟨p, hp, rfl⟩))
  rw [distW_perm w h2, distW_append, distW_eq_zero w a b (ps.map (·.2)), Rat.add_zero]
  intro s' hs'
  obtain ⟨p, hp, rfl⟩ := List.mem_map.mp hs'
  rcases (h3 p hp).2 with ⟨h0, _⟩ | h2
  · rw [h0]; exact sep_of_both_out _ a b (hal _ (hin p hp)) (hbl _ (hin p hp))
  · exact sep_of_both_in _ a b (h2.sub ha) (h2.sub hb)

/-- the branch data: those at the leaf change from `old` to `new`, all others stay -/
theorem Replaced.edges (h : Replaced nd tip L old new l l') :
    (l'.map (·.e) ++ old.map (·.e)).Perm (l.map (·.e) ++ new.map (·.e)) := by
  obtain ⟨ps, h1, h2, h3⟩ := h
  have he : ps.map (fun p => p.2.e) = ps.map (fun p => p.1.e) := List.map_congr_left fun p hp => (h3 p hp).1
  have e1 := h1.map (·.e)
  have e2 := h2.map (·.e)
  simp only [List.map_append, List.map_map, Function.comp_def, he] at e1 e2
  refine (e2.append_right _).trans (List.Perm.trans ?_ (e1.append_right _).symm)
  simp only [List.append_assoc]
  exact (List.perm_append_comm_assoc _ _ _).trans (List.perm_append_comm.append_left _ |>.trans
    (List.perm_append_comm_assoc _ _ _))

end

end Gotree.C15

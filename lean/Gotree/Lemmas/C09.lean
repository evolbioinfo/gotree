/-
  C09 — the counting side of `Consensus`: `eqc` (EqualOrComplement) is an equivalence relation
  on bitsets; the edge index built by `addCount` is the naive frequency table of the branch
  lists (`Inv`); what the counting loop `countAll` returns; thresholds (`floorCut`, `keep`);
  the example collections of the property theorems.
-/
import Gotree.Model.C09
import Gotree.Spec.C09

namespace Gotree.C09
open Gotree

/-! ## bitsets -/

/-- `k` is a bitset over `all`: complementing twice gives it back. -/
def IsKey (all k : List String) : Prop := compl all (compl all k) = k

theorem contains_filter_of_mem {all : List String} (q : String → Bool) {x : String} (hx : x ∈ all) :
    (all.filter q).contains x = q x := by
  rw [Bool.eq_iff_iff]
  simp [List.mem_filter, hx]

theorem isKey_filter (all : List String) (q : String → Bool) : IsKey all (all.filter q) := by
  unfold IsKey compl
  apply List.filter_congr
  intro x hx
  rw [contains_filter_of_mem _ hx, contains_filter_of_mem _ hx]
  simp

theorem isKey_bits (all below : List String) : IsKey all (bits all below) := isKey_filter all _

theorem isKey_compl (all k : List String) : IsKey all (compl all k) := isKey_filter all _

/-- `eqc` as a proposition -/
def Eqc (all a b : List String) : Prop := a = b ∨ a = compl all b

theorem eqc_iff (all a b : List String) : eqc all a b = true ↔ Eqc all a b := by
  simp [eqc, Eqc]

theorem eqc_false_iff (all a b : List String) : eqc all a b = false ↔ ¬ Eqc all a b := by
  rw [← eqc_iff]; simp

theorem Eqc.refl (all a : List String) : Eqc all a a := Or.inl rfl

theorem Eqc.symm {all a b : List String} (hb : IsKey all b) (h : Eqc all a b) : Eqc all b a := by
  rcases h with h | h
  · exact Or.inl h.symm
  · right; rw [h]; exact hb.symm

theorem Eqc.trans {all a b c : List String} (hc : IsKey all c) (h1 : Eqc all a b) (h2 : Eqc all b c) :
    Eqc all a c := by
  rcases h1 with rfl | h1
  · exact h2
  · rcases h2 with rfl | h2
    · exact Or.inr h1
    · left; rw [h1, h2]; exact hc

/-- the two sides of a branch have complementary bitsets -/
theorem bits_compl (all X Y : List String) (h : ∀ x ∈ all, (x ∈ X ↔ ¬ x ∈ Y)) :
    Eqc all (bits all X) (bits all Y) := by
  right
  unfold bits compl
  apply List.filter_congr
  intro x hx
  rw [contains_filter_of_mem _ hx, Bool.eq_iff_iff]
  simp [h x hx]

/-! ## the edge index is the naive frequency table -/

theorem sumR_append (a b : List Rat) : (a ++ b).sum = a.sum + b.sum := List.sum_append

theorem cnt_append (all : List String) (L M : List KL) (k : List String) :
    cnt all (L ++ M) k = cnt all L k + cnt all M k := by
  simp [cnt]

theorem lsum_append (all : List String) (L M : List KL) (k : List String) :
    lsum all (L ++ M) k = lsum all L k + lsum all M k := by
  simp [lsum]

theorem cnt_single (all : List String) (k k' : List String) (l : Rat) :
    cnt all [(k', l)] k = if eqc all k k' then 1 else 0 := by
  simp [cnt, List.countP_cons]

theorem lsum_single (all : List String) (k k' : List String) (l : Rat) :
    lsum all [(k', l)] k = if eqc all k k' then l else 0 := by
  unfold lsum
  by_cases h : eqc all k k' = true <;> simp [h, Rat.add_zero]

theorem addCount_none (all : List String) (idx : List Entry) (k : List String) (l : Rat)
    (h : ∀ x ∈ idx, eqc all x.key k = false) : addCount all idx k l = idx ++ [⟨k, 1, l⟩] := by
  induction idx with
  | nil => rfl
  | cons x r ih =>
    have hx := h x (by simp)
    simp only [addCount, hx, Bool.false_eq_true, if_false, List.cons_append]
    rw [ih (fun y hy => h y (by simp [hy]))]

theorem addCount_some (all : List String) (pre : List Entry) (x : Entry) (post : List Entry)
    (k : List String) (l : Rat) (hpre : ∀ y ∈ pre, eqc all y.key k = false) (hx : eqc all x.key k = true) :
    addCount all (pre ++ x :: post) k l =
      pre ++ { x with count := x.count + 1, len := x.len + l } :: post := by
  induction pre with
  | nil => simp [addCount, hx]
  | cons y r ih =>
    have hy := hpre y (by simp)
    simp only [List.cons_append, addCount, hy, Bool.false_eq_true, if_false]
    rw [ih (fun z hz => hpre z (by simp [hz]))]

/-- The invariant of the counting loop: the index `idx` is the frequency table of
    the branches `L` seen so far. -/
structure Inv (all : List String) (idx : List Entry) (L : List KL) : Prop where
  lkeys : ∀ kl ∈ L, IsKey all kl.1
  keys : ∀ x ∈ idx, IsKey all x.key
  vals : ∀ x ∈ idx, x.count = cnt all L x.key ∧ x.len = lsum all L x.key
  distinct : (idx.map (·.key)).Pairwise (fun a b => eqc all a b = false)
  cover : ∀ kl ∈ L, ∃ x ∈ idx, eqc all x.key kl.1 = true
  pos : ∀ x ∈ idx, 0 < x.count
  src : ∀ x ∈ idx, ∃ kl ∈ L, x.key = kl.1

theorem Inv.nil (all : List String) : Inv all [] [] :=
  ⟨by simp, by simp, by simp, by simp, by simp, by simp, by simp⟩

theorem eqc_symm_b {all a b : List String} (ha : IsKey all a) (hb : IsKey all b) :
    eqc all a b = eqc all b a := by
  rw [Bool.eq_iff_iff, eqc_iff, eqc_iff]
  exact ⟨Eqc.symm hb, Eqc.symm ha⟩

/-- what `addCount` does to a row -/
def bump (all k : List String) (l : Rat) (x : Entry) : Entry :=
  if eqc all x.key k then { x with count := x.count + 1, len := x.len + l } else x

theorem bump_key (all k : List String) (l : Rat) (x : Entry) : (bump all k l x).key = x.key := by
  unfold bump; split <;> rfl

/-- When no two rows have the same bipartition at most one row matches: `addCount` bumps every
    matching row, and appends a fresh row when there is none. -/
theorem addCount_eq {all : List String} {idx : List Entry} (k : List String) (l : Rat) (hk : IsKey all k)
    (hkeys : ∀ x ∈ idx, IsKey all x.key)
    (hd : (idx.map (·.key)).Pairwise (fun a b => eqc all a b = false)) :
    addCount all idx k l = idx.map (bump all k l) ++
      (if idx.any (fun x => eqc all x.key k) then [] else [⟨k, 1, l⟩]) := by
  induction idx with
  | nil => rfl
  | cons x r ih =>
    rw [List.map_cons, List.pairwise_cons] at hd
    by_cases hx : eqc all x.key k = true
    · have hr : r.map (bump all k l) = r := by
        rw [List.map_congr_left (g := id), List.map_id]
        intro y hy
        have h1 := hd.1 y.key (List.mem_map.2 ⟨y, hy, rfl⟩)
        have hyk : eqc all y.key k = false := by
          rw [eqc_false_iff] at h1 ⊢
          exact fun hyk => h1 (Eqc.trans (hkeys y (by simp [hy])) ((eqc_iff _ _ _).1 hx) (Eqc.symm hk hyk))
        simp [bump, hyk]
      simp [addCount, bump, hx, hr]
    · have hx' : eqc all x.key k = false := by simpa using hx
      simp [addCount, bump, hx', ih (fun y hy => hkeys y (by simp [hy])) hd.2]

theorem Inv.add {all : List String} {idx : List Entry} {L : List KL} (h : Inv all idx L)
    (k : List String) (l : Rat) (hk : IsKey all k) :
    Inv all (addCount all idx k l) (L ++ [(k, l)]) := by
  rw [addCount_eq k l hk h.keys h.distinct]
  have hkk : eqc all k k = true := (eqc_iff _ _ _).2 (Eqc.refl _ _)
  -- without a matching row no branch seen so far has the bipartition `k`
  have hnone : idx.any (fun x => eqc all x.key k) = false → cnt all L k = 0 ∧ lsum all L k = 0 := by
    intro hn
    have : L.filter (fun kl => eqc all k kl.1) = [] := by
      rw [List.filter_eq_nil_iff]
      intro kl hkl hek
      obtain ⟨x, hx, hxe⟩ := h.cover kl hkl
      have h3 : Eqc all x.key k := Eqc.trans hk ((eqc_iff _ _ _).1 hxe)
        (Eqc.symm (h.lkeys kl hkl) ((eqc_iff _ _ _).1 hek))
      have := List.any_eq_false.1 hn x hx
      exact this ((eqc_iff _ _ _).2 h3)
    constructor
    · unfold cnt; rw [List.countP_eq_length_filter, this]; rfl
    · unfold lsum; rw [this]; rfl
  refine ⟨?_, ?_, ?_, ?_, ?_, ?_, ?_⟩
  · intro kl hkl
    rcases List.mem_append.1 hkl with hkl | hkl
    · exact h.lkeys kl hkl
    · simp only [List.mem_singleton] at hkl; subst hkl; exact hk
  · intro y hy
    rcases List.mem_append.1 hy with hy | hy
    · obtain ⟨x, hx, rfl⟩ := List.mem_map.1 hy
      rw [bump_key]; exact h.keys x hx
    · split at hy
      · cases hy
      · simp only [List.mem_singleton] at hy; subst hy; exact hk
  · intro y hy
    rw [cnt_append, lsum_append, cnt_single, lsum_single]
    rcases List.mem_append.1 hy with hy | hy
    · obtain ⟨x, hx, rfl⟩ := List.mem_map.1 hy
      obtain ⟨v1, v2⟩ := h.vals x hx
      rw [bump_key]
      unfold bump
      by_cases hm : eqc all x.key k = true
      · simp [hm, v1, v2]
      · simp [hm, v1, v2, Rat.add_zero]
    · split at hy
      · cases hy
      · rename_i hn
        simp only [List.mem_singleton] at hy; subst hy
        obtain ⟨c0, l0⟩ := hnone (by simpa using hn)
        simp [hkk, c0, l0, Rat.zero_add]
  · rw [List.map_append, List.map_map]
    have : (fun x : Entry => x.key) ∘ bump all k l = fun x => x.key := funext (bump_key all k l)
    rw [this, List.pairwise_append]
    refine ⟨h.distinct, ?_, ?_⟩
    · split <;> simp
    · intro a ha b hb
      split at hb
      · cases hb
      · rename_i hn
        simp only [List.map_cons, List.map_nil, List.mem_singleton] at hb
        subst hb
        obtain ⟨y, hy, rfl⟩ := List.mem_map.1 ha
        have := List.any_eq_false.1 (by simpa using hn) y hy
        simpa using this
  · intro kl hkl
    rcases List.mem_append.1 hkl with hkl | hkl
    · obtain ⟨x, hx, hxe⟩ := h.cover kl hkl
      exact ⟨bump all k l x, List.mem_append_left _ (List.mem_map.2 ⟨x, hx, rfl⟩), by rw [bump_key]; exact hxe⟩
    · simp only [List.mem_singleton] at hkl; subst hkl
      by_cases hn : idx.any (fun x => eqc all x.key k) = true
      · obtain ⟨x, hx, hxe⟩ := List.any_eq_true.1 hn
        exact ⟨bump all k l x, List.mem_append_left _ (List.mem_map.2 ⟨x, hx, rfl⟩), by rw [bump_key]; exact hxe⟩
      · exact ⟨⟨k, 1, l⟩, List.mem_append_right _ (by simp [hn]), hkk⟩
  · intro y hy
    rcases List.mem_append.1 hy with hy | hy
    · obtain ⟨x, hx, rfl⟩ := List.mem_map.1 hy
      have := h.pos x hx
      unfold bump; split <;> simp <;> omega
    · split at hy
      · cases hy
      · simp only [List.mem_singleton] at hy; subst hy; exact Nat.one_pos
  · intro y hy
    rcases List.mem_append.1 hy with hy | hy
    · obtain ⟨x, hx, rfl⟩ := List.mem_map.1 hy
      obtain ⟨kl, hkl, e⟩ := h.src x hx
      exact ⟨kl, List.mem_append_left _ hkl, by rw [bump_key]; exact e⟩
    · split at hy
      · cases hy
      · simp only [List.mem_singleton] at hy; subst hy
        exact ⟨(k, l), by simp, rfl⟩
theorem Inv.addKeys {all : List String} (M : List KL) (hM : ∀ kl ∈ M, IsKey all kl.1) :
    ∀ {idx : List Entry} {L : List KL}, Inv all idx L → Inv all (addKeys all idx M) (L ++ M) := by
  induction M with
  | nil => intro idx L h; simpa [C09.addKeys] using h
  | cons kl M ih =>
    intro idx L h
    have h1 := h.add kl.1 kl.2 (hM kl (by simp))
    have h2 := ih (fun x hx => hM x (by simp [hx])) h1
    have : L ++ [(kl.1, kl.2)] ++ M = L ++ kl :: M := by simp
    rw [this] at h2
    simpa [C09.addKeys, List.foldl_cons] using h2

/-! ## trees -/

theorem addKeys_append (all : List String) (idx : List Entry) (L M : List KL) :
    addKeys all idx (L ++ M) = addKeys all (addKeys all idx L) M := by
  simp [addKeys, List.foldl_append]

theorem foldl_addTree (all : List String) (us : List T) :
    ∀ idx, us.foldl (addTree all) idx = addKeys all idx (us.flatMap (edgeKeys all)) := by
  induction us with
  | nil => intro idx; simp [addKeys]
  | cons u us ih =>
    intro idx
    rw [List.foldl_cons, ih, List.flatMap_cons, addKeys_append]; rfl

theorem edgeKeys_isKey (all : List String) (u : T) : ∀ kl ∈ edgeKeys all u, IsKey all kl.1 := by
  intro kl hkl
  simp only [edgeKeys, List.mem_map] at hkl
  obtain ⟨s, _, rfl⟩ := hkl
  exact isKey_bits all s.below

theorem flat_isKey (all : List String) (us : List T) :
    ∀ kl ∈ us.flatMap (edgeKeys all), IsKey all kl.1 := by
  intro kl hkl
  obtain ⟨u, _, hu⟩ := List.mem_flatMap.1 hkl
  exact edgeKeys_isKey all u kl hu

theorem buildIdx_inv (all : List String) (us : List T) :
    Inv all (buildIdx all us) (us.flatMap (edgeKeys all)) := by
  unfold buildIdx
  rw [foldl_addTree]
  have := Inv.addKeys (all := all) (us.flatMap (edgeKeys all)) (flat_isKey all us) (Inv.nil all)
  simpa using this

theorem cnt_flatMap (all : List String) (us : List T) (k : List String) :
    cnt all (us.flatMap (edgeKeys all)) k = (us.map fun u => cnt all (edgeKeys all u) k).sum := by
  unfold cnt; rw [List.countP_flatMap]; rfl

theorem lsum_flatMap (all : List String) (us : List T) (k : List String) :
    lsum all (us.flatMap (edgeKeys all)) k = lenM all us k := by
  unfold lenM
  induction us with
  | nil => rfl
  | cons u us ih => rw [List.flatMap_cons, lsum_append, ih]; simp

theorem pairwiseNe_cnt (all : List String) (k : List String) (_hk : IsKey all k) :
    ∀ (L : List KL), (∀ kl ∈ L, IsKey all kl.1) → pairwiseNe all (L.map (·.1)) = true → cnt all L k ≤ 1 := by
  intro L
  induction L with
  | nil => intro _ _; simp [cnt]
  | cons a L ih =>
    intro hL hp
    simp only [List.map_cons, pairwiseNe, Bool.and_eq_true, List.all_eq_true] at hp
    have ihL := ih (fun x hx => hL x (by simp [hx])) hp.2
    unfold cnt at ihL ⊢
    rw [List.countP_cons]
    by_cases ha : eqc all k a.1 = true
    · -- then no other element matches
      have : List.countP (fun kl => eqc all k kl.1) L = 0 := by
        rw [List.countP_eq_zero]
        intro b hb hkb
        have h1 := hp.1 b.1 (List.mem_map.2 ⟨b, hb, rfl⟩)
        have hbk : IsKey all b.1 := hL b (by simp [hb])
        have hak : IsKey all a.1 := hL a (by simp)
        have : Eqc all a.1 b.1 := Eqc.trans hbk (Eqc.symm hak ((eqc_iff _ _ _).1 ha)) ((eqc_iff _ _ _).1 hkb)
        rw [(eqc_iff _ _ _).2 this] at h1
        simp at h1
      rw [this]; simp [ha]
    · simp only [ha, Bool.false_eq_true, if_false, Nat.add_zero]; exact ihL

theorem cnt_tree (all : List String) (u : T) (k : List String) (hk : IsKey all k)
    (hd : distinctKeys all u = true) :
    cnt all (edgeKeys all u) k = if hasSplit all u k then 1 else 0 := by
  have hle := pairwiseNe_cnt all k hk (edgeKeys all u) (edgeKeys_isKey all u) hd
  unfold hasSplit
  by_cases h : (edgeKeys all u).any (fun kl => eqc all k kl.1) = true
  · rw [if_pos h]
    have : 0 < cnt all (edgeKeys all u) k := by
      unfold cnt; rw [List.countP_pos_iff]
      simpa [List.any_eq_true] using h
    omega
  · rw [if_neg h]
    unfold cnt; rw [List.countP_eq_zero]
    intro kl hkl hk'
    exact h (List.any_eq_true.2 ⟨kl, hkl, hk'⟩)

theorem sum_ite_countP {α : Type} (p : α → Bool) (l : List α) :
    (l.map fun a => if p a then 1 else 0).sum = l.countP p := by
  induction l with
  | nil => rfl
  | cons a l ih => simp only [List.map_cons, List.sum_cons, List.countP_cons, ih]; omega

/-- With no repeated bipartition inside a tree, the number of branches with
    bipartition `k` over the collection is the number of trees containing it. -/
theorem cnt_trees (all : List String) (us : List T) (k : List String) (hk : IsKey all k)
    (hd : ∀ u ∈ us, distinctKeys all u = true) :
    cnt all (us.flatMap (edgeKeys all)) k = countM all us k := by
  rw [cnt_flatMap, countM, ← sum_ite_countP]
  congr 1
  apply List.map_congr_left
  intro u hu
  exact cnt_tree all u k hk (hd u hu)

/-- every entry of the index is the frequency-table row of its bipartition -/
theorem buildIdx_entry (all : List String) (us : List T) (hd : ∀ u ∈ us, distinctKeys all u = true)
    (x : Entry) (hx : x ∈ buildIdx all us) :
    x.count = countM all us x.key ∧ x.len = lenM all us x.key := by
  have inv := buildIdx_inv all us
  have hv := inv.vals x hx
  rw [cnt_trees all us x.key (inv.keys x hx) hd, lsum_flatMap] at hv
  exact hv

theorem countM_le (all : List String) (us : List T) (k : List String) : countM all us k ≤ us.length :=
  List.countP_le_length

/-- every bipartition of some tree has a row -/
theorem buildIdx_cover (all : List String) (us : List T) (u : T) (hu : u ∈ us) (kl : KL)
    (hkl : kl ∈ edgeKeys all u) : ∃ x ∈ buildIdx all us, eqc all x.key kl.1 = true :=
  (buildIdx_inv all us).cover kl (List.mem_flatMap.2 ⟨u, hu, hkl⟩)

/-- no bipartition has two rows -/
theorem buildIdx_distinct (all : List String) (us : List T) :
    ((buildIdx all us).map (·.key)).Pairwise (fun a b => eqc all a b = false) :=
  (buildIdx_inv all us).distinct

/-! ### the counting loop -/

theorem countRest_ok (unr rs : Bool) (first : T) (alltips univ : List String) :
    ∀ (r : List T) (idx : List Entry) (n : Nat) (cn : Counted),
      countRest unr rs first alltips univ r idx n = .ok cn →
      cn.first = first ∧ cn.alltips = alltips ∧ cn.n = n + r.length ∧
      cn.idx = (r.map (prep unr rs)).foldl (addTree univ) idx := by
  intro r
  induction r with
  | nil =>
    intro idx n cn h
    simp only [countRest, Except.ok.injEq] at h
    subst h; simp
  | cons t r ih =>
    intro idx n cn h
    rw [countRest] at h
    by_cases h1 : dupTips (prep unr rs t) = true
    · simp [h1] at h
    · by_cases h2 : ((allTipNames (prep unr rs t)).length != alltips.length) = true
      · simp [h1, h2] at h
      · by_cases h3 : (!(allTipNames (prep unr rs t)).all fun a => (starOf first).tipNames.contains a) = true
        · simp only [h1, h2, h3, Bool.false_eq_true, if_false, if_true] at h
          exact absurd h (by simp)
        · simp only [h1, h2, h3, Bool.false_eq_true, if_false] at h
          obtain ⟨e1, e2, e3, e4⟩ := ih _ _ _ h
          refine ⟨e1, e2, by rw [e3]; simp; omega, ?_⟩
          rw [e4]; simp

theorem countAll_ok (unr rs : Bool) (t : T) (r : List T) (cn : Counted)
    (h : countAll unr rs (t :: r) = .ok (some cn)) :
    cn.first = prep unr rs t ∧ cn.alltips = allTipNames (prep unr rs t) ∧ cn.n = (t :: r).length ∧
    cn.idx = buildIdx (sortN (prep unr rs t).tipNames) ((t :: r).map (prep unr rs)) ∧
    dupTips (prep unr rs t) = false ∧ 2 ≤ ((prep unr rs t).splits.filter (·.tip)).length := by
  rw [countAll] at h
  by_cases h1 : dupTips (prep unr rs t) = true
  · simp [h1] at h
  · by_cases h2 : ((prep unr rs t).splits.filter (·.tip)).length < 2
    · simp [h1, h2] at h
    · simp only [h1, h2, Bool.false_eq_true, if_false] at h
      split at h
      · rename_i c hc
        simp only [Except.ok.injEq, Option.some.injEq] at h
        subst h
        obtain ⟨e1, e2, e3, e4⟩ := countRest_ok _ _ _ _ _ _ _ _ _ hc
        refine ⟨e1, e2, by rw [e3]; simp; omega, ?_, by simpa using h1, by omega⟩
        rw [e4]; simp [buildIdx, List.foldl_cons]
      · exact absurd h (by simp)

/-! ## the checks in front of the counting loop -/

theorem range_ok {c : Rat} (hc : 1/2 ≤ c ∧ c ≤ 1) : (decide (c < 1/2) || decide (c > 1)) = false := by
  simp only [Bool.or_eq_false_iff, decide_eq_false_iff_not, Rat.not_lt]
  exact ⟨hc.1, hc.2⟩

theorem any_deg_lt {ts : List T} (hdeg : ∀ t ∈ ts, 2 ≤ t.kids.length) :
    (ts.any fun t => decide (t.kids.length < 2)) = false := by
  simp only [List.any_eq_false, decide_eq_true_eq, Nat.not_lt]
  exact hdeg

/-! ## thresholds -/

theorem floorCut_lt_iff (c : Rat) (n k : Nat) (hc : 0 ≤ c) :
    floorCut c n < k ↔ c * (n : Rat) < (k : Rat) := by
  unfold floorCut
  have h0 : (0 : Rat) ≤ c * (n : Rat) := Rat.mul_nonneg hc (by exact_mod_cast Nat.zero_le n)
  have hf : 0 ≤ (c * (n : Rat)).floor := Rat.le_floor_iff.2 (by simpa using h0)
  have : ((c * (n : Rat)).floor.toNat : Int) = (c * (n : Rat)).floor := Int.toNat_of_nonneg hf
  have key := Rat.floor_lt_iff (a := c * (n : Rat)) (x := (k : Int))
  have cast : ((k : Int) : Rat) = (k : Rat) := by first | rfl | norm_cast
  rw [cast] at key
  rw [← key]
  omega

/-- `⌊c·n⌋ < k ↔ c < k/n` -/
theorem floorCut_lt_iff_freq (c : Rat) (n k : Nat) (hc : 0 ≤ c) (hn : 0 < n) :
    floorCut c n < k ↔ c < (k : Rat) / (n : Rat) := by
  rw [floorCut_lt_iff c n k hc, Rat.lt_div_iff (by exact_mod_cast hn)]

theorem keep_iff (c : Rat) (n : Nat) (hc : 0 ≤ c) (hn : 0 < n) (x : Entry) :
    keep (floorCut c n) n x = true ↔
      (c < (x.count : Rat) / (n : Rat) ∧ x.count ≤ n) ∨ x.count = n := by
  unfold keep
  simp only [Bool.or_eq_true, Bool.and_eq_true, decide_eq_true_eq, beq_iff_eq, gt_iff_lt]
  rw [floorCut_lt_iff_freq c n x.count hc hn]


/-! ## order independence -/

theorem sumR_perm {a b : List Rat} (h : a.Perm b) : a.sum = b.sum := by
  induction h with
  | nil => rfl
  | cons x _ ih => simp [List.sum_cons, ih]
  | swap x y l => simp only [List.sum_cons]; rw [← Rat.add_assoc, ← Rat.add_assoc, Rat.add_comm y x]
  | trans _ _ ih1 ih2 => exact ih1.trans ih2

theorem cnt_perm (all : List String) {L M : List KL} (h : L.Perm M) (k : List String) :
    cnt all L k = cnt all M k := h.countP_eq _

theorem lsum_perm (all : List String) {L M : List KL} (h : L.Perm M) (k : List String) :
    lsum all L k = lsum all M k := sumR_perm ((h.filter _).map _)

theorem eqc_congr_left {all a b c : List String} (_ha : IsKey all a) (hb : IsKey all b) (hc : IsKey all c)
    (h : Eqc all a b) : eqc all a c = eqc all b c := by
  rw [Bool.eq_iff_iff, eqc_iff, eqc_iff]
  exact ⟨fun h1 => Eqc.trans hc (Eqc.symm hb h) h1, fun h1 => Eqc.trans hc h h1⟩

theorem cnt_congr (all : List String) (L : List KL) (hL : ∀ kl ∈ L, IsKey all kl.1) {k k' : List String}
    (hk : IsKey all k) (hk' : IsKey all k') (h : Eqc all k k') : cnt all L k = cnt all L k' := by
  unfold cnt
  apply List.countP_congr
  intro kl hkl
  rw [eqc_congr_left hk hk' (hL kl hkl) h]

theorem lsum_congr (all : List String) (L : List KL) (hL : ∀ kl ∈ L, IsKey all kl.1) {k k' : List String}
    (hk : IsKey all k) (hk' : IsKey all k') (h : Eqc all k k') : lsum all L k = lsum all L k' := by
  unfold lsum
  congr 2
  apply List.filter_congr
  intro kl hkl
  rw [eqc_congr_left hk hk' (hL kl hkl) h]

theorem flatMap_perm (all : List String) {us us' : List T} (h : us.Perm us') :
    (us.flatMap (edgeKeys all)).Perm (us'.flatMap (edgeKeys all)) := h.flatMap_right _

/-! ## the taxon check -/

theorem hasDup_false_iff (l : List String) : hasDup l = false ↔ l.Nodup := by
  induction l with
  | nil => simp [hasDup]
  | cons a r ih =>
    simp only [hasDup, Bool.or_eq_false_iff, ih, List.nodup_cons]
    exact and_congr_left fun _ => by simp

/-- If the loop meets a tree that fails the taxon check (and no tree before it is
    refused for duplicated tips), the outcome is the taxon error. -/
theorem countRest_taxa (unr rs : Bool) (first : T) (alltips univ : List String) :
    ∀ (r : List T) (idx : List Entry) (n : Nat),
      (∀ u ∈ r, dupTips (prep unr rs u) = false) →
      (∃ u ∈ r, ((allTipNames (prep unr rs u)).length != alltips.length) = true ∨
        (!(allTipNames (prep unr rs u)).all fun a => (starOf first).tipNames.contains a) = true) →
      countRest unr rs first alltips univ r idx n = .error "taxa" := by
  intro r
  induction r with
  | nil => intro _ _ _ h; obtain ⟨u, hu, _⟩ := h; cases hu
  | cons t r ih =>
    intro idx n hdup hbad
    rw [countRest]
    have h1 : dupTips (prep unr rs t) = false := hdup t (by simp)
    by_cases h2 : ((allTipNames (prep unr rs t)).length != alltips.length) = true
    · simp [h1, h2]
    · by_cases h3 : (!(allTipNames (prep unr rs t)).all fun a => (starOf first).tipNames.contains a) = true
      · simp only [h1, h2, h3, Bool.false_eq_true, if_false, if_true]
      · simp only [h1, h2, h3, Bool.false_eq_true, if_false]
        apply ih _ _ (fun u hu => hdup u (by simp [hu]))
        obtain ⟨u, hu, hb⟩ := hbad
        rcases List.mem_cons.1 hu with rfl | hu
        · rcases hb with hb | hb
          · exact absurd hb h2
          · exact absurd hb h3
        · exact ⟨u, hu, hb⟩


/-! ## the vocabulary of the property theorems -/

theorem noRepeat_trees (ts : List T) (h : noRepeat ts = true) :
    ∀ u ∈ trees ts, distinctKeys (univOf ts) u = true := by
  intro u hu
  simp only [trees, List.mem_map] at hu
  obtain ⟨t, ht, rfl⟩ := hu
  simp only [noRepeat, List.all_eq_true] at h
  exact h t ht

/- no single-child node: `RemoveSingleNodes` changes nothing -/
mutual
theorem removeSinglesT_id (e : EdgeD) : ∀ t : T, okBelow t = true → removeSinglesT e t = (e, t)
  | .node d p k => by
    intro h
    simp only [okBelow, Bool.and_eq_true, bne_iff_ne, ne_eq] at h
    have hk := removeSinglesL_id k h.2
    unfold removeSinglesT
    rw [hk]
    match k, h.1 with
    | [], _ => rfl
    | [x], h1 => exact absurd rfl h1
    | _ :: _ :: _, _ => rfl
theorem removeSinglesL_id : ∀ k : Kids, okBelowL k = true → removeSinglesL k = k
  | [] => fun _ => rfl
  | (e, t) :: r => by
    intro h
    simp only [okBelowL, Bool.and_eq_true] at h
    unfold removeSinglesL
    rw [removeSinglesT_id e t h.1, removeSinglesL_id r h.2]
end

theorem removeSingles_id (t : T) (h : okBelowL t.kids = true) : removeSingles t = t := by
  cases t with
  | node d p k => simp only [removeSingles]; rw [removeSinglesL_id k h]

theorem prep_true : prep true true = norm := rfl

theorem norm_of_noSingles (t : T) (h : okBelowL t.kids = true) : norm t = unroot t := by
  unfold norm; rw [removeSingles_id t h]

theorem countAll_index (ts : List T) (cn : Counted)
    (h : countAll true true ts = .ok (some cn)) :
    ts ≠ [] ∧ cn.n = ts.length ∧ cn.idx = index ts ∧
    cn.first = norm (ts.head!) ∧ cn.alltips = allTipNames (norm ts.head!) ∧
    cn.first.tipNames.Nodup ∧ 2 ≤ (cn.first.splits.filter (·.tip)).length := by
  cases ts with
  | nil => simp [countAll] at h
  | cons t r =>
    obtain ⟨e1, e2, e3, e4, e5, e6⟩ := countAll_ok true true t r cn h
    rw [prep_true] at e1 e2 e4 e5 e6
    refine ⟨by simp, e3, by rw [e4]; rfl, e1, e2, ?_, by rw [e1]; exact e6⟩
    rw [e1]; exact (hasDup_false_iff _).1 e5

/-! ## concrete collections (non-vacuity witnesses, F34 witness) -/

def exTip (a : String) (l : Rat) : EdgeD × T := (⟨l, NIL, NIL, [], -1⟩, T.leaf a)
def exInner (l : Rat) (k : Kids) : EdgeD × T := (⟨l, NIL, NIL, [], -1⟩, .node ⟨"", []⟩ 0 k)
def exRoot (k : Kids) : T := .node ⟨"", []⟩ 0 k

/-- `((a:1,b:1):1,c:2,(d:1,e:3):1/2);` unrooted -/
def exU1 : T := exRoot [exInner 1 [exTip "a" 1, exTip "b" 1], exTip "c" 2, exInner (1/2) [exTip "d" 1, exTip "e" 3]]
/-- `((b:1,a:3):2,(c:1,(e:1,d:1):3/2):1);` rooted -/
def exR2 : T := exRoot [exInner 2 [exTip "b" 1, exTip "a" 3], exInner 1 [exTip "c" 1, exInner (3/2) [exTip "e" 1, exTip "d" 1]]]
/-- a tip hanging off the root: `(c:1,((d:2,e:2):1,b:1,a:1):4);` rooted, multifurcating -/
def exR3 : T := exRoot [exTip "c" 1, exInner 4 [exInner 1 [exTip "d" 2, exTip "e" 2], exTip "b" 1, exTip "a" 1]]
def exColl : List T := [exU1, exR2, exR3]

/-- three rooted trees `((a,b),(c,d))`: the bipartition ab|cd is in all of them (F34) -/
def exF34 : List T :=
  [exRoot [exInner 1 [exTip "a" 1, exTip "b" 1], exInner 2 [exTip "c" 1, exTip "d" 1]],
   exRoot [exInner (1/2) [exTip "a" 2, exTip "b" 1], exInner (1/2) [exTip "c" 1, exTip "d" 3]],
   exRoot [exInner 0 [exTip "b" 1, exTip "a" 1], exInner 4 [exTip "d" 1, exTip "c" 1]]]

/-- two trees with a single-child inner node above the clade (a,b):
    `(((a:1,b:1):1):2,c:1,d:1);` and `(((a:1,b:1):3):2,c:1,d:1);` (repaired by 5dad91e) -/
def exSingle : List T :=
  [exRoot [exInner 2 [exInner 1 [exTip "a" 1, exTip "b" 1]], exTip "c" 1, exTip "d" 1],
   exRoot [exInner 2 [exInner 3 [exTip "a" 1, exTip "b" 1]], exTip "c" 1, exTip "d" 1]]

/-- the inner branches of an outcome: (sorted tips below, support, length), `none` when rejected -/
def outValues : Out → Option (List (List String × Rat × Rat))
  | .ok r => some ((r.splits.filter (!·.tip)).map fun s => (sortN s.below, s.e.sup, s.e.len))
  | _ => none

def outSplits (o : Out) : Option (List (List String)) := (outValues o).map (·.map (·.1))

/-! ## the re-rooting of tip-rooted inputs (5a3a76a) -/

/-- two trees rooted at the tip `a`: `((b:1,c:1,(d:1,e:1):1):2)a;` and `(((d:1,e:3):3,c:1,b:1):4)a;` -/
def exTipRoot : List T :=
  [.node ⟨"a", []⟩ 0 [exInner 2 [exTip "b" 1, exTip "c" 1, exInner 1 [exTip "d" 1, exTip "e" 1]]],
   .node ⟨"a", []⟩ 0 [exInner 4 [exInner 3 [exTip "d" 1, exTip "e" 3], exTip "c" 1, exTip "b" 1]]]

theorem rerootTip_of_deg (t : T) (h : 2 ≤ t.kids.length) : rerootTip t = t := by
  unfold rerootTip
  match hk : t.kids, h with
  | [], h => simp at h
  | [x], h => simp at h
  | x :: y :: r, _ => rfl

theorem map_rerootTip_of_deg (ts : List T) (h : ∀ t ∈ ts, 2 ≤ t.kids.length) : ts.map rerootTip = ts := by
  induction ts with
  | nil => rfl
  | cons a l ih =>
    rw [List.map_cons, rerootTip_of_deg a (h a (by simp)), ih (fun t ht => h t (by simp [ht]))]

theorem rerootTip_cases (t : T) : rerootTip t = t ∨
    ∃ d p e dv pv k kr, t = .node d p [(e, .node dv pv (k :: kr))] ∧
      rerootTip t = .node dv 0 ((k :: kr).take pv ++ (e, .node d 0 []) :: (k :: kr).drop pv) := by
  match t with
  | .node d p [] => exact Or.inl rfl
  | .node d p (x :: y :: r) => exact Or.inl rfl
  | .node d p [(e, .node dv pv [])] => exact Or.inl rfl
  | .node d p [(e, .node dv pv (k :: kr))] => exact Or.inr ⟨d, p, e, dv, pv, k, kr, rfl, rfl⟩

theorem rerootTip_deg (t : T) (h : rerootTip t ≠ t) : 2 ≤ (rerootTip t).kids.length := by
  rcases rerootTip_cases t with h' | ⟨d, p, e, dv, pv, k, kr, rfl, h'⟩
  · exact absurd h' h
  · rw [h']
    show 2 ≤ ((k :: kr).take pv ++ (e, T.node d 0 []) :: (k :: kr).drop pv).length
    rw [List.length_append, List.length_cons]
    have : ((k :: kr).take pv).length + ((k :: kr).drop pv).length = (k :: kr).length := by
      rw [← List.length_append, List.take_append_drop]
    simp only [List.length_cons] at this ⊢
    omega

theorem rerootTip_idem (t : T) : rerootTip (rerootTip t) = rerootTip t := by
  by_cases h : rerootTip t = t
  · rw [h, h]
  · exact rerootTip_of_deg _ (rerootTip_deg t h)

end Gotree.C09

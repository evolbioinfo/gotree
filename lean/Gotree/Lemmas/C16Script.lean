/-
  C16 — the draw protocol: a generator call reads exactly the scripted random values
  (`nintsZ` integer draws, `nlens` exponential lengths) and nothing else.
-/
import Gotree.Lemmas.C16

namespace Gotree.C16
open Gotree

theorem iter_congr (step step' : Nat → St → Res St) (P : Nat → St → Prop) (n : Nat)
    (hstep : ∀ i s, 2 ≤ i → i < n → P i s → step i s = step' i s ∧ ∀ s', step i s = .ok s' → P (i + 1) s') :
    ∀ (c i : Nat) (s : St), 2 ≤ i → i + c ≤ n → P i s → iter step c i s = iter step' c i s
  | 0, _, _, _, _, _ => rfl
  | c + 1, i, s, h2, hn, hp => by
    obtain ⟨he, hnext⟩ := hstep i s h2 (by omega) hp
    simp only [iter]
    rw [← he]
    cases hs : step i s with
    | ok s' => exact iter_congr step step' P n hstep c (i + 1) s' (by omega) (by omega) (hnext s' hs)
    | err m => rfl
    | panic m => rfl

def baseLens (rooted : Bool) : Nat := if rooted then 2 else 1

theorem uniformStep_li (ints : List Nat) (lens : List Rat) (i : Nat) (s s' : St)
    (h : uniformStep ints lens i s = .ok s') : s'.li = s.li + 3 := by
  simp only [uniformStep] at h
  split at h
  · cases h
  · split at h
    · cases h; rfl
    · cases h
    · cases h

theorem yuleStep_li (ints : List Nat) (lens : List Rat) (i : Nat) (s s' : St)
    (h : yuleStep ints lens i s = .ok s') : s'.li = s.li + 3 := by
  simp only [yuleStep] at h
  split at h
  · cases h
  · split at h
    · cases h
    · split at h
      · cases h; rfl
      · cases h
      · cases h

theorem caterStep_li (lens : List Rat) (i : Nat) (s s' : St)
    (h : caterStep lens i s = .ok s') : s'.li = s.li + 3 := by
  simp only [caterStep] at h
  split at h
  · cases h
  · split at h
    · cases h; rfl
    · cases h
    · cases h

/-- the frame of the insertion generators reads lengths 0 (and 1) at the start and, at tip `i`, the
    three lengths from `base + 3 (i-2)` on -/
theorem insertionGen_congr (step step' : Nat → St → Res St) (n : Int) (rooted : Bool) (lens lens' : List Rat)
    (hl : ∀ j, j < (if n < 3 then 0 else baseLens rooted + 3 * (n.toNat - 2)) → lenAt lens' j = lenAt lens j)
    (hstep : ∀ i s, 2 ≤ i → i < n.toNat → lenAt lens' s.li = lenAt lens s.li →
      lenAt lens' (s.li + 1) = lenAt lens (s.li + 1) → lenAt lens' (s.li + 2) = lenAt lens (s.li + 2) → step i s = step' i s)
    (hli : ∀ i s s', step i s = .ok s' → s'.li = s.li + 3) :
    insertionGen step n rooted lens = insertionGen step' n rooted lens' := by
  unfold insertionGen
  by_cases h3 : n < 3
  · simp [h3]
  · have h2 : ¬ n < 2 := by omega
    simp only [h3, if_false] at hl
    have hinit : initSt rooted lens = initSt rooted lens' := by
      have l0 := hl 0 (by unfold baseLens; split <;> omega)
      cases rooted with
      | false => simp [initSt, initTree, l0]
      | true =>
        have l1 := hl 1 (by unfold baseLens; simp only [if_true]; omega)
        simp [initSt, initTree, l0, l1]
    have hiter : iter step (n.toNat - 2) 2 (initSt rooted lens) = iter step' (n.toNat - 2) 2 (initSt rooted lens) := by
      apply iter_congr step step' (fun i s => s.li = baseLens rooted + 3 * (i - 2)) n.toNat
      · intro i s hi2 hin hp
        have hp' : s.li = baseLens rooted + 3 * (i - 2) := hp
        refine ⟨hstep i s hi2 hin (hl _ (by omega)) (hl _ (by omega)) (hl _ (by omega)), fun s' hs' => ?_⟩
        have := hli i s s' hs'
        show s'.li = baseLens rooted + 3 * (i + 1 - 2)
        omega
      · omega
      · omega
      · cases rooted <;> simp [initSt, initTree, baseLens]
    simp only [insertionGenDoc2, h2, h3, if_false, decide_false, Bool.false_and, Bool.false_eq_true]
    rw [hiter, hinit]

theorem uniformStep_congr (ints ints' : List Nat) (lens lens' : List Rat) (i : Nat) (s : St)
    (hi : ints'.getD (i - 2) 0 = ints.getD (i - 2) 0)
    (h0 : lenAt lens' s.li = lenAt lens s.li) (h1 : lenAt lens' (s.li + 1) = lenAt lens (s.li + 1))
    (h2 : lenAt lens' (s.li + 2) = lenAt lens (s.li + 2)) :
    uniformStep ints lens i s = uniformStep ints' lens' i s := by
  simp only [uniformStep, hi, h0, h1, h2]

theorem yuleStep_congr (ints ints' : List Nat) (lens lens' : List Rat) (i : Nat) (s : St)
    (hi : ints'.getD (i - 2) 0 = ints.getD (i - 2) 0)
    (h0 : lenAt lens' s.li = lenAt lens s.li) (h1 : lenAt lens' (s.li + 1) = lenAt lens (s.li + 1))
    (h2 : lenAt lens' (s.li + 2) = lenAt lens (s.li + 2)) :
    yuleStep ints lens i s = yuleStep ints' lens' i s := by
  simp only [yuleStep, hi, h0, h1, h2]

theorem caterStep_congr (lens lens' : List Rat) (i : Nat) (s : St)
    (h0 : lenAt lens' s.li = lenAt lens s.li) (h1 : lenAt lens' (s.li + 1) = lenAt lens (s.li + 1))
    (h2 : lenAt lens' (s.li + 2) = lenAt lens (s.li + 2)) :
    caterStep lens i s = caterStep lens' i s := by
  simp only [caterStep, h0, h1, h2]

/-- the balanced recursion reads the `2 (2^(f+1) - 1)` lengths from `li` on -/
theorem balKids_congr (lens lens' : List Rat) : ∀ (f id li : Nat),
    (∀ j, li ≤ j → j < li + 2 * (2 ^ (f + 1) - 1) → lenAt lens' j = lenAt lens j) →
    balKids lens f id li = balKids lens' f id li ∧ (balKids lens f id li).2.2 = li + 2 * (2 ^ (f + 1) - 1)
  | 0, id, li, h => by
    have a := h li (by omega) (by simp)
    have b := h (li + 1) (by omega) (by simp)
    simp [balKids, a, b]
  | f + 1, id, li, h => by
    have hp : 2 ^ (f + 1 + 1) = 2 * 2 ^ (f + 1) := by rw [Nat.pow_succ]; omega
    have hpos : 1 ≤ 2 ^ (f + 1) := Nat.one_le_two_pow
    have a := h li (by omega) (by omega)
    have b := h (li + 1) (by omega) (by omega)
    obtain ⟨e1, n1⟩ := balKids_congr lens lens' f id (li + 2) (fun j h1 h2 => h j (by omega) (by omega))
    obtain ⟨e2, n2⟩ := balKids_congr lens lens' f (balKids lens f id (li + 2)).2.1 (balKids lens f id (li + 2)).2.2
      (fun j h1 h2 => h j (by omega) (by omega))
    refine ⟨?_, ?_⟩
    · rw [balKids_succ, balKids_succ, a, b, ← e1, ← e2]
    · rw [balKids_succ]; simp only; rw [n2, n1]; omega

end Gotree.C16

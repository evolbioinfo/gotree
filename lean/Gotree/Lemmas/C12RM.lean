/-
  C12 — random resolution of SEVERAL sites in lockstep (`randomlyResolveNodeStates` of asr loops over all the sites
  of a node, so the draws of the sites are interleaved).  Seen from one site, the lockstep run is a single-site run
  with SOME stream of draws: `resolveAM_site`, `deltranRM_site`, `acctranRM_site`.  Everything proved about the
  single-site passes "whatever the draws" therefore holds for every site of the lockstep run.
-/
import Gotree.Lemmas.C12Paths
import Gotree.Lemmas.C12Narrow

namespace Gotree.C12
open Gotree

/-- a stream whose first value is 0 yields 0 and goes on with the rest -/
theorem intn_zero (n : Nat) (c : List Nat) : intn n (0 :: c) = (0, c) := by
  unfold intn
  split
  · simp
  · split
    · rename_i h; omega
    · simp

/-- whatever `intn` answered on a stream, some stream gives the same answer and leaves exactly `c` -/
theorem intn_prefix (n : Nat) : ∀ (s c : List Nat), ∃ s0, intn n s0 = ((intn n s).1, c)
  | [], c => ⟨0 :: c, by rw [intn_zero]; simp [intn]⟩
  | v :: r, c => by
    by_cases h1 : (n &&& (n - 1) == 0) = true
    · exact ⟨v :: c, by simp [intn, h1]⟩
    · by_cases h2 : v > 2147483647 - 2147483648 % n
      · obtain ⟨s0, hs0⟩ := intn_prefix n r c
        exact ⟨s0, by rw [hs0]; simp [intn, h1, h2]⟩
      · exact ⟨v :: c, by simp [intn, h1, h2]⟩

theorem resolve_prefix (k : Nat) (v : Vec) (s c : List Nat) : ∃ s0, resolve k v s0 = ((resolve k v s).1, c) := by
  by_cases h : (present k v).length > 1
  · obtain ⟨s0, hs0⟩ := intn_prefix (present k v).length s c
    exact ⟨s0, by simp [resolve, h, hs0]⟩
  · exact ⟨c, by simp [resolve, h]⟩

theorem resolve_nil (k : Nat) (s : List Nat) : resolve k [] s = ([], s) := by
  have : present k [] = [] := by simp [present, Vec.at]
  simp [resolve, this]

/- the annotated tree of site `j` -/
mutual
def AM.site (j : Nat) : AM → A
  | .node ss ks => .node (ss.getD j []) (AM.siteL j ks)
def AM.siteL (j : Nat) : List AM → List A
  | [] => []
  | a :: r => a.site j :: AM.siteL j r
end

theorem resolveSites_getD (k : Nat) : ∀ (ss : List Vec) (st : List Nat) (j : Nat),
    ∃ sj, (resolveSites k ss st).1.getD j [] = (resolve k (ss.getD j []) sj).1
  | [], st, j => ⟨st, by simp [resolveSites, resolve_nil]⟩
  | v :: r, st, 0 => ⟨st, by simp [resolveSites]⟩
  | v :: r, st, j + 1 => by
    obtain ⟨sj, h⟩ := resolveSites_getD k r (resolve k v st).2 j
    exact ⟨sj, by simpa [resolveSites] using h⟩

mutual
/-- DOWNPASS with resolution, seen from site `j`: a single-site run on some stream; `c` = what that stream has left -/
theorem resolveAM_site (k j : Nat) : ∀ (am : AM) (st c : List Nat),
    ∃ s0, resolveA k (am.site j) s0 = ((resolveAM k am st).1.site j, c)
  | .node ss [], st, c => ⟨c, by simp [resolveAM, AM.site, AM.siteL, resolveA]⟩
  | .node ss (x :: xs), st, c => by
    obtain ⟨sj, hsj⟩ := resolveSites_getD k ss st j
    obtain ⟨s1, hs1⟩ := resolveAML_site k j (x :: xs) (resolveSites k ss st).2 c
    obtain ⟨s0, hs0⟩ := resolve_prefix k (ss.getD j []) sj s1
    refine ⟨s0, ?_⟩
    simp only [AM.siteL] at hs1
    simp only [AM.site, AM.siteL, resolveAM, resolveA, hs0, hs1, hsj]
theorem resolveAML_site (k j : Nat) : ∀ (l : List AM) (st c : List Nat),
    ∃ s0, resolveAL k (AM.siteL j l) s0 = (AM.siteL j (resolveAML k l st).1, c)
  | [], st, c => ⟨c, by simp [resolveAML, AM.siteL, resolveAL]⟩
  | a :: r, st, c => by
    obtain ⟨s1, hs1⟩ := resolveAML_site k j r (resolveAM k a st).2 c
    obtain ⟨s0, hs0⟩ := resolveAM_site k j a st s1
    exact ⟨s0, by simp [AM.siteL, resolveAML, resolveAL, hs0, hs1]⟩
end

/- every node carries `L` sites -/
mutual
def AM.wf (L : Nat) : AM → Prop
  | .node ss ks => ss.length = L ∧ AM.wfL L ks
def AM.wfL (L : Nat) : List AM → Prop
  | [] => True
  | a :: r => a.wf L ∧ AM.wfL L r
end

theorem resolveSites_length (k : Nat) : ∀ (ss : List Vec) (st : List Nat), (resolveSites k ss st).1.length = ss.length
  | [], _ => by simp [resolveSites]
  | v :: r, st => by simp [resolveSites, resolveSites_length k r]

/-- the parent's slice of site `j` -/
def parSite (j : Nat) (p : Option (List Vec)) : Option Vec := p.map fun ps => ps.getD j []

theorem interSites_getD (k j L : Nat) (ss : List Vec) (p : Option (List Vec)) (hs : ss.length = L)
    (hp : ∀ ps, p = some ps → ps.length = L) (hj : j < L) :
    (interSites k ss p).getD j [] = interOpt k (ss.getD j []) (parSite j p) := by
  cases p with
  | none => simp [interSites, parSite, interOpt]
  | some ps =>
    have hps := hp ps rfl
    simp only [interSites, parSite, Option.map_some, interOpt]
    simp [List.getD_eq_getElem?_getD, List.getElem?_zipWith, hs ▸ hj, hps ▸ hj]

theorem interSites_length (k L : Nat) (ss : List Vec) (p : Option (List Vec)) (hs : ss.length = L)
    (hp : ∀ ps, p = some ps → ps.length = L) : (interSites k ss p).length = L := by
  cases p with
  | none => simpa [interSites] using hs
  | some ps => simp [interSites, hs, hp ps rfl]

mutual
/-- deltran with resolution, seen from site `j`: the single-site pass on some stream -/
theorem deltranRM_site (k j L : Nat) (hj : j < L) : ∀ (am : AM) (p : Option (List Vec)) (st c : List Nat), am.wf L →
    (∀ ps, p = some ps → ps.length = L) →
    ∃ s0, deltranR k (parSite j p) (am.site j) s0 = ((deltranRM k p am st).1.site j, c)
  | .node ss [], p, st, c, _, _ => ⟨c, by simp [deltranRM, AM.site, AM.siteL, deltranR]⟩
  | .node ss (x :: xs), p, st, c, hw, hp => by
    simp only [AM.wf] at hw
    have hil := interSites_length k L ss p hw.1 hp
    obtain ⟨sj, hsj⟩ := resolveSites_getD k (interSites k ss p) st j
    have hrl : (resolveSites k (interSites k ss p) st).1.length = L := by rw [resolveSites_length, hil]
    obtain ⟨s1, hs1⟩ := deltranRML_site k j L hj (x :: xs) (some (resolveSites k (interSites k ss p) st).1)
      (resolveSites k (interSites k ss p) st).2 c hw.2 (by intro ps e; cases e; exact hrl)
    rw [interSites_getD k j L ss p hw.1 hp hj] at hsj
    simp only [AM.siteL, parSite, Option.map_some] at hs1
    obtain ⟨s0, hs0⟩ := resolve_prefix k (interOpt k (ss.getD j []) (parSite j p)) sj s1
    rw [← hsj] at hs0
    exact ⟨s0, by simp only [AM.site, AM.siteL, deltranRM, deltranR_node, hs0, hs1]⟩
theorem deltranRML_site (k j L : Nat) (hj : j < L) : ∀ (l : List AM) (p : Option (List Vec)) (st c : List Nat), AM.wfL L l →
    (∀ ps, p = some ps → ps.length = L) →
    ∃ s0, deltranRL k (parSite j p) (AM.siteL j l) s0 = (AM.siteL j (deltranRML k p l st).1, c)
  | [], p, st, c, _, _ => ⟨c, by simp [deltranRML, AM.siteL, deltranRL]⟩
  | a :: r, p, st, c, hw, hp => by
    simp only [AM.wfL] at hw
    obtain ⟨s1, hs1⟩ := deltranRML_site k j L hj r p (deltranRM k p a st).2 c hw.2 hp
    obtain ⟨s0, hs0⟩ := deltranRM_site k j L hj a p st s1 hw.1 hp
    exact ⟨s0, by simp [AM.siteL, deltranRML, deltranRL, hs0, hs1]⟩
end

mutual
theorem acctranRM_eq (k : Nat) : ∀ (p : Option (List Vec)) (am : AM) (st : List Nat),
    acctranRM k p am st = deltranRM k p am st
  | _, .node ss [], _ => by simp only [acctranRM, deltranRM]
  | p, .node ss (c :: cs), st => by simp only [acctranRM, deltranRM, acctranRML_eq k _ (c :: cs)]
theorem acctranRML_eq (k : Nat) : ∀ (p : Option (List Vec)) (l : List AM) (st : List Nat),
    acctranRML k p l st = deltranRML k p l st
  | _, [], _ => by simp only [acctranRML, deltranRML]
  | p, a :: r, st => by simp only [acctranRML, deltranRML, acctranRM_eq k p a, acctranRML_eq k p r]
end

/-- acctran with resolution, seen from site `j`: the single-site pass on some stream -/
theorem acctranRM_site (k j L : Nat) (hj : j < L) (am : AM) (p : Option (List Vec)) (st c : List Nat) (hw : am.wf L)
    (hp : ∀ ps, p = some ps → ps.length = L) :
    ∃ s0, acctranR k (parSite j p) (am.site j) s0 = ((acctranRM k p am st).1.site j, c) := by
  simp only [acctranR_eq, acctranRM_eq]; exact deltranRM_site k j L hj am p st c hw hp

theorem acctranRML_site (k j L : Nat) (hj : j < L) : ∀ (l : List AM) (p : Option (List Vec)) (st c : List Nat), AM.wfL L l →
    (∀ ps, p = some ps → ps.length = L) →
    ∃ s0, acctranRL k (parSite j p) (AM.siteL j l) s0 = (AM.siteL j (acctranRML k p l st).1, c) := by
  intro l p st c hw hp
  simp only [acctranRL_eq, acctranRML_eq]; exact deltranRML_site k j L hj l p st c hw hp


/- ## the per-site trees put side by side (`amOf`) and taken apart again (`AM.site`) -/

mutual
theorem amOf_site (j : Nat) : ∀ (t : T) (as : List A) (a : A), as[j]? = some a → shapeOk t a → (amOf t as).site j = a
  | .node _ _ ks, as, .node s aks, h, hs => by
    simp only [shapeOk] at hs
    have h1 : (as.map A.s).getD j [] = s := by simp [List.getD_eq_getElem?_getD, h, A.s]
    have h2 : (as.map A.kids)[j]? = some aks := by simp [h, A.kids]
    simp only [amOf, AM.site, h1, amOfL_site j ks (as.map A.kids) aks h2 hs]
theorem amOfL_site (j : Nat) : ∀ (ks : Kids) (kss : List (List A)) (l : List A), kss[j]? = some l → shapeOkL ks l →
    AM.siteL j (amOfL ks kss) = l
  | [], _, [], _, _ => by simp [amOfL, AM.siteL]
  | [], _, _ :: _, _, hs => by simp [shapeOkL] at hs
  | _ :: _, _, [], _, hs => by simp [shapeOkL] at hs
  | (_, c) :: r, kss, a :: ar, h, hs => by
    simp only [shapeOkL] at hs
    have h1 : (kss.map fun l => l.headD default)[j]? = some a := by simp [h]
    have h2 : (kss.map List.tail)[j]? = some ar := by simp [h]
    simp only [amOfL, AM.siteL, amOf_site j c _ a h1 hs.1, amOfL_site j r _ ar h2 hs.2]
end

mutual
theorem amOf_wf : ∀ (t : T) (as : List A), (amOf t as).wf as.length
  | .node _ _ ks, as => by
    simp only [amOf, AM.wf, List.length_map, true_and]
    have := amOfL_wf ks (as.map A.kids)
    simpa using this
theorem amOfL_wf : ∀ (ks : Kids) (kss : List (List A)), AM.wfL kss.length (amOfL ks kss)
  | [], _ => by simp [amOfL, AM.wfL]
  | (_, c) :: r, kss => by
    simp only [amOfL, AM.wfL]
    have h1 := amOf_wf c (kss.map fun l => l.headD default)
    have h2 := amOfL_wf r (kss.map List.tail)
    simp only [List.length_map] at h1 h2
    exact ⟨h1, h2⟩
end

/-- per-site trees `f 0 … f (len-1)` of the shape of `te` put side by side: every node carries `len` sites, and
    site `j` gives `f j` back -/
theorem amOf_range (te : T) (len j : Nat) (hj : j < len) (f : Nat → A) (hf : shapeOk te (f j)) :
    (amOf te ((List.range len).map f)).wf len ∧ (amOf te ((List.range len).map f)).site j = f j :=
  ⟨by simpa using amOf_wf te ((List.range len).map f), amOf_site j te _ (f j) (by simp [hj]) hf⟩

/-- ★ lockstep = site by site: the random second stage of ParsimonyAsr run on all the sites at once gives, at every
    site `j`, what the single-character run of that site gives on SOME stream of draws -/
theorem asrRAM_site (te : T) (m : List (String × String)) (len : Nat) (algo : Algo) (st : List Nat) (j : Nat)
    (ha : algo ≠ .none) (hj : j < len) :
    ∃ st', (asrRAM te m len algo st).1.site j = (runAlgoR 6 (asrTipVec m j) algo te st').1 := by
  obtain ⟨hwd, hsd⟩ := amOf_range te len j hj (fun j => down 6 (asrTipVec m j) none te) (shape_down 6 _ te none)
  obtain ⟨hwu, hsu⟩ := amOf_range te len j hj (fun j => upA 6 (asrTipVec m j) te) (shape_upA 6 _ te)
  cases algo with
  | none => exact absurd rfl ha
  | downpass =>
    obtain ⟨s0, h⟩ := resolveAM_site 6 j (amOf te ((List.range len).map fun j => down 6 (asrTipVec m j) none te)) st []
    rw [hsd] at h
    exact ⟨s0, by simpa [asrRAM, runAlgoR] using congrArg Prod.fst h |>.symm⟩
  | deltran =>
    obtain ⟨s0, h⟩ := deltranRM_site 6 j len hj _ none st [] hwd (by intro ps e; cases e)
    rw [hsd] at h
    exact ⟨s0, by simpa [asrRAM, runAlgoR, parSite] using congrArg Prod.fst h |>.symm⟩
  | acctran =>
    obtain ⟨s0, h⟩ := acctranRM_site 6 j len hj _ none st [] hwu (by intro ps e; cases e)
    rw [hsu] at h
    exact ⟨s0, by simpa [asrRAM, runAlgoR, parSite] using congrArg Prod.fst h |>.symm⟩

end Gotree.C12

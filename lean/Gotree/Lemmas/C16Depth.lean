/-
  C16 — node depths: basic facts about the Spec functions, and the rooted Go recursion against them.
-/
import Gotree.Spec.C16Depth
import Gotree.Model.C16DepthGo

namespace Gotree.C16
open Gotree

theorem minO_le_left (a : Nat) (b : Option Nat) : ∃ m, minO (some a) b = some m ∧ m ≤ a := by
  cases b with
  | none => exact ⟨a, rfl, Nat.le_refl a⟩
  | some b => exact ⟨min a b, rfl, Nat.min_le_left a b⟩

/-- the least `downDepth` among the children: a lower bound that is attained -/
theorem downMin_spec : ∀ (ks : Kids), ks ≠ [] →
    ∃ m, downMin ks = some m ∧ (∀ et ∈ ks, m ≤ downDepth et.2) ∧ ∃ et ∈ ks, downDepth et.2 = m
  | [], h => absurd rfl h
  | [(e, t)], _ => ⟨downDepth t, by simp [downMin, minO], by simp, ⟨(e, t), by simp, rfl⟩⟩
  | (e, t) :: k2 :: r, _ => by
    obtain ⟨m, hm, hle, ⟨w, hw, hwm⟩⟩ := downMin_spec (k2 :: r) (by simp)
    refine ⟨min (downDepth t) m, by rw [downMin, hm]; rfl, ?_, ?_⟩
    · intro et het
      rcases List.mem_cons.mp het with rfl | h
      · exact Nat.min_le_left _ _
      · exact Nat.le_trans (Nat.min_le_right _ _) (hle et h)
    · by_cases hc : downDepth t ≤ m
      · exact ⟨(e, t), by simp, by simp [Nat.min_eq_left hc]⟩
      · exact ⟨w, List.mem_cons_of_mem _ hw, by rw [hwm]; exact (Nat.min_eq_right (by omega)).symm⟩

mutual
theorem depthsR_length : ∀ (t : T), (depthsR t).length = t.size
  | .node d p ks => by simp only [depthsR, T.size, List.length_cons, depthsRL_length ks]; omega
theorem depthsRL_length : ∀ (ks : Kids), (depthsRL ks).length = T.sizeL ks
  | [] => rfl
  | (e, t) :: r => by simp only [depthsRL, T.sizeL, List.length_append, depthsR_length t, depthsRL_length r]
end

mutual
theorem depthsU_length : ∀ (up : Option Nat) (t : T), (depthsU up t).length = t.size
  | up, .node d p ks => by simp only [depthsU, T.size, List.length_cons, depthsUL_length up ks ks 0]; omega
theorem depthsUL_length : ∀ (up : Option Nat) (all ks : Kids) (i : Nat), (depthsUL up all ks i).length = T.sizeL ks
  | _, _, [], _ => rfl
  | up, all, (e, t) :: r, i => by
    simp only [depthsUL, T.sizeL, List.length_append, depthsU_length _ t, depthsUL_length up all r (i + 1)]
end

/-! ### the Go recursion `computeDepthRecurRooted` computes the specified depths (`depthsR`) -/

/-- the sentinel as an option -/
def ofSentinel (m : Int) : Option Nat := if m = -1 then none else some m.toNat
def toSentinel : Option Nat → Int
  | none => -1
  | some m => (m : Int)

theorem minO_assoc (a b c : Option Nat) : minO (minO a b) c = minO a (minO b c) := by
  cases a <;> cases b <;> cases c <;> simp [minO, Nat.min_assoc]

mutual
theorem goDepthR_spec : ∀ (t : T), (goDepthR t).1 = (downDepth t : Int) ∧ (goDepthR t).2 = (depthsR t).map fun (x : Nat) => (x : Int)
  | .node d p [] => by simp [goDepthR, downDepth, depthsR, depthsRL]
  | .node d p (k :: ks) => by
    obtain ⟨h1, h2⟩ := goDepthRL_spec (k :: ks) none
    obtain ⟨m, hm, _, _⟩ := downMin_spec (k :: ks) (by simp)
    have h1' : (goDepthRL (k :: ks) (-1)).1 = (m : Int) := by
      have := h1
      simp only [minO, hm] at this
      exact this
    have h2' : (goDepthRL (k :: ks) (-1)).2 = (depthsRL (k :: ks)).map fun (x : Nat) => (x : Int) := h2
    simp only [goDepthR, downDepth, depthsR, hm, Option.getD_some, List.map_cons, h1', h2']
    have hc : ((m : Int) + 1) = ((1 + m : Nat) : Int) := by omega
    rw [hc]
    exact ⟨rfl, rfl⟩
theorem goDepthRL_spec : ∀ (ks : Kids) (acc : Option Nat),
    (goDepthRL ks (toSentinel acc)).1 = toSentinel (minO acc (downMin ks)) ∧
    (goDepthRL ks (toSentinel acc)).2 = (depthsRL ks).map fun (x : Nat) => (x : Int)
  | [], acc => by cases acc <;> simp [goDepthRL, downMin, minO, depthsRL]
  | (e, t) :: r, acc => by
    obtain ⟨ht1, ht2⟩ := goDepthR_spec t
    have hstep : (if (toSentinel acc == -1 || (goDepthR t).1 < toSentinel acc) = true then (goDepthR t).1 else toSentinel acc) =
        toSentinel (minO acc (some (downDepth t))) := by
      rw [ht1]
      cases acc with
      | none => simp [toSentinel, minO]
      | some a =>
        show (if (((a : Int) == -1) || decide ((downDepth t : Int) < (a : Int))) = true then (downDepth t : Int) else (a : Int)) =
          ((min a (downDepth t) : Nat) : Int)
        have hne : ((a : Int) == -1) = false := by
          have : (a : Int) ≠ -1 := by omega
          simpa using this
        by_cases hlt : (downDepth t : Int) < (a : Int)
        · simp only [hne, hlt, decide_true, Bool.or_true, if_true]; omega
        · simp only [hne, hlt, decide_false, Bool.or_false, Bool.false_eq_true, if_false]; omega
    obtain ⟨hr1, hr2⟩ := goDepthRL_spec r (minO acc (some (downDepth t)))
    simp only [goDepthRL, hstep, hr1, hr2, ht2, depthsRL, List.map_append, downMin, and_true]
    rw [minO_assoc]
end

end Gotree.C16

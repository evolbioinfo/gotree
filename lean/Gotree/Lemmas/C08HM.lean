/-
  C08 — the model through `ReinitIndexes` and the hash map (Model/C08HM.lean) returns the
  records of the bitset/association-list model (Model/C08.lean), by C04's refinement lemmas.

  C04's lemmas need `KeyLaws` on the whole key type; the index records are lawful only as records
  of branches of trees on one taxon set (`C04.TreeKey`).  They are applied to a map keyed by
  `TreeKey base` and carried over along `TreeKey.idx` (Lemmas/C04Transport.lean).  Core Lean only.
-/
import Gotree.Model.C08HM
import Gotree.Lemmas.C04Transport
import Gotree.Lemmas.C08Bits

namespace Gotree.C08
open Gotree List
open Gotree.C04 (HM Assoc.get Assoc.put EdgeIdx specIdx sortNames TreeKey)

/-! ## association list keyed by records = association list keyed by bitsets -/

theorem eqv_bits (a b : List Bool) : C04.bitsEqualOrComplement a b = eqOrCompl b a := by
  unfold C04.bitsEqualOrComplement eqOrCompl
  rw [Bool.eq_iff_iff]
  simp only [Bool.or_eq_true, Bool.and_eq_true, beq_iff_eq]
  constructor
  · rintro (h | h)
    · exact Or.inl h.symm
    · exact Or.inr ⟨by rw [← h]; simp, h.symm⟩
  · rintro (h | h)
    · exact Or.inl h.symm
    · exact Or.inr h.2.symm

def bitsOf (H : String → UInt64) {base : List String} (kv : TreeKey base × Info) : List Bool × Info :=
  ((kv.1.idx H).bits, kv.2)

/-- `hash.Value` / `hash.PutValue` of the bitset index are the plain map for `EqualOrComplement` -/
theorem value_eq_get (ix : Index) (k : List Bool) : value ix k = Assoc.get (fun a b => eqOrCompl b a) k ix :=
  (C04.get_eq_find? (fun a b => eqOrCompl b a) k ix).symm

theorem put_eq_put (k : List Bool) (v : Info) (ix : Index) : put k v ix = Assoc.put (fun a b => eqOrCompl b a) k v ix := by
  induction ix with
  | nil => rfl
  | cons x r ih => obtain ⟨k', v'⟩ := x; simp only [put, Assoc.put, ih]

theorem eeqv_eq (H : String → UInt64) {base : List String} :
    (fun a b : TreeKey base => eeqv (a.idx H) (b.idx H)) = fun a b => eqOrCompl (b.idx H).bits (a.idx H).bits :=
  funext fun _ => funext fun _ => eqv_bits _ _

theorem assoc_get_bits (H : String → UInt64) {base : List String} (k : TreeKey base) (A : List (TreeKey base × Info)) :
    Assoc.get (fun a b => eeqv (a.idx H) (b.idx H)) k A = value (A.map (bitsOf H)) (k.idx H).bits := by
  rw [value_eq_get, eeqv_eq]
  exact (C04.get_mapB (eqv := fun a b => eqOrCompl b a) (fun k : TreeKey base => (k.idx H).bits) k A).symm

theorem assoc_put_bits (H : String → UInt64) {base : List String} (k : TreeKey base) (v : Info)
    (A : List (TreeKey base × Info)) :
    (Assoc.put (fun a b => eeqv (a.idx H) (b.idx H)) k v A).map (bitsOf H) = put (k.idx H).bits v (A.map (bitsOf H)) := by
  rw [put_eq_put, eeqv_eq]
  exact (C04.put_mapB (eqv := fun a b => eqOrCompl b a) (fun k : TreeKey base => (k.idx H).bits) k v A).symm

/-! ## the hash map represents the bitset index -/

/-- `m` (keyed by records, as the Go map) represents the association list `ix` (keyed by bitsets) -/
def Rep (H : String → UInt64) (base : List String) (m : EMap) (ix : Index) : Prop :=
  ∃ A : List (TreeKey base × Info), C04.Holds (·.idx H) ehash eeqv m A ∧ A.map (bitsOf H) = ix

theorem rep_new (H : String → UInt64) (base : List String) (n : Nat) : Rep H base (HM.new n) [] :=
  ⟨[], .new n, rfl⟩

theorem rep_put {H : String → UInt64} {base : List String} (hn : base.Nodup) {m : EMap} {ix : Index}
    (h : Rep H base m ix) (policy : Nat → Nat → Bool) (k : TreeKey base) (v : Info) :
    ∃ m2, m.put ehash eeqv policy (k.idx H) v = some m2 ∧ Rep H base m2 (put (k.idx H).bits v ix) := by
  obtain ⟨A, hA, rfl⟩ := h
  obtain ⟨m2, h1, h2⟩ := hA.put (TreeKey.keyLaws H hn) policy k v
  exact ⟨m2, h1, _, h2, assoc_put_bits H k v A⟩

theorem rep_get {H : String → UInt64} {base : List String} (hn : base.Nodup) {m : EMap} {ix : Index}
    (h : Rep H base m ix) (k : TreeKey base) : m.get ehash eeqv (k.idx H) = some (value ix (k.idx H).bits) := by
  obtain ⟨A, hA, rfl⟩ := h
  exact (hA.get (TreeKey.keyLaws H hn) k).trans (congrArg some (assoc_get_bits H k A))

/-! ## `ReinitIndexes` -/

/-- `ReinitIndexes` fails exactly when the model says so, and otherwise leaves C04's records -/
theorem reinit_cases (H : String → UInt64) (t : T) :
    (reinitOk t = false ∧ ∃ msg, C04.reinit H t = .err msg) ∨
    (reinitOk t = true ∧
      C04.reinit H t = .ok (sortNames t.tipNames, t.splits.map fun s => specIdx H t.tipNames s.below)) := by
  cases h : reinitOk t with
  | true => exact Or.inr ⟨rfl, C04.reinit_eq H t ((Canon.reinitOk_iff t).mp h).1 ((Canon.reinitOk_iff t).mp h).2⟩
  | false =>
    refine Or.inl ⟨rfl, ?_⟩
    unfold C04.reinit
    simp only
    by_cases hn : (sortNames t.tipNames).Nodup
    · have hn' : t.tipNames.Nodup := (C04.sortNames_perm _).nodup_iff.mp hn
      have hl : t.tipNames.length = 0 := by
        unfold reinitOk at h; rw [(Canon.uniqueTips_iff t).mpr hn'] at h; simpa using h
      have : (sortNames t.tipNames).length = 0 := by rw [(C04.sortNames_perm _).length_eq, hl]
      simp [hn, this]
    · simp [hn]

/-! ## the loops -/

/-- a branch of a tree on the taxa `base` as a key -/
def keyOf {base : List String} (t : T) (hp : t.tipNames.Perm base) (s : SplitE) (hs : s ∈ t.splits) : TreeKey base :=
  ⟨t.tipNames, s.below, hp, below_sublist_tipNames t s hs⟩

/-- the records `ReinitIndexes` leaves on the branches `l` of `t`, each with its branch -/
def recs (H : String → UInt64) (t : T) (l : List SplitE) : List (EdgeIdx × SplitE) :=
  l.map fun s => (specIdx H t.tipNames s.below, s)

theorem zip_map_self {α β : Type} (g : α → β) (l : List α) : (l.map g).zip l = l.map fun s => (g s, s) := by
  simpa only [map_id, id] using zip_map' (f := g) (g := id) (l := l)

theorem putAll_rep {H : String → UInt64} {base : List String} (hn : base.Nodup) (policy : Nat → Nat → Bool) (t : T)
    (hp : t.tipNames.Perm base) (l : List SplitE) (hl : ∀ s ∈ l, s ∈ t.splits) (i : Nat) {m : EMap} {ix : Index}
    (h : Rep H base m ix) :
    ∃ m2, putAll policy (recs H t l) i m = some m2 ∧ Rep H base m2 (buildFrom t.tipNames l i ix) := by
  induction l generalizing i m ix with
  | nil => exact ⟨m, rfl, h⟩
  | cons s r ih =>
    obtain ⟨m1, h1, h2⟩ := rep_put hn h policy (keyOf t hp s (hl s (by simp))) ⟨i, s.e.len⟩
    obtain ⟨m2, h3, h4⟩ := ih (fun x hx => hl x (by simp [hx])) (i + 1) h2
    have h1' : m.put ehash eeqv policy (specIdx H t.tipNames s.below) ⟨i, s.e.len⟩ = some m1 := h1
    exact ⟨m2, by simp only [recs, map_cons, putAll, h1']; exact h3, h4⟩

theorem buildHM_rep (H : String → UInt64) {base : List String} (policy : Nat → Nat → Bool) (t : T)
    (ht : reinitOk t = true) (hp : t.tipNames.Perm base) :
    ∃ m, buildHM policy (t.splits.map fun s => specIdx H t.tipNames s.below) t.splits = some m ∧
      Rep H base m (buildIndex t.tipNames t.splits) := by
  unfold buildHM
  rw [zip_map_self]
  exact putAll_rep (hp.nodup_iff.mp ((Canon.reinitOk_iff t).mp ht).1) policy t hp t.splits (fun _ h => h) 0
    (rep_new H base _)

/-- a lookup of the record of a branch answers what the association list answers for its bitset -/
theorem get_rec {H : String → UInt64} {base : List String} (hn : base.Nodup) {m : EMap} {ix : Index}
    (h : Rep H base m ix) (t : T) (hp : t.tipNames.Perm base) {s : SplitE} (hs : s ∈ t.splits) :
    m.get ehash eeqv (specIdx H t.tipNames s.below) = some (value ix (key t.tipNames s)) :=
  rep_get hn h (keyOf t hp s hs)

theorem cmpLoopHM_eq {H : String → UInt64} {base : List String} (hn : base.Nodup) {m : EMap} {ix : Index}
    (h : Rep H base m ix) (t : T) (hp : t.tipNames.Perm base) (tips sc : Bool) (l : List SplitE)
    (hl : ∀ s ∈ l, s ∈ t.splits) (st : LoopSt) :
    cmpLoopHM m tips sc (recs H t l) st = some (cmpLoop ix t.tipNames tips sc l st) := by
  induction l generalizing st with
  | nil => rfl
  | cons e r ih =>
    simp only [recs, map_cons, cmpLoopHM, cmpLoop]
    rw [get_rec hn h t hp (hl e (by simp))]
    cases ht : e.tip with
    | true =>
      simp only [Bool.not_true, Bool.false_eq_true, if_false, Bool.true_and, Bool.and_true]
      exact ih (fun x hx => hl x (by simp [hx])) _
    | false =>
      simp only [Bool.not_false, if_true, Option.map_some]
      split
      · rfl
      · exact ih (fun x hx => hl x (by simp [hx])) _

theorem wLoop1HM_eq {H : String → UInt64} {base : List String} (hn : base.Nodup) {m : EMap} {ix : Index}
    (h : Rep H base m ix) (t : T) (hp : t.tipNames.Perm base) (tips sc : Bool) (l : List SplitE)
    (hl : ∀ s ∈ l, s ∈ t.splits) (same : Bool) :
    wLoop1HM m tips sc (recs H t l) same = some (wLoop1 ix t.tipNames tips sc l same) := by
  induction l generalizing same with
  | nil => rfl
  | cons e r ih =>
    have ih' := ih (fun x hx => hl x (by simp [hx]))
    simp only [recs, map_cons, wLoop1HM, wLoop1]
    rw [get_rec hn h t hp (hl e (by simp))]
    split
    · cases value ix (key t.tipNames e) <;> simp only <;> split <;>
        first | rfl | rw [show wLoop1HM m tips sc (map _ r) _ = _ from ih' _]
    · exact ih' same

theorem wLoop2HM_eq {H : String → UInt64} {base : List String} (hn : base.Nodup) {m : EMap} {ix : Index}
    (h : Rep H base m ix) (t : T) (hp : t.tipNames.Perm base) (tips sc : Bool) (l : List SplitE)
    (hl : ∀ s ∈ l, s ∈ t.splits) (same : Bool) :
    wLoop2HM m tips sc (recs H t l) same = some (wLoop2 ix t.tipNames tips sc l same) := by
  induction l generalizing same with
  | nil => rfl
  | cons e r ih =>
    have ih' := ih (fun x hx => hl x (by simp [hx]))
    simp only [recs, map_cons, wLoop2HM, wLoop2]
    rw [get_rec hn h t hp (hl e (by simp))]
    split
    · cases value ix (key t.tipNames e) with
      | some _ => exact ih' same
      | none =>
        simp only
        split
        · rfl
        · rw [show wLoop2HM m tips sc (map _ r) false = _ from ih' false]
    · exact ih' same

/-! ## no panic whatever the keys (the fall-through on trees with other taxa) -/

/-- a map whose bucket array has the announced, positive, size answers every lookup -/
def Sized (m : EMap) : Prop := m.buckets.length = m.cap ∧ 1 ≤ m.cap

theorem sized_of_rep {H : String → UInt64} {base : List String} {m : EMap} {ix : Index} (h : Rep H base m ix) :
    Sized m := by
  obtain ⟨_, hA, _⟩ := h
  exact ⟨hA.inv.len, hA.inv.pos⟩

theorem get_total {m : EMap} (h : Sized m) (k : EdgeIdx) : ∃ o, m.get ehash eeqv k = some o := by
  have hi : C04.indexFor (ehash k) m.cap < m.buckets.length := by rw [h.1]; exact C04.indexFor_lt _ h.2
  simp only [HM.get, List.getElem?_eq_getElem hi]
  exact ⟨_, rfl⟩

theorem cmpLoopHM_total {m : EMap} (h : Sized m) (tips sc : Bool) (l : List (EdgeIdx × SplitE)) (st : LoopSt) :
    ∃ st', cmpLoopHM m tips sc l st = some st' := by
  induction l generalizing st with
  | nil => exact ⟨st, rfl⟩
  | cons x r ih =>
    obtain ⟨k, e⟩ := x
    obtain ⟨o, ho⟩ := get_total h k
    simp only [cmpLoopHM, ho, Option.map_some]
    cases e.tip with
    | true =>
      simp only [Bool.not_true, Bool.false_eq_true, if_false, Bool.and_true, Bool.true_and]
      exact ih _
    | false =>
      simp only [Bool.not_false, if_true]
      split
      · exact ⟨_, rfl⟩
      · exact ih _

theorem wLoop1HM_total {m : EMap} (h : Sized m) (tips sc : Bool) (l : List (EdgeIdx × SplitE)) (same : Bool) :
    ∃ x, wLoop1HM m tips sc l same = some x := by
  induction l generalizing same with
  | nil => exact ⟨_, rfl⟩
  | cons x r ih =>
    obtain ⟨o, ho⟩ := get_total h x.1
    simp only [wLoop1HM, ho]
    split
    · -- a counted branch: the loop stops here, or goes on and then answers by induction
      cases o <;> simp only <;> split <;>
        first | exact ⟨_, rfl⟩ | (obtain ⟨y, hy⟩ := ih _; rw [hy]; exact ⟨_, rfl⟩)
    · exact ih _

theorem wLoop2HM_total {m : EMap} (h : Sized m) (tips sc : Bool) (l : List (EdgeIdx × SplitE)) (same : Bool) :
    ∃ x, wLoop2HM m tips sc l same = some x := by
  induction l generalizing same with
  | nil => exact ⟨_, rfl⟩
  | cons x r ih =>
    obtain ⟨o, ho⟩ := get_total h x.1
    simp only [wLoop2HM, ho]
    split
    · cases o with
      | some _ => exact ih _
      | none =>
        simp only
        split
        · exact ⟨_, rfl⟩
        · obtain ⟨y, hy⟩ := ih false; rw [hy]; exact ⟨_, rfl⟩
    · exact ih _

/-! ## the variants that run the loops before looking at the taxon check

  On other taxa the loops run all the same, cannot panic, and the record then carries `Err`. -/

theorem compareHMFallthrough_eq (H : String → UInt64) (policy : Nat → Nat → Bool) (r c : T) (tips sc : Bool) :
    compareHMFallthrough H policy r c tips sc = compareHM H policy r c tips sc := by
  unfold compareHMFallthrough compareHM
  rcases reinit_cases H r with ⟨hr, _, he⟩ | ⟨hr, he⟩
  · simp [he]
  obtain ⟨m, hm, hrep⟩ := buildHM_rep H policy r hr (Perm.refl _)
  rcases reinit_cases H c with ⟨hc, _, he'⟩ | ⟨hc, he'⟩
  · simp [he, hm, he']
  simp only [he, hm, he']
  cases h3 : compareTipIndexes r.tipNames c.tipNames with
  | true => simp
  | false =>
    obtain ⟨st', hst⟩ := cmpLoopHM_total (sized_of_rep hrep) tips sc
      ((c.splits.map fun s => specIdx H c.tipNames s.below).zip c.splits) ⟨0, 0, true⟩
    simp [hst]

theorem compareWeightedHMFallthrough_eq (H : String → UInt64) (policy : Nat → Nat → Bool) (r c : T) (tips sc : Bool) :
    compareWeightedHMFallthrough H policy r c tips sc = compareWeightedHM H policy r c tips sc := by
  unfold compareWeightedHMFallthrough compareWeightedHM
  rcases reinit_cases H r with ⟨hr, _, he⟩ | ⟨hr, he⟩
  · simp [he]
  obtain ⟨m, hm, hrep⟩ := buildHM_rep H policy r hr (Perm.refl _)
  rcases reinit_cases H c with ⟨hc, _, he'⟩ | ⟨hc, he'⟩
  · simp [he, hm, he']
  obtain ⟨m2, hm2, hrep2⟩ := buildHM_rep H policy c hc (Perm.refl _)
  simp only [he, hm, he', hm2]
  cases h3 : compareTipIndexes r.tipNames c.tipNames with
  | true => simp
  | false =>
    obtain ⟨x1, hx1⟩ := wLoop1HM_total (sized_of_rep hrep) tips sc
      ((c.splits.map fun s => specIdx H c.tipNames s.below).zip c.splits) true
    obtain ⟨x2, hx2⟩ := wLoop2HM_total (sized_of_rep hrep2) tips sc
      ((r.splits.map fun s => specIdx H r.tipNames s.below).zip r.splits) x1.2.2
    simp [hx1, hx2]

end Gotree.C08

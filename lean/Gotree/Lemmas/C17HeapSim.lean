/-
  C17 — the simulation square for the pointer-level model of `Apply`/`Undo`
  (`Model/C17Heap.lean`): on every well-formed piece the Go statements keep pairing, symmetric
  adjacency and the number of parent branches of each node, and commute with the abstraction to
  `Heap` (`applyH`/`undoH`), hence to `T`.

  A piece `mkP s1 s2 up pre post` is well formed when its two slices form a `Layout`: n1's slice
  holds n2 and two outer nodes, n2's slice n1 and the two others.  Nothing more is needed for the
  three promises.  `Apply` and `Undo` are one and the same exchange of an outer node of n1 with an
  outer node of n2 (`swapP`), which leads from one layout to another; the slot numbers only
  enter through the table of the slices `newNNI` produces (`slices1_slots`, `slices2_slots`).
-/
import Gotree.Model.C17Heap
import Gotree.Lemmas.C17

namespace Gotree.C17
open Gotree

/- ## list facts for the slices of the outer nodes -/

theorem nodeIndex_mid (l : List Nat) (y : Ref) (rest : List PId) :
    nodeIndex (l.map PId.ext ++ PId.n y :: rest) (PId.n y) = some l.length := by
  induction l with
  | nil => simp [nodeIndex]
  | cons k l ih => simp [nodeIndex, ih]

theorem set_mid {α : Type} (l : List α) (a b : α) (m : List α) : (l ++ a :: m).set l.length b = l ++ b :: m := by
  induction l with
  | nil => simp
  | cons x l ih => simp [ih]

theorem length_map_ext (l : List Nat) : (l.map PId.ext).length = l.length := by simp

theorem zip_mid (l m : List Nat) (y : PId) (e : EId) :
    (l.map PId.ext ++ y :: m.map PId.ext).zip (l.map EId.ext ++ e :: m.map EId.ext) =
      (l.map PId.ext).zip (l.map EId.ext) ++ (y, e) :: (m.map PId.ext).zip (m.map EId.ext) := by
  rw [List.zip_append (by simp)]
  simp

/- ## well-formed pieces, by construction -/

def triList {α} (t : Tri α) : List α := [t.1, t.2.1, t.2.2]

def Tri.mem (t : Tri Ref) (x : Ref) : Bool := t.1 == x || t.2.1 == x || t.2.2 == x

/-- the branch by which a centre node reaches its neighbour `y` -/
def edgeTo (y : Ref) : EId :=
  match y with
  | .n1 => .e0
  | .n2 => .e0
  | o => .eo o

/-- The piece of a well-formed heap around the central branch: `s1`, `s2` are the neighbour
    slices of n1 and n2; the outer node `o` hangs on the centre node in whose slice it is, its
    own slices are `pre o ++ [centre] ++ post o` (other neighbours outside the piece); `up` is
    the outer node on the root side, if any (then its branch and the central branch point away
    from it). -/
def mkP (s1 s2 : Tri Ref) (up : Option Ref) (pre post : Ref → List Nat) : PHeap :=
  let centreOf (o : Ref) : Ref := if s1.mem o then .n1 else .n2
  let top : Ref := match up with | some o => centreOf o | none => .n1
  { node := fun x =>
      match x with
      | .n1 => ⟨(triList s1).map PId.n, (triList s1).map edgeTo⟩
      | .n2 => ⟨(triList s2).map PId.n, (triList s2).map edgeTo⟩
      | o => ⟨(pre o).map PId.ext ++ PId.n (centreOf o) :: (post o).map PId.ext,
              (pre o).map EId.ext ++ EId.eo o :: (post o).map EId.ext⟩
    edge := fun e =>
      match e with
      | .e0 => if top = .n1 then ⟨.n .n1, .n .n2⟩ else ⟨.n .n2, .n .n1⟩
      | .eo o => if up = some o then ⟨.n o, .n (centreOf o)⟩ else ⟨.n (centreOf o), .n o⟩
      | .ext _ => ⟨.ext 0, .ext 0⟩ }

/-- the neighbour slices `newNNI` sees (`applied = false`) and those after `Apply` -/
def slices1 (i1 : Nat) (cross applied : Bool) : Tri Ref :=
  let r : NNI := ⟨[], i1, 0, cross, false⟩
  (lab1 r applied 0, lab1 r applied 1, lab1 r applied 2)

def slices2 (i2 : Nat) (cross applied : Bool) : Tri Ref :=
  let r : NNI := ⟨[], 0, i2, cross, false⟩
  (lab2 r applied 0, lab2 r applied 1, lab2 r applied 2)

/-- two pieces are the same: same records -/
def PHeap.same (h h' : PHeap) : Prop :=
  (∀ x, (h.node x).neigh = (h'.node x).neigh ∧ (h.node x).br = (h'.node x).br) ∧
  (∀ e, (h.edge e).left = (h'.edge e).left ∧ (h.edge e).right = (h'.edge e).right)

/-- what the pointer piece does not hold: node data, branch data, the subtrees behind the outer nodes -/
structure HData where
  d1 : NodeD
  d2 : NodeD
  ec : EdgeD
  p0 : Nat
  sub : Ref → EdgeD × T

def toTri : List PId → Tri Ref
  | [.n x, .n y, .n z] => (x, y, z)
  | _ => (.n1, .n1, .n1)

/-- α on the piece: the neighbour slices of the two centre nodes, the orientation of the central
    branch, and for each outer node whether it is the parent side (its branch leaves it) -/
def absH (dat : HData) (h : PHeap) : Heap :=
  let out (o : Ref) : Outer := if (h.edge (.eo o)).left = .n o then .up else .sub (dat.sub o).1 (dat.sub o).2
  { d1 := dat.d1, d2 := dat.d2, ng1 := toTri (h.node .n1).neigh, ng2 := toTri (h.node .n2).neigh, ec := dat.ec,
    left1 := decide ((h.edge .e0).left = .n .n1), oa := out .a, ob := out .b, oc := out .c, od := out .d, p0 := dat.p0 }

def datOf (H : Heap) : HData :=
  { d1 := H.d1, d2 := H.d2, ec := H.ec, p0 := H.p0,
    sub := fun o => match H.outer o with
      | .sub e t => (e, t)
      | .up => (EdgeD.blank, T.leaf "") }

def upOf (H : Heap) : Option Ref :=
  if H.oa.isUp then some .a else if H.ob.isUp then some .b else none

/-- the shape of the heap `newNNI` sees -/
structure Fresh (H : Heap) (i1 i2 : Nat) (cross : Bool) : Prop where
  b1 : i1 ≤ 2
  b2 : i2 ≤ 2
  g1 : H.ng1 = slices1 i1 cross false
  g2 : H.ng2 = slices2 i2 cross false
  left : H.left1 = true
  c : H.oc.isUp = false
  d : H.od.isUp = false
  ab : ¬(H.oa.isUp = true ∧ H.ob.isUp = true)

/- ## the records of a piece; its layout -/

section
variable {s1 s2 : Tri Ref} {up : Option Ref} {pre post : Ref → List Nat}

theorem mem_triList {s : Tri Ref} {y : Ref} : y ∈ triList s ↔ s.mem y = true := by
  simp only [triList, Tri.mem, List.mem_cons, List.not_mem_nil, or_false, Bool.or_eq_true, beq_iff_eq, @eq_comm _ y, or_assoc]

def Ref.isOuter : Ref → Bool
  | .n1 | .n2 => false
  | _ => true

theorem isOuter_of_cases {up : Option Ref}
    (hup : up = none ∨ up = some .a ∨ up = some .b ∨ up = some .c ∨ up = some .d) : ∀ o, up = some o → o.isOuter = true := by
  rcases hup with rfl | rfl | rfl | rfl | rfl <;> intro o h <;> cases h <;> rfl

theorem upOf_outer (H : Heap) : ∀ o, upOf H = some o → o.isOuter = true := by
  unfold upOf
  intro o h
  split at h
  · cases h; rfl
  · split at h <;> cases h; rfl

theorem edgeTo_outer {o : Ref} (h : o.isOuter = true) : edgeTo o = .eo o := by
  cases o <;> first | rfl | cases h

/-- the centre node on which the outer node `o` hangs in `mkP s1 …` -/
def cen (s1 : Tri Ref) (o : Ref) : Ref := if s1.mem o then .n1 else .n2

/-- the centre node on the root side -/
def top (s1 : Tri Ref) (up : Option Ref) : Ref :=
  match up with
  | some o => cen s1 o
  | none => .n1

theorem mkP_n1 : (mkP s1 s2 up pre post).node .n1 = ⟨(triList s1).map .n, (triList s1).map edgeTo⟩ := rfl

theorem mkP_n2 : (mkP s1 s2 up pre post).node .n2 = ⟨(triList s2).map .n, (triList s2).map edgeTo⟩ := rfl

theorem mkP_outer {o : Ref} (h : o.isOuter = true) : (mkP s1 s2 up pre post).node o =
    ⟨(pre o).map .ext ++ .n (cen s1 o) :: (post o).map .ext, (pre o).map .ext ++ .eo o :: (post o).map .ext⟩ := by
  cases o <;> first | rfl | cases h

theorem mkP_e0 : (mkP s1 s2 up pre post).edge .e0 =
    if top s1 up = .n1 then ⟨.n .n1, .n .n2⟩ else ⟨.n .n2, .n .n1⟩ := rfl

theorem mkP_eo (o : Ref) : (mkP s1 s2 up pre post).edge (.eo o) =
    if up = some o then ⟨.n o, .n (cen s1 o)⟩ else ⟨.n (cen s1 o), .n o⟩ := rfl

def pairingAt (h : PHeap) (x : Ref) : Bool :=
  (h.node x).neigh.length == (h.node x).br.length &&
    ((h.node x).neigh.zip (h.node x).br).all fun (y, e) => !e.isLocal || (h.edge e).joins (.n x) y

theorem pairing_eq (h : PHeap) : pairing h = allRefs.all (pairingAt h) := rfl

/-- the other centre node -/
def other : Ref → Ref
  | .n1 => .n2
  | _ => .n1

/-- the slice of a centre node -/
def sliceOf (s1 s2 : Tri Ref) : Ref → Tri Ref
  | .n1 => s1
  | _ => s2

theorem mkP_centre {m : Ref} (hm : m.isOuter = false) : (mkP s1 s2 up pre post).node m =
    ⟨(triList (sliceOf s1 s2 m)).map .n, (triList (sliceOf s1 s2 m)).map edgeTo⟩ := by
  cases m <;> first | rfl | cases hm

theorem other_other {m : Ref} (hm : m.isOuter = false) : other (other m) = m := by cases m <;> first | rfl | cases hm

theorem other_centre (m : Ref) : (other m).isOuter = false := by cases m <;> rfl

theorem eq_other {m y : Ref} (hm : m.isOuter = false) (hy : y.isOuter = false) (h : y ≠ m) : y = other m := by
  cases m <;> cases y <;> simp_all [Ref.isOuter, other]

theorem edgeTo_centre {y : Ref} (hy : y.isOuter = false) : edgeTo y = .e0 := by cases y <;> first | rfl | cases hy

theorem ne_of_isOuter {o m : Ref} (ho : o.isOuter = true) (hm : m.isOuter = false) : o ≠ m := fun h => by
  rw [h, hm] at ho; cases ho

theorem cen_centre (s1 : Tri Ref) (o : Ref) : (cen s1 o).isOuter = false := by unfold cen; split <;> rfl

theorem cen_eq_n1 {o : Ref} : cen s1 o = .n1 ↔ s1.mem o = true := by unfold cen; split <;> simp [*]

theorem cen_ne_outer (s1 : Tri Ref) {o : Ref} (ho : o.isOuter = true) : cen s1 o ≠ o :=
  (ne_of_isOuter ho (cen_centre s1 o)).symm

theorem top_cases (s1 : Tri Ref) (up : Option Ref) : top s1 up = .n1 ∨ top s1 up = .n2 := by
  unfold top cen; split
  · split <;> simp
  · exact Or.inl rfl

/-- the layout of a well-formed piece: each centre node's slice holds, without repetition, the other centre node and two
    outer nodes, and every outer node is in exactly one of the two slices -/
structure Layout (s1 s2 : Tri Ref) : Prop where
  nd : ∀ m, (triList (sliceOf s1 s2 m)).Nodup
  self : ∀ m, m.isOuter = false → (sliceOf s1 s2 m).mem m = false
  oth : ∀ m, m.isOuter = false → (sliceOf s1 s2 m).mem (other m) = true
  part : ∀ o, o.isOuter = true → s2.mem o = !s1.mem o

/-- an outer node is in the slice of the centre node it hangs on, and in no other -/
theorem Layout.hang (L : Layout s1 s2) {m o : Ref} (hm : m.isOuter = false) (ho : o.isOuter = true) :
    (sliceOf s1 s2 m).mem o = true ↔ cen s1 o = m := by
  cases m <;> try cases hm
  · exact cen_eq_n1.symm
  · have := L.part o ho
    unfold cen
    show s2.mem o = true ↔ _
    cases h : s1.mem o <;> simp_all

/-- a centre node's slice holds outer nodes that hang on it, and the other centre node -/
theorem Layout.slice_cases (L : Layout s1 s2) {m y : Ref} (hm : m.isOuter = false) (hy : (sliceOf s1 s2 m).mem y = true) :
    (y.isOuter = true ∧ cen s1 y = m) ∨ y = other m := by
  by_cases ho : y.isOuter = true
  · exact Or.inl ⟨ho, (L.hang hm ho).mp hy⟩
  · exact Or.inr (eq_other hm (by simpa using ho) fun h => by rw [h, L.self m hm] at hy; cases hy)

theorem Layout.nd1 (L : Layout s1 s2) : (triList s1).Nodup := L.nd .n1

theorem Layout.cen2 (L : Layout s1 s2) {w : Ref} (hw : w.isOuter = true) (h : s2.mem w = true) :
    cen s1 w = .n2 ∧ s1.mem w = false := by
  have hc := (L.hang (m := .n2) rfl hw).mp h
  exact ⟨hc, Bool.eq_false_iff.mpr fun hm => by rw [cen_eq_n1.mpr hm] at hc; cases hc⟩

/- ## the promises hold on every layout -/

theorem joins_comm (e : PEdge) (x y : PId) : e.joins x y = e.joins y x := by
  simp only [PEdge.joins, Bool.or_comm]

theorem joins_e0 : ((mkP s1 s2 up pre post).edge .e0).joins (.n .n1) (.n .n2) = true := by
  rw [mkP_e0]; split <;> rfl

theorem joins_eo (o : Ref) : ((mkP s1 s2 up pre post).edge (.eo o)).joins (.n (cen s1 o)) (.n o) = true := by
  rw [mkP_eo]; split <;> simp [PEdge.joins]

theorem zip_ext_all (l : List Nat) (p : PId × EId → Bool) (hp : ∀ k, p (.ext k, .ext k) = true) :
    ((l.map PId.ext).zip (l.map EId.ext)).all p = true := by
  simp [List.zip_map', List.all_map, hp]

/-- the branch by which a centre node reaches a neighbour joins the two -/
theorem pairingAt_centre (L : Layout s1 s2) {m : Ref} (hm : m.isOuter = false) : pairingAt (mkP s1 s2 up pre post) m = true := by
  simp only [pairingAt, mkP_centre hm, List.length_map, beq_self_eq_true, Bool.true_and, List.zip_map', List.all_map, List.all_eq_true,
    mem_triList, Function.comp, Bool.or_eq_true]
  intro y hy
  right
  rcases L.slice_cases hm hy with ⟨ho, hc⟩ | rfl
  · rw [edgeTo_outer ho, ← hc]; exact joins_eo y
  · rw [edgeTo_centre (other_centre m)]
    cases m <;> first | exact joins_e0 | (rw [joins_comm]; exact joins_e0) | cases hm

theorem pairingAt_outer {o : Ref} (ho : o.isOuter = true) : pairingAt (mkP s1 s2 up pre post) o = true := by
  simp only [pairingAt, mkP_outer ho, List.length_append, List.length_map, List.length_cons, beq_self_eq_true, Bool.true_and,
    zip_mid, List.all_append, List.all_cons, Bool.and_eq_true]
  refine ⟨zip_ext_all _ _ fun k => rfl, ?_, zip_ext_all _ _ fun k => rfl⟩
  rw [joins_comm]
  simp [joins_eo, EId.isLocal]

theorem pairing_mkP (L : Layout s1 s2) : pairing (mkP s1 s2 up pre post) = true := by
  rw [pairing_eq, List.all_eq_true]
  intro x _
  cases ho : x.isOuter
  · exact pairingAt_centre L ho
  · exact pairingAt_outer ho

/-- the record of `y` lists `x` as a neighbour, reached by branch `e` -/
def adjHas (h : PHeap) (y x : Ref) (e : EId) : Bool :=
  ((h.node y).neigh.zip (h.node y).br).any fun (y', e') => y' == .n x && e' == e

def symmetricAt (h : PHeap) (x : Ref) : Bool :=
  ((h.node x).neigh.zip (h.node x).br).all fun (y, e) =>
    match y with
    | .ext _ => true
    | .n r => adjHas h r x e

theorem symmetric_eq (h : PHeap) : symmetric h = allRefs.all (symmetricAt h) := rfl

theorem adjHas_centre {m y : Ref} (hm : m.isOuter = false) (hy : (sliceOf s1 s2 m).mem y = true) :
    adjHas (mkP s1 s2 up pre post) m y (edgeTo y) = true := by
  simp only [adjHas, mkP_centre hm, List.zip_map', List.any_map, List.any_eq_true, mem_triList, Function.comp]
  exact ⟨y, hy, by simp⟩

theorem adjHas_outer {o : Ref} (ho : o.isOuter = true) : adjHas (mkP s1 s2 up pre post) o (cen s1 o) (.eo o) = true := by
  simp [adjHas, mkP_outer ho, zip_mid]

theorem symmetricAt_centre (L : Layout s1 s2) {m : Ref} (hm : m.isOuter = false) :
    symmetricAt (mkP s1 s2 up pre post) m = true := by
  simp only [symmetricAt, mkP_centre hm, List.zip_map', List.all_map, List.all_eq_true, mem_triList, Function.comp]
  intro y hy
  rcases L.slice_cases hm hy with ⟨ho, hc⟩ | rfl
  · rw [edgeTo_outer ho, ← hc]; exact adjHas_outer ho
  · rw [edgeTo_centre (other_centre m), ← edgeTo_centre hm]
    refine adjHas_centre (other_centre m) ?_
    have := L.oth _ (other_centre m)
    rwa [other_other hm] at this

theorem symmetricAt_outer (L : Layout s1 s2) {o : Ref} (ho : o.isOuter = true) :
    symmetricAt (mkP s1 s2 up pre post) o = true := by
  simp only [symmetricAt, mkP_outer ho, zip_mid, List.all_append, List.all_cons, Bool.and_eq_true]
  refine ⟨zip_ext_all _ _ fun k => rfl, ?_, zip_ext_all _ _ fun k => rfl⟩
  rw [← edgeTo_outer ho]
  exact adjHas_centre (cen_centre s1 o) ((L.hang (cen_centre s1 o) ho).mpr rfl)

theorem symmetric_mkP (L : Layout s1 s2) : symmetric (mkP s1 s2 up pre post) = true := by
  rw [symmetric_eq, List.all_eq_true]
  intro x _
  cases ho : x.isOuter
  · exact symmetricAt_centre L ho
  · exact symmetricAt_outer L ho

/- ### parent branches -/

/-- in a list without repetition, a test that singles out the element `p` (if any) holds once -/
theorem filter_parent {l : List Ref} (nd : l.Nodup) (q : Ref → Bool) (p : Option Ref)
    (hq : ∀ y ∈ l, (q y = true ↔ p = some y)) (hp : ∀ w, p = some w → w ∈ l) :
    (l.filter q).length = if p = none then 0 else 1 := by
  cases p with
  | none => simpa [List.filter_eq_nil_iff] using hq
  | some w =>
    have h1 := List.nodup_iff_count.mp nd w
    have h2 := List.count_pos_iff.mpr (hp w rfl)
    have : l.filter q = l.filter (· == w) := List.filter_congr fun y hy => by
      rw [Bool.eq_iff_iff, hq y hy, beq_iff_eq, Option.some.injEq]
      exact eq_comm
    rw [this, ← List.countP_eq_length_filter, ← List.count]
    simp; omega

theorem edgeTo_local (y : Ref) : (edgeTo y).isLocal = true := by cases y <;> rfl

theorem filter_local_ext (l : List Nat) (f : EId → Bool) : (l.map EId.ext).filter (fun e => e.isLocal && f e) = [] := by
  simp [List.filter_eq_nil_iff, EId.isLocal]

theorem incoming_outer {o : Ref} (ho : o.isOuter = true) :
    incoming (mkP s1 s2 up pre post) o = if up = some o then 0 else 1 := by
  have hc := cen_ne_outer s1 ho
  rw [incoming, mkP_outer ho]
  simp only [List.filter_append, List.filter_cons, filter_local_ext, mkP_eo]
  by_cases hu : up = some o <;> simp [hu, hc, EId.isLocal]

/-- the parent of the centre node `m` in the piece: the outer node `up` if it hangs on `m`, else the other centre node
    (n1 has none when there is no root side) -/
def par (s1 : Tri Ref) (up : Option Ref) (m : Ref) : Option Ref := if top s1 up = m then up else some (other m)

/-- the branch towards `y` enters the centre node `m` exactly when `y` is the parent of `m` -/
theorem incoming_centre (L : Layout s1 s2) (hup : ∀ o, up = some o → o.isOuter = true) {m : Ref} (hm : m.isOuter = false) :
    incoming (mkP s1 s2 up pre post) m = if par s1 up m = none then 0 else 1 := by
  rw [incoming, mkP_centre hm]
  simp only [List.filter_map, List.length_map]
  refine filter_parent (L.nd m) _ _ (fun y hy => ?_) fun w hw => mem_triList.mpr ?_
  · have hy := mem_triList.mp hy
    simp only [Function.comp, edgeTo_local, Bool.true_and, beq_iff_eq]
    rcases L.slice_cases hm hy with ⟨ho, hc⟩ | rfl
    · have h1 := ne_of_isOuter ho hm
      have h2 := ne_of_isOuter ho (other_centre m)
      rw [edgeTo_outer ho, mkP_eo, hc, par]
      by_cases hu : up = some y
      · simp [hu, top, hc]
      · rw [if_neg hu]
        split <;> simp [hu, h1, Ne.symm h2]
    · rw [edgeTo_centre (other_centre m), mkP_e0, par]
      have : up ≠ some (other m) := fun h => by have := hup _ h; rw [other_centre] at this; cases this
      rcases top_cases s1 up with ht | ht <;> cases m <;> (try cases hm) <;> simp_all [other]
  · unfold par at hw
    split at hw
    · subst hw; exact (L.hang hm (hup w rfl)).mpr ‹_›
    · cases hw; exact L.oth m hm

/-- every node of the piece has one parent branch, except the one the root side is beyond (n1 if nowhere) -/
theorem incoming_mkP (L : Layout s1 s2) (hup : ∀ o, up = some o → o.isOuter = true) (x : Ref) :
    incoming (mkP s1 s2 up pre post) x = if up = some x ∨ (x = .n1 ∧ up = none) then 0 else 1 := by
  cases ho : x.isOuter
  · have hx : up ≠ some x := fun h => by rw [hup x h] at ho; cases ho
    rw [incoming_centre L hup ho, par]
    cases up with
    | none => cases x <;> (try cases ho) <;> simp [top, other]
    | some o => simp [hx]; split <;> simp
  · simp [incoming_outer ho, ne_of_isOuter ho (rfl : Ref.isOuter .n1 = false)]

/- ## `Apply` and `Undo` are one exchange of an outer node of n1 with an outer node of n2 -/

/-- the records after the writes that exchange the outer node `u` of n1 (slot `k1` of `n1.neigh`; n1 is in slot `m1` of
    `u.neigh`; `e1` is its branch) with the outer node `w` of n2: eight slice writes, `Inverse` of the central branch
    `ec` when one of the two is on the root side, `setLeft`/`setRight` of `e1`, `e2` -/
def swapP (h : PHeap) (u w : Ref) (k1 m1 k2 m2 : Nat) (e1 e2 ec : EId) : PHeap :=
  let N1 := h.node .n1
  let N2 := h.node .n2
  let edge1 := if (h.edge e1).right = .n .n1 ∨ (h.edge e2).right = .n .n2 then updE h.edge ec ⟨(h.edge ec).right, (h.edge ec).left⟩ else h.edge
  let node1 := updN h.node .n1 ⟨N1.neigh.set k1 (.n w), N1.br.set k1 e2⟩
  let node2 := updN node1 w ⟨(node1 w).neigh.set m2 (.n .n1), (node1 w).br⟩
  let node3 := updN node2 .n2 ⟨N2.neigh.set k2 (.n u), N2.br.set k2 e1⟩
  let node4 := updN node3 u ⟨(node3 u).neigh.set m1 (.n .n2), (node3 u).br⟩
  let edge2 := updE edge1 e1 (reattach (edge1 e1) (.n .n1) (.n .n2))
  let edge3 := updE edge2 e2 (reattach (edge2 e2) (.n .n2) (.n .n1))
  ⟨node4, edge3⟩

/-- what the `NodeIndex` searches and the reads of `Edges()[i]` in `Apply`/`Undo` find, `u` being the outer node of n1 and `w`
    the outer node of n2 that are exchanged -/
structure Lookups (h : PHeap) (u w : Ref) (k0 k1 m1 k2 m2 : Nat) (e1 e2 ec : EId) : Prop where
  i0 : nodeIndex (h.node .n1).neigh (.n .n2) = some k0
  iu : nodeIndex (h.node .n1).neigh (.n u) = some k1
  iw : nodeIndex (h.node .n2).neigh (.n w) = some k2
  n1u : nodeIndex (h.node u).neigh (.n .n1) = some m1
  n2w : nodeIndex (h.node w).neigh (.n .n2) = some m2
  br1 : (h.node .n1).br[k1]? = some e1
  br2 : (h.node .n2).br[k2]? = some e2
  brc : (h.node .n1).br[k0]? = some ec

theorem applyP_eq_swapP {h : PHeap} {cross : Bool} {k0 k1 m1 k2 m2 : Nat} {e1 e2 ec : EId}
    (l : Lookups h .b (if cross then .c else .d) k0 k1 m1 k2 m2 e1 e2 ec) :
    applyP h cross = some (swapP h .b (if cross then .c else .d) k1 m1 k2 m2 e1 e2 ec) := by
  simp only [applyP, l.i0, l.iu, l.iw, l.n1u, l.n2w, l.br1, l.br2, l.brc]
  rfl

theorem undoP_eq_swapP {h : PHeap} {cross : Bool} {k0 k1 m1 k2 m2 : Nat} {e1 e2 ec : EId}
    (l : Lookups h (if cross then .c else .d) .b k0 k1 m1 k2 m2 e1 e2 ec) :
    undoP h cross = some (swapP h (if cross then .c else .d) .b k1 m1 k2 m2 e1 e2 ec) := by
  simp only [undoP, l.i0, l.iu, l.iw, l.n1u, l.n2w, l.br1, l.br2, l.brc, swapP, or_comm]

theorem nodeIndex_tri (s : Tri Ref) (x : Ref) : nodeIndex ((triList s).map PId.n) (.n x) = s.idx x := by
  simp only [triList, List.map, nodeIndex, Tri.idx, PId.n.injEq]
  split
  · rfl
  · split
    · rfl
    · split <;> rfl

theorem idx_cases {s : Tri Ref} {y : Ref} {k : Nat} (h : s.idx y = some k) :
    (k = 0 ∧ s.1 = y) ∨ (k = 1 ∧ s.2.1 = y) ∨ (k = 2 ∧ s.2.2 = y) := by
  unfold Tri.idx at h
  split at h
  · cases h; exact Or.inl ⟨rfl, ‹_›⟩
  · split at h
    · cases h; exact Or.inr (Or.inl ⟨rfl, ‹_›⟩)
    · split at h
      · cases h; exact Or.inr (Or.inr ⟨rfl, ‹_›⟩)
      · cases h

theorem mem_of_idx {s : Tri Ref} {y : Ref} {k : Nat} (h : s.idx y = some k) : s.mem y = true := by
  rcases idx_cases h with ⟨_, h⟩ | ⟨_, h⟩ | ⟨_, h⟩ <;> simp [Tri.mem, h]

theorem tri_get? {α} {s : Tri Ref} (f : Ref → α) {y : Ref} {k : Nat} (h : s.idx y = some k) :
    ((triList s).map f)[k]? = some (f y) := by
  rcases idx_cases h with ⟨rfl, rfl⟩ | ⟨rfl, rfl⟩ | ⟨rfl, rfl⟩ <;> rfl

theorem tri_set {α} {s : Tri Ref} (f : Ref → α) {y : Ref} {k : Nat} (h : s.idx y = some k) (v : Ref) :
    ((triList s).map f).set k (f v) = (triList (s.set k v)).map f := by
  rcases idx_cases h with ⟨rfl, _⟩ | ⟨rfl, _⟩ | ⟨rfl, _⟩ <;> rfl

theorem Tri.mem_iff {s : Tri Ref} {z : Ref} : s.mem z = true ↔ s.1 = z ∨ s.2.1 = z ∨ s.2.2 = z := by
  simp [Tri.mem, or_assoc]

/-- overwriting the one slot that holds `y` -/
theorem mem_set {s : Tri Ref} (nd : (triList s).Nodup) {y : Ref} {k : Nat} (h : s.idx y = some k) (v z : Ref) :
    (s.set k v).mem z = true ↔ z = v ∨ (s.mem z = true ∧ z ≠ y) := by
  obtain ⟨x, y', z'⟩ := s
  simp only [triList, List.nodup_cons, List.mem_cons, List.not_mem_nil, or_false, not_or, List.nodup_nil, and_true] at nd
  obtain ⟨⟨hxy, hxz⟩, hyz⟩ := nd
  rcases idx_cases h with ⟨rfl, rfl⟩ | ⟨rfl, rfl⟩ | ⟨rfl, rfl⟩ <;> simp only [Tri.set, Tri.mem_iff] <;> grind

theorem PHeap.same_refl (h : PHeap) : h.same h := ⟨fun _ => ⟨rfl, rfl⟩, fun _ => ⟨rfl, rfl⟩⟩

theorem PHeap.ext {h h' : PHeap} (hn : ∀ x, h.node x = h'.node x) (he : ∀ e, h.edge e = h'.edge e) : h = h' := by
  cases h; cases h'
  simp only [PHeap.mk.injEq]
  exact ⟨funext hn, funext he⟩

/-- where the outer nodes hang once `w` has taken the slot of `u` in n1's slice -/
theorem cen_set (nd : (triList s1).Nodup) {u w : Ref} {k : Nat} (h : s1.idx u = some k) (hw : s1.mem w = false) (o : Ref) :
    cen (s1.set k w) o = if o = u then .n2 else if o = w then .n1 else cen s1 o := by
  have hu := mem_of_idx h
  have := mem_set nd h w o
  unfold cen
  grind

/-- the exchange moves the root side to the other centre node exactly when it is beyond `u` or `w` -/
theorem top_set (nd : (triList s1).Nodup) {u w : Ref} {k : Nat} (h : s1.idx u = some k) (hw : s1.mem w = false) :
    top (s1.set k w) up = .n1 ↔ (top s1 up = .n1 ↔ ¬(up = some u ∨ up = some w)) := by
  have hu := mem_of_idx h
  cases up with
  | none => simp [top]
  | some o =>
    simp only [top, cen_set nd h hw, Option.some.injEq]
    unfold cen
    grind

/-- the exchange leads from one well-formed piece to the well-formed piece with `u` and `w` exchanged in the two slices -/
theorem swapP_mkP (L : Layout s1 s2) {u w : Ref} {k1 k2 : Nat} (hu : u.isOuter = true) (hw : w.isOuter = true)
    (h1 : s1.idx u = some k1) (h2 : s2.idx w = some k2) :
    swapP (mkP s1 s2 up pre post) u w k1 (pre u).length k2 (pre w).length (.eo u) (.eo w) .e0 =
      mkP (s1.set k1 w) (s2.set k2 u) up pre post := by
  have hu1 := ne_of_isOuter hu (rfl : Ref.isOuter .n1 = false)
  have hu2 := ne_of_isOuter hu (rfl : Ref.isOuter .n2 = false)
  have hw1 := ne_of_isOuter hw (rfl : Ref.isOuter .n1 = false)
  have hw2 := ne_of_isOuter hw (rfl : Ref.isOuter .n2 = false)
  have hcu := cen_eq_n1.mpr (mem_of_idx h1)
  obtain ⟨hcw, hws⟩ := L.cen2 hw (mem_of_idx h2)
  have huw : u ≠ w := fun h => by rw [h, hcw] at hcu; cases hcu
  have hcen := cen_set L.nd1 h1 hws
  apply PHeap.ext
  · intro y
    by_cases ho : y.isOuter = true
    · have hy1 := ne_of_isOuter ho (rfl : Ref.isOuter .n1 = false)
      have hy2 := ne_of_isOuter ho (rfl : Ref.isOuter .n2 = false)
      rw [mkP_outer ho, hcen]
      by_cases hyu : y = u
      · subst hyu
        simp [swapP, updN, hy1, hy2, huw, mkP_outer ho, hcu]
      · by_cases hyw : y = w
        · subst hyw
          simp [swapP, updN, hy1, hy2, hyu, mkP_outer ho, hcw]
        · simp [swapP, updN, hy1, hy2, hyu, hyw, mkP_outer ho]
    · cases y
      · simp [swapP, updN, Ne.symm hu1, Ne.symm hw1, mkP_n1, ← edgeTo_outer hw, tri_set _ h1]
      · simp [swapP, updN, Ne.symm hu2, mkP_n2, ← edgeTo_outer hu, tri_set _ h2]
      all_goals exact absurd rfl ho
  · have r1 : ((mkP s1 s2 up pre post).edge (.eo u)).right = .n .n1 ↔ up = some u := by
      rw [mkP_eo, hcu]; split <;> simp [*]
    have r2 : ((mkP s1 s2 up pre post).edge (.eo w)).right = .n .n2 ↔ up = some w := by
      rw [mkP_eo, hcw]; split <;> simp [*]
    intro e
    simp only [swapP, r1, r2]
    cases e with
    | ext k => by_cases hc : up = some u ∨ up = some w <;> simp [hc, updE] <;> rfl
    | eo o =>
      rw [mkP_eo, hcen]
      by_cases hou : o = u
      · subst hou
        by_cases hc : up = some o ∨ up = some w <;> simp [hc, updE, huw, mkP_eo, hcu, reattach] <;> split <;> simp [hu1]
      · by_cases how : o = w
        · subst how
          by_cases hc : up = some u ∨ up = some o <;> simp [hc, updE, hou, mkP_eo, hcw, reattach] <;> split <;> simp [hw2]
        · by_cases hc : up = some u ∨ up = some w <;> simp [hc, updE, hou, how, mkP_eo]
    | e0 =>
      have ht := top_set (up := up) L.nd1 h1 hws
      by_cases hc : up = some u ∨ up = some w <;> by_cases hT : top s1 up = .n1 <;>
        simp [hc, hT] at ht <;> simp [updE, mkP_e0, hc, hT, ht]

/- ## the same exchange on `Heap`; the abstraction commutes with it -/

/-- the exchange of `u` (slot `k1` of n1) with `w` (slot `k2` of n2) on the six-node heap -/
def swapH (h : Heap) (u w : Ref) (k1 k2 : Nat) : Heap :=
  { h with ng1 := h.ng1.set k1 w, ng2 := h.ng2.set k2 u,
           left1 := if (h.outer u).isUp || (h.outer w).isUp then !h.left1 else h.left1 }

theorem applyH_eq_swapH {h : Heap} {cross : Bool} {k0 k1 k2 : Nat} (h0 : h.ng1.idx .n2 = some k0) (h1 : h.ng1.idx .b = some k1)
    (h2 : h.ng2.idx (if cross then .c else .d) = some k2) :
    applyH h cross = some (swapH h .b (if cross then .c else .d) k1 k2) := by
  simp only [applyH, h0, h1, h2]; rfl

theorem undoH_eq_swapH {h : Heap} {cross : Bool} {k0 k1 k2 : Nat} (h0 : h.ng1.idx .n2 = some k0)
    (h1 : h.ng1.idx (if cross then .c else .d) = some k1) (h2 : h.ng2.idx .b = some k2) :
    undoH h cross = some (swapH h (if cross then .c else .d) .b k1 k2) := by
  simp only [undoH, h0, h1, h2]; rw [Bool.or_comm]; rfl

/-- what is behind the outer node `o`, in the abstraction of a piece with the root side beyond `up` -/
def outOf (dat : HData) (up : Option Ref) (o : Ref) : Outer :=
  if up = some o then .up else .sub (dat.sub o).1 (dat.sub o).2

theorem absH_mkP_eq (dat : HData) (s1 s2 : Tri Ref) (up : Option Ref) (pre post : Ref → List Nat) :
    absH dat (mkP s1 s2 up pre post) =
      { d1 := dat.d1, d2 := dat.d2, ng1 := s1, ng2 := s2, ec := dat.ec, left1 := decide (top s1 up = .n1),
        oa := outOf dat up .a, ob := outOf dat up .b, oc := outOf dat up .c, od := outOf dat up .d, p0 := dat.p0 } := by
  have hl : ((mkP s1 s2 up pre post).edge .e0).left = .n .n1 ↔ top s1 up = .n1 := by
    rw [mkP_e0]; split <;> simp [*]
  have ho : ∀ o, o.isOuter = true → (((mkP s1 s2 up pre post).edge (.eo o)).left = .n o ↔ up = some o) := by
    intro o ho
    have := cen_ne_outer s1 ho
    rw [mkP_eo]; split <;> simp [*]
  simp only [absH, mkP_n1, mkP_n2, hl, ho _ (rfl : Ref.isOuter .a = true), ho _ (rfl : Ref.isOuter .b = true),
    ho _ (rfl : Ref.isOuter .c = true), ho _ (rfl : Ref.isOuter .d = true), outOf]
  rfl

theorem outOf_isUp (dat : HData) (up : Option Ref) (o : Ref) : (outOf dat up o).isUp = decide (up = some o) := by
  unfold outOf; split <;> simp [Outer.isUp, *]

/-- the square for the exchange: the Go statements on the pointer piece, then α = α, then the exchange on `Heap` -/
theorem swapH_absH (L : Layout s1 s2) (dat : HData) {u w : Ref} {k1 k2 : Nat} (hu : u.isOuter = true) (hw : w.isOuter = true)
    (h1 : s1.idx u = some k1) (h2 : s2.idx w = some k2) :
    swapH (absH dat (mkP s1 s2 up pre post)) u w k1 k2 = absH dat (mkP (s1.set k1 w) (s2.set k2 u) up pre post) := by
  have hws := (L.cen2 hw (mem_of_idx h2)).2
  have ht := top_set (up := up) L.nd1 h1 hws
  have ou : ∀ o, o.isOuter = true → ((absH dat (mkP s1 s2 up pre post)).outer o).isUp = decide (up = some o) := by
    intro o ho
    rw [absH_mkP_eq]
    cases o <;> first | exact outOf_isUp .. | cases ho
  rw [swapH, ou u hu, ou w hw, absH_mkP_eq, absH_mkP_eq]
  by_cases hc : up = some u ∨ up = some w <;> by_cases hT : top s1 up = .n1 <;>
    simp [hc, hT] at ht <;> simp [hT, ht] <;> first | exact hc | exact not_or.mp hc | exact hc.resolve_left

/-- on a well-formed piece the searches and reads find what they look for -/
theorem lookups_mkP (L : Layout s1 s2) {u w : Ref} {k0 k1 k2 : Nat} (hu : u.isOuter = true) (hw : w.isOuter = true)
    (h0 : s1.idx .n2 = some k0) (h1 : s1.idx u = some k1) (h2 : s2.idx w = some k2) :
    Lookups (mkP s1 s2 up pre post) u w k0 k1 (pre u).length k2 (pre w).length (.eo u) (.eo w) .e0 where
  i0 := by rw [mkP_n1, nodeIndex_tri, h0]
  iu := by rw [mkP_n1, nodeIndex_tri, h1]
  iw := by rw [mkP_n2, nodeIndex_tri, h2]
  n1u := by rw [mkP_outer hu, cen_eq_n1.mpr (mem_of_idx h1)]; exact nodeIndex_mid ..
  n2w := by rw [mkP_outer hw, (L.cen2 hw (mem_of_idx h2)).1]; exact nodeIndex_mid ..
  br1 := by rw [mkP_n1, tri_get? _ h1, edgeTo_outer hu]
  br2 := by rw [mkP_n2, tri_get? _ h2, edgeTo_outer hw]
  brc := by rw [mkP_n1, tri_get? _ h0]; rfl

theorem isOuter_x (cross : Bool) : (if cross then Ref.c else Ref.d).isOuter = true := by cases cross <;> rfl

end

/- ## the slices `newNNI` sees and those after `Apply`: a table of 3 slots × `cross` × `applied` -/

/-- the outer nodes in n1's slice: n1_1 and, before `Apply`, n1_2, after it the neighbour of n2 that was exchanged -/
def hangs1 (cross applied : Bool) (o : Ref) : Bool :=
  o == .a || o == (if applied then (if cross then .c else .d) else .b)

theorem slices1_mem {i : Nat} (h : i ≤ 2) (cross applied : Bool) (o : Ref) :
    (slices1 i cross applied).mem o = (o == .n2 || hangs1 cross applied o) := by
  have : i = 0 ∨ i = 1 ∨ i = 2 := by omega
  rcases this with rfl | rfl | rfl <;> cases cross <;> cases applied <;> cases o <;> rfl

theorem slices2_mem {i : Nat} (h : i ≤ 2) (cross applied : Bool) (o : Ref) :
    (slices2 i cross applied).mem o = (o == .n1 || o.isOuter && !hangs1 cross applied o) := by
  have : i = 0 ∨ i = 1 ∨ i = 2 := by omega
  rcases this with rfl | rfl | rfl <;> cases cross <;> cases applied <;> cases o <;> rfl

theorem slices_nodup {i : Nat} (h : i ≤ 2) (cross applied : Bool) :
    (triList (slices1 i cross applied)).Nodup ∧ (triList (slices2 i cross applied)).Nodup := by
  have : i = 0 ∨ i = 1 ∨ i = 2 := by omega
  rcases this with rfl | rfl | rfl <;> cases cross <;> cases applied <;> decide

theorem slices_layout {i1 i2 : Nat} (h1 : i1 ≤ 2) (h2 : i2 ≤ 2) (cross applied : Bool) :
    Layout (slices1 i1 cross applied) (slices2 i2 cross applied) where
  nd := fun m => by cases m <;> first | exact (slices_nodup h1 cross applied).1 | exact (slices_nodup h2 cross applied).2
  self := fun m hm => by
    cases m <;> try cases hm
    · show (slices1 i1 cross applied).mem .n1 = false
      rw [slices1_mem h1]; cases cross <;> cases applied <;> rfl
    · show (slices2 i2 cross applied).mem .n2 = false
      rw [slices2_mem h2]; rfl
  oth := fun m hm => by
    cases m <;> try cases hm
    · show (slices1 i1 cross applied).mem .n2 = true
      rw [slices1_mem h1]; rfl
    · show (slices2 i2 cross applied).mem .n1 = true
      rw [slices2_mem h2]; rfl
  part := fun o ho => by
    have : (o == Ref.n1) = false := by cases o <;> first | rfl | cases ho
    have : (o == Ref.n2) = false := by cases o <;> first | rfl | cases ho
    simp [slices1_mem h1, slices2_mem h2, *]

/-- n1's slice: n2 is in slot `i`, n1_2 in slot `(i+2)%3`; `Apply` overwrites that slot, `Undo` writes n1_2 back -/
theorem slices1_slots {i : Nat} (h : i ≤ 2) (cross : Bool) :
    (∀ applied, (slices1 i cross applied).idx .n2 = some i) ∧
    (slices1 i cross false).idx .b = some (rot2 i) ∧ (slices1 i cross true).idx (if cross then .c else .d) = some (rot2 i) ∧
    (slices1 i cross false).set (rot2 i) (if cross then .c else .d) = slices1 i cross true ∧
    (slices1 i cross true).set (rot2 i) .b = slices1 i cross false := by
  have : i = 0 ∨ i = 1 ∨ i = 2 := by omega
  rcases this with rfl | rfl | rfl <;> cases cross <;> exact ⟨fun applied => by cases applied <;> rfl, rfl, rfl, rfl, rfl⟩

theorem slices2_slots {i : Nat} (h : i ≤ 2) (cross : Bool) :
    (slices2 i cross false).idx (if cross then .c else .d) = some (xslot i cross) ∧ (slices2 i cross true).idx .b = some (xslot i cross) ∧
    (slices2 i cross false).set (xslot i cross) .b = slices2 i cross true ∧
    (slices2 i cross true).set (xslot i cross) (if cross then .c else .d) = slices2 i cross false := by
  have : i = 0 ∨ i = 1 ∨ i = 2 := by omega
  rcases this with rfl | rfl | rfl <;> cases cross <;> exact ⟨rfl, rfl, rfl, rfl⟩

/-- ★ on the pieces with the slices `newNNI` sees: `Apply` leads to the piece with the slices after `Apply`, `Undo` back, and
    both commute with the abstraction to `Heap` -/
theorem slices_square {i1 i2 : Nat} (h1 : i1 ≤ 2) (h2 : i2 ≤ 2) (cross : Bool) (up : Option Ref) (pre post : Ref → List Nat)
    (dat : HData) :
    let p := mkP (slices1 i1 cross false) (slices2 i2 cross false) up pre post
    let q := mkP (slices1 i1 cross true) (slices2 i2 cross true) up pre post
    applyP p cross = some q ∧ undoP q cross = some p ∧
      applyH (absH dat p) cross = some (absH dat q) ∧ undoH (absH dat q) cross = some (absH dat p) := by
  obtain ⟨n, b, x, s, t⟩ := slices1_slots h1 cross
  obtain ⟨x', b', s', t'⟩ := slices2_slots h2 cross
  have L := slices_layout h1 h2 cross false
  have L' := slices_layout h1 h2 cross true
  have hx := isOuter_x cross
  refine ⟨?_, ?_, ?_, ?_⟩
  · rw [applyP_eq_swapP (lookups_mkP L rfl hx (n false) b x'), swapP_mkP L rfl hx b x', s, s']
  · rw [undoP_eq_swapP (lookups_mkP L' hx rfl (n true) x b'), swapP_mkP L' hx rfl x b', t, t']
  · rw [← s, ← s', ← swapH_absH L dat rfl hx b x']
    apply applyH_eq_swapH (k0 := i1) <;> rw [absH_mkP_eq] <;> first | exact n false | assumption
  · rw [← t, ← t', ← swapH_absH L' dat hx rfl x b']
    apply undoH_eq_swapH (k0 := i1) <;> rw [absH_mkP_eq] <;> first | exact n true | assumption

/-- every fresh heap is the abstraction of a well-formed pointer piece -/
theorem absH_mkP {H : Heap} {i1 i2 : Nat} {cross : Bool} (hf : Fresh H i1 i2 cross) (pre post : Ref → List Nat) :
    absH (datOf H) (mkP (slices1 i1 cross false) (slices2 i2 cross false) (upOf H) pre post) = H := by
  obtain ⟨b1, b2, g1, g2, hl, hc, hd, hab⟩ := hf
  rw [absH_mkP_eq]
  obtain ⟨d1, d2, ng1, ng2, ec, left1, oa, ob, oc, od, p0⟩ := H
  simp only at g1 g2 hl hc hd hab
  subst g1 g2 hl
  cases oa <;> cases ob <;> cases oc <;> cases od <;>
    simp_all [Outer.isUp, datOf, upOf, outOf, Heap.outer, top, cen, slices1_mem b1, hangs1]

/- ## the heap `extract` reads off the tree at a site is fresh -/

/-- the statement for one configuration -/
def LocalFresh (path : List Nat) (d1 : NodeD) (cross : Bool) (isRoot : Bool) (p1 : Nat) (k1 : Kids) (j p2 : Nat) : Prop :=
  ∀ H, extract (.node d1 p1 k1) isRoot (newNNI path isRoot p1 j p2 cross) false = some H →
    Fresh H (newNNI path isRoot p1 j p2 cross).i1 p2 cross

macro "fresh_case" : tactic => `(tactic|
  (intro H hH
   simp [extract, slots3, newNNI, lab1, lab2, rot1, rot2, Tri.get, Tri.idx] at hH
   subst hH
   exact ⟨by simp [newNNI], by simp, by simp [slices1, lab1, rot1, newNNI], by simp [slices2, lab2, rot1],
     rfl, by simp [Outer.isUp], by simp [Outer.isUp], by simp [Outer.isUp]⟩))

theorem extract_fresh {path : List Nat} {isRoot : Bool} {p1 : Nat} {k1 : Kids} {j : Nat}
    {e : EdgeD} {d2 : NodeD} {p2 : Nat} {u v : EdgeD × T} (d1 : NodeD) (cross : Bool)
    (s : Site path isRoot p1 k1 j e d2 p2 u v) : LocalFresh path d1 cross isRoot p1 k1 j p2 := by
  obtain ⟨eu, tu⟩ := u
  obtain ⟨ev, tv⟩ := v
  refine site_cases s (LocalFresh path d1 cross) ?_ ?_
  · intro y z p1 hp2
    obtain ⟨ey, ty⟩ := y
    obtain ⟨ez, tz⟩ := z
    have h2 : p2 = 0 ∨ p2 = 1 ∨ p2 = 2 := by omega
    unfold LocalFresh
    rcases h2 with rfl | rfl | rfl <;> cases cross <;> refine ⟨?_, ?_, ?_⟩ <;> fresh_case
  · intro y hp1 hp2
    obtain ⟨ey, ty⟩ := y
    have h1 : p1 = 0 ∨ p1 = 1 ∨ p1 = 2 := by omega
    have h2 : p2 = 0 ∨ p2 = 1 ∨ p2 = 2 := by omega
    unfold LocalFresh
    rcases h1 with rfl | rfl | rfl <;> rcases h2 with rfl | rfl | rfl <;> cases cross <;> refine ⟨?_, ?_⟩ <;> fresh_case

end Gotree.C17

/-
  C17 — the split list before and after `Apply`: one branch apart.
-/
import Gotree.Model.C17
import Gotree.Lemmas.C17
import Gotree.Lemmas.C17Sim
import Gotree.Spec.C17

namespace Gotree.C17
open Gotree Gotree.C17.Spec

theorem perm_iff_count' {α} [DecidableEq α] {l l' : List α} :
    l.Perm l' ↔ ∀ a, @List.count α instBEqOfDecidableEq a l = @List.count α instBEqOfDecidableEq a l' :=
  @List.perm_iff_count α instBEqOfDecidableEq inferInstance l l'

/-- permutation of two explicit concatenations of the same blocks of split entries -/
macro "perm_entries" : tactic => `(tactic|
  (rw [perm_iff_count']; intro a; simp only [List.count_cons, List.count_append, List.count_nil]; omega))

/- ## SameBranches -/

theorem sameBranch_refl (s : SplitE) : SameBranch s s := ⟨List.Perm.refl _, rfl, rfl⟩

theorem sameBranches_refl : ∀ (l : List SplitE), SameBranches l l
  | [] => trivial
  | s :: l => ⟨sameBranch_refl s, sameBranches_refl l⟩

theorem sameBranches_append : ∀ {a a' b b' : List SplitE}, SameBranches a a' → SameBranches b b' →
    SameBranches (a ++ b) (a' ++ b')
  | [], [], _, _, _, hb => by simpa using hb
  | [], _ :: _, _, _, ha, _ => by simp [SameBranches] at ha
  | _ :: _, [], _, _, ha, _ => by simp [SameBranches] at ha
  | s :: a, s' :: a', b, b', ha, hb => by
    simp only [SameBranches, List.cons_append] at ha ⊢
    exact ⟨ha.1, sameBranches_append ha.2 hb⟩

/-- context: equal-or-same branches around two lists that are one branch apart -/
theorem oneBranchApart_context {L L' X X' Y Y' : List SplitE} (h : OneBranchApart L L')
    (hx : SameBranches X X') (hy : SameBranches Y Y') : OneBranchApart (X ++ L ++ Y) (X' ++ L' ++ Y') := by
  obtain ⟨c, c', R, R', h1, h2, h3, h4⟩ := h
  refine ⟨c, c', X ++ R ++ Y, X' ++ R' ++ Y', ?_, ?_, sameBranches_append (sameBranches_append hx h3) hy, h4⟩
  · have : (X ++ L ++ Y).Perm (X ++ (c :: R) ++ Y) :=
      List.Perm.append_right _ (List.Perm.append_left _ h1)
    refine this.trans ?_
    simp only [List.append_assoc, List.cons_append]
    exact List.perm_middle
  · have : (X' ++ L' ++ Y').Perm (X' ++ (c' :: R') ++ Y') :=
      List.Perm.append_right _ (List.Perm.append_left _ h2)
    refine this.trans ?_
    simp only [List.append_assoc, List.cons_append]
    exact List.perm_middle

/-- the split lists of the children of a node before and after -/
def RS (S S' : T) : Prop := OneBranchApart (splitsL S.kids) (splitsL S'.kids)

theorem RS_set (c c' : T) (e : EdgeD) (hr : RS c c') (hl : c'.leaves.Perm c.leaves) (hleaf : c'.isLeaf = c.isLeaf) :
    ∀ (k : Kids) (i : Nat), k[i]? = some (e, c) → OneBranchApart (splitsL k) (splitsL (k.set i (e, c'))) := by
  intro k
  induction k with
  | nil => intro i h; simp at h
  | cons x xs ih =>
    intro i h
    cases i with
    | zero =>
      simp at h; subst h
      simp only [List.set_cons_zero, splitsL, T.splitsBelow_eq]
      have := oneBranchApart_context (X := [⟨c.leaves, e, c.isLeaf⟩]) (X' := [⟨c'.leaves, e, c'.isLeaf⟩])
        (Y := splitsL xs) (Y' := splitsL xs) hr ⟨⟨hl.symm, rfl, hleaf.symm⟩, trivial⟩ (sameBranches_refl _)
      simpa using this
    | succ i =>
      obtain ⟨ex, tx⟩ := x
      simp only [List.set_cons_succ, splitsL]
      have := oneBranchApart_context (X := ⟨tx.leaves, ex, tx.isLeaf⟩ :: tx.splitsBelow)
        (X' := ⟨tx.leaves, ex, tx.isLeaf⟩ :: tx.splitsBelow) (Y := []) (Y' := [])
        (ih i (by simpa using h)) (sameBranches_refl _) trivial
      simpa using this

/-- `RK` and `RS` together go up one step -/
theorem RKS_up {c c' : T} (h : RK c c' ∧ RS c c') (d : NodeD) (p : Nat) (k : Kids) (i : Nat) (e : EdgeD)
    (hk : k[i]? = some (e, c)) : RK (.node d p k) (.node d p (k.set i (e, c'))) ∧ RS (.node d p k) (.node d p (k.set i (e, c'))) :=
  ⟨h.1.up d p k i e hk, RS_set c c' e h.2 h.1.leaves_perm h.1.isLeaf_eq k i hk⟩

theorem RKS_lift (f : T → Option T) : ∀ (q : List Nat) (t t' S : T), subAt q t = some S →
    modAt q f t = some t' → (∀ S', f S = some S' → RK S S' ∧ RS S S') → RK t t' ∧ RS t t' :=
  modAt_lift (fun a b => RK a b ∧ RS a b) f fun d p k i e _ _ hk h => RKS_up h d p k i e hk

/- ## leaves -/

/-- the leaves below an inner node reached by a path are among the leaves below the start -/
theorem sub_leaves_sublist : ∀ (q : List Nat) (t S : T), subAt q t = some S → S.kids ≠ [] →
    (leavesL S.kids).Sublist (leavesL t.kids) := by
  intro q
  induction q with
  | nil =>
    intro t S hs _
    simp only [subAt, Option.some.injEq] at hs
    subst hs
    exact List.Sublist.refl _
  | cons i q ih =>
    intro t S hs hne
    obtain ⟨d, pp, k⟩ := t
    obtain ⟨e, c, (hki : k[i]? = some (e, c)), hs⟩ := subAt_cons.mp hs
    have h1 := ih c S hs hne
    have hc : c.kids ≠ [] := by
      intro h0
      rw [h0] at h1
      simp only [leavesL, List.sublist_nil] at h1
      obtain ⟨dS, pS, kS⟩ := S
      cases kS with
      | nil => exact hne rfl
      | cons y ys =>
        obtain ⟨ey, ty⟩ := y
        simp only [T.kids_node, leavesL] at h1
        exact T.leaves_ne_nil ty (List.append_eq_nil_iff.mp h1).1
    have h2 := leaves_sublist_leavesL (List.mem_of_getElem? hki)
    rw [T.leaves_eq, if_neg hc] at h2
    exact h1.trans h2

/- ## entries of the split list by child number -/

/-- the entry of the split list for child number `j` -/
def entryOf (k : Kids) (j : Nat) : SplitE :=
  match k[j]? with
  | some (e, c) => ⟨c.leaves, e, c.isLeaf⟩
  | none => ⟨[], EdgeD.blank, true⟩

theorem oneBranchApart_of {L L' : List SplitE} (c c' : SplitE) (hc : c ∈ L) (hp : (c' :: L).Perm (c :: L'))
    (he : c.e = c'.e) (ht : c.tip = false) (ht' : c'.tip = false) (hd : DifferentSplit c.below c'.below) :
    OneBranchApart L L' := by
  obtain ⟨s, t, rfl⟩ := List.append_of_mem hc
  refine ⟨c, c', s ++ t, s ++ t, List.perm_middle, ?_, sameBranches_refl _, he, ht, ht', hd⟩
  have h1 : (c' :: (s ++ c :: t)).Perm (c :: c' :: (s ++ t)) :=
    (List.Perm.cons c' List.perm_middle).trans (List.Perm.swap c c' _)
  exact (List.Perm.cons_inv (h1.symm.trans hp)).symm

theorem oneBranchApart_kids {k k' : Kids} (c : SplitE) (jj : Nat) (hc : c ∈ splitsL k)
    (hp : (entryOf k' jj :: splitsL k).Perm (c :: splitsL k'))
    (he : c.e = (entryOf k' jj).e) (ht : c.tip = false) (ht' : (entryOf k' jj).tip = false)
    (hd : DifferentSplit c.below (entryOf k' jj).below) : OneBranchApart (splitsL k) (splitsL k') :=
  oneBranchApart_of c (entryOf k' jj) hc hp he ht ht' hd

macro "ev_entries" : tactic => `(tactic|
  simp only [entryOf, List.getElem?_cons_zero, List.getElem?_cons_succ, splitsL, T.splitsBelow, T.leaves, leavesL,
    List.append_nil, T.isLeaf, List.isEmpty_cons, T.kids_node])

end Gotree.C17

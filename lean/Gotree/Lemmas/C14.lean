/-
  C14 — the rose-tree model against the split list: what `walkDown`/`walkUp`/`row` write is the sum of the
  weights over the separating branches (`distW`); the matrix and its shape; `avgMatrix` as a sum of tables;
  `comp`/`cut` against "every separating branch is shorter than the threshold".  Core Lean only (other
  properties import this module).
-/
import Gotree.Spec.C14
import Gotree.Lemmas.Core

namespace Gotree.C14
open Gotree

/-! ## Sums over the split list -/

/-- sum of the weight over the entries that have `b` below them -/
def belowW (w : EdgeD → Rat) (l : List SplitE) (b : String) : Rat :=
  (l.map fun s => if s.below.contains b then w s.e else 0).sum

theorem distW_nil (w : EdgeD → Rat) (a b : String) : distW w [] a b = 0 := rfl

theorem distW_cons (w : EdgeD → Rat) (s : SplitE) (l : List SplitE) (a b : String) :
    distW w (s :: l) a b = (if s.sep a b then w s.e else 0) + distW w l a b := by
  simp [distW]

theorem distW_append (w : EdgeD → Rat) (l₁ l₂ : List SplitE) (a b : String) :
    distW w (l₁ ++ l₂) a b = distW w l₁ a b + distW w l₂ a b := by
  induction l₁ with
  | nil => rw [List.nil_append, distW_nil, Rat.zero_add]
  | cons s l ih => simp only [List.cons_append, distW_cons, ih]; grind

theorem belowW_nil (w : EdgeD → Rat) (b : String) : belowW w [] b = 0 := rfl

theorem belowW_cons (w : EdgeD → Rat) (s : SplitE) (l : List SplitE) (b : String) :
    belowW w (s :: l) b = (if s.below.contains b then w s.e else 0) + belowW w l b := by
  simp [belowW]

theorem belowW_append (w : EdgeD → Rat) (l₁ l₂ : List SplitE) (b : String) :
    belowW w (l₁ ++ l₂) b = belowW w l₁ b + belowW w l₂ b := by
  induction l₁ with
  | nil => rw [List.nil_append, belowW_nil, Rat.zero_add]
  | cons s l ih => simp only [List.cons_append, belowW_cons, ih]; grind

/-- a name below no entry contributes nothing -/
theorem belowW_zero (w : EdgeD → Rat) (l : List SplitE) (b : String)
    (h : ∀ s ∈ l, b ∉ s.below) : belowW w l b = 0 := by
  induction l with
  | nil => rfl
  | cons s l ih =>
    have h1 : b ∉ s.below := h s (by simp)
    rw [belowW_cons, ih (fun s hs => h s (by simp [hs]))]; simp [h1, Rat.add_zero]

/-- if `a` is below no entry, separation from `a` is membership of `b` -/
theorem distW_left_out (w : EdgeD → Rat) (l : List SplitE) (a b : String)
    (h : ∀ s ∈ l, a ∉ s.below) : distW w l a b = belowW w l b := by
  induction l with
  | nil => rfl
  | cons s l ih =>
    have h1 : a ∉ s.below := h s (by simp)
    rw [distW_cons, belowW_cons, ih (fun s hs => h s (by simp [hs]))]
    by_cases h2 : b ∈ s.below <;> simp [SplitE.sep, h1, h2]

theorem sep_comm (s : SplitE) (a b : String) : s.sep a b = s.sep b a := by
  simp [SplitE.sep, bne_comm]

theorem distW_comm (w : EdgeD → Rat) (l : List SplitE) (a b : String) :
    distW w l a b = distW w l b a := by
  simp only [distW, sep_comm]

theorem distW_right_out (w : EdgeD → Rat) (l : List SplitE) (a b : String)
    (h : ∀ s ∈ l, b ∉ s.below) : distW w l a b = belowW w l a := by
  rw [distW_comm, distW_left_out w l b a h]

theorem distW_both_out (w : EdgeD → Rat) (l : List SplitE) (a b : String)
    (ha : ∀ s ∈ l, a ∉ s.below) (hb : ∀ s ∈ l, b ∉ s.below) : distW w l a b = 0 := by
  rw [distW_left_out w l a b ha, belowW_zero w l b hb]

/-! ## Every `below` of the split list of a subtree consists of leaves of that subtree -/

theorem below_sub : ∀ (t : T), ∀ s ∈ t.splitsBelow, ∀ x ∈ s.below, x ∈ t.leaves :=
  fun t s hs _ hx => (t.below_sublist_leaves s hs).subset hx

theorem below_subL : ∀ (k : Kids), ∀ s ∈ splitsL k, ∀ x ∈ s.below, x ∈ leavesL k :=
  fun k s hs _ hx => (below_sublist_leavesL k s hs).subset hx

theorem out_of_sub (t : T) (b : String) (h : b ∉ t.leaves) : ∀ s ∈ t.splitsBelow, b ∉ s.below :=
  fun s hs hb => h (below_sub t s hs b hb)

theorem out_of_subL (k : Kids) (b : String) (h : b ∉ leavesL k) : ∀ s ∈ splitsL k, b ∉ s.below :=
  fun s hs hb => h (below_subL k s hs b hb)

/-! ## `walkDown` -/

mutual
theorem walkDown_none (w : EdgeD → Rat) : ∀ (t : T) (acc : Rat) (b : String),
    b ∉ t.leaves → (walkDown w t acc).lookup b = none
  | .node d _ [], acc, b, hb => by
    have : (b == d.name) = false := by simpa [T.leaves] using hb
    simp [walkDown, List.lookup_cons, this]
  | .node _ _ (k :: ks), acc, b, hb => by
    simpa [walkDown] using walkDownL_none w (k :: ks) acc b (by simpa [T.leaves] using hb)
theorem walkDownL_none (w : EdgeD → Rat) : ∀ (k : Kids) (acc : Rat) (b : String),
    b ∉ leavesL k → (walkDownL w k acc).lookup b = none
  | [], _, _, _ => by simp [walkDownL]
  | (e, t) :: r, acc, b, hb => by
    simp only [leavesL, List.mem_append, not_or] at hb
    simp [walkDownL, List.lookup_append, walkDown_none w t _ b hb.1, walkDownL_none w r acc b hb.2]
end

mutual
theorem walkDown_lookup (w : EdgeD → Rat) : ∀ (t : T) (acc : Rat) (b : String),
    t.leaves.Nodup → b ∈ t.leaves →
    (walkDown w t acc).lookup b = some (acc + belowW w t.splitsBelow b)
  | .node d _ [], acc, b, _, hb => by
    have : b = d.name := by simpa [T.leaves] using hb
    simp [walkDown, this, T.splitsBelow, splitsL, belowW_nil, Rat.add_zero]
  | .node _ _ (k :: ks), acc, b, hn, hb => by
    simpa [walkDown, T.splitsBelow] using
      walkDownL_lookup w (k :: ks) acc b (by simpa [T.leaves] using hn) (by simpa [T.leaves] using hb)
theorem walkDownL_lookup (w : EdgeD → Rat) : ∀ (k : Kids) (acc : Rat) (b : String),
    (leavesL k).Nodup → b ∈ leavesL k →
    (walkDownL w k acc).lookup b = some (acc + belowW w (splitsL k) b)
  | [], _, _, _, hb => by simp [leavesL] at hb
  | (e, t) :: r, acc, b, hn, hb => by
    simp only [leavesL, List.nodup_append] at hn
    simp only [leavesL, List.mem_append] at hb
    obtain ⟨hn1, hn2, hd⟩ := hn
    simp only [walkDownL, List.lookup_append, splitsL, belowW_cons, belowW_append]
    by_cases h : b ∈ t.leaves
    · have hr : b ∉ leavesL r := fun h' => hd b h b h' rfl
      rw [walkDown_lookup w t _ b hn1 h, belowW_zero w (splitsL r) b (out_of_subL r b hr)]
      have : t.leaves.contains b = true := by simpa using h
      simp only [this, if_true]; congr 1; grind
    · have hr : b ∈ leavesL r := hb.resolve_left h
      rw [walkDown_none w t _ b h, walkDownL_lookup w r acc b hn2 hr,
        belowW_zero w t.splitsBelow b (out_of_sub t b h)]
      have : t.leaves.contains b = false := by simpa using h
      simp only [this, Option.none_or]; congr 1; grind
end

/-! ## `walkUp` -/

mutual
theorem walkUp_none (w : EdgeD → Rat) (a : String) : ∀ (t : T),
    a ∉ t.leaves → walkUp w a t = none
  | .node d _ [], ha => by
    have : ¬ d.name = a := by simpa [T.leaves, eq_comm] using ha
    simp [walkUp, this]
  | .node _ _ (k :: ks), ha => by
    simpa [walkUp] using walkUpL_none w a (k :: ks) (by simpa [T.leaves] using ha)
theorem walkUpL_none (w : EdgeD → Rat) (a : String) : ∀ (k : Kids),
    a ∉ leavesL k → walkUpL w a k = none
  | [], _ => by simp [walkUpL]
  | (e, t) :: r, ha => by
    simp only [leavesL, List.mem_append, not_or] at ha
    simp [walkUpL, walkUp_none w a t ha.1, walkUpL_none w a r ha.2]
end

/-- What the walk started at `a` (a leaf of the subtree) produces: the length
    accumulated up to the top node, and, for every other leaf `b` of the
    subtree, the sum over the separating branches; nothing else is written. -/
def UpOK (w : EdgeD → Rat) (a : String) (lv : List String) (sp : List SplitE)
    (r : Option (Rat × List (String × Rat))) : Prop :=
  ∃ res, r = some (belowW w sp a, res) ∧
    (∀ b ∈ lv, b ≠ a → res.lookup b = some (distW w sp a b)) ∧
    (∀ b, b ∉ lv → res.lookup b = none)

mutual
theorem walkUp_some (w : EdgeD → Rat) (a : String) : ∀ (t : T),
    t.leaves.Nodup → a ∈ t.leaves → UpOK w a t.leaves t.splitsBelow (walkUp w a t)
  | .node d _ [], _, ha => by
    have h : d.name = a := by simpa [T.leaves, eq_comm] using ha
    refine ⟨[], by simp [walkUp, h, T.splitsBelow, splitsL, belowW_nil], ?_, by simp⟩
    intro b hb hne
    exact absurd (by simpa [T.leaves, h] using hb) hne
  | .node _ _ (k :: ks), hn, ha => by
    simpa [walkUp, T.splitsBelow, T.leaves] using
      walkUpL_some w a (k :: ks) (by simpa [T.leaves] using hn) (by simpa [T.leaves] using ha)
theorem walkUpL_some (w : EdgeD → Rat) (a : String) : ∀ (k : Kids),
    (leavesL k).Nodup → a ∈ leavesL k → UpOK w a (leavesL k) (splitsL k) (walkUpL w a k)
  | [], _, ha => by simp [leavesL] at ha
  | (e, t) :: r, hn, ha => by
    simp only [leavesL, List.nodup_append] at hn
    simp only [leavesL, List.mem_append] at ha
    obtain ⟨hn1, hn2, hd⟩ := hn
    by_cases h : a ∈ t.leaves
    · -- the start tip is inside the first child
      have har : a ∉ leavesL r := fun h' => hd a h a h' rfl
      obtain ⟨res, hres, hin, hout⟩ := walkUp_some w a t hn1 h
      refine ⟨res ++ walkDownL w r (belowW w t.splitsBelow a + w e), ?_, ?_, ?_⟩
      · simp only [walkUpL, hres, splitsL, belowW_cons, belowW_append,
          belowW_zero w (splitsL r) a (out_of_subL r a har)]
        have : t.leaves.contains a = true := by simpa using h
        simp only [this, if_true]; congr 2; grind
      · intro b hb hne
        simp only [leavesL, List.mem_append] at hb
        simp only [List.lookup_append, splitsL, distW_cons, distW_append, SplitE.sep]
        have hca : t.leaves.contains a = true := by simpa using h
        by_cases hbt : b ∈ t.leaves
        · have hbr : b ∉ leavesL r := fun h' => hd b hbt b h' rfl
          have hcb : t.leaves.contains b = true := by simpa using hbt
          rw [hin b hbt hne, distW_both_out w (splitsL r) a b (out_of_subL r a har) (out_of_subL r b hbr)]
          simp only [hca, hcb]; simp; grind
        · have hbr : b ∈ leavesL r := hb.resolve_left hbt
          have hcb : t.leaves.contains b = false := by simpa using hbt
          rw [hout b hbt, walkDownL_lookup w r _ b hn2 hbr,
            distW_right_out w t.splitsBelow a b (out_of_sub t b hbt),
            distW_left_out w (splitsL r) a b (out_of_subL r a har)]
          simp only [hca, hcb]; simp; grind
      · intro b hb
        simp only [leavesL, List.mem_append, not_or] at hb
        simp [List.lookup_append, hout b hb.1, walkDownL_none w r _ b hb.2]
    · -- the start tip is inside one of the later children
      have har : a ∈ leavesL r := ha.resolve_left h
      obtain ⟨res, hres, hin, hout⟩ := walkUpL_some w a r hn2 har
      refine ⟨walkDown w t (belowW w (splitsL r) a + w e) ++ res, ?_, ?_, ?_⟩
      · simp only [walkUpL, walkUp_none w a t h, hres, splitsL, belowW_cons, belowW_append,
          belowW_zero w t.splitsBelow a (out_of_sub t a h)]
        have : t.leaves.contains a = false := by simpa using h
        simp only [this]; congr 2; grind
      · intro b hb hne
        simp only [leavesL, List.mem_append] at hb
        simp only [List.lookup_append, splitsL, distW_cons, distW_append, SplitE.sep]
        have hca : t.leaves.contains a = false := by simpa using h
        by_cases hbt : b ∈ t.leaves
        · have hbr : b ∉ leavesL r := fun h' => hd b hbt b h' rfl
          have hcb : t.leaves.contains b = true := by simpa using hbt
          rw [walkDown_lookup w t _ b hn1 hbt,
            distW_left_out w t.splitsBelow a b (out_of_sub t a h),
            distW_right_out w (splitsL r) a b (out_of_subL r b hbr)]
          simp only [hca, hcb]; simp; grind
        · have hbr : b ∈ leavesL r := hb.resolve_left hbt
          have hcb : t.leaves.contains b = false := by simpa using hbt
          rw [walkDown_none w t _ b hbt, hin b hbr hne,
            distW_both_out w t.splitsBelow a b (out_of_sub t a h) (out_of_sub t b hbt)]
          simp only [hca, hcb]; simp; grind
      · intro b hb
        simp only [leavesL, List.mem_append, not_or] at hb
        simp [List.lookup_append, hout b hb.2, walkDown_none w t _ b hb.1]
end

/-! ## `row` -/

theorem row_lookup (w : EdgeD → Rat) (t : T) (hu : t.tipNames.Nodup) (a b : String)
    (ha : a ∈ t.tipNames) (hb : b ∈ t.tipNames) (hab : a ≠ b) :
    (row w t a).lookup b = some (distW w t.splits a b) := by
  unfold row T.splits
  unfold T.tipNames at hu ha hb
  by_cases h1 : t.kids.length = 1
  · -- the root is itself a tip
    simp only [h1, beq_self_eq_true, if_true, List.cons_append, List.nil_append,
      List.nodup_cons, List.mem_cons] at hu ha hb
    obtain ⟨hroot, hn⟩ := hu
    by_cases h2 : t.name = a
    · -- the walk starts at the root
      have har : a ∉ leavesL t.kids := h2 ▸ hroot
      have hbk : b ∈ leavesL t.kids := hb.resolve_left (fun h => hab (h2 ▸ h.symm))
      simp only [h1, h2, beq_self_eq_true, Bool.and_self, if_true]
      rw [walkDownL_lookup w t.kids 0 b hn hbk,
        distW_left_out w (splitsL t.kids) a b (out_of_subL t.kids a har), Rat.zero_add]
    · have hak : a ∈ leavesL t.kids := ha.resolve_left (fun h => h2 h.symm)
      obtain ⟨res, hres, hin, hout⟩ := walkUpL_some w a t.kids hn hak
      have h2' : (t.name == a) = false := by simpa using h2
      simp only [h1, h2', beq_self_eq_true, Bool.and_false, hres, if_true, Bool.false_eq_true,
        if_false, List.lookup_append]
      rcases hb with hb | hb
      · -- the other tip is the root
        have hbr : b ∉ leavesL t.kids := hb ▸ hroot
        rw [hout b hbr, distW_right_out w (splitsL t.kids) a b (out_of_subL t.kids b hbr)]
        simp [hb]
      · rw [hin b hb (Ne.symm hab)]; rfl
  · have h1' : (t.kids.length == 1) = false := by simpa using h1
    simp only [h1', if_false, List.nil_append, Bool.false_eq_true] at hu ha hb
    obtain ⟨res, hres, hin, _⟩ := walkUpL_some w a t.kids hu ha
    simp only [h1', Bool.false_and, hres, if_false, List.append_nil, Bool.false_eq_true]
    exact hin b hb (Ne.symm hab)

/-! ## sorting names -/

theorem sortNames_perm (l : List String) : (sortNames l).Perm l :=
  List.mergeSort_perm _ _

theorem mem_sortNames {a : String} {l : List String} : a ∈ sortNames l ↔ a ∈ l :=
  List.mem_mergeSort

theorem sortNames_sorted (l : List String) : (sortNames l).Pairwise (· ≤ ·) := by
  have h := List.pairwise_mergeSort (le := fun a b : String => decide (a ≤ b))
    (by intro a b c; simpa using String.le_trans)
    (by intro a b; simpa using String.le_total a b) l
  simpa [sortNames] using h

/-- sorting forgets the order of the input -/
theorem sortNames_eq_of_perm {l₁ l₂ : List String} (h : l₁.Perm l₂) : sortNames l₁ = sortNames l₂ :=
  List.Perm.eq_of_pairwise (le := (· ≤ ·)) (fun _ _ _ _ h1 h2 => String.le_antisymm h1 h2)
    (sortNames_sorted l₁) (sortNames_sorted l₂)
    ((sortNames_perm l₁).trans (h.trans (sortNames_perm l₂).symm))

/-! ## the matrix -/

theorem matrix_spec (m : Metric) (t : T) (hu : t.tipNames.Nodup) :
    (matrix m t).2 = (sortNames t.tipNames).map fun a =>
      (sortNames t.tipNames).map fun b => if a == b then 0 else pathSum m t a b := by
  unfold matrix
  apply List.map_congr_left
  intro a ha
  apply List.map_congr_left
  intro b hb
  by_cases hab : a = b
  · simp [hab]
  · have : (a == b) = false := by simpa using hab
    simp only [this, Bool.false_eq_true, if_false]
    rw [row_lookup m.w t hu a b (mem_sortNames.1 ha) (mem_sortNames.1 hb) hab]
    rfl

theorem pathSum_comm (m : Metric) (t : T) (a b : String) : pathSum m t a b = pathSum m t b a :=
  distW_comm _ _ _ _

/-- entry `[i][j]` of a table built by two nested maps over the same list -/
theorem entry_map_map {α : Type} (l : List α) (f : α → α → Rat) (i j : Nat) :
    ((l.map fun a => l.map (f a)).getD i []).getD j 0 =
      match l[i]?, l[j]? with
      | some a, some b => f a b
      | _, _ => 0 := by
  simp only [List.getD_eq_getElem?_getD, List.getElem?_map]
  cases l[i]? <;> cases h : l[j]? <;> simp [h]

/-- all rows have the length of the table: the table is `n × n` -/
def Square (n : Nat) (M : List (List Rat)) : Prop := M.map List.length = List.replicate n n

theorem Square.length {n : Nat} {M : List (List Rat)} (h : Square n M) : M.length = n := by
  simpa using congrArg List.length h

theorem Square.row_length {n : Nat} {M : List (List Rat)} (h : Square n M) :
    ∀ r ∈ M, r.length = n := by
  intro r hr
  have : r.length ∈ M.map List.length := List.mem_map_of_mem hr
  rw [h] at this
  exact (List.mem_replicate.1 this).2

theorem matrix_isSquare (m : Metric) (t : T) :
    Square (matrix m t).1.length (matrix m t).2 := by
  simp [Square, matrix, List.map_map, Function.comp_def, List.map_const']

/-! ## the average -/

/-- `getD` through a `zipWith` of two lists of the same length -/
theorem getD_zipWith {α β γ : Type} (f : α → β → γ) (da : α) (db : β) :
    ∀ (as : List α) (bs : List β), as.length = bs.length → ∀ (i : Nat),
    (List.zipWith f as bs).getD i (f da db) = f (as.getD i da) (bs.getD i db)
  | [], [], _, i => by simp
  | [], _ :: _, h, _ => by simp at h
  | _ :: _, [], h, _ => by simp at h
  | a :: as, b :: bs, h, i => by
    cases i with
    | zero => simp
    | succ i =>
      simp only [List.zipWith_cons_cons, List.getD_cons_succ]
      exact getD_zipWith f da db as bs (by simpa using h) i

theorem length_getD_row (M : List (List Rat)) (i : Nat) :
    (M.getD i []).length = (M.map List.length).getD i 0 := by
  simp only [List.getD_eq_getElem?_getD, List.getElem?_map]
  cases M[i]? <;> simp

theorem addM_square {n : Nat} : ∀ (A B : List (List Rat)), Square n A → Square n B →
    (addM A B).map List.length = A.map List.length := by
  intro A B hA hB
  have h : A.map List.length = B.map List.length := hA.trans hB.symm
  clear hA hB
  induction A generalizing B with
  | nil => simp [addM]
  | cons r A ih =>
    cases B with
    | nil => simp at h
    | cons s B =>
      simp only [List.map_cons, List.cons.injEq] at h
      have := ih B h.2
      simp only [addM] at this
      simp [addM, List.length_zipWith, h.1, this]

theorem addM_entry {n : Nat} (A B : List (List Rat)) (hA : Square n A) (hB : Square n B) (i j : Nat) :
    ((addM A B).getD i []).getD j 0 = (A.getD i []).getD j 0 + (B.getD i []).getD j 0 := by
  have hlen : A.length = B.length := hA.length.trans hB.length.symm
  have h1 := getD_zipWith (fun r s : List Rat => List.zipWith (· + ·) r s) [] [] A B hlen i
  simp only [List.zipWith_nil_left] at h1
  have hrow : (A.getD i []).length = (B.getD i []).length := by
    rw [length_getD_row, length_getD_row, hA, hB]
  have h2 := getD_zipWith (fun x y : Rat => x + y) 0 0 (A.getD i []) (B.getD i []) hrow j
  rw [Rat.add_zero] at h2
  rw [addM, h1, h2]

/-- entrywise sum of a list of tables, starting from `acc` -/
def sumM (m : Metric) (us : List T) (acc : List (List Rat)) : List (List Rat) :=
  us.foldl (fun acc u => addM acc (matrix m u).2) acc

theorem go_eq (m : Metric) (tips : List String) : ∀ (us : List T) (acc : List (List Rat)),
    avgMatrix.go m tips us acc =
      if us.all (fun u => (matrix m u).1 == tips) then some (sumM m us acc) else none
  | [], acc => by simp [avgMatrix.go, sumM]
  | u :: us, acc => by
    simp only [avgMatrix.go, List.all_cons, sumM, List.foldl_cons]
    by_cases h : (matrix m u).1 = tips
    · simp only [h, beq_self_eq_true, if_true, Bool.true_and]
      exact go_eq m tips us _
    · have : ((matrix m u).1 == tips) = false := by simpa using h
      simp [this]

theorem sumM_spec (m : Metric) (n : Nat) : ∀ (us : List T) (acc : List (List Rat)),
    Square n acc → (∀ u ∈ us, (matrix m u).1.length = n) →
    Square n (sumM m us acc) ∧
    ∀ i j, ((sumM m us acc).getD i []).getD j 0 =
      (acc.getD i []).getD j 0 + (us.map fun u => ((matrix m u).2.getD i []).getD j 0).sum
  | [], acc, hacc, _ => by
    refine ⟨hacc, fun i j => ?_⟩
    simp [sumM, Rat.add_zero]
  | u :: us, acc, hacc, hus => by
    have hu : Square n (matrix m u).2 := by
      have := matrix_isSquare m u
      rwa [hus u (by simp)] at this
    have hacc' : Square n (addM acc (matrix m u).2) := by
      unfold Square; rw [addM_square acc _ hacc hu]; exact hacc
    obtain ⟨h1, h2⟩ := sumM_spec m n us _ hacc' (fun v hv => hus v (by simp [hv]))
    refine ⟨h1, fun i j => ?_⟩
    have := h2 i j
    simp only [sumM, List.foldl_cons, List.map_cons, List.sum_cons] at this ⊢
    rw [this, addM_entry acc _ hacc hu]
    grind

theorem avgMatrix_cons (m : Metric) (t : T) (ts : List T) :
    avgMatrix m (t :: ts) =
      if ts.all (fun u => (matrix m u).1 == (matrix m t).1) then
        some ((matrix m t).1, (sumM m ts (matrix m t).2).map fun r => r.map fun x =>
          x / ((ts.length + 1 : Nat) : Rat))
      else none := by
  simp only [avgMatrix, go_eq]
  cases ts.all (fun u => (matrix m u).1 == (matrix m t).1) <;> rfl

theorem div_entry (M : List (List Rat)) (c : Rat) (i j : Nat) :
    ((M.map fun r => r.map fun x => x / c).getD i []).getD j 0 = (M.getD i []).getD j 0 / c := by
  simp only [List.getD_eq_getElem?_getD, List.getElem?_map]
  cases M[i]? with
  | none => simp [Rat.div_def, Rat.zero_mul]
  | some r =>
    simp only [Option.map_some, Option.getD_some, List.getElem?_map]
    cases r[j]? <;> simp [Rat.div_def, Rat.zero_mul]

theorem div_square {n : Nat} (M : List (List Rat)) (c : Rat) (h : Square n M) :
    Square n (M.map fun r => r.map fun x => x / c) := by
  unfold Square at *
  rw [← h]
  simp [List.map_map, Function.comp_def]

/-! ## the cut -/

/-- every branch above `a` (inside the subtree) is shorter than `thr` -/
def topShort (thr : Rat) (l : List SplitE) (a : String) : Bool :=
  l.all fun s => !(s.below.contains a) || decide (s.e.len < thr)

/-- every branch of `l` separating `a` and `b` is shorter than `thr` -/
def pathShortL (thr : Rat) (l : List SplitE) (a b : String) : Bool :=
  l.all fun s => !(s.sep a b) || decide (s.e.len < thr)

theorem pathShort_eq (thr : Rat) (t : T) (a b : String) :
    pathShort thr t a b = pathShortL thr t.splits a b := rfl

theorem topShort_out (thr : Rat) (l : List SplitE) (a : String) (h : ∀ s ∈ l, a ∉ s.below) :
    topShort thr l a = true := by
  simp only [topShort, List.all_eq_true]
  intro s hs
  simp [h s hs]

theorem pathShortL_left_out (thr : Rat) (l : List SplitE) (a b : String)
    (h : ∀ s ∈ l, a ∉ s.below) : pathShortL thr l a b = topShort thr l b := by
  rw [Bool.eq_iff_iff]
  simp only [pathShortL, topShort, List.all_eq_true]
  constructor <;> intro H s hs <;> have := H s hs <;> simpa [SplitE.sep, h s hs] using this

theorem pathShortL_right_out (thr : Rat) (l : List SplitE) (a b : String)
    (h : ∀ s ∈ l, b ∉ s.below) : pathShortL thr l a b = topShort thr l a := by
  rw [← pathShortL_left_out thr l b a h]
  simp only [pathShortL, sep_comm]

theorem pathShortL_both_out (thr : Rat) (l : List SplitE) (a b : String)
    (ha : ∀ s ∈ l, a ∉ s.below) (hb : ∀ s ∈ l, b ∉ s.below) : pathShortL thr l a b = true := by
  rw [pathShortL_left_out thr l a b ha, topShort_out thr l b hb]

/-- two names joined to the top through short branches are joined by short branches -/
theorem pathShortL_of_top (thr : Rat) (l : List SplitE) (a b : String)
    (ha : topShort thr l a = true) (hb : topShort thr l b = true) : pathShortL thr l a b = true := by
  simp only [topShort, pathShortL, List.all_eq_true, SplitE.sep] at *
  intro s hs
  have h1 := ha s hs
  have h2 := hb s hs
  revert h1 h2
  cases s.below.contains a <;> cases s.below.contains b <;> simp

theorem topShort_of_path (thr : Rat) (l : List SplitE) (a b : String)
    (hp : pathShortL thr l a b = true) (ha : topShort thr l a = true) : topShort thr l b = true := by
  simp only [topShort, pathShortL, List.all_eq_true, SplitE.sep] at *
  intro s hs
  have h1 := hp s hs
  have h2 := ha s hs
  revert h1 h2
  cases s.below.contains a <;> cases s.below.contains b <;> simp

/-- the Boolean identity that closes a group -/
theorem short_glue (thr : Rat) (l : List SplitE) (a b : String) :
    ((topShort thr l a && topShort thr l b) || (pathShortL thr l a b && !topShort thr l a))
      = pathShortL thr l a b := by
  have h1 := pathShortL_of_top thr l a b
  have h2 := topShort_of_path thr l a b
  revert h1 h2
  cases topShort thr l a <;> cases topShort thr l b <;> cases pathShortL thr l a b <;> simp

theorem sameBag_append (c c' : List (List String)) (a b : String) :
    sameBag (c ++ c') a b = (sameBag c a b || sameBag c' a b) := by
  simp [sameBag, List.any_append]

theorem sameBag_opt (o : List String) (a b : String) :
    sameBag (if o.isEmpty then [] else [o]) a b = (decide (a ∈ o) && decide (b ∈ o)) := by
  cases o <;> simp [sameBag]

theorem sameBag_true_iff (bags : List (List String)) (a b : String) :
    sameBag bags a b = true ↔ ∃ g ∈ bags, a ∈ g ∧ b ∈ g := by
  simp [sameBag, List.any_eq_true, List.contains_eq_mem]

theorem sameBag_out_left (c : List (List String)) (a b : String) (h : ∀ g ∈ c, a ∉ g) :
    sameBag c a b = false := by
  simp only [sameBag, List.any_eq_false]
  intro g hg
  simp [h g hg]

theorem sameBag_out_right (c : List (List String)) (a b : String) (h : ∀ g ∈ c, b ∉ g) :
    sameBag c a b = false := by
  simp only [sameBag, List.any_eq_false]
  intro g hg
  simp [h g hg]

theorem flatten_opt (o : List String) : (if o.isEmpty then [] else [o]).flatten = o := by
  cases o <;> simp

/-- Counting: open leaves plus closed groups are exactly the leaves; closed groups are non-empty. -/
def CompBasic (lv : List String) (oc : List String × List (List String)) : Prop :=
  (∀ x, List.count x oc.1 + List.count x oc.2.flatten = List.count x lv) ∧ ∀ g ∈ oc.2, g ≠ []

mutual
theorem comp_basic (thr : Rat) : ∀ (t : T), CompBasic t.leaves (comp thr t)
  | .node d _ [] => by simp [CompBasic, comp, T.leaves]
  | .node _ _ (k :: ks) => by simpa [comp, T.leaves] using compL_basic thr (k :: ks)
theorem compL_basic (thr : Rat) : ∀ (k : Kids), CompBasic (leavesL k) (compL thr k)
  | [] => by simp [CompBasic, compL, leavesL]
  | (e, t) :: r => by
    have h1 := comp_basic thr t
    have h2 := compL_basic thr r
    rcases hc : comp thr t with ⟨o, c⟩
    rcases hc' : compL thr r with ⟨o', c'⟩
    rw [hc] at h1
    rw [hc'] at h2
    obtain ⟨h1c, h1n⟩ := h1
    obtain ⟨h2c, h2n⟩ := h2
    simp only [compL, hc, hc', leavesL]
    by_cases he : e.len < thr
    · simp only [he, if_true]
      refine ⟨fun x => ?_, fun g hg => ?_⟩
      · have := h1c x; have := h2c x
        simp only [List.flatten_append, List.count_append] at *
        omega
      · rcases List.mem_append.1 hg with hg | hg
        · exact h1n g hg
        · exact h2n g hg
    · simp only [he, if_false]
      refine ⟨fun x => ?_, fun g hg => ?_⟩
      · have := h1c x; have := h2c x
        simp only [List.flatten_append, List.count_append, flatten_opt] at *
        omega
      · simp only [List.mem_append] at hg
        rcases hg with (hg | hg) | hg
        · cases o with
          | nil => simp at hg
          | cons x o => simp at hg; simp [hg]
        · exact h1n g hg
        · exact h2n g hg
end

theorem CompBasic.open_sub {lv : List String} {oc : List String × List (List String)}
    (h : CompBasic lv oc) : ∀ x ∈ oc.1, x ∈ lv := by
  intro x hx
  have h1 := h.1 x
  have : 0 < List.count x oc.1 := List.count_pos_iff.2 hx
  exact List.count_pos_iff.1 (by omega)

theorem CompBasic.closed_sub {lv : List String} {oc : List String × List (List String)}
    (h : CompBasic lv oc) : ∀ g ∈ oc.2, ∀ x ∈ g, x ∈ lv := by
  intro g hg x hx
  have h1 := h.1 x
  have : 0 < List.count x oc.2.flatten := List.count_pos_iff.2 (List.mem_flatten.2 ⟨g, hg, hx⟩)
  exact List.count_pos_iff.1 (by omega)

/-- With unique leaves: the open part is the set of leaves joined to the top by
    short branches; two leaves share a closed group iff they are joined by short
    branches and not joined to the top. -/
def CompOK (thr : Rat) (lv : List String) (sp : List SplitE)
    (oc : List String × List (List String)) : Prop :=
  (∀ x ∈ lv, x ∈ oc.1 ↔ topShort thr sp x = true) ∧
  (∀ a ∈ lv, ∀ b ∈ lv, sameBag oc.2 a b = (pathShortL thr sp a b && !topShort thr sp a))

theorem topShort_cons_append (thr : Rat) (s : SplitE) (l₁ l₂ : List SplitE) (a : String) :
    topShort thr (s :: (l₁ ++ l₂)) a =
      ((!(s.below.contains a) || decide (s.e.len < thr)) && (topShort thr l₁ a && topShort thr l₂ a)) := by
  simp [topShort, List.all_append]

theorem pathShortL_cons_append (thr : Rat) (s : SplitE) (l₁ l₂ : List SplitE) (a b : String) :
    pathShortL thr (s :: (l₁ ++ l₂)) a b =
      ((!(s.sep a b) || decide (s.e.len < thr)) && (pathShortL thr l₁ a b && pathShortL thr l₂ a b)) := by
  simp [pathShortL, List.all_append]

mutual
theorem comp_ok (thr : Rat) : ∀ (t : T), t.leaves.Nodup →
    CompOK thr t.leaves t.splitsBelow (comp thr t)
  | .node d _ [], _ => by
    simp [CompOK, comp, T.leaves, T.splitsBelow, splitsL, topShort, pathShortL, sameBag]
  | .node _ _ (k :: ks), hn => by
    simpa [comp, T.leaves, T.splitsBelow] using
      compL_ok thr (k :: ks) (by simpa [T.leaves] using hn)
theorem compL_ok (thr : Rat) : ∀ (k : Kids), (leavesL k).Nodup →
    CompOK thr (leavesL k) (splitsL k) (compL thr k)
  | [], _ => by simp [CompOK, leavesL]
  | (e, t) :: r, hn => by
    simp only [leavesL, List.nodup_append] at hn
    obtain ⟨hn1, hn2, hd⟩ := hn
    have b1 := comp_basic thr t
    have b2 := compL_basic thr r
    have k1 := comp_ok thr t hn1
    have k2 := compL_ok thr r hn2
    rcases hc : comp thr t with ⟨o, c⟩
    rcases hc' : compL thr r with ⟨o', c'⟩
    rw [hc] at b1 k1
    rw [hc'] at b2 k2
    obtain ⟨ko, ks⟩ := k1
    obtain ⟨ko', ks'⟩ := k2
    -- a name of the first child is not below / in anything of the later children, and conversely
    have inT : ∀ x ∈ t.leaves, t.leaves.contains x = true ∧ topShort thr (splitsL r) x = true ∧
        x ∉ o' ∧ (∀ g ∈ c', x ∉ g) ∧ (∀ s ∈ splitsL r, x ∉ s.below) := by
      intro x hx
      have hxr : x ∉ leavesL r := fun h' => hd x hx x h' rfl
      exact ⟨by simpa using hx, topShort_out _ _ _ (out_of_subL r x hxr),
        fun h => hxr (b2.open_sub x h), fun g hg h => hxr (b2.closed_sub g hg x h),
        out_of_subL r x hxr⟩
    have inR : ∀ x ∈ leavesL r, t.leaves.contains x = false ∧ topShort thr t.splitsBelow x = true ∧
        x ∉ o ∧ (∀ g ∈ c, x ∉ g) ∧ (∀ s ∈ t.splitsBelow, x ∉ s.below) := by
      intro x hx
      have hxt : x ∉ t.leaves := fun h' => hd x h' x hx rfl
      exact ⟨by simpa using hxt, topShort_out _ _ _ (out_of_sub t x hxt),
        fun h => hxt (b1.open_sub x h), fun g hg h => hxt (b1.closed_sub g hg x h),
        out_of_sub t x hxt⟩
    simp only [compL, hc, hc', leavesL, splitsL, CompOK]
    refine ⟨?_, ?_⟩
    · intro x hx
      rw [topShort_cons_append]
      rcases List.mem_append.1 hx with hx | hx
      · obtain ⟨f1, f2, f3, _, _⟩ := inT x hx
        by_cases he : e.len < thr
        · simp [he, f2, f3, ko x hx]
        · simp [he, hx, f3]
      · obtain ⟨f1, f2, f3, _, _⟩ := inR x hx
        by_cases he : e.len < thr
        · simp [he, f2, f3, ko' x hx]
        · have hxt : x ∉ t.leaves := by simpa using f1
          simp [he, hxt, f2, ko' x hx]
    · intro a ha b hb
      rw [topShort_cons_append, pathShortL_cons_append]
      simp only [SplitE.sep]
      rcases List.mem_append.1 ha with ha | ha <;> rcases List.mem_append.1 hb with hb | hb
      · -- both in the first child
        obtain ⟨a1, a2, a3, a4, a5⟩ := inT a ha
        obtain ⟨b1, b2, b3, b4, b5⟩ := inT b hb
        rw [a1, b1, a2, pathShortL_both_out thr (splitsL r) a b a5 b5]
        by_cases he : e.len < thr
        · simp [he, sameBag_append, ks a ha b hb, sameBag_out_left c' a b a4]
        · have hg := short_glue thr t.splitsBelow a b
          have ea : decide (a ∈ o) = topShort thr t.splitsBelow a := by
            rw [Bool.eq_iff_iff]; simpa using ko a ha
          have eb : decide (b ∈ o) = topShort thr t.splitsBelow b := by
            rw [Bool.eq_iff_iff]; simpa using ko b hb
          simp only [he, if_false, sameBag_append, sameBag_opt]
          simp [ks a ha b hb, sameBag_out_left c' a b a4, ea, eb, hg]
      · -- first child / later children
        obtain ⟨a1, a2, a3, a4, a5⟩ := inT a ha
        obtain ⟨b1, b2, b3, b4, b5⟩ := inR b hb
        rw [a1, b1, a2, pathShortL_right_out thr t.splitsBelow a b b5,
          pathShortL_left_out thr (splitsL r) a b a5]
        by_cases he : e.len < thr
        · simp [he, sameBag_append, sameBag_out_right c a b b4, sameBag_out_left c' a b a4]
          cases topShort thr t.splitsBelow a <;> simp
        · simp only [he, if_false, sameBag_append, sameBag_opt]
          simp [sameBag_out_right c a b b4, sameBag_out_left c' a b a4, b3]
      · -- later children / first child
        obtain ⟨a1, a2, a3, a4, a5⟩ := inR a ha
        obtain ⟨b1, b2, b3, b4, b5⟩ := inT b hb
        rw [a1, b1, a2, pathShortL_left_out thr t.splitsBelow a b a5,
          pathShortL_right_out thr (splitsL r) a b b5]
        by_cases he : e.len < thr
        · simp [he, sameBag_append, sameBag_out_left c a b a4, sameBag_out_right c' a b b4]
        · simp only [he, if_false, sameBag_append, sameBag_opt]
          simp [sameBag_out_left c a b a4, sameBag_out_right c' a b b4, a3]
      · -- both in the later children
        obtain ⟨a1, a2, a3, a4, a5⟩ := inR a ha
        obtain ⟨b1, b2, b3, b4, b5⟩ := inR b hb
        rw [a1, b1, a2, pathShortL_both_out thr t.splitsBelow a b a5 b5]
        by_cases he : e.len < thr
        · simp [he, sameBag_append, ks' a ha b hb, sameBag_out_left c a b a4]
        · simp only [he, if_false, sameBag_append, sameBag_opt]
          simp [ks' a ha b hb, sameBag_out_left c a b a4, a3]
end

theorem cut_eq (thr : Rat) (t : T) :
    cut thr t =
      (if ((if t.kids.length == 1 then [t.name] else []) ++ (compL thr t.kids).1).isEmpty then []
        else [(if t.kids.length == 1 then [t.name] else []) ++ (compL thr t.kids).1])
      ++ (compL thr t.kids).2 := by
  unfold cut
  rcases compL thr t.kids with ⟨o, c⟩
  rfl

theorem cut_sameBag (thr : Rat) (t : T) (hu : t.tipNames.Nodup) (a b : String)
    (ha : a ∈ t.tipNames) (hb : b ∈ t.tipNames) :
    sameBag (cut thr t) a b = pathShort thr t a b := by
  rw [pathShort_eq, cut_eq]
  unfold T.splits
  unfold T.tipNames at hu ha hb
  have bb := compL_basic thr t.kids
  generalize (if t.kids.length == 1 then [t.name] else []) = extra at *
  simp only [List.nodup_append] at hu
  obtain ⟨_, hn, hd⟩ := hu
  obtain ⟨ko, ks⟩ := compL_ok thr t.kids hn
  have hout : ∀ x ∈ extra, x ∉ leavesL t.kids := fun x hx h => hd x hx x h rfl
  have key1 : ∀ x ∈ extra ++ leavesL t.kids,
      decide (x ∈ extra ++ (compL thr t.kids).1) = topShort thr (splitsL t.kids) x := by
    intro x hx
    rw [Bool.eq_iff_iff]
    rcases List.mem_append.1 hx with hx | hx
    · simp [hx, topShort_out thr _ x (out_of_subL t.kids x (hout x hx))]
    · have : x ∉ extra := fun h => hout x h hx
      simp [this, ko x hx]
  have key2 : ∀ a ∈ extra ++ leavesL t.kids, ∀ b ∈ extra ++ leavesL t.kids,
      sameBag (compL thr t.kids).2 a b
        = (pathShortL thr (splitsL t.kids) a b && !topShort thr (splitsL t.kids) a) := by
    intro a ha b hb
    rcases List.mem_append.1 ha with ha | ha
    · have hak := hout a ha
      rw [sameBag_out_left _ a b (fun g hg h => hak (bb.closed_sub g hg a h)),
        topShort_out thr _ a (out_of_subL t.kids a hak)]
      simp
    · rcases List.mem_append.1 hb with hb | hb
      · have hbk := hout b hb
        rw [sameBag_out_right _ a b (fun g hg h => hbk (bb.closed_sub g hg b h)),
          pathShortL_right_out thr _ a b (out_of_subL t.kids b hbk)]
        simp
      · exact ks a ha b hb
  rw [sameBag_append, sameBag_opt, key1 a ha, key1 b hb, key2 a ha b hb, short_glue]

theorem cut_perm (thr : Rat) (t : T) : ((cut thr t).flatten).Perm t.tipNames := by
  rw [cut_eq, List.perm_iff_count]
  intro x
  have := (compL_basic thr t.kids).1 x
  simp only [T.tipNames, List.flatten_append, flatten_opt, List.count_append]
  omega

theorem cut_nonempty (thr : Rat) (t : T) : ∀ g ∈ cut thr t, g ≠ [] := by
  rw [cut_eq]
  intro g hg
  rcases List.mem_append.1 hg with hg | hg
  · generalize (if t.kids.length == 1 then [t.name] else []) ++ (compL thr t.kids).1 = o at hg
    cases o with
    | nil => simp at hg
    | cons x o => simp at hg; simp [hg]
  · exact (compL_basic thr t.kids).2 g hg

/-! ## concrete trees used by the `example`s of `Proofs/C14.lean` -/

def mkE (len : Rat) (id : Int) : EdgeD := ⟨len, NIL, NIL, [], id⟩

/-- `((A:1,B:2):1/2,C:3,D:1);` — unrooted, four tips -/
def exT : T :=
  .node ⟨"", []⟩ 0 [
    (mkE (1/2) 0, .node ⟨"", []⟩ 0 [(mkE 1 1, T.leaf "A"), (mkE 2 2, T.leaf "B")]),
    (mkE 3 3, T.leaf "C"),
    (mkE 1 4, T.leaf "D")]

/-- the same tree re-rooted on the tip `D`: `(((A:1,B:2):1/2,C:3):1)D;` -/
def exTipRoot : T :=
  .node ⟨"D", []⟩ 0 [
    (mkE 1 4, .node ⟨"", []⟩ 0 [
      (mkE (1/2) 0, .node ⟨"", []⟩ 0 [(mkE 1 1, T.leaf "A"), (mkE 2 2, T.leaf "B")]),
      (mkE 3 3, T.leaf "C")])]

end Gotree.C14

/-
  C17 — from `Apart` on the split lists to "exactly one split apart" in the canonical
  presentation `usplitSet` of `Spec/Splits.lean`.
-/
import Gotree.Lemmas.C17Apart
import Gotree.Lemmas.C17Canon

namespace Gotree.C17
open Gotree Gotree.C17.Spec

theorem sameBranches_right : ∀ {R R' : List SplitE}, SameBranches R R' → ∀ s' ∈ R', ∃ s ∈ R, SameBranch s s'
  | [], [], _, s', hs' => by simp at hs'
  | [], _ :: _, h, _, _ => by simp [SameBranches] at h
  | _ :: _, [], h, _, _ => by simp [SameBranches] at h
  | s :: R, t :: R', h, s', hs' => by
    simp only [SameBranches] at h
    rcases List.mem_cons.mp hs' with rfl | hs'
    · exact ⟨s, by simp, h.1⟩
    · obtain ⟨x, hx, hxs⟩ := sameBranches_right h.2 s' hs'
      exact ⟨x, by simp [hx], hxs⟩

theorem sameBranches_left : ∀ {R R' : List SplitE}, SameBranches R R' → ∀ s ∈ R, ∃ s' ∈ R', SameBranch s s'
  | [], [], _, s, hs => by simp at hs
  | [], _ :: _, h, _, _ => by simp [SameBranches] at h
  | _ :: _, [], h, _, _ => by simp [SameBranches] at h
  | s₀ :: R, t :: R', h, s, hs => by
    simp only [SameBranches] at h
    rcases List.mem_cons.mp hs with rfl | hs
    · exact ⟨t, by simp, h.1⟩
    · obtain ⟨x, hx, hxs⟩ := sameBranches_left h.2 s hs
      exact ⟨x, by simp [hx], hxs⟩

theorem length_one_of {α : Type} {l : List α} {a : α} (hn : l.Nodup) (ha : a ∈ l) (hall : ∀ b ∈ l, b = a) :
    l.length = 1 := by
  match l, hn, ha, hall with
  | [], _, ha, _ => simp at ha
  | [_], _, _, _ => rfl
  | x :: y :: r, hn, _, hall =>
    have hx := hall x (by simp)
    have hy := hall y (by simp)
    simp only [List.nodup_cons, List.mem_cons, not_or] at hn
    exact absurd (hx.trans hy.symm) hn.1.1

/-- a branch that lies `Within` the site as the unchanged branches do defines neither the old nor the new split -/
theorem within_ne {all Z c c' s : List String} (hne : all ≠ [])
    {w x1 x2 x3 x4 : String} (hw : w ∈ s) (hwall : w ∈ all)
    (h1 : x1 ∈ c ∧ x1 ∈ c') (h2 : x2 ∈ c ∧ x2 ∉ c') (h3 : x3 ∈ Z ∧ x3 ∉ c ∧ x3 ∈ c') (h4 : x4 ∈ all ∧ x4 ∉ c ∧ x4 ∉ c')
    (hcZ : ∀ x ∈ c, x ∈ Z) (_hcZ' : ∀ x ∈ c', x ∈ Z) (hZ : ∀ x ∈ Z, x ∈ all)
    (hW : Within Z c c' s) :
    canonSide all s ≠ canonSide all c ∧ canonSide all s ≠ canonSide all c' := by
  have a1 : x1 ∈ all := hZ _ (hcZ _ h1.1)
  have a2 : x2 ∈ all := hZ _ (hcZ _ h2.1)
  have a3 : x3 ∈ all := hZ _ h3.1
  have z1 : x1 ∈ Z := hcZ _ h1.1
  have z2 : x2 ∈ Z := hcZ _ h2.1
  constructor
  · intro heq
    rcases canonSide_eq_cases hne heq with h | h <;>
      rcases hW with g | g | g | g | g | g <;>
      (have e1 := h x1 a1; have e2 := h x2 a2; have e3 := h x3 a3; have e4 := h x4 h4.1; have e5 := h w hwall
       have g1 := g w; have g2 := g x1; have g3 := g x2; have g4 := g x3; have g5 := g x4
       grind)
  · intro heq
    rcases canonSide_eq_cases hne heq with h | h <;>
      rcases hW with g | g | g | g | g | g <;>
      (have e1 := h x1 a1; have e2 := h x2 a2; have e3 := h x3 a3; have e4 := h x4 h4.1; have e5 := h w hwall
       have g1 := g w; have g2 := g x1; have g3 := g x2; have g4 := g x3; have g5 := g x4
       grind)

/-- below a proper path there is a tip outside the subtree reached (the root having at least
    two children) -/
theorem outside_nonempty (t S : T) (q : List Nat) (hq : q ≠ []) (hs : subAt q t = some S) (hne : S.kids ≠ [])
    (hk : 2 ≤ t.kids.length) (hnd : (leavesL t.kids).Nodup) : ∃ z, z ∈ leavesL t.kids ∧ z ∉ leavesL S.kids := by
  obtain ⟨d, pp, k⟩ := t
  cases q with
  | nil => exact absurd rfl hq
  | cons i q =>
    obtain ⟨e, c, (hki : k[i]? = some (e, c)), hs⟩ := subAt_cons.mp hs
    simp only [T.kids_node] at hk hnd ⊢
    have hsubS : ∀ x ∈ leavesL S.kids, x ∈ c.leaves := fun x hx =>
      (T.leavesL_kids_sublist _).subset ((sub_leaves_sublist q c S hs hne).subset hx)
    obtain ⟨hsplit, _⟩ := list_split_at k i (e, c) hki
    have hleaves : leavesL k = leavesL (k.take i) ++ (c.leaves ++ leavesL (k.drop (i + 1))) := by
      conv => lhs; rw [hsplit]
      simp [leavesL_append, leavesL_cons]
    rw [hleaves] at hnd ⊢
    by_cases h0 : k.take i = []
    · have h1 : k.drop (i + 1) ≠ [] := by
        intro h1
        have : k.length = 1 := by
          have := congrArg List.length hsplit
          simp only [h0, h1, List.nil_append, List.length_cons, List.length_nil] at this
          omega
        omega
      obtain ⟨z, hz⟩ := List.exists_mem_of_ne_nil _ (leavesL_ne_nil _ h1)
      refine ⟨z, by simp [hz], fun hzS => ?_⟩
      exact (List.nodup_append.mp (List.nodup_append.mp hnd).2.1).2.2 z (hsubS z hzS) z hz rfl
    · obtain ⟨z, hz⟩ := List.exists_mem_of_ne_nil _ (leavesL_ne_nil _ h0)
      refine ⟨z, by simp [hz], fun hzS => ?_⟩
      exact (List.nodup_append.mp hnd).2.2 z hz z (List.mem_append_left _ (hsubS z hzS)) rfl

/-- From the split lists to the canonical split sets. -/
theorem oneSplitApart_of_apart (t t' : T) (Z cb : List String) (isRoot : Bool)
    (hall : t'.tipNames.Perm t.tipNames) (hnd : t.tipNames.Nodup)
    (hA : Apart Z cb isRoot (splitsL t.kids) (splitsL t'.kids)) (hZ : ∀ x ∈ Z, x ∈ leavesL t.kids)
    (hout : isRoot = false → ∃ z, z ∈ t.tipNames ∧ z ∉ Z) :
    oneSplitApart t.usplitSet t'.usplitSet = true ∧
      canonSide t.tipNames cb ∈ t.usplitSet ∧ canonSide t.tipNames cb ∉ t'.usplitSet := by
  obtain ⟨c, c', R, R', hcb, p1, p2, hsame, _, _, _, hcZ, hcZ', ⟨x1, h1a, h1b⟩, ⟨x2, h2a, h2b⟩, ⟨x3, h3a, h3b, h3c⟩, hq4, hR⟩ := hA
  -- notation
  have hZall : ∀ x ∈ Z, x ∈ t.tipNames := fun x hx => t.leavesL_sublist_tipNames.subset (hZ x hx)
  have hne : t.tipNames ≠ [] := List.ne_nil_of_mem (hZall x3 h3a)
  have hndL : (leavesL t.kids).Nodup := by
    unfold T.tipNames at hnd
    exact (List.nodup_append.mp hnd).2.1
  have hnd' : t'.tipNames.Nodup := hall.nodup_iff.mpr hnd
  have hndL' : (leavesL t'.kids).Nodup := by
    unfold T.tipNames at hnd'
    exact (List.nodup_append.mp hnd').2.1
  have hcan : ∀ X, canonSide t'.tipNames X = canonSide t.tipNames X := fun X => canonSide_perm_all hall X
  have hlight : ∀ a, lightSize t'.tipNames a = lightSize t.tipNames a := fun a => lightSize_perm_all hall a
  -- the fourth quadrant
  obtain ⟨x4, h4a, h4b, h4c⟩ : ∃ x4, x4 ∈ t.tipNames ∧ x4 ∉ c.below ∧ x4 ∉ c'.below := by
    cases isRoot with
    | true =>
      obtain ⟨x, hx1, hx2, hx3⟩ := hq4 rfl
      exact ⟨x, hZall x hx1, hx2, hx3⟩
    | false =>
      obtain ⟨z, hz1, hz2⟩ := hout rfl
      exact ⟨z, hz1, fun h => hz2 (hcZ z h), fun h => hz2 (hcZ' z h)⟩
  -- membership of the entries
  have hcmem : c ∈ splitsL t.kids := p1.mem_iff.mpr (by simp)
  have hcmem' : c' ∈ splitsL t'.kids := p2.mem_iff.mpr (by simp)
  have hRmem : ∀ s ∈ R, s ∈ splitsL t.kids := fun s hs => p1.mem_iff.mpr (by simp [hs])
  have hRmem' : ∀ s ∈ R', s ∈ splitsL t'.kids := fun s hs => p2.mem_iff.mpr (by simp [hs])
  have hbelow : ∀ s ∈ splitsL t.kids, ∀ x ∈ s.below, x ∈ t.tipNames := fun s hs x hx =>
    t.leavesL_sublist_tipNames.subset ((below_sublist_leavesL t.kids s hs).subset hx)
  have hcnd : c.below.Nodup := hndL.sublist (below_sublist_leavesL t.kids c hcmem)
  have hcnd' : c'.below.Nodup := hndL'.sublist (below_sublist_leavesL t'.kids c' hcmem')
  -- the facts
  have a1 : x1 ∈ t.tipNames := hZall _ (hcZ _ h1a)
  have a2 : x2 ∈ t.tipNames := hZall _ (hcZ _ h2a)
  have a3 : x3 ∈ t.tipNames := hZall _ h3a
  have n12 : x1 ≠ x2 := fun h => h2b (h ▸ h1b)
  have n34 : x3 ≠ x4 := fun h => h4c (h ▸ h3c)
  have n13 : x1 ≠ x3 := fun h => h3b (h ▸ h1a)
  have n24 : x2 ≠ x4 := fun h => h4b (h ▸ h2a)
  have triv_c : 2 ≤ lightSize t.tipNames (canonSide t.tipNames c.below) :=
    lightSize_canonSide hnd hcnd a1 a2 n12 h1a h2a a3 h4a n34 h3b h4b
  have triv_c' : 2 ≤ lightSize t.tipNames (canonSide t.tipNames c'.below) :=
    lightSize_canonSide hnd hcnd' a1 a3 n13 h1b h3c a2 h4a n24 h2b h4c
  have hB : canonSide t.tipNames c.below ≠ canonSide t.tipNames c'.below := by
    intro heq
    rcases canonSide_eq_cases hne heq with h | h
    · exact h2b ((h x2 a2).mp h2a)
    · exact ((h x1 a1).mp h1a) h1b
  have hAne : ∀ s ∈ R, canonSide t.tipNames s.below ≠ canonSide t.tipNames c.below ∧
      canonSide t.tipNames s.below ≠ canonSide t.tipNames c'.below := by
    intro s hs
    obtain ⟨hsne, hW⟩ := hR s hs
    obtain ⟨w, hw⟩ := List.exists_mem_of_ne_nil _ hsne
    exact within_ne hne hw (hbelow s (hRmem s hs) w hw) ⟨h1a, h1b⟩ ⟨h2a, h2b⟩ ⟨h3a, h3b, h3c⟩ ⟨h4a, h4b, h4c⟩
      hcZ hcZ' hZall hW
  have hsameC : ∀ s s', SameBranch s s' → canonSide t.tipNames s.below = canonSide t.tipNames s'.below :=
    fun s s' h => canonSide_perm_side _ h.1
  -- members of the two split sets
  have memS := mem_usplitSet t
  have memS' : ∀ a, a ∈ t'.usplitSet ↔ (∃ s ∈ splitsL t'.kids, canonSide t.tipNames s.below = a) ∧ 2 ≤ lightSize t.tipNames a := by
    intro a
    rw [mem_usplitSet]
    simp only [hcan, hlight, T.splits]
  simp only [T.splits] at memS
  have inS : canonSide t.tipNames c.below ∈ t.usplitSet := (memS _).mpr ⟨⟨c, hcmem, rfl⟩, triv_c⟩
  have inS' : canonSide t.tipNames c'.below ∈ t'.usplitSet := (memS' _).mpr ⟨⟨c', hcmem', rfl⟩, triv_c'⟩
  have notS : canonSide t.tipNames c'.below ∉ t.usplitSet := by
    intro h
    obtain ⟨⟨s, hs, heq⟩, _⟩ := (memS _).mp h
    rcases List.mem_cons.mp (p1.mem_iff.mp hs) with rfl | hsR
    · exact hB heq
    · exact (hAne s hsR).2 heq
  have notS' : canonSide t.tipNames c.below ∉ t'.usplitSet := by
    intro h
    obtain ⟨⟨s', hs', heq⟩, _⟩ := (memS' _).mp h
    rcases List.mem_cons.mp (p2.mem_iff.mp hs') with rfl | hsR
    · exact hB heq.symm
    · obtain ⟨s, hs, hss⟩ := sameBranches_right hsame s' hsR
      exact (hAne s hs).1 ((hsameC s s' hss).trans heq)
  -- the two differences
  have d1 : diffCount t'.usplitSet t.usplitSet = 1 := by
    unfold diffCount
    apply length_one_of ((usplitSet_nodup t').sublist List.filter_sublist) (a := canonSide t.tipNames c'.below)
    · simp only [List.mem_filter, Bool.not_eq_true', List.contains_eq_mem, decide_eq_false_iff_not]
      exact ⟨inS', notS⟩
    · intro b hb
      simp only [List.mem_filter, Bool.not_eq_true', List.contains_eq_mem, decide_eq_false_iff_not] at hb
      obtain ⟨hb1, hb2⟩ := hb
      obtain ⟨⟨s', hs', heq⟩, hl⟩ := (memS' _).mp hb1
      rcases List.mem_cons.mp (p2.mem_iff.mp hs') with rfl | hsR
      · exact heq.symm
      · obtain ⟨s, hs, hss⟩ := sameBranches_right hsame s' hsR
        exact absurd ((memS b).mpr ⟨⟨s, hRmem s hs, (hsameC s s' hss).trans heq⟩, hl⟩) hb2
  have d2 : diffCount t.usplitSet t'.usplitSet = 1 := by
    unfold diffCount
    apply length_one_of ((usplitSet_nodup t).sublist List.filter_sublist) (a := canonSide t.tipNames c.below)
    · simp only [List.mem_filter, Bool.not_eq_true', List.contains_eq_mem, decide_eq_false_iff_not]
      exact ⟨inS, notS'⟩
    · intro b hb
      simp only [List.mem_filter, Bool.not_eq_true', List.contains_eq_mem, decide_eq_false_iff_not] at hb
      obtain ⟨hb1, hb2⟩ := hb
      obtain ⟨⟨s, hs, heq⟩, hl⟩ := (memS _).mp hb1
      rcases List.mem_cons.mp (p1.mem_iff.mp hs) with rfl | hsR
      · exact heq.symm
      · obtain ⟨s', hs', hss⟩ := sameBranches_left hsame s hsR
        exact absurd ((memS' b).mpr ⟨⟨s', hRmem' s' hs', (hsameC s s' hss).symm.trans heq⟩, hl⟩) hb2
  subst hcb
  exact ⟨by simp [oneSplitApart, d1, d2], inS, notS'⟩

end Gotree.C17

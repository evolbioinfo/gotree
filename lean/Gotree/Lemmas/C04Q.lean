/-
  C04 — `tree.Quartet`: the sorting network of `HashCode` sorts, so it depends on the four taxa as a
  multiset only; `Compare` tries the three ways of pairing four taxa, so `HashEquals` holds exactly for
  quartets on the same multiset of taxa.  Core Lean only.
-/
import Gotree.Spec.C04
namespace Gotree.C04

/-! ## `HashCode`: the five compare-and-swap steps sort -/

theorem cx (a b : Nat) : (if b < a then (b, a) else (a, b)) = (min a b, max a b) := by
  split <;> simp only [Prod.mk.injEq] <;> omega
theorem cx' (a b : Nat) : (if a < b then (b, a) else (a, b)) = (max a b, min a b) := by
  split <;> simp only [Prod.mk.injEq] <;> omega

theorem sorted4_closed (q : Quartet) : q.sorted4 =
    (min (min q.t1 q.t2) (min q.t3 q.t4),
     min (max (min q.t1 q.t2) (min q.t3 q.t4)) (min (max q.t1 q.t2) (max q.t3 q.t4)),
     max (max (min q.t1 q.t2) (min q.t3 q.t4)) (min (max q.t1 q.t2) (max q.t3 q.t4)),
     max (max q.t1 q.t2) (max q.t3 q.t4)) := by
  unfold Quartet.sorted4
  simp only [cx, cx']

def toL (s : Nat × Nat × Nat × Nat) : List Nat := [s.1, s.2.1, s.2.2.1, s.2.2.2]

theorem toL_inj {s s' : Nat × Nat × Nat × Nat} (h : toL s = toL s') : s = s' := by
  obtain ⟨a, b, c, d⟩ := s
  obtain ⟨a', b', c', d'⟩ := s'
  simp only [toL, List.cons.injEq, and_true] at h
  simp only [h]

theorem perm_minmax (a b : Nat) : [min a b, max a b].Perm [a, b] := by
  rcases Nat.le_total a b with h | h
  · rw [Nat.min_eq_left h, Nat.max_eq_right h]
  · rw [Nat.min_eq_right h, Nat.max_eq_left h]; exact .swap ..

/-- every compare-and-swap step permutes -/
theorem sorted4_perm (q : Quartet) : (toL q.sorted4).Perm q.taxa := by
  rw [sorted4_closed]
  have p := perm_minmax
  exact ((((p _ _).append_right [_]).cons _).trans ((p _ _).append (p _ _))).trans
    ((List.Perm.cons _ (.swap ..)).trans ((p q.t1 q.t2).append (p q.t3 q.t4)))

theorem min_le_max (a b : Nat) : min a b ≤ max a b := by omega
theorem min_mono {a a' b b' : Nat} (h : a ≤ a') (h' : b ≤ b') : min a b ≤ min a' b' := by omega
theorem max_mono {a a' b b' : Nat} (h : a ≤ a') (h' : b ≤ b') : max a b ≤ max a' b' := by omega

/-- the last step, between a lower and an upper bound of both middle values -/
theorem sorted_mid {m x y M : Nat} (h1 : m ≤ x) (h2 : m ≤ y) (h3 : x ≤ M) (h4 : y ≤ M) :
    [m, min x y, max x y, M].Pairwise (· ≤ ·) := by
  have a := Nat.le_min.2 ⟨h1, h2⟩
  have b := min_le_max x y
  have c := Nat.max_le.2 ⟨h3, h4⟩
  generalize min x y = p at a b
  generalize max x y = r at b c
  simp only [List.pairwise_cons, List.mem_cons, List.not_mem_nil, or_false, forall_eq_or_imp, forall_eq,
    false_imp_iff, implies_true, List.Pairwise.nil, and_true]
  omega

/-- after the first two steps each pair is in order; the next two put the least value first and the greatest last -/
theorem sorted4_sorted (q : Quartet) : (toL q.sorted4).Pairwise (· ≤ ·) := by
  rw [sorted4_closed]
  have h := min_le_max
  exact sorted_mid (h ..) (min_mono (h ..) (h ..)) (max_mono (h ..) (h ..)) (h ..)

/-- a sorted permutation of the taxa is determined by their multiset -/
theorem sorted4_of_perm {q q' : Quartet} (h : q.taxa.Perm q'.taxa) : q.sorted4 = q'.sorted4 :=
  toL_inj <| List.Perm.eq_of_pairwise (fun _ _ _ _ => Nat.le_antisymm) (sorted4_sorted q) (sorted4_sorted q')
    ((sorted4_perm q).trans (h.trans (sorted4_perm q').symm))

/-! ## `Compare`: the three pairings of four taxa -/

theorem chain_ne_diff (T1 T2 C1 C2 C3 C4 : Bool) :
    ((if T1 = true then QCmp.equals else if T2 = true then QCmp.equals else if C1 = true then QCmp.conflict
      else if C2 = true then QCmp.conflict else if C3 = true then QCmp.conflict else if C4 = true then QCmp.conflict
      else QCmp.diff) != QCmp.diff) = (T1 || T2 || (C1 || C2) || (C3 || C4)) := by
  revert T1 T2 C1 C2 C3 C4; decide

/-- `Compare` tests `q2` against `t1 t2 | t3 t4`, then `t3 t2 | t1 t4`, then `t4 t2 | t3 t1` -/
theorem hashEquals_eq (q q2 : Quartet) : q.hashEquals q2 =
    (q.sameTopo q2 || Quartet.sameTopo ⟨q.t3, q.t2, q.t1, q.t4⟩ q2 || Quartet.sameTopo ⟨q.t4, q.t2, q.t3, q.t1⟩ q2) :=
  chain_ne_diff ..

theorem perm_of_pairEq {a b c d : Nat} (h : pairEq a b c d = true) : [a, b].Perm [c, d] := by
  simp only [pairEq, Bool.or_eq_true, Bool.and_eq_true, beq_iff_eq] at h
  obtain ⟨rfl, rfl⟩ | ⟨rfl, rfl⟩ := h
  · exact .refl _
  · exact .swap ..

theorem perm_of_sameTopo {q q2 : Quartet} (h : q.sameTopo q2 = true) : q.taxa.Perm q2.taxa := by
  simp only [Quartet.sameTopo, Bool.or_eq_true, Bool.and_eq_true] at h
  obtain ⟨h1, h2⟩ | ⟨h1, h2⟩ := h
  · exact (perm_of_pairEq h1).append (perm_of_pairEq h2)
  · exact ((perm_of_pairEq h1).append (perm_of_pairEq h2)).trans (List.perm_append_comm (l₁ := [_, _]))

theorem perm_of_hashEquals (q q2 : Quartet) (h : q.hashEquals q2 = true) : q.taxa.Perm q2.taxa := by
  simp only [hashEquals_eq, Bool.or_eq_true] at h
  obtain (h | h) | h := h
  · exact perm_of_sameTopo h
  · exact ((List.perm_middle (l₁ := [q.t1, q.t2])).trans (.cons _ (.swap ..))).trans (perm_of_sameTopo h)
  · exact ((List.perm_middle (l₁ := [q.t1, q.t2, q.t3])).trans
      (.cons _ (List.perm_append_comm (l₁ := [_]) (l₂ := [_, _])))).trans (perm_of_sameTopo h)

/-! ## the same four taxa are found by one of the three pairings -/

theorem peel_gen (x : Nat) (l l' : List Nat) (h : (x :: l).Perm l') :
    ∃ l₁ l₂, l' = l₁ ++ x :: l₂ ∧ l.Perm (l₁ ++ l₂) := by
  have hm : x ∈ l' := h.subset (List.mem_cons_self ..)
  obtain ⟨s, t, e⟩ := List.append_of_mem hm
  refine ⟨s, t, e, ?_⟩
  subst e
  exact List.Perm.cons_inv (h.trans List.perm_middle)

theorem peel4 (x : Nat) (l : List Nat) (y1 y2 y3 y4 : Nat) (h : (x :: l).Perm [y1, y2, y3, y4]) :
    (x = y1 ∧ l.Perm [y2, y3, y4]) ∨ (x = y2 ∧ l.Perm [y1, y3, y4]) ∨ (x = y3 ∧ l.Perm [y1, y2, y4]) ∨
    (x = y4 ∧ l.Perm [y1, y2, y3]) := by
  obtain ⟨l₁, l₂, e, p⟩ := peel_gen x l _ h
  rcases l₁ with _ | ⟨z1, _ | ⟨z2, _ | ⟨z3, _ | ⟨z4, l₁⟩⟩⟩⟩ <;> simp at e
  · obtain ⟨rfl, rfl⟩ := e; exact Or.inl ⟨rfl, p⟩
  · obtain ⟨rfl, rfl, rfl⟩ := e; exact Or.inr (Or.inl ⟨rfl, p⟩)
  · obtain ⟨rfl, rfl, rfl, rfl⟩ := e; exact Or.inr (Or.inr (Or.inl ⟨rfl, p⟩))
  · obtain ⟨rfl, rfl, rfl, rfl, rfl⟩ := e; exact Or.inr (Or.inr (Or.inr ⟨rfl, p⟩))

theorem peel3 (x : Nat) (l : List Nat) (y1 y2 y3 : Nat) (h : (x :: l).Perm [y1, y2, y3]) :
    (x = y1 ∧ l.Perm [y2, y3]) ∨ (x = y2 ∧ l.Perm [y1, y3]) ∨ (x = y3 ∧ l.Perm [y1, y2]) := by
  obtain ⟨l₁, l₂, e, p⟩ := peel_gen x l _ h
  rcases l₁ with _ | ⟨z1, _ | ⟨z2, _ | ⟨z3, l₁⟩⟩⟩ <;> simp at e
  · obtain ⟨rfl, rfl⟩ := e; exact Or.inl ⟨rfl, p⟩
  · obtain ⟨rfl, rfl, rfl⟩ := e; exact Or.inr (Or.inl ⟨rfl, p⟩)
  · obtain ⟨rfl, rfl, rfl, rfl⟩ := e; exact Or.inr (Or.inr ⟨rfl, p⟩)

theorem peel2 (x : Nat) (l : List Nat) (y1 y2 : Nat) (h : (x :: l).Perm [y1, y2]) :
    (x = y1 ∧ l.Perm [y2]) ∨ (x = y2 ∧ l.Perm [y1]) := by
  obtain ⟨l₁, l₂, e, p⟩ := peel_gen x l _ h
  rcases l₁ with _ | ⟨z1, _ | ⟨z2, l₁⟩⟩ <;> simp at e
  · obtain ⟨rfl, rfl⟩ := e; exact Or.inl ⟨rfl, p⟩
  · obtain ⟨rfl, rfl, rfl⟩ := e; exact Or.inr ⟨rfl, p⟩

theorem pairEq_self (a b : Nat) : pairEq a b a b = true := by simp [pairEq]
theorem pairEq_swap (a b : Nat) : pairEq a b b a = true := by simp [pairEq]

theorem hashEquals_of_perm (q q' : Quartet) (h : q.taxa.Perm q'.taxa) : q.hashEquals q' = true := by
  obtain ⟨a, b, c, d⟩ := q
  obtain ⟨a', b', c', d'⟩ := q'
  simp only [Quartet.taxa] at h
  rcases peel4 _ _ _ _ _ _ h with ⟨rfl, h1⟩ | ⟨rfl, h1⟩ | ⟨rfl, h1⟩ | ⟨rfl, h1⟩ <;>
  rcases peel3 _ _ _ _ _ h1 with ⟨rfl, h2⟩ | ⟨rfl, h2⟩ | ⟨rfl, h2⟩ <;>
  rcases peel2 _ _ _ _ h2 with ⟨rfl, h3⟩ | ⟨rfl, h3⟩ <;>
  (have := List.perm_singleton.mp h3; simp only [List.cons.injEq, and_true] at this; subst this
   simp only [hashEquals_eq, Quartet.sameTopo, pairEq_self, pairEq_swap, Bool.and_self, Bool.or_true, Bool.true_or])

theorem cmp_abs (T1 T2 C1 C2 C3 C4 : Bool) :
    (if T1 = true then QCmp.equals else if T2 = true then QCmp.equals else if C1 = true then QCmp.conflict
      else if C2 = true then QCmp.conflict else if C3 = true then QCmp.conflict else if C4 = true then QCmp.conflict else QCmp.diff) =
    if (T1 || T2) = true then QCmp.equals
    else if ((if T1 = true then QCmp.equals else if T2 = true then QCmp.equals else if C1 = true then QCmp.conflict
      else if C2 = true then QCmp.conflict else if C3 = true then QCmp.conflict else if C4 = true then QCmp.conflict else QCmp.diff) != QCmp.diff) = true
      then QCmp.conflict else QCmp.diff := by
  revert T1 T2 C1 C2 C3 C4; decide

end Gotree.C04

/-
  C06 — bridge from the membership form of clause 2 (`splitsInduced`) to the Spec
  functions the oracle evaluates (`T.usplitSet`, `restrictSplits`).
  Core Lean only; uses the shared lemmas of `Gotree.Lemmas.C05Splits` and `C05Keys`.
-/
import Gotree.Lemmas.C06Eff
import Gotree.Lemmas.C05Keys

namespace Gotree.C06
open Gotree

theorem mem_usplitSet (t : T) (a : List String) :
    a ∈ t.usplitSet ↔ (∃ s ∈ t.splits, canonSide t.tipNames s.below = a) ∧ 2 ≤ lightSize t.tipNames a := by
  rw [← C05.mem_usplitsAll_sides]
  unfold T.usplitSet T.usplits
  simp only [List.mem_map, List.mem_filter, decide_eq_true_eq]
  constructor
  · rintro ⟨u, ⟨hu, hl⟩, rfl⟩; exact ⟨⟨u, hu, rfl⟩, hl⟩
  · rintro ⟨⟨u, hu, rfl⟩, hl⟩; exact ⟨u, ⟨hu, hl⟩, rfl⟩

theorem mem_restrictSplits (all keep : List String) (sides : List (List String)) (a : List String) :
    a ∈ restrictSplits all keep sides ↔
      (∃ s0 ∈ sides, canonSide (all.filter keep.contains) (s0.filter (all.filter keep.contains).contains) = a) ∧
      2 ≤ lightSize (all.filter keep.contains) a := by
  unfold restrictSplits
  simp only [List.mem_mergeSort, List.mem_eraseDups, List.mem_filter, List.mem_map, decide_eq_true_eq]

theorem canonSide_restr (K A : List String) : canonSide K (A.filter K.contains) = canonSide K A := by
  have : (A.filter K.contains).filter K.contains = A.filter K.contains := by
    rw [List.filter_filter]; apply List.filter_congr; intro x _; simp
  unfold canonSide
  rw [this]

theorem perm_of_nodup_mem {X Y : List String} (hX : X.Nodup) (hY : Y.Nodup) (h : ∀ x, x ∈ X ↔ x ∈ Y) : X.Perm Y :=
  (List.perm_ext_iff_of_nodup hX hY).2 h

/-- two sides with the same members among `K` have the same restriction to `K` -/
theorem restr_perm {K A B : List String} (hA : A.Nodup) (hB : B.Nodup) (h : ∀ a ∈ K, (a ∈ A ↔ a ∈ B)) :
    (A.filter K.contains).Perm (B.filter K.contains) := by
  apply perm_of_nodup_mem (hA.filter _) (hB.filter _)
  intro x
  simp only [List.mem_filter, List.contains_eq_mem, decide_eq_true_eq]
  exact ⟨fun ⟨h1, h2⟩ => ⟨(h x h2).1 h1, h2⟩, fun ⟨h1, h2⟩ => ⟨(h x h2).2 h1, h2⟩⟩

/-- the restrictions to `K` of two complementary sides list `K` -/
theorem compl_perm {K A B : List String} (hK : K.Nodup) (hA : A.Nodup) (hB : B.Nodup)
    (h : ∀ a ∈ K, (a ∈ A ↔ a ∉ B)) : (A.filter K.contains ++ B.filter K.contains).Perm K := by
  apply perm_of_nodup_mem _ hK
  · intro x
    simp only [List.mem_append, List.mem_filter, List.contains_eq_mem, decide_eq_true_eq]
    constructor
    · rintro (⟨_, h2⟩ | ⟨_, h2⟩) <;> exact h2
    · intro hx
      by_cases hb : x ∈ B
      · exact Or.inr ⟨hb, hx⟩
      · exact Or.inl ⟨(h x hx).2 hb, hx⟩
  · rw [List.nodup_append]
    refine ⟨hA.filter _, hB.filter _, ?_⟩
    intro x hx y hy hxy
    subst hxy
    simp only [List.mem_filter, List.contains_eq_mem, decide_eq_true_eq] at hx hy
    exact (h x hx.2).1 hx.1 hy.1

theorem canonSide_of_sameSplit {K A B : List String} (hK : K.Nodup) (hA : A.Nodup) (hB : B.Nodup)
    (h : sameSplit K A B) : canonSide K A = canonSide K B := by
  rw [← canonSide_restr K A, ← canonSide_restr K B]
  rcases h with h | h
  · exact canonSide_perm_side _ (restr_perm hA hB h)
  · exact canonSide_compl hK (compl_perm hK hA hB h)

/-- the canonical side is a side of the same split, and has no repetition -/
theorem canonSide_sameSplit {K A : List String} (hK : K.Nodup) (hA : A.Nodup) :
    sameSplit K (canonSide K A) A ∧ (canonSide K A).Nodup := by
  have hs : ∀ x, x ∈ sortS (A.filter K.contains) ↔ x ∈ A ∧ x ∈ K := by
    intro x; simp [mem_sortS]
  have hsn : (sortS (A.filter K.contains)).Nodup := (sortS_perm _).nodup_iff.2 (hA.filter _)
  unfold canonSide
  cases minS K with
  | none => exact ⟨Or.inl fun a ha => by simp only [hs]; exact ⟨fun h => h.1, fun h => ⟨h, ha⟩⟩, hsn⟩
  | some m =>
    simp only
    split
    · refine ⟨Or.inr fun a ha => ?_, (sortS_perm _).nodup_iff.2 (hK.filter _)⟩
      simp only [mem_sortS, complS, List.mem_filter, Bool.not_eq_true', List.contains_eq_mem,
        decide_eq_false_iff_not, hs]
      constructor
      · rintro ⟨_, h2⟩ h3; exact h2 ⟨h3, ha⟩
      · intro h; exact ⟨ha, fun h' => h h'.1⟩
    · exact ⟨Or.inl fun a ha => by simp only [hs]; exact ⟨fun h => h.1, fun h => ⟨h, ha⟩⟩, hsn⟩

theorem count_swap {K A : List String} (hK : K.Nodup) (hA : A.Nodup) :
    (A.filter K.contains).length = (K.filter A.contains).length := by
  apply List.Perm.length_eq
  apply perm_of_nodup_mem (hA.filter _) (hK.filter _)
  intro x; simp [and_comm]

/-- the taxa of `K` on the side `A` and those off it make up `K` -/
theorem restr_add_out {K A : List String} (hK : K.Nodup) (hA : A.Nodup) :
    (A.filter K.contains).length + (K.filter fun n => !A.contains n).length = K.length := by
  rw [count_swap hK hA]; exact filter_length_compl K A.contains

theorem mem_out {K A : List String} {y : String} : y ∈ K.filter (fun n => !A.contains n) ↔ y ∈ K ∧ y ∉ A := by
  simp

/-- a side that does not take in all of `K` leaves a taxon of `K` out -/
theorem exists_out_of_short {K A : List String} (hK : K.Nodup) (hA : A.Nodup)
    (h : (A.filter K.contains).length ≠ K.length) : ∃ y ∈ K, y ∉ A := by
  rw [count_swap hK hA] at h
  simpa using List.length_filter_lt_length_iff_exists.1 (Nat.lt_of_le_of_ne (List.length_filter_le _ _) h)

/-- the restrictions to `K` of two sides of the same split have the same size or complementary sizes -/
theorem restr_len_of_sameSplit {K A B : List String} (hK : K.Nodup) (hA : A.Nodup) (hB : B.Nodup)
    (h : sameSplit K A B) :
    (A.filter K.contains).length = (B.filter K.contains).length ∨
    (A.filter K.contains).length + (B.filter K.contains).length = K.length := by
  rcases h with h | h
  · exact Or.inl (restr_perm hA hB h).length_eq
  · exact Or.inr (by simpa using (compl_perm hK hA hB h).length_eq)

theorem lightSize_of_sameSplit {K A B : List String} (hK : K.Nodup) (hA : A.Nodup) (hB : B.Nodup)
    (h : sameSplit K A B) : lightSize K A = lightSize K B := by
  unfold lightSize
  rcases restr_len_of_sameSplit hK hA hB h with e | e <;> simp only <;> omega

theorem lightSize_canonSide {K A : List String} (hK : K.Nodup) (hA : A.Nodup) :
    lightSize K (canonSide K A) = lightSize K A :=
  lightSize_of_sameSplit hK (canonSide_sameSplit hK hA).2 hA (canonSide_sameSplit hK hA).1

theorem light_witness {K A : List String} (hK : K.Nodup) (hA : A.Nodup) (h : 2 ≤ lightSize K A) :
    (∃ x ∈ K, x ∈ A) ∧ (∃ y ∈ K, y ∉ A) := by
  unfold lightSize at h
  simp only at h
  refine ⟨?_, exists_out_of_short hK hA (by omega)⟩
  simpa [and_comm] using List.length_filter_pos_iff.1 (show 0 < (A.filter K.contains).length by omega)

theorem lightSize_mono {K T A : List String} (hsub : K.Sublist T) (hT : T.Nodup) (hA : A.Nodup) :
    lightSize K A ≤ lightSize T A := by
  have hK : K.Nodup := hsub.nodup hT
  unfold lightSize
  simp only
  have c1 := restr_add_out hK hA
  have c2 := restr_add_out hT hA
  have l1 : (A.filter K.contains).length ≤ (A.filter T.contains).length := by
    rw [count_swap hK hA, count_swap hT hA]; exact (hsub.filter _).length_le
  have l2 : (K.filter fun n => !A.contains n).length ≤ (T.filter fun n => !A.contains n).length :=
    (hsub.filter _).length_le
  omega

theorem filter_filter_contains (l : List String) (p : String → Bool) :
    l.filter (l.filter p).contains = l.filter p := by
  apply List.filter_congr
  intro x hx
  by_cases h : p x = true <;> simp [hx, h]

/-! ## every `below` of a tree with unique tips has no repetition -/

theorem below_nodup : ∀ (t : T), t.leaves.Nodup → ∀ s ∈ t.splitsBelow, s.below.Nodup :=
  fun t h s hs => h.sublist (t.below_sublist_leaves s hs)

/-- From the membership form to the Spec functions of the oracle: the non-trivial
    split set of `t'` and the restriction of the non-trivial split set of `t` to the
    kept taxa have the same members (both are duplicate-free lists sorted by the same
    order; literal equality would need `toString` injective on sides). -/
theorem usplitSet_restrict (t t' : T) (p : String → Bool) (hT : t.tipNames.Nodup)
    (hperm : t'.tipNames.Perm (t.tipNames.filter p))
    (hind : splitsInduced (t.tipNames.filter p) t t') :
    ∀ a, a ∈ t'.usplitSet ↔ a ∈ restrictSplits t.tipNames (t.tipNames.filter p) t.usplitSet := by
  intro a
  have hK : (t.tipNames.filter p).Nodup := hT.filter _
  have hK' : t'.tipNames.Nodup := hperm.nodup_iff.2 hK
  have hsub : (t.tipNames.filter p).Sublist t.tipNames := List.filter_sublist
  have hsubm : ∀ x ∈ t.tipNames.filter p, x ∈ t.tipNames := fun x hx => (List.mem_filter.1 hx).1
  have hk := filter_filter_contains t.tipNames p
  have key : ∀ s ∈ t.splits, canonSide (t.tipNames.filter p)
      ((canonSide t.tipNames s.below).filter (t.tipNames.filter p).contains) = canonSide (t.tipNames.filter p) s.below := by
    intro s hs
    have hsn := T.below_nodup hT s hs
    rw [canonSide_restr]
    exact canonSide_of_sameSplit hK (canonSide_sameSplit hT hsn).2 hsn ((canonSide_sameSplit hT hsn).1.mono hsubm)
  rw [mem_usplitSet, mem_restrictSplits, hk]
  constructor
  · rintro ⟨⟨s', hs', rfl⟩, hl⟩
    obtain ⟨s, hs, e⟩ := hind.1 s' hs'
    have hsn := T.below_nodup hT s hs
    have hsn' := T.below_nodup hK' s' hs'
    rw [canonSide_perm_all hperm] at hl ⊢
    rw [lightSize_perm_all hperm] at hl
    have ea := canonSide_of_sameSplit hK hsn' hsn e
    refine ⟨⟨canonSide t.tipNames s.below, ?_, ?_⟩, hl⟩
    · rw [mem_usplitSet]
      refine ⟨⟨s, hs, rfl⟩, ?_⟩
      rw [lightSize_canonSide hT hsn]
      refine Nat.le_trans ?_ (lightSize_mono hsub hT hsn)
      rw [← lightSize_canonSide hK hsn, ← ea]; exact hl
    · rw [key s hs, ea]
  · rintro ⟨⟨s0, hs0, rfl⟩, hl⟩
    obtain ⟨⟨s, hs, rfl⟩, _⟩ := (mem_usplitSet t s0).1 hs0
    have hsn := T.below_nodup hT s hs
    rw [key s hs] at hl ⊢
    rw [lightSize_canonSide hK hsn] at hl
    obtain ⟨⟨x, hx, hxm⟩, ⟨y, hy, hym⟩⟩ := light_witness hK hsn hl
    obtain ⟨s', hs', e⟩ := hind.2 s hs ⟨x, hx, hxm⟩ ⟨y, hy, hym⟩
    have hsn' := T.below_nodup hK' s' hs'
    have ea := canonSide_of_sameSplit hK hsn' hsn e
    refine ⟨⟨s', hs', ?_⟩, ?_⟩
    · rw [canonSide_perm_all hperm, ea]
    · rw [lightSize_perm_all hperm, lightSize_canonSide hK hsn]; exact hl

end Gotree.C06

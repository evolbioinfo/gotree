/-
  C15 — heap programs: every edit that finds the cells it writes by NAVIGATING from its own
  root (following reference fields) or by allocating, and that stores only references found
  the same way, is local (`Heap.Local`) — whatever it computes.  This is the capability
  reading of a Go method: it can only reach cells through the pointers of its receiver and
  of its arguments.  The concrete edits of the aliasing histories (SetLength, SetName,
  AddComment, ClearComments, delNeighbor/addChild as used by removeTip, Reroot's edge flips,
  RemoveEdges' splices …) are given as such programs in `Model/C15HeapEdits.lean`.

  One invariant (`GInv`) serves here and in `C15HeapCopy.lean`: the program has only written
  cells of a set `P` of old cells, or cells it has allocated, and these are closed under
  references.  For a navigating program `P` is what its root reaches (`PInv`); for a copy `P` is empty.
  Core Lean only.
-/
import Gotree.Lemmas.C15Heap

namespace Gotree.C15.Heap

/-! ## the cells a program may touch -/

/-- an old cell of `P`, or a cell allocated since `h0` -/
def Own (P : Addr → Prop) (h0 h : H) (a : Addr) : Prop := P a ∨ (h0.next ≤ a ∧ a < h.next)

structure GInv (P : Addr → Prop) (h0 h : H) : Prop where
  le : h0.next ≤ h.next
  closed : ∀ a, Own P h0 h a → ∀ b ∈ h.ptrs a, Own P h0 h b
  same : ∀ a, a < h0.next → ¬ P a → h.ptrs a = h0.ptrs a ∧ h.data a = h0.data a

section
variable {P : Addr → Prop} {h0 h : H}

theorem GInv.init (hP : ∀ a, P a → ∀ b ∈ h0.ptrs a, P b) : GInv P h0 h0 :=
  ⟨Nat.le_refl _, fun a ha b hb => ha.elim (fun ha => Or.inl (hP a ha b hb)) fun ha => absurd ha.2 (Nat.not_lt.mpr ha.1),
    fun _ _ _ => ⟨rfl, rfl⟩⟩

/-- a written cell is never one of the protected ones -/
theorem Own.ne {t a : Addr} (ht : Own P h0 h t) (ha : a < h0.next) (hn : ¬ P a) : a ≠ t := by
  rintro rfl
  exact ht.elim hn fun ht => absurd ha (Nat.not_lt.mpr ht.1)

/-- the three primitive writes: store data, store references, allocate -/
theorem GInv.store (hi : GInv P h0 h) {a : Addr} (ha : Own P h0 h a) (v : Nat) : GInv P h0 (setDataAt h a v) :=
  ⟨hi.le, hi.closed, fun x hx hn => by simp [setDataAt, Own.ne ha hx hn, hi.same x hx hn]⟩

theorem GInv.link (hi : GInv P h0 h) {a : Addr} (ha : Own P h0 h a) {bs : List Addr} (hbs : ∀ b ∈ bs, Own P h0 h b) :
    GInv P h0 (setPtrsAt h a bs) := by
  refine ⟨hi.le, fun x hx b hb => ?_, fun x hx hn => by simp [setPtrsAt, Own.ne ha hx hn, hi.same x hx hn]⟩
  by_cases hxa : x = a
  · simp only [setPtrsAt, hxa, if_true] at hb
    exact hbs b hb
  · simp only [setPtrsAt, hxa, if_false] at hb
    exact hi.closed x hx b hb

theorem GInv.alloc (hi : GInv P h0 h) : GInv P h0 (allocCell h) := by
  refine ⟨Nat.le_succ_of_le hi.le, fun x hx b hb => ?_, fun x hx hn => ?_⟩
  · by_cases hxn : x = h.next
    · simp [allocCell, hxn] at hb
    · simp only [allocCell, hxn, if_false] at hb
      have hx' : Own P h0 h x :=
        hx.imp id fun hx => ⟨hx.1, Nat.lt_of_le_of_ne (Nat.le_of_lt_succ hx.2) hxn⟩
      exact (hi.closed x hx' b hb).imp id fun h1 => ⟨h1.1, Nat.lt_succ_of_lt h1.2⟩
  · have hne : x ≠ h.next := Nat.ne_of_lt (Nat.lt_of_lt_of_le hx hi.le)
    simp [allocCell, hne, hi.same x hx hn]

/-- the invariant does not look at the data of the new cells -/
theorem GInv.congr (hi : GInv P h0 h) {h' : H} (hp : h'.ptrs = h.ptrs) (hn : h'.next = h.next)
    (hd : ∀ a, a < h0.next → h'.data a = h.data a) : GInv P h0 h' := by
  refine ⟨hn ▸ hi.le, fun a ha b hb => ?_, fun a ha hn' => by rw [hp, hd a ha]; exact hi.same a ha hn'⟩
  unfold Own at *
  rw [hn] at *
  exact hi.closed a ha b (hp ▸ hb)

/-- the operands an operation resolves to find the cell it writes and the references it stores
    (what `copyData` reads may be anywhere) -/
def Op.writes : Op → List Src
  | .setData t _ => [t]
  | .setPtrs t l => t :: l
  | .alloc => []
  | .copyData t _ => [t]

theorem resolve_fresh {h : H} {r base : Addr} {s : Src} {a : Addr} (hs : s.isFresh = true)
    (hr : resolve h r base s = some a) : base ≤ a ∧ a < h.next := by
  cases s with
  | path p => simp [Src.isFresh] at hs
  | fresh k =>
    simp only [resolve] at hr
    split at hr
    · rename_i hlt
      injection hr with hr
      subst hr
      exact ⟨Nat.le_add_right _ _, hlt⟩
    · cases hr

theorem resolveAll_mem {r base : Addr} : ∀ (l : List Src) (bs : List Addr), resolveAll h r base l = some bs →
    ∀ b ∈ bs, ∃ s ∈ l, resolve h r base s = some b
  | [], bs, hr, b, hb => by simp [resolveAll] at hr; subst hr; cases hb
  | s :: l, bs, hr, b, hb => by
    simp only [resolveAll] at hr
    split at hr
    · rename_i a as ha has
      injection hr with hr
      subst hr
      rcases List.mem_cons.mp hb with rfl | hb
      · exact ⟨s, by simp, ha⟩
      · obtain ⟨s', hs', h'⟩ := resolveAll_mem l as has b hb
        exact ⟨s', by simp [hs'], h'⟩
    · cases hr

/-- one operation whose operands resolve to cells the program may touch keeps the invariant -/
theorem GInv.step {r : Addr} (hi : GInv P h0 h) (o : Op)
    (ho : ∀ s ∈ o.writes, ∀ a, resolve h r h0.next s = some a → Own P h0 h a) : GInv P h0 (step r h0.next h o) := by
  cases o with
  | setData t v =>
    simp only [Heap.step]
    split
    · rename_i a hr
      exact hi.store (ho t (by simp [Op.writes]) a hr) v
    · exact hi
  | setPtrs t l =>
    simp only [Heap.step]
    split
    · rename_i a bs hr hrs
      refine hi.link (ho t (by simp [Op.writes]) a hr) fun b hb => ?_
      obtain ⟨s, hs, hsb⟩ := resolveAll_mem l bs hrs b hb
      exact ho s (by simp [Op.writes, hs]) b hsb
    · exact hi
  | copyData t s0 =>
    simp only [Heap.step]
    split
    · rename_i a b hr _
      exact hi.store (ho t (by simp [Op.writes]) a hr) _
    · exact hi
  | alloc => exact hi.alloc

theorem GInv.exec {r : Addr} : ∀ (os : List Op) (h : H), GInv P h0 h →
    (∀ o ∈ os, ∀ h, GInv P h0 h → ∀ s ∈ o.writes, ∀ a, resolve h r h0.next s = some a → Own P h0 h a) →
    GInv P h0 (exec r h0.next os h)
  | [], _, hi, _ => hi
  | o :: os, h, hi, ho =>
    GInv.exec os _ (hi.step o (ho o (by simp) h hi)) fun o' ho' => ho o' (by simp [ho'])

theorem GInv.reach (hi : GInv P h0 h) {c : Addr} (hc : Own P h0 h c) : ∀ a, Reach h c a → Own P h0 h a := by
  intro a ha
  induction ha with
  | root => exact hc
  | step _ hb ih => exact hi.closed _ ih _ hb

end

/-! ## navigating programs -/

/-- the cells the program may touch: reachable from the root at the start, or allocated since -/
def InS (h0 : H) (r : Addr) (h : H) (a : Addr) : Prop := Reach h0 r a ∨ (h0.next ≤ a ∧ a < h.next)

/-- `GInv` for the cells the root reaches at the start -/
structure PInv (h0 : H) (r : Addr) (h : H) : Prop where
  le : h0.next ≤ h.next
  closed : ∀ a, InS h0 r h a → ∀ b ∈ h.ptrs a, InS h0 r h b
  same : ∀ a, a < h0.next → ¬ Reach h0 r a → h.ptrs a = h0.ptrs a ∧ h.data a = h0.data a

theorem follow_own {h0 h : H} {r : Addr} (hi : GInv (Reach h0 r) h0 h) : ∀ (p : List Nat) (a b : Addr),
    Own (Reach h0 r) h0 h a → follow h a p = some b → Own (Reach h0 r) h0 h b
  | [], a, b, ha, hf => by simp [follow] at hf; exact hf ▸ ha
  | i :: p, a, b, ha, hf => by
    simp only [follow] at hf
    split at hf
    · rename_i c hc
      exact follow_own hi p c b (hi.closed a ha c (List.mem_of_getElem? hc)) hf
    · cases hf

/-- whatever a navigating program resolves is a cell it may touch -/
theorem resolve_own {h0 h : H} {r : Addr} (hi : GInv (Reach h0 r) h0 h) (s : Src) (a : Addr)
    (hr : resolve h r h0.next s = some a) : Own (Reach h0 r) h0 h a := by
  cases s with
  | path p => exact follow_own hi p r a (Or.inl Reach.root) hr
  | fresh k => exact Or.inr (resolve_fresh rfl hr)

/-- an edit that keeps `GInv` for what its root reaches is local -/
theorem local_of_ginv {r : Addr} {e : H → H} (hg : ∀ h, GInv (Reach h r) h (e h)) : Local r e ∧ KeepsAlloc r e := by
  have hr : ∀ h a, Reach (e h) r a → Own (Reach h r) h (e h) a := fun h a ha =>
    (hg h).reach (Or.inl Reach.root) a ha
  refine ⟨⟨fun h a hlt hn => (hg h).same a hlt hn, fun h a _ ha => (hr h a ha).imp id (·.1), fun h => (hg h).le⟩,
    fun h hal a ha => ?_⟩
  rcases hr h a ha with h1 | h1
  · exact Nat.lt_of_lt_of_le (hal a h1) (hg h).le
  · exact h1.2

theorem runProg_ginv (r : Addr) (prog : H → List Op) (h : H) : GInv (Reach h r) h (runProg r prog h) :=
  GInv.exec (prog h) h (GInv.init fun _ ha _ hb => Reach.step ha hb) fun _ _ _ hi s _ a hr => resolve_own hi s a hr

theorem runProg_pinv (r : Addr) (prog : H → List Op) (h : H) : PInv h r (runProg r prog h) :=
  have g := runProg_ginv r prog h
  ⟨g.le, g.closed, g.same⟩

/-- ★ every heap program is a local edit of the tree it navigates from -/
theorem runProg_local (r : Addr) (prog : H → List Op) : Local r (runProg r prog) ∧ KeepsAlloc r (runProg r prog) :=
  local_of_ginv (runProg_ginv r prog)

/-- the programs of `Model/C15HeapEdits.lean` — and any other — are local -/
theorem edits_local (r : Addr) (p : H → List Op) : Local r (runProg r p) ∧ KeepsAlloc r (runProg r p) :=
  runProg_local r p

/-- overwriting the root cell's data is the one-statement program `setData []` -/
theorem setData_local (r : Addr) (v : Nat) : Local r (setData r v) ∧ KeepsAlloc r (setData r v) :=
  runProg_local r fun _ => [.setData (.path []) v]

/-- hanging a new cell on the root: an allocation and a store of references, except that the new cell's data
    are whatever they were -/
theorem allocChild_local (r : Addr) : Local r (allocChild r) ∧ KeepsAlloc r (allocChild r) :=
  local_of_ginv fun h =>
    ((GInv.init fun _ ha _ hb => Reach.step ha hb).alloc.link (a := r) (bs := h.next :: h.ptrs r) (Or.inl Reach.root)
      fun b hb => (List.mem_cons.mp hb).elim (fun hb => Or.inr ⟨hb ▸ Nat.le_refl _, hb ▸ Nat.lt_succ_self _⟩)
        fun hb => Or.inl (Reach.step Reach.root hb)).congr rfl rfl
      fun a ha => by simp [allocChild, setPtrsAt, allocCell, Nat.ne_of_lt ha]

/-- ★ hence any history of heap programs run on one tree leaves a disjoint tree untouched -/
theorem progs_frame {r r' : Addr} (progs : List (H → List Op)) (h : H)
    (ha : Alloc h r) (ha' : Alloc h r') (hd : Disjoint h r r') :
    SameOn h (run (progs.map (runProg r)) h) r' ∧ (∀ a, Reach (run (progs.map (runProg r)) h) r' a ↔ Reach h r' a) ∧
    Disjoint (run (progs.map (runProg r)) h) r r' :=
  history_frame _ h (fun e he => by
    obtain ⟨p, _, rfl⟩ := List.mem_map.mp he
    exact runProg_local r p) ha ha' hd

end Gotree.C15.Heap

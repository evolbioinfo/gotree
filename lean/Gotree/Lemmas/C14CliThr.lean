/-
  C14 — the rational stand-ins of `±Inf` / `NaN` (`Thr.forTree`) decide every threshold test of the
  cut as the float does.
-/
import Gotree.Model.C14CliThr

namespace Gotree.C14.Cli
open Gotree

theorem foldl_max_spec : ∀ (l : List EdgeD) (m0 : Rat),
    m0 ≤ l.foldl (fun m e => if e.len > m then e.len else m) m0 ∧
    ∀ e ∈ l, e.len ≤ l.foldl (fun m e => if e.len > m then e.len else m) m0
  | [], m0 => ⟨Rat.le_refl, fun _ h => by simp at h⟩
  | a :: l, m0 => by
    simp only [List.foldl_cons]
    obtain ⟨h1, h2⟩ := foldl_max_spec l (if a.len > m0 then a.len else m0)
    have hm : m0 ≤ (if a.len > m0 then a.len else m0) ∧ a.len ≤ (if a.len > m0 then a.len else m0) := by
      by_cases h : a.len > m0
      · simp only [h, if_true]; exact ⟨Rat.le_of_lt h, Rat.le_refl⟩
      · simp only [h, if_false]; exact ⟨Rat.le_refl, Rat.not_lt.1 h⟩
    refine ⟨Rat.le_trans hm.1 h1, fun e he => ?_⟩
    rcases List.mem_cons.1 he with rfl | he
    · exact Rat.le_trans hm.2 h1
    · exact h2 e he

theorem foldl_min_spec : ∀ (l : List EdgeD) (m0 : Rat),
    l.foldl (fun m e => if e.len < m then e.len else m) m0 ≤ m0 ∧
    ∀ e ∈ l, l.foldl (fun m e => if e.len < m then e.len else m) m0 ≤ e.len
  | [], m0 => ⟨Rat.le_refl, fun _ h => by simp at h⟩
  | a :: l, m0 => by
    simp only [List.foldl_cons]
    obtain ⟨h1, h2⟩ := foldl_min_spec l (if a.len < m0 then a.len else m0)
    have hm : (if a.len < m0 then a.len else m0) ≤ m0 ∧ (if a.len < m0 then a.len else m0) ≤ a.len := by
      by_cases h : a.len < m0
      · simp only [h, if_true]; exact ⟨Rat.le_of_lt h, Rat.le_refl⟩
      · simp only [h, if_false]; exact ⟨Rat.le_refl, Rat.not_lt.1 h⟩
    refine ⟨Rat.le_trans h1 hm.1, fun e he => ?_⟩
    rcases List.mem_cons.1 he with rfl | he
    · exact Rat.le_trans h1 hm.2
    · exact h2 e he

theorem cutEachThr_fin (q : Rat) : ∀ (l : List InTree) (id : Nat) (acc : String),
    cutEachThr (.fin q) l id acc = cutEach q l id acc
  | [], _, _ => rfl
  | .bad _ :: _, _, _ => rfl
  | .good t :: r, id, acc => by
    simp only [cutEachThr, cutEach, Thr.forTree]
    cases Go.cutGo q t with
    | ok bags => exact cutEachThr_fin q r _ _
    | err e => rfl
    | panic e => rfl

end Gotree.C14.Cli

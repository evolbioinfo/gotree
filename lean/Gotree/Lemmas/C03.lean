/-
  C03 — helper lemmas (core Lean; mutual structural inductions over `T` / `Kids`).

  Technique for the "global" statements (about positions in the whole tree `R`):
  the loops are stated for a node at path `p` of `R` whose kids are `pre ++ k`,
  with the loop index `pre.length`; a step moves the head of `k` to the end of `pre`.
-/
import Gotree.Spec.C03
import Gotree.Lemmas.Core

namespace Gotree.C03
open Gotree

def lf (n : String) : EdgeD × T := (EdgeD.blank, T.leaf n)
def inn (k : Kids) : EdgeD × T := (EdgeD.blank, T.node ⟨"", []⟩ 0 k)

/-- the 18-node witness of DESIGN §1 (F8): 10 tips, 7 internal branches, unrooted -/
def witness18 : T :=
  T.node ⟨"", []⟩ 0
    [inn [inn [lf "a", lf "b"], inn [lf "c", lf "d"]],
     inn [inn [lf "e", lf "f"], lf "g"],
     inn [inn [lf "h", lf "i"], lf "j"]]

/- ## the guard `len(edge.right.neigh) > 1` only skips an empty loop -/

@[simp] theorem edgesRecur_node (p : Path) (d pp k) : edgesRecur p (.node d pp k) = edgesLoop p 0 k := by
  cases k with
  | nil => simp [edgesRecur, edgesLoop]
  | cons a l => simp [edgesRecur]

@[simp] theorem internalEdgesRecur_node (p : Path) (d pp k) :
    internalEdgesRecur p (.node d pp k) = internalLoop p 0 k := by
  cases k with
  | nil => simp [internalEdgesRecur, internalLoop]
  | cons a l => simp [internalEdgesRecur]

@[simp] theorem tipEdgesRecur_node (p : Path) (d pp k) : tipEdgesRecur p (.node d pp k) = tipEdgesLoop p 0 k := by
  cases k with
  | nil => simp [tipEdgesRecur, tipEdgesLoop]
  | cons a l => simp [tipEdgesRecur]

/- ## positions -/

theorem subtreeAt_snoc (R : T) (p : Path) (i : Nat) :
    subtreeAt R (p ++ [i]) = (subtreeAt R p).bind (fun t => (t.kids[i]?).map (·.2)) := by
  induction p generalizing R with
  | nil =>
    simp
    cases h : R.kids[i]? with
    | none => simp [subtreeAt, h]
    | some x => cases x; simp [subtreeAt, h]
  | cons j q ih =>
    simp [subtreeAt]
    cases h : R.kids[j]? with
    | none => simp
    | some x => cases x; simp [ih]

theorem at_kid {R : T} {p : Path} {d pp} {pre : Kids} {e t r}
    (h : subtreeAt R p = some (.node d pp (pre ++ (e, t) :: r))) :
    subtreeAt R (p ++ [pre.length]) = some t := by
  rw [subtreeAt_snoc, h]
  simp

theorem at_next {R : T} {p : Path} {d pp} {pre : Kids} {e t r}
    (h : subtreeAt R p = some (.node d pp (pre ++ (e, t) :: r))) :
    subtreeAt R p = some (.node d pp ((pre ++ [(e, t)]) ++ r)) := by
  simpa using h

theorem snoc_not_empty (p : Path) (i : Nat) : (p ++ [i]).isEmpty = false := by cases p <;> rfl

/-- is the lower end of a listed branch a tip of `R` -/
def edgeToTip (R : T) (r : EdgeRef) : Bool := isTipAt R r.path
/-- is a listed node a tip of `R` -/
def nodeIsTip (R : T) (r : NodeRef) : Bool := isTipAt R r.path

theorem isTipAt_kid {R : T} {p : Path} {i : Nat} {t : T} (h : subtreeAt R (p ++ [i]) = some t) :
    isTipAt R (p ++ [i]) = isTip true t := by
  simp [isTipAt, h, snoc_not_empty]

/- ## TipEdges = the listed branches that end in a tip -/
mutual
theorem tipEdgesRecur_filter (R : T) : (t : T) → (p : Path) → subtreeAt R p = some t →
    tipEdgesRecur p t = (edgesRecur p t).filter (edgeToTip R)
  | .node d pp k, p, h => by
    simp only [tipEdgesRecur_node, edgesRecur_node]
    exact tipEdgesLoop_filter R k p d pp [] (by simpa using h)
theorem tipEdgesLoop_filter (R : T) : (k : Kids) → (p : Path) → (d : NodeD) → (pp : Nat) → (pre : Kids) →
    subtreeAt R p = some (.node d pp (pre ++ k)) →
    tipEdgesLoop p pre.length k = (edgesLoop p pre.length k).filter (edgeToTip R)
  | [], _, _, _, _, _ => by simp [tipEdgesLoop, edgesLoop]
  | (e, t) :: r, p, d, pp, pre, h => by
    have ht := at_kid h
    have ih1 := tipEdgesRecur_filter R t (p ++ [pre.length]) ht
    have ih2 := tipEdgesLoop_filter R r p d pp (pre ++ [(e, t)]) (at_next h)
    simp only [List.length_append, List.length_cons, List.length_nil, Nat.zero_add] at ih2
    simp only [tipEdgesLoop, edgesLoop, List.filter_cons, List.filter_append, edgeToTip, isTipAt_kid ht]
    rw [ih1, ih2]
    cases isTip true t <;> simp
end

/- ## InternalEdges = the listed branches that do not end in a tip -/

theorem edgesLoop_of_tip {t : T} (h : isTip true t = true) (p : Path) : edgesRecur p t = [] := by
  cases t with
  | node d pp k =>
    cases k with
    | nil => simp [edgesLoop]
    | cons a l => simp [isTip, nneigh] at h

mutual
theorem internalEdgesRecur_filter (R : T) : (t : T) → (p : Path) → subtreeAt R p = some t →
    internalEdgesRecur p t = (edgesRecur p t).filter (fun r => !edgeToTip R r)
  | .node d pp k, p, h => by
    simp only [internalEdgesRecur_node, edgesRecur_node]
    exact internalLoop_filter R k p d pp [] (by simpa using h)
theorem internalLoop_filter (R : T) : (k : Kids) → (p : Path) → (d : NodeD) → (pp : Nat) → (pre : Kids) →
    subtreeAt R p = some (.node d pp (pre ++ k)) →
    internalLoop p pre.length k = (edgesLoop p pre.length k).filter (fun r => !edgeToTip R r)
  | [], _, _, _, _, _ => by simp [internalLoop, edgesLoop]
  | (e, t) :: r, p, d, pp, pre, h => by
    have ht := at_kid h
    have ih1 := internalEdgesRecur_filter R t (p ++ [pre.length]) ht
    have ih2 := internalLoop_filter R r p d pp (pre ++ [(e, t)]) (at_next h)
    simp only [List.length_append, List.length_cons, List.length_nil, Nat.zero_add] at ih2
    simp only [internalLoop, edgesLoop, List.filter_cons, List.filter_append, edgeToTip, isTipAt_kid ht]
    rw [ih1, ih2]
    cases hq : isTip true t
    · simp [edgeToTip]
    · simp [edgeToTip, edgesLoop_of_tip hq]
end

/- ## Tips = the listed nodes that have exactly one neighbour -/
mutual
theorem tipsRecur_filter (R : T) : (t : T) → (p : Path) → subtreeAt R p = some t →
    tipsRecur (!p.isEmpty) p t = (nodesRecur p t).filter (nodeIsTip R)
  | .node d pp k, p, h => by
    have ih := tipsLoop_filter R k p d pp [] (by simpa using h)
    simp only [List.length_nil] at ih
    simp only [tipsRecur, nodesRecur, List.filter_cons, nodeIsTip, isTipAt, h, isTip, nneigh, T.kids_node]
    rw [ih]
    cases hq : (k.length + (if (!p.isEmpty) = true then 1 else 0) == 1) <;> simp
theorem tipsLoop_filter (R : T) : (k : Kids) → (p : Path) → (d : NodeD) → (pp : Nat) → (pre : Kids) →
    subtreeAt R p = some (.node d pp (pre ++ k)) →
    tipsLoop p pre.length k = (nodesLoop p pre.length k).filter (nodeIsTip R)
  | [], _, _, _, _, _ => by simp [tipsLoop, nodesLoop]
  | (e, t) :: r, p, d, pp, pre, h => by
    have ht := at_kid h
    have ih1 := tipsRecur_filter R t (p ++ [pre.length]) ht
    have ih2 := tipsLoop_filter R r p d pp (pre ++ [(e, t)]) (at_next h)
    simp only [List.length_append, List.length_cons, List.length_nil, Nat.zero_add] at ih2
    simp only [snoc_not_empty, Bool.not_false] at ih1
    simp only [tipsLoop, nodesLoop, List.filter_append]
    rw [ih1, ih2]
end

/- ## the paths listed are those of the plain walk -/
mutual
theorem nodesRecur_paths : (t : T) → (p : Path) → (nodesRecur p t).map (·.path) = allPathsFrom p t
  | .node d pp k, p => by simp [nodesRecur, allPathsFrom, nodesLoop_paths k p 0]
theorem nodesLoop_paths : (k : Kids) → (p : Path) → (i : Nat) → (nodesLoop p i k).map (·.path) = allPathsL p i k
  | [], _, _ => by simp [nodesLoop, allPathsL]
  | (e, t) :: r, p, i => by
    simp [nodesLoop, allPathsL, nodesRecur_paths t (p ++ [i]), nodesLoop_paths r p (i + 1)]
end

mutual
theorem edgesRecur_paths : (t : T) → (p : Path) → p :: (edgesRecur p t).map (·.path) = allPathsFrom p t
  | .node d pp k, p => by simp [allPathsFrom, edgesLoop_paths k p 0]
theorem edgesLoop_paths : (k : Kids) → (p : Path) → (i : Nat) → (edgesLoop p i k).map (·.path) = allPathsL p i k
  | [], _, _ => by simp [edgesLoop, allPathsL]
  | (e, t) :: r, p, i => by
    have h1 := edgesRecur_paths t (p ++ [i])
    have h2 := edgesLoop_paths r p (i + 1)
    simp only [edgesLoop, allPathsL, List.map_cons, List.map_append, h2, ← h1, List.cons_append]
end

/- ## the data listed are those of Core's spec-level definitions -/
mutual
theorem nodesRecur_names : (t : T) → (p : Path) → (nodesRecur p t).map (·.d.name) = t.nodeNames
  | .node d pp k, p => by simp [nodesRecur, T.nodeNames, nodesLoop_names k p 0]
theorem nodesLoop_names : (k : Kids) → (p : Path) → (i : Nat) → (nodesLoop p i k).map (·.d.name) = nodeNamesL k
  | [], _, _ => by simp [nodesLoop, nodeNamesL]
  | (e, t) :: r, p, i => by
    simp [nodesLoop, nodeNamesL, nodesRecur_names t (p ++ [i]), nodesLoop_names r p (i + 1)]
end

mutual
theorem tipsRecur_names : (t : T) → (p : Path) → (tipsRecur true p t).map (·.d.name) = t.leaves
  | .node d pp [], p => by simp [tipsRecur, tipsLoop, T.leaves]
  | .node d pp (a :: l), p => by
    simp [tipsRecur, T.leaves, tipsLoop_names (a :: l) p 0]
theorem tipsLoop_names : (k : Kids) → (p : Path) → (i : Nat) → (tipsLoop p i k).map (·.d.name) = leavesL k
  | [], _, _ => by simp [tipsLoop, leavesL]
  | (e, t) :: r, p, i => by
    simp [tipsLoop, leavesL, tipsRecur_names t (p ++ [i]), tipsLoop_names r p (i + 1)]
end

mutual
theorem edgesRecur_data : (t : T) → (p : Path) → (edgesRecur p t).map (·.e) = t.splitsBelow.map (·.e)
  | .node d pp k, p => by simp [T.splitsBelow, edgesLoop_data k p 0]
theorem edgesLoop_data : (k : Kids) → (p : Path) → (i : Nat) → (edgesLoop p i k).map (·.e) = (splitsL k).map (·.e)
  | [], _, _ => by simp [edgesLoop, splitsL]
  | (e, t) :: r, p, i => by
    simp [edgesLoop, splitsL, edgesRecur_data t (p ++ [i]), edgesLoop_data r p (i + 1)]
end

theorem isTip_true_eq_isLeaf (t : T) : isTip true t = t.isLeaf := by
  cases t with
  | node d pp k => cases k <;> simp [isTip, nneigh, T.isLeaf]

mutual
theorem tipEdgesRecur_data : (t : T) → (p : Path) →
    (tipEdgesRecur p t).map (·.e) = (t.splitsBelow.filter (·.tip)).map (·.e)
  | .node d pp k, p => by simp [T.splitsBelow, tipEdgesLoop_data k p 0]
theorem tipEdgesLoop_data : (k : Kids) → (p : Path) → (i : Nat) →
    (tipEdgesLoop p i k).map (·.e) = ((splitsL k).filter (·.tip)).map (·.e)
  | [], _, _ => by simp [tipEdgesLoop, splitsL]
  | (e, t) :: r, p, i => by
    have h1 := tipEdgesRecur_data t (p ++ [i])
    have h2 := tipEdgesLoop_data r p (i + 1)
    simp only [tipEdgesLoop, splitsL, List.filter_cons, List.filter_append, List.map_append, h1, h2,
      isTip_true_eq_isLeaf]
    cases t.isLeaf <;> simp
end

mutual
theorem internalEdgesRecur_data : (t : T) → (p : Path) →
    (internalEdgesRecur p t).map (·.e) = (t.splitsBelow.filter (! ·.tip)).map (·.e)
  | .node d pp k, p => by simp [T.splitsBelow, internalLoop_data k p 0]
theorem internalLoop_data : (k : Kids) → (p : Path) → (i : Nat) →
    (internalLoop p i k).map (·.e) = ((splitsL k).filter (! ·.tip)).map (·.e)
  | [], _, _ => by simp [internalLoop, splitsL]
  | (e, t) :: r, p, i => by
    have h1 := internalEdgesRecur_data t (p ++ [i])
    have h2 := internalLoop_data r p (i + 1)
    simp only [internalLoop, splitsL, List.filter_cons, List.filter_append, List.map_append, h2,
      isTip_true_eq_isLeaf]
    cases hq : t.isLeaf
    · simp [h1]
    · simp [T.splitsBelow_of_isLeaf hq]
end

/- ## every listed branch is a (parent, child) link of the tree -/

/-- the listed branch sits at position `i` of the kids of the node at `q`, carries the
    data of that link, and its lower end is the subtree hanging there -/
def Oriented (R : T) (r : EdgeRef) : Prop :=
  ∃ (q : Path) (i : Nat) (parent child : T),
    r.path = q ++ [i] ∧ subtreeAt R q = some parent ∧ parent.kids[i]? = some (r.e, child) ∧
    subtreeAt R r.path = some child

mutual
theorem edgesRecur_oriented (R : T) : (t : T) → (p : Path) → subtreeAt R p = some t →
    ∀ r ∈ edgesRecur p t, Oriented R r
  | .node d pp k, p, h => by
    simp only [edgesRecur_node]
    exact edgesLoop_oriented R k p d pp [] (by simpa using h)
theorem edgesLoop_oriented (R : T) : (k : Kids) → (p : Path) → (d : NodeD) → (pp : Nat) → (pre : Kids) →
    subtreeAt R p = some (.node d pp (pre ++ k)) →
    ∀ r ∈ edgesLoop p pre.length k, Oriented R r
  | [], _, _, _, _, _ => by simp [edgesLoop]
  | (e, t) :: r, p, d, pp, pre, h => by
    have ht := at_kid h
    have ih1 := edgesRecur_oriented R t (p ++ [pre.length]) ht
    have ih2 := edgesLoop_oriented R r p d pp (pre ++ [(e, t)]) (at_next h)
    simp only [List.length_append, List.length_cons, List.length_nil, Nat.zero_add] at ih2
    intro x hx
    simp only [edgesLoop, List.mem_cons, List.mem_append] at hx
    rcases hx with hx | hx | hx
    · subst hx
      exact ⟨p, pre.length, _, t, rfl, h, by simp, ht⟩
    · exact ih1 x hx
    · exact ih2 x hx
end

/- ## every listed node is the node of the tree at its path -/
mutual
theorem nodesRecur_valid (R : T) : (t : T) → (p : Path) → subtreeAt R p = some t →
    ∀ r ∈ nodesRecur p t, ∃ s, subtreeAt R r.path = some s ∧ s.d = r.d
  | .node d pp k, p, h => by
    intro x hx
    simp only [nodesRecur, List.mem_cons] at hx
    rcases hx with hx | hx
    · subst hx; exact ⟨_, h, rfl⟩
    · exact nodesLoop_valid R k p d pp [] (by simpa using h) x hx
theorem nodesLoop_valid (R : T) : (k : Kids) → (p : Path) → (d : NodeD) → (pp : Nat) → (pre : Kids) →
    subtreeAt R p = some (.node d pp (pre ++ k)) →
    ∀ r ∈ nodesLoop p pre.length k, ∃ s, subtreeAt R r.path = some s ∧ s.d = r.d
  | [], _, _, _, _, _ => by simp [nodesLoop]
  | (e, t) :: r, p, d, pp, pre, h => by
    have ht := at_kid h
    have ih1 := nodesRecur_valid R t (p ++ [pre.length]) ht
    have ih2 := nodesLoop_valid R r p d pp (pre ++ [(e, t)]) (at_next h)
    simp only [List.length_append, List.length_cons, List.length_nil, Nat.zero_add] at ih2
    intro x hx
    simp only [nodesLoop, List.mem_append] at hx
    rcases hx with hx | hx
    · exact ih1 x hx
    · exact ih2 x hx
end

/- ## no node is met twice by the plain walk -/

mutual
theorem allPathsFrom_prefix : (t : T) → (p : Path) → ∀ q ∈ allPathsFrom p t, p <+: q
  | .node d pp k, p => by
    intro q hq
    simp only [allPathsFrom, List.mem_cons] at hq
    rcases hq with hq | hq
    · subst hq; exact List.prefix_refl _
    · obtain ⟨j, _, hj⟩ := allPathsL_prefix k p 0 q hq
      exact (List.prefix_append p [j]).trans hj
theorem allPathsL_prefix : (k : Kids) → (p : Path) → (i : Nat) → ∀ q ∈ allPathsL p i k, ∃ j, i ≤ j ∧ (p ++ [j]) <+: q
  | [], _, _ => by simp [allPathsL]
  | (e, t) :: r, p, i => by
    intro q hq
    simp only [allPathsL, List.mem_append] at hq
    rcases hq with hq | hq
    · exact ⟨i, Nat.le_refl _, allPathsFrom_prefix t (p ++ [i]) q hq⟩
    · obtain ⟨j, hj, hp⟩ := allPathsL_prefix r p (i + 1) q hq
      exact ⟨j, by omega, hp⟩
end

theorem snoc_prefix_inj {p q : Path} {i j : Nat} (h1 : (p ++ [i]) <+: q) (h2 : (p ++ [j]) <+: q) : i = j := by
  have h3 : (p ++ [i]) <+: (p ++ [j]) := List.prefix_of_prefix_length_le h1 h2 (by simp)
  have h4 : p ++ [i] = p ++ [j] := h3.eq_of_length (by simp)
  simpa using h4

mutual
theorem allPathsFrom_nodup : (t : T) → (p : Path) → (allPathsFrom p t).Nodup
  | .node d pp k, p => by
    simp only [allPathsFrom, List.nodup_cons]
    refine ⟨?_, allPathsL_nodup k p 0⟩
    intro hm
    obtain ⟨j, _, hj⟩ := allPathsL_prefix k p 0 p hm
    have := hj.length_le
    simp at this
    omega
theorem allPathsL_nodup : (k : Kids) → (p : Path) → (i : Nat) → (allPathsL p i k).Nodup
  | [], _, _ => by simp [allPathsL]
  | (e, t) :: r, p, i => by
    simp only [allPathsL]
    refine List.nodup_append.mpr ⟨allPathsFrom_nodup t (p ++ [i]), allPathsL_nodup r p (i + 1), ?_⟩
    intro a ha b hb hab
    subst hab
    have h1 := allPathsFrom_prefix t (p ++ [i]) a ha
    obtain ⟨j, hj, h2⟩ := allPathsL_prefix r p (i + 1) a hb
    have := snoc_prefix_inj h1 h2
    omega
end
/- ## multisets of paths: equal after sorting iff permutations -/

/-- `pathLe` is the lexicographic order of the core library: its order facts come from there -/
theorem pathLe_iff : ∀ (a b : Path), pathLe a b = true ↔ a ≤ b
  | [], _ => by simp [pathLe]
  | _ :: _, [] => by simp [pathLe]
  | a :: p, b :: q => by
    simp only [pathLe, Bool.or_eq_true, Bool.and_eq_true, decide_eq_true_eq, beq_iff_eq, pathLe_iff p q,
      List.cons_le_cons_iff]

theorem sortPaths_perm {l₁ l₂ : List Path} (h : l₁.Perm l₂) : sortPaths l₁ = sortPaths l₂ := by
  have htr : ∀ a b c : Path, pathLe a b = true → pathLe b c = true → pathLe a c = true := fun a b c => by
    simp only [pathLe_iff]; exact List.le_trans
  have hto : ∀ a b : Path, (pathLe a b || pathLe b a) = true := fun a b => by
    simp only [Bool.or_eq_true, pathLe_iff]; exact List.le_total a b
  unfold sortPaths
  apply List.Perm.eq_of_pairwise (le := fun a b => pathLe a b = true)
  · intro a b _ _ h1 h2; exact List.le_antisymm ((pathLe_iff a b).1 h1) ((pathLe_iff b a).1 h2)
  · exact List.pairwise_mergeSort htr hto l₁
  · exact List.pairwise_mergeSort htr hto l₂
  · exact (List.mergeSort_perm l₁ pathLe).trans (h.trans (List.mergeSort_perm l₂ pathLe).symm)

theorem sameBag_of_perm {l₁ l₂ : List Path} (h : l₁.Perm l₂) : sameBag l₁ l₂ = true := by
  simp [sameBag, sortPaths_perm h]

end Gotree.C03

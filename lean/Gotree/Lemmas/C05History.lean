/-
  C05 — a history of operations that remove nothing preserves the tree (composition of the
  single-operation results through `Same.trans`).
-/
import Gotree.Model.C05History
import Gotree.Lemmas.C05Mid
import Gotree.Lemmas.C05Out

namespace Gotree.C05
open Gotree

theorem step_same (s : Step) (t u : T) (hk : s.keeps = true) (h : s.apply t = .ok u) (hu : t.tipNames.Nodup)
    (hl : lensOK t = true) (hs : supsOK t = true) : Same t u := by
  have hl' := (lensOK_iff t).1 hl
  have hs' := (supsOK_iff t).1 hs
  cases s with
  | reroot p => exact reroot_same t u p h hu hl'
  | unroot =>
    simp only [Step.apply] at h
    cases h
    exact unroot_same t hu hl' hs'
  | outgroup rm st S =>
    cases rm with
    | true => simp [Step.keeps] at hk
    | false => exact outgroup_same t u st S h hu hl' hs'
  | midpoint => exact (midpoint_same t u h hu hl' hs').1
  | sort =>
    simp only [Step.apply] at h
    cases h
    exact sortT_same t hl'
  | rerootFirst =>
    simp only [Step.apply] at h
    unfold rerootFirst at h
    split at h
    · cases h
    · exact reroot_same t u _ h hu hl'
  | rotate ds =>
    simp only [Step.apply] at h
    cases h
    exact rotate_same t ds hl'

theorem history_same : ∀ (steps : List Step) (t u : T), historyOK steps t = true → t.tipNames.Nodup →
    (runSteps steps t).2 = .ok u → Same t u
  | [], t, u, _, _, h => by
    simp only [runSteps] at h
    cases h
    exact Same.refl t
  | s :: r, t, u, hh, hu, h => by
    simp only [historyOK, Bool.and_eq_true] at hh
    obtain ⟨⟨⟨hl, hs⟩, hk⟩, hrest⟩ := hh
    simp only [runSteps] at h
    cases ha : s.apply t with
    | ok v =>
      rw [ha] at h hrest
      have s1 := step_same s t v hk ha hu hl hs
      have huv : v.tipNames.Nodup := s1.tips.nodup_iff.2 hu
      exact s1.trans (history_same r v u hrest huv h)
    | err m => rw [ha] at h; cases h
    | panic m => rw [ha] at h; cases h

end Gotree.C05

/-
  C07 — the whole loop of `RemoveEdges`: what is left of every observed branch (`removeEdges_obsG`, on
  every tree), what happens at the root, and how a selection by criterion reads as a list of branch ids.
-/
import Gotree.Lemmas.C07

namespace Gotree.C07
open Gotree

theorem removeEdges_cons (rr rt : Bool) (id : Int) (ids : List Int) (t : T) :
    removeEdges rr rt (id :: ids) t = removeEdges rr rt ids (contractT rr rt id true t) := rfl

/-- a loop each of whose steps is `keepG` on the branch carrying the id is `keepG` on the branches whose
    id is listed -/
theorem foldl_obsG {α β : Type} (obs : α → List (ObsG β)) (step : α → Int → α) (rt : Bool)
    (h : ∀ a id, (obs (step a id)).Perm ((obs a).filterMap (keepG (·.2.1.id == id) rt))) :
    ∀ (ids : List Int) (a : α),
      (obs (ids.foldl step a)).Perm ((obs a).filterMap (keepG (fun y => decide (y.2.1.id ∈ ids)) rt))
  | [], a => by
    have : (keepG (fun _ => false) rt : ObsG β → _) = some := by funext x; simp [keepG]
    simp [this]
  | id :: ids, a => by
    refine (foldl_obsG obs step rt h ids (step a id)).trans (((h a id).filterMap _).trans (List.Perm.of_eq ?_))
    rw [List.filterMap_filterMap]
    apply filterMap_congr'
    intro x _
    rw [keepG_bind]
    simp [keepG, List.mem_cons]

/- ## the root -/

/-- what the tests of `RemoveEdges` see of the root: no neighbour, a tip, spared branches -/
def rootClass (rr : Bool) (t : T) : Bool × Bool × Bool :=
  (t.kids.length == 0, t.kids.length == 1, !rr && t.kids.length == 2)

/-- what the loop does to a root branch that is not contracted: `SetLength(0.0)` when it carries the id,
    is terminal (`leaf`) and `removeTips` is set -/
def rootEdge1 (rt : Bool) (id : Int) (leaf : Bool) (e : EdgeD) : EdgeD :=
  if e.id == id && leaf && rt then zeroLen e else e

def rootEdge (rt : Bool) (leaf : Bool) (ids : List Int) (e : EdgeD) : EdgeD :=
  if e.id ∈ ids ∧ leaf = true ∧ rt = true then zeroLen e else e

theorem rootEdge_cons (rt : Bool) (leaf : Bool) (id : Int) (ids : List Int) (e : EdgeD) :
    rootEdge rt leaf ids (rootEdge1 rt id leaf e) = rootEdge rt leaf (id :: ids) e := by
  unfold rootEdge rootEdge1
  by_cases h1 : e.id = id
  · subst h1
    cases leaf <;> cases rt <;> simp [zeroLen_id, zeroLen_idem]
  · have : (e.id == id) = false := by simpa using h1
    simp [this, h1]

/-- the loop seen from inside a subtree hanging off a node that is not contracted -/
def belowAllR (rr rt : Bool) (ids : List Int) (c : T) : T :=
  ids.foldl (fun c id => contractT rr rt id false c) c

/-- A node that is a tip (the root with one neighbour) or whose branches are spared (the root with two
    neighbours, no `removeRoot`) keeps all its children where they are. -/
theorem contractL_kept (rr rt : Bool) (id : Int) (deg : Nat) (h : (deg == 1 || (!rr && deg == 2)) = true) :
    ∀ k : Kids, contractL rr rt id deg k =
      ((k.map fun x => (rootEdge1 rt id (x.2.isLeaf || deg == 1) x.1, contractT rr rt id false x.2)).map some, [])
  | [] => rfl
  | (e, c) :: r => by
    rw [contractL_cons, contractL_kept rr rt id deg h r]
    cases hid : (e.id == id)
    · simp only [rootEdge1, hid, Bool.false_eq_true, if_false, List.map_cons, Bool.false_and]
    · cases htip : (c.isLeaf || deg == 1)
      · have hsp : (!rr && deg == 2) = true := by
          simp only [Bool.or_eq_false_iff] at htip
          simpa [htip.2] using h
        simp only [rootEdge1, hid, htip, hsp, if_true, Bool.false_eq_true, if_false, List.map_cons, Bool.and_false,
          Bool.false_and]
      · simp only [rootEdge1, hid, htip, if_true, List.map_cons, Bool.true_and]

theorem nNone_map_some (k : Kids) (p : Nat) : nNone ((k.map some).take p) = 0 := by
  unfold nNone
  rw [List.length_eq_zero_iff, List.filter_eq_nil_iff]
  intro x hx
  obtain ⟨y, _, rfl⟩ := List.mem_map.mp (List.mem_of_mem_take hx)
  simp

theorem stayKids_map_some (k : Kids) : stayKids (k.map some) = k := by
  induction k with
  | nil => rfl
  | cons x r ih => simp [ih]

theorem contractT_kept (rr rt : Bool) (id : Int) (d : NodeD) (p : Nat) (k : Kids)
    (h : (k.length == 1 || (!rr && k.length == 2)) = true) :
    contractT rr rt id true (.node d p k) =
      .node d p (k.map fun x => (rootEdge1 rt id (x.2.isLeaf || k.length == 1) x.1, contractT rr rt id false x.2)) := by
  have hk := contractL_kept rr rt id k.length h k
  rw [contractT_node]
  simp only [if_true, Nat.add_zero, Bool.not_true, Bool.or_false, hk, List.append_nil]
  rw [nNone_map_some, stayKids_map_some, Nat.sub_zero]

theorem removeEdges_kept (rr rt : Bool) (d : NodeD) (p : Nat) : ∀ (ids : List Int) (k : Kids),
    (k.length == 1 || (!rr && k.length == 2)) = true →
    removeEdges rr rt ids (.node d p k) =
      .node d p (k.map fun x => (rootEdge rt (x.2.isLeaf || k.length == 1) ids x.1, belowAllR rr rt ids x.2))
  | [], k, _ => by
    have : k.map (fun x => (rootEdge rt (x.2.isLeaf || k.length == 1) [] x.1, belowAllR rr rt [] x.2)) = k := by
      simp [rootEdge, belowAllR]
    rw [this]; rfl
  | id :: ids, k, h => by
    rw [removeEdges_cons, contractT_kept rr rt id d p k h,
      removeEdges_kept rr rt d p ids _ (by simpa using h), List.map_map]
    congr 1
    apply List.map_congr_left
    intro x _
    simp only [Function.comp, List.length_map, (contractT_leaves rr rt id false x.2).2, rootEdge_cons]
    rfl

theorem contractT_rootClass (rr rt : Bool) (id : Int) (t : T) :
    rootClass rr (contractT rr rt id true t) = rootClass rr t := by
  cases t with
  | node d p k =>
    by_cases h : (k.length == 1 || (!rr && k.length == 2)) = true
    · rw [contractT_kept rr rt id d p k h]; simp [rootClass]
    · have hle := contractL_len (rr || !true) rt id (k.length + (if true = true then 0 else 1)) k
      have h1 : k.length ≠ 1 := fun e => h (by simp [e])
      have h2 : rr = true ∨ k.length ≠ 2 := by
        cases rr
        · exact Or.inr fun e => h (by simp [e])
        · exact Or.inl rfl
      unfold rootClass
      rw [contractT_kids, T.kids_node]
      by_cases h0 : k = []
      · subst h0; simp [newKids_nil]
      · have hpos : k.length ≠ 0 := by simpa using h0
        -- at least two children, and three unless `removeRoot`: all three tests fail, before and after
        have e : ∀ n, k.length ≤ n → (n == 0, n == 1, !rr && n == 2) = (false, false, false) := by
          intro n hn
          rw [beq_eq_false_iff_ne.mpr (by omega), beq_eq_false_iff_ne.mpr (by omega)]
          rcases h2 with h2 | h2
          · rw [h2]; rfl
          · rw [beq_eq_false_iff_ne.mpr (by omega), Bool.and_false]
        rw [e _ hle, e _ (Nat.le_refl _)]

theorem removeEdges_rootClass (rr rt : Bool) : ∀ (ids : List Int) (t : T),
    rootClass rr (removeEdges rr rt ids t) = rootClass rr t
  | [], _ => rfl
  | id :: ids, t => by
    rw [removeEdges_cons, removeEdges_rootClass rr rt ids, contractT_rootClass]

theorem removeEdges_kids_len (rr rt : Bool) : ∀ (ids : List Int) (t : T),
    t.kids.length ≤ (removeEdges rr rt ids t).kids.length
  | [], t => by simp [removeEdges]
  | id :: ids, t => by
    rw [removeEdges_cons]
    have ih := removeEdges_kids_len rr rt ids (contractT rr rt id true t)
    cases t with
    | node d p k =>
      rw [contractT_kids] at ih
      have := contractL_len (rr || !true) rt id (k.length + (if true = true then 0 else 1)) k
      simp only [T.kids_node]
      omega

/-- a root that is a tip stays one: its single branch is a terminal branch -/
theorem removeEdges_kids_one (rr rt : Bool) (ids : List Int) (t : T) :
    ((removeEdges rr rt ids t).kids.length == 1) = (t.kids.length == 1) :=
  congrArg (·.2.1) (removeEdges_rootClass rr rt ids t)

theorem removeEdges_leaves (rr rt : Bool) : ∀ (ids : List Int) (t : T),
    (removeEdges rr rt ids t).leaves.Perm t.leaves ∧ (removeEdges rr rt ids t).d = t.d
  | [], t => by simp [removeEdges]
  | id :: ids, t => by
    rw [removeEdges_cons]
    have ih := removeEdges_leaves rr rt ids (contractT rr rt id true t)
    exact ⟨ih.1.trans (contractT_leaves rr rt id true t).1, ih.2.trans (contractT_d rr rt id true t)⟩

/-- "Never a tip", for every tree: the tip names — the root included when it has a single neighbour —
    are the same before and after, whatever the branches, their order and the flags. -/
theorem removeEdges_tipNames (rr rt : Bool) (ids : List Int) (t : T) :
    (removeEdges rr rt ids t).tipNames.Perm t.tipNames := by
  have e : ∀ u : T, u.isLeaf = (u.kids.length == 0) := fun u => by unfold T.isLeaf; cases u.kids <;> rfl
  refine tipNames_perm (removeEdges_leaves rr rt ids t).1 ?_ (removeEdges_leaves rr rt ids t).2 (removeEdges_kids_one rr rt ids t)
  rw [e, e]
  exact congrArg (·.1) (removeEdges_rootClass rr rt ids t)

/-- `RemoveEdges` keeps "no single-child inner node" (for clients: C03) -/
theorem removeEdges_noSingle (rr rt : Bool) : ∀ (ids : List Int) (t : T), t.noSingle = true →
    (removeEdges rr rt ids t).noSingle = true
  | [], t, h => by simpa [removeEdges] using h
  | id :: ids, t, h => by
    rw [removeEdges_cons]
    apply removeEdges_noSingle rr rt ids
    obtain ⟨d, p, k⟩ := t
    simp only [T.noSingle, T.kids_node] at h
    simp only [T.noSingle, contractT_kids]
    exact (contractL_ns _ rt id _ k h).1

/- ## what is left of the branches -/

theorem contractT_root_obsG {β : Type} (f : List String → β) (hf : PermInv f) (rr rt : Bool) (id : Int) (t : T) :
    (obsGRoot f rr (contractT rr rt id true t)).Perm ((obsGRoot f rr t).filterMap (keepG (·.2.1.id == id) rt)) := by
  have hc := contractT_rootClass rr rt id t
  have h1 : ((contractT rr rt id true t).kids.length == 1) = (t.kids.length == 1) := congrArg (·.2.1) hc
  have h2 : (!rr && (contractT rr rt id true t).kids.length == 2) = (!rr && t.kids.length == 2) :=
    congrArg (·.2.2) hc
  unfold obsGRoot
  rw [h1, h2]
  cases t with
  | node d p k =>
    rw [contractT_kids]
    simpa using contractL_obsG f hf rr rt id k.length k

/-- ★ On EVERY tree, with any flags, any branches in any order: seen with the two flags of the root, the
    branches after `RemoveEdges` are those before, each treated by `keepG` according to whether its id
    is listed. -/
theorem removeEdges_obsG {β : Type} (f : List String → β) (hf : PermInv f) (rr rt : Bool) (ids : List Int) (t : T) :
    (obsGRoot f rr (removeEdges rr rt ids t)).Perm
      ((obsGRoot f rr t).filterMap (keepG (fun y => decide (y.2.1.id ∈ ids)) rt)) :=
  foldl_obsG (obsGRoot f rr) _ rt (fun t id => contractT_root_obsG f hf rr rt id t) ids t

theorem obsGRoot_plain {β : Type} (f : List String → β) (rr : Bool) (t : T)
    (e1 : (t.kids.length == 1) = false) (e2 : (!rr && t.kids.length == 2) = false) :
    obsGRoot f rr t = (obsT f t).map (·, false, false) := by
  rw [obsGRoot, e1, e2, obsGL_plain, obsT_kids]

/-- … so when the root is no tip and nothing is spared (`removeRoot`, or a root that has not two
    neighbours), before and after, the plain observation list is filtered by `keepV` -/
theorem plain_of_obsGRoot {β : Type} (f : List String → β) (p : β × EdgeD × Bool → Bool) (rr rt : Bool) {t' t : T}
    (hc : rootClass rr t' = rootClass rr t) (h1 : t.kids.length ≠ 1) (h2 : rr = true ∨ t.kids.length ≠ 2)
    (h : (obsGRoot f rr t').Perm ((obsGRoot f rr t).filterMap (keepG p rt))) :
    (obsT f t').Perm ((obsT f t).filterMap (keepV p rt)) := by
  have e1 : (t.kids.length == 1) = false := beq_eq_false_iff_ne.mpr h1
  have e2 : (!rr && t.kids.length == 2) = false := by
    rcases h2 with h | h <;> simp [h]
  apply plain_of_flagged
  rwa [obsGRoot_plain f rr t' ((congrArg (·.2.1) hc).trans e1) ((congrArg (·.2.2) hc).trans e2),
    obsGRoot_plain f rr t e1 e2] at h

/-- The hypothesis of the exactness theorems: the root is not a tip (a root with a single neighbour
    makes its branch a terminal branch, which the tip flag of the observation does not show), and
    the skip test of `RemoveEdges` never fires anywhere in the tree, now and after any number of
    contractions: `removeRoot`, or an unrooted tree (root of degree ≥ 3) without single-child inner
    nodes. -/
def RootOK (rr : Bool) (t : T) : Prop :=
  t.kids.length ≠ 1 ∧ (rr = true ∨ (3 ≤ t.kids.length ∧ t.noSingle = true))

theorem removeEdges_obs {β : Type} (f : List String → β) (hf : PermInv f) (rr rt : Bool) (ids : List Int) (t : T)
    (h : RootOK rr t) :
    (obsT f (removeEdges rr rt ids t)).Perm ((obsT f t).filterMap (keepV (fun y => decide (y.2.1.id ∈ ids)) rt)) :=
  plain_of_obsGRoot f _ rr rt (removeEdges_rootClass rr rt ids t) h.1 (h.2.imp id fun h3 => by omega)
    (removeEdges_obsG f hf rr rt ids t)

theorem rootOK_removeEdges (rr rt : Bool) (ids : List Int) (t : T) (h : RootOK rr t) :
    RootOK rr (removeEdges rr rt ids t) := by
  have hlen := removeEdges_kids_len rr rt ids t
  refine ⟨?_, h.2.imp id fun h3 => ⟨by omega, removeEdges_noSingle rr rt ids t h3.2⟩⟩
  have := removeEdges_kids_one rr rt ids t
  rw [beq_eq_false_iff_ne.mpr h.1] at this
  exact beq_eq_false_iff_ne.mp this

theorem belowAllR_leaves (rr rt : Bool) : ∀ (ids : List Int) (c : T),
    (belowAllR rr rt ids c).leaves.Perm c.leaves ∧ (belowAllR rr rt ids c).isLeaf = c.isLeaf ∧ (belowAllR rr rt ids c).d = c.d
  | [], c => by simp [belowAllR]
  | id :: ids, c => by
    have ih := belowAllR_leaves rr rt ids (contractT rr rt id false c)
    have h1 := contractT_leaves rr rt id false c
    exact ⟨ih.1.trans h1.1, ih.2.1.trans h1.2, ih.2.2.trans (contractT_d rr rt id false c)⟩

/- ## a selection read as a list of branch ids -/

/-- the observation list and the split list of Core are parallel -/
theorem obs_partner {β : Type} (f : List String → β) (t : T) (x : Obs β) (hx : x ∈ obsT f t) :
    ∃ s ∈ t.splits, (f s.below, s.e, s.tip) = (x.1, x.2.1, x.2.2.1) := by
  have hx' := List.mem_map_of_mem (f := fun x : Obs β => (x.1, x.2.1, x.2.2.1)) hx
  rw [obsT_kids, ← splitsL_obs f t.kids] at hx'
  exact List.mem_map.mp hx'

theorem obs_of_split {β : Type} (f : List String → β) (t : T) (s : SplitE) (hs : s ∈ t.splits) :
    ∃ x ∈ obsT f t, (f s.below, s.e, s.tip) = (x.1, x.2.1, x.2.2.1) := by
  have hs' : (f s.below, s.e, s.tip) ∈ (splitsL t.kids).map (fun s => (f s.below, s.e, s.tip)) :=
    List.mem_map.mpr ⟨s, hs, rfl⟩
  rw [splitsL_obs f t.kids] at hs'
  obtain ⟨x, hx, he⟩ := List.mem_map.mp hs'
  rw [← obsT_kids] at hx
  exact ⟨x, hx, he.symm⟩

theorem obsG_partner {β : Type} (f : List String → β) (rr : Bool) (t : T) (x : ObsG β) (hx : x ∈ obsGRoot f rr t) :
    ∃ s ∈ t.splits, (f s.below, s.e, s.tip) = (x.1.1, x.1.2.1, x.1.2.2.1) := by
  apply obs_partner f t x.1
  rw [obsT_kids, ← obsGL_fst f (t.kids.length == 1) (!rr && t.kids.length == 2) t.kids]
  exact List.mem_map.mpr ⟨x, hx, rfl⟩

theorem eq_of_nodup_map {α γ : Type} (g : α → γ) : ∀ (l : List α), (l.map g).Nodup → ∀ a ∈ l, ∀ b ∈ l, g a = g b → a = b
  | [], _, a, ha, _, _, _ => by cases ha
  | x :: l, hn, a, ha, b, hb, hg => by
    simp only [List.map_cons, List.nodup_cons, List.mem_map, not_exists, not_and] at hn
    rcases List.mem_cons.mp ha with rfl | ha'
    · rcases List.mem_cons.mp hb with rfl | hb'
      · rfl
      · exact absurd hg.symm (hn.1 b hb')
    · rcases List.mem_cons.mp hb with rfl | hb'
      · exact absurd hg (hn.1 a ha')
      · exact eq_of_nodup_map g l hn.2 a ha' b hb' hg

/-- With unique branch ids, "the id of the branch is among those of the selected branches" is "the
    branch is selected". -/
theorem mem_selIds (sel : SplitE → Bool) (t : T) (hid : uniqueIds t = true) (s : SplitE) (hs : s ∈ t.splits) :
    s.e.id ∈ (t.splits.filter sel).map (·.e.id) ↔ sel s = true := by
  have hnd : (t.splits.map (·.e.id)).Nodup := by simpa [uniqueIds] using hid
  constructor
  · intro hm
    obtain ⟨s', hsf, hsid⟩ := List.mem_map.mp hm
    have hsm := List.mem_filter.mp hsf
    rw [← eq_of_nodup_map (·.e.id) t.splits hnd s' hsm.1 s hs hsid]; exact hsm.2
  · intro hv
    exact List.mem_map.mpr ⟨s, List.mem_filter.mpr ⟨hs, hv⟩, rfl⟩

/-- … so on what is observed of a branch of `t`, membership of its id is the selection `selV` -/
theorem selV_of_ids {β : Type} (f : List String → β) (sel : SplitE → Bool) (selV : β × EdgeD × Bool → Bool) (t : T)
    (hsel : ∀ s ∈ t.splits, sel s = selV (f s.below, s.e, s.tip)) (hid : uniqueIds t = true)
    (y : β × EdgeD × Bool) (hy : ∃ s ∈ t.splits, (f s.below, s.e, s.tip) = y) :
    decide (y.2.1.id ∈ (t.splits.filter sel).map (·.e.id)) = selV y := by
  obtain ⟨s, hs, rfl⟩ := hy
  rw [← hsel s hs, Bool.eq_iff_iff, decide_eq_true_iff]
  exact mem_selIds sel t hid s hs

theorem selG_congr {β : Type} (f : List String → β)
    (sel : SplitE → Bool) (selV : β × EdgeD × Bool → Bool) (rt : Bool) (t : T)
    (hsel : ∀ s ∈ t.splits, sel s = selV (f s.below, s.e, s.tip))
    (hid : uniqueIds t = true) (L : List (ObsG β))
    (hL : ∀ x ∈ L, ∃ s ∈ t.splits, (f s.below, s.e, s.tip) = (x.1.1, x.1.2.1, x.1.2.2.1)) :
    L.filterMap (keepG (fun y => decide (y.2.1.id ∈ (t.splits.filter sel).map (·.e.id))) rt) =
      L.filterMap (keepG selV rt) := by
  apply filterMap_congr'
  intro x hx
  have h := selV_of_ids f sel selV t hsel hid _ (hL x hx)
  dsimp only at h
  simp only [keepG, h]

/-- ★ `collapse`, on every tree with unique branch ids: the flagged branch list is filtered by the
    criterion. -/
theorem collapse_obsG {β : Type} (f : List String → β) (hf : PermInv f)
    (sel : SplitE → Bool) (selV : β × EdgeD × Bool → Bool) (rr rt : Bool) (t : T)
    (hsel : ∀ s ∈ t.splits, sel s = selV (f s.below, s.e, s.tip)) (hid : uniqueIds t = true) :
    (obsGRoot f rr (collapse sel rr rt t)).Perm ((obsGRoot f rr t).filterMap (keepG selV rt)) :=
  (removeEdges_obsG f hf rr rt _ t).trans (List.Perm.of_eq (selG_congr f sel selV rt t hsel hid _ (obsG_partner f rr t)))

/-- … the plain one when the root is no tip and nothing is spared -/
theorem collapse_obs {β : Type} (f : List String → β) (hf : PermInv f)
    (sel : SplitE → Bool) (selV : β × EdgeD × Bool → Bool) (rr rt : Bool) (t : T)
    (hsel : ∀ s ∈ t.splits, sel s = selV (f s.below, s.e, s.tip)) (hid : uniqueIds t = true)
    (h1 : t.kids.length ≠ 1) (h2 : rr = true ∨ t.kids.length ≠ 2) :
    (obsT f (collapse sel rr rt t)).Perm ((obsT f t).filterMap (keepV selV rt)) :=
  plain_of_obsGRoot f selV rr rt (removeEdges_rootClass rr rt _ t) h1 h2 (collapse_obsG f hf sel selV rr rt t hsel hid)

/-- … and below a root branch that is not contracted the loop of `collapse` removes exactly the selected
    inner branches -/
theorem belowAllR_sel {β : Type} (f : List String → β) (hf : PermInv f)
    (sel : SplitE → Bool) (selV : β × EdgeD × Bool → Bool) (rr rt : Bool) (t : T)
    (hsel : ∀ s ∈ t.splits, sel s = selV (f s.below, s.e, s.tip)) (hid : uniqueIds t = true)
    (e : EdgeD) (c : T) (hk : (e, c) ∈ t.kids) :
    (obsT f (belowAllR rr rt ((t.splits.filter sel).map (·.e.id)) c)).Perm ((obsT f c).filterMap (keepV selV rt)) := by
  apply plain_of_flagged
  rw [← obsGT_plain, ← obsGT_plain]
  refine (foldl_obsG (obsGT f) _ rt (fun a id => contractT_obsG f hf rr rt id a) _ c).trans (List.Perm.of_eq ?_)
  apply selG_congr f sel selV rt t hsel hid
  intro x hx
  rw [obsGT_plain] at hx
  obtain ⟨y, hy, rfl⟩ := List.mem_map.mp hx
  obtain ⟨s, hs, he⟩ := obs_partner f c y hy
  exact ⟨s, mem_splitsL_of_below hk hs, he⟩

/- ## histories: what a collapse leaves is what the next one needs -/

/-- the branch ids, read off the observation list -/
theorem ids_of_obsG {β : Type} (f : List String → β) (rr : Bool) (t : T) :
    t.splits.map (·.e.id) = (obsGRoot f rr t).map (·.1.2.1.id) := by
  have h := congrArg (List.map (fun y : β × EdgeD × Bool => y.2.1.id)) (splitsL_obs f t.kids)
  rw [← obsGL_fst f (t.kids.length == 1) (!rr && t.kids.length == 2)] at h
  unfold T.splits obsGRoot
  simpa [List.map_map, Function.comp_def] using h

/-- a filter that keeps the id of what it keeps yields a sublist of the ids -/
theorem ids_sublist {α : Type} (i : α → Int) (g : α → Option α) (hg : ∀ x y, g x = some y → i y = i x) :
    ∀ L : List α, ((L.filterMap g).map i).Sublist (L.map i)
  | [] => by simp
  | x :: r => by
    have ih := ids_sublist i g hg r
    rw [List.filterMap_cons]
    cases hx : g x with
    | none => simpa using ih.cons _
    | some y =>
      simp only [List.map_cons]
      rw [hg x y hx]
      exact ih.cons_cons _

theorem keepG_id {β : Type} (p : β × EdgeD × Bool → Bool) (rt : Bool) (x y : ObsG β) (h : keepG p rt x = some y) :
    y.1.2.1.id = x.1.2.1.id := by
  unfold keepG hitG at h
  split at h
  · split at h
    · cases h; cases rt <;> rfl
    · split at h <;> cases h; rfl
  · cases h; rfl

/-- `RemoveEdges` leaves the branch ids pairwise distinct -/
theorem uniqueIds_removeEdges (rr rt : Bool) (ids : List Int) (t : T) (hid : uniqueIds t = true) :
    uniqueIds (removeEdges rr rt ids t) = true := by
  have hp := removeEdges_obsG (fun _ => ()) (fun _ _ _ => rfl) rr rt ids t
  have hnd : (t.splits.map (·.e.id)).Nodup := by simpa [uniqueIds] using hid
  rw [ids_of_obsG (fun _ => ()) rr] at hnd
  have hnd' := (ids_sublist (·.1.2.1.id) (keepG (fun y => decide (y.2.1.id ∈ ids)) rt) (keepG_id _ rt) _).nodup hnd
  have := (hp.map (·.1.2.1.id)).nodup_iff.mpr hnd'
  rw [← ids_of_obsG] at this
  simpa [uniqueIds] using this

/-- what two successive selections do to one observed branch -/
def keepV2 {β : Type} (selV1 selV2 : β × EdgeD × Bool → Bool) (rt1 rt2 : Bool) (x : Obs β) : Option (Obs β) :=
  (keepV selV1 rt1 x).bind (keepV selV2 rt2)

/-- selecting twice by the same criterion is selecting once -/
theorem keepV_idem {β : Type} (selV : β × EdgeD × Bool → Bool) (rt : Bool) (x : Obs β) :
    keepV2 selV selV rt rt x = keepV selV rt x := by
  obtain ⟨a, e, tip, nd⟩ := x
  unfold keepV2 keepV
  cases h1 : selV (a, e, tip) <;> cases tip <;> cases rt <;> simp [h1, zeroLen_idem]

/-- … so a list filtered twice by one criterion is the list filtered once -/
theorem perm_of_keepV_twice {β : Type} {selV : β × EdgeD × Bool → Bool} {rt : Bool} {A B L : List (Obs β)}
    (p : A.Perm (L.filterMap (keepV2 selV selV rt rt))) (q : B.Perm (L.filterMap (keepV selV rt))) : A.Perm B :=
  p.trans ((List.Perm.of_eq (filterMap_congr' _ _ _ fun x _ => keepV_idem selV rt x)).trans q.symm)

end Gotree.C07

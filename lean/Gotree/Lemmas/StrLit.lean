/-
  String literals under kernel evaluation.

  The kernel knows a literal `"abc"` only as `String.ofList ['a', 'b', 'c']`.  Everything it then does with the
  string goes through the UTF-8 bytes: `String.decEq` encodes both sides (a few thousand heartbeats per character),
  and `String.toList` decodes the bytes again position by position, which is quadratic in the length (a document of
  100 characters: 5 · 10⁶ heartbeats before the first step of whatever reads it).  Two ways round it:

  * a goal that says a regenerated table IS the reviewed one (`Gen.… = expected…`) is closed by `rfl`: the
    definitional check compares two literals as literals and never encodes them;
  * a goal that evaluates a reader on `"…".toList` is first rewritten with `String.toList_lit`, whose hypothesis is
    closed by `rfl` (the kernel's own unfolding of the literal), so that evaluation starts from the list of characters.
-/
namespace String

theorem toList_lit {s : String} {l : List Char} (h : s = String.ofList l) : s.toList = l := by
  subst h; exact String.toList_ofList

end String

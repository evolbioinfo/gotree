/-
  C15 — the vocabulary shared by the lemma files of C15 (shapes of the enumerations, separation,
  one child among its siblings) and `Merge`.  Core Lean only.
-/
import Gotree.Spec.C15
import Gotree.Lemmas.C05Splits

namespace Gotree.C15
open Gotree Gotree.C14

attribute [simp] T.splitsBelow_node

theorem leaves_node_nil (d : NodeD) (p : Nat) : (T.node d p []).leaves = [d.name] := rfl

theorem leaves_eq_of_kids_nil (t : T) (h : t.kids = []) : t.leaves = [t.name] := T.leaves_of_kids_nil h

theorem dist_def (t : T) (a b : String) : t.dist a b = distW EdgeD.lenOr0 (splitsL t.kids) a b := rfl

/-- `Tree.Edges()` below a list of children -/
def edgesL (k : Kids) : List EdgeD := (splitsL k).map (·.e)

theorem edges_def (t : T) : t.edges = edgesL t.kids := rfl

/-! ## separation -/

theorem sep_of_both_in (s : SplitE) (a b : String) (ha : a ∈ s.below) (hb : b ∈ s.below) : s.sep a b = false := by
  simp [SplitE.sep, ha, hb]

theorem sep_of_both_out (s : SplitE) (a b : String) (ha : a ∉ s.below) (hb : b ∉ s.below) : s.sep a b = false := by
  simp [SplitE.sep, ha, hb]

/-- separation only depends on membership -/
theorem sep_congr (s s' : SplitE) (a b a' b' : String) (ha : a' ∈ s'.below ↔ a ∈ s.below) (hb : b' ∈ s'.below ↔ b ∈ s.below) :
    s'.sep a' b' = s.sep a b := by
  simp only [SplitE.sep, List.contains_eq_mem]
  by_cases h1 : a ∈ s.below <;> by_cases h2 : b ∈ s.below <;> simp [h1, h2, ha, hb]

theorem sep_of_perm {s s' : SplitE} (h : s'.below.Perm s.below) (a b : String) : s'.sep a b = s.sep a b :=
  sep_congr s s' a b a b h.mem_iff h.mem_iff

/-- two names below one child and below none of its siblings: only that child's branches lie between them -/
theorem distW_into_kid (w : EdgeD → Rat) (pre post : Kids) (e : EdgeD) (c : T) (a b : String)
    (ha : a ∈ c.leaves) (hb : b ∈ c.leaves) (hpre : a ∉ leavesL pre ∧ b ∉ leavesL pre)
    (hpost : a ∉ leavesL post ∧ b ∉ leavesL post) :
    distW w (splitsL (pre ++ (e, c) :: post)) a b = distW w c.splitsBelow a b := by
  rw [splitsL_append, splitsL_cons, distW_append, distW_cons, distW_append,
    distW_both_out w (splitsL pre) a b (out_of_subL _ _ hpre.1) (out_of_subL _ _ hpre.2),
    distW_both_out w (splitsL post) a b (out_of_subL _ _ hpost.1) (out_of_subL _ _ hpost.2),
    sep_of_both_in _ a b ha hb]
  simp [Rat.zero_add, Rat.add_zero]

/-! ## Merge -/

theorem merge_ok {i1 i2 : Bool} {t t2 t' : T} (h : merge i1 i2 t t2 = .ok t') :
    t.rooted = true ∧ t2.rooted = true ∧ (t.tipNames.any (t2.tipNames.contains ·)) = false ∧
    t' = .node ⟨"", []⟩ 0 [(EdgeD.blank, .node t.d t.kids.length t.kids), (EdgeD.blank, .node t2.d t2.kids.length t2.kids)] := by
  unfold merge at h
  split at h
  · cases h
  · split at h
    · cases h
    · split at h
      · cases h
      · rename_i h1 h2 h3
        simp only [Bool.not_eq_true', Bool.and_eq_false_iff] at h1
        injection h with h
        refine ⟨?_, ?_, by simpa using h3, h.symm⟩
        · cases hr : t.rooted <;> simp_all
        · cases hr : t2.rooted <;> simp_all

theorem rooted_kids_ne {t : T} (h : t.rooted = true) : t.kids ≠ [] := by
  intro h0; simp [T.rooted, h0] at h

theorem merge_disjoint {t t2 : T} (hr : t.rooted = true) (hr2 : t2.rooted = true)
    (hd : (t.tipNames.any (t2.tipNames.contains ·)) = false) : ∀ x ∈ leavesL t.kids, x ∉ leavesL t2.kids := by
  rw [T.tipNames_of_rooted hr, T.tipNames_of_rooted hr2] at hd
  intro x hx hx2
  have := List.any_eq_false.mp hd x hx
  simp [hx2] at this

/-- each old root hangs below the new one, beside a sibling that shares no tip with it -/
theorem merge_dist_left {i1 i2 : Bool} {t t2 t' : T} (h : merge i1 i2 t t2 = .ok t') (a b : String)
    (ha : a ∈ t.tipNames) (hb : b ∈ t.tipNames) : t'.dist a b = t.dist a b := by
  obtain ⟨hr, hr2, hd, rfl⟩ := merge_ok h
  have hdj := merge_disjoint hr hr2 hd
  rw [T.tipNames_of_rooted hr] at ha hb
  have hl := T.leaves_node_ne t.d t.kids.length (rooted_kids_ne hr)
  have hl2 := T.leaves_node_ne t2.d t2.kids.length (rooted_kids_ne hr2)
  simpa [dist_def] using distW_into_kid EdgeD.lenOr0 [] [(EdgeD.blank, .node t2.d t2.kids.length t2.kids)] EdgeD.blank
    (.node t.d t.kids.length t.kids) a b (hl ▸ ha) (hl ▸ hb) ⟨by simp [leavesL], by simp [leavesL]⟩
    ⟨by simpa [leavesL, hl2] using hdj a ha, by simpa [leavesL, hl2] using hdj b hb⟩

theorem merge_dist_right {i1 i2 : Bool} {t t2 t' : T} (h : merge i1 i2 t t2 = .ok t') (a b : String)
    (ha : a ∈ t2.tipNames) (hb : b ∈ t2.tipNames) : t'.dist a b = t2.dist a b := by
  obtain ⟨hr, hr2, hd, rfl⟩ := merge_ok h
  have hdj := merge_disjoint hr hr2 hd
  rw [T.tipNames_of_rooted hr2] at ha hb
  have hl := T.leaves_node_ne t.d t.kids.length (rooted_kids_ne hr)
  have hl2 := T.leaves_node_ne t2.d t2.kids.length (rooted_kids_ne hr2)
  simpa [dist_def] using distW_into_kid EdgeD.lenOr0 [(EdgeD.blank, .node t.d t.kids.length t.kids)] [] EdgeD.blank
    (.node t2.d t2.kids.length t2.kids) a b (hl2 ▸ ha) (hl2 ▸ hb)
    ⟨by simpa [leavesL, hl] using fun h0 => hdj a h0 ha, by simpa [leavesL, hl] using fun h0 => hdj b h0 hb⟩
    ⟨by simp [leavesL], by simp [leavesL]⟩

theorem merge_tipNames {i1 i2 : Bool} {t t2 t' : T} (h : merge i1 i2 t t2 = .ok t') :
    t'.tipNames = t.tipNames ++ t2.tipNames := by
  obtain ⟨hr, hr2, _, rfl⟩ := merge_ok h
  rw [T.tipNames_of_rooted hr, T.tipNames_of_rooted hr2]
  simp [T.tipNames, leavesL, T.leaves_node_ne t.d _ (rooted_kids_ne hr), T.leaves_node_ne t2.d _ (rooted_kids_ne hr2)]

end Gotree.C15

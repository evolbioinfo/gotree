/-
  C01 — the parser on the text the writer emits, at character level: one turn of `run` for each piece (`run_tok` and its
  instances), the invariant for a child (`KidOK`, `kid_ok`), blanks between trees, the round trip with any input behind
  the text (`parseR_write`); `sameTree` and the writer do not look at ids and parent positions.  Core Lean only.
-/
import Gotree.Spec.C01
import Gotree.Lemmas.C01Machine

namespace Gotree.Newick
open Gotree Gotree.C01

/- ## characters -/

theorem isIdent_true_of_ne (c : Char) (h : (c == ']') = false) (h2 : isIdent true c = false) :
    c = '[' ∨ c = '(' ∨ c = ')' ∨ c = ',' ∨ c = ':' := by
  rcases isIdent_false true c h2 with h1 | h1 | h1 | h1 | h1 | h1 | h1 <;> simp_all

theorem isIdent_of_notMeta (c : Char) (h : isMeta c = false) : isIdent false c = true := by
  simp [isMeta] at h
  simp [isIdent, h]

theorem numClean_ident (c : Char) (h : numClean c = true) : isIdent false c = true := by
  simp [numClean] at h
  simp [isIdent, h]

theorem numClean_notWs (c : Char) (h : numClean c = true) : isWhitespace c = false := by
  simp [numClean] at h
  simp [isWhitespace, h]

theorem numClean_notSlash (c : Char) (h : numClean c = true) : (c == '/') = false := by
  simp [numClean] at h
  simp [h]

/- ## takeWhile / dropWhile up to a stopper -/

theorem takeWhile_append_stop {α} (p : α → Bool) (w : List α) (d : α) (r : List α)
    (hw : w.all p = true) (hd : p d = false) : (w ++ d :: r).takeWhile p = w := by
  rw [List.takeWhile_append_of_pos (List.all_eq_true.1 hw), List.takeWhile_cons_of_neg (by simp [hd]), List.append_nil]

theorem dropWhile_append_stop {α} (p : α → Bool) (w : List α) (d : α) (r : List α)
    (hw : w.all p = true) (hd : p d = false) : (w ++ d :: r).dropWhile p = d :: r := by
  rw [List.dropWhile_append_of_pos (List.all_eq_true.1 hw), List.dropWhile_cons_of_neg (by simp [hd])]

/- ## the scanner on the pieces the writer emits -/

/-- the input goes on with a character that ends an identifier -/
def StartsDelim (l : List Char) : Prop := ∃ d r, l = d :: r ∧ isIdent false d = false

def wordTok (C : Codec) (w : List Char) : Tok := if C.isFloat w then .numeric else .ident

theorem wordTok_cases (C : Codec) (w : List Char) : wordTok C w = .numeric ∨ wordTok C w = .ident := by
  unfold wordTok; split <;> simp

theorem scan_word (C : Codec) (c : Char) (w r : List Char)
    (hc : isIdent false c = true) (hws : isWhitespace c = false) (hw : w.all (isIdent false) = true)
    (hr : StartsDelim r) :
    scan C false (c :: w ++ r) = (wordTok C (c :: w), c :: w, r) := by
  obtain ⟨d, r', rfl, hd⟩ := hr
  rw [List.cons_append, scan_ident C false c _ hws hc, takeWhile_append_stop _ w d r' hw hd,
    dropWhile_append_stop _ w d r' hw hd]
  rfl

/- ## comments -/

theorem all_dropWhile {α} (p q : α → Bool) (l : List α) (h : l.all q = true) : (l.dropWhile p).all q = true := by
  rw [List.all_eq_true] at h ⊢
  exact fun x hx => h x ((List.dropWhile_sublist p).subset hx)

/-- `consumeComment` on a text without `]` followed by `]`.  One `scan(true)` takes a non-empty piece of the
    comment and never goes past the `]`, which is neither a blank nor an identifier rune. -/
theorem consumeComment_spec (C : Codec) : ∀ (c : List Char), c.all (fun y => y != ']') = true →
    ∀ acc r, consumeComment C (c ++ ']' :: r) acc = some (acc ++ c, r)
  | [], _, acc, r => by
    rw [consumeComment, List.nil_append, scan_closebrack, if_pos rfl, List.append_nil]
  | x :: c, hc, acc, r => by
    simp only [List.all_cons, Bool.and_eq_true, bne_iff_ne, ne_eq] at hc
    obtain ⟨t, q, hs, hq, -, h2, h3, h4⟩ := scan_cons C true x (c ++ ']' :: r)
    have hq' : q ']' = false := by rcases hq with rfl | rfl | rfl <;> rfl
    rw [takeWhile_append_of_not q c r hq', dropWhile_append_of_not q c r hq'] at hs
    have ih := consumeComment_spec C (c.dropWhile q) (all_dropWhile q _ c hc.2) (acc ++ x :: c.takeWhile q) r
    rw [consumeComment, List.cons_append, hs, if_neg (fun h => hc.1 (h4 h)), dif_neg (by simp [h2, h3]), ih]
    simp [List.takeWhile_append_dropWhile]
termination_by c => c.length
decreasing_by exact Nat.lt_succ_of_le (List.dropWhile_sublist q).length_le

/- ## single turns of the loop on the writer's pieces -/

/-- a token that is not a blank begins at the input position -/
theorem scanIW_of_scan (C : Codec) (inp lit rest : List Char) (t : Tok)
    (hs : scan C false inp = (t, lit, rest)) (ht : t ≠ .ws) : skipWs C inp = inp ∧ scanIW C inp = (t, lit, rest) := by
  have hk : skipWs C inp = inp := by simp [skipWs, hs, ht]
  exact ⟨hk, by rw [scanIW, hk, hs]⟩

/-- a turn on such a token -/
theorem run_tok (C : Codec) (st st' : PState) (inp lit rest r' : List Char) (t : Tok)
    (hs : scan C false inp = (t, lit, rest)) (ht : t ≠ .ws) (he : t ≠ .eof)
    (hi : iter C st t lit inp rest = .cont st' r') : run C st inp = run C st' r' := by
  obtain ⟨hk, h1⟩ := scanIW_of_scan C inp lit rest t hs ht
  apply run_cont
  · rw [h1, hk]; exact hi
  · rw [h1]; exact he

def childFrame (name : String) (n : Nat) : Frame := ⟨⟨name, []⟩, { EdgeD.blank with id := (n : Int) }, []⟩

theorem run_open_child (C : Codec) (F : Frame) (S : List Frame) (L : Int) (pt : Option Tok) (n : Nat) (dn : Option T) (sb : Bool)
    (rest : List Char) (hL : L ≠ 0) :
    run C ⟨F :: S, L, pt, n, dn, sb⟩ ('(' :: rest) =
      run C ⟨childFrame "" n :: F :: S, L + 1, some .openpar, n + 1, dn, sb⟩ rest :=
  run_tok C _ _ _ _ _ _ _ (scan_openpar C false rest) (by decide) (by decide)
    (by simp [iter, PState.nodeNil, PState.pushChild, childFrame, hL])

theorem run_open_root (C : Codec) (pt : Option Tok) (n : Nat) (dn : Option T) (sb : Bool) (rest : List Char) :
    run C ⟨[], 0, pt, n, dn, sb⟩ ('(' :: rest) =
      run C ⟨[⟨⟨"", []⟩, EdgeD.blank, []⟩], 1, some .openpar, n, none, sb⟩ rest :=
  run_tok C _ _ _ _ _ _ _ (scan_openpar C false rest) (by decide) (by decide)
    (by simp [iter, PState.nodeNil, PState.pushRoot])

theorem run_comma (C : Codec) (F p : Frame) (S : List Frame) (L : Int) (pt : Option Tok) (n : Nat) (dn : Option T) (sb : Bool)
    (rest : List Char) :
    run C ⟨F :: p :: S, L, pt, n, dn, sb⟩ (',' :: rest) =
      run C ⟨{ p with kids := p.kids ++ [(F.e, F.toT)] } :: S, L, some .newsibling, n, dn, false⟩ rest :=
  run_tok C _ _ _ _ _ _ _ (scan_comma C false rest) (by decide) (by decide) (by simp [iter, PState.pop])

theorem run_close (C : Codec) (F p : Frame) (S : List Frame) (L : Int) (pt : Option Tok) (n : Nat) (dn : Option T) (sb : Bool)
    (rest : List Char) :
    run C ⟨F :: p :: S, L, pt, n, dn, sb⟩ (')' :: rest) =
      run C ⟨{ p with kids := p.kids ++ [(F.e, F.toT)] } :: S, L - 1, some .closepar, n, dn, false⟩ rest :=
  run_tok C _ _ _ _ _ _ _ (scan_closepar C false rest) (by decide) (by decide) (by simp [iter, PState.pop])

theorem run_semi (C : Codec) (S : List Frame) (pt : Option Tok) (n : Nat) (dn : Option T) (rest : List Char) :
    run C ⟨S, 0, pt, n, dn, false⟩ (';' :: rest) = .ok (⟨S, 0, some .eot, n, dn, false⟩, ';' :: rest) := by
  apply run_stop
  have hk : skipWs C (';' :: rest) = ';' :: rest := rfl
  rw [scanIW, hk, scan_semi]
  simp [iter]

/-- a word is a turn of its own -/
theorem run_word (C : Codec) (st st' : PState) (c : Char) (w rest r' : List Char)
    (hc : isIdent false c = true) (hws : isWhitespace c = false) (hw : w.all (isIdent false) = true)
    (hr : StartsDelim rest)
    (hi : iter C st (wordTok C (c :: w)) (c :: w) (c :: w ++ rest) rest = .cont st' r') :
    run C st (c :: w ++ rest) = run C st' r' := by
  refine run_tok C _ _ _ _ _ _ _ (scan_word C c w rest hc hws hw hr) ?_ ?_ hi <;>
    rcases wordTok_cases C (c :: w) with h | h <;> rw [h] <;> decide

/-- a tip: a word after `(` or `,` -/
theorem run_tip (C : Codec) (F : Frame) (S : List Frame) (L : Int) (pt : Tok) (n : Nat) (dn : Option T) (sb : Bool)
    (c : Char) (w rest : List Char) (hpt : pt = .openpar ∨ pt = .newsibling)
    (hc : isIdent false c = true) (hws : isWhitespace c = false) (hw : w.all (isIdent false) = true)
    (hr : StartsDelim rest) :
    run C ⟨F :: S, L, some pt, n, dn, sb⟩ (c :: w ++ rest) =
      run C ⟨childFrame (String.ofList (c :: w)) n :: F :: S, L, some (wordTok C (c :: w)), n + 1, dn, sb⟩ rest := by
  apply run_word C _ _ c w rest _ hc hws hw hr
  rcases hpt with rfl | rfl <;> rcases wordTok_cases C (c :: w) with h | h <;>
    simp [h, iter, PState.nodeNil, PState.pushChild, childFrame]

/-- `[comment]`: what `consumeComment` hands to the `case OPENBRACK` of the turn -/
theorem run_bracket (C : Codec) (st st' : PState) (c : String) (rest : List Char) (hc : commentOK c = true)
    (hi : ∀ r, consumeComment C r [] = some (c.toList, rest) → iter C st .openbrack ['['] (bracket c ++ rest) r = .cont st' rest) :
    run C st (bracket c ++ rest) = run C st' rest :=
  run_tok C _ _ _ _ _ _ _ (scan_openbrack C false _) (by decide) (by decide)
    (hi _ (by simpa using consumeComment_spec C c.toList hc [] rest))

/-- a node comment -/
theorem run_comment (C : Codec) (F : Frame) (S : List Frame) (L : Int) (pt : Tok) (n : Nat) (dn : Option T) (sb : Bool)
    (c : String) (rest : List Char)
    (hpt : pt = .closepar ∨ pt = .ident ∨ pt = .numeric ∨ pt = .closebrack)
    (hc : commentOK c = true) :
    run C ⟨F :: S, L, some pt, n, dn, sb⟩ (bracket c ++ rest) =
      run C ⟨{ F with d := { F.d with comments := F.d.comments ++ [c] } } :: S, L, some .closebrack, n, dn, false⟩ rest := by
  refine run_bracket C _ _ c rest hc fun r hcc => ?_
  simp only [iter, hcc]
  rcases hpt with rfl | rfl | rfl | rfl <;>
    simp [PState.nodeNil, PState.edgeNil, PState.addNodeComment, PState.modTop, String.ofList_toList]

/-- the branch comment: directly after the length -/
theorem run_ecomment (C : Codec) (F p : Frame) (S : List Frame) (L : Int) (n : Nat) (dn : Option T) (sb : Bool)
    (c : String) (rest : List Char) (hc : commentOK c = true) :
    run C ⟨F :: p :: S, L, some .startlen, n, dn, sb⟩ (bracket c ++ rest) =
      run C ⟨{ F with e := { F.e with comments := F.e.comments ++ [c] } } :: p :: S, L, some .closebrack, n, dn, false⟩ rest := by
  refine run_bracket C _ _ c rest hc fun r hcc => ?_
  simp [iter, hcc, PState.edgeNil, PState.addEdgeComment, PState.modTop, String.ofList_toList]

/- ## blanks (between the trees of one text) -/

/-- the input does not begin with a blank of the lexer -/
def NoLeadWs (l : List Char) : Prop := ∀ c r, l = c :: r → isWhitespace c = false

/-- `scanIgnoreWhitespace` jumps over a run of blanks: the reader stands at the first non-blank character -/
theorem skipWs_ws (C : Codec) (ws rest : List Char) (h : ws.all isWhitespace = true) (hr : NoLeadWs rest) :
    skipWs C (ws ++ rest) = rest := by
  rw [skipWs_eq_dropWhile, List.dropWhile_append_of_pos (List.all_eq_true.1 h)]
  cases rest with
  | nil => rfl
  | cons c r => exact List.dropWhile_cons_of_neg (by simp [hr c r rfl])

/- ## numbers -/

theorem all_imp {α} (p q : α → Bool) (l : List α) (h : l.all p = true) (hpq : ∀ x, p x = true → q x = true) :
    l.all q = true := by
  induction l with
  | nil => simp
  | cons x l ih =>
    simp only [List.all_cons, Bool.and_eq_true] at h ⊢
    exact ⟨hpq x h.1, ih h.2⟩

theorem fmt_word (C : FloatCodec) (v : Rat) (hv : C.dom v = true) :
    ∃ c w, C.fmt v = c :: w ∧ isIdent false c = true ∧ isWhitespace c = false ∧ w.all (isIdent false) = true ∧
      (c :: w).all (fun y => y != '/') = true := by
  obtain ⟨hne, hcl⟩ := C.fmt_clean v hv
  cases hf : C.fmt v with
  | nil => exact absurd hf hne
  | cons c w =>
    rw [hf] at hcl
    have hcl' := hcl
    simp only [List.all_cons, Bool.and_eq_true] at hcl
    refine ⟨c, w, rfl, numClean_ident c hcl.1, numClean_notWs c hcl.1, all_imp _ _ w hcl.2 numClean_ident, ?_⟩
    exact all_imp _ _ (c :: w) hcl' (fun x hx => by have := numClean_notSlash x hx; simp at this; simp [this])

/-- the text of a number is a numeric word -/
theorem scan_fmt (C : FloatCodec) (v : Rat) (rest : List Char) (hv : C.dom v = true) (hr : StartsDelim rest) :
    scan C.toCodec false (C.fmt v ++ rest) = (.numeric, C.fmt v, rest) := by
  obtain ⟨c, w, hf, hc, hws, hw, _⟩ := fmt_word C v hv
  have h := scan_word C.toCodec c w rest hc hws hw hr
  rwa [← hf, wordTok, if_pos (C.fmt_isFloat v hv)] at h

/-- `:length` -/
theorem run_len (C : FloatCodec) (F p : Frame) (S : List Frame) (L : Int) (pt : Option Tok) (n : Nat) (dn : Option T) (sb : Bool)
    (v : Rat) (rest : List Char) (hL : L ≠ 0) (hF : F.e.len = NIL) (hv : C.dom v = true) (hr : StartsDelim rest) :
    run C.toCodec ⟨F :: p :: S, L, pt, n, dn, sb⟩ (':' :: (C.fmt v ++ rest)) =
      run C.toCodec ⟨{ F with e := { F.e with len := v } } :: p :: S, L, some .startlen, n, dn, false⟩ rest := by
  have hw := (scanIW_of_scan C.toCodec _ _ _ _ (scan_fmt C v rest hv hr) (by decide)).2
  exact run_tok C.toCodec _ _ _ _ _ _ _ (scan_colon _ false _) (by decide) (by decide)
    (by simp [iter, hw, PState.nodeNil, PState.edgeNil, PState.topLen, hF, hL, C.parse_fmt v hv, PState.setLen, PState.modTop])

/-- a support after `)` -/
theorem run_sup (C : FloatCodec) (F p : Frame) (S : List Frame) (L : Int) (n : Nat) (dn : Option T) (sb : Bool)
    (v : Rat) (rest : List Char) (hL : L ≠ 0) (hv : C.dom v = true) (hr : StartsDelim rest) :
    run C.toCodec ⟨F :: p :: S, L, some .closepar, n, dn, sb⟩ (C.fmt v ++ rest) =
      run C.toCodec ⟨{ F with e := { F.e with sup := v } } :: p :: S, L, some .closepar, n, dn, false⟩ rest :=
  run_tok C.toCodec _ _ _ _ _ _ _ (scan_fmt C v rest hv hr) (by decide) (by decide)
    (by simp [iter, PState.edgeNil, hL, C.parse_fmt v hv, PState.setSup, PState.modTop])

/- ## labels -/

theorem splitSlash_ne_nil (l : List Char) : splitSlash l ≠ [] := by
  cases l with
  | nil => simp [splitSlash]
  | cons c r =>
    simp only [splitSlash]
    split
    · simp
    · split <;> simp

theorem splitSlash_noslash (l : List Char) (h : l.all (fun y => y != '/') = true) : splitSlash l = [l] := by
  induction l with
  | nil => simp [splitSlash]
  | cons c r ih =>
    simp only [List.all_cons, Bool.and_eq_true] at h
    have hc : (c == '/') = false := by have := h.1; simp at this; simp [this]
    simp [splitSlash, ih h.2, hc]

theorem splitSlash_two (a b : List Char) (ha : a.all (fun y => y != '/') = true) (hb : b.all (fun y => y != '/') = true) :
    splitSlash (a ++ '/' :: b) = [a, b] := by
  induction a with
  | nil => simp [splitSlash, splitSlash_noslash b hb]
  | cons c r ih =>
    simp only [List.all_cons, Bool.and_eq_true] at ha
    have hc : (c == '/') = false := by have := ha.1; simp at this; simp [this]
    simp [splitSlash, ih ha.2, hc]

/-- `support/p-value` after `)` -/
theorem run_sup_pval (C : FloatCodec) (F p : Frame) (S : List Frame) (L : Int) (n : Nat) (dn : Option T) (sb : Bool)
    (v q : Rat) (rest : List Char) (hv : C.dom v = true) (hq : C.dom q = true) (hr : StartsDelim rest) :
    run C.toCodec ⟨F :: p :: S, L, some .closepar, n, dn, sb⟩ (C.fmt v ++ '/' :: C.fmt q ++ rest) =
      run C.toCodec ⟨{ F with e := { F.e with sup := v, pval := q } } :: p :: S, L, some .closepar, n, dn, false⟩ rest := by
  obtain ⟨c, w, hf, hc, hws, hw, hns⟩ := fmt_word C v hv
  obtain ⟨c2, w2, hf2, hc2, _, hw2, hns2⟩ := fmt_word C q hq
  have hword : C.fmt v ++ '/' :: C.fmt q = c :: (w ++ '/' :: C.fmt q) := by rw [hf]; rfl
  have hall : (w ++ '/' :: C.fmt q).all (isIdent false) = true := by
    rw [hf2]
    simp only [List.all_append, List.all_cons, Bool.and_eq_true]
    exact ⟨hw, by decide, hc2, hw2⟩
  have hnf : C.isFloat (c :: (w ++ '/' :: C.fmt q)) = false := by
    cases hx : C.isFloat (c :: (w ++ '/' :: C.fmt q)) with
    | false => rfl
    | true => simpa using C.isFloat_noSlash _ hx
  have hsp : splitSlash (c :: (w ++ '/' :: C.fmt q)) = [C.fmt v, C.fmt q] := by
    rw [hf]; exact splitSlash_two (c :: w) (C.fmt q) hns (by rw [hf2]; exact hns2)
  rw [hword]
  apply run_word C.toCodec _ _ c _ rest _ hc hws hall hr
  simp [wordTok, iter, hnf, hsp, PState.edgeNil, C.fmt_isFloat v hv, C.fmt_isFloat q hq, C.parse_fmt v hv, C.parse_fmt q hq,
    PState.setSup, PState.setPval, PState.modTop]

/-- A label after `)` that is not numeric-looking becomes the name of the node.  The failed `ParseFloat` of an
    `x/y` label may leave its error behind (`stale`) — not on the root, which has no branch. -/
theorem iter_name (C : Codec) (st : PState) (lit pos rest : List Char)
    (hpt : st.prevTok = some .closepar) (hn : st.nodeNil = false) (hnn : notNumeric C.isFloat lit = true) :
    ∃ sb', (st.edgeNil = true → sb' = st.stale) ∧
      iter C st (wordTok C lit) lit pos rest = .cont ({ st with stale := sb' }.setName (String.ofList lit)) rest := by
  obtain ⟨stack, L, pt, n, dn, sb⟩ := st
  simp only [notNumeric, Bool.and_eq_true, Bool.not_eq_true'] at hnn
  simp only [PState.nodeNil] at hpt hn
  subst hpt
  rw [wordTok, if_neg (by simp [hnn.1])]
  simp only [iter, beq_self_eq_true, if_true, show (Tok.ident == Tok.numeric) = false from rfl, Bool.false_eq_true, if_false]
  split
  · rename_i a b hs
    rw [hs] at hnn
    by_cases he : PState.edgeNil ⟨stack, L, some .closepar, n, dn, sb⟩ = true
    · exact ⟨sb, fun _ => rfl, by simp [he, PState.nodeNil, hn]⟩
    · by_cases ha : C.isFloat a = true
      · have hb : C.isFloat b = false := by simpa [ha] using hnn.2
        exact ⟨true, fun h => absurd h he, by simp [he, ha, hb, PState.nodeNil, hn]⟩
      · exact ⟨true, fun h => absurd h he, by simp [he, ha, PState.nodeNil, hn]⟩
  · exact ⟨sb, fun _ => rfl, by simp [PState.nodeNil, hn]⟩

/-- the name of an inner node, after `)` -/
theorem run_name_inner (C : Codec) (F p : Frame) (S : List Frame) (L : Int) (n : Nat) (dn : Option T) (sb : Bool)
    (c : Char) (w rest : List Char)
    (hc : isIdent false c = true) (hws : isWhitespace c = false) (hw : w.all (isIdent false) = true)
    (hnn : notNumeric C.isFloat (c :: w) = true) (hr : StartsDelim rest) :
    ∃ sb', run C ⟨F :: p :: S, L, some .closepar, n, dn, sb⟩ (c :: w ++ rest) =
      run C ⟨{ F with d := { F.d with name := String.ofList (c :: w) } } :: p :: S, L, some .closepar, n, dn, sb'⟩ rest := by
  obtain ⟨sb', -, h⟩ := iter_name C ⟨F :: p :: S, L, some .closepar, n, dn, sb⟩ (c :: w) (c :: w ++ rest) rest rfl rfl hnn
  exact ⟨sb', run_word C _ _ c w rest _ hc hws hw hr h⟩

/-- the name of the root, after the last `)` -/
theorem run_name_root (C : Codec) (F : Frame) (L : Int) (n : Nat) (dn : Option T) (sb : Bool)
    (c : Char) (w rest : List Char)
    (hc : isIdent false c = true) (hws : isWhitespace c = false) (hw : w.all (isIdent false) = true)
    (hnn : notNumeric C.isFloat (c :: w) = true) (hr : StartsDelim rest) :
    run C ⟨[F], L, some .closepar, n, dn, sb⟩ (c :: w ++ rest) =
      run C ⟨[{ F with d := { F.d with name := String.ofList (c :: w) } }], L, some .closepar, n, dn, sb⟩ rest := by
  obtain ⟨sb', hsb, h⟩ := iter_name C ⟨[F], L, some .closepar, n, dn, sb⟩ (c :: w) (c :: w ++ rest) rest rfl rfl hnn
  rw [hsb rfl] at h
  exact run_word C _ _ c w rest _ hc hws hw hr h

/- ## sequences of steps -/

def OkPt (pt : Tok) : Prop := pt = .closepar ∨ pt = .ident ∨ pt = .numeric ∨ pt = .closebrack

theorem startsDelim_cons (d : Char) (r : List Char) (h : isIdent false d = false) : StartsDelim (d :: r) := ⟨d, r, rfl, h⟩

theorem startsDelim_comments (cs : List String) (r : List Char) (h : StartsDelim r) : StartsDelim (writeComments cs ++ r) := by
  cases cs with
  | nil => simpa [writeComments] using h
  | cons c cs => exact ⟨'[', c.toList ++ ']' :: ((List.map bracket cs).flatten ++ r), by simp [writeComments, bracket], by decide⟩

theorem startsDelim_decor (C : Codec) (cs ecs : List String) (lv : Rat) (r : List Char) (h : StartsDelim r) :
    StartsDelim (writeComments cs ++ (if lv != NIL then ':' :: C.fmt lv else []) ++ writeComments ecs ++ r) := by
  simp only [List.append_assoc]
  apply startsDelim_comments
  split
  · exact ⟨':', _, rfl, by decide⟩
  · exact startsDelim_comments _ _ h

/-- all the node comments -/
theorem run_comments (C : Codec) : ∀ (cs : List String) (F : Frame) (S : List Frame) (L : Int) (pt : Tok) (n : Nat)
    (dn : Option T) (sb : Bool) (rest : List Char), OkPt pt → cs.all commentOK = true →
    ∃ pt', OkPt pt' ∧ run C ⟨F :: S, L, some pt, n, dn, sb⟩ (writeComments cs ++ rest) =
      run C ⟨{ F with d := { F.d with comments := F.d.comments ++ cs } } :: S, L, some pt', n, dn, sb && cs.isEmpty⟩ rest := by
  intro cs
  induction cs with
  | nil =>
    intro F S L pt n dn sb rest hpt _
    exact ⟨pt, hpt, by simp [writeComments]⟩
  | cons c cs ih =>
    intro F S L pt n dn sb rest hpt hc
    simp only [List.all_cons, Bool.and_eq_true] at hc
    obtain ⟨pt', hpt', h⟩ := ih { F with d := { F.d with comments := F.d.comments ++ [c] } } S L .closebrack n dn false rest
      (Or.inr (Or.inr (Or.inr rfl))) hc.2
    refine ⟨pt', hpt', ?_⟩
    have hw : writeComments (c :: cs) ++ rest = bracket c ++ (writeComments cs ++ rest) := by
      simp [writeComments]
    rw [hw, run_comment C F S L pt n dn sb c _ hpt hc.1, h]
    simp

theorem valOK_dom (dom : Rat → Bool) (v : Rat) (h : valOK dom v = true) (hv : v ≠ NIL) : dom v = true := by
  simp only [valOK, Bool.or_eq_true, beq_iff_eq] at h
  rcases h with h | h
  · exact absurd h hv
  · exact h

/-- what follows the label of a node: node comments, `:length`, branch comment -/
theorem run_decor_tail (C : FloatCodec) (F p : Frame) (S : List Frame) (L : Int) (pt : Tok) (n : Nat) (dn : Option T) (sb : Bool)
    (cs : List String) (lv : Rat) (ecs : List String) (rest : List Char)
    (hL : L ≠ 0) (hpt : OkPt pt) (hF : F.e.len = NIL) (hFc : F.e.comments = [])
    (hcs : cs.all commentOK = true) (hlv : valOK C.dom lv = true)
    (hecs : ecs.all commentOK = true) (hen : (ecs.length == 0 || (ecs.length == 1 && lv != NIL)) = true)
    (hr : StartsDelim rest) :
    ∃ pt' sb', run C.toCodec ⟨F :: p :: S, L, some pt, n, dn, sb⟩
        (writeComments cs ++ (if lv != NIL then ':' :: C.fmt lv else []) ++ writeComments ecs ++ rest) =
      run C.toCodec ⟨{ F with d := { F.d with comments := F.d.comments ++ cs }, e := { F.e with len := lv, comments := ecs } } :: p :: S,
        L, some pt', n, dn, sb'⟩ rest := by
  have hr2 : StartsDelim (writeComments ecs ++ rest) := startsDelim_comments ecs rest hr
  obtain ⟨pt1, hpt1, h1⟩ := run_comments C.toCodec cs F (p :: S) L pt n dn sb
    ((if lv != NIL then ':' :: C.fmt lv else []) ++ writeComments ecs ++ rest) hpt hcs
  simp only [List.append_assoc] at h1 ⊢
  rw [h1]
  by_cases hl : lv = NIL
  · -- no length, hence no branch comment
    have he : ecs = [] := by
      cases ecs with
      | nil => rfl
      | cons x xs => simp [hl] at hen
    subst he
    refine ⟨pt1, sb && cs.isEmpty, ?_⟩
    simp [hl, writeComments]
    rw [← hF, ← hFc]
  · have hl' : (lv != NIL) = true := by simp [hl]
    simp only [hl', if_true, List.cons_append]
    rw [run_len C _ p S L (some pt1) n dn _ lv (writeComments ecs ++ rest) hL (by simpa using hF) (valOK_dom _ _ hlv hl) hr2]
    cases ecs with
    | nil =>
      refine ⟨.startlen, false, ?_⟩
      simp [writeComments, hFc]
    | cons x xs =>
      have hx : xs = [] := by
        cases xs with
        | nil => rfl
        | cons y ys => simp at hen
      subst hx
      simp only [List.all_cons, Bool.and_eq_true] at hecs
      refine ⟨.closebrack, false, ?_⟩
      have hw : writeComments [x] ++ rest = bracket x ++ rest := by simp [writeComments]
      rw [hw, run_ecomment C.toCodec _ p S L n dn false x rest hecs.1]
      simp [hFc]

/- ## names -/

theorem isSpaceGo_of_ws (c : Char) (h : isWhitespace c = true) : isSpaceGo c = true := by
  simp only [isWhitespace, Bool.or_eq_true, beq_iff_eq] at h
  rcases h with ((h | h) | h) | h <;> subst h <;> decide

theorem trim_first (s : String) (c : Char) (w : List Char) (hs : s.toList = c :: w) (ht : trimSpace s = s) :
    isWhitespace c = false := by
  cases hw : isWhitespace c with
  | false => rfl
  | true =>
    have hsp := isSpaceGo_of_ws c hw
    have hlen : (trimSpace s).toList.length < s.toList.length := by
      simp only [trimSpace, String.toList_ofList, List.length_reverse, hs, List.dropWhile, hsp]
      have h1 := (List.dropWhile_sublist (l := (List.dropWhile isSpaceGo w).reverse) isSpaceGo).length_le
      have h2 := (List.dropWhile_sublist (l := w) isSpaceGo).length_le
      simp only [List.length_reverse, List.length_cons] at h1 ⊢
      omega
    rw [ht] at hlen
    exact absurd hlen (Nat.lt_irrefl _)

theorem noMeta_ident (l : List Char) (h : noMeta l = true) : l.all (isIdent false) = true := by
  unfold noMeta at h
  exact all_imp _ _ l h (fun x hx => isIdent_of_notMeta x (by simpa using hx))

/-- a non-empty name of an inner node or of the root is a word of the lexer that does not look numeric -/
theorem innerName_word (isF : List Char → Bool) (name : String) (c : Char) (w : List Char)
    (hin : innerNameOK isF name = true) (hl : name.toList = c :: w) :
    isIdent false c = true ∧ isWhitespace c = false ∧ w.all (isIdent false) = true ∧ notNumeric isF (c :: w) = true ∧
      String.ofList (c :: w) = name := by
  simp only [innerNameOK, Bool.and_eq_true] at hin
  obtain ⟨⟨hnm, hfirst⟩, hnum⟩ := hin
  rw [hl] at hnm hfirst hnum
  have hall := noMeta_ident _ hnm
  simp only [List.all_cons, Bool.and_eq_true] at hall
  exact ⟨hall.1, by simpa using hfirst, hall.2, by simpa using hnum, by rw [← hl]; exact String.ofList_toList⟩

/- ## a whole child, and the list of children -/

/-- frame of a finished child: its data, the branch with its creation number, its normalised children -/
def doneFrame (e : EdgeD) (t : T) (n : Nat) : Frame :=
  ⟨(normFrom (n + 1) t).1.d, { e with id := (n : Int) }, (normFrom (n + 1) t).1.kids⟩

theorem doneFrame_toT (e : EdgeD) (t : T) (n : Nat) : (doneFrame e t n).toT = (normFrom (n + 1) t).1 := by
  cases t with
  | node d pp k => simp [doneFrame, Frame.toT, normFrom]

theorem doneFrame_e (e : EdgeD) (t : T) (n : Nat) : (doneFrame e t n).e = { e with id := (n : Int) } := rfl

/-- The invariant of Appendix F for one child: from a state whose top frame is the parent, after
    `(` or `,`, the text of the child leaves the finished child on top of the parent. -/
def KidOK (C : FloatCodec) (e : EdgeD) (t : T) : Prop :=
  ∀ (p : Frame) (S : List Frame) (L : Int) (pt : Tok) (n : Nat) (dn : Option T) (sb : Bool) (rest : List Char),
    0 < L → (pt = .openpar ∨ pt = .newsibling) → StartsDelim rest →
    ∃ pt' sb', run C.toCodec ⟨p :: S, L, some pt, n, dn, sb⟩
        (writeNode C.toCodec true t ++ writeDecor C.toCodec e t.d ++ rest) =
      run C.toCodec ⟨doneFrame e t n :: p :: S, L, some pt', (normFrom (n + 1) t).2, dn, sb'⟩ rest

theorem startsDelim_kids (C : Codec) (ks : Kids) (rest : List Char) : StartsDelim (writeKids C false ks ++ ')' :: rest) := by
  cases ks with
  | nil => exact ⟨')', rest, by simp [writeKids], by decide⟩
  | cons k ks =>
    obtain ⟨e, t⟩ := k
    exact ⟨',', writeNode C true t ++ (writeDecor C e t.d ++ (writeKids C false ks ++ ')' :: rest)), by simp [writeKids], by decide⟩

/-- the remaining children and the closing parenthesis, starting with the previous child still on the stack -/
theorem kids_tail (C : FloatCodec) : ∀ (ks : Kids), (∀ et ∈ ks, KidOK C et.1 et.2) →
    ∀ (G F : Frame) (S : List Frame) (L : Int) (pt : Option Tok) (n : Nat) (dn : Option T) (sb : Bool) (rest : List Char), 0 < L →
    run C.toCodec ⟨G :: F :: S, L, pt, n, dn, sb⟩ (writeKids C.toCodec false ks ++ ')' :: rest) =
      run C.toCodec ⟨{ F with kids := F.kids ++ (G.e, G.toT) :: (normFromL n ks).1 } :: S, L - 1, some .closepar,
        (normFromL n ks).2, dn, false⟩ rest := by
  intro ks
  induction ks with
  | nil =>
    intro _ G F S L pt n dn sb rest _
    simp only [writeKids, List.nil_append, normFromL]
    exact run_close C.toCodec G F S L pt n dn sb rest
  | cons k ks ih =>
    intro hk G F S L pt n dn sb rest hL
    obtain ⟨e, t⟩ := k
    have hkid : KidOK C e t := hk (e, t) (List.mem_cons_self ..)
    have hks : ∀ et ∈ ks, KidOK C et.1 et.2 := fun et h => hk et (List.mem_cons_of_mem _ h)
    have htxt : writeKids C.toCodec false ((e, t) :: ks) ++ ')' :: rest =
        ',' :: (writeNode C.toCodec true t ++ writeDecor C.toCodec e t.d ++ (writeKids C.toCodec false ks ++ ')' :: rest)) := by
      simp [writeKids]
    rw [htxt, run_comma]
    obtain ⟨pt', sb', h⟩ := hkid { F with kids := F.kids ++ [(G.e, G.toT)] } S L .newsibling n dn false
      (writeKids C.toCodec false ks ++ ')' :: rest) hL (Or.inr rfl) (startsDelim_kids _ ks rest)
    rw [h, ih hks _ _ S L (some pt') _ dn sb' rest hL]
    simp [normFromL, doneFrame_toT, doneFrame_e]

/-- all the children of a node and its closing parenthesis -/
theorem kids_all (C : FloatCodec) (k : EdgeD × T) (ks : Kids) (hk : ∀ et ∈ k :: ks, KidOK C et.1 et.2)
    (F : Frame) (S : List Frame) (L : Int) (n : Nat) (dn : Option T) (sb : Bool) (rest : List Char) (hL : 0 < L) :
    run C.toCodec ⟨F :: S, L, some .openpar, n, dn, sb⟩ (writeKids C.toCodec true (k :: ks) ++ ')' :: rest) =
      run C.toCodec ⟨{ F with kids := F.kids ++ (normFromL n (k :: ks)).1 } :: S, L - 1, some .closepar,
        (normFromL n (k :: ks)).2, dn, false⟩ rest := by
  obtain ⟨e, t⟩ := k
  have hkid : KidOK C e t := hk (e, t) (List.mem_cons_self ..)
  have hks : ∀ et ∈ ks, KidOK C et.1 et.2 := fun et h => hk et (List.mem_cons_of_mem _ h)
  have htxt : writeKids C.toCodec true ((e, t) :: ks) ++ ')' :: rest =
      writeNode C.toCodec true t ++ writeDecor C.toCodec e t.d ++ (writeKids C.toCodec false ks ++ ')' :: rest) := by
    simp [writeKids]
  obtain ⟨pt', sb', h⟩ := hkid F S L .openpar n dn sb (writeKids C.toCodec false ks ++ ')' :: rest) hL (Or.inl rfl)
    (startsDelim_kids _ ks rest)
  rw [htxt, h, kids_tail C ks hks _ F S L (some pt') _ dn sb' rest hL]
  simp [normFromL, doneFrame_toT, doneFrame_e]

theorem wfKids_mem (isF : List Char → Bool) (dom : Rat → Bool) : ∀ (ks : Kids), wfKids isF dom ks = true →
    ∀ et ∈ ks, wfNode isF dom et.1 et.2 = true := by
  intro ks
  induction ks with
  | nil => intro _ et h; cases h
  | cons k ks ih =>
    intro h et hm
    obtain ⟨e, t⟩ := k
    simp only [wfKids, Bool.and_eq_true] at h
    cases hm with
    | head => exact h.1
    | tail _ hm' => exact ih h.2 et hm'

theorem edge_eta (e : EdgeD) (n : Int) (l s p : Rat) (cs : List String) (hl : e.len = l) (hs : e.sup = s) (hp : e.pval = p)
    (hc : e.comments = cs) : ({ len := l, sup := s, pval := p, comments := cs, id := n } : EdgeD) = { e with id := n } := by
  cases e; simp_all

/-- a tip -/
theorem kid_tip (C : FloatCodec) (e : EdgeD) (d : NodeD) (pp : Nat) (h : wfNode C.isFloat C.dom e (.node d pp []) = true) :
    KidOK C e (.node d pp []) := by
  intro p S L pt n dn sb rest hL hpt hr
  simp only [wfNode, Bool.and_eq_true] at h
  obtain ⟨⟨hname, hcs⟩, hedge⟩ := h
  simp only [tipNameOK, Bool.and_eq_true, Bool.not_eq_true', beq_iff_eq] at hname
  obtain ⟨⟨hne, hnm⟩, htrim⟩ := hname
  simp only [tipEdgeOK, Bool.and_eq_true, beq_iff_eq] at hedge
  obtain ⟨⟨⟨⟨hsup, hpv⟩, hlv⟩, hecs⟩, hen⟩ := hedge
  cases hl : d.name.toList with
  | nil => simp [hl] at hne
  | cons c w =>
    have hnm' : noMeta (c :: w) = true := by rw [← hl]; exact hnm
    have hall := noMeta_ident _ hnm'
    simp only [List.all_cons, Bool.and_eq_true] at hall
    have hws := trim_first d.name c w hl htrim
    have hnode : writeNode C.toCodec true (.node d pp []) = c :: w := by simp [writeNode, writeKids, hl]
    have hdec : writeDecor C.toCodec e d =
        writeComments d.comments ++ (if e.len != NIL then ':' :: C.fmt e.len else []) ++ writeComments e.comments := by
      simp [writeDecor, hsup]
    have hr1 := startsDelim_decor C.toCodec d.comments e.comments e.len rest hr
    have hOk : OkPt (wordTok C.toCodec (c :: w)) := by
      rcases wordTok_cases C.toCodec (c :: w) with h | h <;> simp [h, OkPt]
    obtain ⟨pt', sb', h2⟩ := run_decor_tail C (childFrame (String.ofList (c :: w)) n) p S L (wordTok C.toCodec (c :: w)) (n + 1) dn sb
      d.comments e.len e.comments rest (Int.ne_of_gt hL) hOk rfl rfl hcs hlv hecs hen hr
    refine ⟨pt', sb', ?_⟩
    simp only [T.d_node, hnode, hdec]
    rw [List.append_assoc, run_tip C.toCodec p S L pt n dn sb c w _ hpt hall.1 hws hall.2 (by simpa [List.append_assoc] using hr1)]
    rw [h2]
    have hnm2 : String.ofList (c :: w) = d.name := by rw [← hl]; exact String.ofList_toList
    simp only [doneFrame, normFrom, normFromL, childFrame, EdgeD.blank, T.d_node, T.kids_node, List.nil_append]
    rw [edge_eta e n e.len NIL NIL e.comments rfl hsup hpv rfl]
    rw [hnm2]

/-- the label of an inner node: its name, or its support, or support/p-value, or nothing -/
theorem run_label (C : FloatCodec) (F p : Frame) (S : List Frame) (L : Int) (n : Nat) (dn : Option T) (sb : Bool)
    (name : String) (e : EdgeD) (rest : List Char)
    (hin : innerNameOK C.isFloat name = true) (hs : valOK C.dom e.sup = true) (hp : valOK C.dom e.pval = true)
    (hxor : (name == "" || (e.sup == NIL && e.pval == NIL)) = true) (hps : (e.pval == NIL || e.sup != NIL) = true)
    (hFn : F.d.name = "") (hFs : F.e.sup = NIL) (hFp : F.e.pval = NIL) (hL : L ≠ 0) (hr : StartsDelim rest) :
    ∃ sb', run C.toCodec ⟨F :: p :: S, L, some .closepar, n, dn, sb⟩
        (name.toList ++ (if e.sup != NIL && name == "" then C.fmt e.sup ++ (if e.pval != NIL then '/' :: C.fmt e.pval else []) else []) ++ rest) =
      run C.toCodec ⟨{ F with d := { F.d with name := name }, e := { F.e with sup := e.sup, pval := e.pval } } :: p :: S,
        L, some .closepar, n, dn, sb'⟩ rest := by
  cases hl : name.toList with
  | cons c w =>
    -- a name: no support, no p-value
    obtain ⟨hc, hws, hw, hnn, hnm2⟩ := innerName_word _ name c w hin hl
    have hne : (name == "") = false := by
      cases hx : (name == "") with
      | false => rfl
      | true => simp at hx; rw [hx] at hl; simp at hl
    simp only [hne, Bool.false_or, Bool.and_eq_true, beq_iff_eq] at hxor
    obtain ⟨sb', h⟩ := run_name_inner C.toCodec F p S L n dn sb c w rest hc hws hw hnn hr
    refine ⟨sb', ?_⟩
    simp only [hne, Bool.and_false, Bool.false_eq_true, if_false, List.append_nil]
    rw [h]
    have e1 : e.sup = F.e.sup := by rw [hxor.1, hFs]
    have e2 : e.pval = F.e.pval := by rw [hxor.2, hFp]
    rw [hnm2, e1, e2]
  | nil =>
    have hname : name = "" := String.toList_eq_nil_iff.1 hl
    subst hname
    simp only [List.nil_append, beq_self_eq_true, Bool.and_true]
    have hFd : ({ F.d with name := "" } : NodeD) = F.d := by rw [← hFn]
    by_cases hsn : e.sup = NIL
    · -- nothing at all
      have hpn : e.pval = NIL := by
        simp only [Bool.or_eq_true, beq_iff_eq, bne_iff_ne, ne_eq] at hps
        rcases hps with h | h
        · exact h
        · exact absurd hsn h
      refine ⟨sb, ?_⟩
      have e1 : e.sup = F.e.sup := by rw [hsn, hFs]
      have e2 : e.pval = F.e.pval := by rw [hpn, hFp]
      simp only [hsn, bne_self_eq_false, Bool.false_eq_true, if_false, List.nil_append, hFd]
      rw [← hsn, e1, e2]
    · have hs' : (e.sup != NIL) = true := by simp [hsn]
      have hds := valOK_dom _ _ hs hsn
      by_cases hpn : e.pval = NIL
      · refine ⟨false, ?_⟩
        simp only [hs', if_true, hpn, bne_self_eq_false, Bool.false_eq_true, if_false, List.append_nil, hFd]
        have e2 : NIL = F.e.pval := by rw [hFp]
        rw [run_sup C F p S L n dn sb e.sup rest hL hds hr, e2]
      · have hp' : (e.pval != NIL) = true := by simp [hpn]
        have hdp := valOK_dom _ _ hp hpn
        refine ⟨false, ?_⟩
        simp only [hs', if_true, hp', hFd]
        rw [run_sup_pval C F p S L n dn sb e.sup e.pval rest hds hdp hr]

/-- an inner node -/
theorem kid_inner (C : FloatCodec) (e : EdgeD) (d : NodeD) (pp : Nat) (k : EdgeD × T) (ks : Kids)
    (h : wfNode C.isFloat C.dom e (.node d pp (k :: ks)) = true) (ih : ∀ et ∈ k :: ks, KidOK C et.1 et.2) :
    KidOK C e (.node d pp (k :: ks)) := by
  intro p S L pt n dn sb rest hL hpt hr
  simp only [wfNode, Bool.and_eq_true] at h
  obtain ⟨⟨⟨hin, hcs⟩, hedge⟩, _⟩ := h
  simp only [innerEdgeOK, Bool.and_eq_true] at hedge
  obtain ⟨⟨⟨⟨⟨⟨hlv, hsv⟩, hpv⟩, hxor⟩, hps⟩, hecs⟩, hen⟩ := hedge
  have hLne : L ≠ 0 := Int.ne_of_gt hL
  have hnode : writeNode C.toCodec true (.node d pp (k :: ks)) =
      '(' :: (writeKids C.toCodec true (k :: ks) ++ ')' :: d.name.toList) := by
    simp [writeNode]
  have hdec : writeDecor C.toCodec e d =
      (if e.sup != NIL && d.name == "" then C.fmt e.sup ++ (if e.pval != NIL then '/' :: C.fmt e.pval else []) else []) ++
      (writeComments d.comments ++ (if e.len != NIL then ':' :: C.fmt e.len else []) ++ writeComments e.comments) := by
    simp [writeDecor]
  have hr1 := startsDelim_decor C.toCodec d.comments e.comments e.len rest hr
  -- "(" , the children, ")"
  have htxt : writeNode C.toCodec true (.node d pp (k :: ks)) ++ writeDecor C.toCodec e (T.node d pp (k :: ks)).d ++ rest =
      '(' :: (writeKids C.toCodec true (k :: ks) ++ ')' ::
        (d.name.toList ++ (if e.sup != NIL && d.name == "" then C.fmt e.sup ++ (if e.pval != NIL then '/' :: C.fmt e.pval else []) else []) ++
          (writeComments d.comments ++ (if e.len != NIL then ':' :: C.fmt e.len else []) ++ writeComments e.comments ++ rest))) := by
    rw [hnode, T.d_node, hdec]
    simp only [List.cons_append, List.append_assoc]
  rw [htxt, run_open_child C.toCodec p S L (some pt) n dn sb _ hLne,
    kids_all C k ks ih (childFrame "" n) (p :: S) (L + 1) (n + 1) dn sb _ (by omega)]
  have hL1 : L + 1 - 1 = L := by omega
  rw [hL1]
  -- the label
  let F1 : Frame := { childFrame "" n with kids := (childFrame "" n).kids ++ (normFromL (n + 1) (k :: ks)).1 }
  obtain ⟨sb1, h1⟩ := run_label C F1 p S L
    (normFromL (n + 1) (k :: ks)).2 dn false d.name e _ hin hsv hpv hxor hps rfl rfl rfl hLne hr1
  rw [h1]
  -- comments, length, branch comment
  let F2 : Frame := { F1 with d := { F1.d with name := d.name }, e := { F1.e with sup := e.sup, pval := e.pval } }
  obtain ⟨pt2, sb2, h2⟩ := run_decor_tail C F2 p S L .closepar (normFromL (n + 1) (k :: ks)).2 dn sb1
    d.comments e.len e.comments rest hLne (Or.inl rfl) rfl rfl hcs hlv hecs hen hr
  rw [h2]
  refine ⟨pt2, sb2, ?_⟩
  simp only [F2, F1, doneFrame, normFrom, childFrame, EdgeD.blank, T.d_node, T.kids_node, List.nil_append]

/-- Appendix F, the invariant, for every well-formed child -/
theorem kid_ok (C : FloatCodec) : ∀ (t : T) (e : EdgeD), wfNode C.isFloat C.dom e t = true → KidOK C e t := by
  intro t
  induction t using T.induct with
  | h d pp ks ih =>
    intro e h
    cases ks with
    | nil => exact kid_tip C e d pp h
    | cons k ks =>
      have hk : wfKids C.isFloat C.dom (k :: ks) = true := by
        simp only [wfNode, Bool.and_eq_true] at h
        exact h.2
      exact kid_inner C e d pp k ks h (fun et hm => ih et hm et.1 (wfKids_mem _ _ _ hk et hm))

/- ## the tips are already trimmed -/

theorem normFromL_length : ∀ (ks : Kids) (n : Nat), (normFromL n ks).1.length = ks.length := by
  intro ks
  induction ks with
  | nil => intro n; simp [normFromL]
  | cons k ks ih => intro n; obtain ⟨e, t⟩ := k; simp [normFromL, ih]

def TrimOK (t : T) : Prop := ∀ n, trimLeaves (normFrom n t).1 = (normFrom n t).1

theorem trimL_ok : ∀ (ks : Kids), (∀ et ∈ ks, TrimOK et.2) → ∀ n, trimLeavesL (normFromL n ks).1 = (normFromL n ks).1 := by
  intro ks
  induction ks with
  | nil => intro _ n; simp [normFromL, trimLeavesL]
  | cons k ks ih =>
    intro h n
    obtain ⟨e, t⟩ := k
    simp only [normFromL, trimLeavesL]
    rw [h (e, t) (List.mem_cons_self ..) (n + 1), ih (fun et hm => h et (List.mem_cons_of_mem _ hm))]

theorem trim_ok (isF : List Char → Bool) (dom : Rat → Bool) : ∀ (t : T) (e : EdgeD), wfNode isF dom e t = true → TrimOK t := by
  intro t
  induction t using T.induct with
  | h d pp ks ih =>
    intro e h n
    cases ks with
    | nil =>
      simp only [wfNode, Bool.and_eq_true, tipNameOK, beq_iff_eq] at h
      simp only [normFrom, normFromL, trimLeaves]
      rw [h.1.1.2]
    | cons k ks =>
      have hk : wfKids isF dom (k :: ks) = true := by
        simp only [wfNode, Bool.and_eq_true] at h
        exact h.2
      have hL := trimL_ok (k :: ks) (fun et hm => ih et hm et.1 (wfKids_mem _ _ _ hk et hm)) (n)
      obtain ⟨e1, t1⟩ := k
      simp only [normFrom, normFromL] at hL ⊢
      simp only [trimLeaves]
      rw [hL]

/- ## the oracle's relation `sameTree` and the writer do not look at ids and parent positions -/

theorem sameEdge_id (e : EdgeD) (n : Int) : sameEdge e { e with id := n } = true := by simp [sameEdge]

theorem sameEdge_euclid (a b c : EdgeD) (h1 : sameEdge a c = true) (h2 : sameEdge b c = true) : sameEdge a b = true := by
  simp only [sameEdge, Bool.and_eq_true, decide_eq_true_eq] at *
  obtain ⟨⟨⟨a1, a2⟩, a3⟩, a4⟩ := h1
  obtain ⟨⟨⟨b1, b2⟩, b3⟩, b4⟩ := h2
  exact ⟨⟨⟨a1.trans b1.symm, a2.trans b2.symm⟩, a3.trans b3.symm⟩, a4.trans b4.symm⟩

def SameNorm (t : T) : Prop := ∀ n, sameTree t (normFrom n t).1 = true

theorem sameKids_norm : ∀ (ks : Kids), (∀ et ∈ ks, SameNorm et.2) → ∀ n, sameKids ks (normFromL n ks).1 = true := by
  intro ks
  induction ks with
  | nil => intro _ n; simp [normFromL, sameKids]
  | cons k ks ih =>
    intro h n
    obtain ⟨e, t⟩ := k
    simp only [normFromL, sameKids, Bool.and_eq_true]
    exact ⟨⟨sameEdge_id e n, h (e, t) (List.mem_cons_self ..) (n + 1)⟩, ih (fun et hm => h et (List.mem_cons_of_mem _ hm)) _⟩

theorem sameTree_norm : ∀ (t : T), SameNorm t := by
  intro t
  induction t using T.induct with
  | h d pp ks ih =>
    intro n
    simp only [normFrom, sameTree, Bool.and_eq_true, decide_eq_true_eq]
    exact ⟨trivial, sameKids_norm ks ih n⟩

def Euclid (a : T) : Prop := ∀ b c, sameTree a c = true → sameTree b c = true → sameTree a b = true

theorem sameKids_euclid : ∀ (ka : Kids), (∀ et ∈ ka, Euclid et.2) → ∀ kb kc, sameKids ka kc = true → sameKids kb kc = true →
    sameKids ka kb = true := by
  intro ka
  induction ka with
  | nil =>
    intro _ kb kc h1 h2
    rcases kc with _ | ⟨⟨ec, tc⟩, ys⟩ <;> rcases kb with _ | ⟨⟨eb, tb⟩, zs⟩ <;> simp_all [sameKids]
  | cons x xs ih =>
    intro h kb kc h1 h2
    obtain ⟨ea, ta⟩ := x
    rcases kc with _ | ⟨⟨ec, tc⟩, ys⟩ <;> rcases kb with _ | ⟨⟨eb, tb⟩, zs⟩ <;> try (simp [sameKids] at h1 h2; done)
    simp only [sameKids, Bool.and_eq_true] at h1 h2 ⊢
    exact ⟨⟨sameEdge_euclid _ _ _ h1.1.1 h2.1.1, h (ea, ta) (List.mem_cons_self ..) tb tc h1.1.2 h2.1.2⟩,
      ih (fun et hm => h et (List.mem_cons_of_mem _ hm)) zs ys h1.2 h2.2⟩

theorem sameTree_euclid : ∀ (a : T), Euclid a := by
  intro a
  induction a using T.induct with
  | h d pp ks ih =>
    intro b c h1 h2
    cases b with
    | node db pb kb =>
      cases c with
      | node dc pc kc =>
        simp only [sameTree, Bool.and_eq_true, decide_eq_true_eq] at h1 h2 ⊢
        exact ⟨h1.1.trans h2.1.symm, sameKids_euclid ks ih kb kc h1.2 h2.2⟩

/-- the writer ignores branch ids and parent positions -/
def WriteNorm (C : Codec) (t : T) : Prop := ∀ n b, writeNode C b (normFrom n t).1 = writeNode C b t

theorem writeKids_norm (C : Codec) : ∀ (ks : Kids), (∀ et ∈ ks, WriteNorm C et.2) → ∀ n b,
    writeKids C b (normFromL n ks).1 = writeKids C b ks := by
  intro ks
  induction ks with
  | nil => intro _ n b; simp [normFromL, writeKids]
  | cons k ks ih =>
    intro h n b
    obtain ⟨e, t⟩ := k
    have hd : (normFrom (n + 1) t).1.d = t.d := by cases t; simp [normFrom]
    simp only [normFromL, writeKids]
    rw [h (e, t) (List.mem_cons_self ..) (n + 1) true, ih (fun et hm => h et (List.mem_cons_of_mem _ hm)), hd]
    simp [writeDecor]

theorem writeNode_norm (C : Codec) : ∀ (t : T), WriteNorm C t := by
  intro t
  induction t using T.induct with
  | h d pp ks ih =>
    intro n b
    simp only [normFrom, writeNode]
    rw [writeKids_norm C ks ih n true, normFromL_length]

/- ## the quantifier -/

theorem wf01_wf01r (isFloat : List Char → Bool) (dom : Rat → Bool) (t : T) (ht : WF01 isFloat dom t = true) :
    WF01r isFloat dom t = true := by
  cases t with
  | node d pp ks =>
    simp only [WF01, Bool.and_eq_true, decide_eq_true_eq] at ht
    obtain ⟨⟨⟨hlen, hin⟩, hcs⟩, hkids⟩ := ht
    simp only [WF01r, Bool.and_eq_true, decide_eq_true_eq, Bool.or_eq_true, bne_iff_ne, ne_eq]
    exact ⟨⟨⟨⟨by omega, Or.inl (by omega)⟩, hin⟩, hcs⟩, hkids⟩

/-- the text of a tree of the quantifier starts with `(` -/
theorem write_head (C : Codec) (isFloat : List Char → Bool) (dom : Rat → Bool) (t : T) (h : WF01 isFloat dom t = true) :
    ∃ r, write C t = '(' :: r := by
  cases t with
  | node d pp ks =>
    cases ks with
    | nil => simp [WF01] at h
    | cons k ks => exact ⟨_, by simp [write, writeNode]; rfl⟩

/- ## the round trip -/

/-- The round trip with ANY input following the text: the parser stops right after the `;` (this is what a
    second `Parse()` on the same Parser starts from).  For every tree of the quantifier, and also for a
    root with a single child (`WF01r`). -/
theorem parseR_write (C : FloatCodec) (t : T) (tail : List Char) (h : WF01r C.isFloat C.dom t = true) :
    parseR C.toCodec (write C.toCodec t ++ tail) = .ok (t.normIds, tail) := by
  cases t with
  | node d pp ks =>
    simp only [WF01r, Bool.and_eq_true, decide_eq_true_eq] at h
    obtain ⟨⟨⟨⟨hlen, hroot1⟩, hin⟩, hcs⟩, hkids⟩ := h
    cases ks with
    | nil => simp at hlen
    | cons k ks =>
      have hkid : ∀ et ∈ k :: ks, KidOK C et.1 et.2 := fun et hm => kid_ok C et.2 et.1 (wfKids_mem _ _ _ hkids et hm)
      have htrim := trimL_ok (k :: ks) (fun et hm => trim_ok _ _ et.2 et.1 (wfKids_mem _ _ _ hkids et hm)) 0
      have hlen' := normFromL_length (k :: ks) 0
      -- the text
      have htxt : write C.toCodec (.node d pp (k :: ks)) ++ tail =
          '(' :: (writeKids C.toCodec true (k :: ks) ++ ')' :: (d.name.toList ++ (writeComments d.comments ++ ';' :: tail))) := by
        simp [write, writeNode]
      have hsd : StartsDelim (writeComments d.comments ++ ';' :: tail) :=
        startsDelim_comments _ _ ⟨';', tail, rfl, by decide⟩
      -- the machine
      have hrun : run C.toCodec {} ('(' :: (writeKids C.toCodec true (k :: ks) ++ ')' :: (d.name.toList ++ (writeComments d.comments ++ ';' :: tail)))) =
          .ok (⟨[⟨d, EdgeD.blank, (normFromL 0 (k :: ks)).1⟩], 0, some .eot, (normFromL 0 (k :: ks)).2, none, false⟩, ';' :: tail) := by
        have h0 : ({} : PState) = ⟨[], 0, none, 0, none, false⟩ := rfl
        rw [h0, run_open_root, kids_all C k ks hkid _ [] 1 0 none false _ (by omega)]
        have h10 : (1 : Int) - 1 = 0 := by omega
        rw [h10]
        -- the root's name
        have hname : run C.toCodec ⟨[{ (⟨⟨"", []⟩, EdgeD.blank, []⟩ : Frame) with kids := [] ++ (normFromL 0 (k :: ks)).1 }], 0, some .closepar,
              (normFromL 0 (k :: ks)).2, none, false⟩ (d.name.toList ++ (writeComments d.comments ++ ';' :: tail)) =
            run C.toCodec ⟨[⟨⟨d.name, []⟩, EdgeD.blank, (normFromL 0 (k :: ks)).1⟩], 0, some .closepar,
              (normFromL 0 (k :: ks)).2, none, false⟩ (writeComments d.comments ++ ';' :: tail) := by
          cases hl : d.name.toList with
          | nil =>
            have := String.toList_eq_nil_iff.1 hl
            simp [this]
          | cons c w =>
            obtain ⟨hc, hws, hw, hnn, hnm2⟩ := innerName_word _ d.name c w hin hl
            rw [run_name_root C.toCodec _ 0 _ none false c w _ hc hws hw hnn hsd]
            simp [hnm2]
        simp only [List.nil_append] at hname ⊢
        rw [hname]
        obtain ⟨pt', _, hc⟩ := run_comments C.toCodec d.comments ⟨⟨d.name, []⟩, EdgeD.blank, (normFromL 0 (k :: ks)).1⟩ [] 0 .closepar
          (normFromL 0 (k :: ks)).2 none false (';' :: tail) (Or.inl rfl) hcs
        rw [hc]
        simp only [Bool.false_and, List.nil_append]
        rw [run_semi]
      -- Parse around the loop
      rw [htxt]
      obtain ⟨hk0, hs0⟩ := scanIW_of_scan C.toCodec _ _ _ _
        (scan_openpar C.toCodec false (writeKids C.toCodec true (k :: ks) ++ ')' :: (d.name.toList ++ (writeComments d.comments ++ ';' :: tail))))
        (by decide)
      obtain ⟨-, hs1⟩ := scanIW_of_scan C.toCodec _ _ _ _ (scan_semi C.toCodec tail) (by decide)
      simp [parseR, hs0, hk0, hrun, hs1, PState.result, PState.unwind, Frame.toT, trimTips, T.normIds, normFrom, htrim, hlen']
      intro hks
      rw [hks] at hroot1
      simp at hroot1
      rw [hroot1]

/-- The round trip for every tree of the quantifier, and also for a root with a single child (`WF01r`). -/
theorem parse_write_gen (C : FloatCodec) (t : T) (h : WF01r C.isFloat C.dom t = true) :
    parse C.toCodec (write C.toCodec t) = .ok t.normIds := by
  have := parseR_write C t [] h
  rw [List.append_nil] at this
  rw [parse_eq_parseR, this]; rfl

/-- one call of the loops over `Parse`, without the equation binder of their definitions -/
theorem parseMany_step (C : Codec) (p : List Char) :
    parseMany C p = (match parseR C p with
      | .ok (t, r) => .ok t :: parseMany C r
      | .err m => [.err m]
      | .panic m => [.panic m]
      | .unrep m => [.unrep m]) := by
  rw [parseMany]
  split
  all_goals (rename_i h; rw [h])

theorem parseWhileMore_step (C : Codec) (p : List Char) :
    parseWhileMore C p = (match parseR C p with
      | .ok (t, r) => .ok t :: (if more C r then parseWhileMore C (skipWs C r) else [])
      | .err m => [.err m]
      | .panic m => [.panic m]
      | .unrep m => [.unrep m]) := by
  rw [parseWhileMore]
  split
  all_goals (rename_i h; rw [h])

/-- The writer does not look at branch ids or parent positions: the re-read tree writes the same text. -/
theorem write_normIds (C : Codec) (t : T) : write C t.normIds = write C t := by
  cases t with
  | node d pp ks =>
    have h := writeNode_norm C (.node d pp ks) 0 false
    simp only [write, T.normIds]
    rw [h]
    simp [normFrom]

/-- The re-read tree is the original as far as the property looks: `sameTree` (shape, order, names,
    lengths, supports, p-values, node and branch comments). -/
theorem sameTree_normIds (t : T) : sameTree t t.normIds = true := sameTree_norm t 0

end Gotree.Newick

/-
  C03 — edits at a node named by its child-index path (models of Model/C03More.lean and the
  path-based ones of Model/C03Ops.lean): `modAt` with a function that only reorders the children
  (RotateNeighbors on one node, Annotate in comment mode) leaves every node where it stood
  (`SameBelow`); CollapseClade replaces a node by a tip (`Replaced`); AddBipartition regroups the
  children of a node (`addBipNode_sized`) and the walk down the path carries that to the root.
-/
import Gotree.Lemmas.C03Ops

namespace Gotree.C03
open Gotree Gotree.C05

/-- a node function that only reorders the children and keeps the name -/
structure Reorders (f : Bool → T → T) : Prop where
  kids : ∀ b t, (f b t).kids.Perm t.kids
  name : ∀ b t, (f b t).name = t.name

theorem isEmpty_congr {α β : Type} {a : List α} {b : List β} (h : a.length = b.length) : a.isEmpty = b.isEmpty := by
  cases a <;> cases b <;> simp_all

/-- `u` stands where `t` stood: same name, as many children, the same leaves below (up to order),
    and a single-child node below exactly when `t` had one -/
structure SameBelow (u t : T) : Prop where
  len : u.kids.length = t.kids.length
  name : u.name = t.name
  leaves : (leavesL u.kids).Perm (leavesL t.kids)
  ns : noSingleL u.kids = noSingleL t.kids

theorem SameBelow.keeps {u t : T} (h : SameBelow u t) : Keeps t u :=
  ⟨tipNames_of h.name h.len h.leaves, h.ns.trans⟩

theorem SameBelow.nsBelow {u t : T} (h : SameBelow u t) : u.noSingleBelow = t.noSingleBelow := by
  obtain ⟨d, p, k⟩ := u
  obtain ⟨d', p', k'⟩ := t
  rw [noSingleBelow_node, noSingleBelow_node, show k.length = k'.length from h.len,
    show noSingleL k = noSingleL k' from h.ns]

theorem Reorders.sameBelow {f : Bool → T → T} (hf : Reorders f) (b : Bool) (t : T) : SameBelow (f b t) t :=
  ⟨(hf.kids b t).length_eq, hf.name b t, leavesL_perm (hf.kids b t), noSingleL_perm (hf.kids b t)⟩

mutual
theorem modAt_inv (f : Bool → T → T) (hf : Reorders f) : ∀ (b : Bool) (p : List Nat) (t : T),
    SameBelow (modAt f b p t) t
  | b, [], t => by rw [modAt]; exact hf.sameBelow b t
  | b, i :: p, .node d pp k => by
    obtain ⟨h1, h2, h3⟩ := modAtL_inv f hf i p k
    exact ⟨h3, rfl, h1, h2⟩
theorem modAtL_inv (f : Bool → T → T) (hf : Reorders f) : ∀ (i : Nat) (p : List Nat) (k : Kids),
    (leavesL (modAtL f i p k)).Perm (leavesL k) ∧ noSingleL (modAtL f i p k) = noSingleL k ∧
    (modAtL f i p k).length = k.length
  | _, _, [] => by simp [modAtL]
  | 0, p, (e, t) :: r => by
    have h := modAt_inv f hf false p t
    simp only [modAtL, leavesL_cons, noSingleL, h.nsBelow, List.length_cons]
    exact ⟨List.Perm.append_right _ (T.leaves_perm h.name h.len h.leaves), trivial, trivial⟩
  | i + 1, p, (e, t) :: r => by
    obtain ⟨h1, h2, h3⟩ := modAtL_inv f hf i p r
    simp only [modAtL, leavesL_cons, noSingleL, h2, List.length_cons, h3]
    exact ⟨List.Perm.append_left _ h1, trivial, trivial⟩
end

/- ## RotateNeighbors on one node -/

theorem rotNode_reorders (ds : List Nat) : Reorders (rotNode ds) where
  kids := fun b t => by
    obtain ⟨d, p, k⟩ := t
    simp only [rotNode, T.kids_node]
    refine (filterMap_shuf_perm _ _ _).trans ?_
    cases b
    · simp [filterMap_insertAt_none]
    · simp
  name := fun b t => by
    obtain ⟨d, p, k⟩ := t
    simp [rotNode, T.name]

theorem rotateOne_tips (p ds : List Nat) (t : T) : (rotateOne p ds t).tipNames.Perm t.tipNames :=
  (modAt_inv _ (rotNode_reorders ds) true p t).keeps.tips

theorem rotateOne_noSingle (p ds : List Nat) (t : T) : (rotateOne p ds t).noSingle = t.noSingle :=
  (modAt_inv _ (rotNode_reorders ds) true p t).ns

/-- rotating the neighbours of a node with the identity draws `0,1,2,…` changes nothing: the draw
    script `j = i` is the identity permutation (sanity of the transliteration) -/
example : rotateOne [0] [0, 1, 2] (T.node ⟨"r", []⟩ 0 [(EdgeD.blank, T.node ⟨"x", []⟩ 0 [(EdgeD.blank, T.leaf "a"), (EdgeD.blank, T.leaf "b")]), (EdgeD.blank, T.leaf "c")]) =
    T.node ⟨"r", []⟩ 0 [(EdgeD.blank, T.node ⟨"x", []⟩ 0 [(EdgeD.blank, T.leaf "a"), (EdgeD.blank, T.leaf "b")]), (EdgeD.blank, T.leaf "c")] := by rfl

/- ## Annotate in comment mode: names and shape untouched -/

theorem addComment_reorders (c : String) : Reorders (addCommentNode c) where
  kids := fun _ t => by obtain ⟨d, p, k⟩ := t; simp [addCommentNode]
  name := fun _ t => by obtain ⟨d, p, k⟩ := t; simp [addCommentNode, T.name]

theorem annotateStep_comment_inv (orig : T) (line : List String) (cur c : T)
    (h : annotateStep true orig line cur = .ok c) : SameBelow c cur := by
  have hm := fun p => modAt_inv _ (addComment_reorders (line.headD "")) true p cur
  unfold annotateStep at h
  simp only [if_true] at h
  split at h
  · cases h
  · cases h
  · split at h <;> cases h
    · exact hm _
    · exact ⟨rfl, rfl, .refl _, rfl⟩
  · split at h
    · cases h
    · split at h
      · cases h
      · split at h <;> cases h
        exact hm _

theorem SameBelow.trans {a b c : T} (h1 : SameBelow a b) (h2 : SameBelow b c) : SameBelow a c :=
  ⟨h1.len.trans h2.len, h1.name.trans h2.name, h1.leaves.trans h2.leaves, h1.ns.trans h2.ns⟩

theorem annotateLoop_comment_inv (orig : T) : ∀ (lines : List (List String)) (cur t' : T),
    annotateLoop true orig lines cur = .ok t' → SameBelow t' cur
  | [], cur, t', h => by cases h; exact ⟨rfl, rfl, .refl _, rfl⟩
  | line :: rest, cur, t', h => by
    simp only [annotateLoop] at h
    split at h
    · rename_i c hc
      exact (annotateLoop_comment_inv orig rest c t' h).trans (annotateStep_comment_inv orig line cur c hc)
    · cases h
    · cases h

/- ## CollapseClade: a non-root node replaced by a tip -/

/-- a node replaced by a tip `name`: the tips below it (`s`) give way to the one name -/
def Replaced (name : String) (l l' : List String) : Prop :=
  l' = l ∨ ∃ a s c, l = a ++ s ++ c ∧ l' = a ++ [name] ++ c

theorem Replaced.prefix {name : String} {l l' : List String} (x : List String) (h : Replaced name l l') :
    Replaced name (x ++ l) (x ++ l') := by
  rcases h with h | ⟨a, s, c, h1, h2⟩
  · exact Or.inl (by rw [h])
  · exact Or.inr ⟨x ++ a, s, c, by simp [h1], by simp [h2]⟩

theorem Replaced.suffix {name : String} {l l' : List String} (y : List String) (h : Replaced name l l') :
    Replaced name (l ++ y) (l' ++ y) := by
  rcases h with h | ⟨a, s, c, h1, h2⟩
  · exact Or.inl (by rw [h])
  · exact Or.inr ⟨a, s, c ++ y, by simp [h1], by simp [h2]⟩

theorem Replaced.nodup {name : String} {l l' : List String} (h : Replaced name l l') (hn : l.Nodup)
    (hm : name ∉ l) : l'.Nodup := by
  rcases h with h | ⟨a, s, c, h1, h2⟩
  · rw [h]; exact hn
  · subst h1 h2
    have hsub : (a ++ c).Sublist (a ++ s ++ c) := by
      rw [List.append_assoc]
      exact List.Sublist.append_left (List.sublist_append_right s c) a
    have h1 : (a ++ c).Nodup := hsub.nodup hn
    have h2 : name ∉ a ++ c := fun hx => hm (hsub.subset hx)
    have hp : (a ++ [name] ++ c).Perm (name :: (a ++ c)) := by
      simpa using (List.perm_middle (a := name) (l₁ := a) (l₂ := c))
    exact hp.nodup_iff.mpr (List.nodup_cons.mpr ⟨h2, h1⟩)

theorem modAtL_repl (name : String) : ∀ (i : Nat) (p : List Nat) (k : Kids),
    (modAtL (fun _ _ => T.leaf name) i p k).length = k.length ∧
    (noSingleL k = true → noSingleL (modAtL (fun _ _ => T.leaf name) i p k) = true) ∧
    Replaced name (leavesL k) (leavesL (modAtL (fun _ _ => T.leaf name) i p k))
  | _, _, [] => ⟨rfl, id, Or.inl rfl⟩
  | 0, [], (e, t) :: r => by
    refine ⟨rfl, fun h => ?_, Or.inr ⟨[], t.leaves, leavesL r, rfl, by simp [modAtL, modAt, leavesL_cons, T.leaf, T.leaves]⟩⟩
    simp only [noSingleL, Bool.and_eq_true] at h
    simp only [modAtL, modAt, noSingleL, noSingleBelow_leaf, h.2, Bool.and_self]
  | 0, j :: q, (e, .node d pp kk) :: r => by
    obtain ⟨h1, h2, h3⟩ := modAtL_repl name j q kk
    refine ⟨rfl, fun h => ?_, ?_⟩
    · simp only [noSingleL, Bool.and_eq_true, noSingleBelow_node] at h
      simp only [modAtL, modAt, noSingleL, Bool.and_eq_true, noSingleBelow_node, h1]
      exact ⟨⟨h.1.1, h2 h.1.2⟩, h.2⟩
    · simp only [modAtL, modAt, leavesL_cons]
      refine Replaced.suffix _ ?_
      rw [T.leaves_node, T.leaves_node, isEmpty_congr h1]
      split
      · exact Or.inl rfl
      · exact h3
  | i + 1, p, (e, t) :: r => by
    obtain ⟨h1, h2, h3⟩ := modAtL_repl name i p r
    refine ⟨congrArg (· + 1) h1, fun h => ?_, Replaced.prefix _ h3⟩
    simp only [noSingleL, Bool.and_eq_true] at h
    simp only [modAtL, noSingleL, Bool.and_eq_true]
    exact ⟨h.1, h2 h.2⟩
termination_by _ _ k => k

/-- replacing a non-root node by a tip with a new name keeps the tip names distinct and creates no
    single-child node -/
theorem replaceAt_inv (name : String) (i : Nat) (q : List Nat) (t : T) (hu : t.tipNames.Nodup)
    (hn : name ∉ t.tipNames) :
    (modAt (fun _ _ => T.leaf name) true (i :: q) t).tipNames.Nodup ∧
    (t.noSingle = true → (modAt (fun _ _ => T.leaf name) true (i :: q) t).noSingle = true) := by
  obtain ⟨d, pp, k⟩ := t
  obtain ⟨h1, h2, h3⟩ := modAtL_repl name i q k
  simp only [modAt, T.noSingle, T.kids_node]
  refine ⟨?_, h2⟩
  unfold T.tipNames at hu hn ⊢
  simp only [T.kids_node, h1] at hu hn ⊢
  exact (Replaced.prefix _ h3).nodup hu hn

/- ## AddBipartition: slots picked from a neighbour list -/

theorem dropSlots_cons_lt {α : Type} (i : Nat) (S : List Nat) : ∀ (l : List α) (k : Nat), i < k →
    dropSlots (i :: S) k l = dropSlots S k l
  | [], _, _ => rfl
  | x :: r, k, h => by
    simp only [dropSlots, List.contains_cons, dropSlots_cons_lt i S r (k + 1) (by omega)]
    have : (k == i) = false := by simp; omega
    simp [this]

/-- taking slot `i` out as well removes exactly the element sitting there -/
theorem dropSlots_pick {α : Type} (i : Nat) (S : List Nat) (hi : i ∉ S) : ∀ (l : List α) (k : Nat) (x : α),
    k ≤ i → l[i - k]? = some x → (dropSlots S k l).Perm (x :: dropSlots (i :: S) k l)
  | [], _, _, _, h => by simp at h
  | y :: r, k, x, hk, h => by
    by_cases he : k = i
    · subst he
      simp only [Nat.sub_self, List.getElem?_cons_zero, Option.some.injEq] at h
      subst h
      have h1 : S.contains k = false := by simpa using hi
      simp only [dropSlots, h1, List.contains_cons, BEq.rfl, Bool.true_or, if_true, Bool.false_eq_true, if_false]
      rw [dropSlots_cons_lt k S r (k + 1) (by omega)]
    · have hlt : k < i := by omega
      have h' : r[i - (k + 1)]? = some x := by
        have : i - k = (i - (k + 1)) + 1 := by omega
        rw [this, List.getElem?_cons_succ] at h
        exact h
      have ih := dropSlots_pick i S hi r (k + 1) x (by omega) h'
      have hki : (k == i) = false := by simp; omega
      simp only [dropSlots, List.contains_cons, hki, Bool.false_or]
      split
      · exact ih
      · exact (List.Perm.cons y ih).trans (List.Perm.swap x y _)

theorem mapM_cons_some {α β : Type} {f : α → Option β} {a : α} {S : List α} {sel : List β}
    (h : (a :: S).mapM f = some sel) : ∃ x sel', f a = some x ∧ S.mapM f = some sel' ∧ sel = x :: sel' := by
  simp only [List.mapM_cons, Option.pure_def, Option.bind_eq_bind, Option.bind_eq_some_iff, Option.some.injEq] at h
  obtain ⟨x, hx, sel', hs, rfl⟩ := h
  exact ⟨x, sel', hx, hs, rfl⟩

/-- the selected neighbours and the remaining ones are the neighbours -/
theorem pick_drop_perm {α : Type} : ∀ (S : List Nat) (ng sel : List α), S.Nodup →
    S.mapM (fun i => ng[i]?) = some sel → (dropSlots S 0 ng ++ sel).Perm ng
  | [], ng, sel, _, h => by
    simp only [List.mapM_nil, Option.pure_def, Option.some.injEq] at h
    subst h
    have : ∀ (l : List α) (k : Nat), dropSlots [] k l = l := by
      intro l; induction l with
      | nil => intro k; rfl
      | cons a r ih => intro k; simp [dropSlots, ih]
    simp [this]
  | i :: S, ng, sel, hnd, h => by
    obtain ⟨x, sel', hx, hs, rfl⟩ := mapM_cons_some h
    have hnd' := List.nodup_cons.mp hnd
    have hp := dropSlots_pick i S hnd'.1 ng 0 x (Nat.zero_le _) (by simpa using hx)
    refine List.Perm.trans ?_ (pick_drop_perm S ng sel' hnd'.2 hs)
    refine List.Perm.trans ?_ (List.Perm.append_right sel' hp.symm)
    simpa using (List.perm_middle (a := x) (l₁ := dropSlots (i :: S) 0 ng) (l₂ := sel'))

theorem mapM_some_length {α β : Type} (f : α → Option β) : ∀ (S : List α) (sel : List β),
    S.mapM f = some sel → sel.length = S.length
  | [], sel, h => by simp at h; subst h; rfl
  | a :: S, sel, h => by
    obtain ⟨x, sel', _, hs, rfl⟩ := mapM_cons_some h
    simp [mapM_some_length f S sel' hs]

theorem filterMap_id_length {α : Type} (l : List (Option α)) :
    (l.filterMap id).length + l.countP (·.isNone) = l.length := by
  induction l with
  | nil => rfl
  | cons a r ih => cases a <;> simp <;> omega

/-- distinct slots split a list of optional entries into the selected and the remaining ones:
    nothing is lost, neither of the entries nor of the gaps -/
theorem pick_drop_split {α : Type} {S : List Nat} {ng sel : List (Option α)} (hnd : S.Nodup)
    (hsel : S.mapM (fun i => ng[i]?) = some sel) :
    ((dropSlots S 0 ng).filterMap id ++ sel.filterMap id).Perm (ng.filterMap id) ∧ sel.length = S.length ∧
      (dropSlots S 0 ng).countP (·.isNone) + sel.countP (·.isNone) = ng.countP (·.isNone) := by
  have hp := pick_drop_perm S ng sel hnd hsel
  exact ⟨by simpa using hp.filterMap id, mapM_some_length _ S sel hsel, by simpa using hp.countP_eq (·.isNone)⟩

/-- the neighbour list of a node: its children and, unless it is the root, one gap for the parent -/
theorem neigh_spec (isRoot : Bool) (k : Kids) (p : Nat) :
    ∃ ng, (if isRoot then k.map some else insertAt (k.map some) p (none : Option (EdgeD × T))) = ng ∧
      ng.filterMap id = k ∧ ng.countP (·.isNone) ≤ 1 ∧ (isRoot = true → ng.countP (·.isNone) = 0) := by
  refine ⟨_, rfl, ?_⟩
  cases isRoot
  · simp [filterMap_insertAt_none, (Gotree.insertAt_perm (k.map some) p none).countP_eq, List.countP_map,
      Function.comp_def]
  · simp [List.countP_map, Function.comp_def]

def fr (ec : EdgeD × T) : EdgeD × T := (freshE ec.1, reparent ec.2)

theorem reparent_leaves (c : T) : (reparent c).leaves = c.leaves := by
  obtain ⟨d, p, k⟩ := c
  simp [reparent, T.leaves_node]

theorem leavesL_map_fr : ∀ (B : Kids), leavesL (B.map fr) = leavesL B
  | [] => rfl
  | (e, c) :: r => by simp [fr, leavesL_cons, reparent_leaves, leavesL_map_fr r]

/-- what `AddBipartition` computes at its node: the children are split into those that stay (`A`) and
    those grouped below the new node (`B`); at least two are grouped, and n keeps a child -/
theorem addBipNode_sized (isRoot : Bool) (S : List Nat) (len sup : Rat) (d : NodeD) (p : Nat) (k : Kids)
    (hnd : S.Nodup) :
    match addBipNode isRoot S len sup (.node d p k) with
    | .err => True
    | .inner n' => ∃ (A B : Kids) (pp m : Nat), (A ++ B).Perm k ∧ 2 ≤ B.length ∧ 1 ≤ A.length ∧ (isRoot = true → 2 ≤ A.length) ∧
        n' = .node d pp (A ++ [(⟨len, sup, NIL, [], -1⟩, .node ⟨"", []⟩ m (B.map fr))])
    | .outer n2 => ∃ (A B : Kids) (pp : Nat), (A ++ B).Perm k ∧ 2 ≤ A.length ∧ 1 ≤ B.length ∧
        n2 = .node ⟨"", []⟩ pp (B.map fr ++ [(⟨len, sup, NIL, [], -1⟩, .node d A.length A)]) := by
  obtain ⟨ng, e, hk, hc⟩ := neigh_spec isRoot k p
  simp only [addBipNode, e]
  have hng := filterMap_id_length ng
  rw [hk] at hng
  by_cases hsz : (decide (S.length ≤ 1) || decide (S.length + 1 ≥ ng.length)) = true
  · simp only [hsz, if_true]
  · simp only [hsz, Bool.false_eq_true, if_false]
    simp only [Bool.or_eq_true, decide_eq_true_eq, not_or] at hsz
    cases hsel : S.mapM (fun i => ng[i]?) with
    | none => trivial
    | some sel =>
      -- sizes: entries and gaps of `ng` are those of the rest and of the selection together; the
      -- selection holds the one gap (the parent) in the `outer` case and none in the `inner` case
      obtain ⟨h1, h2, h3⟩ := pick_drop_split hnd hsel
      have hA := filterMap_id_length (dropSlots S 0 ng)
      have hB := filterMap_id_length sel
      have hl := h1.length_eq
      rw [hk] at h1 hl
      simp only [List.length_append] at hl
      by_cases hany : sel.any (·.isNone) = true
      · simp only [hany, if_true]
        have hz : 1 ≤ sel.countP (·.isNone) := List.countP_pos_iff.mpr (List.any_eq_true.mp hany)
        exact ⟨_, _, _, h1, by omega, by omega, rfl⟩
      · simp only [hany, Bool.false_eq_true, if_false]
        have hz : sel.countP (·.isNone) = 0 :=
          List.countP_eq_zero.mpr fun a ha hn => hany (List.any_eq_true.mpr ⟨a, ha, hn⟩)
        exact ⟨_, _, _, _, h1, by omega, by omega, fun hr => by have := hc.2 hr; omega, rfl⟩

theorem leavesL_snoc (A : Kids) (e : EdgeD) (c : T) : leavesL (A ++ [(e, c)]) = leavesL A ++ c.leaves := by
  rw [leavesL_append, leavesL_cons]; simp [leavesL]

theorem leaves_node_pos (d : NodeD) (p : Nat) {k : Kids} (h : 1 ≤ k.length) : (T.node d p k).leaves = leavesL k := by
  cases k with
  | nil => cases h
  | cons a l => simp [T.leaves_node]

/-- the tips below the node are kept by `AddBipartition` at that node -/
theorem addBipNode_leaves (isRoot : Bool) (S : List Nat) (len sup : Rat) (d : NodeD) (p : Nat) (k : Kids)
    (hnd : S.Nodup) :
    match addBipNode isRoot S len sup (.node d p k) with
    | .err => True
    | .inner n' => n'.leaves.Perm (T.node d p k).leaves ∧ (leavesL n'.kids).Perm (leavesL k) ∧
        (isRoot = true → n'.kids.length ≠ 1 ∧ k.length ≠ 1)
    | .outer n2 => n2.leaves.Perm (T.node d p k).leaves := by
  have h := addBipNode_sized isRoot S len sup d p k hnd
  revert h
  cases addBipNode isRoot S len sup (.node d p k) with
  | err => exact id
  | inner n' =>
    rintro ⟨A, B, pp, m, hp, hB, hA1, hA, rfl⟩
    dsimp only
    have hl := hp.length_eq
    rw [List.length_append] at hl
    have e : leavesL (A ++ [((⟨len, sup, NIL, [], -1⟩ : EdgeD), T.node ⟨"", []⟩ m (B.map fr))]) = leavesL (A ++ B) := by
      rw [leavesL_snoc, leaves_node_pos _ _ (by simpa using by omega), leavesL_map_fr, leavesL_append]
    refine ⟨?_, e ▸ leavesL_perm hp, fun hr => ?_⟩
    · rw [leaves_node_pos _ _ (by simp), leaves_node_pos _ _ (by omega), e]
      exact leavesL_perm hp
    · have := hA hr
      simp only [T.kids_node, List.length_append, List.length_cons, List.length_nil]
      omega
  | outer n2 =>
    rintro ⟨A, B, pp, hp, hA, hB, rfl⟩
    dsimp only
    have hl := hp.length_eq
    rw [List.length_append] at hl
    rw [leaves_node_pos _ _ (by simp), leaves_node_pos _ _ (by omega), leavesL_snoc, leavesL_map_fr,
      leaves_node_pos _ _ (by omega), ← leavesL_append]
    exact leavesL_perm (List.perm_append_comm.trans hp)


/- ## AddBipartition creates no single-child node -/

theorem reparent_ns (c : T) : (reparent c).noSingleBelow = c.noSingleBelow := by
  obtain ⟨d, p, k⟩ := c
  simp [reparent, noSingleBelow_node]

theorem nsL_map_fr : ∀ (B : Kids), noSingleL (B.map fr) = noSingleL B
  | [] => rfl
  | (e, c) :: r => by simp [fr, noSingleL, reparent_ns, nsL_map_fr r]

theorem addBipNode_ns (isRoot : Bool) (S : List Nat) (len sup : Rat) (d : NodeD) (p : Nat) (k : Kids)
    (hnd : S.Nodup) (hk : noSingleL k = true) :
    match addBipNode isRoot S len sup (.node d p k) with
    | .err => True
    | .inner n' => noSingleL n'.kids = true ∧ (isRoot = false → n'.kids.length ≠ 1)
    | .outer n2 => n2.noSingleBelow = true := by
  have h := addBipNode_sized isRoot S len sup d p k hnd
  revert h
  cases addBipNode isRoot S len sup (.node d p k) with
  | err => exact id
  | inner n' =>
    rintro ⟨A, B, pp, m, hp, hB, hA1, _, rfl⟩
    rw [← noSingleL_perm hp, noSingleL_append, Bool.and_eq_true] at hk
    simp only [T.kids_node, noSingleL_append, noSingleL, noSingleBelow_node, nsL_map_fr, List.length_map, hk.1, hk.2,
      Bool.and_true, Bool.true_and, bne_iff_ne, ne_eq, List.length_append, List.length_cons, List.length_nil]
    omega
  | outer n2 =>
    rintro ⟨A, B, pp, hp, hA, hB, rfl⟩
    rw [← noSingleL_perm hp, noSingleL_append, Bool.and_eq_true] at hk
    simp only [noSingleBelow_node, noSingleL_append, noSingleL, nsL_map_fr, hk.1, hk.2, List.length_append, List.length_map,
      List.length_cons, List.length_nil, Bool.and_true, Bool.true_and, Bool.and_eq_true, bne_iff_ne, ne_eq]
    omega

/- the walk down the path: below the node where the bipartition is added nothing changes; above
   it every node keeps its place, except that in the `outer` case the parent loses the child in
   slot `i` and gains the new node as its last child -/
mutual
theorem addBipAt_inv (S : List Nat) (len sup : Rat) (hnd : S.Nodup) : ∀ (i : Nat) (p : List Nat) (t t' : T),
    addBipAt S len sup (i :: p) t = some t' →
    (leavesL t'.kids).Perm (leavesL t.kids) ∧ t'.kids.length = t.kids.length ∧ t'.name = t.name ∧
    (noSingleL t.kids = true → noSingleL t'.kids = true)
  | i, p, .node d pp k, t', h => by
    simp only [addBipAt] at h
    split at h
    · cases h
    · rename_i k' hk
      cases h
      obtain ⟨h1, h2, h3⟩ := addBipL_both S len sup hnd i p k k' none hk
      exact ⟨h1, h2, rfl, h3⟩
    · rename_i k' eP n2 hk
      cases h
      obtain ⟨h1, h2, h3⟩ := addBipL_both S len sup hnd i p k k' (some (eP, n2)) hk
      simp only [T.kids_node, leavesL_snoc, List.length_append, List.length_cons, List.length_nil, noSingleL_append,
        noSingleL, Bool.and_true, Bool.and_eq_true]
      exact ⟨h1, h2, rfl, h3⟩
theorem addBipL_both (S : List Nat) (len sup : Rat) (hnd : S.Nodup) : ∀ (i : Nat) (p : List Nat) (k k' : Kids)
    (o : Option (EdgeD × T)), addBipL S len sup i p k = some (k', o) →
    match o with
    | none => (leavesL k').Perm (leavesL k) ∧ k'.length = k.length ∧ (noSingleL k = true → noSingleL k' = true)
    | some en => (leavesL k' ++ en.2.leaves).Perm (leavesL k) ∧ k'.length + 1 = k.length ∧
        (noSingleL k = true → noSingleL k' = true ∧ en.2.noSingleBelow = true)
  | _, _, [], k', o, h => by simp [addBipL] at h
  | 0, [], (e, .node d pp kk) :: r, k', o, h => by
    have hl := addBipNode_leaves false S len sup d pp kk hnd
    have hn := addBipNode_ns false S len sup d pp kk hnd
    simp only [addBipL] at h
    split at h
    · cases h
    · rename_i t' ht
      cases h
      rw [ht] at hl hn
      refine ⟨List.Perm.append_right _ hl.1, rfl, fun hk => ?_⟩
      simp only [noSingleL, Bool.and_eq_true, noSingleBelow_node] at hk
      simp only [noSingleL, T.noSingleBelow_eq t', Bool.and_eq_true, bne_iff_ne, ne_eq]
      exact ⟨⟨(hn hk.1.2).2 rfl, (hn hk.1.2).1⟩, hk.2⟩
    · rename_i n2 ht
      cases h
      rw [ht] at hl hn
      refine ⟨List.perm_append_comm.trans (List.Perm.append_right _ hl), rfl, fun hk => ?_⟩
      simp only [noSingleL, Bool.and_eq_true, noSingleBelow_node] at hk
      exact ⟨hk.2, hn hk.1.2⟩
  | 0, j :: q, (e, t) :: r, k', o, h => by
    simp only [addBipL] at h
    split at h
    · rename_i t' ht
      cases h
      obtain ⟨a1, a2, a3, a4⟩ := addBipAt_inv S len sup hnd j q t t' ht
      refine ⟨List.Perm.append_right _ (T.leaves_perm a3 a2 a1), rfl, fun hk => ?_⟩
      simp only [noSingleL, T.noSingleBelow_eq, Bool.and_eq_true, a2] at hk ⊢
      exact ⟨⟨hk.1.1, a4 hk.1.2⟩, hk.2⟩
    · cases h
  | i + 1, p, (e, c) :: r, k', o, h => by
    simp only [addBipL] at h
    split at h
    · rename_i k'' _ hk
      cases h
      have ih := addBipL_both S len sup hnd i p r k'' o hk
      cases o with
      | none =>
        simp only [leavesL_cons, List.length_cons, noSingleL, Bool.and_eq_true] at ih ⊢
        exact ⟨List.Perm.append_left _ ih.1, by omega, fun hk => ⟨hk.1, ih.2.2 hk.2⟩⟩
      | some en =>
        simp only [leavesL_cons, List.length_cons, List.append_assoc, noSingleL, Bool.and_eq_true] at ih ⊢
        exact ⟨List.Perm.append_left _ ih.1, by omega, fun hk => ⟨⟨hk.1, (ih.2.2 hk.2).1⟩, (ih.2.2 hk.2).2⟩⟩
    · cases h
end

/-- a successful `AddBipartition` at any node, with distinct slots, permutes the tips and creates no
    single-child node -/
theorem addBipAt_keeps {S : List Nat} {len sup : Rat} {p : List Nat} {t t' : T} (hnd : S.Nodup)
    (h : addBipAt S len sup p t = some t') : Keeps t t' := by
  cases p with
  | nil =>
    obtain ⟨d, pp, k⟩ := t
    have hl := addBipNode_leaves true S len sup d pp k hnd
    have hn := addBipNode_ns true S len sup d pp k hnd
    simp only [addBipAt] at h
    split at h <;> cases h
    rename_i hres
    rw [hres] at hl hn
    obtain ⟨_, h1, h5⟩ := hl
    refine ⟨?_, fun hk => (hn hk).1⟩
    simp only [T.tipNames, T.kids_node, beq_iff_eq, (h5 rfl).1, (h5 rfl).2, if_false, List.nil_append]
    exact h1
  | cons i q =>
    obtain ⟨a1, a2, a3, a4⟩ := addBipAt_inv S len sup hnd i q t t' h
    exact ⟨tipNames_of a3 a2 a1, a4⟩

theorem addBipL_inv (S : List Nat) (len sup : Rat) (hnd : S.Nodup) : ∀ (i : Nat) (p : List Nat) (k k' : Kids)
    (o : Option (EdgeD × T)), addBipL S len sup i p k = some (k', o) →
    match o with
    | none => (leavesL k').Perm (leavesL k) ∧ k'.length = k.length
    | some en => (leavesL k' ++ en.2.leaves).Perm (leavesL k) ∧ k'.length + 1 = k.length := by
  intro i p k k' o h
  have := addBipL_both S len sup hnd i p k k' o h
  cases o <;> exact ⟨this.1, this.2.1⟩

theorem addBipL_ns (S : List Nat) (len sup : Rat) (hnd : S.Nodup) : ∀ (i : Nat) (p : List Nat) (k k' : Kids)
    (o : Option (EdgeD × T)), addBipL S len sup i p k = some (k', o) → noSingleL k = true →
    match o with
    | none => noSingleL k' = true
    | some en => noSingleL k' = true ∧ en.2.noSingleBelow = true := by
  intro i p k k' o h hk
  have := addBipL_both S len sup hnd i p k k' o h
  cases o <;> exact this.2.2 hk

end Gotree.C03

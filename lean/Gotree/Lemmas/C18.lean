/-
  Lemmas for C18.  A Go map is listed in some order `l`; a loop over it is harmless when its result depends on `l`
  only through what does not change under permutation: the sorted keys and the lookup function `get l` (keys
  distinct), an `all`/`any` over the entries, or a fold whose steps commute on what is observed.
-/
import Gotree.Model.C18

namespace Gotree.C18

/-! ## sorting -/

theorem sortS_sorted (l : List String) : (sortS l).Pairwise (fun a b => a ≤ b) := by
  simpa [sortS] using List.pairwise_mergeSort (le := fun (a b : String) => decide (a ≤ b))
    (by simpa using fun _ _ _ => String.le_trans) (by simpa using String.le_total) l

theorem sortS_perm (l : List String) : (sortS l).Perm l := List.mergeSort_perm l _

/-- sorting erases the listing: two sorted permutations of each other are equal -/
theorem sortS_eq_of_perm {l l' : List String} (h : l.Perm l') : sortS l = sortS l' :=
  List.Perm.eq_of_pairwise (fun _ _ _ _ => String.le_antisymm) (sortS_sorted l) (sortS_sorted l')
    ((sortS_perm l).trans (h.trans (sortS_perm l').symm))

theorem sortI_sorted (l : List Int) : (sortI l).Pairwise (fun a b => a ≤ b) := by
  simpa [sortI] using List.pairwise_mergeSort (le := fun (a b : Int) => decide (a ≤ b))
    (by simpa using fun _ _ _ => Int.le_trans) (by simpa using Int.le_total) l

theorem sortI_perm (l : List Int) : (sortI l).Perm l := List.mergeSort_perm l _

theorem sortI_eq_of_perm {l l' : List Int} (h : l.Perm l') : sortI l = sortI l' :=
  List.Perm.eq_of_pairwise (fun _ _ _ _ => Int.le_antisymm) (sortI_sorted l) (sortI_sorted l')
    ((sortI_perm l).trans (h.trans (sortI_perm l').symm))

/-! ## keys, lookup -/

theorem foldl_collect {K V} (l : List (K × V)) (acc : List K) :
    l.foldl (fun acc e => acc ++ [e.1]) acc = acc ++ l.map (·.1) := by
  induction l generalizing acc with
  | nil => simp
  | cons a t ih => simp [ih]

theorem collectKeys_eq {V} (l : List (String × V)) : collectKeys l = l.map (·.1) :=
  foldl_collect l []

theorem sortedKeys_perm {V} {l l' : List (String × V)} (h : l.Perm l') :
    sortS (collectKeys l) = sortS (collectKeys l') := by
  rw [collectKeys_eq, collectKeys_eq, sortS_eq_of_perm (h.map _)]

theorem nodupKeys_cons {K V} [BEq K] [LawfulBEq K] {k : K} {v : V} {t : List (K × V)} :
    nodupKeys ((k, v) :: t) = true ↔ (∀ e ∈ t, e.1 ≠ k) ∧ nodupKeys t = true := by
  simp [nodupKeys]

theorem nodupKeys_iff {K V} [BEq K] [LawfulBEq K] (l : List (K × V)) :
    nodupKeys l = true ↔ (l.map (·.1)).Nodup := by
  induction l with
  | nil => simp [nodupKeys]
  | cons a t ih =>
    simp only [nodupKeys, ih, List.map_cons, List.nodup_cons, List.mem_map, Bool.and_eq_true, Bool.not_eq_true',
      List.any_eq_false, beq_iff_eq, not_exists, not_and]

theorem nodupVals_iff {K V} [BEq V] [LawfulBEq V] (l : List (K × V)) :
    nodupVals l = true ↔ (l.map (·.2)).Nodup := by
  induction l with
  | nil => simp [nodupVals]
  | cons a t ih =>
    simp only [nodupVals, ih, List.map_cons, List.nodup_cons, List.mem_map, Bool.and_eq_true, Bool.not_eq_true',
      List.any_eq_false, beq_iff_eq, not_exists, not_and]

theorem nodupKeys_perm {K V} [BEq K] [LawfulBEq K] {l l' : List (K × V)} (h : l.Perm l') :
    nodupKeys l = true → nodupKeys l' = true := by
  rw [nodupKeys_iff, nodupKeys_iff]
  exact (h.map _).nodup_iff.mp

theorem inj_of_nodup_map {α β} (f : α → β) : ∀ (l : List α), (l.map f).Nodup →
    ∀ x ∈ l, ∀ y ∈ l, f x = f y → x = y
  | [], _, x, hx, _, _, _ => by simp at hx
  | a :: t, hn, x, hx, y, hy, hxy => by
    simp only [List.map_cons, List.nodup_cons] at hn
    rcases List.mem_cons.mp hx with rfl | hx' <;> rcases List.mem_cons.mp hy with rfl | hy'
    · rfl
    · exact absurd (List.mem_map.mpr ⟨y, hy', hxy.symm⟩) hn.1
    · exact absurd (List.mem_map.mpr ⟨x, hx', hxy⟩) hn.1
    · exact inj_of_nodup_map f t hn.2 x hx' y hy' hxy

theorem mem_of_get {K V} [BEq K] [LawfulBEq K] {l : List (K × V)} {k : K} {v : V} (h : get l k = some v) :
    (k, v) ∈ l := by
  obtain ⟨l₁, l₂, rfl, _⟩ := List.lookup_eq_some_iff.mp h
  simp

theorem get_of_mem {K V} [BEq K] [LawfulBEq K] {l : List (K × V)} (hn : nodupKeys l = true) {e : K × V}
    (he : e ∈ l) : get l e.1 = some e.2 := by
  obtain ⟨s, t, rfl⟩ := List.append_of_mem he
  rw [nodupKeys_iff, List.map_append, List.nodup_append] at hn
  exact List.lookup_eq_some_iff.mpr ⟨s, t, rfl, fun p hp => by
    simpa using fun hk => hn.2.2 p.1 (List.mem_map_of_mem hp) e.1 (by simp) hk.symm⟩

/-- the lookup function of a map with distinct keys does not depend on how the map is listed: with distinct keys
    `get l k = some v` says `(k, v) ∈ l` -/
theorem get_perm {K V} [BEq K] [LawfulBEq K] {l l' : List (K × V)} (h : l.Perm l') (hn : nodupKeys l = true) :
    get l = get l' := by
  funext k
  apply Option.ext
  intro v
  exact ⟨fun hg => get_of_mem (nodupKeys_perm h hn) (h.mem_iff.mp (mem_of_get hg)),
    fun hg => get_of_mem hn (h.mem_iff.mpr (mem_of_get hg))⟩

theorem index_injective (index : List (String × Nat)) (hv : nodupVals index = true) :
    ∀ a b id, get index a = some id → get index b = some id → a = b := fun _ _ _ ha hb =>
  congrArg Prod.fst
    (inj_of_nodup_map (·.2) index ((nodupVals_iff index).mp hv) _ (mem_of_get ha) _ (mem_of_get hb) rfl)

/-! ## map writes -/

theorem lookup_replace {K V} [BEq K] [LawfulBEq K] (m : List (K × V)) (k c : K) (v : V) :
    List.lookup c (m.map (fun e => if e.1 == k then (k, v) else e)) =
      if k == c then (if m.any (fun e => e.1 == k) then some v else none) else List.lookup c m := by
  induction m with
  | nil => simp
  | cons a t ih =>
    obtain ⟨ka, va⟩ := a
    by_cases h1 : ka = k
    · subst h1
      by_cases h2 : c = ka
      · subst h2; simp
      · have h2' : ¬ ka = c := fun h => h2 h.symm
        have hb : (c == ka) = false := by simpa using h2
        simp [List.lookup_cons, hb, h2', ih]
    · have h1' : (ka == k) = false := by simpa using h1
      by_cases h2 : c = ka
      · subst h2
        have : ¬ k = c := fun h => h1 h.symm
        simp [h1', this]
      · have hb : (c == ka) = false := by simpa using h2
        by_cases h3 : k = c
        · subst h3
          simp only [List.map_cons, h1', Bool.false_eq_true, if_false, List.lookup_cons, hb, ih,
            List.any_cons, Bool.false_or, beq_self_eq_true, if_true]
        · simp [List.lookup_cons, h1', hb, h3, ih]

/-- `m[k] = v` followed by `m[c]` -/
theorem get_put {K V} [BEq K] [LawfulBEq K] (m : List (K × V)) (k c : K) (v : V) :
    get (put m k v) c = if k == c then some v else get m c := by
  unfold put
  split
  · rename_i hany
    simp only [get, lookup_replace, hany, if_true]
  · rename_i hany
    have hnone : List.lookup k m = none :=
      List.lookup_eq_none_iff.mpr fun p hp => by
        simpa [bne_iff_ne] using fun h : k = p.1 => hany (List.any_eq_true.mpr ⟨p, hp, by simp [h]⟩)
    simp only [get, List.lookup_append]
    by_cases hc : k = c
    · subst hc
      simp [hnone]
    · have : (c == k) = false := by simpa using fun h => hc h.symm
      simp [List.lookup_cons, this, hc]

theorem keys_put {K V} [BEq K] [LawfulBEq K] (m : List (K × V)) (k : K) (v : V) :
    (put m k v).map (·.1) = if m.any (fun e => e.1 == k) then m.map (·.1) else m.map (·.1) ++ [k] := by
  unfold put
  split
  · rw [List.map_map]
    exact List.map_congr_left fun e _ => by simp only [Function.comp]; split <;> simp_all
  · simp

theorem nodupKeys_put {K V} [BEq K] [LawfulBEq K] (m : List (K × V)) (k : K) (v : V)
    (h : nodupKeys m = true) : nodupKeys (put m k v) = true := by
  rw [nodupKeys_iff] at *
  rw [keys_put]
  split
  · exact h
  · rename_i hany
    simpa [List.nodup_append, h] using fun e he hk => hany (List.any_eq_true.mpr ⟨e, he, by simpa using hk⟩)

/-! ## collect the keys, sort, look the values up: the result is a function of the sorted keys and of `get l` -/

theorem walkSorted_perm {V O} (emit : String → Option V → Option O) {l l' : List (String × V)}
    (h : l.Perm l') (hn : nodupKeys l = true) : walkSorted emit l = walkSorted emit l' := by
  unfold walkSorted
  rw [sortedKeys_perm h, get_perm h hn]

theorem eemLoop_perm (acc : List (EemKey × Mut)) {l l' : List (String × Mut)} (h : l.Perm l')
    (hn : nodupKeys l = true) : eemLoop acc l = eemLoop acc l' := by
  unfold eemLoop
  rw [sortedKeys_perm h, get_perm h hn]

/-! ## acr alphabet -/

/-- the alphabet collected so far has no repetition and holds exactly the states met -/
theorem acrCollect_fold (l : List (String × String)) (acc : List String) (hacc : acc.Nodup) :
    (l.foldl (fun alphabet e => if alphabet.contains e.2 then alphabet else alphabet ++ [e.2]) acc).Nodup ∧
    ∀ x, x ∈ l.foldl (fun alphabet e => if alphabet.contains e.2 then alphabet else alphabet ++ [e.2]) acc ↔
      (x ∈ acc ∨ x ∈ l.map (·.2)) := by
  induction l generalizing acc with
  | nil => simp [hacc]
  | cons a t ih =>
    simp only [List.foldl_cons, List.map_cons, List.mem_cons]
    by_cases hc : a.2 ∈ acc
    · rw [if_pos (List.contains_iff_mem.mpr hc)]
      refine ⟨(ih acc hacc).1, fun x => ?_⟩
      rw [(ih acc hacc).2]
      exact ⟨Or.imp_right Or.inr, fun h => h.elim Or.inl (Or.elim · (· ▸ Or.inl hc) Or.inr)⟩
    · rw [if_neg (hc ∘ List.contains_iff_mem.mp)]
      have hn : (acc ++ [a.2]).Nodup := by
        simpa [List.nodup_append, hacc] using fun b hb (e : b = a.2) => hc (e ▸ hb)
      refine ⟨(ih _ hn).1, fun x => ?_⟩
      rw [(ih _ hn).2, List.mem_append, List.mem_singleton, or_assoc]

theorem acrCollect_perm {l l' : List (String × String)} (h : l.Perm l') :
    (acrCollect l).Perm (acrCollect l') := by
  obtain ⟨n1, m1⟩ := acrCollect_fold l [] List.nodup_nil
  obtain ⟨n2, m2⟩ := acrCollect_fold l' [] List.nodup_nil
  refine (List.perm_ext_iff_of_nodup n1 n2).mpr (fun x => ?_)
  show x ∈ List.foldl _ [] l ↔ x ∈ List.foldl _ [] l'
  rw [m1 x, m2 x]
  simp only [List.not_mem_nil, false_or]
  exact (h.map _).mem_iff

/-! ## clearing a map while ranging over it; early exits -/

theorem del_fold {N} (o m : List (String × N)) :
    o.foldl (fun m e => del m e.1) m = m.filter (fun e => !(o.any (fun x => x.1 == e.1))) := by
  induction o generalizing m with
  | nil => exact (List.filter_eq_self.mpr fun _ _ => rfl).symm
  | cons a t ih =>
    rw [List.foldl_cons, ih (del m a.1)]
    simp only [del, List.filter_filter, List.any_cons, Bool.not_or, Bool.and_comm]
    exact List.filter_congr fun e _ => by rw [Bool.beq_comm (a := a.1)]

theorem compareTipIndexesLoop_eq {N} (other : List String) (l : List (String × N)) :
    compareTipIndexesLoop other l = l.all (fun e => other.contains e.1) := by
  induction l with
  | nil => rfl
  | cons a t ih => simp [compareTipIndexesLoop, ih]

theorem mergeDisjointLoop_eq {N} (other : List String) (l : List (String × N)) :
    mergeDisjointLoop other l = l.all (fun e => !(other.contains e.1)) := by
  induction l with
  | nil => rfl
  | cons a t ih => simp [mergeDisjointLoop, ih]

/-! ## MutationList.Append -/

/-- the loop fails iff a key of `l` is already in `m`; otherwise the merged map answers for both -/
theorem mutAppend_eq (m : List (String × Mut)) (l : List (String × Mut)) (hn : nodupKeys l = true) :
    mutAppend m l = if l.any (fun e => (get m e.1).isSome) then none
      else some (fun k => (get m k).or (get l k)) := by
  unfold mutAppend
  induction l generalizing m with
  | nil => simp [mutAppendLoop, get]
  | cons a t ih =>
    obtain ⟨k, v⟩ := a
    obtain ⟨hk, ht⟩ := nodupKeys_cons.mp hn
    simp only [mutAppendLoop, List.any_cons]
    by_cases hs : (get m k).isSome = true
    · simp [hs]
    · have hs : (get m k).isSome = false := by simpa using hs
      -- `k` is new, and no later entry has key `k`: the test on the rest of the list is not affected by the write
      have hany : t.any (fun e => (get (put m k v) e.1).isSome) = t.any (fun e => (get m e.1).isSome) := by
        rw [Bool.eq_iff_iff, List.any_eq_true, List.any_eq_true]
        exact exists_congr fun e => and_congr_right fun he => by
          rw [get_put, if_neg (by simpa using (hk e he).symm)]
      simp only [hs, Bool.false_eq_true, if_false, Bool.false_or]
      rw [ih _ ht, hany]
      split
      · rfl
      · congr 1
        funext c
        rw [get_put]
        by_cases hc : k = c
        · subst hc
          have hnone : List.lookup k m = none := by simpa [get] using hs
          simp [hnone, get]
        · have : (c == k) = false := by simpa using fun h => hc h.symm
          simp [hc, get, List.lookup_cons, this]

/-! ## folds seen through an observation

`List.foldl_hom` moves an observation of the accumulator (the lookup at one key) inside the fold; the observed steps
either commute, or act at one key only. -/

/-- over a map with distinct keys, a step that only reacts to the entries of key `c` reacts at most once -/
theorem foldl_at_key {K V ο} [BEq K] [LawfulBEq K] (c : K) (φ : ο → V → ο) :
    ∀ (l : List (K × V)) (o : ο), nodupKeys l = true →
      l.foldl (fun o e => if e.1 == c then φ o e.2 else o) o = match get l c with | none => o | some v => φ o v
  | [], o, _ => rfl
  | (k, v) :: t, o, hn => by
    obtain ⟨hk, ht⟩ := nodupKeys_cons.mp hn
    rw [List.foldl_cons, foldl_at_key c φ t _ ht]
    by_cases h : k = c
    · subst h
      have : List.lookup k t = none :=
        List.lookup_eq_none_iff.mpr fun p hp => by simpa [bne_iff_ne] using (hk p hp).symm
      simp [this, get]
    · have h2 : (c == k) = false := by simpa using fun e => h e.symm
      simp [h, get, List.lookup_cons, h2]

/-- the count of character `c` after one entry of a child's distribution has been merged -/
def cdAdd (o : Option Nat) (v : Nat) : Option Nat :=
  some (match o with | none => v | some old => old + v)

def cdStep (c : Char) (o : Option Nat) (e : Char × Nat) : Option Nat :=
  if e.1 == c then cdAdd o e.2 else o

theorem charDist_fold (cd l : List (Char × Nat)) (c : Char) :
    get (charDistLoop cd l) c = l.foldl (cdStep c) (get cd c) := by
  refine (List.foldl_hom (get · c) fun cd e => ?_).symm
  unfold cdStep cdAdd
  by_cases hc : e.1 = c
  · subst hc
    cases hg : get cd e.1 <;> simp [get_put]
  · cases get cd e.1 <;> simp [get_put, hc]

theorem cdStep_comm (c : Char) (o : Option Nat) (x y : Char × Nat) :
    cdStep c (cdStep c o x) y = cdStep c (cdStep c o y) x := by
  unfold cdStep cdAdd
  cases hx : x.1 == c <;> cases hy : y.1 == c <;> cases o <;> simp <;> omega

theorem nodupKeys_charDistLoop (cd l : List (Char × Nat)) (h : nodupKeys cd = true) :
    nodupKeys (charDistLoop cd l) = true := by
  unfold charDistLoop
  induction l generalizing cd with
  | nil => exact h
  | cons e t ih =>
    rw [List.foldl_cons]
    apply ih
    cases get cd e.1 <;> exact nodupKeys_put _ _ _ h

/-- the merged distribution, as a lookup function, depends on the two maps only through their lookups -/
theorem charDistLoop_get_congr (cd cd' l l' : List (Char × Nat))
    (hl : nodupKeys l = true) (hl' : nodupKeys l' = true)
    (hcd : ∀ c, get cd c = get cd' c) (hll : ∀ c, get l c = get l' c) :
    ∀ c, get (charDistLoop cd l) c = get (charDistLoop cd' l') c := by
  intro c
  rw [charDist_fold, charDist_fold]
  unfold cdStep
  rw [foldl_at_key c cdAdd l _ hl, foldl_at_key c cdAdd l' _ hl', hcd c, hll c]

/-- key-disjoint inserts (draw/pngtreedrawer.go `initFonts`): every entry is found under its own key -/
theorem get_foldl_put {K V} [BEq K] [LawfulBEq K] (l acc : List (K × V)) (k : K) (hn : nodupKeys l = true) :
    get (l.foldl (fun fc e => put fc e.1 e.2) acc) k = (get l k).or (get acc k) := by
  rw [← List.foldl_hom (get · k) (g₂ := fun o e => if e.1 == k then some e.2 else o)
    fun fc e => (get_put fc e.1 k e.2).symm, foldl_at_key k (fun _ v => some v) l _ hn]
  cases get l k <;> rfl

/-! ## CountEEMs -/

/-- the number of emergences recorded for `id` after one more mutation -/
def eemObsStep (id : EemKey) (o : Option Nat) (e : String × Mut) : Option Nat :=
  if eemKey e.2 == id then (match o with | some n => some (n + 1) | none => some e.2.numEEM) else o

theorem eemStep_obs (acc : List (EemKey × Mut)) (v : Mut) (id : EemKey) :
    (get (eemStep acc v) id).map (·.numEEM) =
      if eemKey v == id then (match (get acc id).map (·.numEEM) with | some n => some (n + 1) | none => some v.numEEM)
      else (get acc id).map (·.numEEM) := by
  unfold eemStep
  by_cases hc : eemKey v = id
  · subst hc
    cases hg : get acc (eemKey v) <;> simp [get_put]
  · cases get acc (eemKey v) <;> simp [get_put, hc]

theorem eemCountsPinned_fold (acc : List (EemKey × Mut)) (l : List (String × Mut)) (id : EemKey) :
    eemCountsPinned acc l id = l.foldl (eemObsStep id) ((get acc id).map (·.numEEM)) := by
  refine (List.foldl_hom (fun (acc : List (EemKey × Mut)) => (get acc id).map (·.numEEM)) fun acc e => ?_).symm
  rw [eemStep_obs]
  rfl

theorem eemObsStep_comm (id : EemKey) (o : Option Nat) (x y : String × Mut)
    (hx : x.2.numEEM = 1) (hy : y.2.numEEM = 1) :
    eemObsStep id (eemObsStep id o x) y = eemObsStep id (eemObsStep id o y) x := by
  unfold eemObsStep
  cases h1 : eemKey x.2 == id <;> cases h2 : eemKey y.2 == id <;> cases o <;> simp [hx, hy]

/-! ## countMutationSiteBranch: the whole recursion does not depend on how Go lists the child distributions -/

/-- the relation between two runs of the recursion with different listings -/
def CmsRel (a b : Nat × List (Char × Nat) × List MutObs) : Prop :=
  a.1 = b.1 ∧ (∀ c, get a.2.1 c = get b.2.1 c) ∧ a.2.2 = b.2.2 ∧ nodupKeys a.2.1 = true ∧ nodupKeys b.2.1 = true

mutual
theorem cmsNode_rel (charOf : String → Char) (o₁ o₂ : List (Char × Nat) → List (Char × Nat))
    (h₁ : ∀ l, (o₁ l).Perm l) (h₂ : ∀ l, (o₂ l).Perm l) (p : Option Char) :
    ∀ t : T, CmsRel (cmsNode charOf o₁ p t) (cmsNode charOf o₂ p t)
  | .node d pp kids => by
    unfold cmsNode
    by_cases hk : kids.isEmpty = true
    · simp only [hk, if_true]
      exact ⟨rfl, fun _ => rfl, rfl, by simp [nodupKeys], by simp [nodupKeys]⟩
    · simp only [hk, Bool.false_eq_true, if_false]
      have r := cmsKids_rel charOf o₁ o₂ h₁ h₂ (charOf d.name) (0, [], []) (0, [], [])
        ⟨rfl, fun _ => rfl, rfl, by simp [nodupKeys], by simp [nodupKeys]⟩ kids
      obtain ⟨r1, r2, r3, r4, r5⟩ := r
      refine ⟨r1, r2, ?_, r4, r5⟩
      simp only [r1, r2 (charOf d.name), r3]
theorem cmsKids_rel (charOf : String → Char) (o₁ o₂ : List (Char × Nat) → List (Char × Nat))
    (h₁ : ∀ l, (o₁ l).Perm l) (h₂ : ∀ l, (o₂ l).Perm l) (cur : Char)
    (a b : Nat × List (Char × Nat) × List MutObs) (hab : CmsRel a b) :
    ∀ k : Kids, CmsRel (cmsKids charOf o₁ cur a k) (cmsKids charOf o₂ cur b k)
  | [] => by unfold cmsKids; exact hab
  | (e, t) :: r => by
    unfold cmsKids
    have c := cmsNode_rel charOf o₁ o₂ h₁ h₂ (some cur) t
    obtain ⟨a1, a2, a3, a4, a5⟩ := hab
    obtain ⟨c1, c2, c3, c4, c5⟩ := c
    apply cmsKids_rel charOf o₁ o₂ h₁ h₂ cur _ _ _ r
    refine ⟨by simp only [a1, c1], ?_, by simp only [a3, c3], nodupKeys_charDistLoop _ _ a4, nodupKeys_charDistLoop _ _ a5⟩
    apply charDistLoop_get_congr
    · exact nodupKeys_perm (h₁ _).symm c4
    · exact nodupKeys_perm (h₂ _).symm c5
    · exact a2
    · rw [get_perm (h₁ _) (nodupKeys_perm (h₁ _).symm c4), get_perm (h₂ _) (nodupKeys_perm (h₂ _).symm c5)]
      exact c2
end

/-! ## WriteNexus: the translate map has distinct keys -/

theorem nexusLabelStep_nodup (st : List (String × String) × List String × Nat) (tip : String)
    (h : nodupKeys st.1 = true) : nodupKeys (nexusLabelStep st tip).1 = true := by
  unfold nexusLabelStep
  split
  · exact h
  · exact nodupKeys_put _ _ _ h

theorem nexusLabels_inner_nodup (tips : List String) (st : List (String × String) × List String × Nat)
    (h : nodupKeys st.1 = true) : nodupKeys (tips.foldl nexusLabelStep st).1 = true := by
  induction tips generalizing st with
  | nil => exact h
  | cons a t ih => exact ih _ (nexusLabelStep_nodup st a h)

theorem nexusLabels_nodup_aux (trees : List (List String)) (st : List (String × String) × List String × Nat)
    (h : nodupKeys st.1 = true) :
    nodupKeys (trees.foldl (fun st tips => let st' := tips.foldl nexusLabelStep st; (st'.1, sortS st'.2.1, st'.2.2)) st).1 = true := by
  induction trees generalizing st with
  | nil => exact h
  | cons a t ih =>
    rw [List.foldl_cons]
    exact ih _ (nexusLabels_inner_nodup a st h)

/-! ## the node index that `Rename` builds is injective by construction -/

theorem put_absent {K V} [BEq K] [LawfulBEq K] (m : List (K × V)) (k : K) (v : V)
    (h : (get m k).isSome = false) : put m k v = m ++ [(k, v)] := by
  have : ¬ m.any (fun e => e.1 == k) = true := fun ha => by
    obtain ⟨e, he, hk⟩ := List.any_eq_true.mp ha
    have : (get m k).isSome = true := List.lookup_isSome_iff.mpr ⟨e, he, by rw [Bool.beq_comm]; exact hk⟩
    simp [h] at this
  unfold put
  rw [if_neg this]

theorem buildNodeIndex_nodupVals : ∀ (names : List String) (i : Nat) (acc index : List (String × Nat)),
    (acc.map (·.2)).Nodup → (∀ e ∈ acc, e.2 < i) → buildNodeIndex i names acc = some index →
    (index.map (·.2)).Nodup
  | [], i, acc, index, hn, _, h => by
    simp only [buildNodeIndex, Option.some.injEq] at h
    exact h ▸ hn
  | n :: r, i, acc, index, hn, hlt, h => by
    rw [buildNodeIndex] at h
    split at h
    · exact buildNodeIndex_nodupVals r (i + 1) acc index hn (fun e he => Nat.lt_succ_of_lt (hlt e he)) h
    · split at h
      · cases h
      · next hs =>
        rw [put_absent acc n i (by simpa using hs)] at h
        refine buildNodeIndex_nodupVals r (i + 1) (acc ++ [(n, i)]) index ?_ ?_ h
        · simpa [List.nodup_append, hn] using fun k v he => Nat.ne_of_lt (hlt _ he)
        · intro e he
          rcases List.mem_append.mp he with h1 | h1
          · exact Nat.lt_succ_of_lt (hlt e h1)
          · simp [List.mem_singleton.mp h1]

/-! ## CountEEMs as a whole -/

mutual
theorem eemNode_nodup (charOf : String → Char) (site : Nat) (p : Option Char) (eid : Int) (cm : Option Mut)
    (acc : List (String × Mut)) (h : nodupKeys acc = true) :
    ∀ t : T, nodupKeys (eemNode charOf site p eid cm acc t) = true
  | .node d pp kids => by
    unfold eemNode
    by_cases hk : kids.isEmpty = true
    · simp only [hk, if_true]
      split
      · exact nodupKeys_put _ _ _ h
      · exact h
    · simp only [hk, Bool.false_eq_true, if_false]
      exact eemKids_nodup charOf site _ _ acc h kids
theorem eemKids_nodup (charOf : String → Char) (site : Nat) (cur : Char) (cm : Option Mut)
    (acc : List (String × Mut)) (h : nodupKeys acc = true) :
    ∀ k : Kids, nodupKeys (eemKids charOf site cur cm acc k) = true
  | [] => by unfold eemKids; exact h
  | (e, t) :: r => by
    unfold eemKids
    exact eemKids_nodup charOf site cur cm _ (eemNode_nodup charOf site (some cur) e.id cm acc h t) r
end

end Gotree.C18

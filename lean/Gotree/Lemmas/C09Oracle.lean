/-
  C09 — reading the consensus tree through `T.usplitsAll` (Spec/Splits.lean): the
  branches of the model's result have pairwise different bipartitions, so its
  `usplitsAll` is its branch list (nothing is fused), and the Spec predicates the
  oracle evaluates (`splitsOK`, `supportsOK`, `lengthsOK`) hold of the model's output.
-/
import Gotree.Lemmas.C09BridgeLen
import Gotree.Lemmas.C05Restr

namespace Gotree.C09
open Gotree

/-! ## counting -/

theorem nodup_map_of_pairwise {α β : Type} (f : α → β) {l : List α} (h : l.Pairwise (fun a b => f a ≠ f b)) :
    (l.map f).Nodup := by
  rw [List.Nodup, List.pairwise_map]; exact h

/-! ## sides -/

theorem sameSide_singletons {tips : List String} (h3 : 3 ≤ tips.length) (hT : tips.Nodup) {a b : String}
    (ha : a ∈ tips) (h : SameSide tips [a] [b]) : a = b := by
  rcases h with h | h
  · have := (h a ha).1 (by simp)
    simpa using this
  · -- [a] would be the complement of [b]: only two tips
    exfalso
    have hsub : tips ⊆ [a, b] := fun x hx => by
      by_cases hxb : x = b
      · simp [hxb]
      · have := (h x hx).2 (by simpa using hxb)
        simp only [List.mem_singleton] at this
        simp [this]
    have := sub_length hT hsub
    simp at this; omega

/-- a tip branch and an inner row (two tips on each side) are different bipartitions -/
theorem not_sameSide_singleton {tips X : List String} (hT : tips.Nodup) (hX : X.Nodup) (hXT : SubS X tips)
    (h2 : 2 ≤ X.length) (hN : X.length + 2 ≤ tips.length) (a : String) (ha : a ∈ tips) :
    ¬ SameSide tips [a] X := by
  intro h
  have := sameSide_length hT hX (by simp : [a].Nodup) hXT
    (fun x hx => by simp only [List.mem_singleton] at hx; subst hx; exact ha) h
  simp only [List.length_singleton] at this
  omega

/-! ## the branches of the result have pairwise different bipartitions -/

theorem canonSide_eq_iff_self {tips X Y : List String} (hT : tips.Nodup) (hne : tips ≠ []) (hX : X.Nodup)
    (hY : Y.Nodup) : canonSide tips X = canonSide tips Y ↔ SameSide tips X Y :=
  canonSide_eq_iff tips tips _ _ hT hT (fun _ => Iff.rfl) hne hX hY

/-- In a tree that satisfies the loop invariant with as many inner branches as inner rows, the
    rows being pairwise different bipartitions: the canonical sides of the inner branches are
    those of the rows, each once. -/
theorem inner_canon_perm (tips : List String) (hT : tips.Nodup) (hne : tips ≠ []) (r : T)
    (inner : List (List String × Rat × Rat)) (tipv : List (String × Rat))
    (inv : LoopInv tips r inner tipv) (hcnt : ni r.splits = inner.length)
    (hin : ∀ p ∈ inner, p.1.Nodup)
    (hpw : inner.Pairwise (fun p q => ¬ SameSide tips p.1 q.1)) :
    (inner.map (fun p => canonSide tips p.1)).Nodup ∧
    ((r.splits.filter (fun s => !s.tip)).map (fun s => canonSide tips s.below)).Perm
      (inner.map (fun p => canonSide tips p.1)) := by
  have hC : (inner.map (fun p => canonSide tips p.1)).Nodup := by
    apply nodup_map_of_pairwise
    refine hpw.imp_of_mem ?_
    intro p q hp hq hnss heq
    exact hnss ((canonSide_eq_iff_self hT hne (hin p hp) (hin q hq)).1 heq)
  refine ⟨hC, perm_of_sub_len _ _ hC ?_ ?_⟩
  · intro c hc
    obtain ⟨p, hp, rfl⟩ := List.mem_map.1 hc
    obtain ⟨s, hs, htip, hss, _, _⟩ := inv.j2 p hp
    exact List.mem_map.2 ⟨s, List.mem_filter.2 ⟨hs, by simp [htip]⟩,
      (canonSide_eq_iff_self hT hne (inv.below hs).2 (hin p hp)).2 hss⟩
  · rw [List.length_map, List.length_map]
    have : (r.splits.filter (fun s => !s.tip)).length = ni r.splits := rfl
    omega

/-- … so every inner branch has its row (it cannot be a branch above a single tip) -/
theorem inner_has_row (tips : List String) (hT : tips.Nodup) (h3 : 3 ≤ tips.length) (r : T)
    (inner : List (List String × Rat × Rat)) (tipv : List (String × Rat))
    (inv : LoopInv tips r inner tipv) (hcnt : ni r.splits = inner.length)
    (hin : ∀ p ∈ inner, p.1.Nodup ∧ SubS p.1 tips ∧ 2 ≤ p.1.length ∧ p.1.length + 2 ≤ tips.length)
    (hpw : inner.Pairwise (fun p q => ¬ SameSide tips p.1 q.1)) :
    ∀ s ∈ r.splits, s.tip = false →
      ∃ p ∈ inner, SameSide tips s.below p.1 ∧ s.e.len = p.2.1 ∧ s.e.sup = p.2.2 := by
  intro s hs htip
  rcases inv.j1 s hs with ⟨a, ha⟩ | ⟨_, p, hp, h⟩
  · exfalso
    have hne : tips ≠ [] := by intro h; rw [h] at h3; simp at h3
    obtain ⟨_, hK⟩ := inner_canon_perm tips hT hne r _ _ inv hcnt (fun p hp => (hin p hp).1) hpw
    obtain ⟨p, hp, hpe⟩ := List.mem_map.1
      (hK.mem_iff.1 (List.mem_map.2 ⟨s, List.mem_filter.2 ⟨hs, by simp [htip]⟩, rfl⟩))
    have hss := (canonSide_eq_iff_self hT hne (inv.below hs).2 (hin p hp).1).1 hpe.symm
    rw [ha] at hss
    exact not_sameSide_singleton hT (hin p hp).1 (hin p hp).2.1 (hin p hp).2.2.1 (hin p hp).2.2.2 a
      ((inv.below hs).1 a (by rw [ha]; simp)) hss
  · exact ⟨p, hp, h⟩

/-- … and no two branches define the same bipartition. -/
theorem result_sides_nodup (tips : List String) (hT : tips.Nodup) (h3 : 3 ≤ tips.length) (r : T)
    (inner : List (List String × Rat × Rat)) (tipv : List (String × Rat))
    (inv : LoopInv tips r inner tipv) (hcnt : ni r.splits = inner.length)
    (hin : ∀ p ∈ inner, p.1.Nodup ∧ SubS p.1 tips ∧ 2 ≤ p.1.length ∧ p.1.length + 2 ≤ tips.length)
    (hpw : inner.Pairwise (fun p q => ¬ SameSide tips p.1 q.1)) :
    (r.splits.map (fun s => canonSide tips s.below)).Nodup := by
  have hne : tips ≠ [] := by intro h; rw [h] at h3; simp at h3
  obtain ⟨hC, hK⟩ := inner_canon_perm tips hT hne r _ _ inv hcnt (fun p hp => (hin p hp).1) hpw
  -- the tip part
  have htips : ∀ s ∈ r.splits, s.tip = true → s.below = [s.below.headD ""] := by
    intro s hs htip
    rcases inv.j1 s hs with ⟨a, ha⟩ | ⟨hf, _⟩
    · rw [ha]; rfl
    · rw [hf] at htip; cases htip
  have hleaf : (((r.splits).filter (·.tip)).map (fun s => s.below.headD "")).Nodup := by
    have := tipSplitsL r.kids
    unfold T.splits
    rw [this]; exact inv.nd
  have hTn : ((r.splits.filter (·.tip)).map (fun s => canonSide tips s.below)).Nodup := by
    apply nodup_map_of_pairwise
    rw [List.Nodup, List.pairwise_map] at hleaf
    refine hleaf.imp_of_mem ?_
    intro s s' hs hs' hne' heq
    obtain ⟨h1, h2⟩ := List.mem_filter.1 hs
    obtain ⟨h1', h2'⟩ := List.mem_filter.1 hs'
    have e1 := htips s h1 h2
    rw [e1, htips s' h1' h2'] at heq
    have hss := (canonSide_eq_iff_self hT hne (by simp) (by simp)).1 heq
    exact hne' (sameSide_singletons h3 hT ((inv.below h1).1 _ (by rw [e1]; simp)) hss)
  -- together
  have hperm : (r.splits.map (fun s => canonSide tips s.below)).Perm
      ((r.splits.filter (·.tip)).map (fun s => canonSide tips s.below) ++
       (r.splits.filter (fun s => !s.tip)).map (fun s => canonSide tips s.below)) := by
    rw [← List.map_append]
    exact (List.filter_append_perm (·.tip) r.splits).symm.map _
  rw [hperm.nodup_iff, List.nodup_append]
  refine ⟨hTn, hK.nodup_iff.2 hC, ?_⟩
  -- a tip branch and an inner branch: the inner one is a side of an inner row
  intro x hx y hy hxy
  obtain ⟨s, hs, rfl⟩ := List.mem_map.1 hx
  obtain ⟨s', hs', rfl⟩ := List.mem_map.1 hy
  obtain ⟨h1, h2⟩ := List.mem_filter.1 hs
  obtain ⟨h1', h2'⟩ := List.mem_filter.1 hs'
  have e1 := htips s h1 h2
  obtain ⟨p, hp, hss, _⟩ := inner_has_row tips hT h3 r _ _ inv hcnt hin hpw s' h1' (by simpa using h2')
  rw [e1] at hxy
  have h12 := (canonSide_eq_iff_self hT hne (by simp) (inv.below h1').2).1 hxy
  exact not_sameSide_singleton hT (hin p hp).1 (hin p hp).2.1 (hin p hp).2.2.1 (hin p hp).2.2.2 _
    ((inv.below h1).1 _ (by rw [e1]; simp)) (h12.trans' hss)

/-! ## nothing is fused in `usplitsAll` of the result -/

theorem insertU_append_of_ne (s : USplit) : ∀ acc : List USplit, (∀ x ∈ acc, x.side ≠ s.side) →
    insertU s acc = acc ++ [s]
  | [], _ => rfl
  | x :: r, h => by
    rw [insertU_cons_ne s x r (h x (by simp)), insertU_append_of_ne s r (fun y hy => h y (by simp [hy]))]
    rfl

theorem ufoldU_of_nodup : ∀ (l acc : List USplit), ((acc ++ l).map (·.side)).Nodup → ufoldU l acc = acc ++ l
  | [], acc, _ => by simp [ufoldU]
  | s :: l, acc, h => by
    have hs : ∀ x ∈ acc, x.side ≠ s.side := by
      intro x hx heq
      rw [List.map_append, List.map_cons, List.nodup_append] at h
      exact h.2.2 x.side (List.mem_map.2 ⟨x, hx, rfl⟩) s.side (by simp) heq
    rw [ufoldU_cons, insertU_append_of_ne s acc hs, ufoldU_of_nodup l (acc ++ [s]) (by simpa using h)]
    simp

/-- `usplitsAll` of a tree whose branches have pairwise different canonical sides is its
    branch list, sorted -/
theorem usplitsAll_perm_of_nodup (r : T) (h : (r.splits.map (fun s => canonSide r.tipNames s.below)).Nodup) :
    r.usplitsAll.Perm (r.splits.map (toU r.tipNames)) := by
  rw [T.usplitsAll_eq, ufoldU_of_nodup _ [] (by simpa [toU, List.map_map, Function.comp_def] using h)]
  simpa using List.mergeSort_perm _ _

/-! ## the light side of a canonical side -/

theorem lightSize_canonSide (all X : List String) (hall : all.Nodup) (hne : all ≠ []) (hX : X.Nodup) :
    lightSize all (canonSide all X) =
      min (X.filter all.contains).length (all.length - (X.filter all.contains).length) := by
  obtain ⟨m, hm⟩ := minS_ne_none hne
  have hmall := (minS_spec hm).1
  rw [canonSide_eq all X m hm hmall]
  have hF : (X.filter all.contains).Nodup := hX.filter _
  have hFsub : SubS (X.filter all.contains) all := fun a ha => by
    have := (List.mem_filter.1 ha).2; simpa using this
  have hk : ((sortS (X.filter all.contains)).filter all.contains).length = (X.filter all.contains).length := by
    rw [List.filter_eq_self.2 (fun a ha => by simpa using hFsub a (mem_sortS.1 ha))]
    exact (sortS_perm _).length_eq
  unfold lightSize
  split
  · -- the complement is taken
    have hc : ((sortS (complS all (sortS (X.filter all.contains)))).filter all.contains).length =
        all.length - (X.filter all.contains).length := by
      rw [List.filter_eq_self.2 (fun a ha => by
        have := (mem_complS.1 (mem_sortS.1 ha)).1; simpa using this)]
      rw [(sortS_perm _).length_eq]
      unfold complS
      have h1 := length_filter_not (sortS (X.filter all.contains)).contains all
      have h2 : (all.filter (sortS (X.filter all.contains)).contains).length = (X.filter all.contains).length := by
        rw [length_filter_of_sub ((sortS_perm _).nodup_iff.2 hF) hall
          (fun a ha => hFsub a (mem_sortS.1 ha))]
        exact (sortS_perm _).length_eq
      omega
    simp only [hc]
    have hle : (X.filter all.contains).length ≤ all.length := sub_length hF hFsub
    omega
  · simp only [hk]

theorem lightSize_rowNames (tips : List String) (hT : tips.Nodup) (hne : tips ≠ []) (x : Entry) :
    lightSize tips (canonSide tips (rowNames tips x)) =
      min (rowNames tips x).length (tips.length - (rowNames tips x).length) := by
  rw [lightSize_canonSide tips (rowNames tips x) hT hne (hT.filter _)]
  have : (rowNames tips x).filter tips.contains = rowNames tips x := by
    rw [List.filter_eq_self]; intro a ha; simpa using (List.mem_filter.1 ha).1
  rw [this]

theorem approx_refl (a : Rat) : C09S.approx a a = true := by
  unfold C09S.approx
  simp only [Rat.le_refl, ge_iff_le, if_true, decide_eq_true_eq]
  rw [Rat.sub_self, Rat.zero_mul]
  split
  · assumption
  · rename_i h
    have := Rat.not_le.1 h
    grind

/-! ## the Spec predicates on the result of the loop -/

/-- facts about the inner rows of a selection that satisfies `selOK` -/
theorem innerRows_facts (tips : List String) (hT : tips.Nodup) (n : Nat) (sel : List Entry)
    (hsel : selOK tips tips sel = true) :
    (∀ p ∈ innerRows tips n sel, p.1.Nodup ∧ SubS p.1 tips ∧ 2 ≤ p.1.length ∧ p.1.length + 2 ≤ tips.length) ∧
    (innerRows tips n sel).Pairwise (fun p q => ¬ SameSide tips p.1 q.1) := by
  refine ⟨fun p hp => ?_, innerRows_pairwise tips tips n sel (fun _ h => h) hsel⟩
  obtain ⟨x, hx, h2, rfl⟩ := mem_innerRows.1 hp
  have := selOK_size hsel hx
  exact ⟨hT.filter _, fun a ha => (List.mem_filter.1 ha).1, h2, show (rowNames tips x).length + 2 ≤ _ by omega⟩

/-- the canonical side of a row is that of its names -/
theorem canon_rowNames (tips taxa : List String) (hT : tips.Nodup) (hne : tips ≠ []) (hp : taxa.Perm tips)
    (x : Entry) (hk : x.key.Nodup) :
    canonSide tips (rowNames tips x) = canonSide taxa x.key := by
  rw [canonSide_perm_all hp]
  have hnd : (rowNames tips x).Nodup := hT.filter _
  rw [canonSide_eq_iff_self hT hne hnd hk]
  exact Or.inl fun a ha => mem_filter_key ha

/-- The Spec predicates of the oracle hold of a tree `r` that satisfies the loop invariant
    for the rows `sel`, when the rows are the Spec's selected sides with the Spec's
    frequency and mean length. -/
theorem oracle_of_inv (ts : List T) (c : Rat) (tips : List String) (n : Nat) (sel : List Entry) (r : T)
    (hT : tips.Nodup) (h3 : 3 ≤ tips.length) (htaxa : (C09S.taxa ts).Perm tips)
    (inv : LoopInv tips r (innerRows tips n sel) (tipRows tips sel))
    (hcnt : ni r.splits = (innerRows tips n sel).length)
    (hsel : selOK tips tips sel = true)
    (rowSpec : ∀ x ∈ sel, x.key.Nodup ∧
      C09S.isSelected ts c (canonSide (C09S.taxa ts) x.key) = true ∧
      (x.count : Rat) / (n : Rat) = C09S.freq ts (canonSide (C09S.taxa ts) x.key) ∧
      x.len / (x.count : Rat) = C09S.meanLen ts (canonSide (C09S.taxa ts) x.key) ∧
      canonSide (C09S.taxa ts) x.key ∈ C09S.allSides ts)
    (rowComplete : ∀ a ∈ C09S.allSides ts, C09S.isSelected ts c a = true → ∃ x ∈ sel, canonSide (C09S.taxa ts) x.key = a)
    (tipRow : ∀ a ∈ tips, ∃ x ∈ sel, rowNames tips x = [a])
    (hkeys : C09S.keysOK ts = true) :
    C09S.splitsOK ts c r = true ∧ C09S.supportsOK ts r = true ∧ C09S.lengthsOK ts r = true := by
  have hne : tips ≠ [] := by intro h; rw [h] at h3; simp at h3
  obtain ⟨hin, hpw⟩ := innerRows_facts tips hT n sel hsel
  have hrt : r.tipNames = leavesL r.kids := tipNames_eq_leaves r inv.deg
  have hrperm : r.tipNames.Perm tips := by rw [hrt]; exact inv.perm
  have hrnd : r.tipNames.Nodup := by rw [hrt]; exact inv.nd
  have hbelow : ∀ s ∈ r.splits, SubS s.below tips ∧ s.below.Nodup := fun s hs => inv.below hs
  have canonEq : ∀ {X Y : List String}, X.Nodup → Y.Nodup →
      (canonSide tips X = canonSide tips Y ↔ SameSide tips X Y) := canonSide_eq_iff_self hT hne
  -- the result read through usplitsAll
  have hsides := result_sides_nodup tips hT h3 r _ _ inv hcnt hin hpw
  have hsides' : (r.splits.map (fun s => canonSide r.tipNames s.below)).Nodup := by
    have : (fun s : SplitE => canonSide r.tipNames s.below) = (fun s => canonSide tips s.below) := by
      funext s; exact canonSide_perm_all hrperm s.below
    rw [this]; exact hsides
  have husp := usplitsAll_perm_of_nodup r hsides'
  have hmemU : ∀ u, u ∈ r.usplitsAll ↔ ∃ s ∈ r.splits, u = toU tips s := by
    intro u
    rw [husp.mem_iff, toU_perm_all hrperm, List.mem_map]
    exact ⟨fun ⟨s, hs, e⟩ => ⟨s, hs, e.symm⟩, fun ⟨s, hs, e⟩ => ⟨s, hs, e.symm⟩⟩
  -- inner branches and their rows
  have innerRow : ∀ s ∈ r.splits, s.tip = false → ∃ x ∈ sel, 2 ≤ (rowNames tips x).length ∧
      canonSide tips s.below = canonSide (C09S.taxa ts) x.key ∧
      s.e.len = x.len / (x.count : Rat) ∧ s.e.sup = (x.count : Rat) / (n : Rat) := by
    intro s hs htip
    obtain ⟨p, hp, hss, hl, hsu⟩ := inner_has_row tips hT h3 r _ _ inv hcnt hin hpw s hs htip
    obtain ⟨x, hx, h2, rfl⟩ := mem_innerRows.1 hp
    refine ⟨x, hx, h2, ?_, hl, hsu⟩
    rw [← canon_rowNames tips _ hT hne htaxa x (rowSpec x hx).1]
    exact (canonEq (hbelow s hs).2 (hT.filter _)).2 hss
  -- a branch above a single tip is a tip branch and is trivial
  have lightTip : ∀ a ∈ tips, lightSize tips (canonSide tips [a]) ≤ 1 := by
    intro a ha
    rw [lightSize_canonSide tips [a] hT hne (by simp)]
    have : ([a].filter tips.contains).length = 1 := by simp [ha]
    rw [this]; omega
  have lightInner : ∀ x ∈ sel, 2 ≤ (rowNames tips x).length →
      2 ≤ lightSize tips (canonSide tips (rowNames tips x)) := by
    intro x hx h2
    obtain ⟨_, _, _, hN⟩ := hin _ (mem_innerRows.2 ⟨x, hx, h2, rfl⟩)
    rw [lightSize_rowNames tips hT hne]; simp only at hN; omega
  have lightPerm : ∀ side, lightSize r.tipNames side = lightSize tips side := fun side => lightSize_perm_all hrperm side
  have lightTaxa : ∀ side, lightSize (C09S.taxa ts) side = lightSize tips side := fun side => lightSize_perm_all htaxa side
  -- non-trivial entries of usplitsAll come from inner branches
  have nontriv : ∀ s ∈ r.splits, 2 ≤ lightSize tips (canonSide tips s.below) → s.tip = false := by
    intro s hs h2
    cases htip : s.tip with
    | false => rfl
    | true =>
      exfalso
      rcases inv.j1 s hs with ⟨a, ha⟩ | ⟨hf, _⟩
      · have hain : a ∈ tips := (hbelow s hs).1 a (by rw [ha]; simp)
        have := lightTip a hain
        rw [ha] at h2; omega
      · rw [hf] at htip; cases htip
  refine ⟨?_, ?_, ?_⟩
  · -- splitsOK
    unfold C09S.splitsOK
    rw [Bool.and_eq_true]
    constructor
    · rw [beq_iff_eq]
      exact Gotree.sortS_congr (hrperm.trans htaxa.symm)
    · rw [beq_iff_eq]
      unfold canonSet C09S.expectedSplits canonSet
      have hmem : ∀ a, a ∈ r.usplitSet ↔
          a ∈ (C09S.allSides ts).filter (fun s => C09S.isSelected ts c s && decide (2 ≤ lightSize (C09S.taxa ts) s)) := by
        intro a
        unfold T.usplitSet T.usplits
        rw [List.mem_map, List.mem_filter]
        constructor
        · rintro ⟨u, hu, rfl⟩
          obtain ⟨hu1, hu2⟩ := List.mem_filter.1 hu
          obtain ⟨s, hs, rfl⟩ := (hmemU u).1 hu1
          have h2 : 2 ≤ lightSize tips (canonSide tips s.below) := by
            have := hu2; simp only [decide_eq_true_eq, toU, lightPerm] at this; exact this
          obtain ⟨x, hx, _, hce, _, _⟩ := innerRow s hs (nontriv s hs h2)
          obtain ⟨_, hselx, _, _, hall⟩ := rowSpec x hx
          have hside : (toU tips s).side = canonSide tips s.below := rfl
          rw [hside, hce]
          refine ⟨hall, ?_⟩
          rw [Bool.and_eq_true]
          refine ⟨hselx, ?_⟩
          rw [decide_eq_true_eq, lightTaxa, ← hce]; exact h2
        · rintro ⟨hall, hsl⟩
          rw [Bool.and_eq_true, decide_eq_true_eq] at hsl
          obtain ⟨x, hx, rfl⟩ := rowComplete a hall hsl.1
          have hk := (rowSpec x hx).1
          have hcr := canon_rowNames tips _ hT hne htaxa x hk
          have h2 : 2 ≤ (rowNames tips x).length := by
            have hls : 2 ≤ lightSize tips (canonSide tips (rowNames tips x)) := by
              rw [hcr, ← lightTaxa]; exact hsl.2
            rw [lightSize_rowNames tips hT hne] at hls; omega
          obtain ⟨s, hs, _, hss, _, _⟩ := inv.j2 _ (mem_innerRows.2 ⟨x, hx, h2, rfl⟩)
          have hcs : canonSide tips s.below = canonSide (C09S.taxa ts) x.key := by
            rw [← hcr]; exact (canonEq (hbelow s hs).2 (hT.filter _)).2 hss
          refine ⟨toU tips s, List.mem_filter.2 ⟨(hmemU _).2 ⟨s, hs, rfl⟩, ?_⟩, hcs⟩
          rw [decide_eq_true_eq, lightPerm]
          show 2 ≤ lightSize tips (canonSide tips s.below)
          rw [hcs, ← lightTaxa]; exact hsl.2
      apply Gotree.C05.canon_eq hmem
      intro a ha b hb hab
      have ha' := (List.mem_filter.1 ((hmem a).1 ha)).1
      have hb' := (List.mem_filter.1 ((hmem b).1 hb)).1
      have hk : ((C09S.allSides ts).map fun s => toString s).Nodup := by
        simpa [C09S.keysOK] using hkeys
      exact Gotree.C05.inj_of_nodup_map _ _ hk a ha' b hb' hab
  · -- supportsOK
    unfold C09S.supportsOK T.usplits
    rw [List.all_eq_true]
    intro u hu
    obtain ⟨hu1, hu2⟩ := List.mem_filter.1 hu
    obtain ⟨s, hs, rfl⟩ := (hmemU u).1 hu1
    have h2 : 2 ≤ lightSize tips (canonSide tips s.below) := by
      have := hu2; simp only [decide_eq_true_eq, toU, lightPerm] at this; exact this
    obtain ⟨x, hx, _, hce, _, hsu⟩ := innerRow s hs (nontriv s hs h2)
    show C09S.approx s.e.sup (C09S.freq ts (canonSide tips s.below)) = true
    rw [hce, hsu, (rowSpec x hx).2.2.1]
    exact approx_refl _
  · -- lengthsOK
    unfold C09S.lengthsOK
    rw [List.all_eq_true]
    intro u hu
    obtain ⟨s, hs, rfl⟩ := (hmemU u).1 hu
    show C09S.approx s.e.len (C09S.meanLen ts (canonSide tips s.below)) = true
    cases htip : s.tip with
    | false =>
      obtain ⟨x, hx, _, hce, hl, _⟩ := innerRow s hs htip
      rw [hce, hl, (rowSpec x hx).2.2.2.1]
      exact approx_refl _
    | true =>
      rcases inv.j1 s hs with ⟨a, ha⟩ | ⟨hf, _⟩
      · have hain : a ∈ tips := (hbelow s hs).1 a (by rw [ha]; simp)
        obtain ⟨x, hx, hxa⟩ := tipRow a hain
        have hl := inv.j3 _ (mem_tipRows_of hx hxa) s hs ha htip
        have hce : canonSide tips s.below = canonSide (C09S.taxa ts) x.key := by
          rw [ha, ← hxa]; exact canon_rowNames tips _ hT hne htaxa x (rowSpec x hx).1
        rw [hce, hl, (rowSpec x hx).2.2.2.1]
        exact approx_refl _
      · rw [hf] at htip; cases htip

/-- every leaf has its tip branch in the split list -/
theorem leaf_entry : ∀ (k : Kids) (a : String), a ∈ leavesL k → ∃ s ∈ splitsL k, s.below = [a]
  | [], a, h => by simp [leavesL] at h
  | (e, .node d p kk) :: r, a, h => by
    rw [leavesL_cons] at h
    rw [splitsL_cons]
    rcases List.mem_append.1 h with h | h
    · cases kk with
      | nil =>
        simp only [T.leaves, List.mem_singleton] at h
        subst h
        exact ⟨_, List.mem_append_left _ List.mem_cons_self, rfl⟩
      | cons x y =>
        obtain ⟨s, hs, hb⟩ := leaf_entry (x :: y) a h
        exact ⟨s, List.mem_append_left _ (List.mem_cons_of_mem _ hs), hb⟩
    · obtain ⟨s, hs, hb⟩ := leaf_entry r a h
      exact ⟨s, List.mem_append_right _ hs, hb⟩

end Gotree.C09

/-
  C05 — the command-line loop: what is written is, tree by tree, the result of the operation.
-/
import Gotree.Model.C05Cli

namespace Gotree.C05
open Gotree

/-- the trees written by the loop are the results for a prefix of the input, in order; the run
    ends "ok" exactly when every tree was written -/
theorem cliLoop_spec (op : T → Res T) : ∀ (ts : List T),
    (cliLoop op ts).1.length ≤ ts.length ∧
    (∀ (i : Nat) (u : T), (cliLoop op ts).1[i]? = some u → ∃ t, ts[i]? = some t ∧ op t = .ok u) ∧
    ((cliLoop op ts).2 = "ok" ↔ (cliLoop op ts).1.length = ts.length)
  | [] => by simp [cliLoop]
  | t :: ts => by
    obtain ⟨h1, h2, h3⟩ := cliLoop_spec op ts
    cases hop : op t with
    | ok u =>
      simp only [cliLoop, hop, List.length_cons]
      refine ⟨by omega, ?_, by simpa using h3⟩
      intro i v hv
      cases i with
      | zero => simp at hv; exact ⟨t, rfl, by rw [hop, hv]⟩
      | succ i => simpa using h2 i v (by simpa using hv)
    | err m => simp [cliLoop, hop]
    | panic m => simp [cliLoop, hop]

/-- `rotate rand` writes one tree per input tree, each a rotation of it with some draws -/
theorem cliRotate_spec : ∀ (ts : List T) (draws : List Nat),
    (cliRotate ts draws).length = ts.length ∧
    ∀ (i : Nat) (u : T), (cliRotate ts draws)[i]? = some u → ∃ t ds, ts[i]? = some t ∧ u = rotate t ds
  | [], _ => by simp [cliRotate]
  | t :: ts, draws => by
    obtain ⟨h1, h2⟩ := cliRotate_spec ts (draws.drop (drawBounds true t).length)
    simp only [cliRotate, List.length_cons, h1, true_and]
    intro i u hu
    cases i with
    | zero => simp at hu; exact ⟨t, _, rfl, hu.symm⟩
    | succ i => simpa using h2 i u (by simpa using hu)

/-- a command that maps every tree writes, tree by tree, the image of the input -/
theorem map_written {f : T → T} {P : T → T → Prop} (trees : List T) (h : ∀ t ∈ trees, P t (f t)) (i : Nat) (u : T)
    (hu : (trees.map f)[i]? = some u) : ∃ t, trees[i]? = some t ∧ P t u := by
  rw [List.getElem?_map] at hu
  cases ht : trees[i]? with
  | none => simp [ht] at hu
  | some t =>
    simp only [ht, Option.map_some, Option.some.injEq] at hu
    exact ⟨t, rfl, hu ▸ h t (List.mem_of_getElem? ht)⟩

end Gotree.C05

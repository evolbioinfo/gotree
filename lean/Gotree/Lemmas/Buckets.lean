/-
  An array of buckets is the association list of its entries (`flatten`), whatever the function `ix` that
  sends a key to its bucket, provided the entries equal to the key at hand sit where `ix` sends that key.
  `Value` and `PutValue` of `hashmap.HashMap` look at ONE bucket: `get_bucket` and `put_bucket` say that this
  is `Assoc.get` / `Assoc.put` on the whole content; `insertAll_ok` is the re-insertion loop of `rehash`.
  Both models of the hash map (Model/C04HM.lean, Model/C11HashMap.lean) are read through these.
  Core Lean only.
-/
import Gotree.Lemmas.Assoc

namespace Gotree.C04
variable {κ ν : Type} {eqv : κ → κ → Bool}

/-! the scan of one bucket (`Model/C04HM.lean`; the model of C11 has the same two functions for `decide (a = b)`) -/

theorem bucketFind_eq (k : κ) (l : List (κ × ν)) : bucketFind eqv k l = Assoc.get eqv k l := by
  induction l with
  | nil => rfl
  | cons x r ih => obtain ⟨k', v⟩ := x; simp only [bucketFind, Assoc.get, ih]

/-- `bucketReplace` is `Assoc.put` when the key is there, and reports when it is not -/
theorem bucketReplace_spec (k : κ) (v : ν) (b : List (κ × ν)) :
    match bucketReplace eqv k v b with
    | some b' => b' = Assoc.put eqv k v b ∧ ¬ NoMatch eqv k b
    | none => NoMatch eqv k b := by
  induction b with
  | nil => exact noMatch_nil
  | cons x r ih =>
    obtain ⟨k', v'⟩ := x
    cases h1 : eqv k k' with
    | true => simp [bucketReplace, Assoc.put, noMatch_cons, h1]
    | false =>
      simp only [bucketReplace, Assoc.put, h1, Bool.false_eq_true, if_false, noMatch_cons, true_and]
      cases e : bucketReplace eqv k v r <;> rw [e] at ih
      · exact ih
      · exact ⟨by rw [ih.1], ih.2⟩

end Gotree.C04

namespace Gotree.Buckets
open Gotree.C04

variable {κ ν : Type} {eqv : κ → κ → Bool} {ix : κ → Nat}

/-- every entry sits in the bucket `ix` selects -/
def Placed (ix : κ → Nat) (bs : List (List (κ × ν))) : Prop := ∀ i b, bs[i]? = some b → ∀ kv ∈ b, ix kv.1 = i

/-- the entries equal to `k` have the bucket of `k` (what `HashCode` compatible with `HashEquals` gives) -/
def Near (eqv : κ → κ → Bool) (ix : κ → Nat) (k : κ) (l : List (κ × ν)) : Prop :=
  ∀ kv ∈ l, eqv k kv.1 = true → ix kv.1 = ix k

theorem placed_replicate (n : Nat) : Placed ix (List.replicate n ([] : List (κ × ν))) := by
  intro i b hb kv hm
  rw [List.getElem?_replicate] at hb
  split at hb
  · cases hb; cases hm
  · cases hb

theorem placed_set {bs : List (List (κ × ν))} (hp : Placed ix bs) (i : Nat) (b' : List (κ × ν))
    (h : ∀ kv ∈ b', ix kv.1 = i) : Placed ix (bs.set i b') := by
  intro j b hb kv hm
  rw [List.getElem?_set] at hb
  split at hb
  · rename_i hij
    split at hb
    · simp only [Option.some.injEq] at hb; subst hb; subst hij; exact h kv hm
    · exact absurd hb (by simp)
  · exact hp j b hb kv hm

/-- the content around bucket `i`: what is before and behind sits in other buckets -/
theorem split_at {α : Type} {bs : List (List α)} {i : Nat} {b : List α} (h : bs[i]? = some b) :
    ∃ P Q, bs.flatten = P ++ b ++ Q ∧ (∀ b', (bs.set i b').flatten = P ++ b' ++ Q) ∧
      ∀ x, x ∈ P ∨ x ∈ Q → ∃ j c, j ≠ i ∧ bs[j]? = some c ∧ x ∈ c := by
  induction bs generalizing i with
  | nil => simp at h
  | cons b₀ r ih =>
    cases i with
    | zero =>
      obtain rfl : b₀ = b := by simpa using h
      refine ⟨[], r.flatten, by simp, fun b' => by simp, fun x hx => ?_⟩
      obtain ⟨c, hc, hxc⟩ := List.mem_flatten.mp (hx.resolve_left (by simp))
      obtain ⟨j, hj, e⟩ := List.getElem_of_mem hc
      exact ⟨j + 1, c, by omega, by simp [List.getElem?_eq_getElem hj, e], hxc⟩
    | succ i =>
      obtain ⟨P, Q, h1, h2, h3⟩ := ih (i := i) (by simpa using h)
      refine ⟨b₀ ++ P, Q, by simp [h1], fun b' => by simp [h2], fun x hx => ?_⟩
      rcases hx with hx | hx
      · rcases List.mem_append.mp hx with hx | hx
        · exact ⟨0, b₀, by omega, rfl, hx⟩
        · obtain ⟨j, c, hj, hc, hxc⟩ := h3 x (.inl hx)
          exact ⟨j + 1, c, by omega, by simpa using hc, hxc⟩
      · obtain ⟨j, c, hj, hc, hxc⟩ := h3 x (.inr hx)
        exact ⟨j + 1, c, by omega, by simpa using hc, hxc⟩

section
variable {bs : List (List (κ × ν))} {k : κ} {b : List (κ × ν)}
  (hp : Placed ix bs) (hc : Near eqv ix k bs.flatten) (hb : bs[ix k]? = some b)
include hp hc hb

/-- the content of the map seen from the bucket of `k`: no entry equal to `k` before or behind it -/
theorem around : ∃ P Q, bs.flatten = P ++ b ++ Q ∧ (∀ b', (bs.set (ix k) b').flatten = P ++ b' ++ Q) ∧
    NoMatch eqv k P ∧ NoMatch eqv k Q := by
  obtain ⟨P, Q, h1, h2, h3⟩ := split_at hb
  have key : ∀ x, x ∈ P ∨ x ∈ Q → eqv k x.1 = false := fun x hx => by
    obtain ⟨j, c, hj, hjc, hxc⟩ := h3 x hx
    cases h : eqv k x.1 with
    | false => rfl
    | true =>
      have hx' : x ∈ bs.flatten := List.mem_flatten.mpr ⟨c, List.mem_of_getElem? hjc, hxc⟩
      exact absurd ((hp j c hjc x hxc).symm.trans (hc x hx' h)) hj
  exact ⟨P, Q, h1, h2, fun x hx => key x (.inl hx), fun x hx => key x (.inr hx)⟩

theorem noMatch_bucket : NoMatch eqv k bs.flatten ↔ NoMatch eqv k b := by
  obtain ⟨P, Q, h1, _, hP, hQ⟩ := around hp hc hb
  simp only [h1, noMatch_append, hP, hQ, true_and, and_true]

/-- `Value`: the search in the bucket of `k` is the search in the whole content -/
theorem get_bucket : Assoc.get eqv k b = Assoc.get eqv k bs.flatten := by
  obtain ⟨P, Q, h1, _, hP, hQ⟩ := around hp hc hb
  rw [h1, List.append_assoc, get_append_left _ _ hP, get_append_right _ _ hQ]

/-- `PutValue`: overwriting in, or appending to, the bucket of `k` is `Assoc.put` on the whole content up to order -/
theorem put_bucket (v : ν) :
    Placed ix (bs.set (ix k) (Assoc.put eqv k v b)) ∧
    (bs.set (ix k) (Assoc.put eqv k v b)).flatten.Perm (Assoc.put eqv k v bs.flatten) := by
  obtain ⟨P, Q, h1, h2, hP, hQ⟩ := around hp hc hb
  constructor
  · refine placed_set hp _ _ fun x hx => ?_
    by_cases hm : NoMatch eqv k b
    · rw [put_nomatch hm] at hx
      rcases List.mem_append.mp hx with hx | hx
      · exact hp _ _ hb x hx
      · rw [List.mem_singleton.mp hx]
    · obtain ⟨y, hy, e⟩ := List.mem_map.mp (put_keys hm ▸ List.mem_map_of_mem (f := Prod.fst) hx)
      rw [← e]; exact hp _ _ hb y hy
  · rw [h2, h1, List.append_assoc, List.append_assoc, put_append_left _ _ hP]
    refine List.Perm.append_left _ ?_
    by_cases hm : NoMatch eqv k b
    · rw [put_nomatch hm, put_nomatch (noMatch_append.mpr ⟨hm, hQ⟩), List.append_assoc, List.append_assoc]
      exact List.Perm.append_left _ List.perm_append_comm
    · rw [put_append_right _ _ hm]

end

/-! ### the re-insertion loop of `rehash` -/

/-- `newmap[index] = append(newmap[index], kv)` for every entry, in order (`none`: an index out of range) -/
def insertAll (ix : κ → Nat) : List (κ × ν) → List (List (κ × ν)) → Option (List (List (κ × ν)))
  | [], bs => some bs
  | kv :: r, bs =>
    match bs[ix kv.1]? with
    | none => none
    | some b => insertAll ix r (bs.set (ix kv.1) (b ++ [kv]))

/-- the loop succeeds, places every entry, and only reorders -/
theorem insertAll_ok {n : Nat} (hix : ∀ k, ix k < n) (l : List (κ × ν)) (bs : List (List (κ × ν)))
    (hl : bs.length = n) (hp : Placed ix bs) :
    ∃ bs', insertAll ix l bs = some bs' ∧ bs'.length = n ∧ Placed ix bs' ∧ bs'.flatten.Perm (bs.flatten ++ l) := by
  induction l generalizing bs with
  | nil => exact ⟨bs, rfl, hl, hp, by simp⟩
  | cons kv r ih =>
    obtain ⟨b, hb⟩ : ∃ b, bs[ix kv.1]? = some b := ⟨_, List.getElem?_eq_getElem (hl ▸ hix _)⟩
    obtain ⟨P, Q, h1, h2, _⟩ := split_at hb
    have hp' : Placed ix (bs.set (ix kv.1) (b ++ [kv])) := placed_set hp _ _ fun x hx => by
      rcases List.mem_append.mp hx with h | h
      · exact hp _ _ hb x h
      · rw [List.mem_singleton.mp h]
    obtain ⟨bs', e1, e2, e3, e4⟩ := ih _ (by rw [List.length_set]; exact hl) hp'
    refine ⟨bs', by simp only [insertAll, hb]; exact e1, e2, e3, e4.trans ?_⟩
    rw [h2, h1]
    simp only [List.append_assoc, List.cons_append, List.nil_append]
    exact List.Perm.append_left _ (List.Perm.append_left _ List.perm_middle.symm)

end Gotree.Buckets

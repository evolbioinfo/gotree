/-
  C12 — the second Sankoff pass (`totA`) and the model's DOWNPASS.
  For an inner node `v` and a state `s`, the slice entry of `totA` is the least number of changes of a
  labelling of the whole tree that puts `s` at `v` (`tot_lb`, `tot_att`), its minimum is `minCost` (`tot_min`),
  so the argmin is the set of states of `v` in most parsimonious labellings (`tot_exact`).
  `Dual C a b`: the Sankoff cost vector `a` and the count vector `b` of the Go code add up to a constant, so
  "largest count" = "least cost": the down-pass keeps exactly that argmin (`down_tot`, `down_exact`).
-/
import Gotree.Lemmas.C12Paths

namespace Gotree.C12
open Gotree

section tot
variable (k : Nat) (tv : String → Vec)

/- lower bound, subtree with an outside cost `U` -/
mutual
theorem tot_lb : ∀ (c : T) (U : Vec) (p : List Nat) (tot : Vec) (lc : LT) (s : Nat),
    fits k tv c lc = true → lc.get p = some s → (totA k tv U c).get p = some tot →
    innerAt c p = true → tot.at s ≤ U.at lc.s + lc.changes
  | .node _ _ [], _, [], _, _, _, _, _, _, hin => by simp [innerAt, innerOpt, sub] at hin
  | .node _ _ [], _, i :: q, _, _, _, _, _, _, hin => by simp [innerAt, innerOpt, sub, subL] at hin
  | .node _ _ (x :: xs), U, [], tot, .node r ls, s, hf, hl, hg, _ => by
    simp only [fits, Bool.and_eq_true, decide_eq_true_eq] at hf
    simp only [LT.get, Option.some.injEq] at hl
    simp only [totA, A.get, Option.some.injEq] at hg
    subst hl; subst hg
    have := fL_le k tv r hf.1 (x :: xs) ls hf.2
    simp only [at_vadd, hf.1, if_true, LT.s_node, LT.changes]
    omega
  | .node _ _ (x :: xs), U, i :: q, tot, .node r ls, s, hf, hl, hg, hin => by
    simp only [fits, Bool.and_eq_true, decide_eq_true_eq] at hf
    simp only [LT.get] at hl
    simp only [totA, A.get] at hg
    have := tot_lbL (x :: xs) U (vzero k) ls i q tot s r hf.1 hf.2 hl hg (by simpa [innerAt, sub] using hin)
    simp only [at_vzero, LT.s_node, LT.changes] at this ⊢
    omega
theorem tot_lbL : ∀ (ks : Kids) (U pre : Vec) (ls : List LT) (i : Nat) (p : List Nat) (tot : Vec) (s r : Nat), r < k →
    fitsL k tv ks ls = true → LT.getL ls i p = some s → A.getL (totL k tv U pre ks) i p = some tot →
    innerOpt (subL ks i p) = true →
    tot.at s ≤ U.at r + pre.at r + LT.changesL r ls
  | [], _, _, _, _, _, _, _, _, _, _, _, hg, _ => by simp [totL, A.getL] at hg
  | _ :: _, _, _, [], _, _, _, _, _, _, hf, _, _, _ => by simp [fitsL] at hf
  | (e, c) :: rest, U, pre, l :: lr, 0, p, tot, s, r, hr, hf, hl, hg, hin => by
    simp only [fitsL, Bool.and_eq_true] at hf
    simp only [LT.getL] at hl
    simp only [totL, A.getL] at hg
    simp only [subL] at hin
    have hc := tot_lb c _ p tot l s hf.1 hl hg (by simpa [innerAt] using hin)
    have h2 := through_le k (vadd k U (vadd k pre (fL k tv rest))) l.s r (fits_s_lt k tv c l hf.1) hr
    have h3 := fL_le k tv r hr rest lr hf.2
    simp only [at_vadd, hr, if_true] at h2
    simp only [LT.changesL]
    omega
  | (e, c) :: rest, U, pre, l :: lr, i + 1, p, tot, s, r, hr, hf, hl, hg, hin => by
    simp only [fitsL, Bool.and_eq_true] at hf
    simp only [LT.getL] at hl
    simp only [totL, A.getL] at hg
    simp only [subL] at hin
    have h1 := tot_lbL rest U (vadd k pre (gv k tv c)) lr i p tot s r hr hf.2 hl hg hin
    have h2 := lb k tv c l hf.1 r hr
    simp only [at_vadd, hr, if_true] at h1
    simp only [LT.changesL]
    omega
end

/- attainment, subtree with an outside cost `U` -/
mutual
theorem tot_att (hk : 0 < k) : ∀ (c : T), (∀ n ∈ c.leaves, NZ k (tv n)) →
    ∀ (U : Vec) (p : List Nat) (tot : Vec) (s : Nat), s < k →
    (totA k tv U c).get p = some tot → innerAt c p = true →
    ∃ lc, fits k tv c lc = true ∧ lc.get p = some s ∧ U.at lc.s + lc.changes = tot.at s
  | .node _ _ [], _, _, [], _, _, _, _, hin => by simp [innerAt, innerOpt, sub] at hin
  | .node _ _ [], _, _, i :: q, _, _, _, _, hin => by simp [innerAt, innerOpt, sub, subL] at hin
  | .node _ _ (x :: xs), hne, U, [], tot, s, hs, hg, _ => by
    rw [leaves_node_cons] at hne
    simp only [totA, A.get, Option.some.injEq] at hg
    subst hg
    obtain ⟨ls, hls, hcs⟩ := fL_att k tv hk s hs (x :: xs) hne
    refine ⟨.node s ls, by simp [fits, hs, hls], by simp [LT.get], ?_⟩
    simp only [at_vadd, hs, if_true, LT.s_node, LT.changes]
    omega
  | .node _ _ (x :: xs), hne, U, i :: q, tot, s, hs, hg, hin => by
    rw [leaves_node_cons] at hne
    simp only [totA, A.get] at hg
    obtain ⟨r, hr, ls, hls, hgl, hcl⟩ := tot_attL hk (x :: xs) hne U (vzero k) i q tot s hs hg
      (by simpa [innerAt, sub] using hin)
    refine ⟨.node r ls, by simp [fits, hr, hls], by simpa [LT.get] using hgl, ?_⟩
    simp only [at_vzero, LT.s_node, LT.changes] at hcl ⊢
    omega
theorem tot_attL (hk : 0 < k) : ∀ (ks : Kids), (∀ n ∈ leavesL ks, NZ k (tv n)) →
    ∀ (U pre : Vec) (i : Nat) (p : List Nat) (tot : Vec) (s : Nat), s < k →
    A.getL (totL k tv U pre ks) i p = some tot →
    innerOpt (subL ks i p) = true →
    ∃ r, r < k ∧ ∃ ls, fitsL k tv ks ls = true ∧ LT.getL ls i p = some s ∧
      U.at r + pre.at r + LT.changesL r ls = tot.at s
  | [], _, _, _, _, _, _, _, _, hg, _ => by simp [totL, A.getL] at hg
  | (e, c) :: rest, hne, U, pre, 0, p, tot, s, hs, hg, hin => by
    simp only [totL, A.getL] at hg
    simp only [subL] at hin
    obtain ⟨lc, hfc, hgc, hcc⟩ := tot_att hk c (leavesL_cons hne).1 _ p tot s hs hg
      (by simpa [innerAt] using hin)
    rw [at_through k _ _ (fits_s_lt k tv c lc hfc)] at hcc
    obtain ⟨r0, hr0, he0⟩ := minOver_attained k hk
      (fun t => (vadd k U (vadd k pre (fL k tv rest))).at t + (if lc.s = t then 0 else 1))
    obtain ⟨lr, hlr, hcr⟩ := fL_att k tv hk r0 hr0 rest (leavesL_cons hne).2
    refine ⟨r0, hr0, lc :: lr, by simp [fitsL, hfc, hlr], by simpa [LT.getL] using hgc, ?_⟩
    rw [← he0] at hcc
    simp only [at_vadd, hr0, if_true] at hcc
    simp only [LT.changesL]
    omega
  | (e, c) :: rest, hne, U, pre, i + 1, p, tot, s, hs, hg, hin => by
    simp only [totL, A.getL] at hg
    simp only [subL] at hin
    obtain ⟨r, hr, lr, hlr, hgr, hcr⟩ := tot_attL hk rest (leavesL_cons hne).2
      U (vadd k pre (gv k tv c)) i p tot s hs hg hin
    obtain ⟨l, hl, hc⟩ := att k tv hk c (leavesL_cons hne).1 r hr
    refine ⟨r, hr, l :: lr, by simp [fitsL, hl, hlr], by simpa [LT.getL] using hgr, ?_⟩
    simp only [at_vadd, hr, if_true] at hcr
    simp only [LT.changesL]
    omega
end

/-- the minimum of the second-pass slice of any inner node is the global minimum -/
theorem tot_min (hk : 0 < k) (t : T) (hne : t.kids ≠ []) (hnz : ∀ n ∈ t.leaves, NZ k (tv n))
    (v : List Nat) (hin : innerAt t v = true) (tot : Vec)
    (htv : (totA k tv (vzero k) t).get v = some tot) :
    minOver k tot.at = minCost k tv t := by
  have hge : ∀ s', s' < k → minCost k tv t ≤ tot.at s' := by
    intro s' hs'
    obtain ⟨l, hf, _, hc⟩ := tot_att k tv hk t hnz (vzero k) v tot s' hs' htv hin
    have := minCost_le k tv t hne l hf
    simp only [at_vzero] at hc
    omega
  obtain ⟨lo, hfo, hco⟩ := minCost_attained k tv hk t hne (T.leaves_of_kids_ne hne ▸ hnz)
  obtain ⟨s0, hs0, hg0⟩ := fits_get k tv t lo v hfo (innerAt_isSome hin)
  have h1 := tot_lb k tv t (vzero k) v tot lo s0 hfo hg0 htv hin
  simp only [at_vzero] at h1
  obtain ⟨s1, hs1, he1⟩ := minOver_attained k hk tot.at
  have h2 := minOver_le k tot.at s0 hs0
  have h3 := hge s1 hs1
  omega

/-- The entry of `s` in the second-pass slice of the inner node `v` is the minimum iff some most parsimonious
    labelling of the whole tree puts `s` at `v`. -/
theorem tot_exact (hk : 0 < k) (t : T) (hne : t.kids ≠ []) (hnz : ∀ n ∈ t.leaves, NZ k (tv n))
    (v : List Nat) (hin : innerAt t v = true) (tot : Vec)
    (hget : (totA k tv (vzero k) t).get v = some tot) (s : Nat) (hs : s < k) :
    tot.at s = minCost k tv t ↔
      ∃ l : LT, fits k tv t l = true ∧ l.changes = minCost k tv t ∧ l.get v = some s := by
  constructor
  · intro he
    obtain ⟨l, hf, hg, hc⟩ := tot_att k tv hk t hnz (vzero k) v tot s hs hget hin
    simp only [at_vzero] at hc
    exact ⟨l, hf, by omega, hg⟩
  · intro ⟨l, hf, hc, hg⟩
    have h1 := tot_lb k tv t (vzero k) v tot l s hf hg hget hin
    have h2 := minOver_le k tot.at s hs
    rw [tot_min k tv hk t hne hnz v hin tot hget] at h2
    simp only [at_vzero] at h1
    omega

/-- the second-pass slice `totv = U + pre + f` of a node, split at its first child `c`: what `c` has outside, and
    what the later children have before them -/
theorem tot_split {U pre totv : Vec} {e : EdgeD} {c : T} {r : Kids}
    (h : ∀ t, t < k → totv.at t = U.at t + pre.at t + (fL k tv ((e, c) :: r)).at t) :
    (∀ t, t < k → (vadd k U (vadd k pre (fL k tv r))).at t + (gv k tv c).at t = totv.at t) ∧
    (∀ t, t < k → totv.at t = U.at t + (vadd k pre (gv k tv c)).at t + (fL k tv r).at t) := by
  constructor
  all_goals
    intro t ht
    have := h t ht
    simp only [fL, at_vadd, ht, if_true] at this ⊢
    omega

end tot

/- ## duality of costs and counts -/

def Dual (k C : Nat) (a b : Vec) : Prop := ∀ t, t < k → a.at t + b.at t = C

theorem maxTo_iff (k : Nat) (hk : 0 < k) (b : Vec) (s : Nat) (hs : s < k) :
    b.at s = maxTo b.at k ↔ ∀ t, t < k → b.at t ≤ b.at s := by
  constructor
  · intro h t ht; rw [h]; exact le_maxTo _ k t ht
  · intro h
    obtain ⟨hi, he⟩ := argTo_fst b.at k hk
    have h1 := h _ hi
    have h2 := le_maxTo b.at k s hs
    omega

theorem dual_max_min (k C : Nat) (hk : 0 < k) (a b : Vec) (hd : Dual k C a b) (s : Nat) (hs : s < k) :
    b.at s = maxTo b.at k ↔ a.at s = minOver k a.at := by
  rw [maxTo_iff k hk b s hs, minOver_iff k hk a.at s hs]
  constructor
  · intro h t ht
    have := h t ht; have := hd t ht; have := hd s hs; omega
  · intro h t ht
    have := h t ht; have := hd t ht; have := hd s hs; omega

theorem dual_cp (k C : Nat) (hk : 0 < k) (a b : Vec) (hd : Dual k C a b) (s : Nat) (hs : s < k) :
    (cp k b).at s ≠ 0 ↔ ∀ t, t < k → a.at s ≤ a.at t := by
  rw [← minOver_iff k hk a.at s hs, ← dual_max_min k C hk a b hd s hs]
  exact cp_ne_zero k b s hs

theorem dual_through (k C : Nat) (hk : 0 < k) (a b : Vec) (hd : Dual k C a b) :
    Dual k (minOver k a.at + 1) (through k a) (cp k b) := by
  intro s hs
  have h1 := minOver_through k hk a.at s hs
  have h2 := dual_max_min k C hk a b hd s hs
  simp only [through, cp, at_tab, hs, if_true]
  rw [h1]
  by_cases hb : b.at s = maxTo b.at k
  · have := h2.mp hb; simp [hb, this]
  · have : ¬ a.at s = minOver k a.at := fun h => hb (h2.mpr h)
    simp [hb, this]

section down
variable (k : Nat) (tv : String → Vec)

theorem dual_child (hk : 0 < k) (c : T) (hl : ∀ n ∈ c.leaves, Set01 k (tv n)) :
    Dual k (upN k tv c + 1) (gv k tv c) (upS k tv c) := by
  intro t ht
  have h1 := key k tv hk c hl t ht
  have h2 := upS_le_one k tv c hl t ht
  rw [h1]; split <;> omega

theorem dual_fL (hk : 0 < k) : ∀ (ks : Kids), (∀ n ∈ leavesL ks, Set01 k (tv n)) →
    Dual k (upNL k tv ks + ks.length) (fL k tv ks) (sumL k tv ks)
  | [], _ => by intro t _; simp [fL, sumL, at_vzero, upNL]
  | (e, c) :: r, hl => by
    intro t ht
    have h1 := dual_fL hk r (leavesL_cons hl).2 t ht
    have h2 := dual_child k tv hk c (leavesL_cons hl).1 t ht
    simp only [fL, sumL, upNL, at_vadd, ht, if_true, List.length_cons]
    omega

/-- what the model knows about the part of the tree above a node: nothing at the root,
    otherwise a count vector dual to the Sankoff outside cost -/
def UpInv (U : Vec) : Option Vec → Prop
  | none => ∀ t, t < k → U.at t = 0
  | some u => ∃ C, Dual k C U u

/-- `upstates` added to the counts of the children, as DOWNPASS does (nothing at the root) -/
def addUp : Option Vec → Vec → Vec
  | none, v => v
  | some u, v => vadd k u v

theorem down_node (us : Option Vec) (d : NodeD) (p : Nat) (x : EdgeD × T) (xs : Kids) :
    down k tv us (.node d p (x :: xs)) =
      .node (cp k (addUp k us (sumL k tv (x :: xs)))) (downL k tv us (vzero k) (x :: xs)) := by
  cases us <;> rfl

theorem downL_cons (us : Option Vec) (pre : Vec) (e : EdgeD) (c : T) (r : Kids) :
    downL k tv us pre ((e, c) :: r) =
      down k tv (some (cp k (addUp k us (vadd k pre (sumL k tv r))))) c :: downL k tv us (vadd k pre (upS k tv c)) r := by
  cases us <;> rfl

theorem dual_vadd {Ca Cb : Nat} {a' a b' b : Vec} (ha : Dual k Ca a' a) (hb : Dual k Cb b' b) :
    Dual k (Ca + Cb) (vadd k a' b') (vadd k a b) := by
  intro t ht
  have := ha t ht; have := hb t ht
  simp only [at_vadd, ht, if_true]; omega

/-- the counts the down-pass adds up for a node are dual to the outside cost plus the Sankoff vectors of the
    children counted -/
theorem dual_addUp {U : Vec} {us : Option Vec} (hinv : UpInv k U us) {Ca : Nat} {a' a : Vec} (ha : Dual k Ca a' a)
    (X : Vec) (hX : ∀ t, t < k → X.at t = U.at t + a'.at t) : ∃ C, Dual k C X (addUp k us a) := by
  match us, hinv with
  | none, hinv =>
    refine ⟨Ca, fun t ht => ?_⟩
    have := hinv t ht; have := ha t ht; have := hX t ht
    simp only [addUp]; omega
  | some u, ⟨C, hC⟩ =>
    refine ⟨C + Ca, fun t ht => ?_⟩
    have := hC t ht; have := ha t ht; have := hX t ht
    simp only [addUp, at_vadd, ht, if_true]; omega

/- the down-pass keeps, at every inner node, the argmin of the second-pass slice -/
mutual
theorem down_tot (hk : 0 < k) : ∀ (c : T) (U : Vec) (us : Option Vec), UpInv k U us →
    (∀ n ∈ c.leaves, Set01 k (tv n)) →
    ∀ (p : List Nat) (vec tot : Vec), (down k tv us c).get p = some vec → (totA k tv U c).get p = some tot →
    innerAt c p = true → ∀ s, s < k → (vec.at s ≠ 0 ↔ ∀ t, t < k → tot.at s ≤ tot.at t)
  | .node _ _ [], _, _, _, _, [], _, _, _, _, hin => by simp [innerAt, innerOpt, sub] at hin
  | .node _ _ [], _, _, _, _, i :: q, _, _, _, _, hin => by simp [innerAt, innerOpt, sub, subL] at hin
  | .node _ _ (x :: xs), U, us, hinv, hl, [], vec, tot, hd, hg, _ => by
    rw [leaves_node_cons] at hl
    simp only [totA, A.get, Option.some.injEq] at hg
    subst hg
    obtain ⟨C, hC⟩ := dual_addUp k hinv (dual_fL k tv hk (x :: xs) hl) (vadd k (fL k tv (x :: xs)) U)
      (fun t ht => by simp only [at_vadd, ht, if_true]; omega)
    rw [down_node] at hd
    simp only [A.get, Option.some.injEq] at hd
    subst hd
    exact fun s hs => dual_cp k C hk _ _ hC s hs
  | .node _ _ (x :: xs), U, us, hinv, hl, i :: q, vec, tot, hd, hg, hin => by
    rw [leaves_node_cons] at hl
    simp only [down, A.get] at hd
    simp only [totA, A.get] at hg
    exact down_totL hk (x :: xs) hl U us hinv (vzero k) (vzero k) 0
      (by intro t _; simp [at_vzero]) i q vec tot hd hg (by simpa [innerAt, sub] using hin)
theorem down_totL (hk : 0 < k) : ∀ (ks : Kids), (∀ n ∈ leavesL ks, Set01 k (tv n)) →
    ∀ (U : Vec) (us : Option Vec), UpInv k U us → ∀ (pre' pre : Vec) (Cp : Nat), Dual k Cp pre' pre →
    ∀ (i : Nat) (p : List Nat) (vec tot : Vec), A.getL (downL k tv us pre ks) i p = some vec →
    A.getL (totL k tv U pre' ks) i p = some tot → innerOpt (subL ks i p) = true →
    ∀ s, s < k → (vec.at s ≠ 0 ↔ ∀ t, t < k → tot.at s ≤ tot.at t)
  | [], _, _, _, _, _, _, _, _, _, _, _, _, hd, _, _ => by simp [downL, A.getL] at hd
  | (e, c) :: rest, hl, U, us, hinv, pre', pre, Cp, hp, 0, p, vec, tot, hd, hg, hin => by
    rw [downL_cons] at hd
    simp only [A.getL] at hd
    simp only [totL, A.getL] at hg
    simp only [subL] at hin
    obtain ⟨C, hC⟩ := dual_addUp k hinv
      (dual_vadd k hp (dual_fL k tv hk rest (leavesL_cons hl).2))
      (vadd k U (vadd k pre' (fL k tv rest))) (fun t ht => by simp only [at_vadd, ht, if_true])
    exact down_tot hk c _ (some _) ⟨_, dual_through k C hk _ _ hC⟩
      (leavesL_cons hl).1 p vec tot hd hg (by simpa [innerAt] using hin)
  | (e, c) :: rest, hl, U, us, hinv, pre', pre, Cp, hp, i + 1, p, vec, tot, hd, hg, hin => by
    simp only [downL, A.getL] at hd
    simp only [totL, A.getL] at hg
    simp only [subL] at hin
    exact down_totL hk rest (leavesL_cons hl).2 U us hinv _ _ _
      (dual_vadd k hp (dual_child k tv hk c (leavesL_cons hl).1))
      i p vec tot hd hg hin
end

/- every slice of the down-pass is a set -/
mutual
theorem down_flat : ∀ (c : T), (∀ n ∈ c.leaves, Set01 k (tv n)) → ∀ us, ∀ v ∈ (down k tv us c).flat, Set01 k v
  | .node d _ [], hl, _, v, hv => by
    simp only [down, A.flat, A.flatL, List.mem_cons, List.not_mem_nil, or_false] at hv
    subst hv
    exact hl d.name (by simp [T.leaves])
  | .node _ _ (x :: xs), hl, us, v, hv => by
    rw [leaves_node_cons] at hl
    simp only [down, A.flat, List.mem_cons] at hv
    cases hv with
    | inl h => subst h; cases us <;> exact cp_01 k _
    | inr h => exact down_flatL (x :: xs) hl us _ v h
theorem down_flatL : ∀ (ks : Kids), (∀ n ∈ leavesL ks, Set01 k (tv n)) →
    ∀ us pre, ∀ v ∈ A.flatL (downL k tv us pre ks), Set01 k v
  | [], _, _, _, v, hv => by simp [downL, A.flatL] at hv
  | (e, c) :: r, hl, us, pre, v, hv => by
    simp only [downL, A.flatL, List.mem_append] at hv
    cases hv with
    | inl h => exact down_flat c (leavesL_cons hl).1 _ v h
    | inr h => exact down_flatL r (leavesL_cons hl).2 us _ v h
end

/-- The plain down-pass reports, at every inner node `v`, exactly the states that occur at `v` in some most
    parsimonious labelling of the whole tree. -/
theorem down_exact (hk : 0 < k) (t : T) (h : Ok k tv t)
    (v : List Nat) (hin : innerAt t v = true) (vec : Vec)
    (hget : (down k tv none t).get v = some vec) (s : Nat) (hs : s < k) :
    vec.at s ≠ 0 ↔
      ∃ l : LT, fits k tv t l = true ∧ l.changes = minCost k tv t ∧ l.get v = some s := by
  obtain ⟨tot, htv⟩ := Option.isSome_iff_exists.mp (tot_get k tv t (vzero k) v (innerAt_isSome hin))
  rw [down_tot k tv hk t (vzero k) none (fun t _ => at_vzero k t) h.s01 v vec tot hget htv hin s hs,
    ← minOver_iff k hk tot.at s hs, tot_min k tv hk t h.kids h.nz v hin tot htv]
  exact tot_exact k tv hk t h.kids h.nz v hin tot htv s hs

end down

end Gotree.C12

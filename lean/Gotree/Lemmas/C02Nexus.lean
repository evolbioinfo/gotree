/-
  C02 — the Nexus parser never panics and always halts.
-/
import Gotree.Model.C02Readers
import Gotree.Lemmas.C02Newick
namespace Gotree.C02.Nexus
open Gotree Gotree.C02

/-- the machine has not crashed -/
def NoPanic (s : St) : Prop := ∀ m, s.halt ≠ some (.panic m)

/-- `s'` halts no worse than `s`: same halt, or an error, or the normal end -/
def Benign (s s' : St) : Prop := s'.halt = s.halt ∨ (∃ m, s'.halt = some (.err m)) ∨ s'.halt = some .done

theorem benign_refl (s : St) : Benign s s := Or.inl rfl
theorem benign_fail (s : St) (m : String) : Benign s (s.fail m) := Or.inr (Or.inl ⟨m, rfl⟩)
theorem benign_go (s : St) (c : Ctl) : Benign s (s.go c) := Or.inl rfl
theorem benign_upd (s : St) (c : Ctl) (a : Acc) : Benign s { s with ctl := c, acc := a } := Or.inl rfl
theorem benign_done (s : St) : Benign s { s with halt := some .done } := Or.inr (Or.inr rfl)

theorem commentStep_benign (s : St) (t : Token) (c : Ctl) : Benign s (commentStep {} s t c) := by
  fun_cases commentStep {} s t c <;> first | exact Or.inl rfl | exact benign_fail _ _

theorem unsupStep_benign (s : St) (t : Token) (c : Ctl) : Benign s (unsupStep s t c) := by
  unfold unsupStep
  split <;> first | exact benign_fail _ _ | exact benign_go _ _ | exact benign_refl _

theorem treeAccum_benign (s : St) (l : TreesL) (n a : List Char) (t : Token) : Benign s (treeAccum s l n a t) := by
  fun_cases treeAccum s l n a t <;> first | exact Or.inl rfl | exact benign_fail _ _

theorem singleChar_benign (s : St) (bad : Bool) (t : Token) (set : Char → Ctl) : Benign s (singleChar {} s bad t set) := by
  fun_cases singleChar {} s bad t set
  case case1 h _ => exact absurd h (by decide)
  case case5 _ h hl => exact absurd (by rw [hl]; decide) h
  all_goals first | exact Or.inl rfl | exact benign_fail _ _

/- The facts about `step` go through its cases (`fun_cases`: one per leaf of the two-level `switch`, result computed,
   `s.ctl = …` in context); a leaf is `s`, `s.fail _`, `s.go _`, an update of `ctl` and `acc`, or one of the four
   loop bodies above. -/
theorem step_benign (s : St) (t : Token) : Benign s (step {} s t) := by
  fun_cases step {} s t
  all_goals first
    | exact Or.inl rfl
    | exact benign_fail _ _
    | exact benign_done _
    | exact commentStep_benign _ _ _
    | exact unsupStep_benign _ _ _
    | exact treeAccum_benign _ _ _ _ _
    | exact singleChar_benign _ _ _ _

theorem noPanic_of_benign {s s' : St} (h : Benign s s') (hs : NoPanic s) : NoPanic s' := by
  intro m
  rcases h with h | ⟨m', h⟩ | h
  · rw [h]; exact hs m
  · rw [h]; simp
  · rw [h]; simp

theorem deliver_noPanic (s : St) (t : Token) (hs : NoPanic s) : NoPanic (deliver {} s t) := by
  unfold deliver
  split
  · exact hs
  · split
    · exact fun m => hs m
    · exact noPanic_of_benign (step_benign _ t) (fun m => hs m)

theorem foldl_noPanic (ts : List Token) : ∀ s : St, NoPanic s → NoPanic (ts.foldl (deliver {}) s) := by
  induction ts with
  | nil => exact fun _ h => h
  | cons t r ih => exact fun s h => ih _ (deliver_noPanic s t h)

theorem runToks_noPanic (ts : List Token) : NoPanic (runToks {} ts) := by
  unfold runToks atEOF
  have h0 : NoPanic ({} : St) := by intro m; simp
  exact deliver_noPanic _ _ (deliver_noPanic _ _ (deliver_noPanic _ _ (foldl_noPanic ts _ h0)))

/-- "every loop leaves on EOF": from every control point, three EOF tokens halt the machine -/
theorem eof_halts (s : St) : (atEOF {} s).halt.isSome = true := by
  unfold atEOF
  by_cases hh : s.halt.isSome = true
  · simp [deliver, hh]
  · have hn : s.halt = none := by cases h : s.halt <;> simp_all
    rcases s with ⟨ctl, acc, skipped, halt⟩
    simp only at hn
    subst hn
    cases ctl <;>
      simp [deliver, step, eofTok, commentStep, unsupStep, treeAccum, singleChar, St.fail, St.go, rawCtl, parseInt, utf8Len]

/-- the locals of `parseTrees` held at a control point -/
def Ctl.treesL? : Ctl → Option TreesL
  | .rHead l | .rEndSemi l | .rTr l _ | .rTrVal l _ _ | .rTrSep l _ _ _ | .rTrComment l _ | .rTreeName l
  | .rTreeEq l _ | .rTreeFirst l _ | .rTreeComment l _ | .rTreeSkip l _ | .rTreeAcc l _ _ | .rComment l | .rUnsup l => some l
  | _ => none

/-- `treenames` and `treestrings` are appended together: they have the same length -/
def Inv (s : St) : Prop :=
  s.acc.treenames.length = s.acc.treestrings.length ∧
  ∀ l, s.ctl.treesL? = some l → l.names.length = l.strings.length

theorem inv_fail {s : St} (m : String) (h : Inv s) : Inv (s.fail m) := h

theorem commentStep_inv (pins : Pins) {s : St} (t : Token) (c : Ctl) (h : Inv s) (hc : Inv (s.go c)) : Inv (commentStep pins s t c) := by
  fun_cases commentStep pins s t c <;> first | exact h | exact hc

theorem unsupStep_inv {s : St} (t : Token) (c : Ctl) (h : Inv s) (hc : Inv (s.go c)) : Inv (unsupStep s t c) := by
  unfold unsupStep
  split <;> first | exact h | exact hc

theorem treeAccum_inv {s : St} (l : TreesL) (n a : List Char) (t : Token) (h : Inv s)
    (hl : l.names.length = l.strings.length) : Inv (treeAccum s l n a t) := by
  unfold treeAccum
  split
  · refine ⟨h.1, ?_⟩
    intro l' hl'
    simp [St.go, Ctl.treesL?] at hl'
    subst hl'
    simp [hl]
  · split
    · exact h
    · refine ⟨h.1, ?_⟩
      intro l' hl'
      simp [St.go, Ctl.treesL?] at hl'
      subst hl'
      exact hl

theorem singleChar_inv (pins : Pins) {s : St} (bad : Bool) (t : Token) (set : Char → Ctl) (h : Inv s)
    (hc : ∀ c, Inv (s.go (set c))) : Inv (singleChar pins s bad t set) := by
  unfold singleChar
  simp only
  repeat' split
  all_goals first | exact h | exact hc _

/-- a move from control point `c0` to `c` that leaves the two lists of the accumulator alone: `c` holds the
    `parseTrees` locals of `c0`, or none, or aligned ones -/
theorem inv_upd {s : St} {c0 c : Ctl} {a : Acc} (h : Inv s) (hs : s.ctl = c0)
    (hn : a.treenames = s.acc.treenames) (hst : a.treestrings = s.acc.treestrings)
    (hc : ∀ l, c.treesL? = some l → c0.treesL? = some l ∨ l.names.length = l.strings.length) :
    Inv { s with ctl := c, acc := a } :=
  ⟨by rw [hn, hst]; exact h.1, fun l hl => (hc l hl).elim (fun h0 => h.2 l (by rw [hs]; exact h0)) id⟩

theorem step_inv (pins : Pins) (s : St) (t : Token) (h : Inv s) : Inv (step pins s t) := by
  fun_cases step pins s t
  -- `END;` of a TREES block: the two lists of the block are appended to the two of the accumulator
  case case55 l hs _ => exact ⟨by simp only [List.length_append, h.1, h.2 l (by rw [hs]; rfl)], nofun⟩
  all_goals first
    | exact h
    | refine inv_upd h (by assumption) rfl rfl ?_
    | refine commentStep_inv pins t _ h (inv_upd h (by assumption) rfl rfl ?_)
    | refine unsupStep_inv t _ h (inv_upd h (by assumption) rfl rfl ?_)
    | refine singleChar_inv pins _ t _ h fun c => inv_upd h (by assumption) rfl rfl ?_
    | exact treeAccum_inv _ _ _ t h (h.2 _ (by rw [‹s.ctl = _›]; rfl))
  -- what is left: the locals of the new control point are those of the old one, or it has none, or they are empty
  all_goals intro _ hl
  all_goals first
    | exact Or.inl hl
    | (cases hl; done)
    | (cases hl; exact Or.inr rfl)

theorem deliver_inv (pins : Pins) (s : St) (t : Token) (h : Inv s) : Inv (deliver pins s t) := by
  unfold deliver
  split
  · exact h
  · split
    · exact h
    · exact step_inv pins _ t h

theorem foldl_inv (pins : Pins) (ts : List Token) : ∀ s : St, Inv s → Inv (ts.foldl (deliver pins) s) := by
  induction ts with
  | nil => exact fun _ h => h
  | cons t r ih => exact fun s h => ih _ (deliver_inv pins s t h)

theorem runToks_inv (pins : Pins) (ts : List Token) : Inv (runToks pins ts) := by
  unfold runToks atEOF
  have h0 : Inv ({} : St) := by
    refine ⟨rfl, ?_⟩
    intro l hl; simp [Ctl.treesL?] at hl
  exact deliver_inv _ _ _ (deliver_inv _ _ _ (deliver_inv _ _ _ (foldl_inv pins ts _ h0)))

/-- the loop over the tree strings never indexes `treenames` out of range and crashes only if the
    Newick parser does -/
theorem buildTrees_no_panic (np : List Char → Res Newick.Parsed) (hnp : ∀ cs m, np cs ≠ .panic m) (a : Acc) :
    ∀ (ss ns : List (List Char)) (i : Nat), ns.length = ss.length → ∀ m, buildTrees np a ss ns i ≠ .panic m
  | [], _, _, _, m => by unfold buildTrees; simp
  | s :: ss, [], _, h, m => by simp at h
  | s :: ss, n :: ns, i, h, m => by
    have ih := buildTrees_no_panic np hnp a ss ns (i + 1) (by simpa using h)
    unfold buildTrees
    split
    · rename_i m' hp; exact absurd hp (hnp _ _)
    · simp
    · simp only
      split
      · rename_i hr
        -- the renaming step never panics
        split at hr <;> (try split at hr) <;> (try split at hr) <;> simp at hr
      · simp
      · split
        · simp
        · split
          · simp
          · simp
          · rename_i m' hp; intro hc; cases hc; exact ih _ hp

theorem finalize_no_panic (np : List Char → Res Newick.Parsed) (hnp : ∀ cs m, np cs ≠ .panic m) (a : Acc)
    (ha : a.treenames.length = a.treestrings.length) (m : String) : finalize np a ≠ .panic m := by
  unfold finalize
  simp only
  repeat' split
  all_goals first
    | exact buildTrees_no_panic np hnp a _ _ 0 ha m
    | simp

theorem tokens_length_le (cs : List Char) : (tokens cs).length ≤ cs.length := by
  fun_induction tokens cs
  case case1 => simp
  case case2 c cs ih =>
    have := scan1_rest_le c cs
    simp only [List.length_cons]
    omega

end Gotree.C02.Nexus

namespace Gotree.C02
open Gotree


theorem Nexus.parseCharsWith_no_panic (np : List Char → Res Newick.Parsed) (hnp : ∀ cs m, np cs ≠ .panic m)
    (cs : List Char) (m : String) : Nexus.parseCharsWith {} np cs ≠ .panic m := by
  unfold Nexus.parseCharsWith Nexus.ofState
  have h1 := Nexus.runToks_noPanic (Nexus.tokens cs)
  have h2 := Nexus.runToks_inv {} (Nexus.tokens cs)
  split
  · simp
  · simp
  · rename_i m' hh; exact absurd hh (h1 m')
  · split
    · simp
    · simp
    · rename_i m' hp; exact absurd hp (Nexus.finalize_no_panic np hnp _ h2.1 m')

theorem Nexus.parseCharsWith_halts (np : List Char → Res Newick.Parsed) (cs : List Char) :
    Nexus.parseCharsWith {} np cs ≠ .hang := by
  unfold Nexus.parseCharsWith Nexus.ofState Nexus.runToks
  have h := Nexus.eof_halts ((Nexus.tokens cs).foldl (Nexus.deliver {}) {})
  generalize Nexus.atEOF {} ((Nexus.tokens cs).foldl (Nexus.deliver {}) {}) = s at h
  cases hh : s.halt with
  | none => rw [hh] at h; simp at h
  | some x =>
    cases x with
    | err m => simp
    | panic m => simp
    | done => simp only; split <;> simp

/-- F3 (before fix 214ace7): at the end of the input inside a `[` comment the loop of
    `consumeComment` neither consumes input nor leaves: no amount of fuel is enough. -/
theorem Nexus.comment_diverges_pinned (n : Nat) (s : Nexus.St) (hc : s.ctl = .mainComment) (hh : s.halt = none) :
    Nexus.eofFuel { f3 := true } n s = none := by
  induction n generalizing s with
  | zero => rfl
  | succ k ih =>
    unfold Nexus.eofFuel
    rw [hh]
    simp only
    apply ih
    · simp [Nexus.deliver, hh, hc, Nexus.eofTok, Nexus.step, Nexus.commentStep, Nexus.rawCtl]
    · simp [Nexus.deliver, hh, hc, Nexus.eofTok, Nexus.step, Nexus.commentStep, Nexus.rawCtl]


end Gotree.C02

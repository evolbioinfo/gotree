/-
  C08 — the rooting / child-order clause as theorems about C05's operation models
  (`C05.reroot`, `C05.rotate`, `C05.moveRoot`): what those operations preserve (C05's
  `reroot_preserves`, `rotate_preserves`, `moveRoot_splits`) is exactly what the record of
  `Compare` depends on.  Core Lean only.
-/
import Gotree.Lemmas.C08Bits
import Gotree.Lemmas.C08HM
import Gotree.Proofs.C05

namespace Gotree.C08
open Gotree List

/-- side and length of every branch, trivial ones included -/
def sideLens (t : T) : List (List String × Rat) := t.usplitsAll.map fun s => (s.side, s.len)

theorem sideLens_perm_parts (t : T) :
    sideLens t ~ (t.usplits.map fun s => (s.side, s.len)) ++ t.tipLens := by
  unfold sideLens T.usplits T.tipLens
  rw [← map_append]
  apply Perm.map
  refine (filter_append_perm (fun s => decide (2 ≤ lightSize t.tipNames s.side)) t.usplitsAll).symm.trans ?_
  apply Perm.append (Perm.refl _)
  apply Perm.of_eq
  apply filter_congr
  intro s _
  rw [← decide_not]
  exact decide_eq_decide.mpr (by omega)

/-- what C05's operations preserve: tips, non-trivial splits (with data), tip branch lengths -/
structure SameU (t u : T) : Prop where
  tips : u.tipNames ~ t.tipNames
  usp : u.usplits ~ t.usplits
  tl : u.tipLens ~ t.tipLens

theorem SameU.U_pr {t u : T} (h : SameU t u) (tips : Bool) : (U tips u).map Canon.pr ~ (U tips t).map Canon.pr := by
  cases tips with
  | true => exact (sideLens_perm_parts u).trans (((h.usp.map _).append h.tl).trans (sideLens_perm_parts t).symm)
  | false => unfold U; simp only [Bool.false_eq_true, if_false]; exact h.usp.map _

theorem SameU.S_perm {t u : T} (h : SameU t u) (tips : Bool) : S tips u ~ S tips t := by
  have p := (h.U_pr tips).map (·.1)
  rw [map_map, map_map] at p
  exact p

theorem sameTaxa_of_perms {r c r' c' : T} (hT : sameTaxa r c = true)
    (hr : r'.tipNames ~ r.tipNames) (hc : c'.tipNames ~ c.tipNames) : sameTaxa r' c' = true := by
  unfold sameTaxa at *
  simp only [Bool.and_eq_true, all_eq_true, contains_iff_mem] at *
  exact ⟨fun x hx => hc.mem_iff.mpr (hT.1 x (hr.mem_iff.mp hx)), fun x hx => hr.mem_iff.mpr (hT.2 x (hc.mem_iff.mp hx))⟩

theorem uniq_of_unrootedOK {t : T} (h : unrootedOK t = true) : C05.uniq t = true := by
  unfold unrootedOK at h
  simp only [Bool.and_eq_true] at h
  exact (C05.uniq_iff t).mpr (Canon.nodup_of_uniqueTips t h.1.1)

theorem sameU_reroot {t t' : T} {p : List Nat} (hu : C05.uniq t = true) (hl : C05.lensOK t = true)
    (h : C05.reroot t p = .ok t') : SameU t t' := by
  obtain ⟨h1, h2, h3, _⟩ := C05.P.reroot_preserves t t' p hu hl h
  exact ⟨h1, h2, h3⟩

theorem sameU_rotate (t : T) (draws : List Nat) (hl : C05.lensOK t = true) : SameU t (C05.rotate t draws) := by
  obtain ⟨h1, h2, h3, _⟩ := C05.P.rotate_preserves t draws hl
  exact ⟨h1, h2, h3⟩

theorem sameU_moveRoot (t : T) (i : Nat) (hu : C05.uniq t = true) (hl : C05.lensOK t = true) :
    SameU t (C05.moveRoot t i) := by
  obtain ⟨h1, h2, h3⟩ := C05.P.moveRoot_splits t i hu hl
  exact ⟨h1, h2, h3⟩

/-! ## the Spec's weighted terms of trees related by `SameU` -/

/-- the Spec's weighted terms of (r', c') are those of (r, c) up to order -/
theorem spec_terms_invariant {r c r' c' : T} (tips : Bool) (sr : SameU r r') (sc : SameU c c')
    (hnc : (S tips c').Nodup) :
    onlyLens (U tips r') (U tips c') ~ onlyLens (U tips r) (U tips c) ∧
    onlyLens (U tips c') (U tips r') ~ onlyLens (U tips c) (U tips r) ∧
    commonDiffs (U tips r') (U tips c') ~ commonDiffs (U tips r) (U tips c) := by
  simp only [Canon.onlyLens_eq, Canon.commonDiffs_eq]
  exact ⟨Canon.onlyP_congr (sr.U_pr tips) fun k => ((sc.U_pr tips).map _).mem_iff,
    Canon.onlyP_congr (sc.U_pr tips) fun k => ((sr.U_pr tips).map _).mem_iff,
    Canon.commonP_congr (sr.U_pr tips) (sc.U_pr tips) (by rw [map_map]; exact hnc)⟩

/-! ## a one-edge root move keeps the shape hypotheses -/

/-- moving the root to an inner child of an unrooted tree of the property gives such a tree -/
theorem unrootedOK_moveRoot (t : T) (i : Nat) (e : EdgeD) (c : T) (h : unrootedOK t = true)
    (hc : t.kids[i]? = some (e, c)) (hin : c.isLeaf = false) : unrootedOK (C05.moveRoot t i) = true := by
  unfold unrootedOK at h ⊢
  simp only [Bool.and_eq_true, decide_eq_true_eq] at h ⊢
  obtain ⟨⟨h1, h2⟩, h3⟩ := h
  have hk := noSingleL_iff.mp h2
  have hcb : c.noSingleBelow = true := hk _ (mem_of_getElem? hc)
  rw [T.noSingleBelow_eq, Bool.and_eq_true, bne_iff_ne] at hcb
  have hkc : c.kids.length ≠ 0 := fun h0 => by simp [T.isLeaf, length_eq_zero_iff.mp h0] at hin
  have hp := insertAt_perm c.kids c.ppos (e, C05.oldRoot t i)
  rw [C05.moveRoot_of_get t i e c hc] at *
  refine ⟨⟨(Canon.uniqueTips_iff _).mpr (((C05.moveRoot_of_get t i e c hc) ▸ C05.moveRoot_tips t i).symm.nodup
    ((Canon.uniqueTips_iff t).mp h1)), noSingleL_iff.mpr fun q hq => ?_⟩, ?_⟩
  · rcases mem_cons.mp (hp.mem_iff.mp hq) with rfl | hq
    · -- the old root keeps all its children but one: at least two
      have hi := (List.getElem?_eq_some_iff.mp hc).1
      rw [C05.oldRoot, T.noSingleBelow, Bool.and_eq_true, bne_iff_ne, length_eraseIdx, if_pos hi, noSingleL_iff]
      exact ⟨by omega, fun q' hq' => hk q' (mem_of_mem_eraseIdx hq')⟩
    · exact noSingleL_iff.mp hcb.2 q hq
  · have := hcb.1
    rw [T.kids_node, hp.length_eq, length_cons]
    omega

/-! ## rotation keeps the shape hypotheses -/

theorem rotL_noSingle : ∀ (k : Kids) (ds : List Nat),
    noSingleL (C05.rotL k ds).1 = noSingleL k ∧ (C05.rotL k ds).1.length = k.length :=
  fun k ds => have a := (C05.rotL_reord k ds).keeps (g := fun _ => ()) fun _ _ _ _ _ => rfl
    ⟨a.noSingle, a.len⟩

/-- `RotateInternalNodes` keeps a tree of the property a tree of the property -/
theorem unrootedOK_rotate (t : T) (draws : List Nat) (h : unrootedOK t = true) :
    unrootedOK (C05.rotate t draws) = true := by
  unfold unrootedOK at h ⊢
  simp only [Bool.and_eq_true, decide_eq_true_eq] at h ⊢
  obtain ⟨⟨h1, h2⟩, h3⟩ := h
  have r := C05.rot_reord true t draws
  have a := r.keeps (g := fun _ => ()) fun _ _ _ _ _ => rfl
  exact ⟨⟨(Canon.uniqueTips_iff _).mpr (r.tipNames.symm.nodup ((Canon.uniqueTips_iff t).mp h1)), a.noSingle.trans h2⟩,
    a.len ▸ h3⟩

/-- every node the re-rooting walks through, the target included, is an inner node (in the
    coordinates `rerootP` uses); an index out of range ends the walk, as in `rerootP` -/
def innerPath : T → List Nat → Option Nat → Bool
  | _, [], _ => true
  | t, i :: rest, adj =>
    match t.kids[C05.adjIdx adj i]? with
    | none => true
    | some (_, c) =>
      !c.isLeaf && innerPath (C05.moveRoot t (C05.adjIdx adj i)) rest (some (min c.ppos c.kids.length))

theorem unrootedOK_rerootP (path : List Nat) : ∀ (t : T) (adj : Option Nat) (back : List Nat),
    unrootedOK t = true → innerPath t path adj = true → unrootedOK (C05.rerootP t path adj back).1 = true := by
  induction path with
  | nil => intro t _ _ h _; rw [C05.rerootP_nil]; exact h
  | cons i rest ih =>
    intro t adj back h hp
    cases hk : t.kids[C05.adjIdx adj i]? with
    | none => rw [C05.rerootP_cons_none t i rest adj back hk]; exact h
    | some ec =>
      obtain ⟨e, c⟩ := ec
      rw [C05.rerootP_cons_some t i rest adj back e c hk]
      rw [innerPath, hk, Bool.and_eq_true, Bool.not_eq_true'] at hp
      exact ih _ _ _ (unrootedOK_moveRoot t _ e c h hk hp.1) hp.2

theorem unrootedOK_reroot {t t' : T} {p : List Nat} (h : unrootedOK t = true) (hp : innerPath t p none = true)
    (hr : C05.reroot t p = .ok t') : unrootedOK t' = true := by
  unfold C05.reroot at hr
  cases hn : C05.nodeAt t p with
  | none => simp [hn] at hr
  | some n =>
    simp only [hn] at hr
    by_cases h2 : (if p.isEmpty then n.kids.length else n.kids.length + 1) < 2
    · rw [if_pos h2] at hr; cases hr
    · rw [if_neg h2] at hr; cases hr; exact unrootedOK_rerootP p t none [] h hp

end Gotree.C08

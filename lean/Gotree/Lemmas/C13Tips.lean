/-
  C13 — the tips-only variant (repair of F60): renaming lemmas, the writer's loop, the round trip.
-/
import Gotree.Model.C13Tips
import Gotree.Lemmas.C13NexTr

namespace Gotree.C13
open Gotree
open Nex

theorem forall_enum_map (w : T → T) (P : T → Prop) (ts : List T) (i : Nat) (h : ∀ t ∈ ts, P (w t)) :
    ∀ x ∈ (enumFrom i ts).map (fun it => (it.1, w it.2)), P x.2 := by
  induction ts generalizing i with
  | nil => simp [enumFrom]
  | cons t r ih =>
    simp only [enumFrom, List.map_cons, List.mem_cons, forall_eq_or_imp]
    exact ⟨h t (by simp), ih (i + 1) fun x hx => h x (by simp [hx])⟩

/-- a legal label and the numeral the writer's map gives it are both single tokens, no keywords -/
theorem tokLabel_idx (k : Nat) (tips : List String) (l : String) (hl : l ∈ tips) (hok : labelOK l = true) :
    tokLabel l ∧ tokLabel (idxOf (mapFrom k tips) l) := by
  obtain ⟨v, hv⟩ := lookup_mapFrom_mem k tips l hl
  obtain ⟨j, _, hj⟩ := lookup_mapFrom_range k tips l v hv
  simp only [idxOf, hv, hj]
  exact ⟨labelOK_tokLabel l hok, labelOK_tokLabel _ (labelOK_natStr j)⟩

theorem renameTipsL_length (m : List (String × String)) (k : Kids) : (renameTipsL m k).length = k.length := by
  induction k with
  | nil => rfl
  | cons x r ih => obtain ⟨e, t⟩ := x; simp [renameTipsL, ih]

mutual
theorem leaves_renameTipsN (m : List (String × String)) : ∀ t : T, (renameTipsN m t).leaves = t.leaves.map (renameKey m)
  | .node d p [] => by simp [renameTipsN, T.leaves]
  | .node d p ((e, t) :: r) => by
    have := leavesL_renameTipsL m ((e, t) :: r)
    simp only [renameTipsN, renameTipsL, T.leaves] at this ⊢
    exact this
theorem leavesL_renameTipsL (m : List (String × String)) : ∀ k : Kids, leavesL (renameTipsL m k) = (leavesL k).map (renameKey m)
  | [] => rfl
  | (e, t) :: r => by
    simp only [renameTipsL, leavesL, List.map_append]
    rw [leaves_renameTipsN m t, leavesL_renameTipsL m r]
end

theorem tipNames_renameTips (m : List (String × String)) (t : T) :
    (renameTips m t).tipNames = t.tipNames.map (renameKey m) := by
  cases t with
  | node d p k =>
    simp only [renameTips, T.tipNames, T.kids_node, T.name, T.d_node, renameTipsL_length, leavesL_renameTipsL, List.map_append]
    by_cases h : k.length = 1 <;> simp [h]

mutual
theorem strip_renameTipsN (m : List (String × String)) : ∀ t : T, strip (renameTipsN m t) = renameTipsN m (strip t)
  | .node d p [] => by simp [renameTipsN, strip, stripL]
  | .node d p ((e, t) :: r) => by
    have := stripL_renameTipsL m ((e, t) :: r)
    simp only [renameTipsN, strip, stripL, renameTipsL] at this ⊢
    rw [this]
theorem stripL_renameTipsL (m : List (String × String)) : ∀ k : Kids, stripL (renameTipsL m k) = renameTipsL m (stripL k)
  | [] => rfl
  | (e, t) :: r => by simp only [renameTipsL, stripL]; rw [strip_renameTipsN m t, stripL_renameTipsL m r]
end

theorem strip_renameTips (m : List (String × String)) (t : T) : strip (renameTips m t) = renameTips m (strip t) := by
  cases t with
  | node d p k =>
    simp only [renameTips, strip, stripL_renameTipsL, stripL_length]
    by_cases h : k.length = 1 <;> simp [h]

mutual
theorem renameTipsN_back (f g : List (String × String)) : ∀ t : T,
    (∀ y ∈ t.leaves, renameKey g (renameKey f y) = y) → renameTipsN g (renameTipsN f t) = t
  | .node d p [], h => by
    have := h d.name (by simp [T.leaves])
    simp [renameTipsN, this]
  | .node d p ((e, t) :: r), h => by
    have := renameTipsL_back f g ((e, t) :: r) (by simpa [T.leaves] using h)
    simp only [renameTipsN, renameTipsL] at this ⊢
    rw [this]
theorem renameTipsL_back (f g : List (String × String)) : ∀ k : Kids,
    (∀ y ∈ leavesL k, renameKey g (renameKey f y) = y) → renameTipsL g (renameTipsL f k) = k
  | [], _ => rfl
  | (e, t) :: r, h => by
    simp only [leavesL, List.mem_append] at h
    simp only [renameTipsL]
    rw [renameTipsN_back f g t (fun y hy => h y (Or.inl hy)), renameTipsL_back f g r (fun y hy => h y (Or.inr hy))]
end

theorem renameTips_back (f g : List (String × String)) (t : T)
    (h : ∀ y ∈ t.tipNames, renameKey g (renameKey f y) = y) : renameTips g (renameTips f t) = t := by
  cases t with
  | node d p k =>
    simp only [T.tipNames, T.kids_node, T.name, T.d_node, List.mem_append] at h
    simp only [renameTips, renameTipsL_length]
    rw [renameTipsL_back f g k (fun y hy => h y (Or.inr hy))]
    by_cases hk : k.length = 1
    · have := h d.name (Or.inl (by simp [hk]))
      simp [hk, this]
    · simp [hk]

theorem renameTipsChecked_of_strip_eq (m : List (String × String)) (a b : T) (h : strip a = strip b)
    (hb : (renameTipsChecked m b).isSome = true) :
    renameTipsChecked m a = some (renameTips m a) ∧ strip (renameTips m a) = strip (renameTips m b) ∧
      renameTipsChecked m b = some (renameTips m b) := by
  have hs : strip (renameTips m a) = strip (renameTips m b) := by rw [strip_renameTips, strip_renameTips, h]
  have ht : (renameTips m a).tipNames = (renameTips m b).tipNames := tipNames_of_strip_eq _ _ hs
  simp only [renameTipsChecked, ht] at hb ⊢
  by_cases h2 : hasDup (renameTips m b).tipNames = true
  · simp [h2] at hb
  · simp [h2, hs]

/-- one tree: written with its tips renamed to indices, read back as itself — NO condition on the
    inner names -/
theorem tr_tree_ok_tips (tips0 slice : List String) (t : T)
    (h0 : tips0.Nodup)
    (hsl : slice.Nodup) (hmem : ∀ x, x ∈ slice ↔ x ∈ tips0)
    (htm : ∀ x, x ∈ t.tipNames ↔ x ∈ tips0) (htn : t.tipNames.Nodup) :
    renameTipsChecked (tableOf (mapFrom 0 tips0) slice []) (renameTips (mapFrom 0 tips0) t) = some t := by
  have idxinj : ∀ a ∈ slice, ∀ b ∈ slice, idxOf (mapFrom 0 tips0) a = idxOf (mapFrom 0 tips0) b → a = b := by
    intro a ha b hb he
    obtain ⟨va, hva⟩ := lookup_mapFrom_mem 0 tips0 a ((hmem a).1 ha)
    obtain ⟨vb, hvb⟩ := lookup_mapFrom_mem 0 tips0 b ((hmem b).1 hb)
    simp only [idxOf, hva, hvb] at he
    exact lookup_mapFrom_inj 0 tips0 h0 a b _ (he ▸ hva) hvb
  -- on a tip the writer's renaming is `idxOf`, which the parsed table inverts
  have hback : ∀ y ∈ t.tipNames,
      renameKey (tableOf (mapFrom 0 tips0) slice []) (renameKey (mapFrom 0 tips0) y) = y := by
    intro y hy
    have h := (htm y).1 hy
    obtain ⟨v, hv⟩ := lookup_mapFrom_mem 0 tips0 y h
    have hl := tableOf_mem (mapFrom 0 tips0) slice [] y hsl idxinj ((hmem y).2 h)
    simp only [idxOf, hv] at hl
    simp [renameKey, hv, hl]
  have hb := renameTips_back _ _ t hback
  have htips : hasDup t.tipNames = false := (hasDup_false_iff _).2 htn
  simp [renameTipsChecked, hb, htips]

/- ## the writer's loop -/

theorem writeLoopTips_eq (C : NewickCodec) (its : List (Nat × T)) (s : WState) (buf : Txt) :
    writeNexusLoopTips C true its s buf = (stateLoop its s, buf ++ plainLines C (writtenListTips its s)) := by
  induction its generalizing s buf with
  | nil => simp [writeNexusLoopTips, stateLoop, plainLines, writtenListTips]
  | cons it r ih =>
    simp only [writeNexusLoopTips, stateLoop, plainLines, writtenListTips]
    rw [ih]
    simp

theorem writeNexusTips_eq (C : NewickCodec) (its : List (Nat × T)) :
    writeNexusTips C true its =
      trDoc C (stateLoop its {}).map.length (stateLoop its {}).slice (stateLoop its {}).map (writtenListTips its {}) := by
  unfold writeNexusTips trDoc
  simp only [writeLoopTips_eq, if_true, List.nil_append, List.append_assoc]

/- ## reading back -/

/-- the reader's loop over the tree texts, when translating each written tree `w t` back through the
    parsed table gives `t` -/
theorem buildTreesTips_tr (C : NewickCodec) (L : NewickLaws C) (table : List (String × String)) (labs : List String)
    (w : T → T) (ts : List T) (i j : Nat) (hw : ∀ t ∈ ts, L.wf (w t) = true)
    (h : ∀ t ∈ ts, renameTipsChecked table (w t) = some t ∧ okTaxa labs t = true) :
    ∃ d, buildTreesTips C (some table) (some labs)
        ((((enumFrom j ts).map fun it => (it.1, w it.2)).map (cmdOf C)).map fun c => (c.name, c.body)) = some d ∧
      recsAre ts (recsOfTrees (d.map (·.2)) i) i = true := by
  induction ts generalizing i j with
  | nil => exact ⟨[], rfl, rfl⟩
  | cons t ts ih =>
    obtain ⟨hrc, hokt⟩ := h t (by simp)
    have h1 := hw t (by simp)
    obtain ⟨body, hbd, _⟩ := L.write_shape (w t) h1
    have hp : C.parse ((C.write (w t)).dropLast ++ [';']) = some (L.norm (w t)) := by
      rw [hbd, List.dropLast_concat, ← hbd]
      exact L.parse_write (w t) h1
    obtain ⟨e1, e2, e3⟩ := renameTipsChecked_of_strip_eq table (L.norm (w t)) (w t) (L.norm_strip (w t) h1)
      (by rw [hrc]; rfl)
    have hbb : t = renameTips table (w t) := by rw [hrc] at e3; injection e3
    have hok : (renameTips table (L.norm (w t))).tipNames.all labs.contains = true := by
      rw [tipNames_of_strip_eq _ _ e2, ← hbb]
      exact hokt
    obtain ⟨d, hd, hr⟩ := ih (i + 1) (j + 1) (fun x hx => hw x (by simp [hx])) (fun x hx => h x (by simp [hx]))
    refine ⟨("tree" ++ toString j, renameTips table (L.norm (w t))) :: d, ?_, ?_⟩
    · simp only [enumFrom, List.map_cons, cmdOf, buildTreesTips, hp, e1, hok, Bool.not_true, Bool.false_eq_true,
        if_false, hd]
    · simp only [List.map_cons, recsOfTrees, recsAre, Out.keptEq, beq_self_eq_true, Bool.true_and, Bool.and_eq_true]
      exact ⟨(sameKept_iff _ _).2 (by rw [e2, ← hbb]), hr⟩

/-- `parseTips` on a document with a translate table whose trees are the `w t`, numbered from `j` -/
theorem parseTips_trDoc (C : NewickCodec) (L : NewickLaws C) (labels : List String)
    (m : List (String × String)) (w : T → T) (ts : List T) (j : Nat)
    (hn : labels.length ≤ 9223372036854775807)
    (hl : ∀ l ∈ labels, tokLabel l ∧ tokLabel (idxOf m l))
    (hnd : hasDup labels = false)
    (hw : ∀ t ∈ ts, L.wf (w t) = true)
    (hs : ∀ t ∈ ts, treeTextOK (C.write (w t)) = true)
    (hb : ∀ t ∈ ts, renameTipsChecked (tableOf m labels []) (w t) = some t ∧ okTaxa labels t = true) :
    ∃ d, Nex.parseTips C (trDoc C labels.length labels m ((enumFrom j ts).map fun it => (it.1, w it.2))) = .ok d ∧
      recsAre ts (recsOfTrees (d.map (·.2)) 0) 0 = true := by
  obtain ⟨d, hd, hr⟩ := buildTreesTips_tr C L _ _ w ts 0 j hw hb
  obtain ⟨toks, h1, h2, h3⟩ := trDoc_parsed C L _ labels m _ hn hl hnd
    (forall_enum_map w (fun x => L.wf x = true) ts j hw) (forall_enum_map w (fun x => treeTextOK (C.write x) = true) ts j hs)
  have hnocr : (Tok.kw Kw.nexus "#NEXUS" :: toks).contains .loneCR = false := by
    rw [List.contains_eq_mem, decide_eq_false_iff_not]
    simpa using h2
  refine ⟨d, ?_, hr⟩
  unfold Nex.parseTips
  simp only [h1, hnocr, h3, intVal_natStr, hd, Option.getD_some, bne_self_eq_false, Bool.and_false,
    Bool.false_eq_true, if_false]

/- ## the trees written, the final state -/

theorem loopTips_const (ts : List T) (i : Nat) (s : WState) (h : ∀ t ∈ ts, ∀ x ∈ t.tipNames, x ∈ keys s) :
    writtenListTips (enumFrom i ts) s = (enumFrom i ts).map (fun it => (it.1, renameTips s.map it.2)) := by
  induction ts generalizing i s with
  | nil => rfl
  | cons t r ih =>
    obtain ⟨h1, h2⟩ := stepState_map_const s t (h t (by simp))
    have := ih (i + 1) (stepState s t) (fun x hx y hy => by rw [h2]; exact h x (by simp [hx]) y hy)
    simp only [enumFrom, writtenListTips, List.map_cons, writtenTreeTips, if_true, h1, this]

/-- ★ the repair closes F60: with the tips-only renaming the translate-table round trip holds for trees
    on one tip set with legal, pairwise different tip labels — whatever the inner names are -/
theorem parseTips_writeTips (C : NewickCodec) (L : NewickLaws C) (t0 : T) (rest : List T)
    (htips : ∀ t ∈ t0 :: rest, tipsOK t = true) (hst : sameTaxa (t0 :: rest) = true)
    (hw : ∀ t ∈ t0 :: rest, L.wf (renameTips (mapFrom 0 t0.tipNames) t) = true)
    (hs : ∀ t ∈ t0 :: rest, treeTextOK (C.write (renameTips (mapFrom 0 t0.tipNames) t)) = true) :
    ∃ d, Nex.parseTips C (writeNexusTips C true (enumFrom 0 (t0 :: rest))) = .ok d ∧
      recsAre (t0 :: rest) (recsOfTrees (d.map (·.2)) 0) 0 = true := by
  have htips' : ∀ t ∈ t0 :: rest, t.tipNames.all labelOK = true ∧ hasDup t.tipNames = false ∧ t.tipNames.length ≤ 9223372036854775807 := by
    intro t ht
    have := htips t ht
    simp only [tipsOK, Bool.and_eq_true, Bool.not_eq_true', decide_eq_true_eq] at this
    exact ⟨this.1.1, this.1.2, this.2⟩
  obtain ⟨a1, a2, a3, a4, a5⟩ := nexusState_ok (t0 :: rest) htips' hst
  have h0nd : t0.tipNames.Nodup := (hasDup_false_iff _).1 (htips' t0 (by simp)).2.1
  have hperm : ∀ t ∈ t0 :: rest, ∀ x, x ∈ t.tipNames ↔ x ∈ t0.tipNames :=
    fun t ht x => (sameTaxa_perm _ hst t t0 ht (by simp)).mem_iff
  obtain ⟨hmap, _⟩ := loop_first t0 rest h0nd (fun t ht x hx => (hperm t (by simp [ht]) x).1 hx)
  obtain ⟨hinv, _⟩ := stateLoop_spec (enumFrom 0 (t0 :: rest)) {} inv_empty
  have hslmem : ∀ x, x ∈ (stateLoop (enumFrom 0 (t0 :: rest)) {}).slice ↔ x ∈ t0.tipNames := by
    intro x
    rw [hinv.perm.mem_iff]
    simp only [keys, hmap, keys_mapFrom]
  have hslnd : (stateLoop (enumFrom 0 (t0 :: rest)) {}).slice.Nodup := (hasDup_false_iff _).1 a4
  -- the trees written
  have hs1 : (stepState {} t0).map = mapFrom 0 t0.tipNames := by
    simp [stepState, addTips_fresh t0.tipNames {} h0nd (by simp [keys])]
  have hk1 : keys (stepState {} t0) = t0.tipNames := by simp only [keys, hs1, keys_mapFrom]
  have hW : writtenListTips (enumFrom 0 (t0 :: rest)) {} =
      (enumFrom 0 (t0 :: rest)).map (fun it => (it.1, renameTips (mapFrom 0 t0.tipNames) it.2)) := by
    have := loopTips_const rest 1 (stepState {} t0) fun t ht x hx => by
      rw [hk1]
      exact (hperm t (by simp [ht]) x).1 hx
    simp only [enumFrom, writtenListTips, List.map_cons, writtenTreeTips, if_true, hs1] at this ⊢
    rw [this]
  have hper : ∀ t ∈ t0 :: rest,
      renameTipsChecked (tableOf (mapFrom 0 t0.tipNames) (stateLoop (enumFrom 0 (t0 :: rest)) {}).slice [])
        (renameTips (mapFrom 0 t0.tipNames) t) = some t :=
    fun t ht => tr_tree_ok_tips t0.tipNames _ t h0nd hslnd hslmem (hperm t ht)
      ((hasDup_false_iff _).1 (htips' t ht).2.1)
  rw [writeNexusTips_eq, hW, a2, hmap]
  exact parseTips_trDoc C L _ _ _ (t0 :: rest) 0 (a2 ▸ a1)
    (fun l hl => tokLabel_idx 0 _ l ((hslmem l).1 hl) (a3 l hl)) a4 hw hs fun t ht => ⟨hper t ht, a5 t ht⟩

end Gotree.C13

/-
  C05 — the hypothesis `keysOK` (the printing by which the split list is sorted tells the sides apart)
  holds for every tree whose tip names are non-empty and free of ','.  `toString` of a list of names is
  rendered by hand (`render`) and shown injective on such names; `Lemmas/C06Literal.lean` has the same
  rendering lemmas for C06, this file does not depend on it.
-/
import Gotree.Lemmas.C05
namespace Gotree.C05
open Gotree

/-- a tip name the rendering can delimit: non-empty and free of ',' -/
def goodName (x : String) : Prop := x ≠ "" ∧ ',' ∉ x.toList

def renderTail (xs : List String) : List Char := xs.flatMap fun y => ',' :: ' ' :: y.toList

def render : List String → List Char
  | [] => ['[', ']']
  | x :: xs => '[' :: (x.toList ++ renderTail xs) ++ [']']

theorem foldl_toList (xs : List String) (init : String) :
    (xs.foldl (fun l r => l ++ ", " ++ toString r) init).toList = init.toList ++ renderTail xs := by
  induction xs generalizing init with
  | nil => simp [renderTail]
  | cons y ys ih =>
    simp only [List.foldl_cons, ih, String.toList_append, renderTail, List.flatMap_cons]
    have : (", " : String).toList = [',', ' '] := rfl
    have h2 : (toString y : String) = y := rfl
    rw [this, h2]
    simp [List.append_assoc]

theorem toString_toList (l : List String) : (toString l).toList = render l := by
  show (List.toString l).toList = render l
  match l with
  | [] => rfl
  | [x] =>
    simp only [List.toString, render, renderTail, String.toList_append, List.flatMap_nil, List.append_nil]
    have h1 : ("[" : String).toList = ['['] := rfl
    have h2 : ("]" : String).toList = [']'] := rfl
    have h3 : (toString x : String) = x := rfl
    rw [h1, h2, h3]; rfl
  | x :: y :: ys =>
    simp only [List.toString, render, String.toList_push, foldl_toList, String.toList_append]
    have h1 : ("[" : String).toList = ['['] := rfl
    have h3 : (toString x : String) = x := rfl
    rw [h1, h3]; simp [List.append_assoc]

/-- `p` is empty or starts with ',' -/
def CommaStart (p : List Char) : Prop := p = [] ∨ ∃ r, p = ',' :: r

theorem split_unique : ∀ (u v p q : List Char), ',' ∉ u → ',' ∉ v → CommaStart p → CommaStart q →
    u ++ p = v ++ q → u = v ∧ p = q
  | [], [], p, q, _, _, _, _, h => ⟨rfl, by simpa using h⟩
  | [], c :: v, p, q, _, hv, hp, _, h => by
    simp only [List.nil_append, List.cons_append] at h
    rcases hp with rfl | ⟨r, rfl⟩
    · cases h
    · injection h with h1 _
      exact absurd (h1 ▸ List.mem_cons_self) hv
  | c :: u, [], p, q, hu, _, _, hq, h => by
    simp only [List.nil_append, List.cons_append] at h
    rcases hq with rfl | ⟨r, rfl⟩
    · cases h
    · injection h with h1 _
      exact absurd (h1 ▸ List.mem_cons_self) hu
  | c :: u, c' :: v, p, q, hu, hv, hp, hq, h => by
    simp only [List.cons_append] at h
    injection h with h1 h2
    have := split_unique u v p q (fun m => hu (List.mem_cons_of_mem _ m)) (fun m => hv (List.mem_cons_of_mem _ m)) hp hq h2
    exact ⟨by rw [h1, this.1], this.2⟩

theorem renderTail_commaStart (xs : List String) : CommaStart (renderTail xs) := by
  cases xs with
  | nil => exact Or.inl rfl
  | cons y ys => exact Or.inr ⟨' ' :: (y.toList ++ renderTail ys), by simp [renderTail]⟩

theorem renderTail_inj : ∀ (xs ys : List String), (∀ x ∈ xs, ',' ∉ x.toList) → (∀ y ∈ ys, ',' ∉ y.toList) →
    renderTail xs = renderTail ys → xs = ys
  | [], [], _, _, _ => rfl
  | [], y :: ys, _, _, h => by simp [renderTail] at h
  | x :: xs, [], _, _, h => by simp [renderTail] at h
  | x :: xs, y :: ys, hx, hy, h => by
    have h' : x.toList ++ renderTail xs = y.toList ++ renderTail ys := by
      simpa [renderTail] using h
    obtain ⟨e1, e2⟩ := split_unique _ _ _ _ (hx x (by simp)) (hy y (by simp))
      (renderTail_commaStart xs) (renderTail_commaStart ys) h'
    rw [String.toList_inj.1 e1,
      renderTail_inj xs ys (fun z hz => hx z (by simp [hz])) (fun z hz => hy z (by simp [hz])) e2]

theorem render_inj (a b : List String) (ha : ∀ x ∈ a, goodName x) (hb : ∀ x ∈ b, goodName x)
    (h : render a = render b) : a = b := by
  have hlen : ∀ (x : String) (xs : List String), goodName x → 3 ≤ (render (x :: xs)).length := by
    intro x xs hx
    have : x.toList ≠ [] := fun h0 => hx.1 (String.toList_inj.1 (by simpa using h0))
    have : 1 ≤ x.toList.length := List.length_pos_iff.2 this
    simp [render]; omega
  match a, b, ha, hb, h with
  | [], [], _, _, _ => rfl
  | [], y :: ys, _, hb, h =>
    have := hlen y ys (hb y (by simp)); rw [← h] at this; simp [render] at this
  | x :: xs, [], ha, _, h =>
    have := hlen x xs (ha x (by simp)); rw [h] at this; simp [render] at this
  | x :: xs, y :: ys, ha, hb, h =>
    simp only [render, List.cons_append, List.cons.injEq, true_and] at h
    have h' := List.append_cancel_right h
    obtain ⟨e1, e2⟩ := split_unique _ _ _ _ (ha x (by simp)).2 (hb y (by simp)).2
      (renderTail_commaStart xs) (renderTail_commaStart ys) h'
    rw [String.toList_inj.1 e1, renderTail_inj xs ys (fun z hz => (ha z (by simp [hz])).2)
      (fun z hz => (hb z (by simp [hz])).2) e2]

/-- the rendering of sides is injective on lists of names that are non-empty and free of ',' -/
theorem toString_sides_inj (a b : List String) (ha : ∀ x ∈ a, goodName x) (hb : ∀ x ∈ b, goodName x)
    (h : toString a = toString b) : a = b :=
  render_inj a b ha hb (by rw [← toString_toList, ← toString_toList, h])

/-- `keysOK` from a condition on the names alone -/
theorem keysOK_of_plainNames (t : T) (h : plainNames t = true) : keysOK t = true := by
  have hg : ∀ x ∈ t.tipNames, goodName x := by
    intro x hx
    have := List.all_eq_true.1 h x hx
    simpa [goodName] using this
  have hside : ∀ a ∈ t.usplitsAll.map (·.side), ∀ x ∈ a, goodName x := by
    intro a ha x hx
    obtain ⟨s, _, rfl⟩ := (mem_usplitsAll_sides t a).1 ha
    exact hg x (canonSide_subset _ _ x hx)
  have hn := usplitsAll_sidesNodup t
  unfold keysOK
  simp only [decide_eq_true_eq]
  have : (t.usplitsAll.map fun s => toString s.side) = (t.usplitsAll.map (·.side)).map toString := by simp
  rw [this]
  unfold List.Nodup at hn ⊢
  rw [List.pairwise_map]
  exact hn.imp_of_mem (fun {a b} ha hb hab e => hab (toString_sides_inj a b (hside a ha) (hside b hb) e))

end Gotree.C05

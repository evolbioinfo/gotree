/-
  C08 — the shape hypotheses (`unrootedOK`: unique tip names, root of degree ≥ 3, no
  single-child node) imply the semantic ones (`good`: distinct branches define distinct
  splits, tip branches are exactly the trivial splits).  Core Lean only.
-/
import Gotree.Lemmas.C08
import Gotree.Lemmas.C04Idx

namespace Gotree.C08.Canon
open Gotree Gotree.C08 List

/-! ## leaves -/

theorem leaves_sub_leavesL {k : Kids} {p : EdgeD × T} (h : p ∈ k) : p.2.leaves <+ leavesL k :=
  leaves_sublist_leavesL h

/-! ## the split list -/

/-- different as sets -/
def NE (s1 s2 : SplitE) : Prop := ¬ (∀ x, x ∈ s1.below ↔ x ∈ s2.below)

/-- laminarity: the earlier entry has a leaf the later one lacks -/
theorem splitsL_NE (k : Kids) (hn : (leavesL k).Nodup) (h : noSingleL k = true) : (splitsL k).Pairwise NE :=
  (splitsL_laminar_strict hn h).imp_of_mem fun {s1 _} h1 _ hl heq => by
    rcases hl with ⟨_, y, hy, hny⟩ | hd
    · exact hny ((heq y).1 hy)
    · obtain ⟨x, hx⟩ := exists_mem_of_ne_nil _ (below_ne_nil k s1 h1)
      exact hd x hx ((heq x).1 hx)

theorem splitsBelow_NE : ∀ (t : T), t.leaves.Nodup → t.noSingleBelow = true → t.splitsBelow.Pairwise NE := by
  intro t hn h
  rw [t.splitsBelow_eq]
  rw [T.noSingleBelow_eq, Bool.and_eq_true] at h
  exact splitsL_NE _ (hn.sublist t.leavesL_kids_sublist) h.2

/-! ## canonical sides -/

/-- is the presentation flipped to the complement (the side contains the least taxon) -/
def flipB (all b : List String) : Bool :=
  match minS all with
  | none => false
  | some m => b.contains m

theorem mem_canonSide (all b : List String) (x : String) :
    x ∈ canonSide all b ↔ x ∈ all ∧ (if flipB all b = true then x ∉ b else x ∈ b) := by
  unfold canonSide flipB
  simp only
  cases hm : minS all with
  | none =>
    simp only [mem_sortS, mem_filter, contains_iff_mem, Bool.false_eq_true, if_false]
    exact ⟨fun h => ⟨h.2, h.1⟩, fun h => ⟨h.2, h.1⟩⟩
  | some m =>
    have hmall : m ∈ all := (minS_spec hm).1
    simp only
    have hc : (sortS (b.filter all.contains)).contains m = b.contains m := by
      rw [Bool.eq_iff_iff]
      simp only [contains_iff_mem, mem_sortS, mem_filter]
      exact ⟨fun h => h.1, fun h => ⟨h, hmall⟩⟩
    rw [hc]
    by_cases hbm : b.contains m = true
    · simp only [hbm, if_true, mem_sortS, complS, mem_filter, Bool.not_eq_true', contains_eq_mem,
        decide_eq_false_iff_not, decide_eq_true_eq]
      constructor
      · rintro ⟨h1, h2⟩
        exact ⟨h1, fun hb => h2 ⟨hb, h1⟩⟩
      · rintro ⟨h1, h2⟩
        exact ⟨h1, fun hb => h2 hb.1⟩
    · simp only [hbm, Bool.false_eq_true, if_false, mem_sortS, mem_filter, contains_iff_mem]
      exact ⟨fun h => ⟨h.2, h.1⟩, fun h => ⟨h.2, h.1⟩⟩

/-- equal canonical sides: the sides agree on the taxa, or are complementary on them -/
theorem canonSide_eq_imp (a A B : List String) (h : canonSide a A = canonSide a B) :
    (∀ x ∈ a, (x ∈ A ↔ x ∈ B)) ∨ (∀ x ∈ a, (x ∈ A ↔ x ∉ B)) := by
  have hmem : ∀ x, x ∈ a →
      ((if flipB a A = true then x ∉ A else x ∈ A) ↔ (if flipB a B = true then x ∉ B else x ∈ B)) := by
    intro x hx
    have := mem_canonSide a A x
    rw [h, mem_canonSide] at this
    exact ⟨fun h1 => (this.mpr ⟨hx, h1⟩).2, fun h1 => (this.mp ⟨hx, h1⟩).2⟩
  cases h1 : flipB a A <;> cases h2 : flipB a B <;>
    simp only [h1, h2, if_true, if_false, Bool.false_eq_true] at hmem
  · exact Or.inl hmem
  · exact Or.inr hmem
  · exact Or.inr fun x hx => by have := hmem x hx; grind
  · exact Or.inl fun x hx => by have := hmem x hx; grind

/-- two sides that differ as sets and leave a common taxon outside have different canonical sides -/
theorem canonSide_ne (all A B : List String) (hA : A ⊆ all) (hB : B ⊆ all)
    (hNE : ¬ (∀ x, x ∈ A ↔ x ∈ B)) (o : String) (ho : o ∈ all) (hoA : o ∉ A) (hoB : o ∉ B) :
    canonSide all A ≠ canonSide all B := by
  intro heq
  rcases canonSide_eq_imp all A B heq with h | h
  · exact hNE fun x => ⟨fun hx => (h x (hA hx)).mp hx, fun hx => (h x (hB hx)).mpr hx⟩
  · exact hoA ((h o ho).mpr hoB)

theorem filter_contains_self {l all : List String} (h : ∀ x ∈ l, x ∈ all) : l.filter all.contains = l := by
  apply filter_eq_self.mpr
  intro a ha
  exact contains_iff_mem.mpr (h a ha)

/-- size of the lighter side of a canonical side -/
theorem lightSize_canonSide (all b : List String) (hall : all.Nodup) (hb : b <+ all) :
    lightSize all (canonSide all b) = min b.length (all.length - b.length) := by
  have hbsub : ∀ x ∈ b, x ∈ all := fun x hx => hb.subset hx
  have hblen := hb.length_le
  unfold lightSize
  have hcs : ∀ x ∈ canonSide all b, x ∈ all := fun x hx => ((mem_canonSide all b x).mp hx).1
  rw [filter_contains_self hcs]
  suffices h : (canonSide all b).length = b.length ∨ (canonSide all b).length = all.length - b.length by
    rcases h with h | h <;> simp only [h] <;> omega
  unfold canonSide
  simp only
  rw [filter_contains_self hbsub]
  have hs : (sortS b).length = b.length := (Gotree.sortS_perm b).length_eq
  cases minS all with
  | none => exact Or.inl hs
  | some m =>
    simp only
    split
    · right
      -- |all \ s| = |all| - |s| for a duplicate-free s ⊆ all
      rw [(Gotree.sortS_perm _).length_eq, complS]
      have hadd := C04.filter_not_add (fun x => (sortS b).contains x) all
      have : all.filter (fun x => (sortS b).contains x) ~ b := by
        rw [perm_ext_iff_of_nodup (hall.sublist filter_sublist) (hb.nodup hall)]
        intro x
        simp only [mem_filter, contains_iff_mem, mem_sortS]
        exact ⟨fun h => h.2, fun h => ⟨hbsub x h, h⟩⟩
      rw [this.length_eq] at hadd
      omega
    · exact Or.inl hs

/-! ## every leaf has its tip branch -/

theorem tipT : ∀ (t : T), t.isLeaf = false → ∀ x ∈ t.leaves, ∃ s ∈ t.splitsBelow, s.tip = true ∧ s.below = [x] := by
  intro t h x hx
  rw [T.leaves_of_kids_ne (T.isLeaf_eq_false_iff.1 h)] at hx
  rw [t.splitsBelow_eq]
  exact exists_tip_entry _ x hx

/-! ## the shape hypotheses imply the semantic ones -/

theorem good_of_unrootedOK (t : T) (h : unrootedOK t = true) : good t = true := by
  unfold unrootedOK at h
  simp only [Bool.and_eq_true, decide_eq_true_eq] at h
  obtain ⟨⟨hu, hns⟩, hk⟩ := h
  have hall : t.tipNames = leavesL t.kids := T.tipNames_of_ne_one (by omega)
  have hn : (leavesL t.kids).Nodup := by rw [← hall]; exact nodup_of_uniqueTips t hu
  have hsp : t.splits = splitsL t.kids := rfl
  have hns' : noSingleL t.kids = true := hns
  have hlen := length_le_length_leavesL t.kids
  unfold good
  simp only [Bool.and_eq_true, hu, true_and, Bool.not_eq_true', isEmpty_eq_false_iff]
  refine ⟨⟨⟨?_, ?_⟩, ?_⟩, ?_⟩
  · -- at least one tip
    rw [hall]; intro e; rw [e] at hlen; simp only [length_nil] at hlen; omega
  · -- distinct branches, distinct splits
    unfold keysNodup
    rw [decide_eq_true_eq, hall, hsp]
    rw [Nodup, pairwise_map]
    refine Pairwise.imp_of_mem ?_ (splitsL_NE t.kids hn hns')
    intro s1 s2 h1 h2 hne
    obtain ⟨o, ho, ho1, ho2⟩ := exists_not_mem_below₂ hk hn s1 h1 s2 h2
    exact canonSide_ne _ _ _ (below_sublist_leavesL _ s1 h1).subset (below_sublist_leavesL _ s2 h2).subset hne o ho ho1 ho2
  · -- tip branches are the trivial splits
    unfold classOK
    rw [all_eq_true, hall, hsp]
    intro s hs
    obtain ⟨p, hp, hsp'⟩ := below_sublist_kid hs
    have h3 := leaves_length_add_le hp
    have h4 := hsp'.length_le
    rw [lightSize_canonSide _ _ hn (below_sublist_leavesL _ s hs), beq_iff_eq]
    cases ht : s.tip with
    | true => obtain ⟨x, hx⟩ := below_of_tip _ s hs ht; rw [hx]; simp; omega
    | false => have := two_le_below hns' s hs ht; simp; omega
  · -- every tip has its branch, and tip branches are tips
    unfold tipSplitsOK
    rw [Bool.and_eq_true, all_eq_true, all_eq_true, hall, hsp]
    constructor
    · intro x hx
      obtain ⟨s, hs, h1, h2⟩ := exists_tip_entry t.kids x hx
      exact any_eq_true.mpr ⟨s, hs, by simp [h1, h2]⟩
    · intro s hs
      cases ht : s.tip with
      | false => simp
      | true =>
        obtain ⟨x, hx⟩ := below_of_tip _ s hs ht
        have hxm : x ∈ leavesL t.kids := (below_sublist_leavesL _ s hs).subset (by rw [hx]; simp)
        simp [hx, hxm]

end Gotree.C08.Canon

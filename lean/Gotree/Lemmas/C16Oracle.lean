/-
  C16 — the model's results satisfy the very Bool predicate (`genTreeOK`) that the driver
  evaluates as oracle on the implementation's output (helper lemmas).
-/
import Gotree.Lemmas.C16Shape
import Gotree.Spec.C16Doc

namespace Gotree.C16
open Gotree

theorem insertSorted_sorted (a : String) : ∀ (l : List String), l.Pairwise (· ≤ ·) → (insertSorted a l).Pairwise (· ≤ ·)
  | [], _ => by simp [insertSorted]
  | b :: r, h => by
    unfold insertSorted
    split
    · rename_i hab
      refine List.pairwise_cons.mpr ⟨?_, h⟩
      intro x hx
      rcases List.mem_cons.mp hx with rfl | hx'
      · exact hab
      · exact String.le_trans hab ((List.pairwise_cons.mp h).1 x hx')
    · rename_i hab
      have hba : b ≤ a := by
        rcases String.le_total a b with h1 | h1
        · exact absurd h1 hab
        · exact h1
      refine List.pairwise_cons.mpr ⟨?_, insertSorted_sorted a r (List.pairwise_cons.mp h).2⟩
      intro x hx
      have := (insertSorted_perm a r).subset hx
      rcases List.mem_cons.mp this with rfl | hx'
      · exact hba
      · exact (List.pairwise_cons.mp h).1 x hx'

theorem sortNames_sorted : ∀ (l : List String), (sortNames l).Pairwise (· ≤ ·)
  | [] => by simp [sortNames]
  | a :: r => by
    have ih := sortNames_sorted r
    unfold sortNames at ih ⊢
    simp only [List.foldr_cons]
    exact insertSorted_sorted a _ ih

theorem sameNames_of_perm (a b : List String) (h : a.Perm b) : sameNames a b = true := by
  unfold sameNames
  rw [beq_iff_eq]
  apply List.Perm.eq_of_pairwise (le := (· ≤ ·))
  · intro x y _ _ h1 h2; exact String.le_antisymm h1 h2
  · exact sortNames_sorted a
  · exact sortNames_sorted b
  · exact (sortNames_perm a).trans (h.trans (sortNames_perm b).symm)

/-- the common part of the oracle predicate -/
theorem genTreeOK_common (t : T) (m : Nat) (hp : t.tipNames.Perm (tipNamesUpTo m)) (hl : lensOk t = true) :
    (sameNames t.tipNames (tipNamesUpTo m) && !hasDup t.tipNames && lensOk t) = true := by
  have hn : t.tipNames.Nodup := hp.nodup_iff.mpr (tipNamesUpTo_nodup m)
  simp [sameNames_of_perm _ _ hp, hasDup_false_of_nodup _ hn, hl]

theorem res_ok_inj {α : Type} {a b : α} (h : (Res.ok a) = Res.ok b) : a = b := Res.ok.inj h

/-! ### the balanced shape seen from any node (`genTreeOK2`) follows from the shape seen from the root -/

theorem mem_pathsT_nil (t : T) : [] ∈ pathsT t := by
  cases t; simp [pathsT]

theorem balancedShapeU_of_rootView (d : Nat) (t : T) (h : balancedShape false d t = true) :
    balancedShapeU d t = true := by
  unfold balancedShapeU
  rw [List.any_eq_true]
  exact ⟨[], mem_pathsT_nil t, by simp [rerootPath, rerootGo, h]⟩

theorem genTreeOK2_of_genTreeOK (g : GenKind) (n : Nat) (rooted : Bool) (t : T) (h : genTreeOK g n rooted t = true) :
    genTreeOK2 g n rooted t = true := by
  unfold genTreeOK at h
  unfold genTreeOK2
  cases g <;> try exact h
  -- balanced
  cases rooted with
  | true => simpa using h
  | false =>
    simp only [Bool.and_eq_true] at h ⊢
    refine ⟨h.1, h.2.1, ?_⟩
    simpa using balancedShapeU_of_rootView n t h.2.2

end Gotree.C16

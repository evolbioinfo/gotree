/-
  C10 — lemmas about the Supporter model (Model/C10Cancel.lean): a call cancelled once `k` trees
  are finished is the call on the first `k` trees; the counter advances by the number of trees
  that were finished.
-/
import Gotree.Model.C10Cancel

namespace Gotree.C10
open Gotree

theorem fbpLoopS_eq (r : T) : ∀ (bs : List T) (k p0 : Nat) (c : List Nat) (n : Nat),
    fbpLoopS r (p0 + k) bs c n p0 = (fbpLoop r (bs.take k) c n, p0 + min k (goodPrefix r bs))
  | [], k, p0, c, n => by simp [fbpLoopS, fbpLoop, goodPrefix]
  | b :: bs, 0, p0, c, n => by simp [fbpLoopS, fbpLoop]
  | b :: bs, k + 1, p0, c, n => by
    have ih := fbpLoopS_eq r bs k (p0 + 1) (fbpCount r.tipNames (fbpIndex b) r.splits c) (n + 1)
    have hk : ¬ (p0 + (k + 1) ≤ p0) := by omega
    have he : p0 + (k + 1) = p0 + 1 + k := by omega
    simp only [fbpLoopS, List.take_succ_cons, fbpLoop, goodPrefix, if_neg hk]
    by_cases h1 : reinitOk b = true
    · by_cases h2 : compareTips r b = true
      · simp only [h1, h2, Bool.not_true, Bool.false_eq_true, if_false, Bool.and_self, if_true]
        rw [he, ih]
        congr 1; omega
      · simp [h1, h2]
    · simp [h1]

theorem tbeLoopS_take (r : T) : ∀ (bs : List T) (k p0 : Nat) (sups : List Rat) (nboot : Nat),
    (tbeLoopS r (p0 + k) bs sups nboot p0).1 = tbeLoop r (bs.take k) sups nboot
  | [], k, p0, sups, nboot => by simp [tbeLoopS, tbeLoop]
  | b :: bs, 0, p0, sups, nboot => by simp [tbeLoopS, tbeLoop]
  | b :: bs, k + 1, p0, sups, nboot => by
    have ih := tbeLoopS_take r bs k (p0 + 1) (List.zipWith (tbeEdge r b) r.splits sups) (nboot + 1)
    have hk : ¬ (p0 + (k + 1) ≤ p0) := by omega
    have he : p0 + (k + 1) = p0 + 1 + k := by omega
    simp only [tbeLoopS, List.take_succ_cons, tbeLoop, if_neg hk]
    by_cases h1 : reinitOk b = true
    · by_cases h2 : compareTips r b = true
      · by_cases h3 : idPanic r b = true
        · simp [h1, h2, h3]
        · simp only [h1, h2, h3, Bool.not_true, Bool.false_eq_true, if_false]
          rw [he]; exact ih
      · simp [h1, h2]
    · simp [h1]

theorem tbeLoopS_progress (r : T) (hp : ∀ b, idPanic r b = false) :
    ∀ (bs : List T) (k p0 : Nat) (sups : List Rat) (nboot : Nat),
    (tbeLoopS r (p0 + k) bs sups nboot p0).2 = p0 + min k (goodPrefix r bs)
  | [], k, p0, sups, nboot => by simp [tbeLoopS, goodPrefix]
  | b :: bs, 0, p0, sups, nboot => by simp [tbeLoopS]
  | b :: bs, k + 1, p0, sups, nboot => by
    have ih := tbeLoopS_progress r hp bs k (p0 + 1) (List.zipWith (tbeEdge r b) r.splits sups) (nboot + 1)
    have hk : ¬ (p0 + (k + 1) ≤ p0) := by omega
    have he : p0 + (k + 1) = p0 + 1 + k := by omega
    simp only [tbeLoopS, goodPrefix, if_neg hk]
    by_cases h1 : reinitOk b = true
    · by_cases h2 : compareTips r b = true
      · simp only [h1, h2, hp b, Bool.not_true, Bool.false_eq_true, if_false, Bool.and_self, if_true]
        rw [he, ih]; omega
      · simp [h1, h2]
    · simp [h1]

theorem fbpS_fst (r : T) (bs : List T) (p0 k : Nat) : (fbpS r bs p0 (p0 + k)).1 = fbp r (bs.take k) := by
  unfold fbpS fbp
  by_cases hr : reinitOk r = true
  · simp only [hr, Bool.not_true, Bool.false_eq_true, if_false]
    rw [fbpLoopS_eq]
    generalize fbpLoop r (bs.take k) (r.splits.map fun _ => 0) 0 = res
    obtain ⟨c, n, e⟩ := res
    cases e
    · simp only []
      split <;> rfl
    · rfl
  · simp [hr]

theorem tbeS_fst (r : T) (bs : List T) (p0 k : Nat) : (tbeS r bs p0 (p0 + k)).1 = tbe r (bs.take k) := by
  unfold tbeS tbe
  by_cases hr : reinitOk r = true
  · simp only [hr, Bool.not_true, Bool.false_eq_true, if_false]
    rw [← tbeLoopS_take r bs k p0]
    generalize tbeLoopS r (p0 + k) bs (r.splits.map fun _ => NIL) 0 p0 = res
    obtain ⟨o, pr⟩ := res
    cases o <;> rfl
  · simp [hr]

theorem fbpS_snd (r : T) (bs : List T) (p0 k : Nat) (hr : reinitOk r = true) :
    (fbpS r bs p0 (p0 + k)).2 = p0 + min k (goodPrefix r bs) := by
  unfold fbpS
  simp only [hr, Bool.not_true, Bool.false_eq_true, if_false]
  rw [fbpLoopS_eq]
  generalize fbpLoop r (bs.take k) (r.splits.map fun _ => 0) 0 = res
  obtain ⟨c, n, e⟩ := res
  cases e
  · simp only []
    split <;> rfl
  · rfl

theorem tbeS_snd (r : T) (bs : List T) (p0 k : Nat) (hr : reinitOk r = true) (hp : ∀ b, idPanic r b = false) :
    (tbeS r bs p0 (p0 + k)).2 = p0 + min k (goodPrefix r bs) := by
  unfold tbeS
  simp only [hr, Bool.not_true, Bool.false_eq_true, if_false]
  rw [← tbeLoopS_progress r hp bs k p0 (r.splits.map fun _ => NIL) 0]
  generalize tbeLoopS r (p0 + k) bs (r.splits.map fun _ => NIL) 0 p0 = res
  obtain ⟨o, pr⟩ := res
  cases o <;> rfl

end Gotree.C10

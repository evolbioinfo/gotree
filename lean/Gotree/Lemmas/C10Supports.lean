/-
  C10: the two supports are their definitions.  `MinTransferDist` is the least
  transfer distance; both loops run over the accepted prefix of the collection
  (`goodPrefix`) and fold one `zipWith` step per tree; on one non-trivial branch
  `0 ≤ FBP ≤ TBE ≤ 1`, with `TBE = 1` exactly when every tree has the split;
  the oracle of Spec/C10.lean accepts what the definitions give.
-/
import Gotree.Lemmas.C10Sets
import Gotree.Model.C10Cancel

namespace Gotree.C10
open Gotree

/-! ## lists -/

theorem zipWith_zipWith_left {α β γ δ : Type} (f : α → γ → δ) (g : α → β → γ) : ∀ (l : List α) (c : List β),
    List.zipWith f l (List.zipWith g l c) = List.zipWith (fun s k => f s (g s k)) l c
  | [], _ => by simp
  | _ :: _, [] => by simp
  | a :: l, x :: c => by simp [zipWith_zipWith_left f g l c]

theorem zipWith_snd_id {α β : Type} : ∀ (l : List α) (c : List β), c.length ≤ l.length →
    List.zipWith (fun _ k => k) l c = c
  | _, [], _ => by simp
  | [], x :: c, h => by simp at h
  | a :: l, x :: c, h => by
    simp only [List.zipWith_cons_cons, List.cons.injEq, true_and]
    exact zipWith_snd_id l c (by simpa using h)

/-- a fold of `zipWith` steps along one list is the `zipWith` of the folds: the accumulators of
    FBP (`foundBoot`) and of TBE (the raw supports) evolve branch by branch -/
theorem foldl_zipWith {α β γ : Type} (g : β → α → γ → γ) (l : List α) : ∀ (bs : List β) (c : List γ),
    c.length ≤ l.length →
    bs.foldl (fun c b => List.zipWith (g b) l c) c =
      List.zipWith (fun s k => bs.foldl (fun a b => g b s a) k) l c
  | [], c, h => (zipWith_snd_id l c h).symm
  | b :: bs, c, h => by
    simp only [List.foldl_cons]
    rw [foldl_zipWith g l bs _ (by simp only [List.length_zipWith]; omega), zipWith_zipWith_left]

theorem foldl_count {β : Type} (P : β → Bool) : ∀ (bs : List β) (k : Nat),
    bs.foldl (fun k b => if P b then k + 1 else k) k = k + (bs.filter P).length
  | [], k => rfl
  | b :: bs, k => by
    simp only [List.foldl_cons, List.filter_cons]
    rw [foldl_count P bs]
    cases P b <;> simp <;> omega

theorem foldl_const {α β : Type} (a : α) : ∀ (bs : List β), bs.foldl (fun a _ => a) a = a
  | [] => rfl
  | _ :: bs => foldl_const a bs

theorem foldl_congr_mem {α β : Type} (f g : α → β → α) : ∀ (l : List β) (a : α),
    (∀ b ∈ l, ∀ a, f a b = g a b) → l.foldl f a = l.foldl g a
  | [], _, _ => rfl
  | b :: l, a, h => by
    simp only [List.foldl_cons]
    rw [h b (List.mem_cons_self ..) a]
    exact foldl_congr_mem f g l _ (fun b' hb' => h b' (List.mem_cons_of_mem _ hb'))

theorem zip_map_self {α β : Type} (g : α → β) : ∀ (l : List α), List.zip l (l.map g) = l.map (fun a => (a, g a))
  | [] => rfl
  | a :: l => by simp [zip_map_self g l]

/-! ## `MinTransferDist` is the least transfer distance -/

theorem minTransfer_le (L : List String) (n : Nat) (b : T) : minTransfer L n b ≤ L.length - 1 :=
  (foldl_min_spec _ _).1

section anySide
variable {all L : List String} {b : T}

/-- ★ For any set `L` of at least two taxa and any tree whose branches are sets of taxa, the
    recursion run with the membership in `L` as `light` and `p = |L|` returns the least transfer
    distance from `L` to a branch of the tree, capped by `|L| - 1`.  The early stop is sound when
    no branch of the tree defines the split of `L`. -/
theorem minTransferDist_eq_minTransfer (light : String → Bool) (absent : Bool) (hall : all.Nodup)
    (hL : Side all L) (hL2 : 2 ≤ L.length) (hroot : b.kids.length ≠ 1)
    (hb : ∀ s ∈ b.splits, Side all s.below)
    (hl : ∀ s ∈ b.splits, ∀ x ∈ s.below, light x = L.contains x)
    (habs : absent = true → ∀ s ∈ b.splits, sameSplit all L s.below = false) :
    minTransferDist light L.length all.length absent b = ((minTransfer L all.length b : Nat) : Int) := by
  have hd : ∀ s ∈ b.splits,
      dOf light L.length all.length s.below = ((transferDist L s.below all.length : Nat) : Int) :=
    fun s hs => dOf_eq_transferDist light hall hL (hb s hs) (hl s hs)
  rw [minTransferDist_eq_fold _ _ _ _ _ (by omega) hroot]
  · unfold minTransfer
    rw [foldl_min_cast, List.map_map]
    have e : (b.splits.map fun s => dOf light L.length all.length s.below) =
        b.splits.map ((fun (x : Nat) => ((x : Nat) : Int)) ∘ fun s => transferDist L s.below all.length) :=
      List.map_congr_left hd
    rw [e]
    congr 1
    omega
  · intro ha s hs
    rw [hd s hs]
    have : transferDist L s.below all.length ≠ 0 := fun h0 => by
      have h1 := (transferDist_eq_zero_iff hall hL (hb s hs)).1 h0
      rw [habs ha s hs] at h1; cases h1
    omega

/-- the least transfer distance is 0 exactly when the tree has the split -/
theorem minTransfer_eq_zero_iff (hall : all.Nodup) (hL : Side all L) (hL2 : 2 ≤ L.length)
    (hb : ∀ s ∈ b.splits, Side all s.below) :
    minTransfer L all.length b = 0 ↔ containsSplit all L b = true := by
  obtain ⟨_, hle, hmem⟩ := foldl_min_spec (b.splits.map fun s => transferDist L s.below all.length) (L.length - 1)
  unfold containsSplit
  rw [List.any_eq_true]
  constructor
  · intro h0
    unfold minTransfer at h0
    rw [h0] at hmem
    rcases hmem with h | h
    · omega
    · obtain ⟨s, hs, e⟩ := List.mem_map.1 h
      exact ⟨s, hs, (transferDist_eq_zero_iff hall hL (hb s hs)).1 e⟩
  · rintro ⟨s, hs, h1⟩
    have := hle 0 (List.mem_map.2 ⟨s, hs, (transferDist_eq_zero_iff hall hL (hb s hs)).2 h1⟩)
    unfold minTransfer
    omega

end anySide

/-! ## a non-trivial branch `s` of the reference: `L` is its light side -/

section refBranch
variable {r b : T} {s : SplitE}

theorem lightSide_facts (hr : treeOK r = true) (hs : s ∈ r.splits) (h2 : 2 ≤ depth r.tipNames s.below) :
    Side r.tipNames (lightSide r.tipNames s.below) ∧
    (lightSide r.tipNames s.below).length = depth r.tipNames s.below ∧
    topoDepth (ntips r) s = ((lightSide r.tipNames s.below).length : Int) := by
  have fr := treeOK_facts r hr
  have hl := lightSide_length fr.nodup (fr.side s hs)
  exact ⟨(fr.side s hs).lightSide fr.nodup, hl, by rw [hl]; exact topoDepth_eq_depth h2⟩

theorem containsSplit_lightSide (hr : treeOK r = true) (hb : treeOK b = true) (hT : sameTaxa r b = true)
    (hs : s ∈ r.splits) :
    containsSplit r.tipNames (lightSide r.tipNames s.below) b = containsSplit r.tipNames s.below b := by
  have e : ∀ s' ∈ b.splits, sameSplit r.tipNames (lightSide r.tipNames s.below) s'.below =
      sameSplit r.tipNames s.below s'.below := fun s' hs' =>
    sameSplit_lightSide s'.below ((treeOK_facts r hr).side s hs).sub (sides_of_sameTaxa hb hT s' hs').sub
  unfold containsSplit
  rw [Bool.eq_iff_iff, List.any_eq_true, List.any_eq_true]
  exact ⟨fun ⟨s', hs', h⟩ => ⟨s', hs', by rw [← e s' hs']; exact h⟩,
    fun ⟨s', hs', h⟩ => ⟨s', hs', by rw [e s' hs']; exact h⟩⟩

/-- `MinTransferDist` as `TBE` calls it -/
theorem minTransferDist_lightSide (absent : Bool)
    (hr : treeOK r = true) (hb : treeOK b = true) (hT : sameTaxa r b = true) (hs : s ∈ r.splits)
    (hp : 1 < topoDepth (ntips r) s)
    (habs : absent = true → containsSplit r.tipNames s.below b = false) :
    minTransferDist (lightOf (ntips r) s) (topoDepth (ntips r) s) (ntips r) absent b =
      ((minTransfer (lightSide r.tipNames s.below) (ntips r) b : Nat) : Int) := by
  have h2 := topoDepth_gt_one_iff.1 hp
  obtain ⟨hL, hLl, hpL⟩ := lightSide_facts hr hs h2
  have hbs := sides_of_sameTaxa hb hT
  rw [hpL]
  refine minTransferDist_eq_minTransfer _ absent (treeOK_facts r hr).nodup hL (by omega)
    (treeOK_facts b hb).root hbs (fun s' hs' x hx => lightOf_eq s x ((hbs s' hs').sub x hx)) fun ha => ?_
  have := habs ha
  rw [← containsSplit_lightSide hr hb hT hs] at this
  exact fun s' hs' => by simpa using List.any_eq_false.1 this s' hs'

theorem minTransfer_lightSide_eq_zero_iff (hr : treeOK r = true) (hb : treeOK b = true)
    (hT : sameTaxa r b = true) (hs : s ∈ r.splits) (h2 : 2 ≤ depth r.tipNames s.below) :
    minTransfer (lightSide r.tipNames s.below) (ntips r) b = 0 ↔
      containsSplit r.tipNames s.below b = true := by
  obtain ⟨hL, hLl, _⟩ := lightSide_facts hr hs h2
  rw [← containsSplit_lightSide hr hb hT hs]
  exact minTransfer_eq_zero_iff (treeOK_facts r hr).nodup hL (by omega) (sides_of_sameTaxa hb hT)

end refBranch

/-! ## the loops run over the accepted prefix -/

theorem goodPrefix_eq_length {r : T} : ∀ {bs : List T},
    (∀ b ∈ bs, reinitOk b = true ∧ compareTips r b = true) → goodPrefix r bs = bs.length
  | [], _ => rfl
  | b :: bs, h => by
    obtain ⟨h1, h2⟩ := h b (List.mem_cons_self ..)
    simp only [goodPrefix, h1, h2, Bool.and_self, if_true, List.length_cons]
    rw [goodPrefix_eq_length fun x hx => h x (List.mem_cons_of_mem _ hx)]

theorem goodPrefix_lt {r : T} : ∀ {bs : List T}, (∃ b ∈ bs, compareTips r b = false) →
    goodPrefix r bs < bs.length
  | [], h => by obtain ⟨_, hb, _⟩ := h; cases hb
  | b :: bs, h => by
    simp only [goodPrefix, List.length_cons]
    split
    · rename_i hacc
      obtain ⟨b', hb', hc⟩ := h
      rcases List.mem_cons.1 hb' with rfl | hb'
      · simp [hc] at hacc
      · have := goodPrefix_lt ⟨b', hb', hc⟩; omega
    · omega

theorem fbpLoop_eq (r : T) : ∀ (bs : List T) (c : List Nat) (n : Nat),
    fbpLoop r bs c n =
      ((bs.take (goodPrefix r bs)).foldl (fun c b => fbpCount r.tipNames (fbpIndex b) r.splits c) c,
        n + goodPrefix r bs, decide (goodPrefix r bs < bs.length))
  | [], c, n => by simp [fbpLoop, goodPrefix]
  | b :: bs, c, n => by
    unfold fbpLoop goodPrefix
    by_cases h1 : reinitOk b = true
    · by_cases h2 : compareTips r b = true
      · simp only [h1, h2, Bool.not_true, Bool.false_eq_true, if_false, Bool.and_self, if_true]
        rw [fbpLoop_eq r bs]
        simp only [List.take_succ_cons, List.foldl_cons, List.length_cons, Nat.add_lt_add_iff_right]
        rw [Nat.add_assoc, Nat.add_comm 1]
      · simp [h1, h2]
    · simp [h1]

theorem idPanic_false (r b : T) (h : idsInRange r = true) : idPanic r b = false := by
  unfold idPanic
  rw [List.any_eq_false]
  intro s hs
  simp only [idsInRange, List.all_eq_true] at h
  simp [h s hs]

theorem tbeLoop_eq (r : T) (hid : idsInRange r = true) : ∀ (bs : List T) (sups : List Rat) (nboot : Nat),
    tbeLoop r bs sups nboot =
      if goodPrefix r bs < bs.length then .err
      else .ok (bs.foldl (fun sups b => List.zipWith (tbeEdge r b) r.splits sups) sups, nboot + bs.length)
  | [], sups, nboot => by simp [tbeLoop, goodPrefix]
  | b :: bs, sups, nboot => by
    unfold tbeLoop goodPrefix
    by_cases h1 : reinitOk b = true
    · by_cases h2 : compareTips r b = true
      · simp only [h1, h2, idPanic_false r b hid, Bool.not_true, Bool.false_eq_true, if_false, Bool.and_self,
          if_true]
        rw [tbeLoop_eq r hid bs]
        simp only [List.foldl_cons, List.length_cons, Nat.add_lt_add_iff_right]
        rw [Nat.add_assoc, Nat.add_comm 1]
      · simp [h1, h2]
    · simp [h1]

/-! ## the expected supports of a branch, by cases -/

section expected
variable {r : T} {bs : List T} {s : SplitE}

theorem fbpOf_pos (h2 : 2 ≤ depth r.tipNames s.below) : fbpOf r bs s = fbpSpec r.tipNames s.below bs := if_pos h2
theorem tbeOf_pos (h2 : 2 ≤ depth r.tipNames s.below) : tbeOf r bs s = tbeSpec r.tipNames s.below bs := if_pos h2
theorem fbpOf_neg (h2 : ¬ 2 ≤ depth r.tipNames s.below) : fbpOf r bs s = s.e.sup := if_neg h2
theorem tbeOf_neg (h2 : ¬ 2 ≤ depth r.tipNames s.below) : tbeOf r bs s = NIL := if_neg h2

end expected

/-! ## FBP is the definition -/

theorem supported_iff {all : List String} {s : SplitE} (ht : s.tip = true → s.below.length = 1) :
    supported all.length s = decide (2 ≤ depth all s.below) := by
  unfold supported
  by_cases h2 : 2 ≤ depth all s.below
  · have hnt : s.tip = false := by
      cases hst : s.tip with
      | false => rfl
      | true => have := ht hst; have := depth_le_left all s.below; omega
    simp [h2, topoDepth_gt_one_iff.2 h2, hnt]
  · have hp : ¬ 1 < topoDepth all.length s := fun hp => h2 (topoDepth_gt_one_iff.1 hp)
    simp [h2, hp]

theorem found_tbeIndex (all : List String) (b : T) (s : SplitE) :
    found all (tbeIndex b) s = containsSplit all s.below b := by
  simp [found, tbeIndex, containsSplit, List.any_map, Function.comp_def]

/-- leaving the tip branches out of the index (fbp.go:73) loses no non-trivial split -/
theorem found_fbpIndex (r b : T) (s : SplitE) (hr : treeOK r = true) (hb : treeOK b = true)
    (hT : sameTaxa r b = true) (hs : s ∈ r.splits) (h2 : 2 ≤ depth r.tipNames s.below) :
    found r.tipNames (fbpIndex b) s = containsSplit r.tipNames s.below b := by
  have fr := treeOK_facts r hr
  rw [Bool.eq_iff_iff]
  simp only [found, fbpIndex, containsSplit, List.any_eq_true, List.mem_map, List.mem_filter,
    Bool.not_eq_true']
  constructor
  · rintro ⟨B, ⟨s', ⟨hs', _⟩, rfl⟩, h⟩
    exact ⟨s', hs', h⟩
  · rintro ⟨s', hs', h⟩
    refine ⟨s'.below, ⟨s', ⟨hs', ?_⟩, rfl⟩, h⟩
    cases ht : s'.tip with
    | false => rfl
    | true =>
      exact (not_tip_of_sameSplit fr.nodup (fr.side s hs) (sides_of_sameTaxa hb hT s' hs') h2
        (tip_belowL b.kids s' hs' ht) h).elim

theorem fbp_ok (r : T) (bs : List T) (hr : reinitOk r = true) (hne : bs ≠ [])
    (hacc : ∀ b ∈ bs, reinitOk b = true ∧ compareTips r b = true) :
    fbp r bs = .ok (r.splits.map fun s =>
      if supported (ntips r) s then
        (((bs.filter fun b => found r.tipNames (fbpIndex b) s).length : Nat) : Rat) / ((bs.length : Nat) : Rat)
      else s.e.sup) := by
  have hlen : (bs.length == 0) = false := by simpa using hne
  unfold fbp
  rw [fbpLoop_eq, goodPrefix_eq_length hacc, List.take_length]
  unfold fbpCount
  rw [foldl_zipWith (fun b s k => if found r.tipNames (fbpIndex b) s then k + 1 else k) _ _ _ (by simp)]
  simp only [hr, Bool.not_true, Bool.false_eq_true, if_false, Nat.zero_add, hlen, Bool.false_and,
    Nat.lt_irrefl, decide_false]
  rw [zipWith_zipWith_left, List.zipWith_map_right, List.zipWith_self]
  simp only [foldl_count, Nat.zero_add]

/-- on the property's inputs the model of FBP returns `fbpExpected` -/
theorem fbp_eq_expected (r : T) (bs : List T) (h : hypOK r bs = true) :
    fbp r bs = .ok (fbpExpected r bs) := by
  obtain ⟨hr, hne, hb⟩ := hypOK_facts h
  rw [fbp_ok r bs (reinitOk_of_treeOK hr) hne (fun b hb' => accepts_of_hyp hr (hb b hb').1 (hb b hb').2)]
  congr 1
  refine List.map_congr_left fun s hs => ?_
  unfold fbpOf ntips
  rw [supported_iff (tip_belowL r.kids s hs)]
  by_cases h2 : 2 ≤ depth r.tipNames s.below
  · simp only [h2, decide_true, if_true]
    unfold fbpSpec
    rw [List.filter_congr fun b hb' => found_fbpIndex r b s hr (hb b hb').1 (hb b hb').2 hs h2]
  · simp [h2]

/-! ## TBE is the definition -/

theorem NIL_ne_of_nonneg {x : Rat} (h : 0 ≤ x) : (x == NIL) = false := by
  have : x ≠ NIL := by
    intro e; rw [e] at h; unfold NIL at h; exact absurd h (by decide)
  simpa using this

theorem incr_nonneg {sup x : Rat} (h : 0 ≤ sup) : incr sup x = sup + x := by
  unfold incr; rw [NIL_ne_of_nonneg h]; simp

theorem incr_NIL (x : Rat) : incr NIL x = x := by
  unfold incr; simp [Rat.zero_add]

theorem natCast_sum_cons (c : T → Nat) (b : T) (bs : List T) :
    ((((b :: bs).map c).sum : Nat) : Rat) = (c b : Rat) + (((bs.map c).sum : Nat) : Rat) := by
  simp [Rat.natCast_add]

theorem incr_fold_nonneg (c : T → Nat) : ∀ (bs : List T) (sup : Rat), 0 ≤ sup →
    bs.foldl (fun a b => incr a ((c b : Nat) : Rat)) sup = sup + (((bs.map c).sum : Nat) : Rat)
  | [], sup, _ => by simp [Rat.add_zero]
  | b :: bs, sup, h => by
    have hc : (0 : Rat) ≤ ((c b : Nat) : Rat) := Rat.natCast_nonneg
    have h' : 0 ≤ sup + ((c b : Nat) : Rat) := by grind
    simp only [List.foldl_cons]
    rw [incr_nonneg h, incr_fold_nonneg c bs _ h', natCast_sum_cons]
    grind

/-- the first tree replaces the absent support, the others add to it -/
theorem incr_fold_NIL (c : T → Nat) (bs : List T) (hne : bs ≠ []) :
    bs.foldl (fun a b => incr a ((c b : Nat) : Rat)) NIL = (((bs.map c).sum : Nat) : Rat) := by
  cases bs with
  | nil => exact absurd rfl hne
  | cons b bs =>
    simp only [List.foldl_cons]
    rw [incr_NIL, incr_fold_nonneg c bs _ Rat.natCast_nonneg, natCast_sum_cons]

/-- what one bootstrap tree adds to a non-trivial branch: its least transfer distance -/
theorem tbeEdge_eq (r b : T) (s : SplitE) (sup : Rat) (hr : treeOK r = true) (hb : treeOK b = true)
    (hT : sameTaxa r b = true) (hs : s ∈ r.splits) (h2 : 2 ≤ depth r.tipNames s.below) :
    tbeEdge r b s sup =
      incr sup ((minTransfer (lightSide r.tipNames s.below) (ntips r) b : Nat) : Rat) := by
  have hp : 1 < topoDepth (ntips r) s := topoDepth_gt_one_iff.2 h2
  unfold tbeEdge
  simp only [hp, if_true]
  rw [found_tbeIndex]
  by_cases hf : containsSplit r.tipNames s.below b = true
  · rw [if_pos hf, (minTransfer_lightSide_eq_zero_iff hr hb hT hs h2).2 hf]
    rfl
  · rw [if_neg hf, minTransferDist_lightSide true hr hb hT hs hp (fun _ => by simpa using hf)]
    rfl

theorem tbeEdge_trivial (r b : T) (s : SplitE) (sup : Rat) (h2 : ¬ 2 ≤ depth r.tipNames s.below) :
    tbeEdge r b s sup = sup := by
  have : ¬ 1 < topoDepth (ntips r) s := fun hp => h2 (topoDepth_gt_one_iff.1 hp)
  simp [tbeEdge, this]

/-- on the property's inputs, ids in range, the model of TBE returns `tbeExpected` -/
theorem tbe_eq_expected (r : T) (bs : List T) (h : hypOK r bs = true) (hid : idsInRange r = true) :
    tbe r bs = .ok (tbeExpected r bs) := by
  obtain ⟨hr, hne, hb⟩ := hypOK_facts h
  have hacc := goodPrefix_eq_length fun b hb' => accepts_of_hyp hr (hb b hb').1 (hb b hb').2
  unfold tbe
  rw [tbeLoop_eq r hid, hacc, if_neg (Nat.lt_irrefl _), foldl_zipWith (tbeEdge r) _ _ _ (by simp)]
  simp only [reinitOk_of_treeOK hr, Bool.not_true, Bool.false_eq_true, if_false]
  congr 1
  rw [zipWith_zipWith_left, List.zipWith_map_right, List.zipWith_self]
  refine List.map_congr_left fun s hs => ?_
  unfold tbeOf
  by_cases h2 : 2 ≤ depth r.tipNames s.below
  · rw [if_pos h2, foldl_congr_mem _
      (fun a b => incr a ((minTransfer (lightSide r.tipNames s.below) (ntips r) b : Nat) : Rat)) bs NIL
      (fun b hb' a => tbeEdge_eq r b s a hr (hb b hb').1 (hb b hb').2 hs h2), incr_fold_NIL _ bs hne]
    unfold normalize
    rw [if_pos (by simp [bne, NIL_ne_of_nonneg Rat.natCast_nonneg])]
    obtain ⟨_, _, hpL⟩ := lightSide_facts hr hs h2
    unfold tbeSpec
    simp only [Nat.zero_add]
    rw [hpL, Rat.intCast_sub]
    rfl
  · rw [if_neg h2, foldl_congr_mem _ (fun a _ => a) bs NIL (fun b _ a => tbeEdge_trivial r b s a h2),
      foldl_const]
    simp [normalize]

/-! ## one non-trivial branch: `0 ≤ FBP ≤ TBE ≤ 1` -/

theorem rat_core (c S N q u v : Rat) (hN : N * u = 1) (hq : q * v = 1) (hu : 0 ≤ u) (hv : 0 ≤ v)
    (h : S + c * q ≤ N * q) : c * u ≤ 1 - S * u * v := by
  have huv : 0 ≤ u * v := Rat.mul_nonneg hu hv
  have key := Rat.mul_le_mul_of_nonneg_right h huv
  have e1 : (S + c * q) * (u * v) = S * u * v + c * u * (q * v) := by grind
  have e2 : N * q * (u * v) = (N * u) * (q * v) := by grind
  rw [e1, e2, hN, hq] at key
  grind

theorem rat_le_one (S u v : Rat) (hS : 0 ≤ S) (hu : 0 ≤ u) (hv : 0 ≤ v) : 1 - S * u * v ≤ 1 := by
  have := Rat.mul_nonneg (Rat.mul_nonneg hS hu) hv
  grind

theorem rat_eq_one (S u v : Rat) (hu : 0 < u) (hv : 0 < v) : 1 - S * u * v = 1 ↔ S = 0 := by
  constructor
  · intro h
    have huv : u * v ≠ 0 := by
      have := Rat.mul_pos hu hv
      grind
    have : S * (u * v) = 0 := by grind
    exact (Rat.mul_eq_zero.1 this).resolve_right huv
  · intro h; rw [h]; grind

/-- a tree with the split contributes nothing to the sum and one to the count; any tree at most `q` -/
theorem sum_bound (m : T → Nat) (P : T → Bool) (q : Nat) : ∀ (bs : List T),
    (∀ b ∈ bs, m b ≤ q ∧ (P b = true → m b = 0)) →
    (bs.map m).sum + (bs.filter P).length * q ≤ bs.length * q
  | [], _ => by simp
  | b :: bs, h => by
    have ih := sum_bound m P q bs (fun b' hb' => h b' (List.mem_cons_of_mem _ hb'))
    obtain ⟨h1, h2⟩ := h b (List.mem_cons_self ..)
    by_cases hp : P b = true
    · have := h2 hp
      simp only [List.map_cons, List.sum_cons, List.filter_cons, hp, if_true, List.length_cons,
        Nat.add_mul, Nat.one_mul]
      omega
    · simp only [List.map_cons, List.sum_cons, List.filter_cons, hp, Bool.false_eq_true, if_false,
        List.length_cons, Nat.add_mul, Nat.one_mul]
      omega

theorem sum_eq_zero_iff (m : T → Nat) : ∀ (bs : List T), (bs.map m).sum = 0 ↔ ∀ b ∈ bs, m b = 0
  | [] => by simp
  | b :: bs => by
    have ih := sum_eq_zero_iff m bs
    simp only [List.map_cons, List.sum_cons, List.mem_cons, forall_eq_or_imp]
    exact ⟨fun h => ⟨by omega, ih.1 (by omega)⟩, fun ⟨h1, h2⟩ => by have := ih.2 h2; omega⟩

theorem edge_facts (r : T) (bs : List T) (h : hypOK r bs = true) (s : SplitE) (hs : s ∈ r.splits)
    (h2 : 2 ≤ depth r.tipNames s.below) :
    0 ≤ fbpSpec r.tipNames s.below bs ∧
    fbpSpec r.tipNames s.below bs ≤ tbeSpec r.tipNames s.below bs ∧
    tbeSpec r.tipNames s.below bs ≤ 1 ∧
    (tbeSpec r.tipNames s.below bs = 1 ↔ ∀ b ∈ bs, containsSplit r.tipNames s.below b = true) := by
  obtain ⟨hr, hne, hb⟩ := hypOK_facts h
  obtain ⟨_, hLl, _⟩ := lightSide_facts hr hs h2
  -- the natural-number facts
  have hz : ∀ b ∈ bs, minTransfer (lightSide r.tipNames s.below) r.tipNames.length b = 0 ↔
      containsSplit r.tipNames s.below b = true :=
    fun b hb' => minTransfer_lightSide_eq_zero_iff hr (hb b hb').1 (hb b hb').2 hs h2
  have hbound := sum_bound _ _ _ bs fun b hb' => ⟨minTransfer_le _ _ _, (hz b hb').2⟩
  have hzero := sum_eq_zero_iff (minTransfer (lightSide r.tipNames s.below) r.tipNames.length) bs
  have hNpos : 0 < bs.length := List.length_pos_iff.2 hne
  -- casts
  generalize hS : (bs.map (minTransfer (lightSide r.tipNames s.below) r.tipNames.length)).sum = S at hbound hzero
  generalize hc : (bs.filter (containsSplit r.tipNames s.below)).length = c at hbound
  generalize hq : (lightSide r.tipNames s.below).length - 1 = q at hbound
  have hLq : ((lightSide r.tipNames s.below).length : Rat) - 1 = (q : Rat) := by
    have : (lightSide r.tipNames s.below).length = q + 1 := by omega
    rw [this, Rat.natCast_add]
    have : ((1 : Nat) : Rat) = 1 := rfl
    grind
  have hqpos : 0 < q := by omega
  have hN0 : ((bs.length : Nat) : Rat) ≠ 0 := fun e => by have := Rat.natCast_eq_zero_iff.1 e; omega
  have hq0 : ((q : Nat) : Rat) ≠ 0 := fun e => by have := Rat.natCast_eq_zero_iff.1 e; omega
  have hNu := Rat.mul_inv_cancel _ hN0
  have hqv := Rat.mul_inv_cancel _ hq0
  have hu : (0 : Rat) < ((bs.length : Nat) : Rat)⁻¹ := Rat.inv_pos.2 (Rat.natCast_pos.2 hNpos)
  have hv : (0 : Rat) < ((q : Nat) : Rat)⁻¹ := Rat.inv_pos.2 (Rat.natCast_pos.2 hqpos)
  have hcast : ((S : Nat) : Rat) + ((c : Nat) : Rat) * ((q : Nat) : Rat) ≤
      ((bs.length : Nat) : Rat) * ((q : Nat) : Rat) := by
    rw [← Rat.natCast_mul, ← Rat.natCast_mul, ← Rat.natCast_add]
    exact Rat.natCast_le_natCast.2 hbound
  have ef : fbpSpec r.tipNames s.below bs = ((c : Nat) : Rat) * ((bs.length : Nat) : Rat)⁻¹ := by
    unfold fbpSpec; rw [hc, Rat.div_def]
  have et : tbeSpec r.tipNames s.below bs =
      1 - ((S : Nat) : Rat) * ((bs.length : Nat) : Rat)⁻¹ * ((q : Nat) : Rat)⁻¹ := by
    unfold tbeSpec
    simp only []
    rw [hS, hLq, Rat.div_def, Rat.div_def]
  rw [ef, et]
  refine ⟨Rat.mul_nonneg Rat.natCast_nonneg (Rat.le_of_lt hu),
    rat_core _ _ _ _ _ _ hNu hqv (Rat.le_of_lt hu) (Rat.le_of_lt hv) hcast,
    rat_le_one _ _ _ Rat.natCast_nonneg (Rat.le_of_lt hu) (Rat.le_of_lt hv), ?_⟩
  rw [rat_eq_one _ _ _ hu hv, Rat.natCast_eq_zero_iff, hzero]
  exact forall_congr' fun b => forall_congr' fun hb' => hz b hb'

/-! ## order of the collection -/

theorem hypOK_perm {r : T} {bs bs' : List T} (hp : bs.Perm bs') (h : hypOK r bs = true) :
    hypOK r bs' = true := by
  obtain ⟨hr, hne, hb⟩ := hypOK_facts h
  exact hypOK_of hr (fun e => hne (e ▸ hp).eq_nil) fun b hb' => hb b (hp.mem_iff.2 hb')

theorem expected_perm (r : T) {bs bs' : List T} (hp : bs.Perm bs') :
    fbpExpected r bs = fbpExpected r bs' ∧ tbeExpected r bs = tbeExpected r bs' := by
  constructor <;> refine List.map_congr_left fun s _ => ?_
  · unfold fbpOf fbpSpec
    rw [(hp.filter _).length_eq, hp.length_eq]
  · unfold tbeOf tbeSpec
    simp only []
    rw [(hp.map _).sum_nat, hp.length_eq]

/-- collections with the same expected supports get the same supports -/
theorem supports_congr {r : T} {bs bs' : List T} (h : hypOK r bs = true) (h' : hypOK r bs' = true)
    (hid : idsInRange r = true)
    (e : fbpExpected r bs = fbpExpected r bs' ∧ tbeExpected r bs = tbeExpected r bs') :
    fbp r bs = fbp r bs' ∧ tbe r bs = tbe r bs' := by
  rw [fbp_eq_expected r bs h, fbp_eq_expected r bs' h', tbe_eq_expected r bs h hid,
    tbe_eq_expected r bs' h' hid, e.1, e.2]
  exact ⟨rfl, rfl⟩

/-! ## the cap `p - 1` of the fold is the distance to a tip branch of the light side -/

theorem minTransfer_eq_pure {b : T} {L : List String} (n : Nat) (hb : treeOK b = true) (hL : L.Nodup)
    (hLs : ∀ x ∈ L, x ∈ b.tipNames) (hne : L ≠ []) : minTransfer L n b = minTransferPure L n b := by
  obtain ⟨x, hx⟩ := List.exists_mem_of_ne_nil L hne
  have hxl : x ∈ leavesL b.kids := (treeOK_facts b hb).tips ▸ hLs x hx
  obtain ⟨s, hs, _, hsb⟩ := Gotree.exists_tip_entry b.kids x hxl
  have hmem : transferDist L [x] n ∈ b.splits.map fun s => transferDist L s.below n :=
    List.mem_map.2 ⟨s, hs, by rw [hsb]⟩
  unfold minTransfer minTransferPure
  generalize (b.splits.map fun s => transferDist L s.below n) = l at hmem
  cases l with
  | nil => cases hmem
  | cons y ys => exact foldl_min_cap _ y ys ⟨_, hmem, transferDist_tip hL x hx n⟩

theorem tbeSpec_eq_pure (r : T) (bs : List T) (h : hypOK r bs = true) (s : SplitE) (hs : s ∈ r.splits)
    (h2 : 2 ≤ depth r.tipNames s.below) :
    tbeSpec r.tipNames s.below bs = tbeSpecPure r.tipNames s.below bs := by
  obtain ⟨hr, _, hb⟩ := hypOK_facts h
  obtain ⟨hL, hLl, _⟩ := lightSide_facts hr hs h2
  have hne : lightSide r.tipNames s.below ≠ [] := fun e => by rw [e] at hLl; simp at hLl; omega
  unfold tbeSpec tbeSpecPure
  simp only []
  rw [List.map_congr_left fun b hbm => minTransfer_eq_pure r.tipNames.length (hb b hbm).1 hL.nodup
    (fun x hx => (sameTaxa_iff.1 (hb b hbm).2 x).1 (hL.sub x hx)) hne]

/-! ## the oracle predicates hold of what the definitions give -/

theorem zipAll_map {α β : Type} (f : α → β → Bool) (g : α → β) : ∀ (l : List α),
    zipAll f l (l.map g) = l.all fun a => f a (g a)
  | [] => rfl
  | a :: l => by simp [zipAll, zipAll_map f g l]

theorem zipAll_map_zip {α : Type} (f : α → Rat × Rat → Bool) (g₁ g₂ : α → Rat) : ∀ (l : List α),
    zipAll f l ((l.map g₁).zip (l.map g₂)) = l.all fun a => f a (g₁ a, g₂ a)
  | [] => rfl
  | a :: l => by simp [zipAll, zipAll_map_zip f g₁ g₂ l]

theorem absR_zero : absR 0 = 0 := by decide

theorem approxRel_refl (x : Rat) : approxRel x x = true := by
  unfold approxRel
  have : x - x = 0 := by grind
  rw [this, absR_zero, Rat.zero_mul]
  unfold absR
  split
  · simpa using ‹x ≥ 0›
  · have : 0 ≤ -x := by grind
    simpa using this

theorem approxAbs_refl (x : Rat) : approxAbs x x = true := by
  unfold approxAbs
  have : x - x = 0 := by grind
  rw [this, absR_zero, Rat.zero_mul]
  decide

/-- the oracle's test for "no support expected" on a branch of a tree -/
theorem trivial_iff {all : List String} {s : SplitE} (ht : s.tip = true → s.below.length = 1) :
    (s.tip || decide (depth all s.below ≤ 1)) = !decide (2 ≤ depth all s.below) := by
  by_cases h2 : 2 ≤ depth all s.below
  · have hnt : s.tip = false := by
      cases hst : s.tip with
      | false => rfl
      | true => have := ht hst; have := depth_le_left all s.below; omega
    have : ¬ depth all s.below ≤ 1 := by omega
    simp [h2, hnt, this]
  · have : depth all s.below ≤ 1 := by omega
    simp [h2, this]

theorem fbpOK_expected (r : T) (bs : List T) (h : hypOK r bs = true) :
    fbpOK r bs (fbpExpected r bs) = true := by
  unfold fbpOK fbpExpected
  rw [zipAll_map, List.all_eq_true]
  intro s hs
  unfold fbpEdgeOK fbpOf
  rw [trivial_iff (tip_belowL r.kids s hs)]
  by_cases h2 : 2 ≤ depth r.tipNames s.below
  · obtain ⟨a, b, c, _⟩ := edge_facts r bs h s hs h2
    simp [h2, approxRel_refl, unit, a, Rat.le_trans b c]
  · simp [h2]

theorem tbeOK_expected (r : T) (bs : List T) (h : hypOK r bs = true) :
    tbeOK r bs (tbeExpected r bs) = true := by
  unfold tbeOK tbeExpected
  rw [zipAll_map, List.all_eq_true]
  intro s hs
  unfold tbeEdgeOK tbeOf
  rw [trivial_iff (tip_belowL r.kids s hs)]
  by_cases h2 : 2 ≤ depth r.tipNames s.below
  · obtain ⟨a, b, c, d⟩ := edge_facts r bs h s hs h2
    have hu : unit (tbeSpec r.tipNames s.below bs) = true := by
      simp [unit, Rat.le_trans a b, c]
    have hone : ((tbeSpec r.tipNames s.below bs == 1) == bs.all (containsSplit r.tipNames s.below)) = true := by
      rw [beq_iff_eq, Bool.eq_iff_iff, beq_iff_eq, List.all_eq_true]
      exact d
    simp only [h2, decide_true, Bool.not_true, Bool.false_eq_true, if_false, if_true]
    rw [← tbeSpec_eq_pure r bs h s hs h2, approxAbs_refl, hu, hone]
    rfl
  · simp [h2]

theorem fbpLeTbeOK_expected (r : T) (bs : List T) (h : hypOK r bs = true) :
    fbpLeTbeOK r (fbpExpected r bs) (tbeExpected r bs) = true := by
  unfold fbpLeTbeOK fbpExpected tbeExpected
  rw [zipAll_map_zip, List.all_eq_true]
  intro s hs
  rw [trivial_iff (tip_belowL r.kids s hs)]
  by_cases h2 : 2 ≤ depth r.tipNames s.below
  · obtain ⟨_, b, _, _⟩ := edge_facts r bs h s hs h2
    have hb : fbpOf r bs s ≤ tbeOf r bs s := by
      unfold fbpOf tbeOf; simp only [h2, if_true]; exact b
    have key : fbpOf r bs s * (1125899906842624 : Rat) ≤ tbeOf r bs s * (1125899906842624 : Rat) + 1 := by
      have := Rat.mul_le_mul_of_nonneg_right hb (show (0 : Rat) ≤ 1125899906842624 by decide)
      grind
    simpa [h2] using key
  · simp [h2]

end Gotree.C10

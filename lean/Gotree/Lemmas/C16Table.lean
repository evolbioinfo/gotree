/-
  C16 — the meaning of a guard table does not depend on the source text kept in `raw`
  (`firstFiring_congr`); the rows of the expected table per generator function.
-/
import Gotree.Model.C16Table

namespace Gotree.C16
open Gotree

theorem guard_sem_fires (g : Guard) (n : Int) (rooted : Bool) : g.sem.fires n rooted = g.fires n rooted := rfl

/-- the meaning of a guard table does not depend on the source text kept in `raw` -/
theorem firstFiring_sem (tbl : List Guard) (fn : String) (n : Int) (rooted : Bool) :
    firstFiring (guardsOf (tbl.map Guard.sem) fn) n rooted = firstFiring (guardsOf tbl fn) n rooted := by
  induction tbl with
  | nil => rfl
  | cons g r ih =>
    unfold firstFiring guardsOf at *
    simp only [List.map_cons, List.filter_cons]
    have hfn : g.sem.fn = g.fn := rfl
    rw [hfn]
    by_cases h : (g.fn == fn) = true
    · simp only [h, if_true, List.find?_cons, guard_sem_fires]
      by_cases hf : g.fires n rooted = true
      · simp only [hf]; rfl
      · have hf' : g.fires n rooted = false := by simpa using hf
        simp only [hf']; exact ih
    · have h' : (g.fn == fn) = false := by simpa using h
      simp only [h']; exact ih

theorem firstFiring_congr (a b : List Guard) (h : a.map Guard.sem = b.map Guard.sem) (fn : String) (n : Int)
    (rooted : Bool) : firstFiring (guardsOf a fn) n rooted = firstFiring (guardsOf b fn) n rooted := by
  rw [← firstFiring_sem a, ← firstFiring_sem b, h]

theorem guardsOf_uniform : guardsOf expectedGuards "RandomUniformBinaryTree" =
    [⟨"RandomUniformBinaryTree", .lt, 3, none, errLess3All, "nbtips < 3"⟩] := by decide
theorem guardsOf_yule : guardsOf expectedGuards "RandomYuleBinaryTree" =
    [⟨"RandomYuleBinaryTree", .lt, 3, none, errLess3All, "nbtips < 3"⟩] := by decide
theorem guardsOf_caterpillar : guardsOf expectedGuards "RandomCaterpillarBinaryTree" =
    [⟨"RandomCaterpillarBinaryTree", .lt, 3, none, errLess3All, "nbtips < 3"⟩] := by decide
theorem guardsOf_balanced : guardsOf expectedGuards "RandomBalancedBinaryTree" =
    [⟨"RandomBalancedBinaryTree", .lt, 1, none, errDepth, "depth < 1"⟩,
     ⟨"RandomBalancedBinaryTree", .lt, 2, some false, errDepthU, "depth < 2 && !rooted"⟩] := by decide
theorem guardsOf_star : guardsOf expectedGuards "StarTree" =
    [⟨"StarTree", .lt, 2, none, errStar, "nbtips < 2"⟩] := by decide
theorem guardsOf_topo : guardsOf expectedGuards "AllTopologies" =
    [⟨"AllTopologies", .lt, 3, some false, errTopoU, "nbTips < 3 && !rooted"⟩,
     ⟨"AllTopologies", .lt, 2, some true, errTopoR, "nbTips < 2 && rooted"⟩,
     ⟨"AllTopologies", .other, 0, none, errTopoNames, "len(tipNames) > 0 && len(tipNames) != nbTips"⟩] := by decide

end Gotree.C16

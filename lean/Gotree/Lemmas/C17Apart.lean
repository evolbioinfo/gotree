/-
  C17 — `Apart`: the split lists before and after `Apply`, with enough information about
  the branches that do not change (each lies inside one quadrant of the two crossing splits,
  or contains the whole site, or avoids it) to conclude in the canonical presentation.
-/
import Gotree.Lemmas.C17Split
import Gotree.Lemmas.C05Splits

namespace Gotree.C17
open Gotree Gotree.C17.Spec

/-- how a branch that does not change lies relative to the site `Z` and the two splits `c`, `c'` -/
def Within (Z c c' s : List String) : Prop :=
  (∀ x ∈ s, x ∈ c ∧ x ∈ c') ∨ (∀ x ∈ s, x ∈ c ∧ x ∉ c') ∨ (∀ x ∈ s, x ∉ c ∧ x ∈ c') ∨
  (∀ x ∈ s, x ∈ Z ∧ x ∉ c ∧ x ∉ c') ∨ (∀ x ∈ Z, x ∈ s) ∨ (∀ x ∈ s, x ∉ Z)

/-- the facts about the changed branch and the others -/
def Apart (Z cb : List String) (isRoot : Bool) (L L' : List SplitE) : Prop :=
  ∃ c c' R R', c.below = cb ∧ L.Perm (c :: R) ∧ L'.Perm (c' :: R') ∧ SameBranches R R' ∧
    c.e = c'.e ∧ c.tip = false ∧ c'.tip = false ∧
    (∀ x ∈ c.below, x ∈ Z) ∧ (∀ x ∈ c'.below, x ∈ Z) ∧
    (∃ x, x ∈ c.below ∧ x ∈ c'.below) ∧ (∃ x, x ∈ c.below ∧ x ∉ c'.below) ∧
    (∃ x, x ∈ Z ∧ x ∉ c.below ∧ x ∈ c'.below) ∧
    (isRoot = true → ∃ x, x ∈ Z ∧ x ∉ c.below ∧ x ∉ c'.below) ∧
    (∀ s ∈ R, s.below ≠ [] ∧ Within Z c.below c'.below s.below)

theorem Apart.oneBranchApart {Z cb : List String} {isRoot : Bool} {L L' : List SplitE} (h : Apart Z cb isRoot L L') :
    OneBranchApart L L' := by
  obtain ⟨c, c', R, R', _, h1, h2, h3, h4, h5, h6, _, _, ⟨y, hy1, hy2⟩, ⟨x, hx1, hx2⟩, _⟩ := h
  exact ⟨c, c', R, R', h1, h2, h3, h4, h5, h6, ⟨x, hx1, hx2⟩, ⟨y, hy1, hy2⟩⟩

/-- entries of the context: they contain the whole site or avoid it -/
def Outside (Z : List String) (X : List SplitE) : Prop :=
  ∀ s ∈ X, s.below ≠ [] ∧ ((∀ x ∈ Z, x ∈ s.below) ∨ (∀ x ∈ s.below, x ∉ Z))

theorem perm_context {α : Type} {L R : List α} {c : α} (h : L.Perm (c :: R)) (X Y : List α) :
    (X ++ L ++ Y).Perm (c :: (X ++ R ++ Y)) := by
  refine ((h.append_left X).append_right Y).trans ?_
  simp only [List.append_assoc, List.cons_append]
  exact List.perm_middle

theorem apart_context {Z cb : List String} {isRoot : Bool} {L L' X X' Y Y' : List SplitE} (h : Apart Z cb isRoot L L')
    (hx : SameBranches X X') (hy : SameBranches Y Y') (ox : Outside Z X) (oy : Outside Z Y) :
    Apart Z cb isRoot (X ++ L ++ Y) (X' ++ L' ++ Y') := by
  obtain ⟨c, c', R, R', h0, h1, h2, h3, h4, h5, h6, h7, h8, h9, h10, h11, h12, h13⟩ := h
  have out : ∀ {X}, Outside Z X → ∀ s ∈ X, s.below ≠ [] ∧ Within Z c.below c'.below s.below := fun o s hs =>
    ⟨(o s hs).1, (o s hs).2.elim (fun h => Or.inr (Or.inr (Or.inr (Or.inr (Or.inl h)))))
      (fun h => Or.inr (Or.inr (Or.inr (Or.inr (Or.inr h)))))⟩
  refine ⟨c, c', X ++ R ++ Y, X' ++ R' ++ Y', h0, perm_context h1 X Y, perm_context h2 X' Y',
    sameBranches_append (sameBranches_append hx h3) hy, h4, h5, h6, h7, h8, h9, h10, h11, h12, ?_⟩
  intro s hs
  simp only [List.mem_append] at hs
  rcases hs with (hs | hs) | hs
  · exact out ox s hs
  · exact h13 s hs
  · exact out oy s hs

/-- one step up for `Apart` -/
theorem apart_up {Z cb : List String} {isRoot : Bool} (c1 c2 : T) (e : EdgeD)
    (h : Apart Z cb isRoot (splitsL c1.kids) (splitsL c2.kids)) (hZ : ∀ x ∈ Z, x ∈ c1.leaves)
    (hl : c2.leaves.Perm c1.leaves) (hleaf : c2.isLeaf = c1.isLeaf) :
    ∀ (k : Kids) (i : Nat), k[i]? = some (e, c1) → (leavesL k).Nodup →
      Apart Z cb isRoot (splitsL k) (splitsL (k.set i (e, c2))) := by
  intro k
  induction k with
  | nil => intro i hk; simp at hk
  | cons x xs ih =>
    obtain ⟨ex, tx⟩ := x
    intro i hk hnd
    rw [leavesL_cons, List.nodup_append] at hnd
    -- the entries beside the changed child avoid the site: their tips are not below that child
    have out : ∀ (K : Kids), (∀ x ∈ leavesL K, x ∉ c1.leaves) → Outside Z (splitsL K) := fun K hK s hs =>
      ⟨below_ne_nil K s hs, .inr fun x hx hxZ => hK x ((below_sublist_leavesL K s hs).subset hx) (hZ x hxZ)⟩
    cases i with
    | zero =>
      obtain ⟨rfl, rfl⟩ : ex = e ∧ tx = c1 := by simpa using hk
      have := apart_context (X := [⟨tx.leaves, ex, tx.isLeaf⟩]) (X' := [⟨c2.leaves, ex, c2.isLeaf⟩]) h
        ⟨⟨hl.symm, rfl, hleaf.symm⟩, trivial⟩ (sameBranches_refl (splitsL xs))
        (fun s hs => by obtain rfl := List.mem_singleton.mp hs; exact ⟨T.leaves_ne_nil tx, .inl hZ⟩)
        (out xs fun x hx hx' => hnd.2.2 x hx' x hx rfl)
      simpa [splitsL_cons, T.splitsBelow_eq] using this
    | succ i =>
      have hk' : xs[i]? = some (e, c1) := by simpa using hk
      have := apart_context (Y := []) (Y' := []) (ih i hk' hnd.2.1) (sameBranches_refl (splitsL [(ex, tx)])) trivial
        (out [(ex, tx)] fun x hx hx' => hnd.2.2 x (by simpa [leavesL] using hx) x
          ((leaves_sublist_leavesL (List.mem_of_getElem? hk')).subset hx') rfl)
        (fun s hs => nomatch hs)
      simpa [splitsL_cons, splitsL_nil] using this

theorem nodup_leavesL_kids (e : EdgeD) (c : T) (k : Kids) (i : Nat) (hk : k[i]? = some (e, c))
    (hnd : (leavesL k).Nodup) : (leavesL c.kids).Nodup :=
  hnd.sublist (c.leavesL_kids_sublist.trans (leaves_sublist_leavesL (List.mem_of_getElem? hk)))

/-- lifting `RK` and `Apart` along the path to the site -/
theorem apart_lift (Z cb : List String) (isRoot : Bool) (f : T → Option T) : ∀ (q : List Nat) (t t' S : T),
    subAt q t = some S → modAt q f t = some t' → (leavesL t.kids).Nodup →
    (∀ S', f S = some S' → RK S S' ∧ Apart Z cb isRoot (splitsL S.kids) (splitsL S'.kids)) →
    (∀ x ∈ Z, x ∈ leavesL S.kids) →
    RK t t' ∧ Apart Z cb isRoot (splitsL t.kids) (splitsL t'.kids) ∧ (∀ x ∈ Z, x ∈ leavesL t.kids) := by
  intro q t t' S hs hm hnd hr hZ
  refine modAt_lift (fun t t' => (leavesL t.kids).Nodup → RK t t' ∧ Apart Z cb isRoot (splitsL t.kids) (splitsL t'.kids) ∧
    ∀ x ∈ Z, x ∈ leavesL t.kids) f ?_ q t t' S hs hm (fun S' h _ => ⟨(hr S' h).1, (hr S' h).2, hZ⟩) hnd
  intro d p k i e c c' hki ih hnd
  obtain ⟨h1, h2, h3⟩ := ih (nodup_leavesL_kids e c k i hki hnd)
  have hZc : ∀ x ∈ Z, x ∈ c.leaves := fun x hx => (T.leavesL_kids_sublist _).subset (h3 x hx)
  exact ⟨h1.up d p k i e hki, apart_up c c' e h2 hZc h1.leaves_perm h1.isLeaf_eq k i hki hnd,
    fun x hx => (leaves_sublist_leavesL (List.mem_of_getElem? hki)).subset (hZc x hx)⟩

/-- The exchange an NNI makes.  The tips of the site `Z` fall into the forests `KA KB KC KD`; the
    branch `e` has `KA` and `KB` below it (`cb`), afterwards `KA` and `KC` (`cb'`); every
    other branch `R` belongs to one of the four forests, and that decides how it lies (`Within`).
    The witnesses are a tip of `KA` (below both), of `KB` (below before only), of `KC` (below afterwards
    only) and of `KD` (below neither; `KD` may be empty unless the upper end is the root). -/
theorem apart_of_exchange {Z cb cb' : List String} {e : EdgeD} {isRoot : Bool} {L L' R : List SplitE}
    (KA KB KC KD : Kids) (hR : R.Perm (splitsL (KA ++ KB ++ KC ++ KD)))
    (hL : L.Perm (⟨cb, e, false⟩ :: R)) (hL' : L'.Perm (⟨cb', e, false⟩ :: R))
    (hc : ∀ x, x ∈ cb ↔ x ∈ leavesL KA ∨ x ∈ leavesL KB)
    (hc' : ∀ x, x ∈ cb' ↔ x ∈ leavesL KA ∨ x ∈ leavesL KC)
    (hZ : Z.Perm (leavesL (KA ++ KB ++ KC ++ KD))) (hnd : Z.Nodup)
    (hA : KA ≠ []) (hB : KB ≠ []) (hC : KC ≠ []) (hD : isRoot = true → KD ≠ []) :
    Apart Z cb isRoot L L' := by
  have hmem : ∀ x, x ∈ Z ↔ ((x ∈ leavesL KA ∨ x ∈ leavesL KB) ∨ x ∈ leavesL KC) ∨ x ∈ leavesL KD := by
    intro x; rw [hZ.mem_iff]; simp only [leavesL_append, List.mem_append]
  have hnd' := hZ.nodup_iff.mp hnd
  simp only [leavesL_append, List.nodup_append, List.mem_append] at hnd'
  obtain ⟨⟨⟨_, _, dB⟩, _, dC⟩, _, dD⟩ := hnd'
  -- how the tips of each block lie: the four alternatives of `Within`
  have inA : ∀ x ∈ leavesL KA, x ∈ cb ∧ x ∈ cb' := fun x h =>
    ⟨(hc x).mpr (.inl h), (hc' x).mpr (.inl h)⟩
  have inB : ∀ x ∈ leavesL KB, x ∈ cb ∧ x ∉ cb' := fun x h =>
    ⟨(hc x).mpr (.inr h), fun h' => ((hc' x).mp h').elim (dB x · x h rfl) (dC x (.inr h) x · rfl)⟩
  have inC : ∀ x ∈ leavesL KC, x ∉ cb ∧ x ∈ cb' := fun x h =>
    ⟨fun h' => dC x ((hc x).mp h') x h rfl, (hc' x).mpr (.inr h)⟩
  have inD : ∀ x ∈ leavesL KD, x ∈ Z ∧ x ∉ cb ∧ x ∉ cb' := fun x h =>
    ⟨(hmem x).mpr (.inr h), fun h' => dD x (.inl ((hc x).mp h')) x h rfl,
      fun h' => dD x (((hc' x).mp h').elim (fun h => .inl (.inl h)) .inr) x h rfl⟩
  have blk : ∀ (K : Kids) {P : String → Prop}, (∀ x ∈ leavesL K, P x) → ∀ s ∈ splitsL K, s.below ≠ [] ∧ ∀ x ∈ s.below, P x :=
    fun K _ h s hs => ⟨below_ne_nil K s hs, fun x hx => h x ((below_sublist_leavesL K s hs).subset hx)⟩
  obtain ⟨a, ha⟩ := List.exists_mem_of_ne_nil _ (leavesL_ne_nil KA hA)
  obtain ⟨b, hb⟩ := List.exists_mem_of_ne_nil _ (leavesL_ne_nil KB hB)
  obtain ⟨c₀, hc₀⟩ := List.exists_mem_of_ne_nil _ (leavesL_ne_nil KC hC)
  refine ⟨_, _, R, R, rfl, hL, hL', sameBranches_refl _, rfl, rfl, rfl,
    fun x hx => (hmem x).mpr (.inl (.inl ((hc x).mp hx))),
    fun x hx => (hmem x).mpr (((hc' x).mp hx).elim (fun h => .inl (.inl (.inl h))) (fun h => .inl (.inr h))),
    ⟨a, inA a ha⟩, ⟨b, inB b hb⟩, ⟨c₀, (hmem c₀).mpr (.inl (.inr hc₀)), inC c₀ hc₀⟩, fun hroot => ?_, fun s hs => ?_⟩
  · obtain ⟨d, hd⟩ := List.exists_mem_of_ne_nil _ (leavesL_ne_nil KD (hD hroot))
    exact ⟨d, inD d hd⟩
  · have hs' := hR.mem_iff.mp hs
    simp only [splitsL_append, List.mem_append] at hs'
    unfold Within
    rcases hs' with ((hs' | hs') | hs') | hs'
    · exact ⟨(blk KA inA s hs').1, .inl (blk KA inA s hs').2⟩
    · exact ⟨(blk KB inB s hs').1, .inr (.inl (blk KB inB s hs').2)⟩
    · exact ⟨(blk KC inC s hs').1, .inr (.inr (.inl (blk KC inC s hs').2))⟩
    · exact ⟨(blk KD inD s hs').1, .inr (.inr (.inr (.inl (blk KD inD s hs').2)))⟩

end Gotree.C17

/-
  C10: what FBP / TBE do to the reference besides the supports — internal names
  are blanked, which changes neither the split list nor the tips, and the
  supports are written branch by branch in `Edges()` order; and what the two
  readers of the command line make of a file.
-/
import Gotree.Model.C10

namespace Gotree.C10
open Gotree

mutual
theorem blankBelow_leaves : ∀ (t : T), (blankBelow t).leaves = t.leaves ∧ (blankBelow t).isLeaf = t.isLeaf ∧
    (blankBelow t).splitsBelow = t.splitsBelow
  | .node d p [] => by simp [blankBelow]
  | .node d p (k :: ks) => by
    obtain ⟨h1, h2⟩ := blankL_leaves (k :: ks)
    cases hb : blankL (k :: ks) with
    | nil => simp [blankL] at hb
    | cons a b =>
      rw [hb] at h1 h2
      simp only [blankBelow, hb, T.leaves, T.isLeaf, T.kids_node, T.splitsBelow]
      exact ⟨h1, by simp, h2⟩
theorem blankL_leaves : ∀ (k : Kids), leavesL (blankL k) = leavesL k ∧ splitsL (blankL k) = splitsL k
  | [] => by simp [blankL]
  | (e, t) :: r => by
    obtain ⟨a1, a2, a3⟩ := blankBelow_leaves t
    obtain ⟨b1, b2⟩ := blankL_leaves r
    simp [blankL, leavesL, splitsL, a1, a2, a3, b1, b2]
end

theorem blankL_length : ∀ (k : Kids), (blankL k).length = k.length
  | [] => rfl
  | (_, _) :: r => by simp [blankL, blankL_length r]

/-- blanking the internal names changes neither the split list nor the tips -/
theorem blankNames_same (t : T) : (blankNames t).splits = t.splits ∧ (blankNames t).tipNames = t.tipNames := by
  cases t with
  | node d p k =>
    obtain ⟨h1, h2⟩ := blankL_leaves k
    constructor
    · simp [blankNames, T.splits, h2]
    · simp only [blankNames, T.tipNames, T.kids_node, blankL_length, h1, T.name, T.d_node]
      by_cases hk : k.length = 1
      · simp [hk]
      · simp [hk]

/-! ## the two functions see a reference only through its split list and its tips -/

theorem fbpLoop_congr {r r' : T} (hs : r.splits = r'.splits) (ht : r.tipNames = r'.tipNames) :
    ∀ (bs : List T) (c : List Nat) (n : Nat), fbpLoop r bs c n = fbpLoop r' bs c n
  | [], _, _ => rfl
  | b :: bs, c, n => by
    unfold fbpLoop
    have hc : compareTips r b = compareTips r' b := by unfold compareTips; rw [ht]
    rw [hc, hs, ht, fbpLoop_congr hs ht bs]

theorem fbp_congr {r r' : T} (hs : r.splits = r'.splits) (ht : r.tipNames = r'.tipNames) (bs : List T) :
    fbp r bs = fbp r' bs := by
  unfold fbp
  have h1 : reinitOk r = reinitOk r' := by unfold reinitOk; rw [ht]
  have h2 : ntips r = ntips r' := by unfold ntips; rw [ht]
  rw [h1, h2, hs, fbpLoop_congr hs ht]

theorem tbeEdge_congr {r r' : T} (ht : r.tipNames = r'.tipNames) (b : T) (s : SplitE) (sup : Rat) :
    tbeEdge r b s sup = tbeEdge r' b s sup := by
  unfold tbeEdge ntips; rw [ht]

theorem idPanic_congr {r r' : T} (hs : r.splits = r'.splits) (ht : r.tipNames = r'.tipNames) (b : T) :
    idPanic r b = idPanic r' b := by
  unfold idPanic ntips; rw [ht, hs]

theorem tbeLoop_congr {r r' : T} (hs : r.splits = r'.splits) (ht : r.tipNames = r'.tipNames) :
    ∀ (bs : List T) (c : List Rat) (n : Nat), tbeLoop r bs c n = tbeLoop r' bs c n
  | [], _, _ => rfl
  | b :: bs, c, n => by
    unfold tbeLoop
    have hc : compareTips r b = compareTips r' b := by unfold compareTips; rw [ht]
    have he : tbeEdge r b = tbeEdge r' b := by funext s sup; exact tbeEdge_congr ht b s sup
    rw [hc, idPanic_congr hs ht, hs, he, tbeLoop_congr hs ht bs]

theorem tbe_congr {r r' : T} (hs : r.splits = r'.splits) (ht : r.tipNames = r'.tipNames) (bs : List T) :
    tbe r bs = tbe r' bs := by
  unfold tbe
  have h1 : reinitOk r = reinitOk r' := by unfold reinitOk; rw [ht]
  have h2 : ntips r = ntips r' := by unfold ntips; rw [ht]
  rw [h1, h2, hs, tbeLoop_congr hs ht]

/-! ## writing the supports back -/

/-- what `setSupsL` guarantees -/
def SetSpec (k k' : Kids) (l l' : List Rat) : Prop :=
  leavesL k' = leavesL k ∧ (k' = [] ↔ k = []) ∧
  (splitsL k').map (·.e.sup) = l.take (splitsL k).length ∧
  (splitsL k').map (fun s => (s.below, s.tip)) = (splitsL k).map (fun s => (s.below, s.tip)) ∧
  l' = l.drop (splitsL k).length

/- `setSupsT_spec` takes the tree (not its three fields) so that the recursion is structural -/
mutual
theorem setSupsT_spec : ∀ (t : T) (l : List Rat), (splitsL t.kids).length ≤ l.length →
    ∃ k', setSupsT t l = (.node t.d t.ppos k', l.drop (splitsL t.kids).length) ∧
      SetSpec t.kids k' l (l.drop (splitsL t.kids).length)
  | .node d p k, l, h => by
    obtain ⟨k', e, sp⟩ := setSupsL_spec k l h
    exact ⟨k', by simp only [setSupsT, e]; rfl, sp⟩
theorem setSupsL_spec : ∀ (k : Kids) (l : List Rat), (splitsL k).length ≤ l.length →
    ∃ k', setSupsL k l = (k', l.drop (splitsL k).length) ∧ SetSpec k k' l (l.drop (splitsL k).length)
  | [], l, _ => ⟨[], by simp [setSupsL, splitsL], by simp [SetSpec, splitsL]⟩
  | (e, .node d p kk) :: r, l, h => by
    cases l with
    | nil => simp [splitsL] at h
    | cons x l0 =>
      have hlen : (splitsL ((e, T.node d p kk) :: r)).length = 1 + (splitsL kk).length + (splitsL r).length := by
        simp [splitsL, T.splitsBelow]; omega
      rw [hlen] at h
      simp only [List.length_cons] at h
      obtain ⟨kk', e1, s1⟩ := setSupsT_spec (.node d p kk) l0 (by simp only [T.kids_node]; omega)
      simp only [T.kids_node, T.d_node, T.ppos_node] at e1 s1
      obtain ⟨r', e2, s2⟩ := setSupsL_spec r (l0.drop (splitsL kk).length) (by simp; omega)
      obtain ⟨a1, a2, a3, a4, _⟩ := s1
      obtain ⟨b1, b2, b3, b4, _⟩ := s2
      refine ⟨({ e with sup := x }, .node d p kk') :: r', ?_, ?_⟩
      · simp only [setSupsL, List.tail_cons, e1, e2, hlen]
        congr 1
        rw [List.drop_drop]
        have : 1 + (splitsL kk).length + (splitsL r).length = ((splitsL kk).length + (splitsL r).length) + 1 := by omega
        rw [this, List.drop_succ_cons]
      · have hl : (T.node d p kk').leaves = (T.node d p kk).leaves := by
          cases kk with
          | nil => have := a2.2 rfl; subst this; rfl
          | cons q qs =>
            cases kk' with
            | nil => have := a2.1 rfl; cases this
            | cons q' qs' => simpa [T.leaves] using a1
        have hi : (T.node d p kk').isLeaf = (T.node d p kk).isLeaf := by
          simp only [T.isLeaf, T.kids_node]
          cases kk with
          | nil => have := a2.2 rfl; subst this; rfl
          | cons q qs =>
            cases kk' with
            | nil => have := a2.1 rfl; cases this
            | cons q' qs' => rfl
        refine ⟨?_, by simp, ?_, ?_, ?_⟩
        · simp only [leavesL, hl, b1]
        · simp only [splitsL, T.splitsBelow, List.map_cons, List.map_append, a3, b3]
          simp only [List.length_cons, List.length_append, List.take_succ_cons, List.take_add]
        · simp only [splitsL, T.splitsBelow, List.map_cons, List.map_append, a4, b4, hl, hi]
        · rfl
end

/-- the annotated reference: same branches, the supports given, in `Edges()` order -/
theorem annotated_spec (r : T) (sups : List Rat) (h : sups.length = r.splits.length) :
    (annotated r sups).splits.map (·.e.sup) = sups ∧
    (annotated r sups).splits.map (fun s => (s.below, s.tip)) = r.splits.map (fun s => (s.below, s.tip)) := by
  obtain ⟨hs, _⟩ := blankNames_same r
  unfold annotated
  cases hb : blankNames r with
  | node d p k =>
    have hk : splitsL k = r.splits := by rw [← hs, hb]; rfl
    obtain ⟨k', e, _, _, a3, a4, _⟩ := setSupsT_spec (.node d p k) sups (by rw [T.kids_node, hk]; omega)
    simp only [T.kids_node] at e a3 a4
    rw [e]
    simp only [T.splits, T.kids_node]
    rw [a3, a4, hk]
    exact ⟨by rw [← h]; exact List.take_length, rfl⟩

/-! ## the readers of the command line -/

def treesOf {α : Type} : List (Item α) → List α
  | [] => []
  | .tree a :: r => a :: treesOf r
  | .treePlus a :: r => a :: treesOf r
  | .treeLine as :: r => as ++ treesOf r
  | _ :: r => treesOf r

def noJunk {α : Type} : List (Item α) → Bool
  | [] => true
  | .junk :: _ => false
  | _ :: r => noJunk r

/-- a file without unterminated text: every tree in order, then one erroneous item if the reader
    has sent nothing at all -/
theorem cliStreamGo_noJunk {α : Type} : ∀ (items : List (Item α)) (sent : Nat), noJunk items = true →
    cliStreamGo items false sent =
      (treesOf items).map some ++ (if sent + (treesOf items).length == 0 then [none] else [])
  | [], sent, _ => by cases h : sent == 0 <;> simp [cliStreamGo, treesOf, h]
  | .blank :: r, sent, hj => cliStreamGo_noJunk r sent (by simpa [noJunk] using hj)
  | .junk :: r, _, hj => by simp [noJunk] at hj
  | .tree a :: r, sent, hj => by
    have e : sent + ((treesOf r).length + 1) = sent + 1 + (treesOf r).length := by omega
    simp only [cliStreamGo, treesOf, List.map_cons, Bool.false_eq_true, if_false, List.length_cons,
      List.cons_append, e]
    rw [cliStreamGo_noJunk r (sent + 1) (by simpa [noJunk] using hj)]
  | .treePlus a :: r, sent, hj => by
    have e : sent + ((treesOf r).length + 1) = sent + 1 + (treesOf r).length := by omega
    simp only [cliStreamGo, treesOf, List.map_cons, Bool.false_eq_true, if_false, List.length_cons,
      List.cons_append, e]
    rw [cliStreamGo_noJunk r (sent + 1) (by simpa [noJunk] using hj)]
  | .treeLine [] :: r, sent, hj => cliStreamGo_noJunk r sent (by simpa [noJunk] using hj)
  | .treeLine (a :: as) :: r, sent, hj => by
    have e : sent + ((a :: as).length + (treesOf r).length) = sent + (a :: as).length + (treesOf r).length := by
      omega
    simp only [cliStreamGo, treesOf, Bool.false_eq_true, if_false, List.map_append, List.length_append,
      List.append_assoc, e]
    rw [cliStreamGo_noJunk r (sent + (a :: as).length) (by simpa [noJunk] using hj)]

theorem cliReference_first {α : Type} : ∀ (items : List (Item α)), noJunk items = true →
    cliReference items = (treesOf items).head?
  | [], _ => rfl
  | .tree a :: r, _ => rfl
  | .treePlus a :: r, _ => rfl
  | .treeLine (a :: as) :: r, _ => rfl
  | .treeLine [] :: r, h => by
    simp only [cliReference, treesOf, List.nil_append]
    exact cliReference_first r (by simpa [noJunk] using h)
  | .blank :: r, h => by
    simp only [cliReference, treesOf]
    exact cliReference_first r (by simpa [noJunk] using h)
  | .junk :: r, h => by simp [noJunk] at h

end Gotree.C10

/-
  C16 — the generators: what a change at the k-th branch (`applyAt`) keeps, by induction along the
  path to that branch; the graft; the invariant of the three insertion loops and their end
  (`RerootFirst`); the balanced and the star generator; rejections; the count of the enumeration;
  the tip index (core Lean + Std only).
-/
import Gotree.Spec.C16
import Gotree.Lemmas.Core
import Std.Data.String.ToNat

namespace Gotree.C16
open Gotree

/-! ### tip names are pairwise different -/

theorem tipName_inj {i j : Nat} (h : tipName i = tipName j) : i = j := by
  unfold tipName at h
  have h2 : ("Tip" ++ toString i).toList = ("Tip" ++ toString j).toList := by rw [h]
  rw [String.toList_append, String.toList_append] at h2
  have h3 := List.append_cancel_left h2
  have h4 : toString i = toString j := String.toList_inj.mp h3
  exact Nat.repr_injective h4

theorem tipNamesUpTo_nodup (n : Nat) : (tipNamesUpTo n).Nodup := by
  unfold tipNamesUpTo List.Nodup
  rw [List.pairwise_map]
  exact List.Pairwise.imp (fun hab h => hab (tipName_inj h)) List.nodup_range


/-! ### `applyAt`: induction along the path to the k-th branch

   The k-th branch (pre-order) of a child list is the first branch (k = 0), lies below the first
   child (k = j + 1, j a branch of that child) or among the later children
   (k = j + 1 + the branches of the first child).  Every fact about `applyAtL f k` below is proved
   by `applyAtL_induct`: what `f` does where it is applied, kept on the way down and on the way right. -/

theorem applyAtL_length (f : EdgeD × T → EdgeD × T) : ∀ (ks : Kids) (k : Nat), (applyAtL f k ks).length = ks.length
  | [], k => by simp [applyAtL]
  | (e, t) :: r, k => by
    unfold applyAtL
    split
    · simp
    · split
      · simp
      · simp [applyAtL_length f r]

theorem numEdges_node (d : NodeD) (p : Nat) (ks : Kids) : numEdges (.node d p ks) = numEdgesL ks := by
  simp [numEdges]

theorem numEdges_kids (t : T) : numEdges t = numEdgesL t.kids := by cases t; simp [numEdges]

theorem applyAt_kids (f : EdgeD × T → EdgeD × T) (k : Nat) (t : T) : (applyAt f k t).kids = applyAtL f k t.kids := by
  cases t; simp [applyAt]

theorem applyAt_name (f : EdgeD × T → EdgeD × T) (k : Nat) (t : T) : (applyAt f k t).name = t.name := by
  cases t; simp [applyAt, T.name]

theorem applyAtL_zero (f : EdgeD × T → EdgeD × T) (x : EdgeD × T) (r : Kids) : applyAtL f 0 (x :: r) = f x :: r := by
  simp [applyAtL]

theorem applyAtL_down (f : EdgeD × T → EdgeD × T) (e : EdgeD) (d : NodeD) (p : Nat) (ks r : Kids) (j : Nat)
    (h : j < numEdgesL ks) :
    applyAtL f (j + 1) ((e, .node d p ks) :: r) = (e, .node d p (applyAtL f j ks)) :: r := by
  simp [applyAtL, applyAt, numEdges, h]

theorem applyAtL_skip (f : EdgeD × T → EdgeD × T) (e : EdgeD) (t : T) (r : Kids) (j : Nat) :
    applyAtL f (j + 1 + numEdges t) ((e, t) :: r) = (e, t) :: applyAtL f j r := by
  have h1 : ¬ j + 1 + numEdges t - 1 < numEdges t := by omega
  have h2 : j + 1 + numEdges t - 1 - numEdges t = j := by omega
  rw [applyAtL, if_neg (by omega), if_neg h1, h2]

theorem numEdgesL_pos_length : ∀ (ks : Kids), 0 < numEdgesL ks → 0 < ks.length
  | [], h => by simp [numEdgesL] at h
  | _ :: _, _ => by simp

mutual
theorem applyAt_induct (f : EdgeD × T → EdgeD × T) (P : Nat → Kids → Kids → Prop)
    (here : ∀ x r, P 0 (x :: r) (f x :: r))
    (down : ∀ e d p ks r j, j < numEdgesL ks → 0 < ks.length → P j ks (applyAtL f j ks) →
      P (j + 1) ((e, .node d p ks) :: r) ((e, .node d p (applyAtL f j ks)) :: r))
    (skip : ∀ e t r j, P j r (applyAtL f j r) → P (j + 1 + numEdges t) ((e, t) :: r) ((e, t) :: applyAtL f j r)) :
    ∀ (t : T) (k : Nat), k < numEdges t → P k t.kids (applyAtL f k t.kids)
  | .node d p ks, k, h => applyAtL_induct f P here down skip ks k (by simpa [numEdges] using h)
theorem applyAtL_induct (f : EdgeD × T → EdgeD × T) (P : Nat → Kids → Kids → Prop)
    (here : ∀ x r, P 0 (x :: r) (f x :: r))
    (down : ∀ e d p ks r j, j < numEdgesL ks → 0 < ks.length → P j ks (applyAtL f j ks) →
      P (j + 1) ((e, .node d p ks) :: r) ((e, .node d p (applyAtL f j ks)) :: r))
    (skip : ∀ e t r j, P j r (applyAtL f j r) → P (j + 1 + numEdges t) ((e, t) :: r) ((e, t) :: applyAtL f j r)) :
    ∀ (ks : Kids) (k : Nat), k < numEdgesL ks → P k ks (applyAtL f k ks)
  | [], k, h => by simp [numEdgesL] at h
  | (e, .node d p ks) :: r, k, h => by
    simp only [numEdgesL, numEdges] at h
    match k with
    | 0 => rw [applyAtL_zero]; exact here _ _
    | j + 1 =>
      by_cases hj : j < numEdgesL ks
      · rw [applyAtL_down f e d p ks r j hj]
        exact down e d p ks r j hj (numEdgesL_pos_length ks (by omega))
          (applyAt_induct f P here down skip (.node d p ks) j (by simpa [numEdges] using hj))
      · obtain ⟨i, rfl⟩ : ∃ i, j = i + numEdgesL ks := ⟨j - numEdgesL ks, by omega⟩
        have e1 : i + numEdgesL ks + 1 = i + 1 + numEdges (.node d p ks) := by simp only [numEdges]; omega
        rw [e1, applyAtL_skip]
        exact skip e _ r i (applyAtL_induct f P here down skip r i (by omega))
end

/-- nothing changes when `k` is not the index of a branch -/
theorem applyAtL_of_ge (f : EdgeD × T → EdgeD × T) : ∀ (ks : Kids) (k : Nat), numEdgesL ks ≤ k → applyAtL f k ks = ks
  | [], _, _ => by simp [applyAtL]
  | (e, t) :: r, k, h => by
    simp only [numEdgesL] at h
    have h0 : k ≠ 0 := by omega
    have h1 : ¬ k - 1 < numEdges t := by omega
    simp only [applyAtL, h0, h1, if_false]
    rw [applyAtL_of_ge f r _ (by omega)]

theorem numEdgesL_applyAtL (f : EdgeD × T → EdgeD × T) (c : Nat)
    (hf : ∀ e t, 1 + numEdges (f (e, t)).2 = 1 + numEdges t + c) :
    ∀ (ks : Kids) (k : Nat), k < numEdgesL ks → numEdgesL (applyAtL f k ks) = numEdgesL ks + c :=
  applyAtL_induct f (fun _ a b => numEdgesL b = numEdgesL a + c)
    (fun (e, t) r => by have := hf e t; simp only [numEdgesL] at *; omega)
    (fun e d p ks r j _ _ ih => by simp only [numEdgesL, numEdges, ih]; omega)
    (fun e t r j ih => by simp only [numEdgesL, ih]; omega)

theorem numEdges_applyAt (f : EdgeD × T → EdgeD × T) (c : Nat)
    (hf : ∀ e t, 1 + numEdges (f (e, t)).2 = 1 + numEdges t + c) (t : T) (k : Nat) (h : k < numEdges t) :
    numEdges (applyAt f k t) = numEdges t + c := by
  rw [numEdges_kids] at h
  rw [numEdges_kids, numEdges_kids, applyAt_kids]; exact numEdgesL_applyAtL f c hf _ k h

theorem binaryL_applyAtL (f : EdgeD × T → EdgeD × T)
    (hf : ∀ e t, t.binaryBelow = true → (f (e, t)).2.binaryBelow = true) (ks : Kids) (k : Nat)
    (h : binaryL ks = true) : binaryL (applyAtL f k ks) = true := by
  by_cases hk : k < numEdgesL ks
  · refine applyAtL_induct f (fun _ a b => binaryL a = true → binaryL b = true) ?_ ?_ ?_ ks k hk h
    · intro (e, t) r h
      simp only [binaryL, Bool.and_eq_true] at h ⊢
      exact ⟨hf e t h.1, h.2⟩
    · intro e d p ks r j _ _ ih h
      simp only [binaryL, T.binaryBelow, Bool.and_eq_true, applyAtL_length] at h ⊢
      exact ⟨⟨h.1.1, ih h.1.2⟩, h.2⟩
    · intro e t r j ih h
      simp only [binaryL, Bool.and_eq_true] at h ⊢
      exact ⟨h.1, ih h.2⟩
  · rwa [applyAtL_of_ge f ks k (by omega)]

theorem binaryBelow_applyAt (f : EdgeD × T → EdgeD × T)
    (hf : ∀ e t, t.binaryBelow = true → (f (e, t)).2.binaryBelow = true) :
    ∀ (t : T) (k : Nat), t.binaryBelow = true → (applyAt f k t).binaryBelow = true
  | .node d p ks, k, h => by
    simp only [applyAt, T.binaryBelow, Bool.and_eq_true, applyAtL_length] at *
    exact ⟨h.1, binaryL_applyAtL f hf ks k h.2⟩

theorem leaves_node_of_pos (d : NodeD) (p : Nat) (ks : Kids) (h : 0 < ks.length) :
    (T.node d p ks).leaves = leavesL ks :=
  T.leaves_node_ne d p (List.length_pos_iff.1 h)

/-- below a node that keeps its children the leaves are those of the child list, before and after -/
theorem leaves_node_applyAtL (f : EdgeD × T → EdgeD × T) (d : NodeD) (p : Nat) (ks : Kids) (j : Nat) (h : 0 < ks.length) :
    (T.node d p ks).leaves = leavesL ks ∧ (T.node d p (applyAtL f j ks)).leaves = leavesL (applyAtL f j ks) :=
  ⟨leaves_node_of_pos d p ks h, leaves_node_of_pos d p _ (by rwa [applyAtL_length])⟩

theorem leavesL_applyAtL (f : EdgeD × T → EdgeD × T) (name : String)
    (hf : ∀ e t, ((f (e, t)).2.leaves).Perm (name :: t.leaves)) :
    ∀ (ks : Kids) (k : Nat), k < numEdgesL ks → (leavesL (applyAtL f k ks)).Perm (name :: leavesL ks) :=
  applyAtL_induct f (fun _ a b => (leavesL b).Perm (name :: leavesL a))
    (fun (e, t) r => (hf e t).append_right _)
    (fun e d p ks r j _ hp ih => by
      obtain ⟨h1, h2⟩ := leaves_node_applyAtL f d p ks j hp
      simp only [leavesL, h1, h2]; exact ih.append_right _)
    (fun e t r j ih => (ih.append_left _).trans List.perm_middle)

/-! ### a predicate on every branch -/

mutual
def edgesAllT (p : EdgeD → Bool) : T → Bool
  | .node _ _ ks => edgesAllL p ks
def edgesAllL (p : EdgeD → Bool) : Kids → Bool
  | [] => true
  | (e, t) :: r => p e && edgesAllT p t && edgesAllL p r
end

mutual
theorem splitsBelow_all (p : EdgeD → Bool) : ∀ (t : T), (t.splitsBelow.all fun s => p s.e) = edgesAllT p t
  | .node d pp ks => by simp only [T.splitsBelow, edgesAllT]; exact splitsL_all p ks
theorem splitsL_all (p : EdgeD → Bool) : ∀ (ks : Kids), ((splitsL ks).all fun s => p s.e) = edgesAllL p ks
  | [] => by simp [splitsL, edgesAllL]
  | (e, t) :: r => by
    simp only [splitsL, edgesAllL, List.all_cons, List.all_append]
    rw [splitsBelow_all p t, splitsL_all p r, Bool.and_assoc]
end

def nonneg (e : EdgeD) : Bool := decide (0 ≤ e.len)

theorem lensOk_eq (t : T) : lensOk t = edgesAllL nonneg t.kids := by
  unfold lensOk T.edges T.splits
  rw [List.all_map]
  exact splitsL_all nonneg t.kids

theorem edgesAllL_applyAtL (p : EdgeD → Bool) (f : EdgeD × T → EdgeD × T)
    (hf : ∀ e t, p e = true → edgesAllT p t = true → p (f (e, t)).1 = true ∧ edgesAllT p (f (e, t)).2 = true)
    (ks : Kids) (k : Nat) (h : edgesAllL p ks = true) : edgesAllL p (applyAtL f k ks) = true := by
  by_cases hk : k < numEdgesL ks
  · refine applyAtL_induct f (fun _ a b => edgesAllL p a = true → edgesAllL p b = true) ?_ ?_ ?_ ks k hk h
    · intro (e, t) r h
      simp only [edgesAllL, Bool.and_eq_true] at h ⊢
      exact ⟨hf e t h.1.1 h.1.2, h.2⟩
    · intro e d q ks r j _ _ ih h
      simp only [edgesAllL, edgesAllT, Bool.and_eq_true] at h ⊢
      exact ⟨⟨h.1.1, ih h.1.2⟩, h.2⟩
    · intro e t r j ih h
      simp only [edgesAllL, Bool.and_eq_true] at h ⊢
      exact ⟨h.1, ih h.2⟩
  · rwa [applyAtL_of_ge f ks k (by omega)]

theorem edgesAllT_applyAt (p : EdgeD → Bool) (f : EdgeD × T → EdgeD × T)
    (hf : ∀ e t, p e = true → edgesAllT p t = true → p (f (e, t)).1 = true ∧ edgesAllT p (f (e, t)).2 = true) :
    ∀ (t : T) (k : Nat), edgesAllT p t = true → edgesAllT p (applyAt f k t) = true
  | .node d pp ks, k, h => by
    simp only [applyAt, edgesAllT] at *
    exact edgesAllL_applyAtL p f hf ks k h

/-! ### the graft -/

theorem graftLen_eq (name : String) (l0 l1 l2 : Rat) (e : EdgeD) (c : T) :
    graftLen name l0 l1 l2 (e, c) =
      ({ e with len := l0 },
       .node newNodeD 1 [({ newEdge 1 with len := l1 }, T.leaf name), ({ newEdge (e.len / 2) with len := l2 }, c)]) := by
  simp [graftLen, graftF, relen]

theorem graftLen_numEdges (name : String) (l0 l1 l2 : Rat) (e : EdgeD) (c : T) :
    1 + numEdges (graftLen name l0 l1 l2 (e, c)).2 = 1 + numEdges c + 2 := by
  rw [graftLen_eq]; simp [numEdges, numEdgesL, T.leaf]; omega

theorem graftLen_binary (name : String) (l0 l1 l2 : Rat) (e : EdgeD) (c : T) (h : c.binaryBelow = true) :
    (graftLen name l0 l1 l2 (e, c)).2.binaryBelow = true := by
  rw [graftLen_eq]; simp [T.binaryBelow, binaryL, T.leaf, h]

theorem graftLen_leaves (name : String) (l0 l1 l2 : Rat) (e : EdgeD) (c : T) :
    ((graftLen name l0 l1 l2 (e, c)).2.leaves).Perm (name :: c.leaves) := by
  rw [graftLen_eq]; simp [T.leaves, leavesL, T.leaf]

theorem graftLen_nonneg (name : String) (l0 l1 l2 : Rat) (h0 : 0 ≤ l0) (h1 : 0 ≤ l1) (h2 : 0 ≤ l2) (e : EdgeD) (c : T)
    (_ : nonneg e = true) (hc : edgesAllT nonneg c = true) :
    nonneg (graftLen name l0 l1 l2 (e, c)).1 = true ∧ edgesAllT nonneg (graftLen name l0 l1 l2 (e, c)).2 = true := by
  rw [graftLen_eq]; simp [edgesAllT, edgesAllL, nonneg, T.leaf, h0, h1, h2]
  simpa [edgesAllT] using hc


/-! ### finding the branch of a tip -/

mutual
theorem splitsBelow_length : ∀ (t : T), t.splitsBelow.length = numEdges t
  | .node d p ks => by simp only [T.splitsBelow, numEdges]; exact splitsL_length ks
theorem splitsL_length : ∀ (ks : Kids), (splitsL ks).length = numEdgesL ks
  | [] => by simp [splitsL, numEdgesL]
  | (e, t) :: r => by
    simp only [splitsL, numEdgesL, List.length_cons, List.length_append]
    rw [splitsBelow_length t, splitsL_length r]; omega
end

mutual
theorem tipSplit_of_mem (name : String) : ∀ (t : T), name ∈ leavesL t.kids →
    ∃ s ∈ t.splitsBelow, s.tip = true ∧ s.below = [name]
  | .node d p ks, h => by simp only [T.splitsBelow]; exact tipSplitL_of_mem name ks h
theorem tipSplitL_of_mem (name : String) : ∀ (ks : Kids), name ∈ leavesL ks →
    ∃ s ∈ splitsL ks, s.tip = true ∧ s.below = [name]
  | [], h => by simp [leavesL] at h
  | (e, .node d p []) :: r, h => by
    simp only [leavesL, T.leaves, List.mem_append, List.mem_singleton] at h
    cases h with
    | inl h1 => exact ⟨⟨[name], e, true⟩, by simp [splitsL, T.leaves, T.isLeaf, h1], rfl, rfl⟩
    | inr h2 =>
      obtain ⟨s, hs, h3⟩ := tipSplitL_of_mem name r h2
      exact ⟨s, by simp [splitsL, hs], h3⟩
  | (e, .node d p (x :: ks')) :: r, h => by
    change name ∈ (T.node d p (x :: ks')).leaves ++ leavesL r at h
    rw [List.mem_append] at h
    cases h with
    | inl h1 =>
      rw [T.leaves_node_cons] at h1
      obtain ⟨s, hs, h3⟩ := tipSplit_of_mem name (.node d p (x :: ks')) h1
      exact ⟨s, by simp only [splitsL, List.mem_cons, List.mem_append]; exact Or.inr (Or.inl hs), h3⟩
    | inr h2 =>
      obtain ⟨s, hs, h3⟩ := tipSplitL_of_mem name r h2
      exact ⟨s, by simp only [splitsL, List.mem_cons, List.mem_append]; exact Or.inr (Or.inr hs), h3⟩
end

theorem numEdgesL_pos_of_length : ∀ (ks : Kids), 0 < ks.length → 0 < numEdgesL ks
  | [], h => by simp at h
  | (_, _) :: _, _ => by simp [numEdgesL]; omega

theorem edgeOfTip_found (t : T) (name : String) (h : name ∈ t.tipNames) :
    ∃ k, edgeOfTip t name = some k ∧ k < numEdges t := by
  unfold edgeOfTip
  cases t with
  | node d p ks =>
    split
    next hc =>
      refine ⟨0, rfl, ?_⟩
      simp only [T.kids_node, Bool.and_eq_true, beq_iff_eq] at hc
      rw [numEdges_node]; exact numEdgesL_pos_of_length ks (by omega)
    next hc =>
      have hl : name ∈ leavesL ks := by
        unfold T.tipNames at h
        simp only [T.kids_node, List.mem_append] at h
        cases h with
        | inr h2 => exact h2
        | inl h1 =>
          exfalso; apply hc
          simp at h1
          simp only [T.kids_node, Bool.and_eq_true, beq_iff_eq]
          exact ⟨h1.1, h1.2.symm⟩
      obtain ⟨s, hs, h1, h2⟩ := tipSplitL_of_mem name ks hl
      have hex : ∃ s ∈ splitsL ks, (s.tip && s.below == [name]) = true := ⟨s, hs, by simp [h1, h2]⟩
      refine ⟨_, by simpa [T.splits] using List.findIdx?_eq_some_of_exists hex, ?_⟩
      rw [numEdges_node, ← splitsL_length]; exact List.findIdx_lt_length_of_exists hex


/-! ### the invariant of the three insertion loops -/

theorem tipNames_applyAt (f : EdgeD × T → EdgeD × T) (name : String)
    (hf : ∀ e t, ((f (e, t)).2.leaves).Perm (name :: t.leaves)) (t : T) (k : Nat) (h : k < numEdges t) :
    ((applyAt f k t).tipNames).Perm (name :: t.tipNames) := by
  unfold T.tipNames
  rw [applyAt_kids, applyAt_name, applyAtL_length]
  have h2 : k < numEdgesL t.kids := by cases t; simpa [numEdges] using h
  exact (List.Perm.append_left _ (leavesL_applyAtL f name hf t.kids k h2)).trans List.perm_middle

/-- state of the tree under construction when tips `0 … i-1` are in -/
structure InvT (rooted : Bool) (i : Nat) (t : T) : Prop where
  bin : binaryL t.kids = true
  deg : t.kids.length = if rooted then 2 else 1
  tips : (t.tipNames).Perm (tipNamesUpTo i)
  lens : edgesAllL nonneg t.kids = true
  ne : numEdges t = (if rooted then 2 else 1) + 2 * (i - 2)

theorem tipNamesUpTo_succ (i : Nat) : tipNamesUpTo (i + 1) = tipNamesUpTo i ++ [tipName i] := by
  simp [tipNamesUpTo, List.range_succ]

theorem graftAt_inv (rooted : Bool) (i : Nat) (t : T) (l0 l1 l2 : Rat) (k : Nat)
    (h : InvT rooted i t) (hi : 2 ≤ i) (hk : k < numEdges t) (h0 : 0 ≤ l0) (h1 : 0 ≤ l1) (h2 : 0 ≤ l2) :
    ∃ t', graftAt (tipName i) l0 l1 l2 k t = .ok t' ∧ InvT rooted (i + 1) t' ∧ numEdges t' = numEdges t + 2 := by
  refine ⟨applyAt (graftLen (tipName i) l0 l1 l2) k t, by simp [graftAt, hk], ?_, ?_⟩
  · have hne := numEdges_applyAt _ 2 (graftLen_numEdges (tipName i) l0 l1 l2) t k hk
    constructor
    · rw [applyAt_kids]; exact binaryL_applyAtL _ (graftLen_binary (tipName i) l0 l1 l2) _ _ h.bin
    · rw [applyAt_kids, applyAtL_length]; exact h.deg
    · rw [tipNamesUpTo_succ]
      exact (tipNames_applyAt _ (tipName i) (graftLen_leaves (tipName i) l0 l1 l2) t k hk).trans
        ((List.Perm.cons _ h.tips).trans (List.perm_append_singleton _ _).symm)
    · rw [applyAt_kids]; exact edgesAllL_applyAtL nonneg _ (graftLen_nonneg (tipName i) l0 l1 l2 h0 h1 h2) _ _ h.lens
    · rw [hne, h.ne]; omega
  · exact numEdges_applyAt _ 2 (graftLen_numEdges (tipName i) l0 l1 l2) t k hk

theorem lenAt_nonneg (lens : List Rat) (h : lensNonneg lens = true) (j : Nat) : 0 ≤ lenAt lens j := by
  unfold lenAt
  rw [List.getD_eq_getElem?_getD]
  cases hx : lens[j]? with
  | none => simp
  | some x =>
    have hm : x ∈ lens := List.mem_of_getElem? hx
    unfold lensNonneg at h
    rw [List.all_eq_true] at h
    simpa using h x hm

theorem iter_inv (step : Nat → St → Res St) (P : Nat → St → Prop) (n : Nat)
    (hstep : ∀ i s, 2 ≤ i → i < n → P i s → ∃ s', step i s = .ok s' ∧ P (i + 1) s') :
    ∀ (c i : Nat) (s : St), 2 ≤ i → i + c ≤ n → P i s → ∃ s', iter step c i s = .ok s' ∧ P (i + c) s'
  | 0, i, s, _, _, hp => ⟨s, rfl, hp⟩
  | c + 1, i, s, h2, hn, hp => by
    obtain ⟨s1, hs1, hp1⟩ := hstep i s h2 (by omega) hp
    obtain ⟨s2, hs2, hp2⟩ := iter_inv step P n hstep c (i + 1) s1 (by omega) (by omega) hp1
    refine ⟨s2, ?_, ?_⟩
    · simp only [iter, hs1]; exact hs2
    · have : i + (c + 1) = i + 1 + c := by omega
      rw [this]; exact hp2

theorem initTree_inv (rooted : Bool) (lens : List Rat) (hl : lensNonneg lens = true) :
    InvT rooted 2 (initTree rooted lens).1 := by
  have h0 := lenAt_nonneg lens hl 0
  have h1 := lenAt_nonneg lens hl 1
  cases rooted
  · constructor <;> simp [initTree, binaryL, T.binaryBelow, T.leaf, T.tipNames, leavesL, T.leaves, T.name,
      tipNamesUpTo, List.range_succ, edgesAllL, edgesAllT, nonneg, newEdge, numEdges, numEdgesL, h0]
  · constructor <;> simp [initTree, binaryL, T.binaryBelow, T.leaf, T.tipNames, leavesL, T.leaves, T.name,
      tipNamesUpTo, List.range_succ, edgesAllL, edgesAllT, nonneg, newEdge, numEdges, numEdgesL, h0, h1]
    exact List.Perm.swap _ _ _


/-! ### the three loop bodies keep the invariant -/

theorem drawsInRange_lt (g : GenKind) (n : Nat) (rooted : Bool) (ints : List Nat)
    (h : drawsInRange g n rooted ints = true) (j : Nat) (hj : j < g.nints n) :
    ints.getD j 0 < g.bound rooted j := by
  unfold drawsInRange at h
  rw [List.all_eq_true] at h
  simpa using h j (List.mem_range.mpr hj)

def PU (rooted : Bool) (i : Nat) (s : St) : Prop :=
  InvT rooted i s.t ∧ s.edges.length = numEdges s.t ∧ ∀ x ∈ s.edges, x < numEdges s.t

def PY (rooted : Bool) (i : Nat) (s : St) : Prop :=
  InvT rooted i s.t ∧ s.tips = tipNamesUpTo i

def PC (rooted : Bool) (i : Nat) (s : St) : Prop := InvT rooted i s.t

theorem shiftPos_le (k x : Nat) : shiftPos k x ≤ x + 2 := by
  unfold shiftPos; split <;> omega

theorem uniformStep_inv (n : Nat) (rooted : Bool) (ints : List Nat) (lens : List Rat)
    (hd : drawsInRange .uniform n rooted ints = true) (hl : lensNonneg lens = true)
    (i : Nat) (s : St) (h2 : 2 ≤ i) (hn : i < n) (hp : PU rooted i s) :
    ∃ s', uniformStep ints lens i s = .ok s' ∧ PU rooted (i + 1) s' := by
  obtain ⟨hI, hlen, hall⟩ := hp
  have hj := drawsInRange_lt .uniform n rooted ints hd (i - 2) (by simp [GenKind.nints]; omega)
  have hj2 : ints.getD (i - 2) 0 < s.edges.length := by
    rw [hlen, hI.ne]; simpa [GenKind.bound] using hj
  have hget : s.edges[ints.getD (i - 2) 0]? = some (s.edges[ints.getD (i - 2) 0]) := List.getElem?_eq_getElem hj2
  have hk : s.edges[ints.getD (i - 2) 0] < numEdges s.t := hall _ (List.getElem_mem hj2)
  obtain ⟨t', hg, hI', hne'⟩ := graftAt_inv rooted i s.t _ _ _ _ hI h2 hk
    (lenAt_nonneg lens hl s.li) (lenAt_nonneg lens hl (s.li + 1)) (lenAt_nonneg lens hl (s.li + 2))
  refine ⟨_, by simp only [uniformStep, hget, hg]; rfl, hI', ?_, ?_⟩
  · simp [hne', hlen]
  · intro x hx
    simp only [List.mem_append, List.mem_map, List.mem_cons, List.not_mem_nil, or_false] at hx
    rw [hne']
    rcases hx with ⟨y, hy, rfl⟩ | rfl | rfl
    · have := hall y hy; have := shiftPos_le (s.edges[ints.getD (i - 2) 0]) y; omega
    · omega
    · omega

theorem tipNamesUpTo_length (n : Nat) : (tipNamesUpTo n).length = n := by simp [tipNamesUpTo]

theorem yuleStep_inv (n : Nat) (rooted : Bool) (ints : List Nat) (lens : List Rat)
    (hd : drawsInRange .yule n rooted ints = true) (hl : lensNonneg lens = true)
    (i : Nat) (s : St) (h2 : 2 ≤ i) (hn : i < n) (hp : PY rooted i s) :
    ∃ s', yuleStep ints lens i s = .ok s' ∧ PY rooted (i + 1) s' := by
  obtain ⟨hI, htips⟩ := hp
  have hj := drawsInRange_lt .yule n rooted ints hd (i - 2) (by simp [GenKind.nints]; omega)
  have hj2 : ints.getD (i - 2) 0 < s.tips.length := by
    rw [htips, tipNamesUpTo_length]; simp only [GenKind.bound] at hj; omega
  have hget : s.tips[ints.getD (i - 2) 0]? = some (s.tips[ints.getD (i - 2) 0]) := List.getElem?_eq_getElem hj2
  have hmem : s.tips[ints.getD (i - 2) 0] ∈ s.t.tipNames := by
    have : s.tips[ints.getD (i - 2) 0] ∈ tipNamesUpTo i := htips ▸ List.getElem_mem hj2
    exact hI.tips.symm.subset this
  obtain ⟨k, hk, hlt⟩ := edgeOfTip_found s.t _ hmem
  obtain ⟨t', hg, hI', _⟩ := graftAt_inv rooted i s.t _ _ _ _ hI h2 hlt
    (lenAt_nonneg lens hl s.li) (lenAt_nonneg lens hl (s.li + 1)) (lenAt_nonneg lens hl (s.li + 2))
  refine ⟨_, by simp only [yuleStep, hget, hk, hg]; rfl, hI', ?_⟩
  simp [htips, tipNamesUpTo_succ]

theorem tipName_mem_upTo (i j : Nat) (h : j < i) : tipName j ∈ tipNamesUpTo i := by
  unfold tipNamesUpTo
  exact List.mem_map.mpr ⟨j, List.mem_range.mpr h, rfl⟩

theorem caterStep_inv (n : Nat) (rooted : Bool) (lens : List Rat) (hl : lensNonneg lens = true)
    (i : Nat) (s : St) (h2 : 2 ≤ i) (_ : i < n) (hp : PC rooted i s) :
    ∃ s', caterStep lens i s = .ok s' ∧ PC rooted (i + 1) s' := by
  have hI : InvT rooted i s.t := hp
  have hmem : tipName (i - 1) ∈ s.t.tipNames := hI.tips.symm.subset (tipName_mem_upTo i (i - 1) (by omega))
  obtain ⟨k, hk, hlt⟩ := edgeOfTip_found s.t _ hmem
  obtain ⟨t', hg, hI', _⟩ := graftAt_inv rooted i s.t _ _ _ _ hI h2 hlt
    (lenAt_nonneg lens hl s.li) (lenAt_nonneg lens hl (s.li + 1)) (lenAt_nonneg lens hl (s.li + 2))
  refine ⟨{ s with t := t', li := s.li + 3 }, by simp only [caterStep, hk, hg], ?_⟩
  exact hI'


/-! ### the tip index -/

theorem hasDup_eq : ∀ (l : List String), hasDup l = !decide l.Nodup
  | [] => by simp [hasDup]
  | a :: r => by
    by_cases h1 : a ∈ r <;> by_cases h2 : r.Nodup <;> simp [hasDup, hasDup_eq r, List.nodup_cons, h1, h2]

theorem hasDup_false_of_nodup (l : List String) (h : l.Nodup) : hasDup l = false := by simp [hasDup_eq, h]

theorem hasDup_true_of_not_nodup (l : List String) (h : ¬ l.Nodup) : hasDup l = true := by simp [hasDup_eq, h]

theorem hasDup_perm {a b : List String} (h : a.Perm b) : hasDup a = hasDup b := by
  rw [hasDup_eq, hasDup_eq, decide_eq_decide.mpr h.nodup_iff]

theorem indexReady_of_perm (t : T) (n : Nat) (h : t.tipNames.Perm (tipNamesUpTo n)) :
    indexReady (finishOut t) = true := by
  have hn : t.tipNames.Nodup := h.nodup_iff.mpr (tipNamesUpTo_nodup n)
  simp [indexReady, finishOut, updateTipIndex, hasDup_false_of_nodup _ hn]

/-! ### the end of the insertion generators -/

/-- what `gen_ok` promises about a returned tree -/
def GoodOut (rooted : Bool) (n : Nat) (o : Out) : Prop :=
  o.t.binary = true ∧ o.t.tipNames.Perm (tipNamesUpTo n) ∧ o.t.rooted = rooted ∧ lensOk o.t = true ∧
    indexReady o = true

theorem finish_rooted (i : Nat) (t : T) (h : InvT true i t) :
    ∃ o, finishIns true t = .ok o ∧ GoodOut true i o := by
  refine ⟨finishOut t, rfl, ?_, h.tips, ?_, ?_, indexReady_of_perm t i h.tips⟩
  · have := h.deg; simp at this
    simp [T.binary, finishOut, this, h.bin]
  · have := h.deg; simp at this
    simp [T.rooted, finishOut, this]
  · rw [lensOk_eq]; exact h.lens

theorem finishIns_unrooted_eq (d dc : NodeD) (p pc : Nat) (e : EdgeD) (a b : EdgeD × T) :
    finishIns false (.node d p [(e, .node dc pc [a, b])]) =
      .ok (finishOut (.node dc 0 (([a, b].take pc) ++ (e, .node d 0 []) :: [a, b].drop pc))) := by
  obtain ⟨ea, ta⟩ := a
  obtain ⟨eb, tb⟩ := b
  simp [finishIns, rerootFirst, firstDeg3, firstDeg3L, rerootPath, rerootGo, moveRoot]

/-- the tree is a tip root above an inner node with two children; `RerootFirst` moves the root there,
    the old root becoming its child at the position `pc` the parent had -/
theorem finish_unrooted (i : Nat) (t : T) (hi : 3 ≤ i) (h : InvT false i t) :
    ∃ o, finishIns false t = .ok o ∧ GoodOut false i o := by
  obtain ⟨hbin, hdeg, htips, hlens, hne⟩ := h
  cases t with
  | node d p ks =>
    simp only [T.kids_node] at hbin hdeg hlens
    match ks, hdeg with
    | [(e, .node dc pc kc)], _ =>
      simp only [binaryL, T.binaryBelow, Bool.and_eq_true, Bool.or_eq_true, beq_iff_eq] at hbin
      simp only [numEdges, numEdgesL] at hne
      have hkc : kc.length = 2 := by
        rcases hbin.1.1 with h0 | h2
        · have : kc = [] := List.length_eq_zero_iff.mp h0
          subst this; simp [numEdgesL] at hne; omega
        · exact h2
      match kc, hkc with
      | [(ea, a), (eb, b)], _ =>
        simp only [binaryL, Bool.and_eq_true] at hbin
        simp only [edgesAllL, edgesAllT, Bool.and_eq_true] at hlens
        simp only [T.tipNames, T.kids_node, List.length_cons, List.length_nil, T.name, T.d_node,
          leavesL, T.leaves_node_cons] at htips
        refine ⟨_, finishIns_unrooted_eq d dc p pc e (ea, a) (eb, b), ?_⟩
        have hp : (T.node dc 0 ([(ea, a), (eb, b)].take pc ++ (e, .node d 0 []) :: [(ea, a), (eb, b)].drop pc)).tipNames.Perm
            (tipNamesUpTo i) := by
          refine List.Perm.trans ?_ htips
          rcases pc with _ | _ | pc <;> simp [T.tipNames, leavesL, T.leaves]
          rw [← List.append_assoc]; exact List.perm_append_singleton _ _
        refine ⟨?_, hp, ?_, ?_, indexReady_of_perm _ i hp⟩
        · rcases pc with _ | _ | pc <;>
            simp [finishOut, T.binary, binaryL, T.binaryBelow, hbin.1.2.1, hbin.1.2.2.1]
        · rcases pc with _ | _ | pc <;> simp [finishOut, T.rooted]
        · rw [lensOk_eq]
          rcases pc with _ | _ | pc <;>
            simp [finishOut, edgesAllL, edgesAllT, hlens.1.1, hlens.1.2.1.1, hlens.1.2.1.2, hlens.1.2.2.1.1, hlens.1.2.2.1.2]

/-! ### the insertion generators as a whole -/

theorem initSt_t (rooted : Bool) (lens : List Rat) : (initSt rooted lens).t = (initTree rooted lens).1 := by
  simp [initSt]

theorem initSt_edges (rooted : Bool) (lens : List Rat) :
    (initSt rooted lens).edges = List.range (numEdges (initTree rooted lens).1) := by
  simp [initSt]

theorem initSt_tips (rooted : Bool) (lens : List Rat) : (initSt rooted lens).tips = tipNamesUpTo 2 := by
  simp [initSt, tipNamesUpTo, List.range_succ]

/-- running the loop of an insertion generator, with its invariant at the end -/
theorem insertionGen_run (step : Nat → St → Res St) (P : Nat → St → Prop) (n : Nat) (rooted : Bool)
    (lens : List Rat) (h3 : 3 ≤ n) (hP0 : P 2 (initSt rooted lens))
    (hstep : ∀ i s, 2 ≤ i → i < n → P i s → ∃ s', step i s = .ok s' ∧ P (i + 1) s') :
    ∃ s, P n s ∧ insertionGen step (n : Int) rooted lens = finishIns rooted s.t := by
  obtain ⟨s, hs, hp⟩ := iter_inv step P n hstep (n - 2) 2 (initSt rooted lens) (by omega) (by omega) hP0
  have hn : 2 + (n - 2) = n := by omega
  rw [hn] at hp
  have h1 : ¬ ((n : Int) < 2) := by omega
  have h2 : ¬ ((n : Int) < 3) := by omega
  have h4 : (n : Int).toNat - 2 = n - 2 := by simp
  refine ⟨s, hp, ?_⟩
  unfold insertionGen insertionGenDoc2
  simp only [h1, h2, if_false, decide_false, Bool.false_and, h4, hs]
  rfl

theorem insertionGen_ok (step : Nat → St → Res St) (P : Nat → St → Prop) (n : Nat) (rooted : Bool)
    (lens : List Rat) (h3 : 3 ≤ n)
    (hP0 : P 2 (initSt rooted lens)) (hPI : ∀ i s, P i s → InvT rooted i s.t)
    (hstep : ∀ i s, 2 ≤ i → i < n → P i s → ∃ s', step i s = .ok s' ∧ P (i + 1) s') :
    ∃ o, insertionGen step (n : Int) rooted lens = .ok o ∧ GoodOut rooted n o := by
  obtain ⟨s, hp, hrun⟩ := insertionGen_run step P n rooted lens h3 hP0 hstep
  rw [hrun]
  cases rooted
  · exact finish_unrooted n s.t h3 (hPI n s hp)
  · exact finish_rooted n s.t (hPI n s hp)

theorem uniform_ok (n : Nat) (rooted : Bool) (ints : List Nat) (lens : List Rat) (h3 : 3 ≤ n)
    (hd : drawsInRange .uniform n rooted ints = true) (hl : lensNonneg lens = true) :
    ∃ o, uniform (n : Int) rooted ints lens = .ok o ∧ GoodOut rooted n o := by
  unfold uniform
  refine insertionGen_ok _ (PU rooted) n rooted lens h3 ?_ (fun i s h => h.1) (uniformStep_inv n rooted ints lens hd hl)
  refine ⟨?_, ?_, ?_⟩
  · rw [initSt_t]; exact initTree_inv rooted lens hl
  · rw [initSt_t, initSt_edges]; simp
  · rw [initSt_t, initSt_edges]; intro x hx; exact List.mem_range.mp hx

theorem yule_ok (n : Nat) (rooted : Bool) (ints : List Nat) (lens : List Rat) (h3 : 3 ≤ n)
    (hd : drawsInRange .yule n rooted ints = true) (hl : lensNonneg lens = true) :
    ∃ o, yule (n : Int) rooted ints lens = .ok o ∧ GoodOut rooted n o := by
  unfold yule
  refine insertionGen_ok _ (PY rooted) n rooted lens h3 ?_ (fun i s h => h.1) (yuleStep_inv n rooted ints lens hd hl)
  exact ⟨by rw [initSt_t]; exact initTree_inv rooted lens hl, initSt_tips rooted lens⟩

theorem caterpillar_ok (n : Nat) (rooted : Bool) (lens : List Rat) (h3 : 3 ≤ n) (hl : lensNonneg lens = true) :
    ∃ o, caterpillar (n : Int) rooted lens = .ok o ∧ GoodOut rooted n o := by
  unfold caterpillar
  refine insertionGen_ok _ (PC rooted) n rooted lens h3 ?_ (fun i s h => h) (caterStep_inv n rooted lens hl)
  show InvT rooted 2 (initSt rooted lens).t
  rw [initSt_t]; exact initTree_inv rooted lens hl


/-! ### the balanced generator -/

/-- what the two children built by `randomBalancedBinaryTreeRecur` look like -/
structure BalOK (f id : Nat) (ks : Kids) : Prop where
  bin : binaryL ks = true
  len : ks.length = 2
  leaves : leavesL ks = (List.range' id (2 ^ (f + 1))).map tipName
  lens : edgesAllL nonneg ks = true
  perfect : ∀ x ∈ ks, perfectH x.2 = some f

theorem perfectH_node_two (d : NodeD) (p : Nat) (ea eb : EdgeD) (a b : T) (f : Nat)
    (ha : perfectH a = some f) (hb : perfectH b = some f) :
    perfectH (.node d p [(ea, a), (eb, b)]) = some (f + 1) := by
  simp [perfectH, ha, hb]

theorem balKids_ok (lens : List Rat) (hl : lensNonneg lens = true) :
    ∀ (f id li : Nat), BalOK f id (balKids lens f id li).1 ∧ (balKids lens f id li).2.1 = id + 2 ^ (f + 1)
  | 0, id, li => by
    have h0 := lenAt_nonneg lens hl li
    have h1 := lenAt_nonneg lens hl (li + 1)
    refine ⟨⟨?_, ?_, ?_, ?_, ?_⟩, ?_⟩ <;>
      simp [balKids, binaryL, T.binaryBelow, T.leaf, leavesL, T.leaves, edgesAllL, edgesAllT, nonneg, newEdge,
        h0, h1, perfectH, List.range'_succ]
  | f + 1, id, li => by
    obtain ⟨h1, e1⟩ := balKids_ok lens hl f id (li + 2)
    obtain ⟨h2, e2⟩ := balKids_ok lens hl f (balKids lens f id (li + 2)).2.1 (balKids lens f id (li + 2)).2.2
    have hl0 := lenAt_nonneg lens hl li
    have hl1 := lenAt_nonneg lens hl (li + 1)
    generalize hr1 : balKids lens f id (li + 2) = r1 at *
    generalize hr2 : balKids lens f r1.2.1 r1.2.2 = r2 at *
    have hb : balKids lens (f + 1) id li =
        ([(newEdge (lenAt lens li), .node newNodeD 0 r1.1), (newEdge (lenAt lens (li + 1)), .node newNodeD 0 r2.1)],
          r2.2.1, r2.2.2) := by
      simp [balKids, hr1, hr2]
    rw [hb]
    have p1 : 0 < r1.1.length := by rw [h1.len]; omega
    have p2 : 0 < r2.1.length := by rw [h2.len]; omega
    refine ⟨⟨?_, rfl, ?_, ?_, ?_⟩, ?_⟩
    · simp [binaryL, T.binaryBelow, h1.len, h2.len, h1.bin, h2.bin]
    · simp only [leavesL, List.append_nil]
      rw [leaves_node_of_pos _ _ _ p1, leaves_node_of_pos _ _ _ p2, h1.leaves, h2.leaves, e1, ← List.map_append,
        List.range'_append_1]
      congr 2
      rw [Nat.pow_succ 2 (f + 1)]; omega
    · simp [edgesAllL, edgesAllT, nonneg, newEdge, hl0, hl1, h1.lens, h2.lens]
    · intro x hx
      have hp1 : perfectH (.node newNodeD 0 r1.1) = some (f + 1) := by
        match hk : r1.1, h1.len, h1.perfect with
        | [(ea, a), (eb, b)], _, hpf =>
          exact perfectH_node_two _ _ _ _ _ _ _ (hpf (ea, a) (by simp)) (hpf (eb, b) (by simp))
      have hp2 : perfectH (.node newNodeD 0 r2.1) = some (f + 1) := by
        match hk : r2.1, h2.len, h2.perfect with
        | [(ea, a), (eb, b)], _, hpf =>
          exact perfectH_node_two _ _ _ _ _ _ _ (hpf (ea, a) (by simp)) (hpf (eb, b) (by simp))
      simp only [List.mem_cons, List.not_mem_nil, or_false] at hx
      rcases hx with rfl | rfl
      · exact hp1
      · exact hp2
    · show r2.2.1 = id + 2 ^ (f + 1 + 1)
      rw [e2, e1, Nat.pow_succ 2 (f + 1)]; omega


theorem balKids_succ (lens : List Rat) (f id li : Nat) :
    balKids lens (f + 1) id li =
      ([(newEdge (lenAt lens li), .node newNodeD 0 (balKids lens f id (li + 2)).1),
        (newEdge (lenAt lens (li + 1)), .node newNodeD 0
          (balKids lens f (balKids lens f id (li + 2)).2.1 (balKids lens f id (li + 2)).2.2).1)],
       (balKids lens f (balKids lens f id (li + 2)).2.1 (balKids lens f id (li + 2)).2.2).2.1,
       (balKids lens f (balKids lens f id (li + 2)).2.1 (balKids lens f id (li + 2)).2.2).2.2) := by
  simp [balKids]

theorem sortNat_sorted (l : List Nat) (h : l.Pairwise (· ≤ ·)) : sortNat l = l := by
  unfold sortNat
  apply List.mergeSort_of_pairwise
  exact h.imp (by intro a b hab; simpa using hab)

theorem tipNamesUpTo_eq_range' (n : Nat) : tipNamesUpTo n = (List.range' 0 n).map tipName := by
  simp [tipNamesUpTo, List.range_eq_range']

theorem nonneg_ne_NIL (x : Rat) (h : 0 ≤ x) : (x != NIL) = true := by
  simp only [bne_iff_ne, ne_eq, NIL]
  intro hx; rw [hx] at h; exact absurd h (by decide)

theorem balanced_rooted_ok (d : Nat) (lens : List Rat) (hd : 1 ≤ d) (hl : lensNonneg lens = true) :
    ∃ o, balanced (d : Int) true lens = .ok o ∧ GoodOut true (2 ^ d) o ∧ balancedShape true d o.t = true := by
  have h1 : ¬ ((d : Int) < 1) := by omega
  obtain ⟨hb, _⟩ := balKids_ok lens hl (d - 1) 0 0
  have hd1 : d - 1 + 1 = d := by omega
  have ht : (d : Int).toNat - 1 = d - 1 := by simp
  refine ⟨finishOut (.node newNodeD 0 (balKids lens (d - 1) 0 0).1), ?_, ?_, ?_⟩
  · simp [balanced, h1]
  · have hp : (T.node newNodeD 0 (balKids lens (d - 1) 0 0).1).tipNames.Perm (tipNamesUpTo (2 ^ d)) := by
      simp only [T.tipNames, T.kids_node, hb.len]
      rw [tipNamesUpTo_eq_range', hb.leaves, hd1]
      simp
    refine ⟨?_, hp, ?_, ?_, indexReady_of_perm _ _ hp⟩
    · simp [finishOut, T.binary, hb.len, hb.bin]
    · simp [finishOut, T.rooted, hb.len]
    · rw [lensOk_eq]; exact hb.lens
  · match hk : (balKids lens (d - 1) 0 0).1, hb.len, hb.perfect with
    | [(ea, a), (eb, b)], _, hpf =>
      have ha := hpf (ea, a) (by simp)
      have hb' := hpf (eb, b) (by simp)
      simp only at ha hb'
      have hs : sortNat [d - 1, d - 1] = [d - 1, d - 1] :=
        sortNat_sorted _ (List.pairwise_cons.mpr ⟨fun x hx => by simp at hx; omega, List.pairwise_singleton _ _⟩)
      simp [balancedShape, finishOut, ha, hb', hs]


theorem max0_of_nonneg (x : Rat) (h : 0 ≤ x) : max0 x = x := by simp [max0, h]

theorem balanced_unrooted_ok (d : Nat) (lens : List Rat) (hd : 2 ≤ d) (hl : lensNonneg lens = true) :
    ∃ o, balanced (d : Int) false lens = .ok o ∧ GoodOut false (2 ^ d) o ∧ balancedShape false d o.t = true := by
  have h1 : ¬ ((d : Int) < 1) := by omega
  have h2 : ¬ ((d : Int) < 2) := by omega
  obtain ⟨f, rfl⟩ : ∃ f, d = f + 2 := ⟨d - 2, by omega⟩
  have ht : ((f + 2 : Nat) : Int).toNat - 1 = f + 1 := by omega
  obtain ⟨hb, _⟩ := balKids_ok lens hl (f + 1) 0 0
  obtain ⟨hb1, e1⟩ := balKids_ok lens hl f 0 (0 + 2)
  obtain ⟨hb2, _⟩ := balKids_ok lens hl f (balKids lens f 0 (0 + 2)).2.1 (balKids lens f 0 (0 + 2)).2.2
  have hl0 := lenAt_nonneg lens hl 0
  have hl1 := lenAt_nonneg lens hl (0 + 1)
  have hleaves := hb.leaves
  have hlensK := hb.lens
  rw [balKids_succ] at hleaves hlensK
  generalize hr1 : balKids lens f 0 (0 + 2) = r1 at *
  generalize hr2 : balKids lens f r1.2.1 r1.2.2 = r2 at *
  match hk1 : r1.1, hb1.len, hb1.perfect, hb1.bin with
  | [(ea, a), (eb, b)], _, hpf1, hbin1 =>
  match hk2 : r2.1, hb2.len, hb2.perfect, hb2.bin with
  | [(ec, c), (ed, dd)], _, hpf2, hbin2 =>
    have hpa := hpf1 (ea, a) (by simp)
    have hpb := hpf1 (eb, b) (by simp)
    have hpc := hpf2 (ec, c) (by simp)
    have hpd := hpf2 (ed, dd) (by simp)
    simp only at hpa hpb hpc hpd
    simp only [hk1, hk2, leavesL, T.leaves_node_cons, List.append_nil] at hleaves
    simp only [hk1, hk2, edgesAllL, edgesAllT, Bool.and_eq_true, Bool.and_true] at hlensK
    simp only [binaryL, Bool.and_eq_true, Bool.and_true] at hbin1 hbin2
    let e3 : EdgeD := { EdgeD.blank with len := lenAt lens 0 + lenAt lens (0 + 1), sup := NIL }
    refine ⟨finishOut (.node newNodeD 0 [(ea, a), (eb, b), (e3, .node newNodeD 2 [(ec, c), (ed, dd)])]), ?_, ?_, ?_⟩
    · simp only [balanced, h1, h2, if_false, ht, decide_false, Bool.false_and, Bool.false_eq_true]
      rw [balKids_succ, hr1, hr2, hk1, hk2]
      have hne : ¬ lenAt lens 0 = -1 := by intro hx; rw [hx] at hl0; exact absurd hl0 (by decide)
      simp [unroot, T.isLeaf, newEdge, hne, max0_of_nonneg _ hl0, max0_of_nonneg _ hl1, EdgeD.blank, e3, NIL]
    · have hp : (T.node newNodeD 0 [(ea, a), (eb, b), (e3, .node newNodeD 2 [(ec, c), (ed, dd)])]).tipNames.Perm
          (tipNamesUpTo (2 ^ (f + 2))) := by
        simp only [T.tipNames, T.kids_node, leavesL, T.leaves_node_cons, List.append_nil]
        rw [tipNamesUpTo_eq_range', ← hleaves]
        simp
      refine ⟨?_, hp, ?_, ?_, indexReady_of_perm _ _ hp⟩
      · simp [finishOut, T.binary, binaryL, T.binaryBelow, hbin1.1, hbin1.2, hbin2.1, hbin2.2]
      · simp [finishOut, T.rooted]
      · rw [lensOk_eq]
        have : 0 ≤ lenAt lens 0 + lenAt lens (0 + 1) := Rat.add_nonneg hl0 hl1
        have he3 : nonneg e3 = true := by simp [nonneg, e3, this]
        obtain ⟨⟨_, ⟨h_ea, h_a⟩, h_eb, h_b⟩, _, ⟨h_ec, h_c⟩, h_ed, h_d⟩ := hlensK
        simp [finishOut, edgesAllL, edgesAllT, h_ea, h_a, h_eb, h_b, h_ec, h_c, h_ed, h_d, he3]
    · have hpn : perfectH (.node newNodeD 2 [(ec, c), (ed, dd)]) = some (f + 1) :=
        perfectH_node_two _ _ _ _ _ _ _ hpc hpd
      have hs : sortNat [f, f, f + 1] = [f, f, f + 1] :=
        sortNat_sorted _ (by simp)
      simp [balancedShape, finishOut, hpa, hpb, hpn, hs]

theorem balanced_ok (d : Nat) (rooted : Bool) (lens : List Rat) (h : GenKind.balanced.min rooted ≤ d)
    (hl : lensNonneg lens = true) :
    ∃ o, balanced (d : Int) rooted lens = .ok o ∧ GoodOut rooted (2 ^ d) o ∧ balancedShape rooted d o.t = true := by
  cases rooted
  · exact balanced_unrooted_ok d lens h hl
  · exact balanced_rooted_ok d lens h hl

/-! ### the star -/

theorem leavesL_map_leaf' (e : Nat → EdgeD) (g : Nat → String) (l : List Nat) :
    leavesL (l.map fun i => (e i, T.leaf (g i))) = l.map g := leavesL_map_leaf e g l

theorem edgesAllL_map_leaf {α : Type} (p : EdgeD → Bool) (e : α → EdgeD) (g : α → String) (h : ∀ i, p (e i) = true) :
    ∀ (l : List α), edgesAllL p (l.map fun i => (e i, T.leaf (g i))) = true
  | [] => rfl
  | a :: r => by
    have ih := edgesAllL_map_leaf p e g h r
    simp only [List.map_cons, edgesAllL, edgesAllT, T.leaf] at ih ⊢
    rw [ih]; simp [h a]

theorem star_ok (n : Nat) (h2 : 2 ≤ n) :
    ∃ o, star (n : Int) = .ok o ∧ o.t.tipNames.Perm (tipNamesUpTo n) ∧ lensOk o.t = true ∧
      indexReady o = true ∧ starShape n o.t = true := by
  have h1 : ¬ ((n : Int) < 2) := by omega
  refine ⟨_, by simp only [star, h1, if_false]; rfl, ?_⟩
  have hlen : ((List.range ((n : Int).toNat)).map fun i => (newEdge 1, T.leaf (tipName i))).length = n := by simp
  have hp : (finishOut (.node newNodeD 0 ((List.range ((n : Int).toNat)).map fun i => (newEdge 1, T.leaf (tipName i))))).t.tipNames.Perm
      (tipNamesUpTo n) := by
    have hn1 : (n == 1) = false := by simp; omega
    simp only [finishOut, T.tipNames, T.kids_node, hlen, hn1]
    rw [leavesL_map_leaf (fun _ => newEdge 1) tipName]
    simp [tipNamesUpTo]
  refine ⟨hp, ?_, indexReady_of_perm _ n hp, ?_⟩
  · rw [lensOk_eq]
    exact edgesAllL_map_leaf nonneg (fun _ => newEdge 1) tipName (by intro i; simp only [nonneg, newEdge]; decide) _
  · simp [starShape, finishOut, T.isLeaf, T.leaf]

/-! ### rejection -/

theorem insertionGen_rejects (step : Nat → St → Res St) (n : Int) (rooted : Bool) (lens : List Rat) (h : n < 3) :
    (insertionGen step n rooted lens).isErr = true := by
  simp [insertionGen, h, Res.isErr]

/-- the frame before f417e91 rejected the same sizes (n = 2 unrooted through `RerootFirst`) -/
theorem insertionGenDoc2_rejects (step : Nat → St → Res St) (n : Int) (rooted : Bool) (lens : List Rat) (h : n < 3) :
    (insertionGenDoc2 step n rooted lens).isErr = true := by
  by_cases h2 : n < 2
  · simp [insertionGenDoc2, h2, Res.isErr]
  · have : n = 2 := by omega
    subst this
    cases rooted
    · simp [insertionGenDoc2, iter, initSt, initTree, finishIns, rerootFirst, firstDeg3, firstDeg3L, T.leaf, Res.isErr]
    · simp [insertionGenDoc2, Res.isErr]

/-! ### counting the enumeration -/

def cnt : Nat → Nat → Nat
  | 0, _ => 1
  | f + 1, m => m * cnt f (m + 2)

/-- the backtracking without the final copy: the trees on which `Clone` (and the removal of the
    start node) are called, in order -/
def allTopoRaw (nm : Nat → String) : Nat → T → Nat → List T
  | 0, t, _ => [t]
  | f + 1, t, total =>
    (List.range (numEdges t)).flatMap fun k =>
      allTopoRaw nm f (applyAt (graftLen (nm total) NIL NIL NIL) k t) (total + 1)

theorem allTopoRec_eq_map (nm : Nat → String) : ∀ (f : Nat) (t : T) (total : Nat),
    allTopoRec nm f t total = (allTopoRaw nm f t total).map (fun v => dropStem (clone v))
  | 0, t, total => by simp [allTopoRec, allTopoRaw]
  | f + 1, t, total => by
    simp only [allTopoRec, allTopoRaw, List.map_flatMap]
    congr 1
    funext k
    exact allTopoRec_eq_map nm f _ (total + 1)

theorem allTopoRaw_length (nm : Nat → String) : ∀ (f : Nat) (t : T) (total : Nat),
    (allTopoRaw nm f t total).length = cnt f (numEdges t)
  | 0, t, total => by simp [allTopoRaw, cnt]
  | f + 1, t, total => by
    simp only [allTopoRaw, cnt, List.length_flatMap]
    rw [List.map_eq_replicate_iff.mpr fun k hk => by
      rw [allTopoRaw_length nm f _ (total + 1),
        numEdges_applyAt _ 2 (graftLen_numEdges (nm total) NIL NIL NIL) t k (List.mem_range.mp hk)],
      List.sum_replicate_nat, List.length_range]

theorem dfact_succ_succ (n : Nat) : dfact (n + 2) = (n + 2) * dfact n := by simp [dfact]

theorem cnt_dfact : ∀ (f m : Nat), cnt f (m + 2) * dfact m = dfact (m + 2 * f)
  | 0, m => by simp [cnt]
  | f + 1, m => by
    have ih := cnt_dfact f (m + 2)
    rw [dfact_succ_succ] at ih
    have e : m + 2 * (f + 1) = m + 2 + 2 * f := by omega
    rw [e, ← ih]
    simp only [cnt]
    rw [Nat.mul_assoc, Nat.mul_left_comm]


/-! ### ExistsTip on a ready index -/

theorem insertSorted_perm (a : String) : ∀ (l : List String), (insertSorted a l).Perm (a :: l)
  | [] => by simp [insertSorted]
  | b :: r => by
    unfold insertSorted
    split
    · exact List.Perm.refl _
    · exact ((insertSorted_perm a r).cons b).trans (List.Perm.swap a b r)

theorem sortNames_perm : ∀ (l : List String), (sortNames l).Perm l
  | [] => by simp [sortNames]
  | a :: r => by
    have ih := sortNames_perm r
    unfold sortNames at ih ⊢
    simp only [List.foldr_cons]
    exact (insertSorted_perm a _).trans (ih.cons a)

theorem ntips_pos (g : GenKind) (n : Nat) (rooted : Bool) (h : g.min rooted ≤ n) : 0 < g.ntips n := by
  cases g <;> simp [GenKind.ntips, GenKind.min] at * <;> try omega
  exact Nat.pow_pos (by decide)

theorem existsTip_of_ready (o : Out) (m : Nat) (hp : o.t.tipNames.Perm (tipNamesUpTo m))
    (hix : indexReady o = true) (hm : 0 < m) (name : String) :
    o.existsTip name = some (decide (name ∈ tipNamesUpTo m)) := by
  unfold indexReady at hix
  have hi : o.index = some (sortNames o.t.tipNames) := by simpa using hix
  unfold Out.existsTip
  rw [hi]
  have hlen : (sortNames o.t.tipNames).length = m := by
    rw [(sortNames_perm _).length_eq, hp.length_eq, tipNamesUpTo_length]
  match hs : sortNames o.t.tipNames with
  | [] => rw [hs] at hlen; simp at hlen; omega
  | a :: r =>
    simp only
    congr 1
    have : (name ∈ a :: r) ↔ name ∈ tipNamesUpTo m := by
      rw [← hs, (sortNames_perm _).mem_iff]; exact hp.mem_iff
    simp only [List.contains_eq_mem, this]

end Gotree.C16

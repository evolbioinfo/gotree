/-
  C16 — the caterpillar shape (the ladder `Lad` the loop grows), and the enumeration's backtracking:
  `Clone`, the invariant `TI`, what the returned copy `dropStem (clone v)` is.
-/
import Gotree.Lemmas.C16

namespace Gotree.C16
open Gotree

/-- the spine the caterpillar generator grows: `m` inner nodes, each carrying the rest of the
    spine as first child and one tip as second child; `last` is the tip at the bottom -/
inductive Lad : Nat → String → T → Prop where
  | leaf (d : NodeD) (p : Nat) : Lad 0 d.name (.node d p [])
  | step {m : Nat} {last : String} {c : T} (d : NodeD) (p : Nat) (e1 e2 : EdgeD) (dx : NodeD) (px : Nat) :
      Lad m last c → Lad (m + 1) last (.node d p [(e1, c), (e2, .node dx px [])])

theorem lad_numEdges {m : Nat} {last : String} {c : T} (h : Lad m last c) : numEdges c = 2 * m := by
  induction h with
  | leaf d p => simp [numEdges, numEdgesL]
  | step d p e1 e2 dx px _ ih => simp [numEdges, numEdgesL] at *; omega

theorem lad_find {m : Nat} {last : String} {c : T} (h : Lad m last c) :
    ∀ (e : EdgeD) (r : Kids),
      (splitsL ((e, c) :: r)).findIdx? (fun s => s.tip && s.below == [last]) = some m := by
  induction h with
  | leaf d p => intro e r; simp [splitsL, T.leaves, T.isLeaf, List.findIdx?_cons]
  | @step m' last' c' d p e1 e2 dx px _ ih =>
    intro e r
    have h1 := ih e1 [(e2, .node dx px [])]
    have hsplit : splitsL ((e, T.node d p [(e1, c'), (e2, .node dx px [])]) :: r) =
        ⟨(T.node d p [(e1, c'), (e2, .node dx px [])]).leaves, e, false⟩ ::
          (splitsL [(e1, c'), (e2, .node dx px [])] ++ splitsL r) := by
      simp [splitsL, T.splitsBelow, T.isLeaf]
    rw [hsplit, List.findIdx?_cons]
    simp only [Bool.false_and, Bool.false_eq_true, if_false]
    rw [List.findIdx?_append, h1]
    simp

theorem lad_graft (new : String) (l0 l1 l2 : Rat) {m : Nat} {last : String} {c : T} (h : Lad m last c) :
    ∀ (e : EdgeD) (r : Kids), ∃ e' c', applyAtL (graftLen new l0 l1 l2) m ((e, c) :: r) = (e', c') :: r ∧
      Lad (m + 1) new c' := by
  induction h with
  | leaf d p =>
    intro e r
    refine ⟨(graftLen new l0 l1 l2 (e, .node d p [])).1, (graftLen new l0 l1 l2 (e, .node d p [])).2,
      by simp [applyAtL], ?_⟩
    rw [graftLen_eq]
    exact Lad.step newNodeD 1 _ _ d p (Lad.leaf ⟨new, []⟩ 0)
  | @step m' last' c' d p e1 e2 dx px hc ih =>
    intro e r
    obtain ⟨e1', c'', h1, h2⟩ := ih e1 [(e2, .node dx px [])]
    have hne := lad_numEdges hc
    have hlt : m' + 1 - 1 < numEdges (.node d p [(e1, c'), (e2, .node dx px [])]) := by
      simp [numEdges, numEdgesL, hne]; omega
    refine ⟨e, .node d p [(e1', c''), (e2, .node dx px [])], ?_, Lad.step d p e1' e2 dx px h2⟩
    have : applyAtL (graftLen new l0 l1 l2) (m' + 1) ((e, T.node d p [(e1, c'), (e2, .node dx px [])]) :: r) =
        (e, applyAt (graftLen new l0 l1 l2) (m' + 1 - 1) (T.node d p [(e1, c'), (e2, .node dx px [])])) :: r := by
      rw [applyAtL]
      simp only [Nat.add_one_ne_zero, if_false, hlt, if_true]
    rw [this]
    simp only [Nat.add_sub_cancel, applyAt, h1]

theorem caterBelow_lad {m : Nat} {last : String} {c : T} (h : Lad m last c) : caterBelow c = true := by
  induction h with
  | leaf d p => simp [caterBelow, innerCount, caterL]
  | step d p e1 e2 dx px _ ih =>
    simp only [caterBelow, caterL, ih, Bool.and_true, Bool.true_and, innerCount, List.filter, T.isLeaf, T.kids_node,
      List.isEmpty_nil, Bool.not_true]
    split <;> simp

/-- invariant of the caterpillar loop: the general one, and the spine (with `i-2` inner nodes,
    ending in the tip added last) hanging on the first branch of the root; in the rooted case the
    other root branch carries a tip -/
def PCS (rooted : Bool) (i : Nat) (s : St) : Prop :=
  InvT rooted i s.t ∧ ∃ e X r, Lad (i - 2) (tipName (i - 1)) X ∧ s.t.kids = (e, X) :: r ∧
    (r = [] ∨ ∃ e' dx px, r = [(e', .node dx px [])])

theorem lad_mem_leaves {m : Nat} {last : String} {c : T} (h : Lad m last c) : last ∈ c.leaves := by
  induction h with
  | leaf d p => simp [T.leaves]
  | @step m' last' c' d p e1 e2 dx px _ ih => simp [T.leaves, leavesL, ih]

theorem caterStepS_inv (n : Nat) (rooted : Bool) (lens : List Rat) (hl : lensNonneg lens = true)
    (i : Nat) (s : St) (h2 : 2 ≤ i) (_ : i < n) (hp : PCS rooted i s) :
    ∃ s', caterStep lens i s = .ok s' ∧ PCS rooted (i + 1) s' := by
  obtain ⟨hI, e, X, r, hLad, hk, hr⟩ := hp
  have hfind : edgeOfTip s.t (tipName (i - 1)) = some (i - 2) := by
    unfold edgeOfTip
    have hcond : (s.t.kids.length == 1 && s.t.name == tipName (i - 1)) = false := by
      by_cases h1 : s.t.kids.length = 1
      · -- the root is a tip: its name differs from every leaf name
        have hnd : s.t.tipNames.Nodup := hI.tips.nodup_iff.mpr (tipNamesUpTo_nodup i)
        have hmem : tipName (i - 1) ∈ leavesL s.t.kids := by
          rw [hk]; simp only [leavesL, List.mem_append]; exact Or.inl (lad_mem_leaves hLad)
        unfold T.tipNames at hnd
        simp only [h1, beq_self_eq_true, if_true, List.singleton_append, List.nodup_cons] at hnd
        have : s.t.name ≠ tipName (i - 1) := fun hx => hnd.1 (hx ▸ hmem)
        simp [this]
      · simp [h1]
    rw [hcond]
    simp only [Bool.false_eq_true, if_false, T.splits, hk]
    exact lad_find hLad e r
  have hlt : i - 2 < numEdges s.t := by
    have : numEdges s.t = numEdgesL s.t.kids := by cases s.t; simp [numEdges]
    rw [this, hk]; simp only [numEdgesL, lad_numEdges hLad]; omega
  obtain ⟨t', hg, hI', _⟩ := graftAt_inv rooted i s.t (lenAt lens s.li) (lenAt lens (s.li + 1)) (lenAt lens (s.li + 2))
    (i - 2) hI h2 hlt (lenAt_nonneg lens hl s.li) (lenAt_nonneg lens hl (s.li + 1)) (lenAt_nonneg lens hl (s.li + 2))
  have ht' : t' = applyAt (graftLen (tipName i) (lenAt lens s.li) (lenAt lens (s.li + 1)) (lenAt lens (s.li + 2))) (i - 2) s.t := by
    simp only [graftAt, hlt, if_true] at hg
    exact (Res.ok.inj hg).symm
  obtain ⟨e', c', hap, hLad'⟩ := lad_graft (tipName i) (lenAt lens s.li) (lenAt lens (s.li + 1)) (lenAt lens (s.li + 2)) hLad e r
  refine ⟨{ s with t := t', li := s.li + 3 }, by simp only [caterStep, hfind, hg], hI', e', c', r, ?_, ?_, hr⟩
  · have e1 : i + 1 - 2 = i - 2 + 1 := by omega
    have e2 : i + 1 - 1 = i := by omega
    rw [e1, e2]; exact hLad'
  · show t'.kids = (e', c') :: r
    rw [ht', applyAt_kids, hk, hap]

theorem initSt_PCS (rooted : Bool) (lens : List Rat) (hl : lensNonneg lens = true) : PCS rooted 2 (initSt rooted lens) := by
  refine ⟨by rw [initSt_t]; exact initTree_inv rooted lens hl, ?_⟩
  rw [initSt_t]
  cases rooted
  · exact ⟨newEdge (lenAt lens 0), T.leaf (tipName 1), [], Lad.leaf ⟨tipName 1, []⟩ 0, by simp [initTree], Or.inl rfl⟩
  · exact ⟨newEdge (lenAt lens 0), T.leaf (tipName 1), [(newEdge (lenAt lens 1), T.leaf (tipName 0))],
      Lad.leaf ⟨tipName 1, []⟩ 0, by simp [initTree], Or.inr ⟨_, _, _, rfl⟩⟩

theorem caterpillar_shape_lemma (n : Nat) (rooted : Bool) (lens : List Rat) (h3 : 3 ≤ n) (hl : lensNonneg lens = true) :
    ∃ o, caterpillar (n : Int) rooted lens = .ok o ∧ caterShape rooted o.t = true := by
  obtain ⟨s, ⟨hI, e, X, r, hLad, hk, hr⟩, hrun⟩ := insertionGen_run (caterStep lens) (PCS rooted) n rooted lens h3
    (initSt_PCS rooted lens hl) (caterStepS_inv n rooted lens hl)
  unfold caterpillar
  rw [hrun]
  have hcb := caterBelow_lad hLad
  cases rooted with
  | true =>
    refine ⟨finishOut s.t, rfl, ?_⟩
    have hdeg := hI.deg
    rcases hr with rfl | ⟨e', dx, px, rfl⟩
    · rw [hk] at hdeg; simp at hdeg
    · simp only [caterShape, finishOut, hk, if_true, caterL, hcb, Bool.true_and, Bool.and_true, innerCount, List.filter,
        T.isLeaf, T.kids_node, List.isEmpty_nil, Bool.not_true, caterBelow]
      split <;> simp
  | false =>
    have hdeg := hI.deg
    have hr0 : r = [] := by
      rcases hr with rfl | ⟨e', dx, px, rfl⟩
      · rfl
      · rw [hk] at hdeg; simp at hdeg
    subst hr0
    obtain ⟨m, hm⟩ : ∃ m, n - 2 = m + 1 := ⟨n - 3, by omega⟩
    rw [hm] at hLad
    cases hLad with
    | step dX pX e1 e2 dx px hc =>
      rename_i c
      have ht : s.t = .node s.t.d s.t.ppos [(e, .node dX pX [(e1, c), (e2, .node dx px [])])] := by
        cases hs : s.t with
        | node d0 p0 k0 => rw [hs] at hk; simp only [T.kids_node] at hk; simp [hk]
      rw [ht, finishIns_unrooted_eq]
      refine ⟨_, rfl, ?_⟩
      have hcc := caterBelow_lad hc
      rcases pX with _ | _ | k <;>
        simp only [caterShape, finishOut, List.take, List.drop, List.cons_append, List.nil_append, caterL, caterBelow, hcc,
          innerCount, List.filter, T.isLeaf, T.kids_node, List.isEmpty_nil, Bool.not_true] <;>
        split <;> simp [caterL, caterBelow, innerCount]

/-! ### every enumerated tree is a binary tree on Tip1..Tipn -/

mutual
theorem clone_leaves : ∀ (t : T), (clone t).leaves = t.leaves
  | .node d p [] => by simp [clone, cloneL, T.leaves]
  | .node d p ((e, t) :: r) => by
    have h := cloneL_leaves ((e, t) :: r)
    simp only [clone, cloneL] at h ⊢
    rw [T.leaves_node_cons, T.leaves_node_cons]; exact h
theorem cloneL_leaves : ∀ (ks : Kids), leavesL (cloneL ks) = leavesL ks
  | [] => rfl
  | (e, t) :: r => by simp only [cloneL, leavesL, clone_leaves t, cloneL_leaves r]
end

theorem cloneL_length : ∀ (ks : Kids), (cloneL ks).length = ks.length
  | [] => rfl
  | (e, t) :: r => by simp [cloneL, cloneL_length r]

mutual
theorem clone_binaryBelow : ∀ (t : T), (clone t).binaryBelow = t.binaryBelow
  | .node d p ks => by simp only [clone, T.binaryBelow, cloneL_length, cloneL_binaryL ks]
theorem cloneL_binaryL : ∀ (ks : Kids), binaryL (cloneL ks) = binaryL ks
  | [] => rfl
  | (e, t) :: r => by simp only [cloneL, binaryL, clone_binaryBelow t, cloneL_binaryL r]
end

theorem clone_kids (t : T) : (clone t).kids = cloneL t.kids := by cases t; simp [clone]

/-- the first `n` names of the enumeration -/
def namesUpTo (nm : Nat → String) (n : Nat) : List String := (List.range n).map nm

/-- invariant of the backtracking: binary below the root, fixed root degree, leaves = the first
    `total` names -/
structure TI (nm : Nat → String) (deg total : Nat) (t : T) : Prop where
  bin : binaryL t.kids = true
  deg : t.kids.length = deg
  leaves : (leavesL t.kids).Perm (namesUpTo nm total)

theorem namesUpTo_succ (nm : Nat → String) (n : Nat) : namesUpTo nm (n + 1) = namesUpTo nm n ++ [nm n] := by
  simp [namesUpTo, List.range_succ]

theorem TI_graft (nm : Nat → String) (deg total : Nat) (t : T) (k : Nat) (hk : k < numEdges t) (h : TI nm deg total t) :
    TI nm deg (total + 1) (applyAt (graftLen (nm total) NIL NIL NIL) k t) := by
  have h2 : k < numEdgesL t.kids := by cases t; simpa [numEdges] using hk
  constructor
  · rw [applyAt_kids]; exact binaryL_applyAtL _ (graftLen_binary _ NIL NIL NIL) _ _ h.bin
  · rw [applyAt_kids, applyAtL_length]; exact h.deg
  · rw [applyAt_kids, namesUpTo_succ]
    exact (leavesL_applyAtL _ (nm total) (graftLen_leaves _ NIL NIL NIL) t.kids k h2).trans
      ((List.Perm.cons _ h.leaves).trans (List.perm_append_singleton _ _).symm)

theorem allTopoRaw_wf (nm : Nat → String) (deg : Nat) : ∀ (f : Nat) (t : T) (total : Nat), TI nm deg total t →
    ∀ u ∈ allTopoRaw nm f t total, TI nm deg (total + f) u
  | 0, t, total, h, u, hu => by
    simp only [allTopoRaw, List.mem_singleton] at hu
    subst hu; exact h
  | f + 1, t, total, h, u, hu => by
    simp only [allTopoRaw, List.mem_flatMap, List.mem_range] at hu
    obtain ⟨k, hk, hu'⟩ := hu
    have := allTopoRaw_wf nm deg f _ (total + 1) (TI_graft nm deg total t k hk h) u hu'
    have e : total + (f + 1) = total + 1 + f := by omega
    rw [e]; exact this

/-- with three branches at the root nothing is dropped -/
theorem dropStem_of_three (t : T) (h : t.kids.length = 3) : dropStem t = t := by
  cases t with
  | node d p ks =>
    match ks, h with
    | [(ea, .node da pa ka), b, c], _ => rfl

/-- a backtracking tree of the rooted enumeration with at least two tips: the start node carries
    one inner node with two children -/
theorem TI_one_shape (nm : Nat → String) (total : Nat) (t : T) (h : TI nm 1 total t) (h2 : 2 ≤ total) :
    ∃ d p e dn pn a b, t = .node d p [(e, .node dn pn [a, b])] := by
  obtain ⟨hbin, hdeg, hleaves⟩ := h
  cases t with
  | node d p ks =>
    simp only [T.kids_node] at hbin hdeg hleaves
    match ks, hdeg with
    | [(e, .node dn pn kc)], _ =>
      simp only [binaryL, T.binaryBelow, Bool.and_eq_true, Bool.or_eq_true, beq_iff_eq] at hbin
      have hlen := hleaves.length_eq
      simp only [namesUpTo, List.length_map, List.length_range] at hlen
      rcases hbin.1.1 with h0 | h2'
      · have : kc = [] := List.length_eq_zero_iff.mp h0
        subst this
        simp [leavesL, T.leaves] at hlen; omega
      · match kc, h2' with
        | [a, b], _ => exact ⟨d, p, e, dn, pn, a, b, rfl⟩

/-- what the enumeration returns: binary below the root, root of degree 2 (rooted) / 3 (unrooted),
    tips = the first `total` names -/
theorem topo_out (nm : Nat → String) (rooted : Bool) (total : Nat) (v : T)
    (h : TI nm (if rooted then 1 else 3) total v) (h2 : 2 ≤ total) :
    let u := dropStem (clone v)
    binaryL u.kids = true ∧ u.kids.length = (if rooted then 2 else 3) ∧ (u.tipNames).Perm (namesUpTo nm total) := by
  cases rooted with
  | false =>
    simp only [Bool.false_eq_true, if_false] at h ⊢
    have hk : (clone v).kids.length = 3 := by rw [clone_kids, cloneL_length]; exact h.deg
    rw [dropStem_of_three _ hk]
    refine ⟨by rw [clone_kids, cloneL_binaryL]; exact h.bin, hk, ?_⟩
    simp only [T.tipNames, hk]
    rw [clone_kids, cloneL_leaves]; simpa using h.leaves
  | true =>
    simp only [if_true] at h ⊢
    obtain ⟨d, p, e, dn, pn, a, b, rfl⟩ := TI_one_shape nm total v h h2
    obtain ⟨ea, ta⟩ := a
    obtain ⟨eb, tb⟩ := b
    have hbin := h.bin
    have hleaves := h.leaves
    have hbb : ta.binaryBelow = true ∧ tb.binaryBelow = true := by
      simpa [binaryL, T.binaryBelow] using hbin
    simp only [T.kids_node, leavesL, T.leaves_node_cons, List.append_nil] at hleaves
    simp only [clone, cloneL, dropStem, T.kids_node, binaryL, clone_binaryBelow, hbb.1, hbb.2, Bool.and_self,
      List.length_cons, List.length_nil, T.tipNames, leavesL, clone_leaves, List.append_nil, true_and]
    simpa using hleaves

/-- the start tree of the enumeration satisfies the invariant -/
theorem TI_init (nm : Nat → String) (rooted : Bool) :
    TI nm (if rooted then 1 else 3) (topoInit nm rooted).2 (topoInit nm rooted).1 := by
  cases rooted <;>
    exact ⟨by simp [topoInit, binaryL, T.binaryBelow, T.leaf], rfl,
      by simp [topoInit, leavesL, T.leaves, T.leaf, namesUpTo, List.range_succ]⟩

/-- unfolding `allTopologies` on an accepted request -/
theorem allTopologies_eq (n : Nat) (rooted : Bool) (names : List String) (h : (if rooted then 2 else 3) ≤ n)
    (hn : names = [] ∨ names.length = n) :
    allTopologies (n : Int) rooted names =
      .ok (allTopoRec (topoName names) (n - (topoInit (topoName names) rooted).2) (topoInit (topoName names) rooted).1
        (topoInit (topoName names) rooted).2) := by
  have hnames : (decide (names.length > 0) && ((names.length : Int) != (n : Int))) = false := by
    rcases hn with rfl | hl
    · simp
    · simp [hl]
  cases rooted with
  | false =>
    simp only [Bool.false_eq_true, if_false] at h
    have h1 : ¬ ((n : Int) < 3) := by omega
    simp [allTopologies, h1, hnames, topoInit]
  | true =>
    simp only [if_true] at h
    have h1 : ¬ ((n : Int) < 2) := by omega
    simp [allTopologies, h1, hnames, topoInit]

end Gotree.C16

/-
  C10: the operations that give another presentation of the same tree — a tree
  with unique tips whose root is not a tip, on the same taxa, with the same set
  of splits: the one-edge root move (`C05.moveRoot`, what `Reroot` does one step
  away), reordering the children of any nodes, unrooting and rooting, and any
  sequence of these; and whatever C05 proves to permute `usplits` and `tipLens`.
-/
import Gotree.Lemmas.C10Sets
import Gotree.Lemmas.C05

namespace Gotree.C10
open Gotree

/-- `t'` presents the tree `t`: unique tips under a root that is not one, the same taxa, the same
    set of splits -/
def Presents (t t' : T) : Prop :=
  treeOK t' = true ∧ sameTaxa t t' = true ∧ splitsEquiv t.tipNames t t' = true

/-- the same tips up to order under a root that is not a tip: still `treeOK`, on the same taxa -/
theorem treeOK_of_tips_perm {t t' : T} (ht : treeOK t = true) (hp : t'.tipNames.Perm t.tipNames)
    (hroot : t'.kids.length ≠ 1) : treeOK t' = true ∧ sameTaxa t t' = true := by
  have ft := treeOK_facts t ht
  refine ⟨treeOK_iff.2 ⟨hp.nodup_iff.2 ft.nodup, fun e => ft.ne_nil (e ▸ hp).symm.eq_nil, hroot⟩,
    sameTaxa_iff.2 fun _ => hp.mem_iff.symm⟩

/-- the two sides of a branch define the same split -/
theorem sameSplit_of_compl {all A B : List String} (hn : all.Nodup) (hp : (A ++ B).Perm all) :
    sameSplit all A B = true :=
  sameSplit_iff.2 <| Or.inr fun _ =>
    ⟨fun hx => have ha := hp.mem_iff.1 (List.mem_append.2 (Or.inl hx)); ⟨ha, (mem_compl_iff hn hp ha).1 hx⟩,
     fun ⟨ha, hb⟩ => (mem_compl_iff hn hp ha).2 hb⟩

/-! ## the one-edge root move -/

/-- child `i` of the root becomes the root; the old root becomes its child at position `pc` -/
def rootMove : T → Nat → T
  | .node d p kids, i =>
    match kids[i]? with
    | none => .node d p kids
    | some (e, .node dc pc kc) =>
      .node dc 0 (kc.take pc ++ (e, .node d i (kids.eraseIdx i)) :: kc.drop pc)

theorem rootMove_eq : ∀ (t : T) (i : Nat), rootMove t i = C05.moveRoot t i
  | .node _ _ _, _ => rfl

/-- ★ the root move onto an inner child complements the side of the branch it crosses and keeps
    every other entry of the split list (`C05.moveRoot_splits_perm`) -/
theorem rootMove_ok (t : T) (i : Nat) (e : EdgeD) (dc : NodeD) (pc : Nat) (kc : Kids)
    (ht : treeOK t = true) (hi : t.kids[i]? = some (e, .node dc pc kc)) (hkc : kc ≠ []) :
    Presents t (rootMove t i) := by
  have ft := treeOK_facts t ht
  rw [rootMove_eq]
  have hroot : (C05.moveRoot t i).kids.length ≠ 1 := by
    have h1 := (insertAt_perm kc pc (e, C05.oldRoot t i)).length_eq
    have h2 := List.length_pos_iff.2 hkc
    rw [C05.moveRoot_of_get t i e _ hi]
    show (C05.insertAt kc pc (e, C05.oldRoot t i)).length ≠ 1
    rw [h1, List.length_cons]; omega
  obtain ⟨m1, m2⟩ := treeOK_of_tips_perm ht (C05.moveRoot_tips t i) hroot
  obtain ⟨rest, p1, p2⟩ := C05.moveRoot_splits_perm t i e _ hi
  obtain ⟨q, _⟩ := C05.moveRoot_tipNames_split t i e _ hi
  have cross : ∀ {x y : SplitE}, sameSplit t.tipNames x.below y.below = true →
      SubSplits t.tipNames (x :: rest) (y :: rest) := fun h =>
    (SubSplits.of_subset fun _ => List.mem_cons_of_mem _).cons (List.mem_cons_self ..) h
  exact ⟨m1, m2, splitsEquiv_iff.2
    ⟨(cross (sameSplit_of_compl ft.nodup q)).perm p1 p2,
     (cross (sameSplit_of_compl ft.nodup (List.perm_append_comm.trans q))).perm p2 p1⟩⟩

/-! ## reordering the children of any nodes -/

/- `RotT t t'`: `t'` is `t` with the children of any of its nodes reordered
   (same node data; branch data travels with the child). -/
mutual
def RotT : T → T → Prop
  | .node d _ k, .node d' _ k' => d = d' ∧ ∃ k'', RotK k k'' ∧ k''.Perm k'
def RotK : Kids → Kids → Prop
  | [], [] => True
  | (e, t) :: r, (e', t') :: r' => e = e' ∧ RotT t t' ∧ RotK r r'
  | [], _ :: _ => False
  | _ :: _, [] => False
end

/-- the two split lists describe the same sets of tips, entry for entry -/
def SL (l l' : List SplitE) : Prop :=
  (∀ s ∈ l, ∃ s' ∈ l', s.below.Perm s'.below) ∧ (∀ s' ∈ l', ∃ s ∈ l, s'.below.Perm s.below)

theorem SL_refl (l : List SplitE) : SL l l :=
  ⟨fun s hs => ⟨s, hs, List.Perm.refl _⟩, fun s hs => ⟨s, hs, List.Perm.refl _⟩⟩

theorem SL_of_perm {l l' : List SplitE} (h : l.Perm l') : SL l l' :=
  ⟨fun s hs => ⟨s, h.mem_iff.1 hs, List.Perm.refl _⟩, fun s hs => ⟨s, h.mem_iff.2 hs, List.Perm.refl _⟩⟩

theorem SL_trans {a b c : List SplitE} (h₁ : SL a b) (h₂ : SL b c) : SL a c := by
  constructor
  · intro s hs
    obtain ⟨s', hs', p1⟩ := h₁.1 s hs
    obtain ⟨s'', hs'', p2⟩ := h₂.1 s' hs'
    exact ⟨s'', hs'', p1.trans p2⟩
  · intro s hs
    obtain ⟨s', hs', p1⟩ := h₂.2 s hs
    obtain ⟨s'', hs'', p2⟩ := h₁.2 s' hs'
    exact ⟨s'', hs'', p1.trans p2⟩

theorem SL_append {a a' b b' : List SplitE} (h₁ : SL a a') (h₂ : SL b b') : SL (a ++ b) (a' ++ b') := by
  constructor
  · intro s hs
    rcases List.mem_append.1 hs with h | h
    · obtain ⟨s', hs', p⟩ := h₁.1 s h; exact ⟨s', List.mem_append.2 (Or.inl hs'), p⟩
    · obtain ⟨s', hs', p⟩ := h₂.1 s h; exact ⟨s', List.mem_append.2 (Or.inr hs'), p⟩
  · intro s hs
    rcases List.mem_append.1 hs with h | h
    · obtain ⟨s', hs', p⟩ := h₁.2 s h; exact ⟨s', List.mem_append.2 (Or.inl hs'), p⟩
    · obtain ⟨s', hs', p⟩ := h₂.2 s h; exact ⟨s', List.mem_append.2 (Or.inr hs'), p⟩

theorem SL_cons {a a' : List SplitE} (x x' : SplitE) (hx : x.below.Perm x'.below) (h : SL a a') :
    SL (x :: a) (x' :: a') :=
  SL_append (a := [x]) (a' := [x'])
    ⟨fun s hs => ⟨x', List.mem_cons_self .., by rw [List.mem_singleton.1 hs]; exact hx⟩,
     fun s hs => ⟨x, List.mem_cons_self .., by rw [List.mem_singleton.1 hs]; exact hx.symm⟩⟩ h

theorem SL.subSplits {l l' : List SplitE} (h : SL l l') (all : List String) :
    SubSplits all l l' ∧ SubSplits all l' l :=
  ⟨fun s hs => (h.1 s hs).imp fun _ ⟨hs', p⟩ => ⟨hs', sameSplit_iff.2 (Or.inl fun _ => p.mem_iff)⟩,
   fun s hs => (h.2 s hs).imp fun _ ⟨hs', p⟩ => ⟨hs', sameSplit_iff.2 (Or.inl fun _ => p.mem_iff)⟩⟩

mutual
theorem RotT.reord : ∀ (t t' : T), RotT t t' → C14.Reord t t'
  | .node d p k, .node d' p' k', h => by
    obtain ⟨rfl, k'', hr, hp⟩ := h
    exact .node d p p' (RotK.reordL k k'' hr) hp.symm
theorem RotK.reordL : ∀ (k k' : Kids), RotK k k' → C14.ReordL k k'
  | [], [], _ => .nil
  | (e, t) :: r, (e', t') :: r', h => by
    obtain ⟨rfl, ht, hr⟩ := h
    exact .cons e (RotT.reord t t' ht) (RotK.reordL r r' hr)
  | [], _ :: _, h => by cases h
  | _ :: _, [], h => by cases h
end

/-- the sorted leaf lists agree as multisets: the entries correspond -/
theorem SL_of_sorted {l l' : List SplitE}
    (h : (l'.map fun s => sortS s.below).Perm (l.map fun s => sortS s.below)) : SL l l' := by
  have key : ∀ {a b : List SplitE}, (∀ x, x ∈ a.map (fun s => sortS s.below) → x ∈ b.map fun s => sortS s.below) →
      ∀ s ∈ a, ∃ s' ∈ b, s.below.Perm s'.below := fun hab s hs => by
    obtain ⟨s', hs', e⟩ := List.mem_map.1 (hab _ (List.mem_map_of_mem hs))
    exact ⟨s', hs', (sortS_perm _).symm.trans (e ▸ sortS_perm _)⟩
  exact ⟨key fun _ => h.mem_iff.2, key fun _ => h.mem_iff.1⟩

theorem rotT_facts : ∀ (t t' : T), RotT t t' →
    t.leaves.Perm t'.leaves ∧ SL t.splitsBelow t'.splitsBelow ∧ (t.kids = [] ↔ t'.kids = []) :=
  fun t t' h =>
    have a := (RotT.reord t t' h).keeps (g := fun s => sortS s.below) fun _ _ _ _ hp => sortS_congr hp
    ⟨a.leaves.symm, by rw [T.splitsBelow_eq, T.splitsBelow_eq]; exact SL_of_sorted a.splits,
      by rw [← List.length_eq_zero_iff, ← List.length_eq_zero_iff, a.len]⟩

mutual
theorem rotT_refl : ∀ (t : T), RotT t t
  | .node _ _ k => ⟨rfl, k, rotK_refl k, List.Perm.refl _⟩
theorem rotK_refl : ∀ (k : Kids), RotK k k
  | [] => trivial
  | (_, t) :: r => ⟨rfl, rotT_refl t, rotK_refl r⟩
end

/-- ★ reordering children anywhere keeps the tree a presentation of the same tree -/
theorem rot_ok (t t' : T) (h : RotT t t') (ht : treeOK t = true) : Presents t t' := by
  have ft := treeOK_facts t ht
  have r := RotT.reord t t' h
  have a := r.keeps (g := fun s => sortS s.below) fun _ _ _ _ hp => sortS_congr hp
  obtain ⟨m1, m2⟩ := treeOK_of_tips_perm ht r.tipNames (a.len ▸ ft.root)
  exact ⟨m1, m2, splitsEquiv_iff.2 ((SL_of_sorted a.splits).subSplits _)⟩

/-! ## rooted and unrooted presentations -/

/-- `UnRoot` on a root with two children, the second one inner: its children move up -/
def unrootOp : T → T
  | .node d p [(e₁, a), (_, .node _ _ kc)] => .node d p ((e₁, a) :: kc)
  | t => t

section unroot
variable (d : NodeD) (p : Nat) (e₁ : EdgeD) (a : T) (e₂ : EdgeD) (d₂ : NodeD) (p₂ : Nat) (kc : Kids)

/-- the rooted tree has one entry more: the second root branch, whose split is that of the first -/
theorem unroot_splits (hkc : kc ≠ []) :
    (T.node d p [(e₁, a), (e₂, .node d₂ p₂ kc)]).splits.Perm
      (⟨leavesL kc, e₂, false⟩ :: (T.node d p ((e₁, a) :: kc)).splits) ∧
    (T.node d p [(e₁, a), (e₂, .node d₂ p₂ kc)]).tipNames = a.leaves ++ leavesL kc ∧
    (T.node d p ((e₁, a) :: kc)).tipNames = a.leaves ++ leavesL kc ∧
    (T.node d p ((e₁, a) :: kc)).kids.length ≠ 1 := by
  have hlen : ((e₁, a) :: kc).length ≠ 1 := by
    have := List.length_pos_iff.2 hkc
    simp only [List.length_cons]; omega
  refine ⟨?_, ?_, ?_, hlen⟩
  · simp only [T.splits, T.kids_node, splitsL_cons, splitsL_nil, T.leaves_node, T.isLeaf_node,
      T.splitsBelow_node, List.isEmpty_eq_false_iff.2 hkc, Bool.false_eq_true, if_false, List.append_nil]
    simpa using List.perm_middle (a := (⟨leavesL kc, e₂, false⟩ : SplitE))
      (l₁ := ⟨a.leaves, e₁, a.isLeaf⟩ :: a.splitsBelow) (l₂ := splitsL kc)
  · rw [T.tipNames_of_ne_one (by simp)]
    simp [leavesL_cons, leavesL_nil, T.leaves_node, hkc]
  · rw [T.tipNames_of_ne_one (t := .node d p ((e₁, a) :: kc)) hlen]; rfl

/-- ★ the rooted tree and its unrooted form have the same set of splits -/
theorem unroot_ok (hkc : kc ≠ [])
    (ht : treeOK (.node d p [(e₁, a), (e₂, .node d₂ p₂ kc)]) = true) :
    Presents (.node d p [(e₁, a), (e₂, .node d₂ p₂ kc)])
      (unrootOp (.node d p [(e₁, a), (e₂, .node d₂ p₂ kc)])) := by
  have ft := treeOK_facts _ ht
  obtain ⟨hs, h1, h2, hroot⟩ := unroot_splits d p e₁ a e₂ d₂ p₂ kc hkc
  show Presents _ (.node d p ((e₁, a) :: kc))
  unfold Presents
  obtain ⟨m1, m2⟩ := treeOK_of_tips_perm ht (by rw [h1, h2]) hroot
  have hn := ft.nodup
  rw [h1] at hn ⊢
  have keep : SubSplits (a.leaves ++ leavesL kc) (T.node d p ((e₁, a) :: kc)).splits
      (T.node d p ((e₁, a) :: kc)).splits := .of_subset fun _ => id
  have hfirst : (⟨a.leaves, e₁, a.isLeaf⟩ : SplitE) ∈ (T.node d p ((e₁, a) :: kc)).splits := by
    simp [T.splits, splitsL_cons]
  exact ⟨m1, m2, splitsEquiv_iff.2
    ⟨(keep.cons hfirst (sameSplit_of_compl hn List.perm_append_comm)).perm hs .rfl,
     (SubSplits.of_subset fun _ => List.mem_cons_of_mem _).perm .rfl hs⟩⟩

/-- the other way round: putting a root on the branch above the children `kc` -/
theorem root_ok (hkc : kc ≠ []) (ht : treeOK (.node d p ((e₁, a) :: kc)) = true) :
    Presents (.node d p ((e₁, a) :: kc)) (.node d p [(e₁, a), (e₂, .node d₂ p₂ kc)]) := by
  obtain ⟨_, h1, h2, _⟩ := unroot_splits d p e₁ a e₂ d₂ p₂ kc hkc
  obtain ⟨m1, m2⟩ := treeOK_of_tips_perm ht (t' := .node d p [(e₁, a), (e₂, .node d₂ p₂ kc)])
    (by rw [h1, h2]) (by simp)
  obtain ⟨_, _, m3⟩ := unroot_ok d p e₁ a e₂ d₂ p₂ kc hkc m1
  refine ⟨m1, m2, ?_⟩
  rw [splitsEquiv_comm, h2, ← h1]
  exact m3

end unroot

/-! ## any sequence of such moves -/

theorem splitsEquiv_trans {all : List String} {a b c : T}
    (ha : ∀ s ∈ a.splits, ∀ x ∈ s.below, x ∈ all) (hc : ∀ s ∈ c.splits, ∀ x ∈ s.below, x ∈ all)
    (h₁ : splitsEquiv all a b = true) (h₂ : splitsEquiv all b c = true) : splitsEquiv all a c = true := by
  obtain ⟨p1, p2⟩ := splitsEquiv_iff.1 h₁
  obtain ⟨q1, q2⟩ := splitsEquiv_iff.1 h₂
  exact splitsEquiv_iff.2 ⟨p1.trans hc q1, q2.trans ha p2⟩

/-- `Pres t t'`: `t'` is obtained from `t` by root moves onto inner children,
    reorderings of children, unrooting and rooting, in any number and order. -/
inductive Pres : T → T → Prop
  | refl (t : T) : Pres t t
  | move (t : T) (i : Nat) (e : EdgeD) (dc : NodeD) (pc : Nat) (kc : Kids) :
      t.kids[i]? = some (e, .node dc pc kc) → kc ≠ [] → Pres t (rootMove t i)
  | rot (t t' : T) : RotT t t' → Pres t t'
  | unroot (d : NodeD) (p : Nat) (e₁ : EdgeD) (a : T) (e₂ : EdgeD) (d₂ : NodeD) (p₂ : Nat) (kc : Kids) :
      kc ≠ [] → Pres (.node d p [(e₁, a), (e₂, .node d₂ p₂ kc)])
        (unrootOp (.node d p [(e₁, a), (e₂, .node d₂ p₂ kc)]))
  | root (d : NodeD) (p : Nat) (e₁ : EdgeD) (a : T) (e₂ : EdgeD) (d₂ : NodeD) (p₂ : Nat) (kc : Kids) :
      kc ≠ [] → Pres (.node d p ((e₁, a) :: kc)) (.node d p [(e₁, a), (e₂, .node d₂ p₂ kc)])
  | trans (a b c : T) : Pres a b → Pres b c → Pres a c

theorem pres_ok {t t' : T} (h : Pres t t') : treeOK t = true → Presents t t' := by
  induction h with
  | refl t => exact fun ht => ⟨ht, sameTaxa_iff.2 (fun _ => Iff.rfl), splitsEquiv_refl _ _⟩
  | move t i e dc pc kc hi hkc => exact fun ht => rootMove_ok t i e dc pc kc ht hi hkc
  | rot t t' hr => exact fun ht => rot_ok t t' hr ht
  | unroot d p e₁ a e₂ d₂ p₂ kc hkc => exact fun ht => unroot_ok d p e₁ a e₂ d₂ p₂ kc hkc ht
  | root d p e₁ a e₂ d₂ p₂ kc hkc => exact fun ht => root_ok d p e₁ a e₂ d₂ p₂ kc hkc ht
  | trans a b c _ _ ih1 ih2 =>
    intro ha
    obtain ⟨hb, tab, sab⟩ := ih1 ha
    obtain ⟨hc, tbc, sbc⟩ := ih2 hb
    have t1 := sameTaxa_iff.1 tab
    have tac := sameTaxa_iff.2 fun x => (t1 x).trans (sameTaxa_iff.1 tbc x)
    rw [← splitsEquiv_congr_all b c t1] at sbc
    exact ⟨hc, tac, splitsEquiv_trans (fun s hs => ((treeOK_facts a ha).side s hs).sub)
      (fun s hs => (sides_of_sameTaxa hc tac s hs).sub) sab sbc⟩

/-! ## from C05's statements about `usplits` and `tipLens` -/

theorem mem_ufoldU_side : ∀ (l acc : List USplit) (a : List String),
    a ∈ (ufoldU l acc).map (·.side) ↔ a ∈ acc.map (·.side) ∨ a ∈ l.map (·.side)
  | [], acc, a => by simp [ufoldU_nil]
  | s :: l, acc, a => by
    rw [ufoldU_cons, mem_ufoldU_side l (insertU s acc) a, mem_insertU_side]
    simp only [List.map_cons, List.mem_cons]
    exact ⟨fun h => h.elim (fun h => h.elim Or.inl (Or.inr ∘ Or.inl)) (Or.inr ∘ Or.inr),
      fun h => h.elim (Or.inl ∘ Or.inl) fun h => h.elim (Or.inl ∘ Or.inr) Or.inr⟩

/-- the sides of the non-trivial unrooted splits -/
theorem mem_usplits_side (t : T) (a : List String) :
    a ∈ t.usplits.map (·.side) ↔
      ∃ s ∈ t.splits, canonSide t.tipNames s.below = a ∧ 2 ≤ lightSize t.tipNames a := by
  rw [((T.usplits_perm_ufold t).map (·.side)).mem_iff, mem_ufoldU_side]
  simp only [List.map_nil, List.not_mem_nil, false_or, List.mem_map, List.mem_filter, nontrivU, toU,
    decide_eq_true_eq]
  constructor
  · rintro ⟨u, ⟨⟨s, hs, rfl⟩, h2⟩, rfl⟩
    exact ⟨s, hs, rfl, h2⟩
  · rintro ⟨s, hs, rfl, h2⟩
    exact ⟨_, ⟨⟨s, hs, rfl⟩, h2⟩, rfl⟩

/-- the sides of the trivial ones -/
theorem mem_tipLens_side (t : T) (a : List String) :
    a ∈ t.tipLens.map (·.1) ↔
      ∃ s ∈ t.splits, canonSide t.tipNames s.below = a ∧ lightSize t.tipNames a ≤ 1 := by
  rw [((T.tipLens_perm_ufold t).map (·.1)).mem_iff, List.map_map]
  have : ((fun (x : List String × Rat) => x.1) ∘ fun (s : USplit) => (s.side, s.len)) = fun s => s.side := rfl
  rw [this, mem_ufoldU_side]
  simp only [List.map_nil, List.not_mem_nil, false_or, List.mem_map, List.mem_filter, trivU, toU,
    decide_eq_true_eq, forgetSup]
  constructor
  · rintro ⟨u, ⟨v, ⟨⟨s, hs, rfl⟩, h2⟩, rfl⟩, rfl⟩
    exact ⟨s, hs, rfl, h2⟩
  · rintro ⟨s, hs, rfl, h2⟩
    exact ⟨_, ⟨_, ⟨⟨s, hs, rfl⟩, h2⟩, rfl⟩, rfl⟩

/-- the canonical side of a set of taxa is the set or its complement: the same split -/
theorem sameSplit_canonSide {all a : List String} (ha : ∀ x ∈ a, x ∈ all) :
    sameSplit all (canonSide all a) a = true ∧ ∀ x ∈ canonSide all a, x ∈ all := by
  have hin : ∀ x, x ∈ sortS (a.filter all.contains) ↔ x ∈ a := fun x => by
    simp only [mem_sortS, List.mem_filter, List.contains_eq_mem, decide_eq_true_eq]
    exact ⟨And.left, fun h => ⟨h, ha x h⟩⟩
  have hout : ∀ x, x ∈ sortS (complS all (sortS (a.filter all.contains))) ↔ x ∈ all ∧ x ∉ a := fun x => by
    rw [mem_sortS]
    simp only [complS, List.mem_filter, List.contains_eq_mem, Bool.not_eq_true', decide_eq_false_iff_not,
      hin]
  unfold canonSide
  simp only []
  split
  · exact ⟨sameSplit_iff.2 (Or.inl hin), fun x hx => ha x ((hin x).1 hx)⟩
  · split
    · exact ⟨sameSplit_iff.2 (Or.inr hout), fun x hx => ((hout x).1 hx).1⟩
    · exact ⟨sameSplit_iff.2 (Or.inl hin), fun x hx => ha x ((hin x).1 hx)⟩

theorem sameSplit_of_canonSide_eq {all a b : List String} (ha : ∀ x ∈ a, x ∈ all) (hb : ∀ x ∈ b, x ∈ all)
    (h : canonSide all a = canonSide all b) : sameSplit all a b = true :=
  sameSplit_trans hb (sameSplit_symm ha (sameSplit_canonSide ha).1) (h ▸ (sameSplit_canonSide hb).1)

/-- a tree whose canonical sides all occur in `u` has its splits among those of `u` -/
theorem subSplits_of_sides {t u : T} (ht : treeOK t = true) (hu : treeOK u = true)
    (hall : u.tipNames.Perm t.tipNames)
    (m1 : ∀ a, a ∈ t.usplits.map (·.side) → a ∈ u.usplits.map (·.side))
    (m2 : ∀ a, a ∈ t.tipLens.map (·.1) → a ∈ u.tipLens.map (·.1)) :
    SubSplits t.tipNames t.splits u.splits := by
  have hT : sameTaxa t u = true := sameTaxa_iff.2 fun x => hall.mem_iff.symm
  intro s hs
  have found : ∃ s' ∈ u.splits, canonSide u.tipNames s'.below = canonSide t.tipNames s.below := by
    by_cases hl : 2 ≤ lightSize t.tipNames (canonSide t.tipNames s.below)
    · obtain ⟨s', hs', e, _⟩ := (mem_usplits_side u _).1 (m1 _ ((mem_usplits_side t _).2 ⟨s, hs, rfl, hl⟩))
      exact ⟨s', hs', e⟩
    · obtain ⟨s', hs', e, _⟩ := (mem_tipLens_side u _).1 (m2 _ ((mem_tipLens_side t _).2 ⟨s, hs, rfl, by omega⟩))
      exact ⟨s', hs', e⟩
  obtain ⟨s', hs', e⟩ := found
  rw [canonSide_perm_all hall] at e
  exact ⟨s', hs', sameSplit_of_canonSide_eq ((treeOK_facts t ht).side s hs).sub
    (sides_of_sameTaxa hu hT s' hs').sub e.symm⟩

/-- ★ what C05 proves of `Reroot`, `UnRoot`, … (`tipNames`, `usplits`, `tipLens` are permuted)
    gives the hypothesis of C10's presentation theorems -/
theorem splitsEquiv_of_usplits (t u : T) (ht : treeOK t = true) (hu : treeOK u = true)
    (hall : u.tipNames.Perm t.tipNames) (h1 : u.usplits.Perm t.usplits) (h2 : u.tipLens.Perm t.tipLens) :
    sameTaxa t u = true ∧ splitsEquiv t.tipNames t u = true :=
  ⟨sameTaxa_iff.2 fun _ => hall.mem_iff.symm, splitsEquiv_iff.2
    ⟨subSplits_of_sides ht hu hall (fun _ => (h1.map _).mem_iff.2) (fun _ => (h2.map _).mem_iff.2),
     (subSplits_of_sides hu ht hall.symm (fun _ => (h1.map _).mem_iff.1)
        (fun _ => (h2.map _).mem_iff.1)).congr_all fun _ => hall.mem_iff⟩⟩

end Gotree.C10

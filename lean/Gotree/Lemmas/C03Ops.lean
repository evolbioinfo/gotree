/-
  C03 — the invariant of edit histories (unique tip names; no single-child inner node where the
  property's quantifier promises it) and, operation by operation, the fact that carries it across
  the operation models of C05, C06, C07, C15, C16 and C17.
-/
import Gotree.Model.C03Ops
import Gotree.Lemmas.C05
import Gotree.Proofs.C05
import Gotree.Proofs.C06
import Gotree.Proofs.C07
import Gotree.Lemmas.C15Graft
import Gotree.Lemmas.C15InsertAll
import Gotree.Lemmas.C15Single
import Gotree.Lemmas.C15Copy
import Gotree.Proofs.C17
import Gotree.Lemmas.C16

namespace Gotree.C03
open Gotree Gotree.C05

/-- the invariant of edit histories: unique tip names, and no single-child inner node as long as
    the property's quantifier promises it (`ns`) -/
def Inv (ns : Bool) (t : T) : Prop := t.tipNames.Nodup ∧ (ns = true → t.noSingle = true)

/-- what most edits do to the two halves of the invariant: the tips are permuted, and no
    single-child node appears -/
structure Keeps (t t' : T) : Prop where
  tips : t'.tipNames.Perm t.tipNames
  ns : t.noSingle = true → t'.noSingle = true

theorem Keeps.inv {ns : Bool} {t t' : T} (k : Keeps t t') (h : Inv ns t) : Inv ns t' :=
  ⟨k.tips.nodup_iff.mpr h.1, fun hn => k.ns (h.2 hn)⟩

theorem Keeps.of_eq {t t' : T} (h : t'.tipNames = t.tipNames ∧ t'.noSingle = t.noSingle) : Keeps t t' :=
  ⟨h.1 ▸ .refl _, h.2.trans⟩

/- ## noSingle as `List.all` -/

theorem noSingleL_eq_all : ∀ (k : Kids), noSingleL k = k.all (fun x => x.2.noSingleBelow) :=
  Gotree.noSingleL_eq_all

theorem noSingleBelow_node (d : NodeD) (p : Nat) (k : Kids) :
    (T.node d p k).noSingleBelow = (k.length != 1 && noSingleL k) := rfl

theorem noSingleL_perm {k₁ k₂ : Kids} (h : k₁.Perm k₂) : noSingleL k₁ = noSingleL k₂ :=
  Gotree.noSingleL_perm h

theorem noSingleL_of_sublist {a b : Kids} (h : a.Sublist b) (hb : noSingleL b = true) : noSingleL a = true :=
  noSingleL_iff.2 fun x hx => noSingleL_iff.1 hb x (h.subset hx)

theorem noSingleL_getElem {k : Kids} {i : Nat} {e : EdgeD} {c : T} (hk : k[i]? = some (e, c))
    (h : noSingleL k = true) : c.noSingleBelow = true :=
  noSingleL_iff.1 h _ (List.mem_of_getElem? hk)

theorem noSingleL_insertAt (k : Kids) (i : Nat) (x : EdgeD × T) :
    noSingleL (insertAt k i x) = (noSingleL k && x.2.noSingleBelow) := by
  rw [noSingleL_perm (Gotree.insertAt_perm k i x)]
  simp [noSingleL_eq_all, Bool.and_comm]

/- ## Reroot -/

/-- the invariant of the fold of root moves: no single-child inner node AND the root of the
    moment is not bifurcating (so that leaving it does not create a single-child node) -/
def RootFree (t : T) : Prop := t.noSingle = true ∧ t.kids.length ≠ 2

theorem moveRoot_rootFree (t : T) (i : Nat) (h : RootFree t) : RootFree (moveRoot t i) := by
  obtain ⟨d, p, kids⟩ := t
  obtain ⟨hns, h2⟩ := h
  simp only [T.noSingle, T.kids_node] at hns h2
  simp only [moveRoot]
  cases hk : kids[i]? with
  | none => exact ⟨hns, h2⟩
  | some x =>
    obtain ⟨e, dc, pc, kc⟩ := x
    have hi := (List.getElem?_eq_some_iff.mp hk).1
    have hc := noSingleL_getElem hk hns
    simp only [noSingleBelow_node, Bool.and_eq_true, bne_iff_ne, ne_eq] at hc
    have hlen := List.length_eraseIdx_of_lt hi
    have hins := (Gotree.insertAt_perm kc pc (e, T.node d i (kids.eraseIdx i))).length_eq
    constructor
    · simp only [T.noSingle, T.kids_node, noSingleL_insertAt, noSingleBelow_node, Bool.and_eq_true, bne_iff_ne, ne_eq]
      exact ⟨hc.2, by omega, noSingleL_of_sublist (List.eraseIdx_sublist _ _) hns⟩
    · simp only [T.kids_node, hins, List.length_cons]
      omega

theorem rerootP_rootFree : ∀ (p : List Nat) (t : T) (adj : Option Nat) (back : List Nat),
    RootFree t → RootFree (rerootP t p adj back).1
  | [], t, adj, back, h => by simpa [rerootP] using h
  | i :: rest, t, adj, back, h => by
    simp only [rerootP]
    split
    · exact h
    · exact rerootP_rootFree rest _ _ _ (moveRoot_rootFree t _ h)

theorem rerootP_tips : ∀ (p : List Nat) (t : T) (adj : Option Nat) (back : List Nat),
    (rerootP t p adj back).1.tipNames.Perm t.tipNames
  | [], t, adj, back => by simp [rerootP]
  | i :: rest, t, adj, back => by
    simp only [rerootP]
    split
    · exact .refl _
    · exact (rerootP_tips rest _ _ _).trans (moveRoot_tips t _)

theorem reroot_ok {t t' : T} {p : List Nat} (h : reroot t p = .ok t') : t' = (rerootP t p none []).1 := by
  unfold reroot at h
  split at h
  · cases h
  · rename_i n _
    by_cases h2 : (if p.isEmpty then n.kids.length else n.kids.length + 1) < 2
    · rw [if_pos h2] at h; cases h
    · rw [if_neg h2] at h; cases h; rfl

/-- leaving a bifurcating root behind is the one way an edit gives up the promise -/
theorem reroot_inv {ns : Bool} {t t' : T} {p : List Nat} (ho : reroot t p = .ok t') (h : Inv ns t) :
    Inv (ns && !t.rooted) t' := by
  cases reroot_ok ho
  refine ⟨(rerootP_tips p t none []).nodup_iff.mpr h.1, fun hpr => ?_⟩
  simp only [Bool.and_eq_true, Bool.not_eq_true', T.rooted, beq_eq_false_iff_ne, ne_eq] at hpr
  exact (rerootP_rootFree p t none [] ⟨h.2 hpr.1, hpr.2⟩).1

/- ## UnRoot (lemmas of C05) -/

theorem unroot_tips (t : T) : (unroot t).tipNames.Perm t.tipNames := unroot_tipNames_perm t

theorem unroot_noSingle (t : T) (h : t.noSingle = true) : (unroot t).noSingle = true :=
  (C05.unroot_noSingle t h).1

/- ## RerootOutGroup and RerootMidPoint: a fold of root moves from the unrooted tree, then a cut -/

/-- cutting the branch to kid `r` of a tree that satisfies the fold invariant -/
theorem cutAt_noSingle {tn t' : T} {r : Nat} {ea eb : EdgeD} {b : Bool}
    (h : cutAt tn r ea eb b = some t') (hf : RootFree tn) : t'.noSingle = true := by
  obtain ⟨d, p, kids⟩ := tn
  obtain ⟨hns, h2⟩ := hf
  simp only [T.noSingle, T.kids_node] at hns h2
  simp only [cutAt] at h
  split at h
  · cases h
  · rename_i e db pb kb hk
    cases h
    have hi := (List.getElem?_eq_some_iff.mp hk).1
    have hc := noSingleL_getElem hk hns
    have hlen := List.length_eraseIdx_of_lt hi
    simp only [noSingleBelow_node, Bool.and_eq_true, bne_iff_ne, ne_eq] at hc
    have ha : (kids.eraseIdx r).length ≠ 1 := by omega
    cases b <;> simp [T.noSingle, noSingleL, noSingleBelow_node, hc, ha,
      noSingleL_of_sublist (List.eraseIdx_sublist _ _) hns]

/-- what the plan of `RerootOutGroup` leaves: the tree re-rooted twice from the unrooted input -/
theorem outgroupPlan_tn {strict : Bool} {S : List String} {t : T} {pl : Plan}
    (h : outgroupPlan strict S (unroot t) = .ok pl) :
    ∃ p q a b c, pl.tn = (rerootP (rerootP (unroot t) p a b).1 q none c).1 := by
  obtain ⟨spath, _, _, _, hts, _, _, _, htn, _⟩ := outgroupPlan_ok h
  exact ⟨spath, pl.f.p, none, [], _, by rw [← hts, ← htn]⟩

/-- `RerootOutGroup`: what the model does once the plan is made -/
theorem outgroup_noSingle {t t' : T} {remove strict : Bool} {S : List String}
    (h : rerootOutGroup remove strict S t = .ok t') (hns : t.noSingle = true) : t'.noSingle = true := by
  unfold rerootOutGroup rerootOutGroupWith at h
  obtain ⟨pl, hpl, h⟩ := Res.bind_ok h
  obtain ⟨⟨e, c⟩, hec, h⟩ := Res.bind_ok h
  have hk := ofOption_ok_panic hec
  obtain ⟨p, q, a, b, c', htn⟩ := outgroupPlan_tn hpl
  have hf : RootFree pl.tn := htn ▸ rerootP_rootFree _ _ _ _ (rerootP_rootFree _ _ _ _ (C05.unroot_noSingle t hns))
  cases remove with
  | true =>
    simp only [if_true] at h
    split at h <;> cases h
    have hc := noSingleL_getElem hk hf.1
    obtain ⟨dc, pc, kc⟩ := c
    simp only [noSingleBelow_node, Bool.and_eq_true] at hc
    exact hc.2
  | false => exact cutAt_noSingle (ofOption_ok_panic h) hf

/-- with removal: the tips left are tips of the input, each once -/
theorem outgroup_remove_nodup {t t' : T} {strict : Bool} {S : List String}
    (h : rerootOutGroup true strict S t = .ok t') (hu : t.tipNames.Nodup) : t'.tipNames.Nodup := by
  unfold rerootOutGroup rerootOutGroupWith at h
  obtain ⟨pl, hpl, h⟩ := Res.bind_ok h
  obtain ⟨⟨e, c⟩, hec, h⟩ := Res.bind_ok h
  have hk := ofOption_ok_panic hec
  obtain ⟨p, q, a, b, c', htn⟩ := outgroupPlan_tn hpl
  have htips : pl.tn.tipNames.Perm t.tipNames :=
    htn ▸ ((rerootP_tips _ _ _ _).trans (rerootP_tips _ _ _ _)).trans (unroot_tipNames_perm t)
  simp only [if_true] at h
  split at h <;> cases h
  rename_i h2
  have h1 : (T.node c.d 0 c.kids).tipNames = leavesL c.kids := by
    have : c.kids.length ≠ 1 := by omega
    simp [T.tipNames, this]
  rw [h1]
  exact ((c.leavesL_kids_sublist.trans (leaves_sublist_leavesL (List.mem_of_getElem? hk))).trans
    (List.sublist_append_right _ _)).nodup (htips.nodup_iff.mpr hu)

theorem bestCand_rootFree (t1 : T) (h1 : RootFree t1) : ∀ (ps : List (List Nat)) (best : Option Cand) (cur : Rat)
    (cand : Cand), (∀ b, best = some b → RootFree b.tT) → bestCand t1 ps best cur = some cand → RootFree cand.tT
  | [], best, cur, cand, hb, h => hb cand (by simpa only [bestCand] using h)
  | p :: ps, best, cur, cand, hb, h => by
    simp only [bestCand] at h
    split at h
    · refine bestCand_rootFree t1 h1 ps _ _ cand ?_ h
      rintro b ⟨rfl⟩
      exact rerootP_rootFree _ _ _ _ h1
    · exact bestCand_rootFree t1 h1 ps best cur cand hb h

theorem midpoint_noSingle {t t' : T} (h : rerootMidPoint t = .ok t') (hns : t.noSingle = true) :
    t'.noSingle = true := by
  unfold rerootMidPoint rerootMidPointWith at h
  simp only [midpointFarEndFixedInRepo] at h
  split at h
  · cases h
  · split at h
    · simp at h
    · rename_i cand hb
      have hf := bestCand_rootFree _ (C05.unroot_noSingle t hns) _ none 0 cand (fun b hbe => by cases hbe) hb
      unfold midpointCut at h
      simp only [Bool.not_true, Bool.false_and, Bool.false_eq_true, if_false] at h
      split at h
      · cases h
      · split at h
        · cases h
        · split at h <;> cases h
          rename_i hc
          exact cutAt_noSingle hc (rerootP_rootFree _ _ _ _ hf)

/- ## SortNeighborsByTips -/

theorem tipNames_of (hname : (u : T).name = (t : T).name) (hlen : u.kids.length = t.kids.length)
    (hl : (leavesL u.kids).Perm (leavesL t.kids)) : u.tipNames.Perm t.tipNames :=
  T.tipNames_perm hname hlen hl

private theorem unit_inv : EntryInv fun _ : SplitE => () := fun _ _ _ _ _ => rfl

theorem sortT_tips (t : T) : (sortT t).tipNames.Perm t.tipNames := (sortT_reord t).tipNames

theorem sortT_noSingleBelow : ∀ (t : T), (sortT t).noSingleBelow = t.noSingleBelow :=
  fun t => ((sortT_reord t).keeps unit_inv).noSingleBelow

theorem sortT_noSingle (t : T) : (sortT t).noSingle = t.noSingle := ((sortT_reord t).keeps unit_inv).noSingle

/- ## RotateInternalNodes -/

theorem rotate_tips (t : T) (ds : List Nat) : (rotate t ds).tipNames.Perm t.tipNames := (rot_reord true t ds).tipNames

theorem filterMap_shuf_perm (m : Nat) (l : List (Option (EdgeD × T))) (ds : List Nat) :
    ((shuf m 0 l ds).filterMap id).Perm (l.filterMap id) := (shuf_perm _ _ _ _).filterMap _

theorem rot_noSingleBelow : ∀ (isRoot : Bool) (t : T) (ds : List Nat),
    (rot isRoot t ds).1.noSingleBelow = t.noSingleBelow :=
  fun isRoot t ds => ((rot_reord isRoot t ds).keeps unit_inv).noSingleBelow

theorem rotate_noSingle (t : T) (ds : List Nat) : (rotate t ds).noSingle = t.noSingle :=
  ((rot_reord true t ds).keeps unit_inv).noSingle

/- ## RemoveEdges and the collapse family (model and lemmas of C07) -/

/-- no tip is lost or invented by a contraction (root with at least two neighbours) -/
theorem removeEdges_tipNames_c03 (rr rt : Bool) (ids : List Int) (t : T) (h2 : 2 ≤ t.kids.length) :
    (Gotree.C07.removeEdges rr rt ids t).tipNames.Perm t.tipNames :=
  Gotree.C07.removeEdges_tipNames rr rt ids t

theorem removeEdges_noSingle (rr rt : Bool) : ∀ (ids : List Int) (t : T), t.noSingle = true →
    (Gotree.C07.removeEdges rr rt ids t).noSingle = true :=
  Gotree.C07.removeEdges_noSingle rr rt

/- ## Clone (model and lemmas of C15: a clone is the tree with every parent position reset) -/

mutual
theorem zeroPpos_noSingleBelow : ∀ (t : T), (Gotree.C15.zeroPpos t).noSingleBelow = t.noSingleBelow
  | .node d p k => by
    simp only [Gotree.C15.zeroPpos, noSingleBelow_node, Gotree.C15.zeroPposL_length, zeroPposL_noSingle k]
theorem zeroPposL_noSingle : ∀ (k : Kids), noSingleL (Gotree.C15.zeroPposL k) = noSingleL k
  | [] => rfl
  | (e, t) :: r => by simp [Gotree.C15.zeroPposL, noSingleL, zeroPpos_noSingleBelow t, zeroPposL_noSingle r]
end

theorem zeroPpos_noSingle (t : T) : (Gotree.C15.zeroPpos t).noSingle = t.noSingle := by
  obtain ⟨d, p, k⟩ := t
  simp [Gotree.C15.zeroPpos, T.noSingle, zeroPposL_noSingle k]

/- ## Merge -/

theorem merge_noSingle {t t2 t' : T} (h : Gotree.C15.merge true true t t2 = .ok t')
    (h1 : t.noSingle = true) (h2 : t2.noSingle = true) : t'.noSingle = true := by
  obtain ⟨hr, hr2, _, ht'⟩ := Gotree.C15.merge_ok h
  subst ht'
  simp only [T.rooted, beq_iff_eq] at hr hr2
  simp only [T.noSingle] at h1 h2
  simp [T.noSingle, noSingleL, noSingleBelow_node, hr, hr2, h1, h2]

/- ## binary trees have no single-child node (Resolve, NNI) -/

theorem binary_noSingle (t : T) (h : t.binary = true) : t.noSingle = true := t.noSingle_of_binary h

/- ## SubTree: the leaves below a node are a sublist of the leaves of the tree -/

theorem nodeAt_sublist : ∀ (p : List Nat) (t n : T), Gotree.C15.nodeAt t p = some n →
    (leavesL n.kids).Sublist (leavesL t.kids) ∧ (noSingleL t.kids = true → noSingleL n.kids = true)
  | [], t, n, h => by
    simp only [Gotree.C15.nodeAt, Option.some.injEq] at h
    subst h
    exact ⟨List.Sublist.refl _, id⟩
  | i :: q, t, n, h => by
    simp only [Gotree.C15.nodeAt] at h
    cases hk : t.kids[i]? with
    | none => simp [hk] at h
    | some x =>
      obtain ⟨e, c⟩ := x
      simp only [hk] at h
      obtain ⟨ih1, ih2⟩ := nodeAt_sublist q c n h
      refine ⟨(ih1.trans c.leavesL_kids_sublist).trans (leaves_sublist_leavesL (List.mem_of_getElem? hk)), fun hns => ?_⟩
      have hc := noSingleL_getElem hk hns
      rw [T.noSingleBelow_eq, Bool.and_eq_true] at hc
      exact ih2 hc.2

theorem subTree_inv {ns : Bool} {t n : T} {p : List Nat} (hn : Gotree.C15.nodeAt t p = some n)
    (h1 : n.kids.length ≠ 1) (h : Inv ns t) : Inv ns (Gotree.C15.zeroPpos n) := by
  obtain ⟨hsub, hnsn⟩ := nodeAt_sublist p t n hn
  refine ⟨?_, fun hpr => (zeroPpos_noSingle n).trans (hnsn (h.2 hpr))⟩
  have e : n.tipNames = leavesL n.kids := by simp [T.tipNames, h1]
  rw [Gotree.C15.zeroPpos_tipNames, e]
  exact (hsub.trans (List.sublist_append_right _ _)).nodup h.1

/- ## GraftTreeOnTip: the spliced tree has no single-child node when host and graft have none -/

mutual
theorem graftAt_ns {tip : String} {G : T} (hG : G.noSingleBelow = true) : ∀ (t t' : T),
    Gotree.C15.graftAt tip G t = some t' → t.noSingleBelow = true → t'.noSingleBelow = true
  | .node d p k, t', h, hns => by
    simp only [Gotree.C15.graftAt, Option.map_eq_some_iff] at h
    obtain ⟨k', hk, rfl⟩ := h
    rw [noSingleBelow_node] at hns ⊢
    simp only [Bool.and_eq_true, bne_iff_ne, ne_eq] at hns ⊢
    exact ⟨by rw [Gotree.C15.graftKids_length k k' hk]; exact hns.1, graftKids_ns hG k k' hk hns.2⟩
theorem graftKids_ns {tip : String} {G : T} (hG : G.noSingleBelow = true) : ∀ (k k' : Kids),
    Gotree.C15.graftKids tip G k = some k' → noSingleL k = true → noSingleL k' = true
  | [], _, h, _ => by simp [Gotree.C15.graftKids] at h
  | (e, t) :: r, k', h, hns => by
    simp only [noSingleL, Bool.and_eq_true] at hns
    rcases Gotree.C15.graftKids_cases h with ⟨_, _, rfl⟩ | ⟨_, t', ht, rfl⟩ | ⟨_, _, r', hr, rfl⟩
    · simp [noSingleL, hG, hns.2]
    · simp [noSingleL, graftAt_ns hG t t' ht hns.1, hns.2]
    · simp [noSingleL, hns.1, graftKids_ns hG r r' hr hns.2]
end

/- ## facts about C15's models derived from its lemma files (not from Proofs/C15, which also
   carries the table decisions regenerated from the repository under test) -/

theorem graft_tips_c03 {t g t' : T} {tip : String} (h : Gotree.C15.graft true t tip g = .ok t') :
    t'.tipNames.Perm (t.tipNames.erase tip ++ (Gotree.C15.asGraft g).leaves) :=
  Gotree.C15.graft_tipNames h

/-- the graft brings new, distinct names and, where the promise is on, no single-child node -/
theorem graft_inv {ns : Bool} {t g t' : T} {tip : String} (hgr : Gotree.C15.graft true t tip g = .ok t')
    (hgn : (Gotree.C15.asGraft g).leaves.Nodup) (hdis : ∀ x ∈ (Gotree.C15.asGraft g).leaves, x ∉ t.tipNames)
    (hg : ns = true → g.noSingle = true ∧ ¬ g.kids.length = 1) (h : Inv ns t) : Inv ns t' := by
  refine ⟨(graft_tips_c03 hgr).nodup_iff.mpr (List.nodup_append.mpr ⟨h.1.erase tip, hgn, ?_⟩), fun hn => ?_⟩
  · rintro a ha _ hb rfl
    exact hdis a hb (List.mem_of_mem_erase ha)
  · obtain ⟨_, k', hk, rfl⟩ := Gotree.C15.graft_ok hgr
    have hG : (Gotree.C15.asGraft g).noSingleBelow = true := by
      simp only [Gotree.C15.asGraft, noSingleBelow_node, Bool.and_eq_true, bne_iff_ne, ne_eq]
      exact ⟨(hg hn).2, (hg hn).1⟩
    exact graftKids_ns hG t.kids k' hk (h.2 hn)

theorem insertIdentical_nodup_c03 {t t' : T} {groups : List (List String)}
    (h : Gotree.C15.insertIdentical true t groups = (t', none)) (hu : t.tipNames.Nodup)
    (hne : ∀ g ∈ groups, "" ∉ g) : t'.tipNames.Nodup := by
  obtain ⟨tips', hI⟩ := Gotree.C15.insertGroups_inv groups [] t t.tipNames t' (Gotree.C15.Inv.start hu groups.flatten) hne
    (fun g hg x hx => List.mem_flatten.mpr ⟨g, hg, hx⟩) (by simpa using Gotree.C15.insertIdentical_ok h)
  exact hI.nodup

theorem merge_nodup_c03 {t t2 t' : T} (h : Gotree.C15.merge true true t t2 = .ok t')
    (hu : t.tipNames.Nodup) (hu2 : t2.tipNames.Nodup) : t'.tipNames.Nodup := by
  obtain ⟨_, _, hd, _⟩ := Gotree.C15.merge_ok h
  rw [Gotree.C15.merge_tipNames h]
  refine List.nodup_append.mpr ⟨hu, hu2, fun a ha b hb hab => ?_⟩
  subst hab
  have := List.any_eq_false.mp hd a ha
  simp [hb] at this

/- ## InsertIdenticalTips keeps "no single-child node" -/

theorem noSingleBelow_leaf (n : String) : (T.leaf n).noSingleBelow = true := rfl

mutual
theorem insAt_ns {old new : String} : ∀ (t t' : T),
    Gotree.C15.insAt old new t = some t' → t.noSingleBelow = true → t'.noSingleBelow = true
  | .node d p k, t', h, hns => by
    simp only [Gotree.C15.insAt, Option.map_eq_some_iff] at h
    obtain ⟨k', hk, rfl⟩ := h
    rw [noSingleBelow_node] at hns ⊢
    simp only [Bool.and_eq_true, bne_iff_ne, ne_eq] at hns ⊢
    obtain ⟨h1, h2, h3⟩ := insKids_ns false k k' hk hns.2
    exact ⟨by omega, h1⟩
theorem insKids_ns {old new : String} (lone : Bool) : ∀ (k k' : Kids),
    Gotree.C15.insKids lone old new k = some k' → noSingleL k = true →
      noSingleL k' = true ∧ k.length ≤ k'.length ∧ 1 ≤ k.length
  | [], _, h, _ => by simp [Gotree.C15.insKids] at h
  | (e, t) :: r, k', h, hns => by
    simp only [noSingleL, Bool.and_eq_true] at hns
    simp only [Gotree.C15.insKids] at h
    split at h
    · split at h
      · injection h with h; subst h
        simp [noSingleL_append, noSingleL, hns.1, hns.2, noSingleBelow_leaf]
      · injection h with h; subst h
        simp [noSingleL, noSingleBelow_node, hns.1, hns.2, noSingleBelow_leaf]
    · split at h
      · rename_i t' ht
        injection h with h; subst h
        simp [noSingleL, insAt_ns t t' ht hns.1, hns.2]
      · simp only [Option.map_eq_some_iff] at h
        obtain ⟨r', hr, rfl⟩ := h
        obtain ⟨h1, h2, _⟩ := insKids_ns lone r r' hr hns.2
        simp only [noSingleL, hns.1, h1, Bool.and_self, List.length_cons, true_and]
        omega
end

theorem insertOne_ns {t t' : T} {tips : List String} {old new : String}
    (h : Gotree.C15.insertOne t tips old new = .ok t') (hns : t.noSingle = true) : t'.noSingle = true := by
  obtain ⟨_, k', hk, rfl⟩ := Gotree.C15.insertOne_ok h
  exact (insKids_ns _ _ _ hk hns).1

theorem insertNews_ns (old : String) : ∀ (news : List String) (t t' : T) (tips tips' : List String),
    Gotree.C15.insertNews old news t tips = (t', tips', none) → t.noSingle = true → t'.noSingle = true
  | [], t, t', tips, tips', h, hns => by
    simp only [Gotree.C15.insertNews, Prod.mk.injEq] at h
    rw [← h.1]; exact hns
  | new :: r, t, t', tips, tips', h, hns => by
    simp only [Gotree.C15.insertNews] at h
    split at h
    · rename_i t₁ ho
      exact insertNews_ns old r t₁ t' _ tips' h (insertOne_ns ho hns)
    · cases h

theorem insertGroups_ns : ∀ (groups : List (List String)) (t t' : T) (tips : List String),
    Gotree.C15.insertGroups groups t tips = (t', none) → t.noSingle = true → t'.noSingle = true
  | [], t, t', tips, h, hns => by
    simp only [Gotree.C15.insertGroups, Prod.mk.injEq] at h
    rw [← h.1]; exact hns
  | g :: gs, t, t', tips, h, hns => by
    simp only [Gotree.C15.insertGroups] at h
    split at h
    · cases h
    · split at h
      · cases h
      · split at h
        · rename_i t₁ tips₁ hn
          exact insertGroups_ns gs t₁ t' tips₁ h (insertNews_ns _ _ t t₁ tips tips₁ hn hns)
        · cases h

theorem insertIdentical_ns {t t' : T} {groups : List (List String)}
    (h : Gotree.C15.insertIdentical true t groups = (t', none)) (hns : t.noSingle = true) : t'.noSingle = true :=
  insertGroups_ns groups t t' _ (Gotree.C15.insertIdentical_ok h) hns

/- ## GraftTipOnEdge (model of C16: `applyAt (graftF name) k`) -/

theorem graftF_leaves (name : String) (e : EdgeD) (t : T) :
    ((Gotree.C16.graftF name (e, t)).2.leaves).Perm (name :: t.leaves) := by
  simp [Gotree.C16.graftF, T.leaves, leavesL, T.leaf]

theorem graftF_ns (name : String) (e : EdgeD) (t : T) (h : t.noSingleBelow = true) :
    (Gotree.C16.graftF name (e, t)).2.noSingleBelow = true := by
  simp [Gotree.C16.graftF, noSingleBelow_node, noSingleL, noSingleBelow_leaf, h]

mutual
theorem applyAt_ns (f : EdgeD × T → EdgeD × T) (hf : ∀ e t, t.noSingleBelow = true → (f (e, t)).2.noSingleBelow = true) :
    ∀ (t : T) (k : Nat), t.noSingleBelow = true → (Gotree.C16.applyAt f k t).noSingleBelow = true
  | .node d p ks, k, h => by
    rw [noSingleBelow_node] at h
    simp only [Bool.and_eq_true, bne_iff_ne, ne_eq] at h
    simp only [Gotree.C16.applyAt, noSingleBelow_node, Gotree.C16.applyAtL_length, Bool.and_eq_true, bne_iff_ne, ne_eq]
    exact ⟨h.1, applyAtL_ns f hf ks k h.2⟩
theorem applyAtL_ns (f : EdgeD × T → EdgeD × T) (hf : ∀ e t, t.noSingleBelow = true → (f (e, t)).2.noSingleBelow = true) :
    ∀ (ks : Kids) (k : Nat), noSingleL ks = true → noSingleL (Gotree.C16.applyAtL f k ks) = true
  | [], _, _ => by simp [Gotree.C16.applyAtL, noSingleL]
  | (e, t) :: r, k, h => by
    simp only [noSingleL, Bool.and_eq_true] at h
    unfold Gotree.C16.applyAtL
    split
    · have := hf e t h.1
      cases hx : f (e, t) with
      | mk e' t' => rw [hx] at this; simp [noSingleL, this, h.2]
    · split
      · simp [noSingleL, applyAt_ns f hf t (k - 1) h.1, h.2]
      · simp [noSingleL, h.1, applyAtL_ns f hf r _ h.2]
end

theorem graftEdge_noSingle (name : String) (k : Nat) (t : T) (h : t.noSingle = true) :
    (Gotree.C16.applyAt (Gotree.C16.graftF name) k t).noSingle = true := by
  simp only [T.noSingle, Gotree.C16.applyAt_kids] at h ⊢
  exact applyAtL_ns _ (fun e t h => graftF_ns name e t h) _ k h

/- ## the renamings: Rename(map), relabelling, quotes -/

theorem hasDupS_false_nodup : ∀ (l : List String), hasDupS l = false → l.Nodup
  | [], _ => List.nodup_nil
  | a :: r, h => by
    simp only [hasDupS, Bool.or_eq_false_iff] at h
    exact List.nodup_cons.mpr ⟨by simpa using h.1, hasDupS_false_nodup r h.2⟩

/-- every renaming ends by rebuilding the tip index, which refuses two tips with one name:
    a renaming `u` of `t` that succeeds has unique tips whatever the new names are -/
theorem tipIndex_inv {ns : Bool} {t u t' : T} {m : String} (hs : u.noSingle = t.noSingle)
    (h : (if hasDupS u.tipNames then Res.err m else .ok u) = .ok t') (hi : Inv ns t) : Inv ns t' := by
  split at h
  · cases h
  · rename_i hd
    cases h
    exact ⟨hasDupS_false_nodup _ (by simpa using hd), fun hn => hs.trans (hi.2 hn)⟩

theorem mapNamesL_length (f : String → String) : ∀ (k : Kids), (mapNamesL f k).length = k.length
  | [] => rfl
  | (_, _) :: r => by simp [mapNamesL, mapNamesL_length f r]

mutual
theorem mapNames_ns (f : String → String) : ∀ (t : T), (mapNames f t).noSingleBelow = t.noSingleBelow
  | .node d p k => by simp only [mapNames, noSingleBelow_node, mapNamesL_length, mapNamesL_ns f k]
theorem mapNamesL_ns (f : String → String) : ∀ (k : Kids), noSingleL (mapNamesL f k) = noSingleL k
  | [] => rfl
  | (e, t) :: r => by simp [mapNamesL, noSingleL, mapNames_ns f t, mapNamesL_ns f r]
end

theorem mapNames_noSingle (f : String → String) (t : T) : (mapNames f t).noSingle = t.noSingle := by
  obtain ⟨d, p, k⟩ := t
  simp [mapNames, T.noSingle, mapNamesL_ns f k]

/- ## relabelling keeps the shape -/

mutual
theorem setNames_ns : ∀ (ns : List String) (t : T), (setNames ns t).1.noSingleBelow = t.noSingleBelow
  | ns, .node d p k => by
    obtain ⟨h1, h2⟩ := setNamesL_ns ns.tail k
    simp only [setNames, noSingleBelow_node, h1, h2]
theorem setNamesL_ns : ∀ (ns : List String) (k : Kids),
    noSingleL (setNamesL ns k).1 = noSingleL k ∧ (setNamesL ns k).1.length = k.length
  | _, [] => by simp [setNamesL]
  | ns, (e, t) :: r => by
    obtain ⟨h1, h2⟩ := setNamesL_ns (setNames ns t).2 r
    simp [setNamesL, noSingleL, setNames_ns ns t, h1, h2]
end

theorem setNames_noSingle (ns : List String) (t : T) : (setNames ns t).1.noSingle = t.noSingle := by
  obtain ⟨d, p, k⟩ := t
  simp [setNames, T.noSingle, (setNamesL_ns ns.tail k).1]

/- ## AddQuotes / RemoveQuotes keep the shape -/

mutual
theorem mapSel_ns (sel : Bool → Bool) (f : String → String) : ∀ (hp : Bool) (t : T),
    (mapSel sel f hp t).noSingleBelow = t.noSingleBelow
  | hp, .node d p k => by
    obtain ⟨h1, h2⟩ := mapSelL_ns sel f k
    simp only [mapSel, noSingleBelow_node, h1, h2]
theorem mapSelL_ns (sel : Bool → Bool) (f : String → String) : ∀ (k : Kids),
    noSingleL (mapSelL sel f k) = noSingleL k ∧ (mapSelL sel f k).length = k.length
  | [] => by simp [mapSelL]
  | (e, t) :: r => by
    obtain ⟨h1, h2⟩ := mapSelL_ns sel f r
    simp [mapSelL, noSingleL, mapSel_ns sel f true t, h1, h2]
end

theorem mapSel_noSingle (sel : Bool → Bool) (f : String → String) (t : T) :
    (mapSel sel f false t).noSingle = t.noSingle := by
  obtain ⟨d, p, k⟩ := t
  simp [mapSel, T.noSingle, (mapSelL_ns sel f k).1]

/- ## the data edits keep names and shape -/

mutual
theorem mapData_shape (fn : NodeD → NodeD) (fe : Bool → EdgeD → EdgeD) (hn : ∀ d, (fn d).name = d.name) : ∀ (t : T),
    (mapData fn fe t).noSingleBelow = t.noSingleBelow ∧ (mapData fn fe t).leaves = t.leaves
  | .node d p k => by
    obtain ⟨h1, h2, h3⟩ := mapDataL_shape fn fe hn k
    refine ⟨by simp only [mapData, noSingleBelow_node, h1, h3], ?_⟩
    simp only [mapData, T.leaves_node, hn, h2]
    cases k <;> simp [mapDataL]
theorem mapDataL_shape (fn : NodeD → NodeD) (fe : Bool → EdgeD → EdgeD) (hn : ∀ d, (fn d).name = d.name) : ∀ (k : Kids),
    noSingleL (mapDataL fn fe k) = noSingleL k ∧ leavesL (mapDataL fn fe k) = leavesL k ∧ (mapDataL fn fe k).length = k.length
  | [] => by simp [mapDataL]
  | (e, t) :: r => by
    obtain ⟨h1, h2⟩ := mapData_shape fn fe hn t
    obtain ⟨g1, g2, g3⟩ := mapDataL_shape fn fe hn r
    simp [mapDataL, noSingleL, leavesL, h1, h2, g1, g2, g3]
end

theorem mapData_inv (fn : NodeD → NodeD) (fe : Bool → EdgeD → EdgeD) (hn : ∀ d, (fn d).name = d.name) (t : T) :
    (mapData fn fe t).tipNames = t.tipNames ∧ (mapData fn fe t).noSingle = t.noSingle := by
  obtain ⟨d, p, k⟩ := t
  obtain ⟨g1, g2, g3⟩ := mapDataL_shape fn fe hn k
  simp [mapData, T.tipNames, T.noSingle, T.name, hn, g1, g2, g3]

end Gotree.C03

/-
  C07 — the Spec oracles (Spec/C07.lean: `collapseOKr`, `resolveOK`, the Bool predicates the driver
  evaluates on the implementation's own output) hold of the model, on every tree.

  The Spec's traversal `entsL` and the flagged observation `obsGL` walk the tree in the same way, so one
  bridge serves every tree.  The collapse oracle is written with the DEFINITE / AMBIGUOUS readings of the
  criterion (an absent length is ambiguous); the model follows the code's sentinel reading `Crit.holds` =
  definite ∨ ambiguous.  What the model leaves of one branch of the input (`outE`) is its mandatory key
  if it has one, plus possibly some of its optional keys — which is what the oracle accepts.
-/
import Gotree.Lemmas.C07Loop
import Gotree.Lemmas.C07Resolve
import Gotree.Lemmas.C07Spec
import Gotree.Spec.C07

namespace Gotree.C07
open Gotree

/- ## multisets as lists -/

theorem msub_append_of_perm {α : Type} [BEq α] [LawfulBEq α] : ∀ (l₁ ex l₂ : List α), l₂.Perm (l₁ ++ ex) → msub l₁ l₂ = true
  | [], _, _, _ => rfl
  | x :: r, ex, l₂, h => by
    have hx : x ∈ l₂ := h.symm.subset (by simp)
    have hr : (l₂.erase x).Perm (r ++ ex) := by
      have := h.erase x
      rwa [List.cons_append, List.erase_cons_head] at this
    simp only [msub, Bool.and_eq_true]
    exact ⟨List.contains_iff_mem.mpr hx, msub_append_of_perm r ex _ hr⟩

theorem msub_of_perm {α : Type} [BEq α] [LawfulBEq α] : ∀ (l₁ l₂ : List α), l₁.Perm l₂ → msub l₁ l₂ = true :=
  fun l₁ l₂ h => msub_append_of_perm l₁ [] l₂ (by simpa using h.symm)

theorem msub_of_perm_sublist {α : Type} [BEq α] [LawfulBEq α] (a l b : List α) (hp : a.Perm l) (hs : l.Sublist b) :
    msub a b = true := by
  obtain ⟨ex, hex⟩ := hs.exists_perm_append
  exact msub_append_of_perm a ex b (hex.trans (hp.symm.append_right ex))

theorem mdiff_perm_append {α : Type} [BEq α] [LawfulBEq α] : ∀ (m ex l : List α), l.Perm (m ++ ex) → (mdiff l m).Perm ex
  | [], _, _, h => by simpa [mdiff] using h
  | x :: r, ex, l, h => by
    have hr : (l.erase x).Perm (r ++ ex) := by
      have := h.erase x
      rwa [List.cons_append, List.erase_cons_head] at this
    simp only [mdiff]
    exact mdiff_perm_append r ex _ hr

theorem mdiff_of_perm {α : Type} [BEq α] [LawfulBEq α] (l m : List α) (h : l.Perm m) : mdiff l m = [] :=
  (mdiff_perm_append m [] l (by simpa using h)).eq_nil

theorem filterMap_split_flat {α γ : Type} (g m : α → Option γ) (k : α → List γ) :
    ∀ l : List α, (∀ x ∈ l, (g x).toList = (m x).toList ++ k x) →
      (l.filterMap g).Perm (l.filterMap m ++ l.flatMap k)
  | [], _ => by simp
  | a :: r, h => by
    have ih := filterMap_split_flat g m k r (fun x hx => h x (List.mem_cons_of_mem _ hx))
    have ha := h a List.mem_cons_self
    have e1 : (a :: r).filterMap g = (g a).toList ++ r.filterMap g := by
      cases hg : g a <;> simp [hg]
    have e2 : (a :: r).filterMap m = (m a).toList ++ r.filterMap m := by
      cases hm : m a <;> simp [hm]
    rw [e1, e2, ha, List.flatMap_cons]
    simp only [List.append_assoc]
    refine List.Perm.append_left _ ?_
    refine (List.Perm.append_left _ ih).trans ?_
    exact (List.perm_append_comm_assoc _ _ _)

theorem flatMap_sublist {α γ : Type} (k o : α → List γ) :
    ∀ l : List α, (∀ x ∈ l, (k x).Sublist (o x)) → (l.flatMap k).Sublist (l.flatMap o)
  | [], _ => by simp
  | a :: r, h => by
    simp only [List.flatMap_cons]
    exact (h a List.mem_cons_self).append (flatMap_sublist k o r (fun x hx => h x (List.mem_cons_of_mem _ hx)))

/- ## the Spec's traversal and the observation list -/

abbrev FB := List String × Nat

/-- canonical side and topological depth: the order-independent view the oracle uses -/
def FF (all : List String) (l : List String) : FB := (canonSide all l, lightSize all l)

theorem FF_permInv (all : List String) : PermInv (FF all) :=
  pair_permInv _ _ (canonSide_permInv all) (lightSize_permInv all)

/-- all the oracle reads of an entry, except the "hangs off the root" flag -/
abbrev Tup := List String × Rat × Rat × Bool × String × Nat × Int

def Ent.tup (e : Ent) : Tup := (e.side, e.len, e.sup, e.tip, e.name, e.depth, e.id)

/-- the same of a flagged observed branch: a terminal branch is one whose lower OR upper node is a tip -/
def obsTup (x : ObsG FB) : Tup :=
  (x.1.1.1, x.1.2.1.len, x.1.2.1.sup, x.1.2.2.1 || x.2.1, x.1.2.2.2.name, x.1.1.2, x.1.2.1.id)

/- `entsL` and `obsGL` agree, flag for flag; `rr` turns the Spec's "root branch of a rooted tree" into the
   model's "spared" -/
theorem entsL_obsG_of (all : List String) (rr top up pd : Bool) : ∀ k : Kids,
    (∀ et ∈ k, (entsT all et.2).map (fun e => (e.tup, !rr && e.prot)) =
      (obsGT (FF all) et.2).map (fun x => (obsTup x, x.2.2))) →
    (entsL all top up pd k).map (fun e => (e.tup, !rr && e.prot)) =
      (obsGL (FF all) up (!rr && pd) k).map (fun x => (obsTup x, x.2.2))
  | [], _ => by simp [entsL, obsGL]
  | (e, c) :: r, hk => by
    simp only [entsL, obsGL, List.map_cons, List.map_append, hk (e, c) List.mem_cons_self,
      entsL_obsG_of all rr top up pd r (fun et h => hk et (List.mem_cons_of_mem _ h))]
    rfl

theorem entsT_obsG (all : List String) (rr : Bool) (c : T) :
    (entsT all c).map (fun e => (e.tup, !rr && e.prot)) = (obsGT (FF all) c).map (fun x => (obsTup x, x.2.2)) := by
  induction c using T.induct with
  | h d p k ih => simpa [entsT, obsGT] using entsL_obsG_of all rr false false false k ih

theorem entsL_obsG (all : List String) (rr top up pd : Bool) (k : Kids) :
    (entsL all top up pd k).map (fun e => (e.tup, !rr && e.prot)) =
      (obsGL (FF all) up (!rr && pd) k).map (fun x => (obsTup x, x.2.2)) :=
  entsL_obsG_of all rr top up pd k (fun et _ => entsT_obsG all rr et.2)

theorem ents_obsG (all : List String) (rr : Bool) (t : T) :
    (ents all t).map (fun e => (e.tup, !rr && e.prot)) = (obsGRoot (FF all) rr t).map (fun x => (obsTup x, x.2.2)) :=
  entsL_obsG all rr true _ _ t.kids

theorem ents_tup (all : List String) (rr : Bool) (t : T) :
    (ents all t).map Ent.tup = (obsGRoot (FF all) rr t).map obsTup := by
  simpa [List.map_map, Function.comp_def] using congrArg (List.map Prod.fst) (ents_obsG all rr t)

def keyT (u : Tup) : Key := (u.1, u.2.1, u.2.2.1, u.2.2.2.2.1)

theorem key_tup (e : Ent) : e.key = keyT e.tup := rfl

theorem ents_keys (all : List String) (rr : Bool) (t : T) :
    (ents all t).map Ent.key = (obsGRoot (FF all) rr t).map (fun x => keyT (obsTup x)) := by
  have := congrArg (List.map keyT) (ents_tup all rr t)
  rw [List.map_map, List.map_map] at this
  exact this

def holdsT : Crit → Tup → Bool
  | .len l, u => decide (u.2.1 ≤ l)
  | .sup s, u => u.2.2.1 != NIL && decide (u.2.2.1 < s)
  | .depth mn mx, u => decide (mn ≤ (u.2.2.2.2.2.1 : Int)) && decide ((u.2.2.2.2.2.1 : Int) ≤ mx)
  | .ids l, u => l.contains u.2.2.2.2.2.2

theorem holds_tup (c : Crit) (e : Ent) : c.holds e = holdsT c e.tup := by cases c <;> rfl

/-- the criterion on an observed branch -/
def critV : Crit → FB × EdgeD × Bool → Bool
  | .len l, y => decide (y.2.1.len ≤ l)
  | .sup s, y => y.2.1.sup != NIL && decide (y.2.1.sup < s)
  | .depth mn mx, y => decide (mn ≤ (y.1.2 : Int)) && decide ((y.1.2 : Int) ≤ mx)
  | .ids l, y => l.contains y.2.1.id

theorem holdsT_obsTup (c : Crit) (x : ObsG FB) : holdsT c (obsTup x) = critV c (x.1.1, x.1.2.1, x.1.2.2.1) := by
  cases c <;> rfl

/- ## the collapse oracle: what the model leaves of one branch -/

theorem holds_eq_definite_or_ambiguous (crit : Crit) (e : Ent) :
    crit.holds e = (crit.definite e || crit.ambiguous e) := by
  cases crit with
  | len l =>
    simp only [Crit.holds, Crit.definite, Crit.ambiguous]
    by_cases h : e.len = NIL
    · simp [h]
    · have : (e.len == NIL) = false := by simpa using h
      simp [this, h]
  | sup s => simp [Crit.definite, Crit.ambiguous]
  | depth mn mx => simp [Crit.definite, Crit.ambiguous]
  | ids l => simp [Crit.definite, Crit.ambiguous]

theorem definite_ambiguous_excl (crit : Crit) (e : Ent) : crit.ambiguous e = true → crit.definite e = false := by
  cases crit with
  | len l =>
    simp only [Crit.definite, Crit.ambiguous, Bool.and_eq_true, beq_iff_eq]
    intro h; simp [h.1]
  | sup s => simp [Crit.ambiguous]
  | depth mn mx => simp [Crit.ambiguous]
  | ids l => simp [Crit.ambiguous]

/-- what is left of a branch of the input, as the model (= the code) treats it; `rr` = `removeRoot` -/
def outE (crit : Crit) (rt rr : Bool) (e : Ent) : Option Key :=
  if e.tip then some (if rt && crit.holds e then e.key0 else e.key)
  else if crit.holds e && !(!rr && e.prot) then none else some e.key

/-- the optional keys the model keeps: the selected root branches of a rooted tree, without `removeRoot` -/
def keptKeys (crit : Crit) (rr : Bool) (e : Ent) : List Key :=
  if !e.tip && crit.holds e && e.prot && !rr then [e.key] else []

theorem outE_split (crit : Crit) (rt rr : Bool) (e : Ent) :
    (outE crit rt rr e).toList = (mandKeyR crit.holds rt e).toList ++ keptKeys crit rr e := by
  unfold outE mandKeyR keptKeys
  cases ht : e.tip <;> cases hh : crit.holds e <;> cases rt <;> cases hp : e.prot <;> cases rr <;> simp

/-- what the model keeps is optional for the oracle — provided the oracle is not given `--root` while the
    model runs without it -/
theorem keptKeys_sublist (crit : Crit) (rrM rrO : Bool) (h : rrO = true → rrM = true) (e : Ent) :
    (keptKeys crit rrM e).Sublist (optKeysR crit.holds rrO e) := by
  unfold keptKeys optKeysR
  cases ht : e.tip <;> cases hh : crit.holds e <;> cases hp : e.prot <;> cases rrM <;> cases rrO <;> simp_all

/-- If the branches of `a` are, key for key, what the model (run with `removeRoot = rrM`) leaves of the
    branches of `b` (`outE`), the oracle given `rrO` accepts `a` — under the code's reading of the
    criterion, the first of its two alternatives. -/
theorem collapseOKr_of_out (crit : Crit) (rt rrM rrO : Bool) (hrr : rrO = true → rrM = true) (b a : T)
    (htips : a.tipNames.Perm b.tipNames) (hname : a.d = b.d)
    (hperm : ((ents b.tipNames a).map Ent.key).Perm ((ents b.tipNames b).filterMap (outE crit rt rrM))) :
    collapseOKr crit rt rrO b a = true := by
  have h1 : (sortS a.tipNames == sortS b.tipNames) = true := by
    rw [sortS_perm_eq htips]; exact beq_self_eq_true _
  have h2 : (a.name == b.name) = true := by
    unfold T.name; rw [hname]; exact beq_self_eq_true _
  have hp := hperm.trans (filterMap_split_flat (outE crit rt rrM) (mandKeyR crit.holds rt) (keptKeys crit rrM)
    (ents b.tipNames b) (fun e _ => outE_split crit rt rrM e))
  have hsub := flatMap_sublist (keptKeys crit rrM) (optKeysR crit.holds rrO) (ents b.tipNames b)
    (fun e _ => keptKeys_sublist crit rrM rrO hrr e)
  have h3 := msub_append_of_perm _ _ _ hp
  have h4 := msub_of_perm_sublist _ _ _ (mdiff_perm_append _ _ _ hp) hsub
  have : collapseUnder crit.holds rt rrO b a = true := by
    unfold collapseUnder
    simp only [h1, h2, h3, h4, Bool.and_self]
  unfold collapseOKr
  rw [this]; rfl

/-- `outE` on what is observed: the tuple and "spared" -/
def outT (crit : Crit) (rt : Bool) (u : Tup × Bool) : Option Key :=
  if u.1.2.2.2.1 then some (if rt && holdsT crit u.1 then (u.1.1, 0, u.1.2.2.1, u.1.2.2.2.2.1) else keyT u.1)
  else if holdsT crit u.1 && !u.2 then none else some (keyT u.1)

theorem outE_tup (crit : Crit) (rt rr : Bool) : outE crit rt rr = outT crit rt ∘ fun e => (e.tup, !rr && e.prot) := by
  funext e
  unfold outE outT
  rw [holds_tup]
  rfl

theorem outT_keepG (crit : Crit) (rt : Bool) (x : ObsG FB) :
    (keepG (critV crit) rt x).map (fun y => keyT (obsTup y)) = outT crit rt (obsTup x, x.2.2) := by
  obtain ⟨⟨fb, e, tip, d⟩, up, sp⟩ := x
  unfold keepG hitG outT
  rw [holdsT_obsTup]
  cases critV crit (fb, e, tip) <;> cases htl : (tip || up) <;> cases sp <;> cases rt <;>
    simp [keyT, obsTup, zeroLen, htl]

/-- The oracle, given `rrO`, accepts a tree whose flagged branch list is that of `b` filtered by the
    criterion as `RemoveEdges` run with `rrM` filters it — on every tree. -/
theorem collapseOKr_of_obsG (crit : Crit) (rt rrM rrO : Bool) (hrr : rrO = true → rrM = true) (b a : T)
    (htips : a.tipNames.Perm b.tipNames) (hname : a.d = b.d)
    (hobs : (obsGRoot (FF b.tipNames) rrM a).Perm ((obsGRoot (FF b.tipNames) rrM b).filterMap (keepG (critV crit) rt))) :
    collapseOKr crit rt rrO b a = true := by
  apply collapseOKr_of_out crit rt rrM rrO hrr b a htips hname
  rw [outE_tup, ← List.filterMap_map, ents_obsG, List.filterMap_map, ents_keys _ rrM a]
  refine (hobs.map _).trans (List.Perm.of_eq ?_)
  rw [List.map_filterMap]
  exact filterMap_congr' _ _ _ (fun x _ => outT_keepG crit rt x)

/-- ★ The model passes the collapse oracle on EVERY tree with unique branch ids, the oracle being given
    the flag the model was run with, or no flag (`rrO → rrM`). -/
theorem collapse_passes (crit : Crit) (sel : SplitE → Bool) (rrM rrO rt : Bool) (hrr : rrO = true → rrM = true) (t : T)
    (hsel : ∀ s ∈ t.splits, sel s = critV crit (FF t.tipNames s.below, s.e, s.tip))
    (hid : uniqueIds t = true) :
    collapseOKr crit rt rrO t (collapse sel rrM rt t) = true :=
  collapseOKr_of_obsG crit rt rrM rrO hrr t _ (removeEdges_tipNames rrM rt _ t) (removeEdges_leaves rrM rt _ t).2
    (collapse_obsG (FF t.tipNames) (FF_permInv _) sel (critV crit) rrM rt t hsel hid)

/-- … and so does `RemoveEdges` called directly with any list of branches -/
theorem removeEdges_passes (ids : List Int) (rrM rrO rt : Bool) (hrr : rrO = true → rrM = true) (t : T) :
    collapseOKr (.ids ids) rt rrO t (removeEdges rrM rt ids t) = true := by
  apply collapseOKr_of_obsG (.ids ids) rt rrM rrO hrr t _ (removeEdges_tipNames rrM rt _ t) (removeEdges_leaves rrM rt _ t).2
  refine (removeEdges_obsG (FF t.tipNames) (FF_permInv _) rrM rt ids t).trans (List.Perm.of_eq ?_)
  apply filterMap_congr'
  intro x _
  simp only [keepG, critV, List.contains_eq_mem]

theorem collapseOK_of_obs (crit : Crit) (rt : Bool) (b a : T)
    (hb3 : 3 ≤ b.kids.length) (_hns : b.noSingle = true) (ha1 : a.kids.length ≠ 1)
    (htips : a.tipNames.Perm b.tipNames) (hname : a.d = b.d)
    (hobs : (obsT (FF b.tipNames) a).Perm ((obsT (FF b.tipNames) b).filterMap (keepV (critV crit) rt))) :
    collapseOK crit rt b a = true := by
  apply collapseOKr_of_obsG crit rt true false (fun _ => rfl) b a htips hname
  rw [obsGRoot_plain _ true a (beq_eq_false_iff_ne.mpr ha1) rfl, obsGRoot_plain _ true b (beq_eq_false_iff_ne.mpr (by omega)) rfl,
    filterMap_keepG_plain]
  exact hobs.map _

/- ## the resolve oracle -/

/-- what `Resolve` keeps of a branch (everything but comments and id), with "the node above is a tip" -/
def obsRG (x : ObsG FB) : ObsR FB × Bool := (obsR x.1, x.2.1)

def keyR (y : ObsR FB) : Key := (y.1.1, y.2.1, y.2.2.1, y.2.2.2.2.2.name)

def ktR (y : ObsR FB × Bool) : Key × Bool := (keyR y.1, y.1.2.2.2.2.1 || y.2)

/-- when the root is not a tip there is nothing to flag -/
theorem obsRG_plain (all : List String) (t : T) (h1 : t.kids.length ≠ 1) :
    (obsGRoot (FF all) true t).map obsRG = (RT (FF all) t).map (·, false) := by
  rw [obsGRoot_plain _ true t (beq_eq_false_iff_ne.mpr h1) rfl, RT, List.map_map, List.map_map]; rfl

theorem isNew_plain {ex : List (ObsR FB)} (hnew : ∀ x ∈ ex, IsNew x) : ∀ y ∈ ex.map (·, false), IsNew y.1 ∧ y.2 = false :=
  List.forall_mem_map.mpr fun x hx => ⟨hnew x hx, rfl⟩

theorem imp_bool {p q r : Bool} (h : p = true → q = true → r = true) : (!(p && q) || r) = true := by
  cases p
  · rfl
  · cases q
    · rfl
    · simpa using h rfl rfl

/-- The resolve oracle accepts every tree `a` on the same tips and root whose observed branch list
    is that of `b` plus added branches, with equal distances, and binary when it has to be. -/
theorem resolveOK_of_obs (b a : T)
    (htips : a.tipNames.Perm b.tipNames) (hname : a.d = b.d)
    (ex : List (ObsR FB × Bool)) (hnew : ∀ y ∈ ex, IsNew y.1 ∧ y.2 = false)
    (hobs : ((obsGRoot (FF b.tipNames) true a).map obsRG).Perm ((obsGRoot (FF b.tipNames) true b).map obsRG ++ ex))
    (hdist : ∀ x y : String, a.dist x y = b.dist x y)
    (hbin : b.noSingle = true → 2 ≤ b.kids.length → a.binary = true)
    (hbin1 : b.noSingle = true → b.kids.length = 1 → binaryL a.kids = true)
    (hdeg3 : deg3 a = true) :
    resolveOK b a = true := by
  have ek : ∀ t : T, (ents b.tipNames t).map Ent.key =
      ((obsGRoot (FF b.tipNames) true t).map obsRG).map (fun y => keyR y.1) := by
    intro t; rw [ents_keys _ true t, List.map_map]; rfl
  have ekt : ∀ t : T, (ents b.tipNames t).map (fun e => (e.key, e.tip)) =
      ((obsGRoot (FF b.tipNames) true t).map obsRG).map ktR := by
    intro t
    have := congrArg (List.map (fun u : Tup => (keyT u, u.2.2.2.1))) (ents_tup b.tipNames true t)
    rw [List.map_map, List.map_map] at this
    rw [List.map_map]
    exact this
  unfold resolveOK
  simp only
  rw [ek b, ek a, ekt b, ekt a]
  have h1 : (sortS a.tipNames == sortS b.tipNames) = true := by
    rw [sortS_perm_eq htips]; exact beq_self_eq_true _
  have h2 : (a.name == b.name) = true := by
    unfold T.name; rw [hname]; exact beq_self_eq_true _
  have h3 := msub_append_of_perm _ _ _ (List.map_append ▸ hobs.map (fun y : ObsR FB × Bool => keyR y.1))
  have h4 : ((mdiff (((obsGRoot (FF b.tipNames) true a).map obsRG).map ktR)
      (((obsGRoot (FF b.tipNames) true b).map obsRG).map ktR)).all
      fun x => x.1.2.1 == 0 && x.1.2.2.1 == NIL && !x.2) = true := by
    have hp := mdiff_perm_append _ _ _ (List.map_append ▸ hobs.map ktR)
    rw [hp.all_eq, List.all_eq_true]
    intro x hx
    obtain ⟨y, hy, rfl⟩ := List.mem_map.mp hx
    obtain ⟨⟨e1, e2, _, e4, _⟩, e5⟩ := hnew y hy
    simp [ktR, keyR, e1, e2, e4, e5]
  have h5 : (a.distMatrix == b.distMatrix) = true := by
    have : a.distMatrix = b.distMatrix := by
      unfold T.distMatrix
      simp only [sortS_perm_eq htips, hdist]
    rw [this]; exact beq_self_eq_true _
  have h6 := imp_bool (fun hn h => hbin hn (of_decide_eq_true h))
  have h7 := imp_bool (fun hn h => hbin1 hn (beq_iff_eq.mp h))
  simp only [h1, h2, h3, h4, h5, h6, h7, hdeg3, Bool.and_self]

/-- … and for a root that is itself a tip (it is never resolved: one neighbour) -/
theorem resolveOK_tiproot_of (d : NodeD) (p : Nat) (e : EdgeD) (c c1 : T)
    (hl : c1.leaves.Perm c.leaves) (hleaf : c1.isLeaf = c.isLeaf) (hd : c1.d = c.d)
    (ex : List (ObsR FB)) (hnew : ∀ x ∈ ex, IsNew x)
    (hobs : (RT (FF (T.node d p [(e, c)]).tipNames) c1).Perm (RT (FF (T.node d p [(e, c)]).tipNames) c ++ ex))
    (hdist : ∀ x y : String, (T.node d p [(e, c1)]).dist x y = (T.node d p [(e, c)]).dist x y)
    (hdeg3 : deg3 (.node d p [(e, c1)]) = true)
    (hbin : c.noSingleBelow = true → c1.binaryBelow = true) :
    resolveOK (.node d p [(e, c)]) (.node d p [(e, c1)]) = true := by
  have htips : (T.node d p [(e, c1)]).tipNames.Perm (T.node d p [(e, c)]).tipNames := by
    simp only [T.tipNames, T.kids_node, List.length_cons, List.length_nil, leavesL, T.name, T.d_node]
    exact (List.Perm.refl _).append (hl.append (List.Perm.refl _))
  have hroot : ∀ x : T, (obsGRoot (FF (T.node d p [(e, c)]).tipNames) true (.node d p [(e, x)])).map obsRG =
      (obsR (FF (T.node d p [(e, c)]).tipNames x.leaves, e, x.isLeaf, x.d), true) ::
        (RT (FF (T.node d p [(e, c)]).tipNames) x).map (·, false) := by
    intro x
    simp [obsGRoot, obsGL, obsGT_plain, RT, obsRG, Function.comp_def]
  refine resolveOK_of_obs _ _ htips rfl (ex.map (·, false)) (isNew_plain hnew) ?_ hdist (fun _ h => by simp at h)
    (fun hns _ => ?_) hdeg3
  · rw [hroot, hroot, FF_permInv _ _ _ hl, hleaf, hd, List.cons_append, ← List.map_append]
    exact List.Perm.cons _ (hobs.map _)
  · simp only [T.noSingle, T.kids_node, noSingleL, Bool.and_true] at hns
    simp [binaryL, hbin hns]

/- only the branches of the root carry the flags "hangs off the root" and "protected" -/
theorem entsL_flags_of (all : List String) (top up pd : Bool) : ∀ k : Kids,
    (∀ et ∈ k, ∀ e ∈ entsT all et.2, e.root = false ∧ e.prot = false) →
    ∀ e ∈ entsL all top up pd k, (e.root = top ∨ e.root = false) ∧ (e.prot = pd ∨ e.prot = false)
  | [], _, e, he => by simp [entsL] at he
  | (ed, c) :: r, hk, e, he => by
    simp only [entsL, List.mem_cons, List.mem_append] at he
    rcases he with rfl | he | he
    · exact ⟨Or.inl rfl, Or.inl rfl⟩
    · exact ⟨Or.inr (hk (ed, c) List.mem_cons_self e he).1, Or.inr (hk (ed, c) List.mem_cons_self e he).2⟩
    · exact entsL_flags_of all top up pd r (fun et h => hk et (List.mem_cons_of_mem _ h)) e he

theorem entsT_flags (all : List String) (c : T) : ∀ e ∈ entsT all c, e.root = false ∧ e.prot = false := by
  induction c using T.induct with
  | h d p k ih =>
    intro e he
    have := entsL_flags_of all false false false k ih e (by simpa [entsT] using he)
    exact ⟨this.1.elim id id, this.2.elim id id⟩

theorem entsT_root (all : List String) : ∀ (c : T), ∀ e ∈ entsT all c, e.root = false :=
  fun c e he => (entsT_flags all c e he).1

theorem entsL_root (all : List String) (pd : Bool) : ∀ (k : Kids), ∀ e ∈ entsL all false false pd k, e.root = false :=
  fun k e he => (entsL_flags_of all false false pd k (fun et _ => entsT_flags all et.2) e he).1.elim id id

theorem entsL_prot (all : List String) : ∀ (k : Kids), ∀ e ∈ entsL all false false false k, e.prot = false :=
  fun k e he => (entsL_flags_of all false false false k (fun et _ => entsT_flags all et.2) e he).2.elim id id

end Gotree.C07

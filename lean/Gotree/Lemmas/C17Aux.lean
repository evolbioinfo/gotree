/-
  C17 — what the property theorems share: a proposal, and the two proposals of one branch, taken from the
  site up the path (`apply_RK`, `apply_apart`, `twin_apart`); two proposals of the same branch
  (`same_branch_eq`); reading `diffCount = 1`; the variant of `Apply` that forgets `Inverse`.
-/
import Gotree.Lemmas.C17Distinct
import Gotree.Lemmas.C17TwinApart
import Gotree.Lemmas.C17Count

namespace Gotree.C17
open Gotree

/-- what `Apply` keeps, for every proposed rearrangement -/
theorem apply_RK (t t' : T) (r : NNI) (hpos : pposOK t = true) (h : r ∈ rearrangements t)
    (ha : apply t r = some t') : RK t t' := by
  obtain ⟨S, hs, hP⟩ := rearrangements_sites (fun isRoot S r => ∀ S', applyLocal isRoot r S = some S' → RK S S')
    (fun _ _ d1 _ _ _ _ _ _ _ _ cross site => local_RK d1 cross site) t hpos r h
  exact RK.lift _ r.path t t' S hs ha hP

theorem binary_two_kids {t : T} (hb : t.binary = true) : 2 ≤ t.kids.length := by
  simp only [T.binary, Bool.and_eq_true, Bool.or_eq_true, beq_iff_eq] at hb
  rcases hb.1 with h2 | h3 <;> omega

theorem properOutside_of_tipRooted {t : T} (hb : Spec.tipRooted t = true) (hu : t.tipNames.Nodup) : ProperOutside t := by
  simp only [Spec.tipRooted, Bool.and_eq_true, beq_iff_eq] at hb
  exact properOutside_of_tipRoot t hu hb.1.1

/-- one proposal in two has `cross = false` -/
theorem filter_cross_half (t : T) : 2 * ((rearrangements t).filter fun r => !r.cross).length = (rearrangements t).length :=
  enumT_filter_cross t true []

theorem site_kids_ne {path : List Nat} {isRoot : Bool} {p1 : Nat} {k1 : Kids} {j : Nat} {e : EdgeD} {d2 : NodeD} {p2 : Nat}
    {u v : EdgeD × T} (s : Site path isRoot p1 k1 j e d2 p2 u v) : k1 ≠ [] := by
  have := s.deg
  rintro rfl
  cases isRoot <;> simp at this

theorem RL.tipNames_perm {t t' : T} (h : RL t t') : t'.tipNames.Perm t.tipNames :=
  tipNames_perm_of h.nkids h.data h.leaves

/-- a proposed rearrangement moves one branch of the split list: the branch above the lower end `S.kids[lowIdx r S]` -/
theorem apply_apart (t t' : T) (r : NNI) (hpos : pposOK t = true) (hu : t.tipNames.Nodup)
    (h : r ∈ rearrangements t) (ha : apply t r = some t') :
    ∃ S, subAt r.path t = some S ∧ S.kids ≠ [] ∧
      Apart (leavesL S.kids) (lowerLeaves S.kids (lowIdx r S)) r.path.isEmpty (splitsL t.kids) (splitsL t'.kids) ∧
      ∀ x ∈ leavesL S.kids, x ∈ leavesL t.kids := by
  obtain ⟨S, hs, hne, hP⟩ := rearrangements_generic
    (fun S r => S.kids ≠ [] ∧ ((leavesL S.kids).Nodup →
      ∀ S', applyLocal r.path.isEmpty r S = some S' →
        RK S S' ∧ Apart (leavesL S.kids) (lowerLeaves S.kids (lowIdx r S)) r.path.isEmpty (splitsL S.kids) (splitsL S'.kids)))
    (by
      intro path isRoot d1 p1 k1 j e d2 p2 u v cross site
      have hr : (newNNI path isRoot p1 j p2 cross).path.isEmpty = isRoot := by
        simp [newNNI, site.root]
      rw [hr, lowIdx_newNNI path isRoot site.root]
      exact ⟨site_kids_ne site, fun hnd S' hS' => ⟨local_RK d1 cross site S' hS', local_apart d1 cross site hnd S' hS'⟩⟩)
    t hpos r h
  have hnd := T.nodup_leavesL_of_tipNames hu
  obtain ⟨_, hA, hZ⟩ := apart_lift (leavesL S.kids) _ r.path.isEmpty _ r.path t t' S hs ha hnd
    (hP (hnd.sublist (sub_leaves_sublist r.path t S hs hne))) (fun x hx => hx)
  exact ⟨S, hs, hne, hA, hZ⟩

/-- the two neighbours proposed for one branch are one branch apart from each other -/
theorem twin_apart (t t₁ t₂ : T) (r : NNI) (hpos : pposOK t = true) (hu : t.tipNames.Nodup)
    (h : r ∈ rearrangements t) (h₁ : apply t { r with cross := false } = some t₁)
    (h₂ : apply t { r with cross := true } = some t₂) :
    ∃ S cb, subAt r.path t = some S ∧ S.kids ≠ [] ∧ RK t t₁ ∧ RL t₁ t₂ ∧ (∀ x ∈ leavesL S.kids, x ∈ leavesL t₁.kids) ∧
      Apart (leavesL S.kids) cb r.path.isEmpty (splitsL t₁.kids) (splitsL t₂.kids) := by
  obtain ⟨S, hs, hne, hP⟩ := rearrangements_generic
    (fun S r => S.kids ≠ [] ∧ ((leavesL S.kids).Nodup →
      ∀ S1 S2, applyLocal r.path.isEmpty { r with cross := false } S = some S1 →
        applyLocal r.path.isEmpty { r with cross := true } S = some S2 →
        RK S S1 ∧ RK S S2 ∧ ∃ cb, Apart (leavesL S.kids) cb r.path.isEmpty (splitsL S1.kids) (splitsL S2.kids)))
    (by
      intro path isRoot d1 p1 k1 j e d2 p2 u v cross site
      have hr : (newNNI path isRoot p1 j p2 cross).path.isEmpty = isRoot := by
        simp [newNNI, site.root]
      rw [hr]
      exact ⟨site_kids_ne site, fun hnd S1 S2 hS1 hS2 =>
        ⟨local_RK d1 false site S1 hS1, local_RK d1 true site S2 hS2, local_twin_apart d1 site hnd S1 S2 hS1 hS2⟩⟩)
    t hpos r h
  have hnd := T.nodup_leavesL_of_tipNames hu
  have hloc := hP (hnd.sublist (sub_leaves_sublist r.path t S hs hne))
  have hk1 : RK t t₁ := RK.lift _ r.path t t₁ S hs h₁ fun S1 hS1 => by
    cases hS2 : applyLocal r.path.isEmpty { r with cross := true } S with
    | none => rw [apply, modAt_none _ r.path t S hs hS2] at h₂; cases h₂
    | some S2 => exact (hloc S1 S2 hS1 hS2).1
  obtain ⟨hl, hZ, cb, hA⟩ := apart_lift2 (leavesL S.kids) r.path.isEmpty _ _ r.path t t₁ t₂ S hs h₁ h₂
    (hk1.leaves.nodup_iff.mpr hnd) fun S1 S2 hS1 hS2 => by
      obtain ⟨k1, k2, hA⟩ := hloc S1 S2 hS1 hS2
      exact ⟨RL.of_RK k1 k2, fun x hx => k1.leaves.mem_iff.mpr hx, hA⟩
  exact ⟨S, cb, hs, hne, hk1, hl, hZ, hA⟩

/-- two proposals for the same branch differ in `cross` only -/
theorem same_branch_eq {t : T} {r₁ r₂ : NNI} {S1 S2 c1 c2 : T} {e1 e2 : EdgeD} {x1 x2 : Bool}
    (hs1 : subAt r₁.path t = some S1) (hj1 : S1.kids[lowIdx r₁ S1]? = some (e1, c1))
    (hr1 : r₁ = newNNI r₁.path r₁.path.isEmpty S1.ppos (lowIdx r₁ S1) c1.ppos x1)
    (hs2 : subAt r₂.path t = some S2) (hj2 : S2.kids[lowIdx r₂ S2]? = some (e2, c2))
    (hr2 : r₂ = newNNI r₂.path r₂.path.isEmpty S2.ppos (lowIdx r₂ S2) c2.ppos x2)
    (hp : r₁.path = r₂.path) (hl : lowIdx r₁ S1 = lowIdx r₂ S2) : { r₂ with cross := r₁.cross } = r₁ := by
  rw [hp, hs2] at hs1
  simp only [Option.some.injEq] at hs1
  subst hs1
  rw [hl, hj2] at hj1
  simp only [Option.some.injEq, Prod.mk.injEq] at hj1
  obtain ⟨_, rfl⟩ := hj1
  rw [hp, hl] at hr1
  obtain ⟨p, ie, pp, j, q, hN1, hN2⟩ : ∃ p ie pp j q, r₁ = newNNI p ie pp j q x1 ∧ r₂ = newNNI p ie pp j q x2 :=
    ⟨_, _, _, _, _, hr1, hr2⟩
  rw [hN1, hN2]
  rfl

theorem mem_of_diffCount_one {A B : Spec.SplitSet} (h : Spec.diffCount A B = 1) : ∃ a, a ∈ A ∧ a ∉ B := by
  unfold Spec.diffCount at h
  match hf : A.filter (fun s => !B.contains s), h with
  | [a], _ =>
    have : a ∈ A.filter (fun s => !B.contains s) := by rw [hf]; simp
    simp only [List.mem_filter, Bool.not_eq_true', List.contains_eq_mem, decide_eq_false_iff_not] at this
    exact ⟨a, this.1, this.2⟩

theorem eq_of_diffCount_one {A B : Spec.SplitSet} (h : Spec.diffCount A B = 1) {a b : List String}
    (ha : a ∈ A) (ha' : a ∉ B) (hb : b ∈ A) (hb' : b ∉ B) : a = b := by
  unfold Spec.diffCount at h
  have ma : a ∈ A.filter (fun s => !B.contains s) := by simp [ha, ha']
  have mb : b ∈ A.filter (fun s => !B.contains s) := by simp [hb, hb']
  match hf : A.filter (fun s => !B.contains s), h with
  | [x], _ =>
    rw [hf] at ma mb
    simp only [List.mem_singleton] at ma mb
    rw [ma, mb]

/-- a VARIANT of `applyH` that forgets to invert the central branch when the swapped neighbour
    of n1 is its parent (not the code: used only to show that "the heap is oriented away from the
    root", which is part of `apply t r = some t'`, is a real condition) -/
def applyHNoInverse (h : Heap) (cross : Bool) : Option Heap :=
  match h.ng1.idx .b with
  | none => none
  | some n12index =>
  let n22node : Ref := if cross then .c else .d
  match h.ng2.idx n22node with
  | none => none
  | some n22index => some { h with ng1 := h.ng1.set n12index n22node, ng2 := h.ng2.set n22index .b }

def applyNoInverse (t : T) (r : NNI) : Option T :=
  modAt r.path (fun S =>
    match extract S r.path.isEmpty r false with
    | none => none
    | some h =>
      match applyHNoInverse h r.cross with
      | none => none
      | some h' => if h'.oriented then some (rebuild h') else none) t

end Gotree.C17

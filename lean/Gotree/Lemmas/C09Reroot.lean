/-
  C09 — root moves along an arbitrary path (C05's `reroot` = fold of `moveRoot`) keep
  `T.usplitsAll`, hence the Spec's frequency table of a collection, hence the Spec the
  consensus has to meet.
-/
import Gotree.Lemmas.C09Oracle
import Gotree.Lemmas.C05

namespace Gotree.C09
open Gotree

/-- any fold of root moves keeps the tips and the unrooted split map with all its data -/
theorem rerootP_usplitsAll : ∀ (path : List Nat) (t : T) (adj : Option Nat) (back : List Nat),
    t.tipNames.Nodup → LensGood t.splits →
    (C05.rerootP t path adj back).1.tipNames.Perm t.tipNames ∧
    (C05.rerootP t path adj back).1.usplitsAll.Perm t.usplitsAll
  | [], t, _, _, _, _ => ⟨List.Perm.refl _, List.Perm.refl _⟩
  | i :: rest, t, adj, back, hu, hg => by
    cases h : t.kids[C05.adjIdx adj i]? with
    | none => rw [C05.rerootP_cons_none t i rest adj back h]; exact ⟨List.Perm.refl _, List.Perm.refl _⟩
    | some ec =>
      obtain ⟨e, c⟩ := ec
      rw [C05.rerootP_cons_some t i rest adj back e c h]
      have p1 := C05.moveRoot_tips t (C05.adjIdx adj i)
      have p2 := C05.moveRoot_usplitsAll t (C05.adjIdx adj i) hu hg
      have hu' : (C05.moveRoot t (C05.adjIdx adj i)).tipNames.Nodup := p1.nodup_iff.2 hu
      have hg' := C05.moveRoot_lensGood t (C05.adjIdx adj i) hg
      obtain ⟨q1, q2⟩ := rerootP_usplitsAll rest (C05.moveRoot t (C05.adjIdx adj i)) _ _ hu' hg'
      exact ⟨q1.trans p1, q2.trans p2⟩

/-- `Reroot` on any node (C05's model of `Tree.Reroot`), when it succeeds -/
theorem reroot_usplitsAll (t t' : T) (p : List Nat) (hu : t.tipNames.Nodup) (hg : LensGood t.splits)
    (h : C05.reroot t p = .ok t') : t'.tipNames.Perm t.tipNames ∧ t'.usplitsAll.Perm t.usplitsAll := by
  have ht : t' = (C05.rerootP t p none []).1 := by
    unfold C05.reroot at h
    cases hn : C05.nodeAt t p with
    | none => simp [hn] at h
    | some n =>
      simp only [hn] at h
      by_cases h2 : (if p.isEmpty then n.kids.length else n.kids.length + 1) < 2
      · rw [if_pos h2] at h; cases h
      · rw [if_neg h2] at h; cases h; rfl
  subst ht
  exact rerootP_usplitsAll p t none [] hu hg

/-! ## the Spec's tables only depend on the unrooted split maps -/

/-- two trees are the same for the Spec: same tips, same unrooted split map -/
def SameU (t t' : T) : Prop := t'.tipNames.Perm t.tipNames ∧ t'.usplitsAll.Perm t.usplitsAll

theorem spec_count_congr {ts ts' : List T} (h : F2 SameU ts ts') (s : List String) :
    C09S.count ts' s = C09S.count ts s := by
  unfold C09S.count
  induction h with
  | nil => rfl
  | @cons t t' l l' hab _ ih =>
    have e : (t'.usplitsAll.any (·.side == s)) = (t.usplitsAll.any (·.side == s)) := by
      rw [Bool.eq_iff_iff, List.any_eq_true, List.any_eq_true]
      exact ⟨fun ⟨u, hu, h⟩ => ⟨u, hab.2.mem_iff.1 hu, h⟩, fun ⟨u, hu, h⟩ => ⟨u, hab.2.mem_iff.2 hu, h⟩⟩
    simp only [List.filter_cons, e]
    split <;> simp [ih]

theorem spec_lenSum_congr {ts ts' : List T} (h : F2 SameU ts ts') (s : List String) :
    C09S.lenSum ts' s = C09S.lenSum ts s := by
  unfold C09S.lenSum
  induction h with
  | nil => rfl
  | @cons t t' l l' hab _ ih =>
    simp only [List.map_cons, List.sum_cons, ih]
    congr 1
    exact sumR_perm (((hab.2).filter _).map _)

theorem spec_allSides_congr {ts ts' : List T} (h : F2 SameU ts ts') (s : List String) :
    s ∈ C09S.allSides ts' ↔ s ∈ C09S.allSides ts := by
  unfold C09S.allSides
  rw [List.mem_eraseDups, List.mem_eraseDups]
  induction h with
  | nil => exact Iff.rfl
  | @cons t t' l l' hab _ ih =>
    simp only [List.flatMap_cons, List.mem_append, ih]
    have : s ∈ t'.usplitsAll.map (·.side) ↔ s ∈ t.usplitsAll.map (·.side) := (hab.2.map _).mem_iff
    rw [this]

theorem spec_length_congr {ts ts' : List T} (h : F2 SameU ts ts') : ts'.length = ts.length :=
  (F2.length_eq h).symm

theorem spec_taxa_congr {ts ts' : List T} (h : F2 SameU ts ts') : (C09S.taxa ts').Perm (C09S.taxa ts) := by
  cases h with
  | nil => exact List.Perm.refl _
  | cons hab _ => exact hab.1

/-- A tree that meets the Spec of one collection meets the Spec of any collection whose
    trees have, one by one, the same tips and the same unrooted split maps. -/
theorem oracle_congr {ts ts' : List T} (h : F2 SameU ts ts') (c : Rat) (r : T)
    (hkeys : C09S.keysOK ts = true)
    (ho : C09S.splitsOK ts' c r = true ∧ C09S.supportsOK ts' r = true ∧ C09S.lengthsOK ts' r = true) :
    C09S.splitsOK ts c r = true ∧ C09S.supportsOK ts r = true ∧ C09S.lengthsOK ts r = true := by
  have hcnt := spec_count_congr h
  have hls := spec_lenSum_congr h
  have hlen := spec_length_congr h
  have hfreq : ∀ s, C09S.freq ts' s = C09S.freq ts s := fun s => by unfold C09S.freq; rw [hcnt, hlen]
  have hmean : ∀ s, C09S.meanLen ts' s = C09S.meanLen ts s := fun s => by unfold C09S.meanLen; rw [hcnt, hls]
  have hsel : ∀ s, C09S.isSelected ts' c s = C09S.isSelected ts c s := fun s => by
    unfold C09S.isSelected; rw [hfreq, hcnt, hlen]
  have htaxa := spec_taxa_congr h
  obtain ⟨o1, o2, o3⟩ := ho
  refine ⟨?_, ?_, ?_⟩
  · unfold C09S.splitsOK at o1 ⊢
    rw [Bool.and_eq_true, beq_iff_eq, beq_iff_eq] at o1 ⊢
    refine ⟨by rw [o1.1]; exact Gotree.sortS_congr htaxa, ?_⟩
    rw [o1.2]
    unfold C09S.expectedSplits canonSet
    symm
    apply Gotree.C05.canon_eq
    · intro a
      rw [List.mem_filter, List.mem_filter, spec_allSides_congr h, hsel, lightSize_perm_all htaxa]
    · intro a ha b hb hab
      have hk : ((C09S.allSides ts).map fun s => toString s).Nodup := by simpa [C09S.keysOK] using hkeys
      exact Gotree.C05.inj_of_nodup_map _ _ hk a (List.mem_filter.1 ha).1 b (List.mem_filter.1 hb).1 hab
  · unfold C09S.supportsOK at o2 ⊢
    rw [List.all_eq_true] at o2 ⊢
    intro u hu; rw [← hfreq]; exact o2 u hu
  · unfold C09S.lengthsOK at o3 ⊢
    rw [List.all_eq_true] at o3 ⊢
    intro u hu; rw [← hmean]; exact o3 u hu

/-! ## a tip root moved to its neighbour (5a3a76a) is one root move -/

theorem rerootTip_eq_moveRoot (t : T) (h : rerootTip t ≠ t) : rerootTip t = C05.moveRoot t 0 := by
  rcases rerootTip_cases t with h' | ⟨d, p, e, dv, pv, k, kr, rfl, h'⟩
  · exact absurd h' h
  · rw [h']; rfl

theorem rerootTip_sameU (t : T) (hu : t.tipNames.Nodup) (hg : LensGood t.splits) : SameU t (rerootTip t) := by
  by_cases h : rerootTip t = t
  · rw [h]; exact ⟨List.Perm.refl _, List.Perm.refl _⟩
  · rw [rerootTip_eq_moveRoot t h]
    exact ⟨C05.moveRoot_tips t 0, C05.moveRoot_usplitsAll t 0 hu hg⟩

/-! ## witnesses

`C09S.keysOK`, `canonSide`, `T.usplitsAll` go through `List.mergeSort`, which the kernel does not
unfold: `keysOK_of_sidesN` reduces `keysOK` to the same statement over the structural insertion sort
`sortN`, which `decide +kernel` evaluates.  `exCollRe` is `exColl` re-rooted tree by tree with C05's
`reroot`. -/

theorem sortS_eq_sortN (l : List String) : sortS l = sortN l := by
  apply List.Perm.eq_of_pairwise (le := fun a b => decide (a ≤ b) = true) _ (sortS_sorted l) _
    ((sortS_perm l).trans (sortN_perm l).symm)
  · intro x y _ _ h1 h2
    simp only [decide_eq_true_eq] at h1 h2
    exact String.le_antisymm h1 h2
  · exact (sortN_sorted l).imp (fun h => by simpa using h)

/-- `canonSide` with the structural sort (what the kernel can evaluate) -/
def canonSideN (all side : List String) : List String :=
  let s := sortN (side.filter all.contains)
  match minS all with
  | none => s
  | some m => if s.contains m then sortN (complS all s) else s

theorem canonSide_eq_N (all side : List String) : canonSide all side = canonSideN all side := by
  unfold canonSide canonSideN
  simp only [sortS_eq_sortN]
  rfl

/-- all canonical sides of a collection, computed without `List.mergeSort` -/
def sidesN (ts : List T) : List (List String) :=
  ts.flatMap fun t => t.splits.map fun s => canonSideN t.tipNames s.below

theorem mem_allSides_iff (ts : List T) (c : List String) : c ∈ C09S.allSides ts ↔ c ∈ (sidesN ts).eraseDups := by
  unfold sidesN
  rw [mem_allSides, List.mem_eraseDups, List.mem_flatMap]
  simp only [List.mem_map, canonSide_eq_N]

/-- `keysOK` evaluated without `List.mergeSort` -/
theorem keysOK_of_sidesN (ts : List T) (h : (((sidesN ts).eraseDups).map fun s => toString s).Nodup) :
    C09S.keysOK ts = true := by
  unfold C09S.keysOK
  rw [decide_eq_true_eq]
  have hp : (C09S.allSides ts).Perm (sidesN ts).eraseDups :=
    (List.perm_ext_iff_of_nodup (C05.nodup_eraseDups_gen _ _ (Nat.le_refl _)) (C05.nodup_eraseDups_gen _ _ (Nat.le_refl _))).2
      (mem_allSides_iff ts)
  exact (hp.map _).nodup_iff.2 h

theorem lensGood_of_lensOK (ts : List T) (h : lensOK ts = true) : ∀ t ∈ ts, LensGood t.splits := by
  intro t ht s hs
  unfold lensOK at h
  rw [List.all_eq_true] at h
  have := h t ht
  rw [List.all_eq_true] at this
  have := this s hs
  unfold GoodL
  simpa using this

def rr (t : T) (p : List Nat) : T := (C05.rerootP t p none []).1

theorem reroot_ok_of (t : T) (p : List Nat)
    (h : (match C05.nodeAt t p with
          | none => false
          | some n => !decide ((if p.isEmpty then n.kids.length else n.kids.length + 1) < 2)) = true) :
    C05.reroot t p = .ok (rr t p) := by
  unfold C05.reroot rr
  cases hn : C05.nodeAt t p with
  | none => rw [hn] at h; cases h
  | some n =>
    rw [hn] at h
    simp only [Bool.not_eq_true', decide_eq_false_iff_not] at h
    simp only [if_neg h]

/-- `exColl` with every tree re-rooted on an inner node along a path of child indices -/
def exCollRe : List T := [rr exU1 [0], rr exR2 [1], rr exR3 [1, 0]]

theorem exCollRe_hyp : F2 (fun t t' => t.tipNames.Nodup ∧ LensGood t.splits ∧ ∃ p, C05.reroot t p = .ok t') exColl exCollRe := by
  have hg := lensGood_of_lensOK exColl (by decide +kernel)
  refine F2.cons ⟨by decide +kernel, hg _ (by simp [exColl]), [0], reroot_ok_of _ _ (by decide +kernel)⟩
    (F2.cons ⟨by decide +kernel, hg _ (by simp [exColl]), [1], reroot_ok_of _ _ (by decide +kernel)⟩
      (F2.cons ⟨by decide +kernel, hg _ (by simp [exColl]), [1, 0], reroot_ok_of _ _ (by decide +kernel)⟩ F2.nil))

end Gotree.C09

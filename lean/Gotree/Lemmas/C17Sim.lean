/-
  C17 — what `Apply` preserves: a relation between the subtree at a site before and
  after, and its lifting through the context (the path from the root to the site).
-/
import Gotree.Model.C17
import Gotree.Lemmas.C17
import Gotree.Lemmas.Core

namespace Gotree.C17
open Gotree

/-- evaluate `applyLocal`/`undoLocal` on a concrete slot configuration -/
macro "eval_local" "at" h:ident : tactic => `(tactic|
  simp [applyLocal, undoLocal, extract, applyH, undoH, rebuild, slots3, newNNI, lab1, lab2, rot1, rot2,
    Tri.get, Tri.set, Tri.idx, kidsOf, upIdx, Heap.oriented, Heap.topIs1, Heap.outer, Outer.isUp] at $h:ident)

/-- permutation of two explicit concatenations of the same blocks -/
macro "perm_blocks" : tactic => `(tactic|
  (rw [List.perm_iff_count]; intro a; simp only [List.count_cons, List.count_append, List.count_nil]; omega))

/-- the relation between a node before and after an NNI somewhere at or below it,
    in terms of its children -/
structure RK (S S' : T) : Prop where
  nkids : S'.kids.length = S.kids.length
  data : S.kids.length ≤ 1 → S'.d = S.d
  leaves : (leavesL S'.kids).Perm (leavesL S.kids)
  bin : binaryL S.kids = true → binaryL S'.kids = true
  ppos : pposOKL S.kids = true → pposOKL S'.kids = true
  pp : S.ppos ≤ S.kids.length → S'.ppos ≤ S'.kids.length

/-- … and as a whole subtree (what the parent sees) -/
theorem RK.leaves_perm {S S' : T} (h : RK S S') : S'.leaves.Perm S.leaves := by
  rw [T.leaves_eq, T.leaves_eq]
  have hn := h.nkids
  by_cases hk : S.kids = []
  · have hk' : S'.kids = [] := by
      apply List.eq_nil_of_length_eq_zero
      rw [hn, hk]; rfl
    have hd := h.data (by simp [hk])
    simp [hk, hk', T.name, hd]
  · have hk' : S'.kids ≠ [] := by
      intro h0
      apply hk
      apply List.eq_nil_of_length_eq_zero
      rw [← hn, h0]; rfl
    simpa [hk, hk'] using h.leaves

theorem RK.isLeaf_eq {S S' : T} (h : RK S S') : S'.isLeaf = S.isLeaf := by
  have hn := h.nkids
  obtain ⟨d, p, k⟩ := S
  obtain ⟨d', p', k'⟩ := S'
  simp only [T.kids_node] at hn
  cases k <;> cases k' <;> simp_all [T.isLeaf]

theorem RK.binaryBelow {S S' : T} (h : RK S S') (hb : S.binaryBelow = true) : S'.binaryBelow = true := by
  obtain ⟨d, p, k⟩ := S
  obtain ⟨d', p', k'⟩ := S'
  have hn := h.nkids
  simp only [T.kids_node] at hn
  simp only [T.binaryBelow, Bool.and_eq_true] at hb ⊢
  exact ⟨by rw [hn]; exact hb.1, h.bin hb.2⟩

theorem RK.pposOKBelow {S S' : T} (h : RK S S') (hb : pposOKBelow S = true) : pposOKBelow S' = true := by
  obtain ⟨d, p, k⟩ := S
  obtain ⟨d', p', k'⟩ := S'
  simp only [C17.pposOKBelow, Bool.and_eq_true, decide_eq_true_eq] at hb ⊢
  exact ⟨h.pp hb.1, h.ppos hb.2⟩

/-- the tips of the whole tree (`Tree.Tips()` names, the root included when it is a tip) -/
theorem tipNames_perm_of {t t' : T} (hn : t'.kids.length = t.kids.length) (hd : t.kids.length ≤ 1 → t'.d = t.d)
    (hl : (leavesL t'.kids).Perm (leavesL t.kids)) : t'.tipNames.Perm t.tipNames := by
  unfold T.tipNames
  rw [hn]
  by_cases h1 : t.kids.length = 1
  · simp only [h1, beq_self_eq_true, if_true, T.name, hd (by omega)]
    exact List.Perm.append_left _ hl
  · have : (t.kids.length == 1) = false := by simpa using h1
    simp only [this, Bool.false_eq_true, if_false, List.nil_append]
    exact hl

theorem RK.tipNames_perm {t t' : T} (hk : RK t t') : t'.tipNames.Perm t.tipNames :=
  tipNames_perm_of hk.nkids hk.data hk.leaves

/- ## the context -/

theorem leavesL_set (c c' : T) (e : EdgeD) (hl : c'.leaves.Perm c.leaves) :
    ∀ (k : Kids) (i : Nat), k[i]? = some (e, c) → (leavesL (k.set i (e, c'))).Perm (leavesL k) := by
  intro k
  induction k with
  | nil => intro i h; simp at h
  | cons x xs ih =>
    intro i h
    cases i with
    | zero =>
      simp at h; subst h
      simp only [List.set_cons_zero, leavesL]
      exact List.Perm.append_right _ hl
    | succ i =>
      obtain ⟨ex, tx⟩ := x
      simp only [List.set_cons_succ, leavesL]
      exact List.Perm.append_left _ (ih i (by simpa using h))

/-- a predicate on the children that is the conjunction of a predicate on each child survives the replacement of a child -/
theorem allKids_set (f : Kids → Bool) (g : T → Bool) (hf : ∀ e t r, f ((e, t) :: r) = (g t && f r)) (c c' : T) (e : EdgeD)
    (hb : g c = true → g c' = true) : ∀ (k : Kids) (i : Nat), k[i]? = some (e, c) → f k = true → f (k.set i (e, c')) = true := by
  intro k
  induction k with
  | nil => intro i h; simp at h
  | cons x xs ih =>
    intro i h hk
    obtain ⟨ex, tx⟩ := x
    simp only [hf, Bool.and_eq_true] at hk
    cases i with
    | zero =>
      simp at h; obtain ⟨rfl, rfl⟩ := h
      simp only [List.set_cons_zero, hf, Bool.and_eq_true]
      exact ⟨hb hk.1, hk.2⟩
    | succ i =>
      simp only [List.set_cons_succ, hf, Bool.and_eq_true]
      exact ⟨hk.1, ih i (by simpa using h) hk.2⟩

/-- one step up: the parent of a changed child -/
theorem RK.up {c c' : T} (h : RK c c') (d : NodeD) (p : Nat) (k : Kids) (i : Nat) (e : EdgeD)
    (hk : k[i]? = some (e, c)) : RK (.node d p k) (.node d p (k.set i (e, c'))) where
  nkids := by simp
  data := fun _ => rfl
  leaves := leavesL_set c c' e h.leaves_perm k i hk
  bin := allKids_set binaryL T.binaryBelow (fun _ _ _ => rfl) c c' e h.binaryBelow k i hk
  ppos := allKids_set pposOKL C17.pposOKBelow (fun _ _ _ => rfl) c c' e h.pposOKBelow k i hk
  pp := by simp

/-- lifting along the path -/
theorem RK.lift (f : T → Option T) : ∀ (q : List Nat) (t t' S : T), subAt q t = some S →
    modAt q f t = some t' → (∀ S', f S = some S' → RK S S') → RK t t' :=
  modAt_lift RK f fun d p k i e _ _ hk h => h.up d p k i e hk

/-- the fields of `RK` between two explicit nodes with at least two children -/
macro "rk_fields" : tactic => `(tactic|
  exact ⟨rfl, by simp, by simp only [T.kids_node, T.leaves, leavesL, List.append_nil]; perm_blocks,
    by simp [binaryL, T.binaryBelow] <;> (intros; simp_all), by simp [pposOKL, pposOKBelow] <;> (intros; simp_all),
    by simp [xslot_le]⟩)

/-- the local fact: at every site `Apply` relates the subtree before and after by `RK` -/
theorem local_RK {path : List Nat} {isRoot : Bool} {p1 : Nat} {k1 : Kids} {j : Nat}
    {e : EdgeD} {d2 : NodeD} {p2 : Nat} {u v : EdgeD × T} (d1 : NodeD) (cross : Bool)
    (s : Site path isRoot p1 k1 j e d2 p2 u v) :
    ∀ S', applyLocal isRoot (newNNI path isRoot p1 j p2 cross) (.node d1 p1 k1) = some S' →
      RK (.node d1 p1 k1) S' := by
  refine site_cases s (fun isRoot p1 k1 j p2 =>
    ∀ S', applyLocal isRoot (newNNI path isRoot p1 j p2 cross) (.node d1 p1 k1) = some S' →
      RK (.node d1 p1 k1) S') ?_ ?_
  · intro y z p1 hp2
    obtain ⟨a0, a1, a2⟩ := applyLocal_root path d1 d2 p1 p2 cross e u v y z hp2
    simp only [a0, a1, a2, Option.some.injEq, forall_eq']
    obtain ⟨eu, tu⟩ := u
    obtain ⟨ev, tv⟩ := v
    obtain ⟨ey, ty⟩ := y
    obtain ⟨ez, tz⟩ := z
    rcases kids2_cases p2 cross (eu, tu) (ev, tv) with ⟨hm, -, hk⟩ | ⟨hm, -, hk⟩ <;> simp only [hm, hk] <;>
      refine ⟨?_, ?_, ?_⟩ <;> rk_fields
  · intro y hp1 hp2
    obtain ⟨a01, a10, a12⟩ := applyLocal_inner path d1 d2 p2 cross e u v y hp2
    obtain ⟨b02, b00, b11⟩ := applyLocal_inner_up path d1 d2 p2 cross e u v y hp2
    obtain ⟨eu, tu⟩ := u
    obtain ⟨ev, tv⟩ := v
    obtain ⟨ey, ty⟩ := y
    have h1 : p1 = 0 ∨ p1 = 1 ∨ p1 = 2 := by omega
    rcases kids2_cases p2 cross (eu, tu) (ev, tv) with ⟨hm, hk', hk⟩ | ⟨hm, hk', hk⟩ <;>
      rcases kidsTop_cases p2 cross with ht | ht <;> rcases h1 with rfl | rfl | rfl <;>
      simp only [a01, a10, a12, b02, b00, b11, Option.some.injEq, forall_eq', hm, hk, hk', ht] <;>
      refine ⟨?_, ?_⟩ <;> rk_fields

end Gotree.C17

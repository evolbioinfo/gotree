/-
  C07 — lemmas about the command loops of Model/C07Cmd.lean.
-/
import Gotree.Model.C07Cmd
import Gotree.Lemmas.C07Resolve

namespace Gotree.C07
open Gotree

/-- the records before the first one in error -/
def goodRecs : List Rec → List T
  | some t :: r => t :: goodRecs r
  | _ => []

/-- is some record in error -/
def hasErrRec : List Rec → Bool
  | [] => false
  | none :: _ => true
  | some _ :: r => hasErrRec r

/-- the common loop when the operation succeeds on every tree before the first record in error -/
theorem runEach_total (op : T → Option T) (g : T → T) : ∀ recs : List Rec,
    (∀ t ∈ goodRecs recs, op t = some (g t)) → runEach op recs = ((goodRecs recs).map g, !hasErrRec recs)
  | [], _ => rfl
  | none :: r, _ => rfl
  | some t :: r, h => by
    have ih := runEach_total op g r (fun u hu => h u (by simp [goodRecs, hu]))
    simp only [runEach, h t (by simp [goodRecs]), ih, goodRecs, hasErrRec, List.map_cons]

theorem cmdResolve_ok : ∀ (recs : List Rec) (ds : List Nat), okDraws (cmdResolveScript recs) ds = true →
    ∃ o, cmdResolve recs ds = some o ∧ o.1.length = (goodRecs recs).length ∧ o.2 = !hasErrRec recs
  | [], [], _ => ⟨([], true), rfl, rfl, rfl⟩
  | [], _ :: _, h => by simp [cmdResolveScript, okDraws] at h
  | none :: r, ds, _ => ⟨([], false), by cases ds <;> rfl, rfl, rfl⟩
  | some t :: r, ds, h => by
    rw [cmdResolveScript] at h
    obtain ⟨d1, d2, he, h1, h2⟩ := okDraws_append _ _ ds h
    subst he
    obtain ⟨t', ht⟩ := resolveT_ok true t d1 d2 h1
    obtain ⟨o, ho, hlen, hok⟩ := cmdResolve_ok r d2 h2
    refine ⟨(t' :: o.1, o.2), ?_, by simp [goodRecs, hlen], by simpa [hasErrRec] using hok⟩
    cases hd : d1 ++ d2 <;> rw [hd] at ht <;> simp only [cmdResolve, ht, ho]

end Gotree.C07

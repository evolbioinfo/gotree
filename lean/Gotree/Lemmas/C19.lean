/-
  C19 — helper lemmas about `run` / `finalValue` / `noConflict` (core Lean only).
-/
import Gotree.Spec.C19

namespace Gotree.C19

/-- reading a variable after the registrations `regs` ran on store `s`: the default of the last
    registration of that variable, else what the store held -/
theorem lookup_run (regs : List Reg) (s : Store) (v : Nat) :
    (run regs s).lookup v =
      match regs.reverse.find? (fun r => r.var == v) with
      | some r => some r.default
      | none => s.lookup v := by
  induction regs generalizing s with
  | nil => rfl
  | cons r rs ih =>
    simp only [run, ih, List.reverse_cons, List.find?_append]
    cases List.find? (fun r => r.var == v) rs.reverse with
    | some q => rfl
    | none =>
      by_cases hv : r.var = v
      · simp [register, hv]
      · simp [register, List.lookup_cons, hv, beq_false_of_ne (Ne.symm hv)]

/-- `finalValue` is "the default of the last registration of the variable" -/
theorem finalValue_eq (regs : List Reg) (v : Nat) :
    finalValue regs v = (regs.reverse.find? (fun r => r.var == v)).map (·.default) := by
  rw [finalValue, lookup_run]
  cases regs.reverse.find? (fun r => r.var == v) <;> rfl

/-- a registered variable ends up with the default of one of its registrations -/
theorem finalValue_mem {regs : List Reg} {r : Reg} (h : r ∈ regs) :
    ∃ q ∈ regs, q.var = r.var ∧ finalValue regs r.var = some q.default := by
  rw [finalValue_eq]
  cases hf : regs.reverse.find? (fun q => q.var == r.var) with
  | some q => exact ⟨q, by simpa using List.mem_of_find?_eq_some hf, by simpa using List.find?_some hf, rfl⟩
  | none => simpa using List.find?_eq_none.mp hf r (by simpa using h)

theorem noConflict_iff (regs : List Reg) :
    noConflict regs = true ↔ ∀ r ∈ regs, ∀ s ∈ regs, r.var = s.var → r.default = s.default := by
  simp only [noConflict, List.all_eq_true, Bool.or_eq_true, bne_iff_ne, ne_eq, beq_iff_eq, Decidable.imp_iff_not_or]

theorem noConflict_perm {regs regs' : List Reg} (hp : regs'.Perm regs) :
    noConflict regs' = noConflict regs := by
  rw [Bool.eq_iff_iff, noConflict_iff, noConflict_iff]
  simp only [hp.mem_iff]

theorem noConflict_sublist {regs sub : List Reg} (hs : ∀ r ∈ sub, r ∈ regs) (h : noConflict regs = true) :
    noConflict sub = true :=
  (noConflict_iff sub).mpr fun r hr s hs' => (noConflict_iff regs).mp h r (hs r hr) s (hs s hs')

/-- without a conflict every registered flag reads its own documented default -/
theorem finalValue_of_noConflict {regs : List Reg} (h : noConflict regs = true) {r : Reg} (hr : r ∈ regs) :
    finalValue regs r.var = some r.default := by
  obtain ⟨q, hq, hv, hf⟩ := finalValue_mem hr
  rw [hf, (noConflict_iff regs).mp h q hq r hr hv]

/-- … so it reads the same in every part of the registrations that still registers it -/
theorem finalValue_sub {regs sub : List Reg} (hs : ∀ r ∈ sub, r ∈ regs) (h : noConflict regs = true) {r : Reg}
    (hr : r ∈ sub) : finalValue sub r.var = finalValue regs r.var := by
  rw [finalValue_of_noConflict (noConflict_sublist hs h) hr, finalValue_of_noConflict h (hs r hr)]

/-! ### stores up to what can be read from them -/

/-- two stores answer every read alike -/
def StoreEq (s s' : Store) : Prop := ∀ v, s.lookup v = s'.lookup v

theorem StoreEq.refl (s : Store) : StoreEq s s := fun _ => rfl

theorem setFlag_congr {s s' : Store} (h : StoreEq s s') (r : Reg) (x : String) :
    StoreEq (setFlag s r x) (setFlag s' r x) := by
  intro v
  simp only [setFlag, List.lookup_cons, h v]

theorem parse_congr {s s' : Store} (h : StoreEq s s') (given : List (Reg × String)) :
    StoreEq (parse s given) (parse s' given) := by
  induction given generalizing s s' with
  | nil => exact h
  | cons g rest ih => exact ih (setFlag_congr h g.1 g.2)

/-- writing to a variable the value it already holds changes no read -/
theorem setFlag_same {s : Store} {r : Reg} {x : String} (h : s.lookup r.var = some x) :
    StoreEq (setFlag s r x) s := by
  intro v
  by_cases hv : v = r.var
  · simp [setFlag, hv, h]
  · simp [setFlag, List.lookup_cons, beq_false_of_ne hv]

theorem parse_append (s : Store) (a b : List (Reg × String)) : parse s (a ++ b) = parse (parse s a) b := by
  induction a generalizing s with
  | nil => rfl
  | cons g rest ih => exact ih _

/-- options that do not bind variable `v` leave it alone -/
theorem parse_untouched (s : Store) (given : List (Reg × String)) (v : Nat)
    (h : ∀ g ∈ given, g.1.var ≠ v) : (parse s given).lookup v = s.lookup v := by
  induction given generalizing s with
  | nil => rfl
  | cons g rest ih =>
    rw [parse, ih _ fun g hg => h g (List.mem_cons_of_mem _ hg)]
    simp [setFlag, List.lookup_cons, beq_false_of_ne (Ne.symm (h g List.mem_cons_self))]

theorem nearest_mem {l : List Reg} {q : Reg} (h : nearest l = some q) : q ∈ l := by
  induction l generalizing q with
  | nil => simp [nearest] at h
  | cons a rest ih =>
    simp only [nearest] at h
    split at h
    · simp_all
    · split at h <;> simp_all

/-- the Spec's reading function is the model's `finalValue` -/
theorem readBy_eq (t : List Row) (r : Row) : readBy t r = finalValue t r.var := by
  rw [finalValue_eq]; rfl

theorem sharedAgree_eq (t : List Row) : sharedAgree t = noConflict t := by
  unfold sharedAgree noConflict peersOK
  congr 1; funext r; congr 1; funext s
  rw [bne_comm, BEq.comm (a := s.default)]

end Gotree.C19

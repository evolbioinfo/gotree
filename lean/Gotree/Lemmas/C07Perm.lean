/-
  C07 — fidelity of the model of `rand.Perm` and of `togroup[perm[nb]] = …` (not needed by the
  property theorems; it justifies reading the model's "children sorted by perm[nb]" as the
  scatter loop of the Go code).
-/
import Gotree.Lemmas.C07Resolve

namespace Gotree.C07
open Gotree

theorem goPerm_step_perm (m : List Nat) (j : Nat) (hj : j ≤ m.length) (hm : m.Perm (List.range m.length)) :
    ((m ++ [m.getD j m.length]).set j m.length).Perm (List.range (m.length + 1)) := by
  rw [List.range_succ]
  by_cases hlt : j < m.length
  · have hg : m.getD j m.length = m[j] := by simp [List.getD, hlt]
    rw [hg, List.set_append, if_pos hlt, List.set_eq_take_append_cons_drop, if_pos hlt]
    have hsplit : m = List.take j m ++ m[j] :: List.drop (j + 1) m := by
      rw [List.getElem_cons_drop hlt, List.take_append_drop]
    -- both sides: the elements of m plus the new value
    have h1 : (List.take j m ++ m.length :: List.drop (j + 1) m ++ [m[j]]).Perm (m.length :: m) := by
      have : (List.take j m ++ m.length :: List.drop (j + 1) m ++ [m[j]]).Perm
          (m.length :: (List.take j m ++ m[j] :: List.drop (j + 1) m)) := by
        rw [List.append_assoc]
        refine List.perm_middle.trans (List.Perm.cons _ ?_)
        refine List.Perm.append_left _ ?_
        exact (List.perm_append_singleton _ _)
      rwa [← hsplit] at this
    exact h1.trans ((hm.cons _).trans (List.perm_append_singleton _ _).symm)
  · have hje : j = m.length := by omega
    subst hje
    have hg : m.getD m.length m.length = m.length := by simp [List.getD]
    rw [hg, List.set_append, if_neg (Nat.lt_irrefl _)]
    simp only [Nat.sub_self, List.set_cons_zero]
    exact hm.append (List.Perm.refl _)

theorem goPermAux_perm : ∀ (ds m r : List Nat), goPermAux ds m = some r → m.Perm (List.range m.length) →
    r.Perm (List.range (m.length + ds.length))
  | [], m, r, h, hm => by simp [goPermAux] at h; subst h; simpa using hm
  | j :: ds, m, r, h, hm => by
    unfold goPermAux at h
    split at h
    · rename_i hj
      have hstep := goPerm_step_perm m j hj hm
      have hlen : ((m ++ [m.getD j m.length]).set j m.length).length = m.length + 1 := by simp
      have := goPermAux_perm ds _ r h (by rw [hlen]; exact hstep)
      rw [hlen] at this
      simpa [Nat.add_assoc, Nat.add_comm 1] using this
    · cases h

/-- `rand.Perm(n)` as modelled is a permutation of `0 … n−1`, whatever the draws -/
theorem goPerm_perm (ds r : List Nat) (h : goPerm ds = some r) : r.Perm (List.range ds.length) := by
  have := goPermAux_perm ds [] r h (by simp)
  simpa using this

theorem insK_sorted {α : Type} (x : Nat × α) : ∀ l : List (Nat × α), l.Pairwise (fun a b => a.1 ≤ b.1) →
    (insK x l).Pairwise (fun a b => a.1 ≤ b.1)
  | [], _ => by simp [insK]
  | y :: r, h => by
    unfold insK
    rw [List.pairwise_cons] at h
    split
    · rename_i hlt
      rw [List.pairwise_cons]
      refine ⟨?_, List.pairwise_cons.mpr h⟩
      intro z hz
      rcases List.mem_cons.mp hz with rfl | hz
      · exact Nat.le_of_lt hlt
      · exact Nat.le_trans (Nat.le_of_lt hlt) (h.1 z hz)
    · rename_i hge
      rw [List.pairwise_cons]
      refine ⟨?_, insK_sorted x r h.2⟩
      intro z hz
      have := (insK_perm x r).mem_iff.mp hz
      rcases List.mem_cons.mp this with rfl | hz'
      · omega
      · exact h.1 z hz'

theorem sortK_sorted {α : Type} : ∀ l : List (Nat × α), (sortK l).Pairwise (fun a b => a.1 ≤ b.1)
  | [] => by simp [sortK]
  | x :: r => by
    show (insK x (sortK r)).Pairwise _
    exact insK_sorted x _ (sortK_sorted r)

/-- `togroup[perm[nb]] = branch of the nb-th child`: at every position `p`, the model's `togroup`
    (children sorted by `perm[nb]`) holds the child number `nb` with `perm[nb] = p`. -/
theorem togroup_scatter (ds perm : List Nat) (k : Kids) (h : goPerm ds = some perm) (hl : ds.length = k.length) :
    ∀ p, p < k.length → ∃ nb, ∃ (hnb : nb < k.length),
      ((sortK (perm.zip ((List.range k.length).zip k))).map (·.2))[p]? = some (nb, k[nb]) ∧ perm[nb]? = some p := by
  intro p hp
  have hpl : perm.length = k.length := by rw [goPerm_length _ _ h, hl]
  have hpp : perm.Perm (List.range k.length) := by rw [← hl]; exact goPerm_perm ds perm h
  let Z := perm.zip ((List.range k.length).zip k)
  have hZlen : Z.length = k.length := by simp [Z, List.length_zip, hpl]
  have hkeysZ : Z.map Prod.fst = perm := by
    apply List.map_fst_zip; simp [hpl]
  have hS := sortK_perm Z
  have hkeys : (sortK Z).map Prod.fst = List.range k.length := by
    apply List.Perm.eq_of_pairwise (le := fun a b => a ≤ b)
    · intro a b _ _ h1 h2; exact Nat.le_antisymm h1 h2
    · have := sortK_sorted Z
      exact List.pairwise_map.mpr this
    · exact List.pairwise_lt_range.imp (fun h => Nat.le_of_lt h)
    · exact (hS.map Prod.fst).trans (by rw [hkeysZ]; exact hpp)
  have hSlen : (sortK Z).length = k.length := by rw [hS.length_eq, hZlen]
  have hpS : p < (sortK Z).length := by omega
  have hkey : ((sortK Z)[p]).1 = p := by
    have : ((sortK Z).map Prod.fst)[p]'(by simpa using hpS) = (List.range k.length)[p]'(by simpa using hp) := by
      simp only [hkeys]
    simpa using this
  have hmem : (sortK Z)[p] ∈ Z := hS.mem_iff.mp (List.getElem_mem hpS)
  obtain ⟨i, hi, hzi⟩ := List.mem_iff_getElem.mp hmem
  have hik : i < k.length := by omega
  have hzi' : Z[i] = (perm[i]'(by omega), ((List.range k.length)[i]'(by simpa using hik), k[i])) := by
    simp only [Z, List.getElem_zip]
  rw [List.getElem_range] at hzi'
  refine ⟨i, hik, ?_, ?_⟩
  · rw [List.getElem?_map, List.getElem?_eq_getElem hpS, ← hzi, hzi']
    rfl
  · rw [List.getElem?_eq_getElem (by omega)]
    have : ((sortK Z)[p]).1 = perm[i]'(by omega) := by rw [← hzi, hzi']
    rw [← this, hkey]

end Gotree.C07

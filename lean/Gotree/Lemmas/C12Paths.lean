/-
  C12 — child-index paths: every pass returns an annotated tree of the shape of the input tree, so a path
  addresses a slice exactly when it addresses a node; a leaf keeps its tip slice in the up-pass and the
  down-pass; a fitting labelling is defined on the paths of the tree.
-/
import Gotree.Lemmas.C12

namespace Gotree.C12
open Gotree

/- the annotated subtree addressed by a path -/
mutual
def A.sub : A → List Nat → Option A
  | a, [] => some a
  | .node _ ks, i :: p => A.subL ks i p
def A.subL : List A → Nat → List Nat → Option A
  | [], _, _ => none
  | a :: _, 0, p => A.sub a p
  | _ :: r, i + 1, p => A.subL r i p
end

mutual
theorem A.get_of_sub : ∀ (a : A) (p : List Nat) (b : A), a.sub p = some b → a.get p = some b.s
  | .node s ks, [], b, h => by
    simp only [A.sub, Option.some.injEq] at h; subst h; simp [A.get, A.s]
  | .node s ks, i :: p, b, h => by
    simp only [A.sub] at h; simp only [A.get]; exact A.getL_of_subL ks i p b h
theorem A.getL_of_subL : ∀ (ks : List A) (i : Nat) (p : List Nat) (b : A), A.subL ks i p = some b →
    A.getL ks i p = some b.s
  | [], _, _, _, h => by simp [A.subL] at h
  | a :: _, 0, p, b, h => by
    simp only [A.subL] at h; simp only [A.getL]; exact A.get_of_sub a p b h
  | _ :: r, i + 1, p, b, h => by
    simp only [A.subL] at h; simp only [A.getL]; exact A.getL_of_subL r i p b h
end

/- a slice read at a path is one of the slices of the annotated tree -/
mutual
theorem A.get_mem_flat : ∀ (a : A) (p : List Nat) (v : Vec), a.get p = some v → v ∈ a.flat
  | .node s ks, [], v, h => by
    simp only [A.get, Option.some.injEq] at h; subst h; simp [A.flat]
  | .node s ks, i :: p, v, h => by
    simp only [A.get] at h
    simp only [A.flat, List.mem_cons]
    exact Or.inr (A.getL_mem_flatL ks i p v h)
theorem A.getL_mem_flatL : ∀ (ks : List A) (i : Nat) (p : List Nat) (v : Vec), A.getL ks i p = some v → v ∈ A.flatL ks
  | [], _, _, _, h => by simp [A.getL] at h
  | a :: r, 0, p, v, h => by
    simp only [A.getL] at h
    simp only [A.flatL, List.mem_append]; exact Or.inl (A.get_mem_flat a p v h)
  | a :: r, i + 1, p, v, h => by
    simp only [A.getL] at h
    simp only [A.flatL, List.mem_append]; exact Or.inr (A.getL_mem_flatL r i p v h)
end

theorem innerAt_isSome {t : T} {v : List Nat} (h : innerAt t v = true) : (sub t v).isSome = true := by
  simp only [innerAt] at h
  cases hs : sub t v with
  | none => simp [hs, innerOpt] at h
  | some c => rfl

/- ## shapes -/

/- an annotated tree of the shape of `t` -/
mutual
def shapeOk : T → A → Prop
  | .node _ _ ks, .node _ aks => shapeOkL ks aks
def shapeOkL : Kids → List A → Prop
  | [], [] => True
  | (_, c) :: r, a :: ar => shapeOk c a ∧ shapeOkL r ar
  | [], _ :: _ => False
  | _ :: _, [] => False
end

mutual
theorem shapeOk.get_isSome : ∀ (t : T) (a : A), shapeOk t a → ∀ p, (a.get p).isSome = (sub t p).isSome
  | .node _ _ _, .node _ _, _, [] => by simp [A.get, sub]
  | .node _ _ ks, .node _ aks, h, i :: p => by
    simp only [A.get, sub]; exact shapeOkL.getL_isSome ks aks (by simpa only [shapeOk] using h) i p
theorem shapeOkL.getL_isSome : ∀ (ks : Kids) (aks : List A), shapeOkL ks aks →
    ∀ i p, (A.getL aks i p).isSome = (subL ks i p).isSome
  | [], [], _, _, _ => by simp [A.getL, subL]
  | [], _ :: _, h, _, _ => by simp [shapeOkL] at h
  | _ :: _, [], h, _, _ => by simp [shapeOkL] at h
  | (_, c) :: _, a :: _, h, 0, p => by
    simp only [A.getL, subL]; exact shapeOk.get_isSome c a (by simp only [shapeOkL] at h; exact h.1) p
  | (_, _) :: r, _ :: ar, h, i + 1, p => by
    simp only [A.getL, subL]; exact shapeOkL.getL_isSome r ar (by simp only [shapeOkL] at h; exact h.2) i p
end

section shapes
variable (k : Nat) (tv : String → Vec)

mutual
theorem shape_upA : ∀ (t : T), shapeOk t (upA k tv t)
  | .node _ _ ks => by simp only [upA, shapeOk]; exact shape_upAL ks
theorem shape_upAL : ∀ (ks : Kids), shapeOkL ks (upAL k tv ks)
  | [] => by simp [upAL, shapeOkL]
  | (_, c) :: r => by simp only [upAL, shapeOkL]; exact ⟨shape_upA c, shape_upAL r⟩
end

mutual
theorem shape_down : ∀ (t : T) (us : Option Vec), shapeOk t (down k tv us t)
  | .node _ _ [], _ => by simp [down, shapeOk, shapeOkL]
  | .node _ _ (c :: cs), us => by simp only [down, shapeOk]; exact shape_downL (c :: cs) us (vzero k)
theorem shape_downL : ∀ (ks : Kids) (us : Option Vec) (pre : Vec), shapeOkL ks (downL k tv us pre ks)
  | [], _, _ => by simp [downL, shapeOkL]
  | (_, c) :: r, us, pre => by
    simp only [downL, shapeOkL]
    exact ⟨shape_down c _, shape_downL r us _⟩
end

mutual
theorem shape_tot : ∀ (t : T) (up : Vec), shapeOk t (totA k tv up t)
  | .node _ _ [], _ => by simp [totA, shapeOk, shapeOkL]
  | .node _ _ (c :: cs), up => by simp only [totA, shapeOk]; exact shape_totL (c :: cs) up (vzero k)
theorem shape_totL : ∀ (ks : Kids) (up pre : Vec), shapeOkL ks (totL k tv up pre ks)
  | [], _, _ => by simp [totL, shapeOkL]
  | (_, c) :: r, up, pre => by
    simp only [totL, shapeOkL]
    exact ⟨shape_tot c _, shape_totL r up _⟩
end

theorem tot_get (c : T) (U : Vec) (p : List Nat) (h : (sub c p).isSome = true) :
    ((totA k tv U c).get p).isSome = true := by
  rw [shapeOk.get_isSome c _ (shape_tot k tv c U)]; exact h

theorem down_get (c : T) (us : Option Vec) (p : List Nat) (h : (sub c p).isSome = true) :
    ((down k tv us c).get p).isSome = true := by
  rw [shapeOk.get_isSome c _ (shape_down k tv c us)]; exact h

theorem down_get_sub : ∀ (c : T) us (p : List Nat), ((down k tv us c).get p).isSome = true →
    (sub c p).isSome = true :=
  fun c us p h => shapeOk.get_isSome c _ (shape_down k tv c us) p ▸ h

/- ## a leaf keeps its tip slice in the down-pass and in the up-pass -/

mutual
theorem down_leaf_sub : ∀ (c : T) us (p : List Nat) (d : NodeD) (pp : Nat), sub c p = some (.node d pp []) →
    (down k tv us c).sub p = some (.node (tv d.name) [])
  | .node d0 _ [], us, [], d, pp, h => by
    simp only [sub, Option.some.injEq, T.node.injEq] at h
    obtain ⟨h1, _, _⟩ := h
    subst h1
    simp [down, A.sub]
  | .node _ _ [], _, i :: q, _, _, h => by simp [sub, subL] at h
  | .node _ _ (x :: xs), _, [], _, _, h => by simp [sub] at h
  | .node _ _ (x :: xs), us, i :: q, d, pp, h => by
    simp only [sub] at h
    simp only [down, A.sub]
    exact down_leaf_subL (x :: xs) us _ i q d pp h
theorem down_leaf_subL : ∀ (ks : Kids) us pre (i : Nat) (p : List Nat) (d : NodeD) (pp : Nat),
    subL ks i p = some (.node d pp []) → A.subL (downL k tv us pre ks) i p = some (.node (tv d.name) [])
  | [], _, _, _, _, _, _, h => by simp [subL] at h
  | (e, c) :: r, us, pre, 0, p, d, pp, h => by
    simp only [subL] at h
    simp only [downL, A.subL]
    exact down_leaf_sub c _ p d pp h
  | (e, c) :: r, us, pre, i + 1, p, d, pp, h => by
    simp only [subL] at h
    simp only [downL, A.subL]
    exact down_leaf_subL r us _ i p d pp h
end

mutual
theorem upA_leaf_sub : ∀ (c : T) (p : List Nat) (d : NodeD) (pp : Nat), sub c p = some (.node d pp []) →
    (upA k tv c).sub p = some (.node (tv d.name) [])
  | .node d0 _ [], [], d, pp, h => by
    simp only [sub, Option.some.injEq, T.node.injEq] at h
    obtain ⟨h1, _, _⟩ := h
    subst h1
    simp [upA, upAL, upS, A.sub]
  | .node _ _ [], i :: q, _, _, h => by simp [sub, subL] at h
  | .node _ _ (x :: xs), [], _, _, h => by simp [sub] at h
  | .node _ _ (x :: xs), i :: q, d, pp, h => by
    simp only [sub] at h
    simp only [upA, A.sub]
    exact upA_leaf_subL (x :: xs) i q d pp h
theorem upA_leaf_subL : ∀ (ks : Kids) (i : Nat) (p : List Nat) (d : NodeD) (pp : Nat),
    subL ks i p = some (.node d pp []) → A.subL (upAL k tv ks) i p = some (.node (tv d.name) [])
  | [], _, _, _, _, h => by simp [subL] at h
  | (e, c) :: r, 0, p, d, pp, h => by
    simp only [subL] at h
    simp only [upAL, A.subL]
    exact upA_leaf_sub c p d pp h
  | (e, c) :: r, i + 1, p, d, pp, h => by
    simp only [subL] at h
    simp only [upAL, A.subL]
    exact upA_leaf_subL r i p d pp h
end

/- ## a fitting labelling is defined on the paths of the tree -/

mutual
theorem fits_get : ∀ (c : T) (l : LT) (p : List Nat), fits k tv c l = true → (sub c p).isSome = true →
    ∃ s, s < k ∧ l.get p = some s
  | c, .node r ls, [], hf, _ => ⟨r, fits_s_lt k tv c _ hf, by simp [LT.get]⟩
  | .node _ _ [], _, i :: q, _, h => by simp [sub, subL] at h
  | .node _ _ (x :: xs), .node r ls, i :: q, hf, h => by
    simp only [fits, Bool.and_eq_true, decide_eq_true_eq] at hf
    simp only [sub] at h
    simp only [LT.get]
    exact fits_getL (x :: xs) ls i q hf.2 h
theorem fits_getL : ∀ (ks : Kids) (ls : List LT) (i : Nat) (p : List Nat), fitsL k tv ks ls = true →
    (subL ks i p).isSome = true → ∃ s, s < k ∧ LT.getL ls i p = some s
  | [], _, _, _, _, h => by simp [subL] at h
  | _ :: _, [], _, _, hf, _ => by simp [fitsL] at hf
  | (e, c) :: rest, l :: lr, 0, p, hf, h => by
    simp only [fitsL, Bool.and_eq_true] at hf
    simp only [subL] at h
    simp only [LT.getL]
    exact fits_get c l p hf.1 h
  | (e, c) :: rest, l :: lr, i + 1, p, hf, h => by
    simp only [fitsL, Bool.and_eq_true] at hf
    simp only [subL] at h
    simp only [LT.getL]
    exact fits_getL rest lr i p hf.2 h
end

/- a labelling that fits carries, at a leaf, a state of the tip set -/
mutual
theorem fits_leaf : ∀ (c : T) (l : LT) (p : List Nat) (d : NodeD) (pp s : Nat), fits k tv c l = true →
    sub c p = some (.node d pp []) → l.get p = some s → (tv d.name).at s ≠ 0
  | .node _ _ [], .node r ls, [], d, pp, s, hf, h, hg => by
    simp only [fits, Bool.and_eq_true, decide_eq_true_eq] at hf
    simp only [sub, Option.some.injEq, T.node.injEq] at h
    simp only [LT.get, Option.some.injEq] at hg
    obtain ⟨h1, _, _⟩ := h
    subst h1; subst hg
    exact hf.2
  | .node _ _ [], _, i :: q, _, _, _, _, h, _ => by simp [sub, subL] at h
  | .node _ _ (x :: xs), _, [], _, _, _, _, h, _ => by simp [sub] at h
  | .node _ _ (x :: xs), .node r ls, i :: q, d, pp, s, hf, h, hg => by
    simp only [fits, Bool.and_eq_true, decide_eq_true_eq] at hf
    simp only [sub] at h
    simp only [LT.get] at hg
    exact fits_leafL (x :: xs) ls i q d pp s hf.2 h hg
theorem fits_leafL : ∀ (ks : Kids) (ls : List LT) (i : Nat) (p : List Nat) (d : NodeD) (pp s : Nat),
    fitsL k tv ks ls = true → subL ks i p = some (.node d pp []) → LT.getL ls i p = some s → (tv d.name).at s ≠ 0
  | [], _, _, _, _, _, _, _, h, _ => by simp [subL] at h
  | _ :: _, [], _, _, _, _, _, hf, _, _ => by simp [fitsL] at hf
  | (e, c) :: rest, l :: lr, 0, p, d, pp, s, hf, h, hg => by
    simp only [fitsL, Bool.and_eq_true] at hf
    simp only [subL] at h
    simp only [LT.getL] at hg
    exact fits_leaf c l p d pp s hf.1 h hg
  | (e, c) :: rest, l :: lr, i + 1, p, d, pp, s, hf, h, hg => by
    simp only [fitsL, Bool.and_eq_true] at hf
    simp only [subL] at h
    simp only [LT.getL] at hg
    exact fits_leafL rest lr i p d pp s hf.2 h hg
end

end shapes

end Gotree.C12

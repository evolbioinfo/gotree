/-
  C04 — the quartet enumeration of the model (`quartets`, specific or not) delivers, as a multiset,
  exactly the quartets read off the tree (`specQuartets`).  Core Lean only.
-/
import Gotree.Lemmas.C04Idx
import Gotree.Lemmas.C04Lit

namespace Gotree.C04
open Gotree

/-! ## pairs up to order -/

def cp (p : Nat × Nat) : Nat × Nat := (min p.1 p.2, max p.1 p.2)

theorem cp_swap (a b : Nat) : cp (a, b) = cp (b, a) := by
  simp only [cp, Prod.mk.injEq]; omega

theorem pairs_flatMap_perm {α γ : Type} (f : α × α → List γ) (hs : ∀ x y, (f (x, y)).Perm (f (y, x)))
    {l l' : List α} (h : l.Perm l') : ((pairsOf l).flatMap f).Perm ((pairsOf l').flatMap f) := by
  induction h with
  | nil => exact List.Perm.refl _
  | cons x p ih =>
    simp only [pairsOf, List.flatMap_append, List.flatMap_map]
    exact List.Perm.append (p.flatMap_right _) ih
  | swap x y l =>
    simp only [pairsOf, List.flatMap_append, List.flatMap_map, List.map_cons, List.flatMap_cons, List.append_assoc]
    refine List.Perm.append (hs y x) ?_
    exact List.perm_append_comm_assoc _ _ _
  | trans _ _ ih1 ih2 => exact ih1.trans ih2

theorem pairsOf_perm {l l' : List Nat} (h : l.Perm l') : ((pairsOf l).map cp).Perm ((pairsOf l').map cp) := by
  rw [List.map_eq_flatMap, List.map_eq_flatMap]
  exact pairs_flatMap_perm _ (fun x y => by rw [cp_swap]) h

theorem flatMap_perm_left {α β : Type} (l : List α) {f g : α → List β} (h : ∀ a ∈ l, (f a).Perm (g a)) :
    (l.flatMap f).Perm (l.flatMap g) := by
  induction l with
  | nil => exact List.Perm.refl _
  | cons a r ih =>
    simp only [List.flatMap_cons]
    exact List.Perm.append (h a (List.mem_cons_self ..)) (ih fun b hb => h b (List.mem_cons_of_mem _ hb))

/-- canonical forms of `iterPlain` through canonical pairs -/
theorem iterPlain_canon (l r : List Nat) :
    (iterPlain l r).map Quartet.canon =
      ((pairsOf l).map cp).flatMap fun p => ((pairsOf r).map cp).map fun q => [p.1, p.2, q.1, q.2] := by
  simp only [iterPlain, List.map_flatMap, List.flatMap_map, List.map_map]
  rfl

theorem iterPlain_perm {l l' r r' : List Nat} (hl : l.Perm l') (hr : r.Perm r') :
    ((iterPlain l r).map Quartet.canon).Perm ((iterPlain l' r').map Quartet.canon) := by
  rw [iterPlain_canon, iterPlain_canon]
  refine (List.Perm.flatMap_right _ (pairsOf_perm hl)).trans ?_
  exact flatMap_perm_left _ fun p _ => (pairsOf_perm hr).map _

/-! ## the "left" list of a child -/

theorem flatten_rightOf (rank : String → Nat) (l : Kids) :
    (l.map fun et => rightOf rank et.2).flatten = (leavesL l).map rank := by
  induction l with
  | nil => rfl
  | cons x r ih => obtain ⟨e, t⟩ := x; rw [List.map_cons, List.flatten_cons, ih, leavesL, List.map_append]; rfl

/-- `left[next]`: the taxa of the other children and what lies above the node -/
theorem leftOfKid_perm (rank : String → Nat) (isRoot : Bool) (p : Nat) (leftX : List Nat)
    (pre post : Kids) (e : EdgeD) (y : T) :
    (leftOfKid pre.length (groups rank isRoot p leftX (pre ++ (e, y) :: post))).Perm
      ((leavesL pre).map rank ++ (leavesL post).map rank ++ (if isRoot then [] else leftX)) := by
  unfold leftOfKid
  rw [List.flatMap_def]
  refine (nbs_except (rightOf rank) isRoot p leftX pre post e y).flatten.trans ?_
  rw [List.flatten_append, List.map_append, List.flatten_append, flatten_rightOf, flatten_rightOf]
  refine List.perm_append_comm.trans ?_
  cases isRoot <;> simp

/-! ## the complement of a child's leaves -/

theorem perm_ite_nil {α β : Type} (c : Bool) (f : α → β) {a b : List α} (h : (a.map f).Perm (b.map f)) :
    ((if c = true then [] else a).map f).Perm ((if c = true then [] else b).map f) := by
  cases c
  · simpa using h
  · simp


theorem compl_kid {tips : List String} (hn : tips.Nodup) (pre post : Kids) (e : EdgeD) (y : T)
    (hs : (leavesL (pre ++ (e, y) :: post)).Sublist tips) :
    (compl tips y.leaves).Perm (leavesL pre ++ leavesL post ++ compl tips (leavesL (pre ++ (e, y) :: post))) := by
  have hall : leavesL (pre ++ (e, y) :: post) = leavesL pre ++ (y.leaves ++ leavesL post) := by
    rw [leavesL_append, leavesL_cons]
  rw [hall] at hs ⊢
  have hnd := hs.nodup hn
  have hd1 := List.nodup_append.mp hnd
  have hd2 := List.nodup_append.mp hd1.2.1
  refine (List.perm_ext_iff_of_nodup (compl_nodup hn) ?_).mpr ?_
  · -- the right-hand side has no repetition
    refine List.nodup_append.mpr ⟨List.nodup_append.mpr ⟨hd1.1, hd2.2.1, ?_⟩, compl_nodup hn, ?_⟩
    · intro a ha b hb; exact hd1.2.2 a ha b (List.mem_append_right _ hb)
    · intro a ha b hb hab
      subst hab
      rw [mem_compl] at hb
      apply hb.2
      cases List.mem_append.mp ha with
      | inl h => exact List.mem_append_left _ h
      | inr h => exact List.mem_append_right _ (List.mem_append_right _ h)
  · intro x
    simp only [mem_compl, List.mem_append]
    constructor
    · rintro ⟨hx, hny⟩
      by_cases h1 : x ∈ leavesL pre
      · exact Or.inl (Or.inl h1)
      · by_cases h2 : x ∈ leavesL post
        · exact Or.inl (Or.inr h2)
        · refine Or.inr ⟨hx, ?_⟩
          rintro (h | h | h)
          · exact h1 h
          · exact hny h
          · exact h2 h
    · rintro ((h | h) | ⟨hx, hn'⟩)
      · refine ⟨hs.subset (List.mem_append_left _ h), ?_⟩
        intro hy; exact hd1.2.2 x h x (List.mem_append_left _ hy) rfl
      · refine ⟨hs.subset (List.mem_append_right _ (List.mem_append_right _ h)), ?_⟩
        intro hy; exact hd2.2.2 x hy x h rfl
      · exact ⟨hx, fun hy => hn' (Or.inr (Or.inl hy))⟩

/-! ## generic permutation lemmas -/

theorem flatMap_append_fun {α β : Type} (l : List α) (f g : α → List β) :
    (l.flatMap fun a => f a ++ g a).Perm (l.flatMap f ++ l.flatMap g) := by
  induction l with
  | nil => exact List.Perm.refl _
  | cons a r ih =>
    simp only [List.flatMap_cons, List.append_assoc]
    refine List.Perm.append_left _ ?_
    refine (List.Perm.append_left _ ih).trans ?_
    exact List.perm_append_comm_assoc _ _ _

theorem flatMap_comm {α β γ : Type} (l₁ : List α) (l₂ : List β) (h : α → β → List γ) :
    (l₁.flatMap fun a => l₂.flatMap fun b => h a b).Perm (l₂.flatMap fun b => l₁.flatMap fun a => h a b) := by
  induction l₁ with
  | nil => simp
  | cons a r ih =>
    simp only [List.flatMap_cons]
    refine List.Perm.trans ?_ (flatMap_append_fun l₂ (fun b => h a b) (fun b => r.flatMap fun a' => h a' b)).symm
    exact List.Perm.append_left _ ih

theorem pairs_snoc {α γ : Type} (f : α × α → List γ) (S : List α) (g : α) :
    ((pairsOf (S ++ [g])).flatMap f).Perm ((pairsOf S).flatMap f ++ S.flatMap fun s => f (s, g)) := by
  induction S with
  | nil => simp [pairsOf]
  | cons a r ih =>
    simp only [List.cons_append, pairsOf, List.map_append, List.flatMap_append, List.flatMap_map, List.map_cons,
      List.map_nil, List.flatMap_cons, List.flatMap_nil, List.append_assoc]
    refine List.Perm.append_left _ ?_
    refine (List.Perm.append_left _ ih).trans ?_
    exact List.perm_append_comm_assoc _ _ _

/-- the canonical quartets of two left groups against the pairs of right groups -/
def quadC (g1 g2 g3 g4 : List Nat) : List (List Nat) :=
  g1.flatMap fun a => g2.flatMap fun b => g3.flatMap fun c => g4.map fun d => Quartet.canon ⟨a, b, c, d⟩

def pairF (R : List (List Nat)) (g : List Nat × List Nat) : List (List Nat) :=
  (pairsOf R).flatMap fun h => quadC g.1 g.2 h.1 h.2

theorem iterSpecific_canon (L R : List (List Nat)) :
    (iterSpecific L R).map Quartet.canon = (pairsOf L).flatMap (pairF R) := by
  simp only [iterSpecific, List.map_flatMap, List.map_map]
  rfl

theorem canon_swap12 (a b c d : Nat) : Quartet.canon ⟨a, b, c, d⟩ = Quartet.canon ⟨b, a, c, d⟩ := by
  simp only [Quartet.canon, List.cons.injEq, and_true]
  omega

theorem quadC_swap (g1 g2 g3 g4 : List Nat) : (quadC g1 g2 g3 g4).Perm (quadC g2 g1 g3 g4) := by
  unfold quadC
  refine (flatMap_comm g1 g2 _).trans ?_
  simp only [canon_swap12]
  exact List.Perm.refl _

theorem pairF_swap (R : List (List Nat)) (x y : List Nat) : (pairF R (x, y)).Perm (pairF R (y, x)) := by
  unfold pairF
  exact flatMap_perm_left _ fun h _ => quadC_swap x y h.1 h.2

theorem pairF_perm_right (R : List (List Nat)) (x : List Nat) {y y' : List Nat} (h : y.Perm y') :
    (pairF R (x, y)).Perm (pairF R (x, y')) := by
  unfold pairF quadC
  refine flatMap_perm_left _ fun hh _ => ?_
  exact flatMap_perm_left _ fun a _ => h.flatMap_right _

/-- the specific quartets do not depend on the order of the left groups, nor on the order inside the last one -/
theorem iterSpecific_perm (R : List (List Nat)) {L S : List (List Nat)} {g g' : List Nat}
    (hL : L.Perm (S ++ [g])) (hg : g.Perm g') :
    ((iterSpecific L R).map Quartet.canon).Perm ((iterSpecific (S ++ [g']) R).map Quartet.canon) := by
  rw [iterSpecific_canon, iterSpecific_canon]
  refine (pairs_flatMap_perm _ (pairF_swap R) hL).trans ?_
  refine (pairs_snoc _ S g).trans ?_
  refine List.Perm.trans ?_ (pairs_snoc _ S g').symm
  refine List.Perm.append_left _ ?_
  exact flatMap_perm_left _ fun s _ => pairF_perm_right R s hg

theorem iterSpecific_perm_groups (R : List (List Nat)) {L S : List (List Nat)} (hL : L.Perm S) :
    ((iterSpecific L R).map Quartet.canon).Perm ((iterSpecific S R).map Quartet.canon) := by
  rw [iterSpecific_canon, iterSpecific_canon]
  exact pairs_flatMap_perm _ (pairF_swap R) hL


/-! ## the groups around a branch (specific quartets) -/

/-- the sibling groups of the specification -/
theorem specGroups_eq (rank : String → Nat) (pre post : Kids) (e : EdgeD) (y : T) :
    (((pre ++ (e, y) :: post).zipIdx.filter fun x => x.2 != pre.length).map fun x => x.1.2.leaves.map rank) =
      (pre ++ post).map fun et => et.2.leaves.map rank := by
  rw [← zipIdx_except pre post (e, y), List.map_map]; rfl

/-- the groups the model hands to `iterate` on the left: the siblings and what is above the node -/
theorem leftGroups_perm (rank : String → Nat) (isRoot : Bool) (p : Nat) (leftX : List Nat)
    (pre post : Kids) (e : EdgeD) (y : T) :
    (((groups rank isRoot p leftX (pre ++ (e, y) :: post)).filter fun g => g.1 != some pre.length).map (·.2)).Perm
      ((pre ++ post).map (fun et => et.2.leaves.map rank) ++ (if isRoot then [] else [leftX])) :=
  (nbs_except (rightOf rank) isRoot p leftX pre post e y).trans List.perm_append_comm

/-! ## the enumeration -/

section
variable (tips : List String) (rank : String → Nat)

mutual
theorem quartT_spec (sp : Bool) (hn : tips.Nodup) : ∀ (x : T) (isRoot : Bool) (leftX : List Nat),
    (leavesL x.kids).Sublist tips →
    leftX.Perm (if isRoot then [] else (compl tips (leavesL x.kids)).map rank) →
    (isRoot = true → compl tips (leavesL x.kids) = []) →
    ((quartT rank sp isRoot leftX x).map Quartet.canon).Perm ((specQT tips rank sp isRoot x).map Quartet.canon)
  | .node d p kids, isRoot, leftX, hs, hl, hr => by
    rw [quartT, specQT]
    exact quartL_spec sp hn kids isRoot p leftX hs hl hr [] kids rfl
theorem quartL_spec (sp : Bool) (hn : tips.Nodup) : ∀ (all : Kids) (isRoot : Bool) (p : Nat) (leftX : List Nat),
    (leavesL all).Sublist tips →
    leftX.Perm (if isRoot then [] else (compl tips (leavesL all)).map rank) →
    (isRoot = true → compl tips (leavesL all) = []) →
    ∀ (pre rest : Kids), all = pre ++ rest →
    ((quartL rank sp (all.length + if isRoot then 0 else 1) (groups rank isRoot p leftX all) pre.length rest).map Quartet.canon).Perm
      ((specQL tips rank sp isRoot all pre.length rest).map Quartet.canon)
  | all, isRoot, p, leftX, hs, hl, hr, pre, [], _ => by simp [quartL, specQL]
  | all, isRoot, p, leftX, hs, hl, hr, pre, (e, y) :: post, hall => by
    subst hall
    -- the list "left of y"
    have hleft : (leftOfKid pre.length (groups rank isRoot p leftX (pre ++ (e, y) :: post))).Perm
        ((compl tips y.leaves).map rank) := by
      refine (leftOfKid_perm rank isRoot p leftX pre post e y).trans ?_
      refine List.Perm.trans ?_ ((compl_kid hn pre post e y hs).map rank).symm
      simp only [List.map_append]
      refine List.Perm.append_left _ ?_
      cases isRoot with
      | true => simp [hr rfl]
      | false => simpa using hl
    rw [quartL, specQL]
    simp only [List.map_append]
    refine List.Perm.append (List.Perm.append ?_ ?_) ?_
    · -- the quartets of the branch itself
      refine perm_ite_nil _ _ ?_
      cases sp with
      | false => exact iterPlain_perm hleft (List.Perm.refl _)
      | true =>
        simp only [if_true]
        rw [specGroups_eq]
        have hL := leftGroups_perm rank isRoot p leftX pre post e y
        cases isRoot with
        | true =>
          simp only [if_true, List.append_nil] at hL ⊢
          exact iterSpecific_perm_groups _ hL
        | false =>
          simp only [Bool.false_eq_true, if_false] at hL hl ⊢
          exact iterSpecific_perm _ hL hl
    · -- below y
      cases y with
      | node d' p' k' =>
        cases k' with
        | nil => simp [quartT, specQT, quartL, specQL]
        | cons a b =>
          rw [leavesL_append, leavesL_cons, T.leaves] at hs
          refine quartT_spec sp hn (.node d' p' (a :: b)) false _
            (((List.sublist_append_left _ _).trans (List.sublist_append_right _ _)).trans hs) ?_ (fun h => by cases h)
          simpa [T.leaves] using hleft
    · have := quartL_spec sp hn (pre ++ (e, y) :: post) isRoot p leftX hs hl hr (pre ++ [(e, y)]) post (by simp)
      simpa using this
end

end

/-- `Quartets(specific, ·)` of the model delivers exactly the quartets of the tree (as a multiset, each
    quartet up to the order inside its pairs): for every tree with unique tip names whose root is
    not a tip, any child order and parent positions. -/
theorem quartets_eq (rank : String → Nat) (sp : Bool) (t : T) (hn : t.tipNames.Nodup) (hr : t.kids.length ≠ 1) :
    ((quartets rank sp t).map Quartet.canon).Perm ((specQuartets rank sp t).map Quartet.canon) := by
  have ht : t.tipNames = leavesL t.kids := by simp [T.tipNames, hr]
  unfold quartets specQuartets
  have : (t.kids.length == 1) = false := by simp [hr]
  simp only [this, Bool.false_eq_true, if_false]
  refine quartT_spec t.tipNames rank sp hn t true [] (by rw [ht]; exact List.Sublist.refl _) (by simp) (fun _ => ?_)
  rw [← ht]
  unfold compl
  apply List.filter_eq_nil_iff.mpr
  intro x hx; simp [hx]

theorem assoc_run_puts (qs : List Quartet) (a : List (Quartet × Quartet)) :
    Assoc.run Quartet.hashEquals ((qs.map fun q => HMOp.put q q) ++ [.kvs]) a =
      List.replicate qs.length HMOut.unit ++ [.kvs (qs.foldl (fun a q => Assoc.put Quartet.hashEquals q q a) a)] := by
  induction qs generalizing a with
  | nil => rfl
  | cons q r ih =>
    simp only [List.map_cons, List.cons_append, Assoc.run, List.length_cons, List.replicate_succ, List.foldl_cons, ih]

end Gotree.C04

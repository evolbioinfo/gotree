/-
  C12 — the text side.  The states file reader of `gotree acr` (`parseTipStates`): a file written one
  `name<TAB or comma>state` line per entry is read back as exactly that map (later lines win), and any line with
  another number of columns makes the command fail.  Reading back the comments left on the tree: `readSeqChars`
  inverts `asrCommentChars`, `splitChars` inverts `joinChars`.
-/
import Gotree.Model.C12Cli
import Gotree.Model.C12Fmt

namespace Gotree.C12
open Gotree

/- ## the states file -/

/-- no separator of the states file inside -/
def cleanChars (l : List Char) : Prop := ∀ c ∈ l, c ≠ '\t' ∧ c ≠ ','

theorem splitCols_clean : ∀ (a : List Char), cleanChars a → splitCols a = [a]
  | [], _ => rfl
  | c :: r, h => by
    have hc := h c (by simp)
    have ih := splitCols_clean r (fun x hx => h x (by simp [hx]))
    simp [splitCols, hc.1, hc.2, ih]

theorem splitCols_sep (sep : Char) (hsep : sep = '\t' ∨ sep = ',') (b : List Char) :
    ∀ (a : List Char), cleanChars a → splitCols (a ++ sep :: b) = a :: splitCols b
  | [], _ => by
    rcases hsep with e | e <;> subst e <;> simp [splitCols]
  | c :: r, h => by
    have hc := h c (by simp)
    have ih := splitCols_sep sep hsep b r (fun x hx => h x (by simp [hx]))
    simp [splitCols, hc.1, hc.2, ih]

/-- one well-formed line -/
theorem splitCols_line (sep : Char) (hsep : sep = '\t' ∨ sep = ',') (n s : String)
    (hn : cleanChars n.toList) (hs : cleanChars s.toList) :
    splitCols (n ++ String.singleton sep ++ s).toList = [n.toList, s.toList] := by
  have : (n ++ String.singleton sep ++ s).toList = n.toList ++ sep :: s.toList := by
    simp [String.toList_append]
  rw [this, splitCols_sep sep hsep _ _ hn, splitCols_clean _ hs]

/-- an entry of the states file: name, separator used on its line, state -/
structure Entry where
  name : String
  sep : Char
  state : String

def Entry.ok (e : Entry) : Prop :=
  (e.sep = '\t' ∨ e.sep = ',') ∧ cleanChars e.name.toList ∧ cleanChars e.state.toList

def Entry.line (e : Entry) : String := e.name ++ String.singleton e.sep ++ e.state

/-- reading back a well-formed states file gives the map it describes: the entries inserted in
    order, a later entry for the same name replacing the earlier one -/
theorem parseTipStates_render : ∀ (es : List Entry) (acc : List (String × String)), (∀ e ∈ es, e.ok) →
    parseTipStates (es.map Entry.line) acc =
      some (es.foldl (fun acc e => insertKV (e.name, e.state) acc) acc)
  | [], acc, _ => by simp [parseTipStates]
  | e :: r, acc, h => by
    obtain ⟨h1, h2, h3⟩ := h e (by simp)
    simp only [List.map_cons, parseTipStates, Entry.line, splitCols_line e.sep h1 e.name e.state h2 h3,
      List.foldl_cons]
    have : (String.ofList e.name.toList, String.ofList e.state.toList) = (e.name, e.state) := by simp
    rw [this]
    exact parseTipStates_render r _ (fun x hx => h x (by simp [hx]))

/-- a line without separator, or with two separators, anywhere in the file: the command fails -/
theorem parseTipStates_bad (pre : List Entry) (bad : String) (post : List String) (acc : List (String × String))
    (hpre : ∀ e ∈ pre, e.ok) (hbad : (splitCols bad.toList).length ≠ 2) :
    parseTipStates (pre.map Entry.line ++ bad :: post) acc = none := by
  induction pre generalizing acc with
  | nil =>
    simp only [List.map_nil, List.nil_append, parseTipStates]
    match hsc : splitCols bad.toList, hbad with
    | [], _ => rfl
    | [_], _ => rfl
    | [_, _], hb => simp at hb
    | _ :: _ :: _ :: _, _ => rfl
  | cons e r ih =>
    obtain ⟨h1, h2, h3⟩ := hpre e (by simp)
    simp only [List.map_cons, List.cons_append, parseTipStates, Entry.line,
      splitCols_line e.sep h1 e.name e.state h2 h3]
    exact ih _ (fun x hx => hpre x (by simp [hx]))

/- ## the comments -/

def noBrace (cs : List Char) : Prop := ∀ c ∈ cs, c ≠ '{' ∧ c ≠ '}'

/-- inside braces: the characters up to the closing brace are collected -/
theorem readSeqChars_inside (cs : List Char) (h : noBrace cs) (r : List Char) (cur : List Char) (acc : List (List Char)) :
    readSeqChars (cs ++ '}' :: r) (some cur) acc = readSeqChars r none ((cur.reverse ++ cs) :: acc) := by
  induction cs generalizing cur with
  | nil => simp [readSeqChars]
  | cons c t ih =>
    have hc := h c (by simp)
    have ht : noBrace t := fun x hx => h x (by simp [hx])
    simp only [List.cons_append, readSeqChars, beq_iff_eq, hc.2, if_false]
    rw [ih ht]
    simp

/-- one site, then the rest -/
theorem readSeqChars_site (cs : List Char) (hne : cs ≠ []) (h : noBrace cs) (r : List Char) (acc : List (List Char)) :
    readSeqChars (asrSiteChars cs ++ r) none acc = readSeqChars r none (cs :: acc) := by
  unfold asrSiteChars
  split
  · rename_i hl
    simp only [List.cons_append, List.append_assoc, readSeqChars, beq_self_eq_true, if_true]
    have := readSeqChars_inside cs h r [] acc
    simpa using this
  · rename_i hl
    match cs, hne with
    | [c], _ =>
      have hc := h c (by simp)
      simp [readSeqChars, hc.1]
    | _ :: _ :: _, _ => simp at hl

theorem readSeqChars_render (sites : List (List Char)) (h : ∀ s ∈ sites, s ≠ [] ∧ noBrace s) (acc : List (List Char)) :
    readSeqChars (asrCommentChars sites) none acc = some (acc.reverse ++ sites) := by
  induction sites generalizing acc with
  | nil => simp [asrCommentChars, readSeqChars]
  | cons s t ih =>
    have hs := h s (by simp)
    have : asrCommentChars (s :: t) = asrSiteChars s ++ asrCommentChars t := by simp [asrCommentChars]
    rw [this, readSeqChars_site s hs.1 hs.2, ih (fun x hx => h x (by simp [hx]))]
    simp

def noSep (sep : Char) (cs : List Char) : Prop := ∀ c ∈ cs, c ≠ sep

theorem splitChars_clean (sep : Char) : ∀ (a : List Char), noSep sep a → splitChars sep a = [a]
  | [], _ => rfl
  | c :: r, h => by
    have hc := h c (by simp)
    have ih := splitChars_clean sep r (fun x hx => h x (by simp [hx]))
    simp [splitChars, hc, ih]

theorem splitChars_sep (sep : Char) (b : List Char) :
    ∀ (a : List Char), noSep sep a → splitChars sep (a ++ sep :: b) = a :: splitChars sep b
  | [], _ => by simp [splitChars]
  | c :: r, h => by
    have hc := h c (by simp)
    have ih := splitChars_sep sep b r (fun x hx => h x (by simp [hx]))
    simp [splitChars, hc, ih]

theorem splitChars_join (sep : Char) : ∀ (names : List (List Char)), names ≠ [] → (∀ n ∈ names, noSep sep n) →
    splitChars sep (joinChars sep names) = names
  | [a], _, h => by simpa [joinChars] using splitChars_clean sep a (h a (by simp))
  | a :: b :: r, _, h => by
    have ha := h a (by simp)
    simp only [joinChars]
    rw [splitChars_sep sep _ a ha, splitChars_join sep (b :: r) (by simp) (fun n hn => h n (by simp [hn]))]

theorem stateNames_ne_nil (alpha : List String) (v : Vec) : stateNames alpha v ≠ [] := by
  unfold stateNames
  simp only
  split
  · simp
  · rename_i h; intro h2; simp [h2] at h

theorem stateNames_mem (alpha : List String) (v : Vec) (n : String) (h : n ∈ stateNames alpha v) :
    n = "*" ∨ n ∈ alpha := by
  unfold stateNames at h
  simp only at h
  split at h
  · left; simpa using h
  · right
    simp only [List.mem_filterMap, List.mem_range] at h
    obtain ⟨i, _, hi⟩ := h
    split at hi
    · exact List.mem_of_getElem? hi
    · simp at hi

theorem singles_of (P : Char → Prop) : ∀ (names : List String), (∀ n ∈ names, ∃ c, n = String.singleton c ∧ P c) →
    ∃ cs : List Char, names = cs.map String.singleton ∧ ∀ c ∈ cs, P c
  | [], _ => ⟨[], rfl, by simp⟩
  | n :: r, h => by
    obtain ⟨c, hn, hc⟩ := h n (by simp)
    obtain ⟨cs, hr, hcs⟩ := singles_of P r (fun x hx => h x (by simp [hx]))
    exact ⟨c :: cs, by simp [hn, hr], by
      intro x hx
      rcases List.mem_cons.mp hx with e | e
      · exact e ▸ hc
      · exact hcs x e⟩

theorem flatMap_singletons (cs : List Char) : (cs.map String.singleton).flatMap String.toList = cs := by
  induction cs with
  | nil => rfl
  | cons c t ih => simp [List.flatMap_cons, ih]

/-- for an alphabet of one-character names without braces, the names written site by site are non-empty lists of
    single characters without brace (`*` for the empty set) -/
theorem stateNames_sites (chars : List Char) (hb : noBrace chars) : ∀ vs : List Vec,
    ∃ sites : List (List Char), vs.map (stateNames (chars.map String.singleton)) = sites.map (·.map String.singleton) ∧
      ∀ s ∈ sites, s ≠ [] ∧ noBrace s
  | [] => ⟨[], rfl, by simp⟩
  | v :: r => by
    obtain ⟨cs, h1, h3⟩ := singles_of (fun c => c ≠ '{' ∧ c ≠ '}') (stateNames (chars.map String.singleton) v) (by
      intro n hn
      rcases stateNames_mem _ _ n hn with e | e
      · exact ⟨'*', by rw [e]; decide, by decide⟩
      · obtain ⟨c, hc, rfl⟩ := List.mem_map.mp e
        exact ⟨c, rfl, hb c hc⟩)
    have h2 : cs ≠ [] := fun e => stateNames_ne_nil _ v (by simpa [e] using h1)
    obtain ⟨sites, hs, hall⟩ := stateNames_sites chars hb r
    exact ⟨cs :: sites, by simp [h1, hs], by
      intro s hs'
      rcases List.mem_cons.mp hs' with e | e
      · exact e ▸ ⟨h2, h3⟩
      · exact hall s e⟩

end Gotree.C12

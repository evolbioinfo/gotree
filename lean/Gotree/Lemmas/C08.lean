/-
  C08 — `Compare` of the model keyed by canonical sides (Lemmas/C08Canon.lean) against the Spec's
  set algebra, under the semantic hypotheses `good`.  Core Lean only.
-/
import Gotree.Lemmas.C08Canon
import Gotree.Spec.C08
import Gotree.Lemmas.C05Splits

namespace Gotree.C08.Canon
open Gotree Gotree.C08 List

/-! ## set algebra on duplicate-free lists of sides -/

theorem length_inter_add_diff (a b : List (List String)) :
    a.length = (interL a b).length + (diffL a b).length := by
  unfold interL diffL
  rw [← countP_eq_length_filter, ← countP_eq_length_filter, length_eq_countP_add_countP fun x => b.contains x]
  simp

theorem inter_perm_comm {a b : List (List String)} (ha : a.Nodup) (hb : b.Nodup) : interL a b ~ interL b a := by
  unfold interL
  rw [perm_ext_iff_of_nodup (ha.sublist filter_sublist) (hb.sublist filter_sublist)]
  intro x
  simp only [mem_filter, contains_iff_mem]
  exact And.comm

theorem contains_perm {b b' : List (List String)} (h : b ~ b') (x : List String) : b.contains x = b'.contains x := by
  rw [Bool.eq_iff_iff, contains_iff_mem, contains_iff_mem, h.mem_iff]

theorem inter_perm {a a' b b' : List (List String)} (h : a ~ a') (hb : b ~ b') : interL a b ~ interL a' b' := by
  unfold interL
  rw [funext (contains_perm hb)]; exact h.filter _

theorem diff_perm {a a' b b' : List (List String)} (h : a ~ a') (hb : b ~ b') : diffL a b ~ diffL a' b' := by
  unfold diffL
  rw [funext fun x => congrArg (!·) (contains_perm hb x)]; exact h.filter _

/-- "no split of `a` is missing from `b`, nor the other way round" is equality as sets -/
theorem diffs_empty_iff (a b : List (List String)) :
    ((diffL a b).isEmpty && (diffL b a).isEmpty) = true ↔ ∀ x, x ∈ a ↔ x ∈ b := by
  unfold diffL
  simp only [Bool.and_eq_true, isEmpty_iff, filter_eq_nil_iff, Bool.not_eq_true', Bool.not_eq_false, contains_iff_mem]
  exact ⟨fun h x => ⟨h.1 x, h.2 x⟩, fun h => ⟨fun x => (h x).1, fun x => (h x).2⟩⟩

/-! ## the Spec's split list of a `good` tree -/

theorem insertU_fresh (s : USplit) (acc : List USplit) (h : ∀ x ∈ acc, x.side ≠ s.side) :
    insertU s acc = acc ++ [s] := by
  induction acc with
  | nil => rfl
  | cons x r ih => rw [insertU_cons_ne s x r (h x (by simp)), ih fun y hy => h y (by simp [hy])]; rfl

theorem foldl_insertU_fresh (all : List String) (l : List SplitE) (acc : List USplit)
    (hn : (l.map (key all)).Nodup) (hd : ∀ x ∈ acc, ∀ s ∈ l, x.side ≠ key all s) :
    l.foldl (fun acc s => insertU ⟨canonSide all s.below, s.e.len, s.e.sup⟩ acc) acc
      = acc ++ l.map (usOf all) := by
  induction l generalizing acc with
  | nil => simp
  | cons s r ih =>
    obtain ⟨hs, hr⟩ := nodup_cons.mp hn
    rw [foldl_cons, insertU_fresh _ _ fun x hx => hd x hx s (by simp), ih _ hr, map_cons, append_assoc]
    · rfl
    · intro x hx s' hs'
      rcases mem_append.mp hx with hx | hx
      · exact hd x hx s' (by simp [hs'])
      · rw [mem_singleton.mp hx]
        exact fun heq => hs (mem_map.mpr ⟨s', hs', heq.symm⟩)

theorem good_parts {t : T} (h : good t = true) :
    t.uniqueTips = true ∧ t.tipNames ≠ [] ∧ keysNodup t = true ∧ classOK t = true ∧ tipSplitsOK t = true := by
  unfold good at h
  simp only [Bool.and_eq_true, Bool.not_eq_true', isEmpty_eq_false_iff] at h
  exact ⟨h.1.1.1.1, h.1.1.1.2, h.1.1.2, h.1.2, h.2⟩

theorem keys_nodup {t : T} (h : keysNodup t = true) : (t.splits.map (key t.tipNames)).Nodup :=
  of_decide_eq_true h

theorem counted_true (e : SplitE) : counted true e = true := rfl
theorem counted_false (e : SplitE) : counted false e = !e.tip := rfl

/-- the canonical sides of the branches the code counts -/
def keys (tips : Bool) (t : T) : List (List String) := (t.splits.filter (counted tips)).map (key t.tipNames)

/-- distinct branches define distinct splits and tip branches are the trivial ones: the splits that
    count are, up to order, the branches that the code counts -/
theorem U_perm (t : T) (tips : Bool) (ht : good t = true) :
    U tips t ~ (t.splits.filter (counted tips)).map (usOf t.tipNames) := by
  obtain ⟨_, _, h1, h2, _⟩ := good_parts ht
  have hall : t.usplitsAll ~ t.splits.map (usOf t.tipNames) := by
    refine (mergeSort_perm _ _).trans ?_
    rw [foldl_insertU_fresh t.tipNames t.splits [] (keys_nodup h1) (by simp)]
    simp
  cases tips with
  | true => rw [filter_eq_self.mpr fun a _ => counted_true a]; exact hall
  | false =>
    refine (hall.filter _).trans (Perm.of_eq ?_)
    rw [filter_map]
    refine congrArg (map _) (filter_congr fun s hs => ?_)
    have := (all_eq_true.mp h2) s hs
    simp only [beq_iff_eq] at this
    simp only [Function.comp, usOf, counted_false, this, ← decide_not]
    exact decide_eq_decide.mpr (by omega)

theorem S_perm (t : T) (tips : Bool) (ht : good t = true) : S tips t ~ keys tips t := by
  refine ((U_perm t tips ht).map _).trans (Perm.of_eq ?_)
  rw [map_map]; rfl

theorem S_nodup (t : T) (tips : Bool) (ht : good t = true) : (S tips t).Nodup :=
  (S_perm t tips ht).symm.nodup ((keys_nodup (good_parts ht).2.2.1).sublist (filter_sublist.map _))

theorem mem_S_iff (t : T) (tips : Bool) (ht : good t = true) (k : List String) : k ∈ S tips t ↔ k ∈ keys tips t :=
  (S_perm t tips ht).mem_iff

theorem S_length (t : T) (tips : Bool) (ht : good t = true) : (S tips t).length = t.splits.countP (counted tips) := by
  rw [(S_perm t tips ht).length_eq, keys, length_map, countP_eq_length_filter]

/-- a tally over the counted branches of a predicate that says "the split is in `X`" is `|S ∩ X|` -/
theorem countP_inter (t : T) (tips : Bool) (ht : good t = true) (X : List (List String)) (p : SplitE → Bool)
    (hp : ∀ e ∈ t.splits, counted tips e = true → p e = X.contains (key t.tipNames e)) :
    t.splits.countP (fun e => p e && counted tips e) = (interL (S tips t) X).length := by
  rw [(inter_perm (S_perm t tips ht) (Perm.refl X)).length_eq,
    interL, keys, filter_map, length_map, filter_filter, countP_eq_length_filter]
  congr 1
  apply filter_congr
  intro e he
  cases hc : counted tips e with
  | false => simp
  | true => simp [hp e he hc]

/-! ## the index -/

theorem lookup_put_self (k : List String) (v : Info) (ix : Index) : (put k v ix).lookup k = some v := by
  induction ix with
  | nil => simp [put]
  | cons p r ih =>
    obtain ⟨k', v'⟩ := p
    by_cases h : k' = k
    · subst h; simp [put]
    · have h1 : (k' == k) = false := by simpa using h
      have h2 : (k == k') = false := by simpa using (fun e => h e.symm)
      simp [put, h1, lookup, h2, ih]

theorem lookup_put_other (k k2 : List String) (v : Info) (ix : Index) (h : k2 ≠ k) :
    (put k v ix).lookup k2 = ix.lookup k2 := by
  induction ix with
  | nil =>
    simp [put, h]
  | cons p r ih =>
    obtain ⟨k', v'⟩ := p
    by_cases h1 : k' = k
    · subst h1
      have : (k2 == k') = false := by simpa using h
      simp [put, lookup, this]
    · have h1' : (k' == k) = false := by simpa using h1
      simp only [put, h1', Bool.false_eq_true, if_false, lookup_cons]
      rw [ih]

theorem value_isSome_iff (all : List String) (l : List SplitE) (i : Nat) (ix : Index) (k : List String) :
    (value (buildFrom all l i ix) k).isSome = true ↔ k ∈ l.map (key all) ∨ (ix.lookup k).isSome = true := by
  induction l generalizing i ix with
  | nil => simp [buildFrom, value]
  | cons s r ih =>
    rw [buildFrom, ih, map_cons, mem_cons]
    by_cases hk : k = key all s
    · simp [hk, lookup_put_self]
    · rw [lookup_put_other _ _ _ _ hk]
      simp [hk]

theorem value_buildIndex_isSome (all : List String) (l : List SplitE) (k : List String) :
    (value (buildIndex all l) k).isSome = true ↔ k ∈ l.map (key all) := by
  simp [buildIndex, value_isSome_iff, lookup]

/-- with distinct keys, the value found for the key of a branch carries that branch's length -/
theorem value_buildFrom_len (all : List String) (l : List SplitE) (i : Nat) (ix : Index) (s : SplitE)
    (hn : (l.map (key all)).Nodup) (hs : s ∈ l) :
    ((value (buildFrom all l i ix) (key all s)).map (·.len)) = some s.e.len := by
  induction l generalizing i ix with
  | nil => cases hs
  | cons s0 r ih =>
    obtain ⟨h0, hr⟩ := nodup_cons.mp hn
    rw [buildFrom]
    rcases mem_cons.mp hs with h | h
    · -- the entry of `s` itself is not overwritten by the later branches
      subst h
      have hno : ∀ (l : List SplitE) (i : Nat) (ix : Index), key all s ∉ l.map (key all) →
          (buildFrom all l i ix).lookup (key all s) = ix.lookup (key all s) := by
        intro l
        induction l with
        | nil => intros; rfl
        | cons a l ihl =>
          intro i ix hk
          rw [map_cons, mem_cons, not_or] at hk
          rw [buildFrom, ihl _ _ hk.2, lookup_put_other _ _ _ _ hk.1]
      rw [value, hno r _ _ h0, lookup_put_self]; rfl
    · exact ih _ _ hr h

/-! ## the loop in closed form -/

/-- the lookup of one compared branch -/
def okE (idx : Index) (all : List String) (e : SplitE) : Bool :=
  if !e.tip then (value idx (key all e)).isSome else true

theorem not_counted_okE (idx : Index) (all : List String) (tips : Bool) (e : SplitE)
    (h : counted tips e = false) : okE idx all e = true := by
  cases tips <;> cases ht : e.tip <;> simp_all [counted, okE]

theorem cmpLoop_noSC (idx : Index) (all : List String) (tips : Bool) (l : List SplitE) (st : LoopSt) :
    cmpLoop idx all tips false l st =
      ⟨st.total2 + l.countP (counted tips),
       st.common + l.countP (fun e => okE idx all e && counted tips e),
       st.same && l.all (okE idx all)⟩ := by
  induction l generalizing st with
  | nil => simp [cmpLoop]
  | cons e r ih =>
    have hk : (if (!e.tip) = true then (value idx (key all e)).isSome else true) = okE idx all e := rfl
    simp only [cmpLoop, Bool.and_false, Bool.false_eq_true, if_false, hk, ih, countP_cons, all_cons]
    cases okE idx all e <;> cases counted tips e <;> simp <;> omega

/-- with the shortcut: the same flag, and the same totals whenever the flag is set -/
theorem cmpLoop_SC (idx : Index) (all : List String) (tips : Bool) (l : List SplitE) (st : LoopSt) :
    (cmpLoop idx all tips true l st).same = (st.same && l.all (okE idx all)) ∧
    ((cmpLoop idx all tips true l st).same = true →
       (cmpLoop idx all tips true l st).total2 = st.total2 + l.countP (counted tips)) := by
  induction l generalizing st with
  | nil => simp [cmpLoop]
  | cons e r ih =>
    have hk : (if (!e.tip) = true then (value idx (key all e)).isSome else true) = okE idx all e := rfl
    simp only [cmpLoop, Bool.and_true, hk]
    cases hok : okE idx all e with
    | true =>
      simp only [Bool.not_true, Bool.false_eq_true, if_false]
      obtain ⟨h1, h2⟩ := ih ⟨if counted tips e = true then st.total2 + 1 else st.total2,
        if (true && counted tips e) = true then st.common + 1 else st.common, st.same && true⟩
      constructor
      · rw [h1]; simp [all_cons, hok]
      · intro h; rw [h2 h]; simp only [countP_cons]; split <;> omega
    | false =>
      simp [all_cons, hok]

/-- a tally of the hits equals the tally of the candidates iff every element is a hit,
    provided the non-candidates are hits -/
theorem all_iff_countP_eq {α : Type} (p q : α → Bool) (l : List α) (h : ∀ e ∈ l, q e = false → p e = true) :
    l.countP (fun e => p e && q e) ≤ l.countP q ∧
    (l.all p = true ↔ l.countP (fun e => p e && q e) = l.countP q) := by
  induction l with
  | nil => simp
  | cons a r ih =>
    obtain ⟨h1, h2⟩ := ih (fun e he => h e (by simp [he]))
    have ha := h a (by simp)
    simp only [countP_cons, all_cons, Bool.and_eq_true]
    cases hp : p a <;> cases hq : q a <;> simp_all <;> omega

/-! ## names: unique tips, same taxa -/

theorem eraseDups_len (n : Nat) : ∀ (l : List String), l.length = n →
    l.eraseDups.length ≤ l.length ∧ (l.eraseDups.length = l.length → l.Nodup) := by
  induction n using Nat.strongRecOn with
  | _ n ih =>
    intro l hl
    cases l with
    | nil => simp
    | cons a as =>
      rw [eraseDups_cons]
      have hf : (as.filter (fun b => !b == a)).length ≤ as.length := length_filter_le _ _
      obtain ⟨h1, h2⟩ := ih _ (by simp at hl; omega) (as.filter (fun b => !b == a)) rfl
      simp only [length_cons]
      refine ⟨by omega, fun heq => ?_⟩
      have hall := length_filter_eq_length_iff.mp (show (as.filter (fun b => !b == a)).length = as.length by omega)
      have hnd := h2 (by omega)
      rw [filter_eq_self.mpr hall] at hnd
      exact nodup_cons.mpr ⟨fun hm => by simpa using hall a hm, hnd⟩

theorem eraseDups_of_nodup : ∀ (l : List String), l.Nodup → l.eraseDups = l
  | [], _ => by simp
  | a :: r, h => by
    have h' := nodup_cons.mp h
    have : r.filter (fun b => !b == a) = r :=
      filter_eq_self.mpr fun x hx => by simpa using fun e : x = a => h'.1 (e ▸ hx)
    rw [eraseDups_cons, this, eraseDups_of_nodup r h'.2]

theorem uniqueTips_iff (t : T) : t.uniqueTips = true ↔ t.tipNames.Nodup :=
  ⟨fun h => (eraseDups_len _ _ rfl).2 (by simpa [T.uniqueTips] using h),
   fun h => by unfold T.uniqueTips; rw [eraseDups_of_nodup _ h]; simp⟩

theorem nodup_of_uniqueTips (t : T) (h : t.uniqueTips = true) : t.tipNames.Nodup := (uniqueTips_iff t).mp h

theorem perm_of_sameTaxa (r c : T) (h : sameTaxa r c = true) (hr : r.tipNames.Nodup) (hc : c.tipNames.Nodup) :
    r.tipNames ~ c.tipNames := by
  rw [perm_ext_iff_of_nodup hr hc]
  unfold sameTaxa at h
  simp only [Bool.and_eq_true, all_eq_true, contains_iff_mem] at h
  exact fun a => ⟨h.1 a, h.2 a⟩

theorem sameTaxa_of_perm (r c : T) (h : r.tipNames ~ c.tipNames) : sameTaxa r c = true := by
  unfold sameTaxa
  simp only [Bool.and_eq_true, all_eq_true, contains_iff_mem]
  exact ⟨fun a ha => h.mem_iff.mp ha, fun a ha => h.mem_iff.mpr ha⟩

theorem sameTaxa_symm (r c : T) (h : sameTaxa r c = true) : sameTaxa c r = true := by
  unfold sameTaxa at *
  rw [Bool.and_comm]; exact h

theorem reinitOk_iff (t : T) : reinitOk t = true ↔ t.tipNames.Nodup ∧ t.tipNames ≠ [] := by
  simp [reinitOk, uniqueTips_iff]

theorem reinitOk_of_good {t : T} (h : good t = true) : reinitOk t = true :=
  (reinitOk_iff t).mpr ⟨nodup_of_uniqueTips t (good_parts h).1, (good_parts h).2.1⟩

theorem compareTipIndexes_of_perm {a b : List String} (h : a ~ b) (ha : a ≠ []) : compareTipIndexes a b = true := by
  unfold compareTipIndexes
  have hb : b ≠ [] := fun e => ha (by rw [e] at h; exact h.eq_nil)
  simp only [Bool.and_eq_true, bne_iff_ne, ne_eq, length_eq_zero_iff, beq_iff_eq, all_eq_true, contains_iff_mem]
  exact ⟨⟨⟨ha, hb⟩, h.length_eq⟩, fun x hx => h.mem_iff.mp hx⟩

theorem perm_of_subset_length : ∀ {a b : List String}, a.Nodup → b.Nodup → (∀ x ∈ a, x ∈ b) →
    a.length = b.length → a ~ b
  | [], b, _, _, _, hl => by rw [length_eq_zero_iff.mp hl.symm]
  | x :: a', b, ha, hb, hs, hl => by
    have ha' := nodup_cons.mp ha
    have hx : x ∈ b := hs x (by simp)
    have hsub : ∀ y ∈ a', y ∈ b.erase x := fun y hy =>
      (mem_erase_of_ne fun e : y = x => ha'.1 (e ▸ hy)).mpr (hs y (by simp [hy]))
    have hlen : a'.length = (b.erase x).length := by
      rw [length_erase_of_mem hx]; simp at hl; omega
    exact ((perm_of_subset_length ha'.2 (hb.erase x) hsub hlen).cons x).trans (perm_cons_erase hx).symm

theorem perm_of_compareTipIndexes {r c : T} (hr : reinitOk r = true) (hc : reinitOk c = true)
    (h : compareTipIndexes r.tipNames c.tipNames = true) : r.tipNames ~ c.tipNames := by
  unfold compareTipIndexes at h
  simp only [Bool.and_eq_true, beq_iff_eq, all_eq_true, contains_iff_mem] at h
  exact perm_of_subset_length ((reinitOk_iff r).mp hr).1 ((reinitOk_iff c).mp hc).1 h.2 h.1.2

theorem compareTipIndexes_false (r c : T) (hr : reinitOk r = true) (hc : reinitOk c = true)
    (h : sameTaxa r c = false) : compareTipIndexes r.tipNames c.tipNames = false := by
  cases h' : compareTipIndexes r.tipNames c.tipNames with
  | false => rfl
  | true => rw [sameTaxa_of_perm r c (perm_of_compareTipIndexes hr hc h')] at h; cases h

/-- two good trees on the same taxa pass every check before the loop -/
theorem checks_of_good {r c : T} (hT : sameTaxa r c = true) (hr : good r = true) (hc : good c = true) :
    r.tipNames ~ c.tipNames ∧ reinitOk r = true ∧ reinitOk c = true ∧
      compareTipIndexes r.tipNames c.tipNames = true := by
  have hp := perm_of_sameTaxa r c hT (nodup_of_uniqueTips r (good_parts hr).1) (nodup_of_uniqueTips c (good_parts hc).1)
  exact ⟨hp, reinitOk_of_good hr, reinitOk_of_good hc, compareTipIndexes_of_perm hp (good_parts hr).2.1⟩


/-! ## one lookup lemma

  `Compare`, `CompareWeighted` and `CommonEdges` all ask, for a counted branch of one tree, whether its split
  is a split of the other tree: a lookup in the index of all the branches, or a linear search among them. -/

/-- branches of two trees on the same taxa that define the same split are both tip branches or both
    internal: the size of the lighter side decides it -/
theorem tip_eq_of_key_eq {r c : T} (hp : r.tipNames ~ c.tipNames) (hr : classOK r = true) (hc : classOK c = true)
    {s e : SplitE} (hs : s ∈ r.splits) (he : e ∈ c.splits) (hk : key r.tipNames s = key c.tipNames e) :
    s.tip = e.tip := by
  have h1 := (all_eq_true.mp hr) s hs
  have h2 := (all_eq_true.mp hc) e he
  simp only [beq_iff_eq] at h1 h2
  rw [h1, h2, show canonSide r.tipNames s.below = canonSide c.tipNames e.below from hk, lightSize_perm_all hp]

/-- … hence a counted branch of `c` can only meet counted branches of `r` -/
theorem mem_keys_iff {r c : T} (tips : Bool) (hp : r.tipNames ~ c.tipNames) (hr : classOK r = true)
    (hc : classOK c = true) {e : SplitE} (he : e ∈ c.splits) (hcnt : counted tips e = true) :
    key c.tipNames e ∈ r.splits.map (key r.tipNames) ↔ key c.tipNames e ∈ keys tips r := by
  constructor
  · intro h
    obtain ⟨s, hs, hk⟩ := mem_map.mp h
    refine mem_map.mpr ⟨s, mem_filter.mpr ⟨hs, ?_⟩, hk⟩
    rw [counted, tip_eq_of_key_eq hp hr hc hs he hk]; exact hcnt
  · intro h
    obtain ⟨s, hs, hk⟩ := mem_map.mp h
    exact mem_map.mpr ⟨s, (mem_filter.mp hs).1, hk⟩

/-- the tip branch `{x} | rest` of `c` is a tip branch of `r` -/
theorem tip_key_mem {r c : T} (hp : r.tipNames ~ c.tipNames) (hr : tipSplitsOK r = true) (hc : tipSplitsOK c = true)
    {e : SplitE} (he : e ∈ c.splits) (ht : e.tip = true) : key c.tipNames e ∈ r.splits.map (key r.tipNames) := by
  have h1 := (all_eq_true.mp (Bool.and_eq_true_iff.mp hc).2) e he
  simp only [ht, Bool.not_true, Bool.false_or] at h1
  match hb : e.below, h1 with
  | [x], h1 =>
    obtain ⟨s, hs, hs2⟩ := any_eq_true.mp
      ((all_eq_true.mp (Bool.and_eq_true_iff.mp hr).1) x (hp.mem_iff.mpr (contains_iff_mem.mp h1)))
    simp only [Bool.and_eq_true, beq_iff_eq] at hs2
    refine mem_map.mpr ⟨s, hs, ?_⟩
    rw [key, key, hs2.2, hb, canonSide_perm_all hp]

/-- length found in an index for the split of a branch -/
def hitLen (idx : Index) (all : List String) (e : SplitE) : Option Rat :=
  (value idx (key all e)).map (·.len)

/-- ★ a counted branch of `c` is found in the index of `r` iff its split is a split of `r` that counts -/
theorem hit_iff_S (r c : T) (tips : Bool) (hT : sameTaxa r c = true) (hr : good r = true) (hc : good c = true)
    (e : SplitE) (he : e ∈ c.splits) (hcnt : counted tips e = true) :
    (hitLen (buildIndex r.tipNames r.splits) c.tipNames e).isSome
      = (S tips r).contains (canonSide c.tipNames e.below) := by
  rw [hitLen, Option.isSome_map, Bool.eq_iff_iff, value_buildIndex_isSome, contains_iff_mem, mem_S_iff r tips hr]
  exact mem_keys_iff tips (checks_of_good hT hr hc).1 (good_parts hr).2.2.2.1 (good_parts hc).2.2.2.1 he hcnt

/-- `Compare` takes a tip branch for found without looking it up; it would have been found -/
theorem okE_eq_hit (r c : T) (hT : sameTaxa r c = true) (hr : good r = true) (hc : good c = true)
    (e : SplitE) (he : e ∈ c.splits) :
    okE (buildIndex r.tipNames r.splits) c.tipNames e
      = (hitLen (buildIndex r.tipNames r.splits) c.tipNames e).isSome := by
  rw [hitLen, Option.isSome_map, okE]
  cases ht : e.tip with
  | false => rfl
  | true =>
    exact ((value_buildIndex_isSome _ _ _).mpr
      (tip_key_mem (checks_of_good hT hr hc).1 (good_parts hr).2.2.2.2 (good_parts hc).2.2.2.2 he ht)).symm

/-! ## assembling `compare` -/

/-- ★ core of `compare_counts`: the record of `Compare` (no shortcut) is the set algebra of the split sets -/
theorem compare_noSC_of_good (r c : T) (tips : Bool) (hT : sameTaxa r c = true)
    (hr : good r = true) (hc : good c = true) :
    compare r c tips false =
      .ok ⟨((diffL (S tips r) (S tips c)).length : Int), ((interL (S tips r) (S tips c)).length : Int),
           ((diffL (S tips c) (S tips r)).length : Int), sameSplits r c tips⟩ := by
  obtain ⟨_, h1, h2, h3⟩ := checks_of_good hT hr hc
  unfold compare
  simp only [h1, h2, h3, Bool.not_true, Bool.false_eq_true, if_false, cmpLoop_noSC, Nat.zero_add, Bool.true_and]
  have hR := S_length r tips hr
  have hC := S_length c tips hc
  have hco := countP_inter c tips hc (S tips r) (okE (buildIndex r.tipNames r.splits) c.tipNames)
    fun e he hcnt => (okE_eq_hit r c hT hr hc e he).trans (hit_iff_S r c tips hT hr hc e he hcnt)
  have hall := all_iff_countP_eq (okE (buildIndex r.tipNames r.splits) c.tipNames) (counted tips) c.splits
    (fun e _ hq => not_counted_okE _ _ tips e hq)
  have e1 := length_inter_add_diff (S tips r) (S tips c)
  have e2 := length_inter_add_diff (S tips c) (S tips r)
  have e3 := (inter_perm_comm (S_nodup r tips hr) (S_nodup c tips hc)).length_eq
  refine congrArg Res.ok ?_
  simp only [Stats.mk.injEq]
  refine ⟨by omega, by omega, by omega, ?_⟩
  rw [Bool.eq_iff_iff]
  simp only [sameSplits, Bool.and_eq_true, beq_iff_eq, isEmpty_iff, hall.2, ← length_eq_zero_iff]
  omega

/-! ## the flag: shortcut, and "both counts zero" -/

/-- a record seen through one of its fields -/
def view {α β : Type} (f : α → β) : Res α → Res β
  | .ok a => .ok (f a)
  | .err => .err
  | .refErr => .refErr

theorem view_ok {α β : Type} {f : α → β} {x : Res α} {b : β} (h : view f x = .ok b) : ∃ a, x = .ok a ∧ f a = b := by
  cases x <;> simp only [view, Res.ok.injEq, reduceCtorEq] at h
  exact ⟨_, rfl, h⟩

/-- the identity flag of a record -/
abbrev flag : Res Stats → Res Bool := view Stats.same

theorem compare_shortcut_flag (r c : T) (tips : Bool) :
    flag (compare r c tips true) = flag (compare r c tips false) := by
  unfold compare
  cases h1 : reinitOk r <;> cases h2 : reinitOk c <;>
    cases h3 : compareTipIndexes r.tipNames c.tipNames <;> simp [view]
  obtain ⟨e1, e2⟩ := cmpLoop_SC (buildIndex r.tipNames r.splits) c.tipNames tips c.splits ⟨0, 0, true⟩
  rw [cmpLoop_noSC]
  simp only [Nat.zero_add, Bool.true_and] at e1 e2 ⊢
  cases hall : c.splits.all (okE (buildIndex r.tipNames r.splits) c.tipNames) with
  | false => rw [hall] at e1; simp [e1]
  | true =>
    rw [hall] at e1
    rw [e1, e2 e1]

/-- model level, no hypothesis: without the shortcut the flag is set exactly when both
    "only" counts are zero -/
theorem compare_same_iff_zero (r c : T) (tips : Bool) (st : Stats)
    (h : compare r c tips false = .ok st) : st.same = true ↔ st.tree1 = 0 ∧ st.tree2 = 0 := by
  unfold compare at h
  cases h1 : reinitOk r <;> cases h2 : reinitOk c <;>
    cases h3 : compareTipIndexes r.tipNames c.tipNames <;> simp [h1, h2, h3] at h
  rw [cmpLoop_noSC] at h
  simp only [Nat.zero_add, Bool.true_and] at h
  have hall := all_iff_countP_eq (okE (buildIndex r.tipNames r.splits) c.tipNames) (counted tips) c.splits
    (fun e _ hq => not_counted_okE _ _ tips e hq)
  rw [← h]
  simp only [Bool.and_eq_true, beq_iff_eq, hall.2]
  omega

/-! ## invariance: only the split sets matter -/

theorem sameSplits_congr {r c r' c' : T} {tips : Bool} (pR : S tips r ~ S tips r') (pC : S tips c ~ S tips c') :
    sameSplits r' c' tips = sameSplits r c tips := by
  rw [Bool.eq_iff_iff, sameSplits, sameSplits, diffs_empty_iff, diffs_empty_iff]
  exact forall_congr' fun x => by rw [pR.mem_iff, pC.mem_iff]

end Gotree.C08.Canon

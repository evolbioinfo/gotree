/-
  C01 — the lexer, the loop of `parseIter` and `Parse` seen from outside: what the users of the model
  (the literal machines, C02's second model, C13's stream laws) need instead of unfolding the definitions.
  Core Lean only; imports the model only.
-/
import Gotree.Model.C01

namespace Gotree.Newick

/- ## the lexer -/

/-- literal and rest are the input -/
theorem scan_lit_rest (C : Codec) (ign : Bool) (p : List Char) : (scan C ign p).2.1 ++ (scan C ign p).2.2 = p := by
  cases p with
  | nil => rfl
  | cons c r =>
    obtain ⟨t, q, h, -⟩ := scan_cons C ign c r
    simp [h, List.takeWhile_append_dropWhile]

/-- `scanIgnoreWhitespace` stands behind the leading blanks -/
theorem skipWs_eq_dropWhile (C : Codec) (x : List Char) : skipWs C x = x.dropWhile isWhitespace := by
  cases x with
  | nil => rfl
  | cons c r =>
    obtain ⟨t, q, h, hq, hws, -⟩ := scan_cons C false c r
    cases hc : isWhitespace c with
    | true =>
      rw [scan_ws C false c r hc] at h
      rw [skipWs, scan_ws C false c r hc, if_pos rfl, List.dropWhile_cons, hc]; rfl
    | false =>
      have : t ≠ .ws := fun e => by rw [hws.1 e] at hc; cases hc
      simp [skipWs, h, this, List.dropWhile_cons, hc]

theorem scanIW_eq_scan (C : Codec) (x : List Char) : scanIW C x = scan C false (x.dropWhile isWhitespace) := by
  rw [scanIW, skipWs_eq_dropWhile]

theorem dropWhile_idem {α} (p : α → Bool) (l : List α) : (l.dropWhile p).dropWhile p = l.dropWhile p := by
  induction l with
  | nil => rfl
  | cons a l ih => by_cases h : p a = true <;> simp [List.dropWhile_cons, h, ih]

theorem skipWs_idem (C : Codec) (inp : List Char) : skipWs C (skipWs C inp) = skipWs C inp := by
  rw [skipWs_eq_dropWhile, skipWs_eq_dropWhile, dropWhile_idem]

theorem scanIW_skipWs (C : Codec) (inp : List Char) : scanIW C (skipWs C inp) = scanIW C inp := by
  rw [scanIW, skipWs_idem]; rfl

/-- `scanIgnoreWhitespace` never returns a WS token -/
theorem scanIW_not_ws (C : Codec) (p : List Char) : (scanIW C p).1 ≠ .ws := by
  rw [scanIW_eq_scan]
  cases hd : p.dropWhile isWhitespace with
  | nil => exact nofun
  | cons d r =>
    obtain ⟨t, q, h, -, hws, -⟩ := scan_cons C false d r
    have := List.head_dropWhile_not isWhitespace (l := p) (by simp [hd])
    simp only [hd, List.head_cons] at this
    rw [h]
    exact fun e => by rw [hws.1 e] at this; cases this


theorem takeWhile_append_of_not {α} (f : α → Bool) (w : List α) {d : α} (tl : List α) (hd : f d = false) :
    (w ++ d :: tl).takeWhile f = w.takeWhile f := by
  induction w with
  | nil => simp [hd]
  | cons x w ih => by_cases hx : f x = true <;> simp [hx, ih]

theorem dropWhile_append_of_not {α} (f : α → Bool) (w : List α) {d : α} (tl : List α) (hd : f d = false) :
    (w ++ d :: tl).dropWhile f = w.dropWhile f ++ d :: tl := by
  induction w with
  | nil => simp [hd]
  | cons x w ih => by_cases hx : f x = true <;> simp [hx, ih]

/-- a delimiter is a token by itself, whatever follows -/
theorem scan_delim_all (C : Codec) (ign : Bool) (c : Char) (hi : isIdent ign c = false) :
    ∃ t, ∀ r, scan C ign (c :: r) = (t, [c], r) := by
  rcases isIdent_false ign c hi with rfl | rfl | rfl | rfl | rfl | rfl | ⟨rfl, rfl⟩
  all_goals exact ⟨_, fun _ => rfl⟩

/-- The lexer does not look behind the end of a token: a character `d` that is neither a blank nor an identifier rune
    ends every token before it, so the token of `c :: w` is the token of `c :: w ++ d :: tl`. -/
theorem scan_append (C : Codec) (ign : Bool) (c : Char) (w : List Char) {d : Char} (tl : List Char)
    (hw : isWhitespace d = false) (hi : isIdent ign d = false) :
    scan C ign (c :: (w ++ d :: tl)) =
      ((scan C ign (c :: w)).1, (scan C ign (c :: w)).2.1, (scan C ign (c :: w)).2.2 ++ d :: tl) := by
  cases hwc : isWhitespace c with
  | true => rw [scan_ws C ign c _ hwc, scan_ws C ign c _ hwc, takeWhile_append_of_not _ w tl hw, dropWhile_append_of_not _ w tl hw]
  | false =>
    cases hic : isIdent ign c with
    | true =>
      rw [scan_ident C ign c _ hwc hic, scan_ident C ign c _ hwc hic, takeWhile_append_of_not _ w tl hi,
        dropWhile_append_of_not _ w tl hi]
    | false =>
      obtain ⟨t, h⟩ := scan_delim_all C ign c hic
      rw [h, h]

/-- the tokens `;` and `[` are those characters -/
theorem scan_tok_char (C : Codec) (ign : Bool) (c : Char) (r : List Char) :
    ((scan C ign (c :: r)).1 = .eot → c = ';') ∧ ((scan C ign (c :: r)).1 = .openbrack → c = '[') := by
  cases hwc : isWhitespace c with
  | true => rw [scan_ws C ign c _ hwc]; exact ⟨nofun, nofun⟩
  | false =>
    cases hic : isIdent ign c with
    | true => rw [scan_ident C ign c _ hwc hic]; split <;> exact ⟨nofun, nofun⟩
    | false =>
      rcases isIdent_false ign c hic with rfl | rfl | rfl | rfl | rfl | rfl | ⟨rfl, rfl⟩
      all_goals exact ⟨fun h => by first | rfl | (exact nomatch h), fun h => by first | rfl | (exact nomatch h)⟩

/- ## one turn -/

/-- the same turn, going on at `r` -/
def Iter.withRest : Iter → List Char → Iter
  | .cont st _, r => .cont st r
  | .stop o, _ => .stop o

/-- a turn that goes on, or fails -/
def Iter.Open : Iter → Prop
  | .stop (.ok _) => False
  | .stop (.panic _) => False
  | _ => True

/-- Apart from `:`, `[`, `;` and the end of the input, a turn does not look at the input: it goes on behind its token
    or fails. -/
theorem iter_plain (C : Codec) (st : PState) (tok : Tok) (lit : List Char)
    (h0 : tok ≠ .startlen) (h1 : tok ≠ .openbrack) (h2 : tok ≠ .eot) (h3 : tok ≠ .eof) :
    ∃ i : Iter, i.Open ∧ ∀ p r, iter C st tok lit p r = i.withRest r := by
  cases tok with
  | startlen => exact absurd rfl h0
  | openbrack => exact absurd rfl h1
  | eot => exact absurd rfl h2
  | eof => exact absurd rfl h3
  | _ =>
    simp only [iter, beq_self_eq_true, if_true, (by decide : (Tok.ident == Tok.numeric) = false),
      Bool.false_eq_true, if_false]
    repeat' split
    all_goals first
      | exact ⟨.stop (.err _), trivial, fun _ _ => rfl⟩
      | exact ⟨.stop (.unrep _), trivial, fun _ _ => rfl⟩
      | exact ⟨.cont _ [], trivial, fun _ _ => rfl⟩

/-- The turn of a `:` sees the input through the next token only, and goes on behind it if it is a number. -/
theorem iter_colon (C : Codec) (st : PState) (l1 p1 r1 l2 p2 r2 : List Char)
    (e1 : (scanIW C r1).1 = (scanIW C r2).1) (e2 : (scanIW C r1).2.1 = (scanIW C r2).2.1) :
    ∃ i : Iter, i.Open ∧ iter C st .startlen l1 p1 r1 = i.withRest (scanIW C r1).2.2 ∧
      iter C st .startlen l2 p2 r2 = i.withRest (scanIW C r2).2.2 ∧
      ((scanIW C r1).1 = .numeric ∨ ∃ o, i = .stop o) := by
  simp only [iter]
  rw [← e1, ← e2]
  generalize (scanIW C r1).1 = t
  generalize (scanIW C r1).2.1 = l
  generalize (scanIW C r1).2.2 = q1
  generalize (scanIW C r2).2.2 = q2
  by_cases hn : t = .numeric
  · subst hn
    have hh : ¬(Tok.numeric ≠ Tok.numeric) := fun h => h rfl
    rw [if_neg hh, if_neg hh]
    repeat' split
    all_goals first
      | exact ⟨.stop (.err _), trivial, rfl, rfl, Or.inl rfl⟩
      | exact ⟨.stop (.unrep _), trivial, rfl, rfl, Or.inl rfl⟩
      | exact ⟨.cont _ [], trivial, rfl, rfl, Or.inl rfl⟩
  · simp only [ne_eq, hn, not_false_eq_true, if_true]
    exact ⟨.stop (.err _), trivial, rfl, rfl, Or.inr ⟨_, rfl⟩⟩

/- ## the loop -/

/-- how the loop goes on after a turn -/
def Iter.next (k : PState → List Char → Outcome (PState × List Char)) : Iter → Outcome (PState × List Char)
  | .stop o => o
  | .cont st r => k st r

/-- one turn of the loop; the test on EOF of the definition is dead (`iter_fits`) -/
theorem run_eq (C : Codec) (st : PState) (inp : List Char) :
    run C st inp = (iter C st (scanIW C inp).1 (scanIW C inp).2.1 (skipWs C inp) (scanIW C inp).2.2).next (run C) := by
  have hf := iter_fits C st (scanIW C inp).1 (scanIW C inp).2.1 (skipWs C inp) (scanIW C inp).2.2
  rw [run_step]
  revert hf
  cases iter C st (scanIW C inp).1 (scanIW C inp).2.1 (skipWs C inp) (scanIW C inp).2.2 with
  | stop o => exact fun _ => rfl
  | cont st' r' => exact fun hf => if_neg hf.1

/-- induction along the loop: a turn ends, or goes on with a shorter input -/
theorem run_ind (C : Codec) {motive : PState → List Char → Prop}
    (stop : ∀ st inp o, iter C st (scanIW C inp).1 (scanIW C inp).2.1 (skipWs C inp) (scanIW C inp).2.2 = .stop o →
      run C st inp = o → motive st inp)
    (cont : ∀ st inp st' r', iter C st (scanIW C inp).1 (scanIW C inp).2.1 (skipWs C inp) (scanIW C inp).2.2 = .cont st' r' →
      run C st inp = run C st' r' → r'.length < inp.length → motive st' r' → motive st inp)
    (st : PState) (inp : List Char) : motive st inp := by
  induction st, inp using run.induct C with
  | case1 st inp o ho => exact stop st inp o ho (by rw [run_eq, ho]; rfl)
  | case2 st inp st2 r2 hi he =>
    have hf := iter_fits C st (scanIW C inp).1 (scanIW C inp).2.1 (skipWs C inp) (scanIW C inp).2.2
    rw [hi] at hf
    exact absurd he hf.1
  | case3 st inp st2 r2 hi he ih =>
    exact cont st inp st2 r2 hi (by rw [run_eq, hi]; rfl)
      (Nat.lt_of_le_of_lt (iter_le C st _ _ _ _ st2 r2 hi) (scanIW_lt C inp he)) ih

theorem iter_eof (C : Codec) (st : PState) (lit pos rest : List Char) :
    iter C st .eof lit pos rest =
      if st.stale then .stop (.err "strconv.ParseFloat: invalid syntax")
      else .stop (.ok ({ st with prevTok := some .eof }, rest)) := by
  unfold iter; rfl

theorem iter_eot (C : Codec) (st : PState) (lit pos rest : List Char) :
    iter C st .eot lit pos rest =
      if st.level != 0 then .stop (.err "Mismatched parenthesis at ;")
      else if st.stale then .stop (.err "strconv.ParseFloat: invalid syntax")
      else .stop (.ok ({ st with prevTok := some .eot }, pos)) := rfl

/-- only the turn of a `;` uses the position of its token -/
theorem iter_pos (C : Codec) (st : PState) (tok : Tok) (lit pos pos' rest : List Char) (h : tok ≠ .eot) :
    iter C st tok lit pos rest = iter C st tok lit pos' rest := by
  cases tok <;> first | rfl | exact absurd rfl h

/-- the loop sees its input from the first token on -/
theorem run_congr (C : Codec) (st : PState) (x y : List Char) (h : skipWs C x = skipWs C y) : run C st x = run C st y := by
  rw [run_eq, run_eq, scanIW, scanIW, h]

theorem run_skipWs (C : Codec) (st : PState) (inp : List Char) : run C st (skipWs C inp) = run C st inp :=
  run_congr C st _ _ (skipWs_idem C inp)

/- ## `Parse`: the optional leading comment, the `(`, the loop, the `;` -/

/-- where the token that must be `(` is looked for -/
def startR (C : Codec) (p : List Char) : Option (List Char) :=
  if (scanIW C p).1 = .openbrack then
    match consumeComment C (scanIW C p).2.2 [] with
    | none => none
    | some (_, r) => some r
  else some p

/-- what `Parse` does with the result of the loop -/
def finishR (C : Codec) : Outcome (PState × List Char) → Outcome (T × List Char)
  | .err m => .err m
  | .panic m => .panic m
  | .unrep m => .unrep m
  | .ok (st, rest) =>
    if st.level != 0 then .err "mismatched parenthesis after parsing"
    else if (scanIW C rest).1 ≠ .eot then .err "found …, expected ;"
    else match st.result with
      | none => .panic "nil root in Tips()"
      | some t => .ok (trimTips t, (scanIW C rest).2.2)

/-- `Parse` from the token that must be `(` -/
def tailR (C : Codec) (inp1 : List Char) : Outcome (T × List Char) :=
  if (scanIW C inp1).1 ≠ .openpar then .err "found …, expected (" else finishR C (run C {} (skipWs C inp1))

theorem parseR_eq (C : Codec) (p : List Char) :
    parseR C p = (match startR C p with | none => .err "unmatched bracket" | some inp1 => tailR C inp1) := by
  show (match startR C p with | none => _ | some inp1 => _) = _
  cases startR C p with
  | none => rfl
  | some inp1 =>
    show (if _ then _ else _) = tailR C inp1
    unfold tailR
    split
    · rfl
    · cases run C {} (skipWs C inp1) <;> rfl

/-- forget where the parser stands -/
def dropRest : Outcome (T × List Char) → Outcome T
  | .ok (t, _) => .ok t | .err m => .err m | .panic m => .panic m | .unrep m => .unrep m

/-- `Parse` is `parseR` without the rest -/
theorem parse_eq_parseR (C : Codec) (inp : List Char) : parse C inp = dropRest (parseR C inp) := by
  unfold parse parseR dropRest
  simp only []
  split
  · rfl
  · split
    · rfl
    · split <;> try rfl
      split
      · rfl
      · split
        · rfl
        · split <;> rfl

end Gotree.Newick

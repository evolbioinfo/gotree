/-
  The split list (DESIGN §3.1) and the unrooted split map built from it (`Spec/Splits.lean`), for every
  property that reasons about trees up to rooting: `leaves`/`splits` of kid lists up to permutation,
  `distW` (permutation invariance, linearity, complementary sides), the one-step root move `moveRoot`
  on the split list, then `insertU`/`ufoldU` (order independence, fusing), canonical sides, `usplitsAll`
  and its two filters.  Core Lean only.
-/
import Gotree.Model.C05
import Gotree.Spec.Splits
import Gotree.Lemmas.C14
import Gotree.Lemmas.Core

namespace Gotree
open Gotree.C14 (distW_nil distW_cons distW_append sep_comm distW_comm)

/-! ## `distW`: permutation invariance, linearity -/

theorem distW_perm (w : EdgeD → Rat) {l₁ l₂ : List SplitE} (h : l₁.Perm l₂) (a b : String) :
    distW w l₁ a b = distW w l₂ a b := by
  induction h with
  | nil => rfl
  | cons x _ ih => rw [distW_cons, distW_cons, ih]
  | swap x y l => simp only [distW_cons]; grind
  | trans _ _ ih₁ ih₂ => exact ih₁.trans ih₂

/-- what one entry contributes depends only on which pairs it separates and on its weight -/
theorem distW_cons_congr (w : EdgeD → Rat) (s s' : SplitE) (l : List SplitE) (a b : String)
    (hs : s.sep a b = s'.sep a b) (hw : w s.e = w s'.e) :
    distW w (s :: l) a b = distW w (s' :: l) a b := by
  rw [distW_cons, distW_cons, hs, hw]

/-- linearity: two entries with the same separation count as one entry carrying the sum -/
theorem distW_fuse (w : EdgeD → Rat) (s₁ s₂ s : SplitE) (l : List SplitE) (a b : String)
    (h₁ : s₁.sep a b = s.sep a b) (h₂ : s₂.sep a b = s.sep a b) (hw : w s.e = w s₁.e + w s₂.e) :
    distW w (s₁ :: s₂ :: l) a b = distW w (s :: l) a b := by
  simp only [distW_cons, h₁, h₂, hw]
  cases s.sep a b <;> simp <;> grind

/-! ## complementary sides separate the same pairs -/

/-- `A` and `B` are complementary among the names `all` (unique): for names of `all`,
    being in `A` is the same as not being in `B`. -/
theorem mem_compl_iff {all A B : List String} (hn : all.Nodup) (hp : (A ++ B).Perm all)
    {x : String} (hx : x ∈ all) : x ∈ A ↔ x ∉ B := by
  have hnd : (A ++ B).Nodup := hp.nodup_iff.2 hn
  have hm : x ∈ A ++ B := hp.mem_iff.2 hx
  rw [List.nodup_append] at hnd
  rw [List.mem_append] at hm
  constructor
  · intro ha hb; exact hnd.2.2 x ha x hb rfl
  · intro hb; exact hm.resolve_right hb

/-- `sep_compl`: complementary sides separate the same pairs of tips (unique names). -/
theorem sep_compl {all A B : List String} (hn : all.Nodup) (hp : (A ++ B).Perm all)
    (e₁ e₂ : EdgeD) (t₁ t₂ : Bool) {a b : String} (ha : a ∈ all) (hb : b ∈ all) :
    (SplitE.mk A e₁ t₁).sep a b = (SplitE.mk B e₂ t₂).sep a b := by
  have h1 := mem_compl_iff hn hp ha
  have h2 := mem_compl_iff hn hp hb
  simp only [SplitE.sep]
  by_cases hA : a ∈ A <;> by_cases hB : b ∈ A <;> simp_all

/-! ## the one-step root move -/

theorem list_split_at {α : Type} : ∀ (l : List α) (i : Nat) (x : α), l[i]? = some x →
    l = l.take i ++ x :: l.drop (i + 1) ∧ l.eraseIdx i = l.take i ++ l.drop (i + 1)
  | [], i, x, h => by simp at h
  | a :: l, 0, x, h => by simp at h; simp [h]
  | a :: l, i + 1, x, h => by
    have := list_split_at l i x (by simpa using h)
    constructor
    · simp only [List.take_succ_cons, List.drop_succ_cons, List.cons_append]; rw [← this.1]
    · simp only [List.eraseIdx_cons_succ, List.take_succ_cons, List.drop_succ_cons, List.cons_append, this.2]

theorem C05.perm_cons_eraseIdx {α : Type} {l : List α} {i : Nat} {x : α} (h : l[i]? = some x) :
    l.Perm (x :: l.eraseIdx i) := by
  obtain ⟨h1, h2⟩ := list_split_at l i x h
  rw [h2]; conv => lhs; rw [h1]
  exact List.perm_middle

theorem insertAt_perm {α : Type} (l : List α) (i : Nat) (x : α) : (C05.insertAt l i x).Perm (x :: l) := by
  unfold C05.insertAt
  have h : (l.take i ++ x :: l.drop i).Perm (x :: (l.take i ++ l.drop i)) := List.perm_middle
  simpa [List.take_append_drop] using h

/-- the old root as it hangs below the new one after `moveRoot t i` -/
def C05.oldRoot (t : T) (i : Nat) : T := .node t.d i (t.kids.eraseIdx i)

theorem C05.moveRoot_of_get (t : T) (i : Nat) (e : EdgeD) (c : T) (h : t.kids[i]? = some (e, c)) :
    C05.moveRoot t i = .node c.d 0 (C05.insertAt c.kids c.ppos (e, C05.oldRoot t i)) := by
  obtain ⟨d, p, kids⟩ := t
  obtain ⟨dc, pc, kc⟩ := c
  simp only [T.kids_node] at h
  simp [C05.moveRoot, h, C05.oldRoot]

theorem C05.moveRoot_of_none (t : T) (i : Nat) (h : t.kids[i]? = none) : C05.moveRoot t i = t := by
  obtain ⟨d, p, kids⟩ := t
  simp only [T.kids_node] at h
  simp [C05.moveRoot, h]

/-- the split list seen from the branch to kid `i`: that branch, what hangs on the root's side,
    what hangs below the kid -/
theorem C05.splits_decomp (t : T) (i : Nat) (e : EdgeD) (c : T) (h : t.kids[i]? = some (e, c)) :
    t.splits.Perm (⟨c.leaves, e, c.isLeaf⟩ :: ((C05.oldRoot t i).splitsBelow ++ c.splitsBelow)) := by
  refine (splitsL_perm (C05.perm_cons_eraseIdx h)).trans ?_
  rw [splitsL_cons, C05.oldRoot, T.splitsBelow_node]
  exact List.Perm.cons _ List.perm_append_comm

/-- … and once the root has moved along that branch: its entry is complemented, nothing else changes -/
theorem C05.moveRoot_splits_decomp (t : T) (i : Nat) (e : EdgeD) (c : T) (h : t.kids[i]? = some (e, c)) :
    (C05.moveRoot t i).splits.Perm
      (⟨(C05.oldRoot t i).leaves, e, (C05.oldRoot t i).isLeaf⟩ :: ((C05.oldRoot t i).splitsBelow ++ c.splitsBelow)) := by
  rw [C05.moveRoot_of_get t i e c h]
  refine (splitsL_perm (insertAt_perm _ _ _)).trans ?_
  obtain ⟨dc, pc, kc⟩ := c
  rw [splitsL_cons, T.splitsBelow_node]; exact List.Perm.refl _

/-- **Effect of a root move on the split list**: the entry of branch `i` is complemented
    (the leaves below it are replaced by the leaves on the other side), its data are kept,
    nothing else changes (up to order). -/
theorem C05.moveRoot_splits_perm (t : T) (i : Nat) (e : EdgeD) (c : T) (h : t.kids[i]? = some (e, c)) :
    ∃ rest : List SplitE,
      t.splits.Perm (⟨c.leaves, e, c.isLeaf⟩ :: rest) ∧
      (C05.moveRoot t i).splits.Perm (⟨(C05.oldRoot t i).leaves, e, (C05.oldRoot t i).isLeaf⟩ :: rest) :=
  ⟨_, C05.splits_decomp t i e c h, C05.moveRoot_splits_decomp t i e c h⟩

/-- the tips of both trees are the leaves on the two sides of branch `i` -/
theorem C05.moveRoot_tipNames_split (t : T) (i : Nat) (e : EdgeD) (c : T) (h : t.kids[i]? = some (e, c)) :
    (c.leaves ++ (C05.oldRoot t i).leaves).Perm t.tipNames ∧
    (c.leaves ++ (C05.oldRoot t i).leaves).Perm (C05.moveRoot t i).tipNames := by
  have hp := C05.perm_cons_eraseIdx h
  have hl : (leavesL t.kids).Perm (c.leaves ++ leavesL (t.kids.eraseIdx i)) := by
    simpa only [leavesL_cons] using leavesL_perm hp
  have hlen : t.kids.length = (t.kids.eraseIdx i).length + 1 := by simpa using hp.length_eq
  constructor
  · unfold T.tipNames
    rw [C05.oldRoot, T.leaves_node, hlen]
    generalize t.kids.eraseIdx i = E at hl
    cases E with
    | nil => simpa [T.name, leavesL_nil] using List.perm_append_comm.trans (hl.symm.append_left [t.d.name])
    | cons a b => simpa using hl.symm
  · rw [C05.moveRoot_of_get t i e c h]
    have hl' : (leavesL (C05.insertAt c.kids c.ppos (e, C05.oldRoot t i))).Perm
        ((C05.oldRoot t i).leaves ++ leavesL c.kids) := by
      simpa only [leavesL_cons] using leavesL_perm (insertAt_perm c.kids c.ppos (e, C05.oldRoot t i))
    have hlen' : (C05.insertAt c.kids c.ppos (e, C05.oldRoot t i)).length = c.kids.length + 1 := by
      simpa using (insertAt_perm c.kids c.ppos (e, C05.oldRoot t i)).length_eq
    unfold T.tipNames
    rw [T.kids_node, hlen']
    obtain ⟨dc, pc, kc⟩ := c
    rw [T.leaves_node]
    cases kc with
    | nil => simpa [T.name, leavesL_nil] using hl'.symm.append_left [dc.name]
    | cons a b => simpa using List.perm_append_comm.trans hl'.symm
/-- a root move keeps the tips (as a multiset of names) -/
theorem C05.moveRoot_tips (t : T) (i : Nat) : (C05.moveRoot t i).tipNames.Perm t.tipNames := by
  cases h : t.kids[i]? with
  | none => rw [C05.moveRoot_of_none t i h]
  | some ec =>
    obtain ⟨e, c⟩ := ec
    obtain ⟨h1, h2⟩ := C05.moveRoot_tipNames_split t i e c h
    exact h2.symm.trans h1

/-- a one-edge root move preserves every tip-to-tip path sum, for any branch weight, on a tree
    with unique tip names (the root branch is entered with the complementary side: `sep_compl`) -/
theorem C05.moveRoot_distW (w : EdgeD → Rat) (t : T) (i : Nat) (hu : t.tipNames.Nodup) (a b : String)
    (ha : a ∈ t.tipNames) (hb : b ∈ t.tipNames) :
    distW w (C05.moveRoot t i).splits a b = distW w t.splits a b := by
  cases h : t.kids[i]? with
  | none => rw [C05.moveRoot_of_none t i h]
  | some ec =>
    obtain ⟨e, c⟩ := ec
    obtain ⟨rest, p1, p2⟩ := C05.moveRoot_splits_perm t i e c h
    obtain ⟨q1, _⟩ := C05.moveRoot_tipNames_split t i e c h
    rw [distW_perm w p1, distW_perm w p2]
    exact distW_cons_congr w _ _ rest a b
      (sep_compl hu (List.perm_append_comm.trans q1) e e _ _ ha hb) rfl

theorem C05.moveRoot_dist (t : T) (i : Nat) (hu : t.tipNames.Nodup) (a b : String)
    (ha : a ∈ t.tipNames) (hb : b ∈ t.tipNames) :
    (C05.moveRoot t i).dist a b = t.dist a b :=
  C05.moveRoot_distW EdgeD.lenOr0 t i hu a b ha hb

/-! ## the unrooted split map: fusing lengths and supports -/

def GoodL (x : Rat) : Prop := x = NIL ∨ 0 ≤ x

theorem fuseLen_comm (a b : Rat) : fuseLen a b = fuseLen b a := by
  unfold fuseLen
  by_cases ha : a = NIL <;> by_cases hb : b = NIL <;> simp [ha, hb, Rat.add_comm]

theorem fuseLen_good {a b : Rat} (ha : GoodL a) (hb : GoodL b) : GoodL (fuseLen a b) := by
  unfold fuseLen GoodL NIL at *
  by_cases h1 : a = -1 <;> by_cases h2 : b = -1 <;> simp [h1, h2] <;> grind

theorem fuseLen_assoc {a b c : Rat} (ha : GoodL a) (hb : GoodL b) (hc : GoodL c) :
    fuseLen (fuseLen a b) c = fuseLen a (fuseLen b c) := by
  unfold fuseLen GoodL NIL at *
  by_cases h1 : a = -1 <;> by_cases h2 : b = -1 <;> by_cases h3 : c = -1 <;> simp [h1, h2, h3] <;> grind

theorem fuseSup_comm (a b : Rat) : fuseSup a b = fuseSup b a := by
  unfold fuseSup; grind

theorem fuseSup_assoc (a b c : Rat) : fuseSup (fuseSup a b) c = fuseSup a (fuseSup b c) := by
  unfold fuseSup; grind

/-- the entry `x` after absorbing `s` (same side) -/
def fuseU (x s : USplit) : USplit := { x with len := fuseLen x.len s.len, sup := fuseSup x.sup s.sup }

@[simp] theorem fuseU_side (x s : USplit) : (fuseU x s).side = x.side := rfl

theorem insertU_nil (s : USplit) : insertU s [] = [s] := rfl

theorem insertU_cons_eq (s x : USplit) (r : List USplit) (h : x.side = s.side) :
    insertU s (x :: r) = fuseU x s :: r := by
  simp [insertU, h, fuseU]

theorem insertU_cons_ne (s x : USplit) (r : List USplit) (h : x.side ≠ s.side) :
    insertU s (x :: r) = x :: insertU s r := by
  simp [insertU, h]

def GoodU (l : List USplit) : Prop := ∀ x ∈ l, GoodL x.len
def SidesNodup (l : List USplit) : Prop := (l.map (·.side)).Nodup

theorem fuseU_comm (x y : USplit) (h : x.side = y.side) : fuseU x y = fuseU y x := by
  cases x; cases y; simp_all [fuseU, fuseLen_comm, fuseSup_comm]

theorem fuseU_rcomm (z x y : USplit) (gz : GoodL z.len) (gx : GoodL x.len) (gy : GoodL y.len) :
    fuseU (fuseU z x) y = fuseU (fuseU z y) x := by
  simp only [fuseU]
  congr 1
  · rw [fuseLen_assoc gz gx gy, fuseLen_assoc gz gy gx, fuseLen_comm x.len]
  · rw [fuseSup_assoc, fuseSup_assoc, fuseSup_comm x.sup]

theorem fuseU_assoc (z x y : USplit) (gz : GoodL z.len) (gx : GoodL x.len) (gy : GoodL y.len) :
    fuseU (fuseU z x) y = fuseU z (fuseU x y) := by
  simp only [fuseU]
  congr 1
  · exact fuseLen_assoc gz gx gy
  · exact fuseSup_assoc _ _ _

theorem mem_insertU_side (s : USplit) : ∀ (acc : List USplit) (a : List String),
    a ∈ (insertU s acc).map (·.side) ↔ a ∈ acc.map (·.side) ∨ a = s.side
  | [], a => by simp [insertU_nil]
  | x :: r, a => by
    by_cases h : x.side = s.side
    · rw [insertU_cons_eq s x r h]; simp [h]; grind
    · rw [insertU_cons_ne s x r h]
      have := mem_insertU_side s r a
      simp only [List.map_cons, List.mem_cons] at this ⊢
      rw [this]; grind

theorem insertU_sidesNodup (s : USplit) : ∀ (acc : List USplit), SidesNodup acc → SidesNodup (insertU s acc)
  | [], _ => by simp [insertU_nil, SidesNodup]
  | x :: r, hn => by
    unfold SidesNodup at *
    by_cases h : x.side = s.side
    · rw [insertU_cons_eq s x r h]; simpa using hn
    · rw [insertU_cons_ne s x r h]
      simp only [List.map_cons, List.nodup_cons] at hn ⊢
      refine ⟨?_, insertU_sidesNodup s r hn.2⟩
      rw [mem_insertU_side]
      exact fun h' => h'.elim hn.1 h

theorem insertU_good (s : USplit) (gs : GoodL s.len) : ∀ (acc : List USplit), GoodU acc → GoodU (insertU s acc)
  | [], _ => by simp [insertU_nil, GoodU, gs]
  | x :: r, hg => by
    by_cases h : x.side = s.side
    · rw [insertU_cons_eq s x r h]
      intro y hy
      rcases List.mem_cons.1 hy with rfl | hy
      · exact fuseLen_good (hg x (by simp)) gs
      · exact hg y (by simp [hy])
    · rw [insertU_cons_ne s x r h]
      intro y hy
      rcases List.mem_cons.1 hy with rfl | hy
      · exact hg _ (by simp)
      · exact insertU_good s gs r (fun z hz => hg z (by simp [hz])) y hy

/-- inserting into two presentations of the same accumulator -/
theorem insertU_perm (s : USplit) {a₁ a₂ : List USplit} (h : a₁.Perm a₂) (hn : SidesNodup a₁) :
    (insertU s a₁).Perm (insertU s a₂) := by
  induction h with
  | nil => exact List.Perm.refl _
  | @cons x l₁ l₂ hp ih =>
    have hn' : SidesNodup l₁ := by
      unfold SidesNodup at *; exact (List.nodup_cons.1 (by simpa using hn)).2
    by_cases hx : x.side = s.side
    · rw [insertU_cons_eq s x _ hx, insertU_cons_eq s x _ hx]; exact List.Perm.cons _ hp
    · rw [insertU_cons_ne s x _ hx, insertU_cons_ne s x _ hx]; exact List.Perm.cons _ (ih hn')
  | swap x y l =>
    unfold SidesNodup at hn
    simp only [List.map_cons, List.nodup_cons, List.mem_cons, not_or] at hn
    have hxy : y.side ≠ x.side := hn.1.1
    by_cases hx : x.side = s.side
    · have hy : y.side ≠ s.side := fun h => hxy (h.trans hx.symm)
      rw [insertU_cons_ne s y _ hy, insertU_cons_eq s x _ hx, insertU_cons_eq s x _ hx]
      exact List.Perm.swap _ _ _
    · by_cases hy : y.side = s.side
      · rw [insertU_cons_eq s y _ hy, insertU_cons_ne s x _ hx, insertU_cons_eq s y _ hy]
        exact List.Perm.swap _ _ _
      · rw [insertU_cons_ne s y _ hy, insertU_cons_ne s x _ hx, insertU_cons_ne s x _ hx, insertU_cons_ne s y _ hy]
        exact List.Perm.swap _ _ _
  | @trans l₁ l₂ l₃ h₁ _ ih₁ ih₂ =>
    have hn2 : SidesNodup l₂ := by
      unfold SidesNodup at *; exact ((h₁.map _).nodup_iff).1 hn
    exact (ih₁ hn).trans (ih₂ hn2)

/-- the order of two insertions does not matter -/
theorem insertU_comm (x y : USplit) (gx : GoodL x.len) (gy : GoodL y.len) :
    ∀ (acc : List USplit), GoodU acc → (insertU y (insertU x acc)).Perm (insertU x (insertU y acc))
  | [], _ => by
    by_cases h : x.side = y.side
    · rw [insertU_nil, insertU_nil, insertU_cons_eq y x [] h, insertU_cons_eq x y [] h.symm, fuseU_comm x y h]
    · rw [insertU_nil, insertU_nil, insertU_cons_ne y x [] h, insertU_cons_ne x y [] (Ne.symm h), insertU_nil, insertU_nil]
      exact List.Perm.swap _ _ _
  | z :: r, hg => by
    have gz : GoodL z.len := hg z (by simp)
    have gr : GoodU r := fun w hw => hg w (by simp [hw])
    by_cases hx : z.side = x.side <;> by_cases hy : z.side = y.side
    · rw [insertU_cons_eq x z r hx, insertU_cons_eq y z r hy,
        insertU_cons_eq y (fuseU z x) r (by simpa using hy), insertU_cons_eq x (fuseU z y) r (by simpa using hx),
        fuseU_rcomm z x y gz gx gy]
    · rw [insertU_cons_eq x z r hx, insertU_cons_ne y z r hy,
        insertU_cons_ne y (fuseU z x) r (by simpa using hy), insertU_cons_eq x z _ hx]
    · rw [insertU_cons_ne x z r hx, insertU_cons_eq y z r hy,
        insertU_cons_eq y z _ hy, insertU_cons_ne x (fuseU z y) r (by simpa using hx)]
    · rw [insertU_cons_ne x z r hx, insertU_cons_ne y z r hy, insertU_cons_ne y z _ hy, insertU_cons_ne x z _ hx]
      exact List.Perm.cons _ (insertU_comm x y gx gy r gr)

/-- two entries with the same side count as one fused entry -/
theorem insertU_fuse (x y : USplit) (h : x.side = y.side) (gx : GoodL x.len) (gy : GoodL y.len) :
    ∀ (acc : List USplit), GoodU acc → insertU y (insertU x acc) = insertU (fuseU x y) acc
  | [], _ => by rw [insertU_nil, insertU_cons_eq y x [] h, insertU_nil]
  | z :: r, hg => by
    have gz : GoodL z.len := hg z (by simp)
    have gr : GoodU r := fun w hw => hg w (by simp [hw])
    by_cases hx : z.side = x.side
    · rw [insertU_cons_eq x z r hx, insertU_cons_eq y (fuseU z x) r (by simpa using hx.trans h),
        insertU_cons_eq (fuseU x y) z r (by simpa using hx), fuseU_assoc z x y gz gx gy]
    · rw [insertU_cons_ne x z r hx, insertU_cons_ne y z _ (fun h' => hx (h'.trans h.symm)),
        insertU_cons_ne (fuseU x y) z r (by simpa using hx), insertU_fuse x y h gx gy r gr]

/-- the fold that builds the unrooted split map -/
def ufoldU (l acc : List USplit) : List USplit := l.foldl (fun acc s => insertU s acc) acc

theorem ufoldU_nil (acc : List USplit) : ufoldU [] acc = acc := rfl
theorem ufoldU_cons (s : USplit) (l acc : List USplit) : ufoldU (s :: l) acc = ufoldU l (insertU s acc) := rfl

theorem ufoldU_perm_acc : ∀ (l : List USplit) {a₁ a₂ : List USplit}, a₁.Perm a₂ → SidesNodup a₁ →
    (ufoldU l a₁).Perm (ufoldU l a₂)
  | [], _, _, h, _ => h
  | s :: l, _, _, h, hn => ufoldU_perm_acc l (insertU_perm s h hn) (insertU_sidesNodup s _ hn)

/-- **permutation invariance of the unrooted split map** -/
theorem ufoldU_perm {l₁ l₂ : List USplit} (h : l₁.Perm l₂) (hg : GoodU l₁) :
    ∀ (acc : List USplit), SidesNodup acc → GoodU acc → (ufoldU l₁ acc).Perm (ufoldU l₂ acc) := by
  induction h with
  | nil => intro acc _ _; exact List.Perm.refl _
  | cons x _ ih =>
    intro acc hn ha
    have gx : GoodL x.len := hg x (by simp)
    exact ih (fun w hw => hg w (by simp [hw])) _ (insertU_sidesNodup x acc hn) (insertU_good x gx acc ha)
  | swap x y l =>
    intro acc hn ha
    have gx : GoodL x.len := hg x (by simp)
    have gy : GoodL y.len := hg y (by simp)
    simp only [ufoldU_cons]
    exact ufoldU_perm_acc l (insertU_comm y x gy gx acc ha)
      (insertU_sidesNodup x _ (insertU_sidesNodup y _ hn))
  | trans h₁ _ ih₁ ih₂ =>
    intro acc hn ha
    exact (ih₁ hg acc hn ha).trans (ih₂ (fun w hw => hg w (h₁.mem_iff.2 hw)) acc hn ha)

theorem ufoldU_fuse (x y : USplit) (l acc : List USplit) (h : x.side = y.side)
    (gx : GoodL x.len) (gy : GoodL y.len) (ha : GoodU acc) :
    ufoldU (x :: y :: l) acc = ufoldU (fuseU x y :: l) acc := by
  simp only [ufoldU_cons, insertU_fuse x y h gx gy acc ha]

/-! ## sorting, least name, canonical sides -/

theorem sortS_eq_sortNames (l : List String) : sortS l = C14.sortNames l := rfl

theorem sortS_perm (l : List String) : (sortS l).Perm l := C14.sortNames_perm l

theorem mem_sortS {a : String} {l : List String} : a ∈ sortS l ↔ a ∈ l := C14.mem_sortNames

theorem sortS_congr {l₁ l₂ : List String} (h : l₁.Perm l₂) : sortS l₁ = sortS l₂ :=
  C14.sortNames_eq_of_perm h

theorem contains_congr {l₁ l₂ : List String} (h : l₁.Perm l₂) (x : String) : l₁.contains x = l₂.contains x := by
  rw [Bool.eq_iff_iff]; simp [h.mem_iff]

/-! ### least name -/

theorem str_le_of_lt {a b : String} (h : a < b) : a ≤ b := by
  rcases String.le_total a b with h' | h'
  · exact h'
  · exact absurd h (String.not_lt.2 h')

theorem foldl_min_spec : ∀ (r : List String) (a : String),
    (r.foldl (fun m x => if x < m then x else m) a) ∈ a :: r ∧
    ∀ x ∈ a :: r, (r.foldl (fun m x => if x < m then x else m) a) ≤ x
  | [], a => by simp
  | b :: r, a => by
    simp only [List.foldl_cons]
    by_cases h : b < a
    · simp only [h, if_true]
      obtain ⟨h1, h2⟩ := foldl_min_spec r b
      refine ⟨by simp only [List.mem_cons] at h1 ⊢; grind, ?_⟩
      intro x hx
      simp only [List.mem_cons] at hx
      rcases hx with rfl | rfl | hx
      · exact String.le_trans (h2 b (by simp)) (str_le_of_lt h)
      · exact h2 _ (by simp)
      · exact h2 x (by simp [hx])
    · simp only [h, if_false]
      obtain ⟨h1, h2⟩ := foldl_min_spec r a
      refine ⟨by simp only [List.mem_cons] at h1 ⊢; grind, ?_⟩
      intro x hx
      simp only [List.mem_cons] at hx
      rcases hx with rfl | rfl | hx
      · exact h2 _ (by simp)
      · exact String.le_trans (h2 a (by simp)) (String.not_lt.1 h)
      · exact h2 x (by simp [hx])

theorem minS_spec {l : List String} {m : String} (h : minS l = some m) : m ∈ l ∧ ∀ x ∈ l, m ≤ x := by
  cases l with
  | nil => simp [minS] at h
  | cons a r =>
    simp only [minS, Option.some.injEq] at h
    subst h
    exact foldl_min_spec r a

theorem minS_eq_none {l : List String} : minS l = none ↔ l = [] := by
  cases l <;> simp [minS]

theorem minS_congr {l₁ l₂ : List String} (h : l₁.Perm l₂) : minS l₁ = minS l₂ := by
  cases h1 : minS l₁ with
  | none =>
    have : l₂ = [] := by have := minS_eq_none.1 h1; subst this; exact h.symm.eq_nil
    rw [this]; rfl
  | some m₁ =>
    cases h2 : minS l₂ with
    | none =>
      have : l₁ = [] := by have := minS_eq_none.1 h2; subst this; exact h.eq_nil
      rw [this] at h1; simp [minS] at h1
    | some m₂ =>
      obtain ⟨a1, b1⟩ := minS_spec h1
      obtain ⟨a2, b2⟩ := minS_spec h2
      congr 1
      exact String.le_antisymm (b1 m₂ (h.mem_iff.2 a2)) (b2 m₁ (h.mem_iff.1 a1))

/-! ### canonical sides -/

theorem complS_congr {all₁ all₂ : List String} (h : all₁.Perm all₂) (s : List String) :
    (complS all₁ s).Perm (complS all₂ s) := h.filter _

/-- the canonical side does not depend on the order in which the taxa are listed -/
theorem canonSide_perm_all {all₁ all₂ : List String} (h : all₁.Perm all₂) (side : List String) :
    canonSide all₁ side = canonSide all₂ side := by
  unfold canonSide
  have hf : side.filter all₁.contains = side.filter all₂.contains := by
    apply List.filter_congr; intro x _; exact contains_congr h x
  rw [hf, minS_congr h]
  cases minS all₂ with
  | none => rfl
  | some m => simp only [sortS_congr (complS_congr h _)]

/-- … nor on the order in which the side is listed -/
theorem canonSide_perm_side (all : List String) {s₁ s₂ : List String} (h : s₁.Perm s₂) :
    canonSide all s₁ = canonSide all s₂ := by
  unfold canonSide
  rw [sortS_congr (h.filter _)]

/-- complementary sides, the least taxon being on the first: the second side is the canonical one -/
theorem canonSide_compl_of_mem {all A B : List String} {m : String} (hn : all.Nodup) (hp : (A ++ B).Perm all)
    (hm : minS all = some m) (hmA : m ∈ A) : canonSide all A = sortS B ∧ canonSide all B = sortS B := by
  have hnd : (A ++ B).Nodup := hp.nodup_iff.2 hn
  have hdisj : ∀ x, x ∈ A → x ∈ B → False := fun x ha hb => (List.nodup_append.1 hnd).2.2 x ha x hb rfl
  have fA : A.filter all.contains = A :=
    List.filter_eq_self.2 (fun x hx => by simpa using hp.mem_iff.1 (List.mem_append_left _ hx))
  have fB : B.filter all.contains = B :=
    List.filter_eq_self.2 (fun x hx => by simpa using hp.mem_iff.1 (List.mem_append_right _ hx))
  -- the complement of the first side, computed from `all`, is the second
  have cA : (complS all (sortS A)).Perm B := by
    apply (List.perm_ext_iff_of_nodup (hn.filter _) (List.nodup_append.1 hnd).2.1).2
    intro x
    simp only [List.mem_filter, Bool.not_eq_true', List.contains_eq_mem, decide_eq_false_iff_not, mem_sortS,
      ← hp.mem_iff, List.mem_append]
    exact ⟨fun h => h.1.resolve_left h.2, fun h => ⟨Or.inr h, fun h' => hdisj x h' h⟩⟩
  have h1 : (sortS A).contains m = true := by simpa [mem_sortS] using hmA
  have h2 : (sortS B).contains m = false := by
    simp only [List.contains_eq_mem, decide_eq_false_iff_not, mem_sortS]; exact fun h' => hdisj m hmA h'
  unfold canonSide
  simp only [fA, fB, hm, h1, h2, if_true, Bool.false_eq_true, if_false, sortS_congr cA, and_self]

/-- complementary sides have the same canonical presentation -/
theorem canonSide_compl {all A B : List String} (hn : all.Nodup) (hp : (A ++ B).Perm all) :
    canonSide all A = canonSide all B := by
  cases hm : minS all with
  | none =>
    have := minS_eq_none.1 hm
    subst this
    have := hp.eq_nil
    simp only [List.append_eq_nil_iff] at this
    rw [this.1, this.2]
  | some m =>
    rcases List.mem_append.1 (hp.mem_iff.2 (minS_spec hm).1) with h | h
    · obtain ⟨h1, h2⟩ := canonSide_compl_of_mem hn hp hm h
      rw [h1, h2]
    · obtain ⟨h1, h2⟩ := canonSide_compl_of_mem hn (List.perm_append_comm.trans hp) hm h
      rw [h1, h2]

/-- a canonical side consists of taxa -/
theorem C05.canonSide_subset (all side : List String) : ∀ x ∈ canonSide all side, x ∈ all := by
  intro x hx
  unfold canonSide at hx
  have hs : ∀ y ∈ sortS (side.filter all.contains), y ∈ all := by
    intro y hy
    have := (List.mem_filter.1 ((sortS_perm _).mem_iff.1 hy)).2
    simpa using this
  cases hm : minS all with
  | none => rw [hm] at hx; exact hs x hx
  | some m =>
    rw [hm] at hx
    simp only at hx
    split at hx
    · exact (List.mem_filter.1 ((sortS_perm _).mem_iff.1 hx)).1
    · exact hs x hx

theorem lightSize_perm_all {all₁ all₂ : List String} (h : all₁.Perm all₂) (side : List String) :
    lightSize all₁ side = lightSize all₂ side := by
  unfold lightSize
  have hf : side.filter all₁.contains = side.filter all₂.contains := by
    apply List.filter_congr; intro x _; exact contains_congr h x
  rw [hf, h.length_eq]

/-! ## `usplitsAll` of a tree -/

/-- one branch as an unrooted split over the taxa `all` -/
def toU (all : List String) (s : SplitE) : USplit := ⟨canonSide all s.below, s.e.len, s.e.sup⟩

/-- the order `usplitsAll` sorts by -/
def uLe (a b : USplit) : Bool := decide (toString a.side ≤ toString b.side)

theorem T.usplitsAll_eq (t : T) :
    t.usplitsAll = (ufoldU (t.splits.map (toU t.tipNames)) []).mergeSort uLe := by
  unfold T.usplitsAll ufoldU
  simp only [List.foldl_map]
  rfl

/-- every length of the split list is absent or non-negative -/
def LensGood (l : List SplitE) : Prop := ∀ s ∈ l, GoodL s.e.len

theorem LensGood.goodU {l : List SplitE} (h : LensGood l) (all : List String) : GoodU (l.map (toU all)) := by
  intro x hx
  obtain ⟨s, hs, rfl⟩ := List.mem_map.1 hx
  exact h s hs

theorem GoodU.of_perm {l₁ l₂ : List USplit} (h : l₁.Perm l₂) (hg : GoodU l₂) : GoodU l₁ :=
  fun x hx => hg x (h.mem_iff.1 hx)

theorem toU_perm_all {all₁ all₂ : List String} (h : all₁.Perm all₂) : toU all₁ = toU all₂ := by
  funext s; simp [toU, canonSide_perm_all h]

theorem C05.ufoldU_sides (a : List String) : ∀ (l acc : List USplit),
    a ∈ (ufoldU l acc).map (·.side) ↔ a ∈ acc.map (·.side) ∨ a ∈ l.map (·.side)
  | [], acc => by simp [ufoldU_nil]
  | s :: l, acc => by
    rw [ufoldU_cons, C05.ufoldU_sides a l, mem_insertU_side]
    simp only [List.map_cons, List.mem_cons, or_assoc]

/-- the sides of `usplitsAll` are the canonical sides of the branches -/
theorem C05.mem_usplitsAll_sides (t : T) (a : List String) :
    a ∈ t.usplitsAll.map (·.side) ↔ ∃ s ∈ t.splits, canonSide t.tipNames s.below = a := by
  rw [T.usplitsAll_eq, ((List.mergeSort_perm _ uLe).map (·.side)).mem_iff, C05.ufoldU_sides]
  simp [toU]

theorem C05.ufoldU_sidesNodup : ∀ (l acc : List USplit), SidesNodup acc → SidesNodup (ufoldU l acc)
  | [], _, h => h
  | z :: l, acc, h => by rw [ufoldU_cons]; exact C05.ufoldU_sidesNodup l _ (insertU_sidesNodup z acc h)

/-- … each of them once -/
theorem C05.usplitsAll_sidesNodup (t : T) : (t.usplitsAll.map (·.side)).Nodup := by
  rw [T.usplitsAll_eq]
  exact ((List.mergeSort_perm _ uLe).map _).nodup_iff.2
    (C05.ufoldU_sidesNodup (t.splits.map (toU t.tipNames)) [] List.nodup_nil)

/-- Two trees on the same taxa whose branch lists, read as unrooted splits, build the same
    map (up to order) have the same `usplitsAll` up to order.  Clients get the hypothesis
    from `ufoldU_perm` (reordering, complementing entries: `canonSide_compl`) and
    `ufoldU_fuse` (two branches fused into one). -/
theorem usplitsAll_perm_of_ufold {t u : T} (hall : u.tipNames.Perm t.tipNames)
    (h : (ufoldU (u.splits.map (toU t.tipNames)) []).Perm (ufoldU (t.splits.map (toU t.tipNames)) [])) :
    u.usplitsAll.Perm t.usplitsAll := by
  rw [T.usplitsAll_eq, T.usplitsAll_eq, toU_perm_all hall]
  exact (List.mergeSort_perm _ _).trans (h.trans (List.mergeSort_perm _ _).symm)

theorem usplitsAll_perm_of {t u : T} (hall : u.tipNames.Perm t.tipNames)
    (hs : (u.splits.map (toU t.tipNames)).Perm (t.splits.map (toU t.tipNames)))
    (hg : LensGood t.splits) : u.usplitsAll.Perm t.usplitsAll :=
  usplitsAll_perm_of_ufold hall
    (ufoldU_perm hs (GoodU.of_perm hs (hg.goodU _)) [] (by simp [SidesNodup]) (by intro x hx; cases hx))

theorem usplits_perm_of {t u : T} (hall : u.tipNames.Perm t.tipNames) (h : u.usplitsAll.Perm t.usplitsAll) :
    u.usplits.Perm t.usplits := by
  unfold T.usplits
  have : (fun s : USplit => decide (2 ≤ lightSize u.tipNames s.side)) =
      (fun s : USplit => decide (2 ≤ lightSize t.tipNames s.side)) := by
    funext s; rw [lightSize_perm_all hall]
  rw [this]; exact h.filter _

theorem tipLens_perm_of {t u : T} (hall : u.tipNames.Perm t.tipNames) (h : u.usplitsAll.Perm t.usplitsAll) :
    u.tipLens.Perm t.tipLens := by
  unfold T.tipLens
  have : (fun s : USplit => decide (lightSize u.tipNames s.side ≤ 1)) =
      (fun s : USplit => decide (lightSize t.tipNames s.side ≤ 1)) := by
    funext s; rw [lightSize_perm_all hall]
  rw [this]; exact (h.filter _).map _

/-- a one-edge root move keeps the unrooted split map — every split with its length and support —
    on a tree with unique tip names and lengths that are absent or non-negative (the root branch is
    entered with the complementary side: `canonSide_compl`) -/
theorem C05.moveRoot_usplitsAll (t : T) (i : Nat) (hu : t.tipNames.Nodup) (hg : LensGood t.splits) :
    (C05.moveRoot t i).usplitsAll.Perm t.usplitsAll := by
  cases h : t.kids[i]? with
  | none => rw [C05.moveRoot_of_none t i h]
  | some ec =>
    obtain ⟨e, c⟩ := ec
    obtain ⟨rest, p1, p2⟩ := C05.moveRoot_splits_perm t i e c h
    obtain ⟨q1, _⟩ := C05.moveRoot_tipNames_split t i e c h
    refine usplitsAll_perm_of (C05.moveRoot_tips t i) ?_ hg
    refine (p2.map _).trans (List.Perm.trans ?_ (p1.map _).symm)
    simp only [List.map_cons]
    have : toU t.tipNames ⟨(C05.oldRoot t i).leaves, e, (C05.oldRoot t i).isLeaf⟩ =
        toU t.tipNames ⟨c.leaves, e, c.isLeaf⟩ := by
      simp only [toU]
      rw [canonSide_compl hu (List.perm_append_comm.trans q1)]
    rw [this]

theorem C05.moveRoot_usplits (t : T) (i : Nat) (hu : t.tipNames.Nodup) (hg : LensGood t.splits) :
    (C05.moveRoot t i).usplits.Perm t.usplits :=
  usplits_perm_of (C05.moveRoot_tips t i) (C05.moveRoot_usplitsAll t i hu hg)

theorem C05.moveRoot_tipLens (t : T) (i : Nat) (hu : t.tipNames.Nodup) (hg : LensGood t.splits) :
    (C05.moveRoot t i).tipLens.Perm t.tipLens :=
  tipLens_perm_of (C05.moveRoot_tips t i) (C05.moveRoot_usplitsAll t i hu hg)

/-! ## filtering by side, forgetting supports -/

theorem insertU_filter (p : USplit → Bool) (hp : ∀ x y : USplit, x.side = y.side → p x = p y) (s : USplit) :
    ∀ (acc : List USplit), (insertU s acc).filter p = if p s then insertU s (acc.filter p) else acc.filter p
  | [] => by by_cases h : p s <;> simp [insertU_nil, h]
  | x :: r => by
    by_cases hx : x.side = s.side
    · have h1 : p (fuseU x s) = p s := hp _ _ (by simpa using hx)
      have h2 : p x = p s := hp _ _ hx
      rw [insertU_cons_eq s x r hx]
      by_cases h : p s
      · simp only [List.filter_cons, h1, h2, h, if_true]
        rw [insertU_cons_eq s x _ hx]
      · simp [h1, h2, h]
    · rw [insertU_cons_ne s x r hx]
      have ih := insertU_filter p hp s r
      by_cases hpx : p x
      · simp only [List.filter_cons, hpx, if_true, ih]
        by_cases h : p s
        · simp only [h, if_true]; rw [insertU_cons_ne s x _ hx]
        · simp [h]
      · simp only [List.filter_cons, hpx, Bool.false_eq_true, if_false, ih]

theorem ufoldU_filter (p : USplit → Bool) (hp : ∀ x y : USplit, x.side = y.side → p x = p y) :
    ∀ (l acc : List USplit), (ufoldU l acc).filter p = ufoldU (l.filter p) (acc.filter p)
  | [], acc => rfl
  | s :: l, acc => by
    rw [ufoldU_cons, ufoldU_filter p hp l, insertU_filter p hp s acc]
    by_cases h : p s <;> simp [h, ufoldU_cons]

/-- the entry without its support -/
def forgetSup (x : USplit) : USplit := { x with sup := NIL }

@[simp] theorem forgetSup_side (x : USplit) : (forgetSup x).side = x.side := rfl
@[simp] theorem forgetSup_len (x : USplit) : (forgetSup x).len = x.len := rfl

theorem forgetSup_fuseU (x s : USplit) : forgetSup (fuseU x s) = fuseU (forgetSup x) (forgetSup s) := by
  simp [forgetSup, fuseU, fuseSup]

theorem insertU_forget (s : USplit) : ∀ (acc : List USplit),
    (insertU s acc).map forgetSup = insertU (forgetSup s) (acc.map forgetSup)
  | [] => rfl
  | x :: r => by
    by_cases hx : x.side = s.side
    · rw [insertU_cons_eq s x r hx, List.map_cons, List.map_cons,
        insertU_cons_eq (forgetSup s) (forgetSup x) _ (by simpa using hx), forgetSup_fuseU]
    · rw [insertU_cons_ne s x r hx, List.map_cons, List.map_cons,
        insertU_cons_ne (forgetSup s) (forgetSup x) _ (by simpa using hx), insertU_forget s r]

theorem ufoldU_forget : ∀ (l acc : List USplit),
    (ufoldU l acc).map forgetSup = ufoldU (l.map forgetSup) (acc.map forgetSup)
  | [], _ => rfl
  | s :: l, acc => by rw [ufoldU_cons, ufoldU_forget l, insertU_forget, List.map_cons, ufoldU_cons]

/-- predicates of `T.usplits` / `T.tipLens` -/
def nontrivU (all : List String) (s : USplit) : Bool := decide (2 ≤ lightSize all s.side)
def trivU (all : List String) (s : USplit) : Bool := decide (lightSize all s.side ≤ 1)

theorem nontrivU_side (all : List String) (x y : USplit) (h : x.side = y.side) : nontrivU all x = nontrivU all y := by
  simp [nontrivU, h]
theorem trivU_side (all : List String) (x y : USplit) (h : x.side = y.side) : trivU all x = trivU all y := by
  simp [trivU, h]
theorem trivU_eq_not (all : List String) (x : USplit) : trivU all x = !nontrivU all x := by
  simp only [trivU, nontrivU]
  by_cases h : 2 ≤ lightSize all x.side <;> simp [h] <;> omega

/-- the non-trivial splits of a tree depend only on the non-trivial entries of its branch list -/
theorem T.usplits_perm_ufold (t : T) :
    t.usplits.Perm (ufoldU ((t.splits.map (toU t.tipNames)).filter (nontrivU t.tipNames)) []) := by
  unfold T.usplits
  rw [T.usplitsAll_eq]
  have := ufoldU_filter (nontrivU t.tipNames) (nontrivU_side _) (t.splits.map (toU t.tipNames)) []
  simp only [List.filter_nil] at this
  rw [← this]
  exact (List.mergeSort_perm _ _).filter _

theorem map_forget_pair (l : List USplit) :
    (l.map forgetSup).map (fun s => (s.side, s.len)) = l.map (fun s => (s.side, s.len)) := by
  simp [List.map_map, Function.comp_def]

/-- the tip branch lengths depend only on the trivial entries, supports forgotten -/
theorem T.tipLens_perm_ufold (t : T) :
    t.tipLens.Perm ((ufoldU (((t.splits.map (toU t.tipNames)).filter (trivU t.tipNames)).map forgetSup) []).map
      (fun s => (s.side, s.len))) := by
  unfold T.tipLens
  rw [T.usplitsAll_eq]
  have h1 := ufoldU_filter (trivU t.tipNames) (trivU_side _) (t.splits.map (toU t.tipNames)) []
  have h2 := ufoldU_forget ((t.splits.map (toU t.tipNames)).filter (trivU t.tipNames)) []
  simp only [List.filter_nil, List.map_nil] at h1 h2
  rw [← h2, map_forget_pair, ← h1]
  exact ((List.mergeSort_perm _ _).filter _).map _

/-- Two trees on the same taxa have the same `usplits` and `tipLens` as soon as the folds over
    their non-trivial entries, and over their trivial entries without supports, agree. -/
theorem usplits_tipLens_of_ufold {t u : T} (hall : u.tipNames.Perm t.tipNames)
    (h1 : (ufoldU ((u.splits.map (toU t.tipNames)).filter (nontrivU t.tipNames)) []).Perm
          (ufoldU ((t.splits.map (toU t.tipNames)).filter (nontrivU t.tipNames)) []))
    (h2 : (ufoldU (((u.splits.map (toU t.tipNames)).filter (trivU t.tipNames)).map forgetSup) []).Perm
          (ufoldU (((t.splits.map (toU t.tipNames)).filter (trivU t.tipNames)).map forgetSup) [])) :
    u.usplits.Perm t.usplits ∧ u.tipLens.Perm t.tipLens := by
  have e1 : nontrivU u.tipNames = nontrivU t.tipNames := by
    funext s; simp [nontrivU, lightSize_perm_all hall]
  have e2 : trivU u.tipNames = trivU t.tipNames := by
    funext s; simp [trivU, lightSize_perm_all hall]
  constructor
  · refine (T.usplits_perm_ufold u).trans (List.Perm.trans ?_ (T.usplits_perm_ufold t).symm)
    rw [toU_perm_all hall, e1]; exact h1
  · refine (T.tipLens_perm_ufold u).trans (List.Perm.trans ?_ (T.tipLens_perm_ufold t).symm)
    rw [toU_perm_all hall, e2]; exact h2.map _

end Gotree

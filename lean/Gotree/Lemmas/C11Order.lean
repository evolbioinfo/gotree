/-
  C11 — the ORDER in which the results are delivered.  The input channel is a queue: the items that have left
  it form a prefix of the stream, and a worker holds at most one of them.  With one worker the stream is
  delivered in its order (`OrdInv`); with `w` workers the item at position `k` is never delivered before
  `k - w + 1` others (`Win`).  Core Lean only.
-/
import Gotree.Lemmas.C11

namespace Gotree.C11

variable {α β : Type} {Sh : Shape} {f : α → β} {stops : α → Bool} {inp0 : List α} {s s' : PState α β} {i c : Nat}

theorem Phase.gone_items (b : Bool) : (Phase.gone b : Phase α β).items = [] := by cases b <;> rfl

/-! ## One worker: the items are delivered in the order of the stream -/

/-- with a single worker and no early exit the stream is an ordered concatenation:
    delivered (oldest first) ++ held by the worker ++ in the channel ++ not yet sent -/
def OrdInv (inp0 : List α) (s : PState α β) : Prop :=
  ∃ p, s.workers = [p] ∧ s.done.reverse ++ p.items ++ s.inp ++ s.pending = inp0

theorem ordInv_init (cap : Nat) (inp : List α) : OrdInv inp (init 1 cap inp : PState α β) :=
  ⟨.idle, rfl, rfl⟩

theorem OrdInv.step (hE : Sh.early = []) (h : OrdInv inp0 s) (hs : Fires Sh f stops s i c s') : OrdInv inp0 s' := by
  obtain ⟨p, hws, hord⟩ := h
  -- a worker that moves is the only one there is
  have one : ∀ {q}, s.workers[i]? = some q → i = 0 ∧ p = q := fun hw => by
    rw [hws] at hw
    cases i with
    | zero => exact ⟨rfl, by simpa using hw⟩
    | succ => simp at hw
  cases hs with
  | recv hw hi =>
    obtain ⟨rfl, rfl⟩ := one hw
    exact ⟨_, by rw [hws]; rfl, by simpa [hi, Phase.items] using hord⟩
  | rendezvous hw hi _ _ hpd =>
    obtain ⟨rfl, rfl⟩ := one hw
    exact ⟨_, by rw [hws]; rfl, by simpa [hi, hpd, Phase.items] using hord⟩
  | rangeEnd hw =>
    obtain ⟨rfl, rfl⟩ := one hw
    exact ⟨_, by rw [hws]; rfl, by rw [Phase.gone_items]; simpa [Phase.items] using hord⟩
  | early _ _ he => rw [hE] at he; cases he
  | compute hw | send hw | done hw =>
    obtain ⟨rfl, rfl⟩ := one hw
    exact ⟨_, by rw [hws]; rfl, by simpa [Phase.items] using hord⟩
  | produce _ _ hpd => exact ⟨p, hws, by simpa [hpd] using hord⟩
  | sendClosed | close | prodEnd => exact ⟨p, hws, hord⟩

theorem reachable_ordInv {F : PoolFacts} (hE : F.earlyExits = []) {cap : Nat} {inp : List α}
    (h : Reachable F f stops (init 1 cap inp) s) : OrdInv inp s :=
  h.induction (ordInv_init _ _) fun _ hO hf => hO.step (by simp [PoolFacts.shape, hE]) hf

/-! ## `w` workers: the arrival window -/

def Phase.nheld : Phase α β → Nat
  | .holding _ => 1 | .computed _ _ => 1 | _ => 0

theorem Phase.gone_nheld (b : Bool) : (Phase.gone b : Phase α β).nheld = 0 := by cases b <;> rfl

section
open Classical

/-- what has left the input channel is a prefix `T` of the stream, as long as what is delivered, held or
    dropped; hence the window: the item at position `k`, delivered as the `j`-th, has `k < j + w` (+ the
    number of items dropped on an early exit) -/
structure Win (w : Nat) (inp0 : List α) (s : PState α β) : Prop where
  suf : ∃ T, inp0 = T ++ (s.inp ++ s.pending) ∧
        T.length = s.done.length + sumMap Phase.nheld s.workers + s.dropped.length
  win : ∀ j x k, s.done.reverse[j]? = some x → inp0[k]? = some x → k < j + w + s.dropped.length

theorem win_init (w cap : Nat) (inp : List α) : Win w inp (init w cap inp : PState α β) :=
  ⟨⟨[], rfl, by simp [init, sumMap_replicate, Phase.nheld]⟩, fun j x k h => by simp [init] at h⟩

/-- position of a delivered item: it has left the channel, so it lies in the prefix -/
theorem pos_in_prefix {T rest : List α} (h : inp0 = T ++ rest) {x : α} {k : Nat}
    (hk : inp0[k]? = some x) (hx : x ∉ rest) : k < T.length :=
  Classical.byContradiction fun hlt => by
    rw [h, List.getElem?_append_right (Nat.le_of_not_lt hlt)] at hk
    exact hx (List.mem_of_getElem? hk)

theorem Win.step {w c0 : Nat} (hn : inp0.Nodup) (hI : Inv Sh stops w c0 inp0 s) (h : Win w inp0 s)
    (hs : Fires Sh f stops s i c s') : Win w inp0 s' := by
  obtain ⟨⟨T, hT, hTl⟩, hwin⟩ := h
  have held := fun {p} q (hw : s.workers[i]? = some p) => sumMap_set Phase.nheld q hw
  cases hs with
  | recv hw hi =>
    rename_i x r
    refine ⟨⟨T ++ [x], by simp [hT, hi], ?_⟩, hwin⟩
    have := held (.holding x) hw
    simp only [Phase.nheld, List.length_append, List.length_cons, List.length_nil] at this ⊢; omega
  | rendezvous hw hi _ _ hpd =>
    rename_i x r _ _
    refine ⟨⟨T ++ [x], by simp [hT, hi, hpd], ?_⟩, hwin⟩
    have := held (.holding x) hw
    simp only [Phase.nheld, List.length_append, List.length_cons, List.length_nil] at this ⊢; omega
  | rangeEnd hw => exact ⟨⟨T, hT, by rw [sumMap_set_eq _ _ hw (Phase.gone_nheld _)]; exact hTl⟩, hwin⟩
  | early hw =>
    rename_i x e _ _
    refine ⟨⟨T, hT, ?_⟩, fun j y k hj hk => Nat.lt_succ_of_lt (hwin j y k hj hk)⟩
    have := held (.gone e) hw
    rw [Phase.gone_nheld] at this
    simp only [Phase.nheld, List.length_cons] at this ⊢; omega
  | compute hw | done hw => exact ⟨⟨T, hT, by rw [sumMap_set_eq _ _ hw (by rfl)]; exact hTl⟩, hwin⟩
  | send hw =>
    rename_i x y _
    have h2 := held .idle hw
    simp only [Phase.nheld] at h2
    refine ⟨⟨T, hT, by simp only [List.length_cons]; omega⟩, fun j z k hj hk => ?_⟩
    simp only [List.reverse_cons, List.getElem?_append] at hj
    split at hj
    · exact hwin j z k hj hk
    · -- the item just delivered was held by a worker, hence had left the channel: it lies in `T`
      next hjl =>
      simp only [List.length_reverse] at hj hjl
      have hj0 : j = s.done.length := by
        cases hd : j - s.done.length with
        | zero => omega
        | succ n => rw [hd] at hj; simp at hj
      obtain rfl : x = z := by simpa [hj0] using hj
      have hone : inp0.count x ≤ 1 := List.nodup_iff_count.mp hn x
      have hheld : 1 ≤ sumMap (Phase.cnt x) s.workers := by
        simpa [Phase.cnt, Phase.items] using le_sumMap_of_getElem? (Phase.cnt x) hw
      have hnot : x ∉ s.inp ++ s.pending := fun hm => by
        have := hI.cons x
        have : 0 < (s.inp ++ s.pending).count x := List.count_pos_iff.mpr hm
        simp only [List.count_append] at this; omega
      have hk' := pos_in_prefix hT hk hnot
      have := sumMap_le_length (g := Phase.nheld) (fun p => by cases p <;> simp [Phase.nheld]) s.workers
      have := hI.len
      show k < j + w + s.dropped.length
      omega
  | produce _ _ hpd => exact ⟨⟨T, by simp [hT, hpd], hTl⟩, hwin⟩
  | sendClosed | close | prodEnd => exact ⟨⟨T, hT, hTl⟩, hwin⟩

theorem reachable_win {F : PoolFacts} {w cap : Nat} {inp : List α} (hn : inp.Nodup)
    (h : Reachable F f stops (init w cap inp) s) : Win w inp s :=
  h.induction (win_init _ _ _) fun hr hW hf => hW.step hn (reachable_inv hr) hf

end

end Gotree.C11

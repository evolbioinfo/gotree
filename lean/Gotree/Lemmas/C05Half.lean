/-
  C05 — towards `midpoint_halfway`: what `MaxLengthPath` computes, and where the cut of
  `RerootMidPoint` puts the root.
-/
import Gotree.Lemmas.C05Mid
import Gotree.Lemmas.C05Side

namespace Gotree.C05
open Gotree Gotree.C14

/-! ## MaxLengthPath: the length is the depth of the leaves below the far end, and bounds all depths -/

/-- depth of a leaf below the top of a subtree (sum over the branches above it) -/
def depthIn (l : List SplitE) (b : String) : Rat := belowW EdgeD.lenOr0 l b

theorem lenOr0_nonneg {e : EdgeD} (h : 0 ≤ e.len) : e.lenOr0 = e.len := by
  unfold EdgeD.lenOr0 NIL
  have : ¬ e.len = -1 := by grind
  simp [this]

/-- all lengths present and non-negative -/
def NonNeg (l : List SplitE) : Prop := ∀ s ∈ l, 0 ≤ s.e.len

theorem depthIn_nonneg : ∀ (l : List SplitE) (b : String), NonNeg l → 0 ≤ depthIn l b
  | [], _, _ => by simp [depthIn, belowW_nil]
  | s :: l, b, h => by
    have h1 := h s (by simp)
    have h2 := depthIn_nonneg l b (fun x hx => h x (by simp [hx]))
    unfold depthIn at *
    rw [belowW_cons, lenOr0_nonneg h1]
    split <;> grind

theorem depthIn_perm {l₁ l₂ : List SplitE} (h : l₁.Perm l₂) (b : String) : depthIn l₁ b = depthIn l₂ b := by
  unfold depthIn
  induction h with
  | nil => rfl
  | cons x _ ih => rw [belowW_cons, belowW_cons, ih]
  | swap x y l => simp only [belowW_cons]; grind
  | trans _ _ ih₁ ih₂ => exact ih₁.trans ih₂

theorem kid_splits_sub {K : Kids} {j : Nat} {e : EdgeD} {c : T} (hk : K[j]? = some (e, c)) :
    (⟨c.leaves, e, c.isLeaf⟩ : SplitE) ∈ splitsL K ∧ ∀ s ∈ c.splitsBelow, s ∈ splitsL K := by
  obtain ⟨hkk, _⟩ := list_split_at K j (e, c) hk
  rw [hkk, splitsL_append, splitsL_cons]
  exact ⟨by simp, fun s hs => by simp [hs]⟩

/-- depth of a leaf of kid `j`: the branch to the kid plus the depth inside the kid -/
theorem depthIn_kid {K : Kids} {j : Nat} {e : EdgeD} {c : T} (hn : (leavesL K).Nodup) (hnn : NonNeg (splitsL K))
    (hk : K[j]? = some (e, c)) {b : String} (hb : b ∈ c.leaves) :
    depthIn (splitsL K) b = e.len + depthIn c.splitsBelow b := by
  rw [← lenOr0_nonneg (hnn _ (kid_splits_sub hk).1)]
  obtain ⟨hkk, _⟩ := list_split_at K j (e, c) hk
  have hnd := hn
  rw [hkk, leavesL_append, leavesL_cons] at hnd
  have h1 : b ∉ leavesL (K.take j) := fun h => (List.nodup_append.1 hnd).2.2 b h b (by simp [hb]) rfl
  have h2 : b ∉ leavesL (K.drop (j + 1)) :=
    fun h => (List.nodup_append.1 (List.nodup_append.1 hnd).2.1).2.2 b hb b h rfl
  unfold depthIn
  conv => lhs; rw [hkk]
  rw [splitsL_append, splitsL_cons, belowW_append, belowW_cons, belowW_append,
    belowW_zero _ _ b (out_of_subL _ b h1), belowW_zero _ (splitsL (K.drop (j + 1))) b (out_of_subL _ b h2)]
  have : c.leaves.contains b = true := by simpa using hb
  simp only [this, if_true]
  grind

/-- state of `mlpL` after the first `idx` kids -/
def MlpInv (K : Kids) (idx : Nat) (best : List Nat) (cur : Rat) : Prop :=
  0 ≤ cur ∧ (∀ j e c, j < idx → K[j]? = some (e, c) → (mlp c).2 + e.len ≤ cur) ∧
  ((best = [] ∧ cur = 0) ∨ ∃ j e c, j < idx ∧ K[j]? = some (e, c) ∧ best = j :: (mlp c).1 ∧ cur = (mlp c).2 + e.len)

theorem mlpL_inv (K : Kids) : ∀ (k : Kids) (idx : Nat) (best : List Nat) (cur : Rat),
    K.drop idx = k → MlpInv K idx best cur →
    MlpInv K K.length (mlpL k idx best cur).1 (mlpL k idx best cur).2
  | [], idx, best, cur, hk, inv => by
    have hlen : K.length ≤ idx := List.drop_eq_nil_iff.1 hk
    simp only [mlpL]
    obtain ⟨i1, i2, i3⟩ := inv
    refine ⟨i1, fun j e c hj hc => i2 j e c (by omega) hc, ?_⟩
    rcases i3 with h | ⟨j, e, c, hj, hc, hb, hcur⟩
    · exact Or.inl h
    · exact Or.inr ⟨j, e, c, (List.getElem?_eq_some_iff.1 hc).1, hc, hb, hcur⟩
  | (e, t) :: r, idx, best, cur, hk, inv => by
    obtain ⟨hki, hk'⟩ := drop_eq_cons hk
    obtain ⟨i1, i2, i3⟩ := inv
    simp only [mlpL]
    split
    · rename_i hgt
      refine mlpL_inv K r (idx + 1) _ _ hk' ⟨by grind, ?_, Or.inr ⟨idx, e, t, by omega, hki, rfl, rfl⟩⟩
      intro j e' c' hj hc'
      by_cases hji : j = idx
      · subst hji; rw [hki] at hc'; cases hc'; exact Rat.le_refl
      · have := i2 j e' c' (by omega) hc'
        grind
    · rename_i hle
      refine mlpL_inv K r (idx + 1) _ _ hk' ⟨i1, ?_, ?_⟩
      · intro j e' c' hj hc'
        by_cases hji : j = idx
        · subst hji; rw [hki] at hc'; cases hc'; grind
        · exact i2 j e' c' (by omega) hc'
      · rcases i3 with h | ⟨j, e', c', hj, hc', hb, hcur⟩
        · exact Or.inl h
        · exact Or.inr ⟨j, e', c', by omega, hc', hb, hcur⟩

theorem mlp_inv (d : NodeD) (p : Nat) (K : Kids) : MlpInv K K.length (mlp (.node d p K)).1 (mlp (.node d p K)).2 := by
  simp only [mlp]
  exact mlpL_inv K K 0 [] 0 rfl ⟨Rat.le_refl, by intro j e c hj; omega, Or.inl ⟨rfl, rfl⟩⟩

theorem atPath_cons_inv {d : NodeD} {pp : Nat} {K : Kids} {j : Nat} {p' : List Nat} {f : T}
    (h : AtPath (.node d pp K) (j :: p') f) : ∃ e c, K[j]? = some (e, c) ∧ AtPath c p' f := by
  rcases h with ⟨h, _⟩ | ⟨e, hd⟩
  · cases h
  · simp only [T.kids_node] at hd
    cases p' with
    | nil => simp only [descend] at hd; exact ⟨e, f, hd, Or.inl ⟨rfl, rfl⟩⟩
    | cons a r =>
      simp only [descend] at hd
      cases hk : K[j]? with
      | none => simp [hk] at hd
      | some ec =>
        obtain ⟨e0, c0⟩ := ec
        simp only [hk] at hd
        exact ⟨e0, c0, rfl, Or.inr ⟨e, hd⟩⟩

/-- no leaf is deeper than the length `MaxLengthPath` returns -/
theorem mlp_bound : ∀ (x : T), x.leaves.Nodup → NonNeg x.splitsBelow →
    ∀ b ∈ x.leaves, depthIn x.splitsBelow b ≤ (mlp x).2 := by
  intro x
  induction x using T.induct with
  | h d pp K ih =>
    intro hn hnn b hb
    obtain ⟨i1, i2, _⟩ := mlp_inv d pp K
    by_cases hK : K = []
    · subst hK; simp only [T.splitsBelow_node, splitsL_nil, depthIn, belowW_nil]; exact i1
    · rw [T.leaves_node_ne _ _ hK] at hn hb
      rw [T.splitsBelow_node] at hnn ⊢
      obtain ⟨⟨e, c⟩, hm, hbc⟩ := mem_leavesL.1 hb
      obtain ⟨j, hk⟩ := List.getElem?_of_mem hm
      rw [depthIn_kid hn hnn hk hbc]
      have := ih (e, c) (List.mem_of_getElem? hk) (kid_leaves_nodup hn hk)
        (fun s hs => hnn s ((kid_splits_sub hk).2 s hs)) b hbc
      have h2 := i2 j e c (List.getElem?_eq_some_iff.1 hk).1 hk
      simp only at this
      grind

/-- every leaf below the far end of the path is exactly that deep -/
theorem mlp_far : ∀ (x : T), x.leaves.Nodup → NonNeg x.splitsBelow →
    ∀ f, AtPath x (mlp x).1 f → ∀ b ∈ f.leaves, depthIn x.splitsBelow b = (mlp x).2 := by
  intro x
  induction x using T.induct with
  | h d pp K ih =>
    intro hn hnn f hf b hb
    obtain ⟨i1, i2, i3⟩ := mlp_inv d pp K
    rcases i3 with ⟨hb0, hc0⟩ | ⟨j, e, c, hj, hk, hbest, hcur⟩
    · rw [hb0] at hf
      rcases hf with ⟨_, rfl⟩ | ⟨e, hd⟩
      · have h1 := mlp_bound _ hn hnn b hb
        have h2 := depthIn_nonneg (T.node d pp K).splitsBelow b hnn
        rw [hc0] at h1 ⊢
        grind
      · simp [descend] at hd
    · rw [hbest] at hf
      obtain ⟨e', c', hk', hfc⟩ := atPath_cons_inv hf
      rw [hk] at hk'; cases hk'
      rw [leaves_of_kid hk] at hn
      rw [T.splitsBelow_node] at hnn ⊢
      rw [depthIn_kid hn hnn hk (atPath_leaves_sub hfc b hb), hcur]
      have := ih (e, c) (List.mem_of_getElem? hk) (kid_leaves_nodup hn hk)
        (fun s hs => hnn s ((kid_splits_sub hk).2 s hs)) f hfc b hb
      simp only at this
      grind

/-- sum of the lengths of a list of branches -/
def sumLen (l : List EdgeD) : Rat := (l.map (·.len)).sum

theorem sumLen_nil : sumLen [] = 0 := rfl
theorem sumLen_cons (e : EdgeD) (l : List EdgeD) : sumLen (e :: l) = e.len + sumLen l := by simp [sumLen]
theorem sumLen_append (a b : List EdgeD) : sumLen (a ++ b) = sumLen a + sumLen b := by
  induction a with
  | nil => simp [sumLen_nil, Rat.zero_add]
  | cons e a ih => simp only [List.cons_append, sumLen_cons, ih]; grind
theorem sumLen_reverse (l : List EdgeD) : sumLen l.reverse = sumLen l := by
  induction l with
  | nil => rfl
  | cons e l ih => simp only [List.reverse_cons, sumLen_append, sumLen_cons, sumLen_nil, ih]; grind
theorem sumLen_take_drop (l : List EdgeD) (m : Nat) : sumLen l = sumLen (l.take m) + sumLen (l.drop m) := by
  conv => lhs; rw [← List.take_append_drop m l]
  exact sumLen_append _ _

/-- the path of `MaxLengthPath` continues, below each of its nodes, with the path of that node;
    the total is the sum of the branches along it -/
theorem mlp_suffix : ∀ (m : Nat) (x : T) (e : EdgeD) (B : T), m < (mlp x).1.length →
    descend x.kids ((mlp x).1.take (m + 1)) = some (e, B) →
    (mlp B).1 = (mlp x).1.drop (m + 1) ∧
    (mlp x).2 = sumLen (edgesAlongK x.kids ((mlp x).1.take (m + 1))) + (mlp B).2
  | m, .node d pp K, e, B, hm, hd => by
    obtain ⟨_, _, i3⟩ := mlp_inv d pp K
    rcases i3 with ⟨hb0, _⟩ | ⟨j, e0, c0, hj, hk, hbest, hcur⟩
    · rw [hb0] at hm; simp at hm
    · simp only [T.kids_node] at hd ⊢
      rw [hbest] at hm hd ⊢
      cases m with
      | zero =>
        simp only [Nat.zero_add, List.take_succ_cons, List.take_zero, descend] at hd
        rw [hk] at hd; cases hd
        simp only [Nat.zero_add, List.drop_succ_cons, List.drop_zero, List.take_succ_cons, List.take_zero,
          edgesAlongK, hk, sumLen_cons, sumLen_nil, true_and]
        rw [hcur]; grind
      | succ m =>
        have hm' : m < (mlp c0).1.length := by simpa using hm
        have hne : (mlp c0).1.take (m + 1) ≠ [] := by
          intro h0
          have := congrArg List.length h0
          simp only [List.length_take, List.length_nil] at this
          omega
        have hd' : descend c0.kids ((mlp c0).1.take (m + 1)) = some (e, B) := by
          rw [List.take_succ_cons] at hd
          cases hq : (mlp c0).1.take (m + 1) with
          | nil => exact absurd hq hne
          | cons a r => rw [hq] at hd; simpa [descend, hk] using hd
        obtain ⟨h1, h2⟩ := mlp_suffix m c0 e B hm' hd'
        refine ⟨by simpa using h1, ?_⟩
        rw [List.take_succ_cons]
        simp only [edgesAlongK, hk, sumLen_cons]
        rw [hcur, h2]; grind

theorem edgesAlongK_take : ∀ (c : List Nat) (K : Kids) (m : Nat),
    edgesAlongK K (c.take m) = (edgesAlongK K c).take m
  | _, _, 0 => by simp [edgesAlongK]
  | [], _, _ + 1 => by simp [edgesAlongK]
  | i :: r, K, m + 1 => by
    simp only [List.take_succ_cons, edgesAlongK]
    cases K[i]? with
    | none => simp
    | some ec => obtain ⟨e, c⟩ := ec; simp [edgesAlongK_take r c.kids m]

/-- a valid non-empty path leads to a node -/
theorem valid_descend (c : List Nat) (K : Kids) (hv : ValidK K c) (hc : c ≠ []) : ∃ e f, descend K c = some (e, f) := by
  have hlen : 0 < c.length := List.length_pos_iff.2 hc
  obtain ⟨e, f, _, hd⟩ := valid_take c K (c.length - 1) hv (by omega)
  rw [Nat.sub_add_cancel hlen, List.take_length] at hd
  exact ⟨e, f, hd⟩

/-- the sum accumulated by the loop of `RerootMidPoint` -/
theorem walkHalf_sum (half : Rat) : ∀ (l : List EdgeD) (len0 : Rat) (i0 i : Nat) (len : Rat),
    walkHalf half l len0 i0 = some (i, len) → len0 < half → len = len0 + sumLen (l.take (i - i0))
  | [], len0, i0, i, len, h, h0 => by simp [walkHalf, h0] at h
  | e :: r, len0, i0, i, len, h, h0 => by
    simp only [walkHalf, h0, if_true] at h
    by_cases h1 : len0 + e.len < half
    · have := walkHalf_sum half r (len0 + e.len) (i0 + 1) i len h h1
      obtain ⟨j, _, hj, _⟩ := walkHalf_spec half r (len0 + e.len) (i0 + 1) i len h h1
      have hi : i - i0 = (i - (i0 + 1)) + 1 := by omega
      rw [hi, List.take_succ_cons, sumLen_cons, this]; grind
    · have hi : i = i0 + 1 ∧ len = len0 + e.len := by
        cases r with
        | nil => simp only [walkHalf, h1, if_false] at h; cases h; exact ⟨rfl, rfl⟩
        | cons e2 r2 => simp only [walkHalf, h1, if_false] at h; cases h; exact ⟨rfl, rfl⟩
      obtain ⟨rfl, rfl⟩ := hi
      have : i0 + 1 - i0 = 1 := by omega
      rw [this]; simp [sumLen_cons, sumLen_nil, Rat.add_zero]

/-- what a node `B` reached by a path inherits (distinct leaves, branches of the tree), and how deep its
    leaves lie: the branches along the path, then the depth inside `B` -/
theorem descend_inherit : ∀ (p : List Nat) (K : Kids) (e : EdgeD) (B : T), (leavesL K).Nodup →
    descend K p = some (e, B) → B.leaves.Nodup ∧ (∀ s ∈ B.splitsBelow, s ∈ splitsL K) ∧
      (NonNeg (splitsL K) → ∀ b ∈ B.leaves,
        depthIn (splitsL K) b = sumLen (edgesAlongK K p) + depthIn B.splitsBelow b)
  | [], _, _, _, _, h => by simp [descend] at h
  | [i], K, e, B, hn, h => by
    simp only [descend] at h
    refine ⟨kid_leaves_nodup hn h, (kid_splits_sub h).2, fun hnn b hb => ?_⟩
    rw [depthIn_kid hn hnn h hb]
    simp [edgesAlongK, h, sumLen_cons, sumLen_nil, Rat.add_zero]
  | i :: j :: r, K, e, B, hn, h => by
    simp only [descend] at h
    cases hk : K[i]? with
    | none => simp [hk] at h
    | some ec =>
      obtain ⟨e0, c0⟩ := ec
      simp only [hk] at h
      have m2 := (kid_splits_sub hk).2
      have hne : c0.kids ≠ [] := by
        intro h0; rw [h0] at h; cases r <;> simp [descend] at h
      have hc0l : c0.leaves = leavesL c0.kids := T.leaves_of_kids_ne hne
      have hc0s : c0.splitsBelow = splitsL c0.kids := by
        obtain ⟨d0, p0, k0⟩ := c0; simp [T.splitsBelow_node]
      have hn0 : (leavesL c0.kids).Nodup := by rw [← hc0l]; exact kid_leaves_nodup hn hk
      obtain ⟨h1, h2, h3⟩ := descend_inherit (j :: r) c0.kids e B hn0 h
      refine ⟨h1, fun s hs => m2 s (by rw [hc0s]; exact h2 s hs), fun hnn b hb => ?_⟩
      have hbc0 : b ∈ c0.leaves := by
        rw [hc0l]; exact descend_leaves_sub (j :: r) c0.kids e B h b hb
      rw [depthIn_kid hn hnn hk hbc0, hc0s,
        h3 (by rw [← hc0s]; exact fun s hs => hnn s (m2 s hs)) b hb]
      simp only [edgesAlongK, hk, sumLen_cons]
      grind

/-- two names that no entry has both below: the distance is the sum of the depths -/
theorem distW_split (w : EdgeD → Rat) : ∀ (l : List SplitE) (a b : String),
    (∀ s ∈ l, ¬ (a ∈ s.below ∧ b ∈ s.below)) → distW w l a b = belowW w l a + belowW w l b
  | [], _, _, _ => by simp [distW_nil, belowW_nil, Rat.add_zero]
  | s :: l, a, b, h => by
    have h1 := h s (by simp)
    have ih := distW_split w l a b (fun x hx => h x (by simp [hx]))
    rw [distW_cons, belowW_cons, belowW_cons, ih]
    by_cases ha : a ∈ s.below <;> by_cases hb : b ∈ s.below
    · exact absurd ⟨ha, hb⟩ h1
    all_goals
      simp [SplitE.sep, ha, hb]
      grind

theorem rootDist_eq (t : T) (a : String) : t.rootDist a = depthIn t.splits a := rfl

theorem mlp_nil_zero (x : T) (h : (mlp x).1 = []) : (mlp x).2 = 0 := by
  obtain ⟨d, pp, K⟩ := x
  obtain ⟨_, _, i3⟩ := mlp_inv d pp K
  rcases i3 with ⟨_, h0⟩ | ⟨j, e, c, _, _, hb, _⟩
  · exact h0
  · rw [h] at hb; cases hb

/-- the total of `MaxLengthPath` is the sum of the branches along its path -/
theorem mlp_total (x : T) : (mlp x).2 = sumLen (edgesAlongK x.kids (mlp x).1) := by
  by_cases h : (mlp x).1 = []
  · rw [mlp_nil_zero x h, h]
    cases x; simp [edgesAlongK, sumLen_nil]
  · have hv : ValidK x.kids (mlp x).1 := mlp_valid x
    obtain ⟨e, f, hd⟩ := valid_descend _ _ hv h
    have hlen : 0 < (mlp x).1.length := List.length_pos_iff.2 h
    have htake : (mlp x).1.take ((mlp x).1.length - 1 + 1) = (mlp x).1 := by
      rw [Nat.sub_add_cancel hlen]; exact List.take_length
    obtain ⟨h1, h2⟩ := mlp_suffix ((mlp x).1.length - 1) x e f (by omega) (by rw [htake]; exact hd)
    rw [htake] at h2
    have : (mlp f).1 = [] := by
      rw [h1, Nat.sub_add_cancel hlen]; exact List.drop_length
    rw [h2, mlp_nil_zero f this]; grind

/-- a tree presented at one of its tips: that tip is the root, the others are the leaves -/
theorem tip_presentation {tT : T} (hroot : tT.kids.length = 1) (hu : tT.tipNames.Nodup) :
    tT.tipNames = tT.name :: leavesL tT.kids ∧ tT.name ∉ leavesL tT.kids ∧ (leavesL tT.kids).Nodup ∧
    tT.leaves = leavesL tT.kids ∧ tT.splitsBelow = tT.splits := by
  have htips : tT.tipNames = tT.name :: leavesL tT.kids := by unfold T.tipNames; simp [hroot]
  rw [htips] at hu
  refine ⟨htips, (List.nodup_cons.1 hu).1, (List.nodup_cons.1 hu).2, ?_, ?_⟩
  · obtain ⟨d, pp, K⟩ := tT
    have : K ≠ [] := by intro h0; simp [h0] at hroot
    exact T.leaves_node_ne _ _ this
  · obtain ⟨d, pp, K⟩ := tT; simp [T.splits, T.splitsBelow_node]

/-- **Where the cut puts the root** (the tree presented at the start tip `T0` of the chosen
    path, of length `L`): some tip `b` is at distance `L` from `T0`, and in the result both are
    at distance `L/2` from the root. -/
theorem midpointCut_half (cand : Cand) (u : T) (h : midpointCut true cand = .ok u)
    (hc : cand.c = (mlp cand.tT).1) (hL : cand.len = (mlp cand.tT).2) (hpos : 0 < cand.len)
    (hu : cand.tT.tipNames.Nodup) (hroot : cand.tT.kids.length = 1) (hg : LensGood cand.tT.splits)
    (hnn : NonNeg cand.tT.splits) :
    ∃ b, b ∈ leavesL cand.tT.kids ∧ cand.tT.dist cand.tT.name b = cand.len ∧
      u.rootDist b = cand.len / 2 ∧ u.rootDist cand.tT.name = cand.len / 2 := by
  have hv : ValidK cand.tT.kids cand.c := by rw [hc]; exact mlp_valid cand.tT
  obtain ⟨hsame, hk2⟩ := midpointCut_same cand u h hv hpos hu hg
  obtain ⟨htips, hT0, hnK, _, _⟩ := tip_presentation hroot hu
  obtain ⟨j, len, em, B, tA, idx, hjlt, hw, hlt, hge, hEm, hBdesc, _, hkid, hcut⟩ := midpointCut_ok cand u h hv hpos
  have hsum := walkHalf_sum _ _ 0 0 _ len hw (by grind)
  have hm : cand.c.length - 1 - j < cand.c.length := by omega
  generalize hmdef : cand.c.length - 1 - j = m at *
  rw [hc] at hBdesc hm
  obtain ⟨hB1, hB2⟩ := mlp_suffix _ cand.tT em B hm hBdesc
  rw [← hc] at hBdesc hm hB1 hB2
  obtain ⟨hBn, hBs, hBd⟩ := descend_inherit _ _ em B hnK hBdesc
  have hnnK : NonNeg (splitsL cand.tT.kids) := hnn
  have hBnn : NonNeg B.splitsBelow := fun s hs => hnnK s (hBs s hs)
  -- a tip below the far end of the path
  obtain ⟨f', hf'⟩ : ∃ f', AtPath B (mlp B).1 f' := by
    by_cases h0 : (mlp B).1 = []
    · exact ⟨B, Or.inl ⟨h0, rfl⟩⟩
    · obtain ⟨e', f', hd'⟩ := valid_descend _ _ (mlp_valid B) h0
      exact ⟨f', Or.inr ⟨e', hd'⟩⟩
  obtain ⟨b, hbf⟩ := List.exists_mem_of_ne_nil _ (T.leaves_ne_nil f')
  have hbB : b ∈ B.leaves := atPath_leaves_sub hf' b hbf
  have hdB : depthIn B.splitsBelow b = (mlp B).2 := mlp_far B hBn hBnn f' hf' b hbf
  have hbK : b ∈ leavesL cand.tT.kids := descend_leaves_sub _ _ em B hBdesc b hbB
  have hdT : depthIn (splitsL cand.tT.kids) b = cand.len := by
    rw [hBd hnnK b hbB, hdB, hL, hB2]
  -- the distance from the start tip
  have hdist : cand.tT.dist cand.tT.name b = cand.len := by
    unfold T.dist T.splits
    rw [distW_left_out _ _ _ _ (out_of_subL _ _ hT0)]
    exact hdT
  -- the result: the two sides of the cut branch hang on the two new root branches
  obtain ⟨ptips, psp, _⟩ := cutAt_splits tA u idx _ _ false em B hkid hcut
  obtain ⟨q1, _⟩ := moveRoot_tipNames_split tA idx em B hkid
  have hun : u.tipNames.Nodup := hsame.tips.nodup_iff.2 hu
  have hdisj : b ∉ (oldRoot tA idx).leaves :=
    fun h2 => (List.nodup_append.1 (q1.nodup_iff.2 (ptips.nodup_iff.1 hun))).2.2 b hbB b h2 rfl
  have hrb : u.rootDist b = (em.len - (len - cand.len / 2)) + (mlp B).2 := by
    have h1 : (oldRoot tA idx).leaves.contains b = false := by simpa using hdisj
    have h2 : B.leaves.contains b = true := by simpa using hbB
    rw [rootDist_eq, depthIn_perm psp]
    unfold depthIn at hdB ⊢
    rw [belowW_cons, belowW_cons, belowW_append, belowW_zero _ _ b (out_of_sub _ b hdisj), hdB]
    simp only [h1, h2, if_true, Bool.false_eq_true, if_false]
    rw [lenOr0_nonneg (by show (0 : Rat) ≤ em.len - (len - cand.len / 2); grind)]
    grind
  -- the arithmetic of the cut
  have hlen : len = sumLen ((edgesAlongK cand.tT.kids cand.c).drop m) := by
    rw [hsum, Nat.sub_zero, edgesAlong_eq, Rat.zero_add]
    have hEl : (edgesAlongK cand.tT.kids cand.c).length = cand.c.length := hv
    rw [List.take_reverse, sumLen_reverse, hEl]
    congr 2; omega
  have htot : cand.len = sumLen (edgesAlongK cand.tT.kids cand.c) := by
    rw [hL, hc]; exact mlp_total cand.tT
  have hsplit := sumLen_take_drop (edgesAlongK cand.tT.kids cand.c) m
  have htk1 : sumLen (edgesAlongK cand.tT.kids (cand.c.take (m + 1))) =
      sumLen ((edgesAlongK cand.tT.kids cand.c).take m) + em.len := by
    rw [edgesAlongK_take, List.take_add_one, hEm]
    simp [sumLen_append, sumLen_cons, sumLen_nil, Rat.add_zero]
  have hB2' : cand.len = sumLen (edgesAlongK cand.tT.kids (cand.c.take (m + 1))) + (mlp B).2 := hL.trans hB2
  have hrb' : u.rootDist b = cand.len / 2 := by
    rw [hrb]
    grind
  -- the start tip, by complement
  have hT0u : cand.tT.name ∈ u.tipNames := hsame.tips.mem_iff.2 (by rw [htips]; simp)
  have hbu : b ∈ u.tipNames := hsame.tips.mem_iff.2 (by rw [htips]; simp [hbK])
  have hdu : u.dist cand.tT.name b = cand.len := by
    rw [hsame.dist _ _ (by rw [htips]; simp) (by rw [htips]; simp [hbK])]; exact hdist
  have hT0B : cand.tT.name ∉ B.leaves := fun hx => hT0 (descend_leaves_sub _ _ em B hBdesc _ hx)
  have hno : ∀ s ∈ u.splits, ¬ (cand.tT.name ∈ s.below ∧ b ∈ s.below) := by
    intro s hs hh
    rcases List.mem_cons.1 (psp.mem_iff.1 hs) with rfl | hs
    · exact hdisj hh.2
    rcases List.mem_cons.1 hs with rfl | hs
    · exact hT0B hh.1
    rcases List.mem_append.1 hs with hs | hs
    · exact hdisj (below_sub _ s hs _ hh.2)
    · exact hT0B (below_sub B s hs _ hh.1)
  have := distW_split EdgeD.lenOr0 u.splits cand.tT.name b hno
  have hd2 : u.dist cand.tT.name b = u.rootDist cand.tT.name + u.rootDist b := this
  refine ⟨b, hbK, hdist, hrb', ?_⟩
  rw [hdu, hrb'] at hd2
  grind

/-! ## which presentations `RerootMidPoint` tries, and which one it keeps -/

theorem unroot_nonneg (t : T) (h : NonNeg t.splits) : NonNeg (unroot t).splits :=
  unroot_edgesP (fun e => 0 ≤ e.len) (fun _ _ e1 e2 g1 g2 => by
    show 0 ≤ unrootLen e1 e2
    unfold unrootLen rmax NIL
    by_cases a1 : e1.len = -1 <;> by_cases a2 : e2.len = -1 <;> simp [a1, a2] <;> grind) t h

/- the leaf paths lead to the leaves -/
mutual
theorem leafPathsT_sem : ∀ (c : T) (p : List Nat), p ∈ leafPathsT c →
    (p = [] ∧ c.kids = []) ∨ ∃ e l, descend c.kids p = some (e, l) ∧ l.kids = []
  | .node d pp [], p, h => by
    simp only [leafPathsT, List.mem_singleton] at h
    exact Or.inl ⟨h, rfl⟩
  | .node d pp (k :: ks), p, h => by
    simp only [leafPathsT] at h
    obtain ⟨j, p', rfl, e', l, hd, hl⟩ := leafPathsL_sem (k :: ks) 0 p h
    right
    simp only [Nat.zero_add, T.kids_node]
    exact ⟨e', l, hd, hl⟩
theorem leafPathsL_sem : ∀ (k : Kids) (i : Nat) (p : List Nat), p ∈ leafPathsL k i →
    ∃ j p', p = (i + j) :: p' ∧ ∃ e' l, descend k (j :: p') = some (e', l) ∧ l.kids = []
  | [], _, _, h => by simp [leafPathsL] at h
  | (e, t) :: r, i, p, h => by
    simp only [leafPathsL, List.mem_append, List.mem_map] at h
    rcases h with ⟨p', hp', rfl⟩ | h
    · refine ⟨0, p', rfl, ?_⟩
      rcases leafPathsT_sem t p' hp' with ⟨rfl, hl⟩ | ⟨e', l, hd, hl⟩
      · exact ⟨e, t, by simp [descend], hl⟩
      · exact ⟨e', l, descend_cons rfl hd, hl⟩
    · obtain ⟨j, p', rfl, e', l, hd, hl⟩ := leafPathsL_sem r (i + 1) p h
      refine ⟨j + 1, p', by rw [show i + 1 + j = i + (j + 1) by omega], e', l, ?_, hl⟩
      cases p' <;> simpa [descend] using hd
end

/-- every start of `RerootMidPoint` presents the tree at a tip: the root has one neighbour -/
theorem tipPath_root (t1 : T) (p : List Nat) (hp : p ∈ tipPaths t1) :
    (rerootP t1 p none []).1.kids.length = 1 := by
  unfold tipPaths at hp
  rcases List.mem_append.1 hp with hp | hp
  · split at hp
    · rename_i h1
      simp only [List.mem_singleton] at hp
      subst hp
      simpa [rerootP_nil] using h1
    · cases hp
  · obtain ⟨j, p', rfl, e', l, hd, hl⟩ := leafPathsL_sem t1.kids 0 p hp
    simp only [Nat.zero_add]
    obtain ⟨pos, x, r1, _, _⟩ := rerootP_descend (j :: p') t1 none [] t1.kids e' l rfl hd
    rw [r1, T.kids_node, hl]
    simp [insertAt]

/- every leaf has its path -/
mutual
theorem leafPathsT_cover : ∀ (c : T) (x : String), x ∈ c.leaves →
    ∃ p ∈ leafPathsT c, (p = [] ∧ c.kids = [] ∧ c.name = x) ∨
      ∃ e l, descend c.kids p = some (e, l) ∧ l.kids = [] ∧ l.name = x
  | .node d pp [], x, h => by
    simp only [T.leaves, List.mem_singleton] at h
    exact ⟨[], by simp [leafPathsT], Or.inl ⟨rfl, rfl, by simp [T.name, h]⟩⟩
  | .node d pp (k :: ks), x, h => by
    simp only [T.leaves] at h
    obtain ⟨p, hp, j, p', rfl, e', l, hd, hl, hx⟩ := leafPathsL_cover (k :: ks) 0 x h
    refine ⟨_, by simpa [leafPathsT] using hp, Or.inr ⟨e', l, ?_, hl, hx⟩⟩
    simpa using hd
theorem leafPathsL_cover : ∀ (k : Kids) (i : Nat) (x : String), x ∈ leavesL k →
    ∃ p ∈ leafPathsL k i, ∃ j p', p = (i + j) :: p' ∧
      ∃ e' l, descend k (j :: p') = some (e', l) ∧ l.kids = [] ∧ l.name = x
  | [], _, _, h => by simp [leavesL_nil] at h
  | (e, t) :: r, i, x, h => by
    rw [leavesL_cons] at h
    rcases List.mem_append.1 h with h | h
    · obtain ⟨p', hp', hcase⟩ := leafPathsT_cover t x h
      refine ⟨i :: p', by simp only [leafPathsL, List.mem_append, List.mem_map]; exact Or.inl ⟨p', hp', rfl⟩,
        0, p', rfl, ?_⟩
      rcases hcase with ⟨rfl, hl, hx⟩ | ⟨e', l, hd, hl, hx⟩
      · exact ⟨e, t, by simp [descend], hl, hx⟩
      · exact ⟨e', l, descend_cons rfl hd, hl, hx⟩
    · obtain ⟨p, hp, j, p', rfl, e', l, hd, hl, hx⟩ := leafPathsL_cover r (i + 1) x h
      refine ⟨_, by simp only [leafPathsL, List.mem_append]; exact Or.inr hp, j + 1, p',
        by rw [show i + 1 + j = i + (j + 1) by omega], e', l, ?_, hl, hx⟩
      cases p' <;> simpa [descend] using hd
end

/-- every tip is the root of one of the presentations tried -/
theorem tipPath_cover (t1 : T) (x : String) (hx : x ∈ t1.tipNames) :
    ∃ p ∈ tipPaths t1, (rerootP t1 p none []).1.name = x := by
  unfold T.tipNames at hx
  rcases List.mem_append.1 hx with hx | hx
  · split at hx
    · rename_i h1
      simp only [List.mem_singleton] at hx
      refine ⟨[], ?_, by simp [rerootP_nil, hx]⟩
      unfold tipPaths; simp [h1]
    · cases hx
  · obtain ⟨p, hp, j, p', rfl, e', l, hd, hl, hxl⟩ := leafPathsL_cover t1.kids 0 x hx
    refine ⟨_, by unfold tipPaths; exact List.mem_append_right _ hp, ?_⟩
    simp only [Nat.zero_add]
    obtain ⟨pos, x0, r1, _, _⟩ := rerootP_descend (j :: p') t1 none [] t1.kids e' l rfl hd
    rw [r1]; simpa [T.name] using hxl

/-- the largest value of a nested loop keeping the maximum -/
theorem foldl_max_inner (f : String → Rat) (p : String → Bool) : ∀ (l : List String) (m : Rat),
    m ≤ l.foldl (fun m b => if p b && decide (f b > m) then f b else m) m ∧
    (∀ b ∈ l, p b = true → f b ≤ l.foldl (fun m b => if p b && decide (f b > m) then f b else m) m) ∧
    (l.foldl (fun m b => if p b && decide (f b > m) then f b else m) m = m ∨
      ∃ b ∈ l, p b = true ∧ l.foldl (fun m b => if p b && decide (f b > m) then f b else m) m = f b)
  | [], m => ⟨Rat.le_refl, by simp, Or.inl rfl⟩
  | x :: l, m => by
    simp only [List.foldl_cons]
    by_cases hc : (p x && decide (f x > m)) = true
    · simp only [hc, if_true]
      obtain ⟨h1, h2, h3⟩ := foldl_max_inner f p l (f x)
      simp only [Bool.and_eq_true, decide_eq_true_eq] at hc
      refine ⟨by grind, ?_, ?_⟩
      · intro b hb hpb
        rcases List.mem_cons.1 hb with rfl | hb
        · exact h1
        · exact h2 b hb hpb
      · right
        rcases h3 with h3 | ⟨b, hb, hpb, h3⟩
        · exact ⟨x, by simp, hc.1, h3⟩
        · exact ⟨b, by simp [hb], hpb, h3⟩
    · have hc' : (p x && decide (f x > m)) = false := by simpa using hc
      simp only [hc', Bool.false_eq_true, if_false]
      obtain ⟨h1, h2, h3⟩ := foldl_max_inner f p l m
      refine ⟨h1, ?_, ?_⟩
      · intro b hb hpb
        rcases List.mem_cons.1 hb with rfl | hb
        · simp only [Bool.and_eq_false_iff, decide_eq_false_iff_not] at hc'
          rcases hc' with hc' | hc'
          · rw [hpb] at hc'; cases hc'
          · grind
        · exact h2 b hb hpb
      · rcases h3 with h3 | ⟨b, hb, hpb, h3⟩
        · exact Or.inl h3
        · exact Or.inr ⟨b, by simp [hb], hpb, h3⟩

/-- the inner loop of `diam` for a fixed first tip -/
def diamInner (t : T) (a : String) (m : Rat) : Rat :=
  t.tipNames.foldl (fun m b => if a != b && t.dist a b > m then t.dist a b else m) m

theorem diam_eq (t : T) : diam t = t.tipNames.foldl (fun m a => diamInner t a m) 0 := rfl

theorem diamInner_spec (t : T) (a : String) (m : Rat) :
    m ≤ diamInner t a m ∧ (∀ b ∈ t.tipNames, a ≠ b → t.dist a b ≤ diamInner t a m) ∧
    (diamInner t a m = m ∨ ∃ b ∈ t.tipNames, a ≠ b ∧ diamInner t a m = t.dist a b) := by
  obtain ⟨h1, h2, h3⟩ := foldl_max_inner (fun b => t.dist a b) (fun b => a != b) t.tipNames m
  refine ⟨h1, fun b hb hab => h2 b hb (by simpa using hab), ?_⟩
  rcases h3 with h3 | ⟨b, hb, hpb, h3⟩
  · exact Or.inl h3
  · exact Or.inr ⟨b, hb, by simpa using hpb, h3⟩

theorem diamOuter_spec (t : T) : ∀ (la : List String) (m : Rat),
    m ≤ la.foldl (fun m a => diamInner t a m) m ∧
    (∀ a ∈ la, ∀ b ∈ t.tipNames, a ≠ b → t.dist a b ≤ la.foldl (fun m a => diamInner t a m) m) ∧
    (la.foldl (fun m a => diamInner t a m) m = m ∨
      ∃ a ∈ la, ∃ b ∈ t.tipNames, a ≠ b ∧ la.foldl (fun m a => diamInner t a m) m = t.dist a b)
  | [], m => ⟨Rat.le_refl, by simp, Or.inl rfl⟩
  | x :: la, m => by
    simp only [List.foldl_cons]
    obtain ⟨i1, i2, i3⟩ := diamInner_spec t x m
    obtain ⟨o1, o2, o3⟩ := diamOuter_spec t la (diamInner t x m)
    refine ⟨by grind, ?_, ?_⟩
    · intro a ha b hb hab
      rcases List.mem_cons.1 ha with rfl | ha
      · have := i2 b hb hab; grind
      · exact o2 a ha b hb hab
    · rcases o3 with o3 | ⟨a, ha, b, hb, hab, o3⟩
      · rcases i3 with i3 | ⟨b, hb, hab, i3⟩
        · left; rw [o3, i3]
        · right; exact ⟨x, by simp, b, hb, hab, by rw [o3, i3]⟩
      · right; exact ⟨a, by simp [ha], b, hb, hab, o3⟩

/-- the diameter: an upper bound of all distances between distinct tips that is attained -/
theorem diam_of_max (t : T) (L : Rat) (hL : 0 < L) (a b : String) (ha : a ∈ t.tipNames) (hb : b ∈ t.tipNames)
    (hab : a ≠ b) (hd : t.dist a b = L)
    (hmax : ∀ x ∈ t.tipNames, ∀ y ∈ t.tipNames, x ≠ y → t.dist x y ≤ L) : diam t = L := by
  rw [diam_eq]
  obtain ⟨o1, o2, o3⟩ := diamOuter_spec t t.tipNames 0
  have h1 := o2 a ha b hb hab
  rw [hd] at h1
  rcases o3 with o3 | ⟨x, hx, y, hy, hxy, o3⟩
  · rw [o3] at h1; grind
  · have := hmax x hx y hy hxy
    rw [← o3] at this
    grind

/-- the unrooted tree presented at one of its tips: the same tree, lengths still non-negative, that tip at the root -/
theorem tip_presented (t : T) (q : List Nat) (hq : q ∈ tipPaths (unroot t)) (hu : t.tipNames.Nodup)
    (hnn : NonNeg t.splits) (hs : ∀ s ∈ t.splits, GoodL s.e.sup) :
    Same t (rerootP (unroot t) q none []).1 ∧ LensGood (rerootP (unroot t) q none []).1.splits ∧
    NonNeg (rerootP (unroot t) q none []).1.splits ∧ (rerootP (unroot t) q none []).1.kids.length = 1 ∧
    (rerootP (unroot t) q none []).1.tipNames.Nodup := by
  obtain ⟨S, g⟩ := unroot_rerootP_same t q [] hu (fun s hs' => Or.inr (hnn s hs')) hs
  exact ⟨S, g, rerootP_edgesP (fun e => 0 ≤ e.len) q (unroot t) none [] (unroot_nonneg t hnn), tipPath_root _ q hq,
    S.tips.nodup_iff.2 hu⟩

/-- **`midpoint_halfway`**: after a successful midpoint rooting of a tree whose lengths are all
    present and non-negative, the root has two children and lies halfway along a longest
    tip-to-tip path (the Spec predicate `halfwayOK` that the oracle evaluates). -/
theorem midpoint_halfway_core (t t' : T) (h : rerootMidPoint t = .ok t') (hu : t.tipNames.Nodup)
    (hnn : NonNeg t.splits) (hs : ∀ s ∈ t.splits, GoodL s.e.sup) : halfwayOK t t' = true := by
  obtain ⟨hsame, hk2⟩ := midpoint_same t t' h hu (fun s hs' => Or.inr (hnn s hs')) hs
  obtain ⟨cand, ⟨⟨⟨p, hp, hpT⟩, hc, hL, hpos⟩, hmaxc⟩, h⟩ := midpoint_ok h
  -- the presentation that was kept
  obtain ⟨ST, g2, nn2, hroot, hu2⟩ := tip_presented t p hp hu hnn hs
  rw [← hpT] at ST g2 nn2 hroot hu2
  obtain ⟨b, hbK, hdist, hrb, hrT⟩ := midpointCut_half cand t' h hc hL hpos hu2 hroot g2 nn2
  obtain ⟨htips, hT0, _, _, _⟩ := tip_presentation hroot hu2
  have hT0t : cand.tT.name ∈ t.tipNames := ST.tips.mem_iff.1 (by rw [htips]; simp)
  have hbt : b ∈ t.tipNames := ST.tips.mem_iff.1 (by rw [htips]; simp [hbK])
  have hne : cand.tT.name ≠ b := fun h0 => hT0 (h0 ▸ hbK)
  have hdt : t.dist cand.tT.name b = cand.len := by rw [← ST.dist _ _ hT0t hbt]; exact hdist
  -- no two tips are farther apart: present the tree at the first of them
  have hmax : ∀ x ∈ t.tipNames, ∀ y ∈ t.tipNames, x ≠ y → t.dist x y ≤ cand.len := by
    intro x hx y hy hxy
    obtain ⟨q, hq, hqn⟩ := tipPath_cover (unroot t) x ((unroot_tipNames_perm t).mem_iff.2 hx)
    obtain ⟨STx, _, nnx, hrx, hux⟩ := tip_presented t q hq hu hnn hs
    obtain ⟨htx, hx0, hnx, hlx, hsx⟩ := tip_presentation hrx hux
    rw [← STx.dist x y hx hy]
    have hyK : y ∈ leavesL (rerootP (unroot t) q none []).1.kids := by
      have := STx.tips.mem_iff.2 hy
      rw [htx, hqn] at this
      exact (List.mem_cons.1 this).resolve_left (fun h0 => hxy h0.symm)
    have hb1 := mlp_bound (rerootP (unroot t) q none []).1 (by rw [hlx]; exact hnx)
      (by rw [hsx]; exact nnx) y (by rw [hlx]; exact hyK)
    unfold T.dist T.splits
    rw [← hqn, distW_left_out _ _ _ _ (out_of_subL _ _ hx0)]
    rw [hsx] at hb1
    exact Rat.le_trans hb1 (hmaxc q hq)
  have hdiam := diam_of_max t cand.len hpos _ b hT0t hbt hne hdt hmax
  -- the Spec predicate
  unfold halfwayOK
  simp only [Bool.and_eq_true, beq_iff_eq, List.any_eq_true, bne_iff_ne, ne_eq]
  refine ⟨hk2, cand.tT.name, hT0t, b, hbt, ⟨⟨⟨hne, ?_⟩, ?_⟩, ?_⟩⟩
  · rw [hdiam, hsame.dist _ _ hT0t hbt]; exact hdt
  · rw [hdiam]; exact hrT
  · rw [hdiam]; exact hrb

theorem allLens_iff (t : T) : allLens t = true ↔ NonNeg t.splits := by
  simp only [allLens, T.edges, List.all_eq_true, List.mem_map, decide_eq_true_eq, NonNeg, ge_iff_le]
  constructor
  · intro h s hs; exact h s.e ⟨s, hs, rfl⟩
  · rintro h e ⟨s, hs, rfl⟩; exact h s hs

end Gotree.C05

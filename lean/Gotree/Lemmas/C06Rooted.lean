/-
  C06 — the rooted view: the oriented effect of pruning on the split list (`IndR`: no branch is ever
  replaced by its complement) keeps the kept tips below every branch and shifts the depths of the kept
  tips by a common offset (`RootedEff`), which is what clause 7 (`rootedOK`) asks.  Core Lean only.
-/
import Gotree.Lemmas.C06Data

namespace Gotree.C06
open Gotree Gotree.C14

/-- what the rooted clauses need: branches correspond with the SAME kept tips below, and the
    depth of the kept tips changes by a common offset -/
structure RootedEff (K : List String) (L L' : List SplitE) : Prop where
  back : ∀ s' ∈ L', ∃ s ∈ L, ∀ a ∈ K, (a ∈ s'.below ↔ a ∈ s.below)
  fwd : ∀ s ∈ L, (∃ a ∈ K, a ∈ s.below) → (∃ b ∈ K, b ∉ s.below) →
    ∃ s' ∈ L', ∀ a ∈ K, (a ∈ s'.below ↔ a ∈ s.below)
  depth : LensGood L → ∀ a b, a ∈ K → b ∈ K →
    belowW EdgeD.lenOr0 L' a - belowW EdgeD.lenOr0 L' b = belowW EdgeD.lenOr0 L a - belowW EdgeD.lenOr0 L b

theorem belowW_single (s : SplitE) (a : String) :
    belowW EdgeD.lenOr0 [s] a = if a ∈ s.below then s.e.lenOr0 else 0 := by
  simp [belowW_cons, belowW_nil, Rat.add_zero]

theorem indR_rootedEff {K : List String} {L L' : List SplitE} (h : IndR K L L') : RootedEff K L L' := by
  induction h with
  | refl L =>
    exact ⟨fun s hs => ⟨s, hs, fun _ _ => Iff.rfl⟩, fun s hs _ _ => ⟨s, hs, fun _ _ => Iff.rfl⟩,
      fun _ _ _ _ _ => rfl⟩
  | trans g1 _ ih1 ih2 =>
    refine ⟨fun s'' hs'' => ?_, fun s hs h1 h2 => ?_, fun hl a b ha hb => ?_⟩
    · obtain ⟨s', hs', e1⟩ := ih2.back s'' hs''
      obtain ⟨s, hs, e2⟩ := ih1.back s' hs'
      exact ⟨s, hs, fun a ha => (e1 a ha).trans (e2 a ha)⟩
    · obtain ⟨s', hs', e1⟩ := ih1.fwd s hs h1 h2
      obtain ⟨a, ha, hma⟩ := h1
      obtain ⟨b, hb, hmb⟩ := h2
      obtain ⟨s'', hs'', e2⟩ := ih2.fwd s' hs' ⟨a, ha, (e1 a ha).2 hma⟩ ⟨b, hb, fun h => hmb ((e1 b hb).1 h)⟩
      exact ⟨s'', hs'', fun c hc => (e2 c hc).trans (e1 c hc)⟩
    · rw [ih2.depth ((ind_rootEff g1.toInd).lens hl) a b ha hb, ih1.depth hl a b ha hb]
  | @append A A' B B' _ _ ih1 ih2 =>
    refine ⟨fun s' hs' => ?_, fun s hs h1 h2 => ?_, fun hl a b ha hb => ?_⟩
    · rcases List.mem_append.1 hs' with m | m
      · obtain ⟨s, hs, e⟩ := ih1.back s' m; exact ⟨s, List.mem_append_left _ hs, e⟩
      · obtain ⟨s, hs, e⟩ := ih2.back s' m; exact ⟨s, List.mem_append_right _ hs, e⟩
    · rcases List.mem_append.1 hs with m | m
      · obtain ⟨s', hs', e⟩ := ih1.fwd s m h1 h2; exact ⟨s', List.mem_append_left _ hs', e⟩
      · obtain ⟨s', hs', e⟩ := ih2.fwd s m h1 h2; exact ⟨s', List.mem_append_right _ hs', e⟩
    · have d1 := ih1.depth (fun s hs => hl s (List.mem_append_left _ hs)) a b ha hb
      have d2 := ih2.depth (fun s hs => hl s (List.mem_append_right _ hs)) a b ha hb
      simp only [belowW_append]
      grind
  | swap A B =>
    refine ⟨fun s' hs' => ⟨s', List.mem_append.2 (List.mem_append.1 hs').symm, fun _ _ => Iff.rfl⟩,
      fun s hs _ _ => ⟨s, List.mem_append.2 (List.mem_append.1 hs).symm, fun _ _ => Iff.rfl⟩, fun _ a b _ _ => ?_⟩
    simp only [belowW_append]; grind
  | single s s' _ _ h he =>
    refine ⟨fun t ht => ?_, fun t ht _ _ => ?_, fun _ a b ha hb => ?_⟩
    · simp at ht; subst ht; exact ⟨s, by simp, fun a ha => (h a ha).symm⟩
    · simp at ht; subst ht; exact ⟨s', by simp, fun a ha => (h a ha).symm⟩
    · simp only [belowW_single, he, ← h a ha, ← h b hb]
  | drop A h =>
    refine ⟨fun t ht => (by cases ht), fun s hs h1 _ => ?_, fun _ a b ha hb => ?_⟩
    · obtain ⟨a, ha, hm⟩ := h1; exact absurd hm (h s hs a ha)
    · rw [belowW_zero _ A a (fun s hs => h s hs a ha), belowW_zero _ A b (fun s hs => h s hs b hb)]; rfl
  | dropTop hc _ h =>
    refine ⟨fun t ht => (by cases ht), fun s hs _ h2 => ?_, fun _ a b ha hb => ?_⟩
    · obtain ⟨b, hb, hm⟩ := h2
      simp at hs; subst hs; exact absurd (h b hb) hm
    · simp only [belowW_single, belowW_nil, h a ha, h b hb, if_true]; grind
  | fuse s1 s2 s' _ _ _ h1 h2 b _ he =>
    refine ⟨fun t ht => ?_, fun t ht _ _ => ?_, fun hl a c ha hc => ?_⟩
    · simp at ht; subst ht; exact ⟨s1, by simp, fun a ha => (h1 a ha).symm⟩
    · simp at ht
      rcases ht with rfl | rfl
      · exact ⟨s', by simp, fun a ha => (h1 a ha).symm⟩
      · exact ⟨s', by simp, fun a ha => (h2 a ha).symm⟩
    · have hw : s'.e.lenOr0 = s1.e.lenOr0 + s2.e.lenOr0 := fuse_lenOr0_or (hl s1 (by simp)) (hl s2 (by simp)) he
      simp only [belowW_cons, belowW_nil, h1 a ha, h2 a ha, h1 c hc, h2 c hc, hw]
      by_cases m1 : a ∈ s'.below <;> by_cases m2 : c ∈ s'.below <;> simp [m1, m2] <;> grind

theorem rootDist_eq_belowW (t : T) (a : String) : t.rootDist a = belowW EdgeD.lenOr0 t.splits a := rfl

theorem rootedOK_of_rootedEff (t t' : T) (S : List String) (rev : Bool) (hT : t.tipNames.Nodup)
    (hperm : t'.tipNames.Perm (kept t S rev)) (R : RootedEff (kept t S rev) t.splits t'.splits)
    (hl : lensOK t = true → LensGood t.splits) : rootedOK t S rev t' = true := by
  have hK : (kept t S rev).Nodup := hT.filter _
  have hnd' : t'.tipNames.Nodup := hperm.nodup_iff.2 hK
  have hk : t.tipNames.filter (kept t S rev).contains = kept t S rev := filter_filter_contains _ _
  have hndall := nd_all_any t' _ hnd' hperm
  -- the clade of a branch of t' and of the corresponding branch of t
  have key : ∀ s ∈ t.splits, ∀ s' ∈ t'.splits, (∀ a ∈ kept t S rev, (a ∈ s'.below ↔ a ∈ s.below)) →
      sortS s'.below = sortS (s.below.filter (kept t S rev).contains) := by
    intro s hs s' hs' e
    have hsn := T.below_nodup hT s hs
    have hsn' := T.below_nodup hnd' s' hs'
    have hsub' : ∀ a ∈ s'.below, a ∈ kept t S rev := by
      intro a ha
      apply hperm.mem_iff.1
      have := below_subL t'.kids s' hs' a ha
      unfold T.tipNames; exact List.mem_append_right _ this
    apply sortS_congr
    apply perm_of_nodup_mem hsn' (hsn.filter _)
    intro x
    simp only [List.mem_filter, List.contains_eq_mem, decide_eq_true_eq]
    exact ⟨fun h => ⟨(e x (hsub' x h)).1 h, hsub' x h⟩, fun h => (e x h.2).2 h.1⟩
  simp only [rootedOK, Bool.or_eq_true, bne_iff_ne, ne_eq, Bool.and_eq_true, Bool.not_eq_true']
  right
  refine ⟨?_, ?_⟩
  · simp only [sameMembers, Bool.and_eq_true, List.all_eq_true, List.contains_eq_mem, decide_eq_true_eq]
    constructor
    · intro c hc
      simp only [clades, List.mem_map] at hc
      obtain ⟨s', hs', rfl⟩ := hc
      obtain ⟨s, hs, e⟩ := R.back s' hs'
      have hnd1 := hndall s' hs'
      rw [nd_eq] at hnd1
      simp only [ne_eq, decide_eq_true_eq] at hnd1
      have hsn' := T.below_nodup hnd' s' hs'
      have hsn := T.below_nodup hT s hs
      have hlen : (sortS (s.below.filter (kept t S rev).contains)).length = (s'.below.filter (kept t S rev).contains).length := by
        rw [(sortS_perm _).length_eq]
        exact (restr_perm hsn hsn' fun a ha => (e a ha).symm).length_eq
      simp only [restrictClades, hk, List.mem_filter, List.mem_map, Bool.and_eq_true, Bool.not_eq_true',
        bne_iff_ne, ne_eq, List.isEmpty_iff]
      refine ⟨⟨s, hs, (key s hs s' hs' e).symm⟩, ?_, ?_⟩
      · rw [List.isEmpty_eq_false_iff, key s hs s' hs' e]
        intro h0
        rw [h0] at hlen
        exact hnd1.1 (by simpa using hlen.symm)
      · rw [key s hs s' hs' e, hlen]; exact hnd1.2
    · intro c hc
      simp only [restrictClades, hk, List.mem_filter, List.mem_map, Bool.and_eq_true, Bool.not_eq_true',
        bne_iff_ne, ne_eq, List.isEmpty_iff] at hc
      obtain ⟨⟨s, hs, rfl⟩, hne, hlen⟩ := hc
      have hsn := T.below_nodup hT s hs
      have hne' : s.below.filter (kept t S rev).contains ≠ [] := by
        intro h0; rw [h0] at hne; simp [sortS] at hne
      obtain ⟨x, hx⟩ := List.exists_mem_of_ne_nil _ hne'
      simp only [List.mem_filter, List.contains_eq_mem, decide_eq_true_eq] at hx
      have hlen' : (s.below.filter (kept t S rev).contains).length ≠ (kept t S rev).length := by
        rw [← (sortS_perm _).length_eq]; exact hlen
      obtain ⟨y, hy, hym⟩ := exists_out_of_short hK hsn hlen'
      obtain ⟨s', hs', e⟩ := R.fwd s hs ⟨x, hx.2, hx.1⟩ ⟨y, hy, hym⟩
      simp only [clades, List.mem_map]
      exact ⟨s', hs', key s hs s' hs' e⟩
  · by_cases hlk : lensOK t = true
    · right
      simp only [List.all_eq_true, beq_iff_eq]
      intro a ha b hb
      rw [rootDist_eq_belowW, rootDist_eq_belowW, rootDist_eq_belowW, rootDist_eq_belowW]
      exact R.depth (hl hlk) a b ha hb
    · left; simpa using hlk

end Gotree.C06

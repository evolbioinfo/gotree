/-
  C09 — bridge for the lengths: the Spec's length sum of a canonical side over
  `T.usplitsAll` is the model's `lenM` of the bitset (branch lists of the normal forms),
  when every length is absent or non-negative.  The Spec fuses the branches of one
  bipartition with `fuseLen` (in `T.usplitsAll`), the code adds them with the `max(0,·)`
  rule in `RemoveSingleNodes` / `UnRoot`; for such lengths both give "absent if all are
  absent, else the sum of the present ones" (`summ`).
-/
import Gotree.Lemmas.C09Bridge

namespace Gotree.C09
open Gotree

/-! ## what the `insertU` fold stores for one side -/

/-- the lengths stored for side `c` -/
def lensOf (c : List String) (l : List USplit) : List Rat := (l.filter (·.side == c)).map (·.len)

/-- the fused length of a non-empty list of lengths, `[]` for none -/
def fuseAll : List Rat → List Rat
  | [] => []
  | a :: r => [r.foldl fuseLen a]

theorem lensOf_insertU_ne (c : List String) (s : USplit) (hs : (s.side == c) = false) :
    ∀ l : List USplit, lensOf c (insertU s l) = lensOf c l
  | [] => by simp [insertU, lensOf, hs]
  | x :: r => by
    unfold insertU
    by_cases h : (x.side == s.side) = true
    · have hx : x.side = s.side := by simpa using h
      have hxc : (x.side == c) = false := by rw [hx]; exact hs
      simp [h, lensOf, hxc]
    · have ih := lensOf_insertU_ne c s hs r
      simp only [h, Bool.false_eq_true, if_false]
      unfold lensOf at ih ⊢
      simp only [List.filter_cons]
      split <;> simp [ih]

theorem lensOf_insertU_eq (c : List String) (s : USplit) (hs : s.side = c) :
    ∀ l : List USplit, (l.map (·.side)).Nodup →
      lensOf c (insertU s l) = match lensOf c l with
        | [] => [s.len]
        | a :: r => fuseLen a s.len :: r
  | [], _ => by simp [insertU, lensOf, hs]
  | x :: r, hnd => by
    simp only [List.map_cons, List.nodup_cons] at hnd
    unfold insertU
    by_cases h : (x.side == s.side) = true
    · have hx : x.side = s.side := by simpa using h
      have hxc : (x.side == c) = true := by rw [hx, hs]; simp
      -- no other entry of r has this side
      have hr : lensOf c r = [] := by
        unfold lensOf
        rw [List.map_eq_nil_iff, List.filter_eq_nil_iff]
        intro y hy hyc
        have : y.side = x.side := by rw [hx, hs]; simpa using hyc
        exact hnd.1 (List.mem_map.2 ⟨y, hy, this⟩)
      simp only [h, if_true]
      have : lensOf c (x :: r) = x.len :: lensOf c r := by simp [lensOf, hxc]
      rw [this, hr]
      simp [lensOf, hxc] at hr ⊢
      exact hr
    · have hxc : (x.side == c) = false := by
        rw [← hs]; simpa using h
      have ih := lensOf_insertU_eq c s hs r hnd.2
      simp only [h, Bool.false_eq_true, if_false]
      have e1 : lensOf c (x :: insertU s r) = lensOf c (insertU s r) := by simp [lensOf, hxc]
      have e2 : lensOf c (x :: r) = lensOf c r := by simp [lensOf, hxc]
      rw [e1, e2, ih]

theorem sides_insertU_nodup (s : USplit) : ∀ l : List USplit, (l.map (·.side)).Nodup →
    ((insertU s l).map (·.side)).Nodup
  | [], _ => by simp [insertU]
  | x :: r, hnd => by
    simp only [List.map_cons, List.nodup_cons] at hnd
    unfold insertU
    by_cases h : (x.side == s.side) = true
    · simp only [h, if_true, List.map_cons, List.nodup_cons]; exact hnd
    · simp only [h, Bool.false_eq_true, if_false, List.map_cons, List.nodup_cons]
      refine ⟨?_, sides_insertU_nodup s r hnd.2⟩
      intro hm
      rcases (mem_sides_insertU s r x.side).1 hm with h1 | h1
      · exact h (by simp [h1])
      · exact hnd.1 h1

/-- the fold over a list of candidates: one entry per side, carrying the fused length -/
theorem lensOf_foldl (c : List String) : ∀ (L : List USplit) (acc : List USplit),
    (acc.map (·.side)).Nodup →
    ((L.foldl (fun acc s => insertU s acc) acc).map (·.side)).Nodup ∧
    lensOf c (L.foldl (fun acc s => insertU s acc) acc) =
      match lensOf c acc with
      | [] => fuseAll (lensOf c L)
      | a :: r => (lensOf c L).foldl fuseLen a :: r
  | [], acc, hnd => by
    refine ⟨hnd, ?_⟩
    simp only [List.foldl_nil]
    cases h : lensOf c acc with
    | nil => simp [lensOf, fuseAll]
    | cons a r => simp [lensOf]
  | s :: L, acc, hnd => by
    have hnd' := sides_insertU_nodup s acc hnd
    obtain ⟨i1, i2⟩ := lensOf_foldl c L (insertU s acc) hnd'
    refine ⟨i1, ?_⟩
    rw [List.foldl_cons, i2]
    by_cases hs : (s.side == c) = true
    · have hsc : s.side = c := by simpa using hs
      rw [lensOf_insertU_eq c s hsc acc hnd]
      have hL : lensOf c (s :: L) = s.len :: lensOf c L := by simp [lensOf, hs]
      rw [hL]
      cases h : lensOf c acc with
      | nil => simp [fuseAll]
      | cons a r => simp
    · have hsf : (s.side == c) = false := by simpa using hs
      rw [lensOf_insertU_ne c s hsf acc]
      have hL : lensOf c (s :: L) = lensOf c L := by simp [lensOf, hsf]
      rw [hL]

/-! ## one tree -/

/-- "the branch has the bipartition of `key`" -/
def matchP (univ key : List String) (s : SplitE) : Bool := eqc univ key (bits univ s.below)

theorem lsum_splits (univ : List String) (u : T) (key : List String) :
    lsum univ (edgeKeys univ u) key = ((u.splits.filter (matchP univ key)).map (·.e.len)).sum := by
  unfold lsum edgeKeys matchP
  rw [List.filter_map, List.map_map]
  rfl

theorem cnt_splits (univ : List String) (u : T) (key : List String) :
    cnt univ (edgeKeys univ u) key = (u.splits.filter (matchP univ key)).length := by
  unfold cnt edgeKeys matchP
  rw [List.countP_map, List.countP_eq_length_filter]
  rfl

theorem filter_le_one (univ : List String) (u : T) (key : List String) (hk : IsKey univ key)
    (hd : distinctKeys univ u = true) : (u.splits.filter (matchP univ key)).length ≤ 1 := by
  rw [← cnt_splits]
  exact pairwiseNe_cnt univ key hk (edgeKeys univ u) (edgeKeys_isKey univ u) hd


theorem specLen_eq (t : T) (c : List String) :
    ((t.usplitsAll.filter (·.side == c)).map (·.len)).sum =
      (fuseAll ((t.splits.filter (fun s => canonSide t.tipNames s.below == c)).map (·.e.len))).sum := by
  unfold T.usplitsAll
  simp only
  have hperm := List.mergeSort_perm
    (t.splits.foldl (fun acc s => insertU ⟨canonSide t.tipNames s.below, s.e.len, s.e.sup⟩ acc) [])
    (fun a b => decide (toString a.side ≤ toString b.side))
  rw [sumR_perm ((hperm.filter _).map _)]
  have hfold : t.splits.foldl (fun acc s => insertU ⟨canonSide t.tipNames s.below, s.e.len, s.e.sup⟩ acc) [] =
      (t.splits.map fun s => (⟨canonSide t.tipNames s.below, s.e.len, s.e.sup⟩ : USplit)).foldl
        (fun acc s => insertU s acc) [] := by
    rw [List.foldl_map]
  rw [hfold]
  have := (lensOf_foldl c (t.splits.map fun s => (⟨canonSide t.tipNames s.below, s.e.len, s.e.sup⟩ : USplit)) []
    (by simp)).2
  unfold lensOf at this
  rw [this]
  simp only [List.filter_nil, List.map_nil, List.filter_map, List.map_map]
  rfl

/-- the two root branches of a rooted tree have complementary bitsets -/
theorem root_sides_eqc (univ b1 b2 : List String) (hnd : (b1 ++ b2).Nodup)
    (hu : ∀ a, a ∈ univ ↔ a ∈ b1 ++ b2) : Eqc univ (bits univ b1) (bits univ b2) :=
  (eqc_bits_iff univ b1 b2).2 (SameSide.of_mem_iff (fun a => (hu a).symm) (sameSide_append hnd))

/-! ## summaries of lists of lengths -/

/-- a length that is absent or non-negative -/
def LenOK (x : Rat) : Prop := x = NIL ∨ 0 ≤ x

/-- what matters of a list of lengths: are they all absent, and the sum of the present ones -/
def summ (L : List Rat) : Bool × Rat := (L.all (· == NIL), (L.map max0).sum)

/-- same emptiness and same summary -/
def Eq3 (L L' : List Rat) : Prop := (L = [] ↔ L' = []) ∧ summ L = summ L'

theorem Eq3.refl (L : List Rat) : Eq3 L L := ⟨Iff.rfl, rfl⟩
theorem Eq3.symm {L L' : List Rat} (h : Eq3 L L') : Eq3 L' L := ⟨h.1.symm, h.2.symm⟩
theorem Eq3.trans {a b c : List Rat} (h1 : Eq3 a b) (h2 : Eq3 b c) : Eq3 a c :=
  ⟨h1.1.trans h2.1, h1.2.trans h2.2⟩

theorem summ_append (a b : List Rat) : summ (a ++ b) = ((summ a).1 && (summ b).1, (summ a).2 + (summ b).2) := by
  unfold summ
  simp [List.all_append]

theorem Eq3.append {a a' b b' : List Rat} (h1 : Eq3 a a') (h2 : Eq3 b b') : Eq3 (a ++ b) (a' ++ b') := by
  refine ⟨?_, ?_⟩
  · simp only [List.append_eq_nil_iff]; rw [h1.1, h2.1]
  · rw [summ_append, summ_append, h1.2, h2.2]

theorem max0_nil : max0 NIL = 0 := by unfold max0 NIL; decide +kernel

theorem max0_of_nonneg {x : Rat} (h : 0 ≤ x) : max0 x = x := by
  unfold max0; simp [Rat.not_lt.2 h]

theorem max0_nonneg (x : Rat) : 0 ≤ max0 x := by
  unfold max0
  split
  · exact Rat.le_refl
  · rename_i h; exact Rat.not_lt.1 h

theorem nil_neg : NIL < 0 := by unfold NIL; decide +kernel

theorem ne_nil_of_nonneg {x : Rat} (h : 0 ≤ x) : (x == NIL) = false := by
  rw [beq_eq_false_iff_ne]
  intro he; rw [he] at h
  exact absurd nil_neg (Rat.not_lt.2 h)

/-- the code's rule for adding two lengths (`UnRoot`, `RemoveSingleNodes`) -/
def addLen (a b : Rat) : Rat := if a != NIL || b != NIL then max0 a + max0 b else a

theorem addLen_ok {a b : Rat} (ha : LenOK a) (_hb : LenOK b) : LenOK (addLen a b) := by
  unfold addLen
  split
  · exact Or.inr (Rat.add_nonneg (max0_nonneg a) (max0_nonneg b))
  · exact ha

/-- two lengths and their sum have the same summary -/
theorem summ_addLen {a b : Rat} (ha : LenOK a) (hb : LenOK b) : summ [addLen a b] = summ [a, b] := by
  unfold summ addLen
  rcases ha with ha | ha <;> rcases hb with hb | hb
  · subst ha; subst hb; simp [max0_nil, Rat.add_zero]
  · subst ha
    have := ne_nil_of_nonneg hb
    have hs : 0 ≤ max0 NIL + max0 b := Rat.add_nonneg (max0_nonneg _) (max0_nonneg _)
    simp [this, bne, ne_nil_of_nonneg hs, max0_of_nonneg hs, Rat.add_zero]
  · subst hb
    have := ne_nil_of_nonneg ha
    have hs : 0 ≤ max0 a + max0 NIL := Rat.add_nonneg (max0_nonneg _) (max0_nonneg _)
    simp [this, bne, ne_nil_of_nonneg hs, max0_of_nonneg hs, Rat.add_zero]
  · have h1 := ne_nil_of_nonneg ha
    have h2 := ne_nil_of_nonneg hb
    have hs : 0 ≤ max0 a + max0 b := Rat.add_nonneg (max0_nonneg _) (max0_nonneg _)
    simp [h1, h2, bne, ne_nil_of_nonneg hs, max0_of_nonneg hs, Rat.add_zero]

/-- the value the Spec's fold gives to a non-empty list of lengths -/
def fz : List Rat → Rat
  | [] => 0
  | a :: r => r.foldl fuseLen a

/-- the value determined by the summary -/
def valOf (s : Bool × Rat) : Rat := if s.1 then NIL else s.2

theorem fuseLen_valOf (L : List Rat) (hL : L ≠ []) (b : Rat) (hb : LenOK b) :
    fuseLen (valOf (summ L)) b = valOf (summ (L ++ [b])) := by
  have hsum : 0 ≤ (L.map max0).sum := by
    clear hL
    induction L with
    | nil => exact Rat.le_refl
    | cons x L ih =>
      rw [List.map_cons, List.sum_cons]
      exact Rat.add_nonneg (max0_nonneg x) ih
  rw [summ_append]
  unfold valOf fuseLen
  show (if ((if (summ L).1 = true then NIL else (summ L).2) == NIL && b == NIL) = true then NIL else _) = _
  cases hall : (summ L).1
  · -- some length present in L: the value is the sum, which is ≥ 0
    have hne' : ¬ ((L.map max0).sum = NIL) := by
      have := ne_nil_of_nonneg hsum; simpa using this
    simp only [Bool.false_eq_true, if_false, Bool.false_and, summ, List.all_cons, List.all_nil,
      Bool.and_true, List.map_cons, List.map_nil, List.sum_cons, List.sum_nil, Rat.add_zero]
    rcases hb with hb | hb
    · subst hb; simp [max0_nil, hne', Rat.add_zero]
    · simp [ne_nil_of_nonneg hb, max0_of_nonneg hb, hne']
  · simp only [if_true, beq_self_eq_true, Bool.true_and, summ, List.all_cons, List.all_nil, Bool.and_true,
      List.map_cons, List.map_nil, List.sum_cons, List.sum_nil, Rat.add_zero]
    -- all absent in L: the sum of the present ones is 0
    have hz : (summ L).2 = 0 := by
      have : ∀ x ∈ L, (x == NIL) = true := by
        have := hall; unfold summ at this; simpa [List.all_eq_true] using this
      show (L.map max0).sum = 0
      clear hsum hall hL
      induction L with
      | nil => rfl
      | cons x L ih =>
        have hx : x = NIL := by simpa using this x (by simp)
        simp only [List.map_cons, List.sum_cons, hx, max0_nil, Rat.zero_add]
        exact ih (fun y hy => this y (by simp [hy]))
    have hz' : (L.map max0).sum = 0 := hz
    rcases hb with hb | hb
    · subst hb; simp
    · simp [ne_nil_of_nonneg hb, max0_of_nonneg hb, hz', Rat.zero_add]

theorem valOf_single (a : Rat) (ha : LenOK a) : valOf (summ [a]) = a := by
  unfold valOf summ
  rcases ha with ha | ha
  · subst ha; simp
  · simp [ne_nil_of_nonneg ha, max0_of_nonneg ha, Rat.add_zero]

theorem foldl_fuseLen (r : List Rat) : ∀ (L : List Rat), L ≠ [] → (∀ x ∈ r, LenOK x) →
    r.foldl fuseLen (valOf (summ L)) = valOf (summ (L ++ r)) := by
  induction r with
  | nil => intro L _ _; simp
  | cons b r ih =>
    intro L hL hr
    rw [List.foldl_cons, fuseLen_valOf L hL b (hr b (by simp)), ih (L ++ [b]) (by simp) (fun x hx => hr x (by simp [hx]))]
    simp

/-- the Spec's fold only depends on the summary -/
theorem fz_eq (L : List Rat) (hL : ∀ x ∈ L, LenOK x) : fz L = if L = [] then 0 else valOf (summ L) := by
  cases L with
  | nil => rfl
  | cons a r =>
    simp only [fz, List.cons_ne_nil, if_false]
    have := foldl_fuseLen r [a] (by simp) (fun x hx => hL x (by simp [hx]))
    rw [valOf_single a (hL a (by simp))] at this
    rw [this]; rfl

theorem fz_of_eq3 {L L' : List Rat} (h : Eq3 L L') (hL : ∀ x ∈ L, LenOK x) (hL' : ∀ x ∈ L', LenOK x) :
    fz L = fz L' := by
  rw [fz_eq L hL, fz_eq L' hL', h.2]
  by_cases hl : L = []
  · simp [hl, h.1.1 hl]
  · have : L' ≠ [] := fun h' => hl (h.1.2 h')
    simp [hl, this]

theorem fuseAll_sum (L : List Rat) : (fuseAll L).sum = fz L := by
  cases L with
  | nil => rfl
  | cons a r => simp [fuseAll, fz, Rat.add_zero]

theorem fz_small (L : List Rat) (h : L.length ≤ 1) : fz L = L.sum := by
  match L, h with
  | [], _ => rfl
  | [a], _ => simp [fz, Rat.add_zero]

/-! ## the lengths of the branches with one bipartition -/

/-- the lengths of the entries selected by `P`, in order -/
def agg (P : SplitE → Bool) (S : List SplitE) : List Rat := (S.filter P).map (·.e.len)

def BelowOnly (P : SplitE → Bool) : Prop := ∀ s s' : SplitE, s.below = s'.below → P s = P s'

def LensOKL (S : List SplitE) : Prop := ∀ s ∈ S, LenOK s.e.len

theorem agg_append (P : SplitE → Bool) (a b : List SplitE) : agg P (a ++ b) = agg P a ++ agg P b := by
  simp [agg, List.filter_append]

theorem agg_cons (P : SplitE → Bool) (s : SplitE) (r : List SplitE) :
    agg P (s :: r) = (if P s then [s.e.len] else []) ++ agg P r := by
  unfold agg
  by_cases h : P s = true <;> simp [h]

theorem summ_perm {a b : List Rat} (h : a.Perm b) : summ a = summ b := by
  unfold summ
  have h1 : a.all (· == NIL) = b.all (· == NIL) := by
    rw [Bool.eq_iff_iff]
    simp only [List.all_eq_true]
    exact ⟨fun h' x hx => h' x (h.mem_iff.2 hx), fun h' x hx => h' x (h.mem_iff.1 hx)⟩
  rw [h1, sumR_perm (h.map _)]

theorem Eq3.of_perm {a b : List Rat} (h : a.Perm b) : Eq3 a b :=
  ⟨⟨fun e => by rw [e] at h; exact h.symm.eq_nil, fun e => by rw [e] at h; exact h.eq_nil⟩, summ_perm h⟩

theorem Eq3.of_summ {a b : List Rat} (ha : a ≠ []) (hb : b ≠ []) (h : summ a = summ b) : Eq3 a b :=
  ⟨⟨fun e => absurd e ha, fun e => absurd e hb⟩, h⟩

/-- the branch `e` over a removed single-child node and the branch `ec` below it, against the fused branch -/
theorem eq3_fuse (e ec : Rat) (he : LenOK e) (hec : LenOK ec) (R : List Rat) :
    Eq3 ([e] ++ ([ec] ++ R)) ([addLen ec e] ++ R) := by
  have h1 : Eq3 [e, ec] [addLen ec e] := by
    apply Eq3.of_summ (by simp) (by simp)
    rw [summ_addLen hec he]
    exact summ_perm (List.Perm.swap ec e [])
  have := Eq3.append h1 (Eq3.refl R)
  simpa using this

/-- two lengths of a list replaced by their sum (`addLen`), wherever they stand -/
theorem eq3_fuse_perm {a b : Rat} (ha : LenOK a) (hb : LenOK b) {L L' R : List Rat}
    (h : L.Perm (a :: b :: R)) (h' : L'.Perm (addLen a b :: R)) : Eq3 L L' :=
  (Eq3.of_perm (h.trans (List.Perm.swap b a R))).trans
    ((eq3_fuse b a hb ha R).trans (Eq3.of_perm h'.symm))

mutual
theorem rsT_agg (P : SplitE → Bool) (hP : BelowOnly P) (e : EdgeD) : ∀ t : T,
    LenOK e.len → LensOKL t.splitsBelow →
    Eq3 (agg P (blk (e, t))) (agg P (blk (removeSinglesT e t))) ∧ LensOKL (blk (removeSinglesT e t))
  | .node d p k => by
    intro he hk
    obtain ⟨hl, _, hlen⟩ := removeSinglesL_spec k
    have ih := rsL_agg P hP k hk
    cases k with
    | nil =>
      show Eq3 (agg P (blk (e, T.node d p []))) (agg P (blk (e, T.node d p []))) ∧ LensOKL (blk (e, T.node d p []))
      refine ⟨Eq3.refl _, ?_⟩
      intro s hs
      simp only [blk, T.splitsBelow, splitsL, List.mem_singleton] at hs
      subst hs; exact he
    | cons a b =>
      have hk0 : (a :: b) ≠ [] := by simp
      have hk' : removeSinglesL (a :: b) ≠ [] := by
        intro h; rw [h] at hlen; simp at hlen
      unfold removeSinglesT
      rw [blk_node _ _ _ _ hk0]
      split
      · rename_i ec c heq
        rw [heq] at hl ih
        rw [splitsL_single] at ih
        have hcl : c.leaves = leavesL (a :: b) := (leavesL_singleton (ec, c)).symm.trans hl
        have hec : LenOK ec.len := ih.2 ⟨c.leaves, ec, c.isLeaf⟩ List.mem_cons_self
        unfold blk at ih ⊢
        simp only at ih ⊢
        have hp1 : P ⟨leavesL (a :: b), e, false⟩ = P ⟨c.leaves, ec, c.isLeaf⟩ := hP _ _ hcl.symm
        have hp2 : ∀ ee : EdgeD, P ⟨c.leaves, ee, c.isLeaf⟩ = P ⟨c.leaves, ec, c.isLeaf⟩ := fun ee => hP _ _ rfl
        refine ⟨?_, ?_⟩
        · rw [agg_cons, agg_cons, hp1]
          simp only [hp2]
          rw [agg_cons] at ih
          by_cases hp : P ⟨c.leaves, ec, c.isLeaf⟩ = true
          · simp only [hp, if_true] at ih ⊢
            have h1 : Eq3 ([e.len] ++ agg P (splitsL (a :: b))) ([e.len] ++ ([ec.len] ++ agg P c.splitsBelow)) :=
              Eq3.append (Eq3.refl _) ih.1
            have h2 := eq3_fuse e.len ec.len he hec (agg P c.splitsBelow)
            unfold addLen at h2
            exact h1.trans h2
          · simp only [hp, Bool.false_eq_true, if_false, List.nil_append] at ih ⊢
            exact ih.1
        · intro s hs
          rcases List.mem_cons.1 hs with rfl | hs
          · exact addLen_ok hec he
          · exact ih.2 s (List.mem_cons_of_mem _ hs)
      · rw [blk_node _ _ _ _ hk']
        have hp : P ⟨leavesL (a :: b), e, false⟩ = P ⟨leavesL (removeSinglesL (a :: b)), e, false⟩ :=
          hP _ _ hl.symm
        refine ⟨?_, ?_⟩
        · rw [agg_cons, agg_cons, hp]
          exact Eq3.append (Eq3.refl _) ih.1
        · intro s hs
          rcases List.mem_cons.1 hs with rfl | hs
          · exact he
          · exact ih.2 s hs
theorem rsL_agg (P : SplitE → Bool) (hP : BelowOnly P) : ∀ k : Kids, LensOKL (splitsL k) →
    Eq3 (agg P (splitsL k)) (agg P (splitsL (removeSinglesL k))) ∧ LensOKL (splitsL (removeSinglesL k))
  | [] => fun _ => ⟨Eq3.refl _, fun s hs => by simp [removeSinglesL, splitsL] at hs⟩
  | (e, t) :: r => by
    intro hk
    rw [splitsL_cons] at hk
    have he : LenOK e.len := hk ⟨t.leaves, e, t.isLeaf⟩ (List.mem_append_left _ List.mem_cons_self)
    have ht : LensOKL t.splitsBelow := fun s hs =>
      hk s (List.mem_append_left _ (List.mem_cons_of_mem _ hs))
    obtain ⟨h1, h2⟩ := rsT_agg P hP e t he ht
    obtain ⟨i1, i2⟩ := rsL_agg P hP r (fun s hs => hk s (List.mem_append_right _ hs))
    unfold removeSinglesL
    rw [splitsL_cons, splitsL_cons, agg_append, agg_append]
    refine ⟨Eq3.append h1 i1, ?_⟩
    intro s hs
    rcases List.mem_append.1 hs with h | h
    · exact h2 s h
    · exact i2 s h
end

theorem removeSingles_agg (P : SplitE → Bool) (hP : BelowOnly P) (t : T) (hl : LensOKL t.splits) :
    Eq3 (agg P t.splits) (agg P (removeSingles t).splits) ∧ LensOKL (removeSingles t).splits := by
  cases t with
  | node d p k => exact rsL_agg P hP k hl

theorem len3_eq_addLen (e1 e2 : EdgeD) : len3 e1 e2 = addLen e1.len e2.len := by
  unfold len3 addLen
  by_cases h : (e1.len != NIL || e2.len != NIL) = true
  · simp [h]
  · have h1 : e1.len = NIL := by
      simp only [Bool.or_eq_true, bne_iff_ne, ne_eq, not_or, Decidable.not_not] at h; exact h.1
    simp [h1]

/-- `UnRoot`: the two root branches against the fused one -/
theorem unroot_agg (P : SplitE → Bool) (hP : BelowOnly P) (t : T) (hl : LensOKL t.splits)
    (hroot : ∀ (e1 e2 : EdgeD) (n1 n2 : T) (x y : Bool) (d : NodeD) (p : Nat),
      t = .node d p [(e1, n1), (e2, n2)] → P ⟨n1.leaves, e1, x⟩ = P ⟨n2.leaves, e2, y⟩) :
    Eq3 (agg P t.splits) (agg P (unroot t).splits) ∧ LensOKL (unroot t).splits := by
  by_cases h2 : t.kids.length = 2
  · cases t with
    | node d p kids =>
      match kids, h2 with
      | [(e1, .node d1 p1 k1), (e2, .node d2 p2 k2)], _ =>
        have hpr := hroot e1 e2 (.node d1 p1 k1) (.node d2 p2 k2) (T.node d1 p1 k1).isLeaf (T.node d2 p2 k2).isLeaf d p rfl
        rw [splits_rooted] at hl ⊢
        have hl1 : LenOK e1.len := hl _ (List.mem_append_left _ List.mem_cons_self)
        have hl2 : LenOK e2.len := hl _ (List.mem_append_right _ List.mem_cons_self)
        have hS1 : LensOKL (splitsL k1) := fun s hs => hl s (List.mem_append_left _ (List.mem_cons_of_mem _ hs))
        have hS2 : LensOKL (splitsL k2) := fun s hs => hl s (List.mem_append_right _ (List.mem_cons_of_mem _ hs))
        by_cases hk1 : k1 = []
        · subst hk1
          obtain ⟨e3, he3, hun⟩ := unroot_splits_tip d p e1 e2 d1 d2 p1 p2 k2
          rw [hun]
          have hs0 : splitsL ([] : Kids) = [] := rfl
          rw [hs0]
          have hp3 : P ⟨(T.node d1 p1 []).leaves, e3, true⟩ = P ⟨(T.node d1 p1 []).leaves, e1, (T.node d1 p1 []).isLeaf⟩ :=
            hP _ _ rfl
          refine ⟨?_, ?_⟩
          · simp only [agg_append, agg_cons, List.cons_append, List.nil_append]
            rw [hp3, ← hpr]
            have hnil : agg P [] = [] := rfl
            rw [hnil]
            by_cases hp : P ⟨(T.node d1 p1 []).leaves, e1, (T.node d1 p1 []).isLeaf⟩ = true
            · simp only [hp, if_true, List.append_nil, he3, len3_eq_addLen]
              exact eq3_fuse_perm hl1 hl2 (List.Perm.refl _) List.perm_append_comm
            · simp only [hp, Bool.false_eq_true, if_false, List.nil_append, List.append_nil]
              exact Eq3.refl _
          · intro s hs
            rcases List.mem_append.1 hs with h | h
            · exact hS2 s h
            · simp only [List.mem_singleton] at h; subst h
              show LenOK e3.len
              rw [he3, len3_eq_addLen]; exact addLen_ok hl1 hl2
        · obtain ⟨e3, he3, hun⟩ := unroot_splits_inner d p e1 e2 d1 d2 p1 p2 k1 k2 hk1
          rw [hun]
          have hp3 : P ⟨(T.node d2 p2 k2).leaves, e3, (T.node d2 p2 k2).isLeaf⟩ =
              P ⟨(T.node d2 p2 k2).leaves, e2, (T.node d2 p2 k2).isLeaf⟩ := hP _ _ rfl
          refine ⟨?_, ?_⟩
          · simp only [agg_append, agg_cons, List.cons_append]
            rw [hp3, hpr]
            by_cases hp : P ⟨(T.node d2 p2 k2).leaves, e2, (T.node d2 p2 k2).isLeaf⟩ = true
            · simp only [hp, if_true, he3, len3_eq_addLen]
              exact eq3_fuse_perm hl1 hl2 (R := agg P (splitsL k1) ++ agg P (splitsL k2))
                (List.Perm.cons _ List.perm_middle) List.perm_middle
            · simp only [hp, Bool.false_eq_true, if_false, List.nil_append]
              exact Eq3.refl _
          · intro s hs
            rcases List.mem_append.1 hs with h | h
            · exact hS1 s h
            · rcases List.mem_cons.1 h with rfl | h
              · show LenOK e3.len
                rw [he3, len3_eq_addLen]; exact addLen_ok hl1 hl2
              · exact hS2 s h
  · rw [unroot_of_ne2 t h2]
    exact ⟨Eq3.refl _, hl⟩

/-! ## one tree, the collection -/

theorem agg_eq (P : SplitE → Bool) (S : List SplitE) : agg P S = (S.filter P).map (·.e.len) := rfl

/-- one tree (single-child nodes and a rooted presentation allowed): the Spec's fused
    length of the canonical side is the model's length sum over the normal form -/
theorem spec_len_tree_norm (univ taxa : List String) (t : T) (k : List String)
    (hk : k.Nodup) (hnd : t.tipNames.Nodup) (hne : t.tipNames ≠ []) (htaxa : taxa.Nodup)
    (hmem : ∀ x, x ∈ t.tipNames ↔ x ∈ taxa) (hut : ∀ a, a ∈ univ ↔ a ∈ taxa)
    (hdist : distinctKeys univ (norm t) = true)
    (hlens : ∀ s ∈ t.splits, s.e.len = NIL ∨ 0 ≤ s.e.len) :
    ((t.usplitsAll.filter (·.side == canonSide taxa k)).map (·.len)).sum =
      lsum univ (edgeKeys univ (norm t)) (bits univ k) := by
  have hmu : ∀ a, a ∈ t.tipNames ↔ a ∈ univ := fun a => (hmem a).trans (hut a).symm
  have hkey : IsKey univ (bits univ k) := isKey_bits univ k
  rw [specLen_eq, lsum_splits]
  have hP : t.splits.filter (fun s => canonSide t.tipNames s.below == canonSide taxa k) =
      t.splits.filter (matchP univ (bits univ k)) := by
    apply List.filter_congr
    intro s hs
    have hsnd : s.below.Nodup := (below_sublist_L t.kids s hs).nodup (leavesL_nodup_of_tipNames hnd)
    rw [Bool.eq_iff_iff, beq_iff_eq, canonSide_eq_iff t.tipNames taxa s.below k hnd htaxa hmem hne hsnd hk]
    unfold matchP
    rw [eqc_iff, eqc_bits_iff]
    exact ⟨SameSide.of_mem_iff hmu, SameSide.of_mem_iff fun a => (hmu a).symm⟩
  rw [hP, fuseAll_sum, ← agg_eq, ← agg_eq]
  have hbo : BelowOnly (matchP univ (bits univ k)) := by
    intro s s' h; unfold matchP; rw [h]
  -- step 1: single-child nodes
  obtain ⟨e1, ok1⟩ := removeSingles_agg (matchP univ (bits univ k)) hbo t hlens
  obtain ⟨htn, _, _⟩ := removeSingles_spec t
  -- step 2: unrooting
  obtain ⟨e2, ok2⟩ := unroot_agg (matchP univ (bits univ k)) hbo (removeSingles t) ok1 (by
    intro e1' e2' n1 n2 x y d p heq
    have htn' : (removeSingles t).tipNames = n1.leaves ++ n2.leaves := by
      rw [heq]; simp [T.tipNames, leavesL]
    have hnd' : (n1.leaves ++ n2.leaves).Nodup := by rw [← htn', htn]; exact hnd
    have hroot := root_sides_eqc univ n1.leaves n2.leaves hnd' (fun a => by rw [← htn', htn]; exact (hmu a).symm)
    unfold matchP
    exact eqc_congr_right (isKey_bits _ _) (isKey_bits _ _) hkey hroot)
  have aggOK : ∀ (S : List SplitE), LensOKL S → ∀ x ∈ agg (matchP univ (bits univ k)) S, LenOK x := by
    intro S hS x hx
    rw [agg_eq, List.mem_map] at hx
    obtain ⟨s, hs, rfl⟩ := hx
    exact hS s (List.mem_filter.1 hs).1
  have hfz := fz_of_eq3 (e1.trans e2) (aggOK _ hlens) (aggOK _ ok2)
  show fz (agg (matchP univ (bits univ k)) t.splits) = _
  rw [hfz]
  apply fz_small
  rw [agg_eq, List.length_map]
  exact filter_le_one univ (norm t) (bits univ k) hkey hdist

theorem spec_lenSum_eq_norm (ts : List T) (k : List String) (hk : k.Nodup)
    (hnd : ∀ t ∈ ts, t.tipNames.Nodup) (hne : ∀ t ∈ ts, t.tipNames ≠ [])
    (hmem : ∀ t ∈ ts, ∀ x, x ∈ t.tipNames ↔ x ∈ C09S.taxa ts)
    (hut : ∀ a, a ∈ univOf ts ↔ a ∈ C09S.taxa ts) (htaxa : (C09S.taxa ts).Nodup)
    (hnr : noRepeat ts = true) (hl : lensOK ts = true) :
    C09S.lenSum ts (canonSide (C09S.taxa ts) k) = lenM (univOf ts) (trees ts) (bits (univOf ts) k) := by
  unfold C09S.lenSum lenM trees
  rw [List.map_map]
  congr 1
  apply List.map_congr_left
  intro t ht
  simp only [Function.comp]
  apply spec_len_tree_norm (univOf ts) (C09S.taxa ts) t k hk (hnd t ht) (hne t ht) htaxa (hmem t ht) hut
  · unfold noRepeat at hnr
    exact List.all_eq_true.1 hnr t ht
  · intro s hs
    unfold lensOK at hl
    have := List.all_eq_true.1 (List.all_eq_true.1 hl t ht) s hs
    simp only [Bool.or_eq_true, beq_iff_eq, decide_eq_true_eq] at this
    exact this

theorem spec_lenSum_eq (ts : List T) (k : List String) (hk : k.Nodup)
    (hnd : ∀ t ∈ ts, t.tipNames.Nodup) (hne : ∀ t ∈ ts, t.tipNames ≠ [])
    (hmem : ∀ t ∈ ts, ∀ x, x ∈ t.tipNames ↔ x ∈ C09S.taxa ts)
    (hut : ∀ a, a ∈ univOf ts ↔ a ∈ C09S.taxa ts) (htaxa : (C09S.taxa ts).Nodup)
    (hnr : noRepeat ts = true) (hl : lensOK ts = true) (hns : ∀ t ∈ ts, okBelowL t.kids = true) :
    C09S.lenSum ts (canonSide (C09S.taxa ts) k) = lenM (univOf ts) (trees ts) (bits (univOf ts) k) :=
  spec_lenSum_eq_norm ts k hk hnd hne hmem hut htaxa hnr hl

end Gotree.C09

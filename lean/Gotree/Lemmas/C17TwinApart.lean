/-
  C17 — `Apart` between the two neighbours proposed for one branch goes up the path to the site.
-/
import Gotree.Lemmas.C17ApartLocal
import Gotree.Lemmas.C17Twin

namespace Gotree.C17
open Gotree Gotree.C17.Spec

/-- lifting for two rewritings of the same tree at the same path -/
theorem apart_lift2 (Z : List String) (isRoot : Bool) (f1 f2 : T → Option T) : ∀ (q : List Nat) (t t1 t2 S : T),
    subAt q t = some S → modAt q f1 t = some t1 → modAt q f2 t = some t2 → (leavesL t1.kids).Nodup →
    (∀ S1 S2, f1 S = some S1 → f2 S = some S2 →
      RL S1 S2 ∧ (∀ x ∈ Z, x ∈ leavesL S1.kids) ∧ ∃ cb, Apart Z cb isRoot (splitsL S1.kids) (splitsL S2.kids)) →
    RL t1 t2 ∧ (∀ x ∈ Z, x ∈ leavesL t1.kids) ∧ ∃ cb, Apart Z cb isRoot (splitsL t1.kids) (splitsL t2.kids) := by
  intro q t t1 t2 S hs h1 h2 hnd hr
  refine modAt_lift2 (fun t1 t2 => (leavesL t1.kids).Nodup → RL t1 t2 ∧ (∀ x ∈ Z, x ∈ leavesL t1.kids) ∧
    ∃ cb, Apart Z cb isRoot (splitsL t1.kids) (splitsL t2.kids)) f1 f2 ?_ q t t1 t2 S hs h1 h2
    (fun S1 S2 e1 e2 _ => hr S1 S2 e1 e2) hnd
  intro d p k i e c1 c2 hi ih hnd
  simp only [T.kids_node] at hnd ⊢
  have hk1 : (k.set i (e, c1))[i]? = some (e, c1) := by simp [hi]
  obtain ⟨hl, hZ, cb, hA⟩ := ih (nodup_leavesL_kids e c1 _ i hk1 hnd)
  have hZc : ∀ x ∈ Z, x ∈ c1.leaves := fun x hx => (T.leavesL_kids_sublist _).subset (hZ x hx)
  refine ⟨⟨by simp, fun _ => rfl, leavesL_set2 c1 c2 e hl.leaves_perm k i⟩,
    fun x hx => (leaves_sublist_leavesL (List.mem_of_getElem? hk1)).subset (hZc x hx), cb, ?_⟩
  simpa [List.set_set] using apart_up c1 c2 e hA hZc hl.leaves_perm hl.isLeaf_eq (k.set i (e, c1)) i hk1 hnd

macro "apart2_at3" j1:num j2:num eu:ident ev:ident ey:ident tu:ident tv:ident ty:ident
    xu:ident xv:ident xy:ident bu:ident bv:ident bY:ident : tactic => `(tactic|
  (refine apart_kids2 $j1 $j2
    (((⟨T.leaves $tu, $eu, T.isLeaf $tu⟩ : SplitE) :: T.splitsBelow $tu) ++
      ((⟨T.leaves $tv, $ev, T.isLeaf $tv⟩ : SplitE) :: T.splitsBelow $tv) ++
      ((⟨T.leaves $ty, $ey, T.isLeaf $ty⟩ : SplitE) :: T.splitsBelow $ty))
    (by ev_entries; perm_entries) (by ev_entries; perm_entries) (by ev_entries) (by ev_entries) (by ev_entries)
    (by ev_entries; intro x hx; simp only [List.mem_append] at hx ⊢; grind)
    (by ev_entries; intro x hx; simp only [List.mem_append] at hx ⊢; grind)
    (by ev_entries; pick2 $xu $xv $xy $xy) (by ev_entries; pick2 $xu $xv $xy $xy) (by ev_entries; pick3 $xu $xv $xy $xy)
    (by intro h; cases h) ?_
   ev_entries
   intro s hs
   simp only [List.mem_append] at hs
   rcases hs with (hs | hs) | hs
   · obtain ⟨hne, hsub⟩ := $bu s hs
     exact ⟨hne, by within_block hsub⟩
   · obtain ⟨hne, hsub⟩ := $bv s hs
     exact ⟨hne, by within_block hsub⟩
   · obtain ⟨hne, hsub⟩ := $bY s hs
     exact ⟨hne, by within_block hsub⟩))

macro "apart2_at4" j1:num j2:num eu:ident ev:ident ey:ident ez:ident tu:ident tv:ident ty:ident tz:ident
    xu:ident xv:ident xy:ident xz:ident bu:ident bv:ident bY:ident bz:ident : tactic => `(tactic|
  (refine apart_kids2 $j1 $j2
    (((⟨T.leaves $tu, $eu, T.isLeaf $tu⟩ : SplitE) :: T.splitsBelow $tu) ++
      ((⟨T.leaves $tv, $ev, T.isLeaf $tv⟩ : SplitE) :: T.splitsBelow $tv) ++
      ((⟨T.leaves $ty, $ey, T.isLeaf $ty⟩ : SplitE) :: T.splitsBelow $ty) ++
      ((⟨T.leaves $tz, $ez, T.isLeaf $tz⟩ : SplitE) :: T.splitsBelow $tz))
    (by ev_entries; perm_entries) (by ev_entries; perm_entries) (by ev_entries) (by ev_entries) (by ev_entries)
    (by ev_entries; intro x hx; simp only [List.mem_append] at hx ⊢; grind)
    (by ev_entries; intro x hx; simp only [List.mem_append] at hx ⊢; grind)
    (by ev_entries; pick2 $xu $xv $xy $xz) (by ev_entries; pick2 $xu $xv $xy $xz) (by ev_entries; pick3 $xu $xv $xy $xz)
    (by intro _; ev_entries; pick3 $xu $xv $xy $xz) ?_
   ev_entries
   intro s hs
   simp only [List.mem_append] at hs
   rcases hs with ((hs | hs) | hs) | hs
   · obtain ⟨hne, hsub⟩ := $bu s hs
     exact ⟨hne, by within_block hsub⟩
   · obtain ⟨hne, hsub⟩ := $bv s hs
     exact ⟨hne, by within_block hsub⟩
   · obtain ⟨hne, hsub⟩ := $bY s hs
     exact ⟨hne, by within_block hsub⟩
   · obtain ⟨hne, hsub⟩ := $bz s hs
     exact ⟨hne, by within_block hsub⟩))

end Gotree.C17

/-
  C06 — the effect of pruning on the split list with the branch data, seen from a list `K` of kept
  taxa.  `IndR K` is generated by what `removeTip` does below the root: a branch keeps its kept tips, a
  branch with no kept tip below it goes, two branches with the same kept tips are fused.  `Ind K` also
  lets a fused branch be the complement of the two (a suppressed root).  `Ind K` implies `RootEff K`
  (splits and path lengths); `rmNode` / `rmKids` produce `IndR K`.  Core Lean only.
-/
import Gotree.Lemmas.C06Eff

namespace Gotree.C06
open Gotree Gotree.C14

/-- The effect of pruning on the split list, seen from the kept taxa `K`, with the
    branch data: generated by exactly the steps `removeTip` performs. -/
inductive Ind (K : List String) : List SplitE → List SplitE → Prop
  | refl (L : List SplitE) : Ind K L L
  | trans {L L' L'' : List SplitE} : Ind K L L' → Ind K L' L'' → Ind K L L''
  | append {A A' B B' : List SplitE} : Ind K A A' → Ind K B B' → Ind K (A ++ B) (A' ++ B')
  | swap (A B : List SplitE) : Ind K (A ++ B) (B ++ A)
  | single (s s' : SplitE) (hs : s.below.Nodup) (hs' : s'.below.Nodup)
      (h : ∀ a ∈ K, (a ∈ s.below ↔ a ∈ s'.below)) (he : s'.e = s.e) : Ind K [s] [s']
  | drop (A : List SplitE) (h : ∀ s ∈ A, ∀ a ∈ K, a ∉ s.below) : Ind K A []
  | dropTop (hc : SplitE) (hn : hc.below.Nodup) (h : ∀ a ∈ K, a ∈ hc.below) : Ind K [hc] []
  | fuse (s1 s2 s' : SplitE) (n1 : s1.below.Nodup) (n2 : s2.below.Nodup) (n' : s'.below.Nodup)
      (h1 : sameSplit K s1.below s'.below) (h2 : sameSplit K s2.below s'.below) (b : Bool)
      (hb : 2 ≤ lightSize K s'.below → b = true)
      (he : s'.e = fuseEdge s1.e s2.e b ∨ s'.e = fuseEdge s2.e s1.e b) : Ind K [s1, s2] [s']

/-- `Ind K` without complementation: fused branches have the same kept tips below them. -/
inductive IndR (K : List String) : List SplitE → List SplitE → Prop
  | refl (L : List SplitE) : IndR K L L
  | trans {L L' L'' : List SplitE} : IndR K L L' → IndR K L' L'' → IndR K L L''
  | append {A A' B B' : List SplitE} : IndR K A A' → IndR K B B' → IndR K (A ++ B) (A' ++ B')
  | swap (A B : List SplitE) : IndR K (A ++ B) (B ++ A)
  | single (s s' : SplitE) (hs : s.below.Nodup) (hs' : s'.below.Nodup)
      (h : ∀ a ∈ K, (a ∈ s.below ↔ a ∈ s'.below)) (he : s'.e = s.e) : IndR K [s] [s']
  | drop (A : List SplitE) (h : ∀ s ∈ A, ∀ a ∈ K, a ∉ s.below) : IndR K A []
  | dropTop (hc : SplitE) (hn : hc.below.Nodup) (h : ∀ a ∈ K, a ∈ hc.below) : IndR K [hc] []
  | fuse (s1 s2 s' : SplitE) (n1 : s1.below.Nodup) (n2 : s2.below.Nodup) (n' : s'.below.Nodup)
      (h1 : ∀ a ∈ K, (a ∈ s1.below ↔ a ∈ s'.below)) (h2 : ∀ a ∈ K, (a ∈ s2.below ↔ a ∈ s'.below)) (b : Bool)
      (hb : 2 ≤ lightSize K s'.below → b = true)
      (he : s'.e = fuseEdge s1.e s2.e b ∨ s'.e = fuseEdge s2.e s1.e b) : IndR K [s1, s2] [s']

theorem IndR.toInd {K : List String} {L L' : List SplitE} (h : IndR K L L') : Ind K L L' := by
  induction h with
  | refl L => exact Ind.refl L
  | trans _ _ ih1 ih2 => exact Ind.trans ih1 ih2
  | append _ _ ih1 ih2 => exact Ind.append ih1 ih2
  | swap A B => exact Ind.swap A B
  | single s s' hs hs' h he => exact Ind.single s s' hs hs' h he
  | drop A h => exact Ind.drop A h
  | dropTop hc hn h => exact Ind.dropTop hc hn h
  | fuse s1 s2 s' n1 n2 n' h1 h2 b hb he => exact Ind.fuse s1 s2 s' n1 n2 n' (Or.inl h1) (Or.inl h2) b hb he

/-- the relation with data implies the one about splits and path lengths -/
theorem ind_rootEff {K : List String} {L L' : List SplitE} (h : Ind K L L') : RootEff K L L' := by
  induction h with
  | refl L => exact RootEff.refl K L
  | trans _ _ ih1 ih2 => exact RootEff.trans (fun a ha => ha) ih1 ih2
  | append _ _ ih1 ih2 => exact RootEff.append ih1 ih2
  | swap A B => exact RootEff.swap K A B
  | single s s' _ _ h he =>
    have hs : sameSplit K s.below s'.below := Or.inl h
    refine ⟨fun _ a b ha hb => ?_, fun hl t ht => ?_, fun t ht => ?_, fun t ht _ _ => ?_⟩
    · simp [distW_cons, distW_nil, sep_of_sameSplit hs a b ha hb, he]
    · simp at ht; subst ht; rw [he]; exact hl s (by simp)
    · simp at ht; subst ht; exact ⟨s, by simp, hs.symm'⟩
    · simp at ht; subst ht; exact ⟨s', by simp, hs.symm'⟩
  | drop A h =>
    refine ⟨fun _ a b ha hb => ?_, fun _ t ht => (by cases ht), fun t ht => (by cases ht), fun s hs h1 _ => ?_⟩
    · rw [distW_nil, distW_both_out]
      · intro s hs; exact h s hs a ha
      · intro s hs; exact h s hs b hb
    · obtain ⟨a, ha, hm⟩ := h1
      exact absurd hm (h s hs a ha)
  | dropTop hc _ h => exact RootEff.dropTop hc [] h
  | fuse s1 s2 s' _ _ _ h1 h2 b _ he =>
    refine ⟨fun hl a c ha hc => ?_, fun _ t ht => ?_, fun t ht => ?_, fun t ht _ _ => ?_⟩
    · have hw : s'.e.lenOr0 = s1.e.lenOr0 + s2.e.lenOr0 := fuse_lenOr0_or (hl s1 (by simp)) (hl s2 (by simp)) he
      simp only [distW_cons, distW_nil, sep_of_sameSplit h1 a c ha hc, sep_of_sameSplit h2 a c ha hc, hw]
      split <;> simp [Rat.add_zero]
    · simp at ht; subst ht
      rcases he with he | he <;> rw [he] <;> exact fuse_lenOK _ _ _
    · simp at ht; subst ht; exact ⟨s1, by simp, h1.symm'⟩
    · simp at ht
      rcases ht with rfl | rfl
      · exact ⟨s', by simp, h1.symm'⟩
      · exact ⟨s', by simp, h2.symm'⟩

/-! ## `rmNode` / `rmKids` never complement a branch -/

/-- a branch with at most one kept tip on one side cannot bear a support: a tip branch is trivial -/
theorem flag_of_leaf (K : List String) (c : T) (h : 2 ≤ lightSize K c.leaves) : (!c.isLeaf) = true := by
  cases hl : c.isLeaf with
  | false => rfl
  | true =>
    have hk : c.kids = [] := by
      obtain ⟨d, p, k⟩ := c
      simpa [T.isLeaf] using hl
    rw [T.leaves_of_kids_nil hk] at h
    have : ([c.name].filter K.contains).length ≤ 1 := List.length_filter_le _ _
    simp only [lightSize] at h
    omega

def OutInd (K : List String) (t : T) : Out → Prop
  | .notFound => True
  | .repl t' => Ind K t.splitsBelow t'.splitsBelow
  | .gone => True
  | .splice e c => Ind K t.splitsBelow (⟨c.leaves, e, c.isLeaf⟩ :: c.splitsBelow)

def OutIndR (K : List String) (t : T) : Out → Prop
  | .notFound => True
  | .repl t' => IndR K t.splitsBelow t'.splitsBelow
  | .gone => True
  | .splice e c => IndR K t.splitsBelow (⟨c.leaves, e, c.isLeaf⟩ :: c.splitsBelow)

/-- for `.spl` the support flag `b` of the fused branch is set one level up: any value allowed by the
    size of the split will do -/
def KOutIndR (K : List String) (k : Kids) : KOut → Prop
  | .notFound => True
  | .set ks => IndR K (splitsL k) (splitsL ks)
  | .del _ ks => IndR K (splitsL k) (splitsL ks)
  | .spl _ ks ei e c =>
    ∀ b, (2 ≤ lightSize K c.leaves → b = true) →
      IndR K (splitsL k) (splitsL ks ++ (⟨c.leaves, fuseEdge ei e b, c.isLeaf⟩ :: c.splitsBelow))

theorem finishNode_indR (K : List String) (d : NodeD) (p : Nat) (k : Kids) (ko : KOut)
    (h : KOutIndR K k ko) : OutIndR K (.node d p k) (finishNode d p ko) := by
  cases ko with
  | notFound => trivial
  | set ks => exact h
  | spl i ks ei e c =>
    show IndR K (splitsL k) (splitsL (ks ++ [(fuseEdge ei e (!c.isLeaf), c)]))
    rw [splitsL_append, splitsL_singleton]; exact h _ (flag_of_leaf K c)
  | del i ks =>
    match ks, h with
    | [], _ => trivial
    | [(e, c)], h =>
      show IndR K (splitsL k) (⟨(reattach c).leaves, e, (reattach c).isLeaf⟩ :: (reattach c).splitsBelow)
      have h' : IndR K (splitsL k) (splitsL [(e, c)]) := h
      simpa [splitsL_singleton] using h'
    | a :: b :: r, h => exact h

theorem mem_K_of_eqv {K : List String} {x : String} (hx : x ∉ K) {A B : List String} (h : eqv x A B) :
    ∀ a ∈ K, (a ∈ A ↔ a ∈ B) := fun a ha => h a (fun e => hx (e ▸ ha))

/-- the head branch `hd` is fused with the branch `hc` that came up from below it -/
theorem IndR.splice {K : List String} {hd hc hf : SplitE} {A C R : List SplitE} (h1 : IndR K A (hc :: C))
    (h2 : IndR K [hd, hc] [hf]) : IndR K (hd :: (A ++ R)) (R ++ hf :: C) := by
  have a : IndR K (hd :: (A ++ R)) (hd :: hc :: (C ++ R)) :=
    IndR.append (IndR.refl [hd]) (IndR.append h1 (IndR.refl R))
  have b : IndR K (hd :: hc :: (C ++ R)) (hf :: (C ++ R)) := IndR.append h2 (IndR.refl (C ++ R))
  exact (a.trans b).trans (IndR.swap (hf :: C) R)

mutual
theorem rmNode_indR (K : List String) (x : String) (hx : x ∉ K) :
    ∀ t : T, t.leaves.Nodup → OutIndR K t (rmNode x t)
  | .node d p [], _ => by
    simp only [rmNode]; split <;> trivial
  | .node d p (k :: ks), h => by
    simp only [rmNode]
    exact finishNode_indR K d p _ _ (rmKids_indR K x hx (k :: ks) (by simpa [T.leaves] using h))
theorem rmKids_indR (K : List String) (x : String) (hx : x ∉ K) :
    ∀ k : Kids, (leavesL k).Nodup → KOutIndR K k (rmKids x k)
  | [], _ => by simp [rmKids, KOutIndR]
  | (e, t) :: r, hnd => by
    have hnd' := hnd
    simp only [leavesL, List.nodup_append] at hnd'
    have ht : t.leaves.Nodup := hnd'.1
    have h1 := rmNode_indR K x hx t ht
    have h2 := rmKids_indR K x hx r hnd'.2.1
    have l1 := rmNode_leaves x t
    simp only [rmKids]
    cases hn : rmNode x t with
    | repl t' =>
      rw [hn] at h1 l1
      have ht' : t'.leaves.Nodup := l1.2.1.nodup_iff.2 (ht.erase x)
      exact IndR.append (IndR.single ⟨t.leaves, e, t.isLeaf⟩ ⟨t'.leaves, e, t'.isLeaf⟩ ht ht'
        (mem_K_of_eqv hx (eqv_of_perm_erase l1.2.1).symm') rfl) (IndR.append h1 (IndR.refl _))
    | gone =>
      rw [hn] at l1
      simp only [OutLeaves] at l1
      -- nothing but `x` below: the branch of `t` and everything under it go
      have hd : IndR K (⟨t.leaves, e, t.isLeaf⟩ :: t.splitsBelow) [] := IndR.drop _ (by
        intro s hs a ha hm
        have : a ∈ t.leaves := by
          rcases List.mem_cons.1 hs with rfl | hs
          · exact hm
          · exact below_sub t s hs a hm
        rw [l1] at this; simp at this; exact hx (this ▸ ha))
      exact IndR.append hd (IndR.refl (splitsL r))
    | splice e' c =>
      rw [hn] at h1 l1
      intro b hb
      have hc : c.leaves.Nodup := l1.2.nodup_iff.2 (ht.erase x)
      exact IndR.splice h1 (IndR.fuse ⟨t.leaves, e, t.isLeaf⟩ ⟨c.leaves, e', c.isLeaf⟩
        ⟨c.leaves, fuseEdge e e' b, c.isLeaf⟩ ht hc hc
        (mem_K_of_eqv hx (eqv_of_perm_erase l1.2).symm') (fun _ _ => Iff.rfl) b hb (Or.inl rfl))
    | notFound =>
      have keep : ∀ {B : List SplitE}, IndR K (splitsL r) B →
          IndR K (splitsL ((e, t) :: r)) (⟨t.leaves, e, t.isLeaf⟩ :: (t.splitsBelow ++ B)) :=
        fun h => IndR.append (IndR.refl [_]) (IndR.append (IndR.refl _) h)
      cases hk : rmKids x r with
      | notFound => trivial
      | set ks' => rw [hk] at h2; exact keep h2
      | del i ks' => rw [hk] at h2; exact keep h2
      | spl i ks' ei e' c =>
        rw [hk] at h2
        intro b hb
        have := keep (h2 b hb)
        simpa [splitsL, List.append_assoc] using this
end

theorem OutIndR.toInd {K : List String} {t : T} {o : Out} (h : OutIndR K t o) : OutInd K t o := by
  cases o with
  | notFound => trivial
  | gone => trivial
  | repl t' => exact IndR.toInd h
  | splice e c => exact IndR.toInd h

theorem rmNode_ind (K : List String) (x : String) (hx : x ∉ K) :
    ∀ t : T, t.leaves.Nodup → OutInd K t (rmNode x t) :=
  fun t h => (rmNode_indR K x hx t h).toInd

end Gotree.C06

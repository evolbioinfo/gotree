/-
  C14 — the `TipBag` model (`Model/C14Go.lean: addTip, bagNames`; `Model/C14Bag.lean: bagRun, bagAfter`): the
  association list is a map (`AddTip` keeps the keys distinct, is idempotent), `Tips()` sorts, and the model
  meets the documentation of tree/tipbags.go as the oracle `bagSpecOK` states it (the oracle keeps the list of
  the nodes in the bag and no map).
-/
import Gotree.Model.C14Bag
import Gotree.Lemmas.C14Graph

namespace Gotree.C14
open Gotree Gotree.C14.Go

/-- the keys of the map -/
def bagKeys (b : Bag) : List String := b.map (·.1)

theorem bag_lookup_none_of_not_mem : ∀ (b : Bag) (k : String), k ∉ bagKeys b → b.lookup k = none :=
  fun _ _ h => lookup_none_of_not_mem h

theorem bag_not_mem_of_lookup_none (b : Bag) (k : String) (h : b.lookup k = none) : k ∉ bagKeys b := by
  intro hm
  obtain ⟨p, hp, e⟩ := List.mem_map.1 hm
  simpa [e] using List.lookup_eq_none_iff.1 h p hp

/-- what `AddTip` does on a node that exists: the three outcomes of the Go text -/
theorem addTip_cases (g : G) (b : Bag) (t : Nat) (nd : GNode) (hn : g.nodes[t]? = some nd) :
    addTip g b t =
      (if nd.neigh.length != 1 then .error "Internal node given to TipBag.AddTip" else
       match b.lookup nd.name with
       | none => .ok (b ++ [(nd.name, t)])
       | some n => if n != t then .error "TipBag.AddTip: TipBag already contains another tip of the tree having the same name: May be several tips have the same name?" else .ok b) := by
  unfold addTip; rw [hn]; rfl

/-- a successful `AddTip`: the node is a tip; its name was absent and is appended, or it was there with this node -/
theorem addTip_ok {g : G} {b b' : Bag} {t : Nat} (h : addTip g b t = .ok b') :
    ∃ nd, g.nodes[t]? = some nd ∧ nd.neigh.length = 1 ∧
      ((b.lookup nd.name = none ∧ b' = b ++ [(nd.name, t)]) ∨ (b.lookup nd.name = some t ∧ b' = b)) := by
  cases hn : g.nodes[t]? with
  | none => simp [addTip, hn] at h
  | some nd =>
    rw [addTip_cases g b t nd hn] at h
    refine ⟨nd, rfl, ?_⟩
    by_cases h1 : nd.neigh.length != 1
    · simp [h1] at h
    · simp only [h1, Bool.false_eq_true, if_false] at h
      refine ⟨by simpa using h1, ?_⟩
      cases hl : b.lookup nd.name with
      | none =>
        rw [hl] at h
        injection h with h
        exact .inl ⟨rfl, h.symm⟩
      | some n =>
        rw [hl] at h
        by_cases hnt : n != t
        · simp [hnt] at h
        · simp only [hnt, Bool.false_eq_true, if_false] at h
          injection h with h
          exact .inr ⟨by simpa using hnt, h.symm⟩

/-- a Go map has pairwise distinct keys: `AddTip` keeps it so -/
theorem addTip_keys_nodup (g : G) (b b' : Bag) (t : Nat) (hk : (bagKeys b).Nodup) (h : addTip g b t = .ok b') :
    (bagKeys b').Nodup := by
  obtain ⟨nd, _, _, ⟨hl, rfl⟩ | ⟨_, rfl⟩⟩ := addTip_ok h
  · have hnm := bag_not_mem_of_lookup_none b nd.name hl
    simp only [bagKeys, List.map_append, List.map_cons, List.map_nil]
    refine List.nodup_append.2 ⟨hk, by simp, ?_⟩
    intro a ha c hc
    simp only [List.mem_singleton] at hc
    subst hc
    intro e
    subst e
    exact hnm ha
  · exact hk

/-- every bag a script of calls can reach has pairwise distinct names -/
theorem bagAfter_keys_nodup (g : G) : ∀ (ops : List BagOp) (b : Bag), (bagKeys b).Nodup → (bagKeys (bagAfter g ops b)).Nodup
  | [], b, h => h
  | .add none :: r, b, h => by simp only [bagAfter]; exact bagAfter_keys_nodup g r b h
  | .add (some n) :: r, b, h => by
    simp only [bagAfter]
    cases ha : addTip g b n with
    | ok b' => exact bagAfter_keys_nodup g r b' (addTip_keys_nodup g b b' n h ha)
    | error e => exact bagAfter_keys_nodup g r b h
  | .clear :: r, b, _ => by simp only [bagAfter]; exact bagAfter_keys_nodup g r [] (by simp [bagKeys])
  | .size :: r, b, h => by simp only [bagAfter]; exact bagAfter_keys_nodup g r b h
  | .tips :: r, b, h => by simp only [bagAfter]; exact bagAfter_keys_nodup g r b h

/-! ## the oracle -/


theorem bag_mem_of_lookup_some (b : Bag) (k : String) (v : Nat) (h : b.lookup k = some v) : (k, v) ∈ b := by
  obtain ⟨l₁, l₂, e, _⟩ := List.lookup_eq_some_iff.1 h
  simp [e]

/-- what ties the model's map to the oracle's list of nodes -/
structure BagInv (g : G) (b : Bag) (st : List Nat) : Prop where
  perm : (b.map (·.2)).Perm st
  names : ∀ p ∈ b, g.name p.2 = p.1 ∧ g.tip p.2 = true
  nodup : (bagKeys b).Nodup

theorem BagInv.empty (g : G) : BagInv g [] [] := ⟨by simp, by simp, by simp [bagKeys]⟩

theorem BagInv.mem_st {g : G} {b : Bag} {st : List Nat} (h : BagInv g b st) {n : Nat} (hn : n ∈ st) :
    (g.name n, n) ∈ b := by
  obtain ⟨p, hp, e⟩ := List.mem_map.1 (h.perm.mem_iff.2 hn)
  have := (h.names p hp).1
  rw [e] at this
  have hp' : p = (g.name n, n) := by
    cases p with
    | mk a c => simp only at e this; rw [e, this]
  rw [← hp']; exact hp

theorem bagNames_eq_sortNames (b : Bag) : bagNames b = sortNames (bagKeys b) := by
  have h := insSort_names (fun (s : String) => s) (b.map (fun (x : String × Nat) => x.1))
  simp only [List.map_id'] at h
  unfold bagNames bagKeys
  exact h

theorem BagInv.tips {g : G} {b : Bag} {st : List Nat} (h : BagInv g b st) : bagNames b = sortNames (st.map g.name) := by
  rw [bagNames_eq_sortNames]
  apply sortNames_eq_of_perm
  have e : bagKeys b = (b.map (·.2)).map g.name := by
    unfold bagKeys
    rw [List.map_map]
    exact List.map_congr_left fun p hp => ((h.names p hp).1).symm
  rw [e]
  exact h.perm.map g.name

/-- the model's results satisfy the oracle, from any state in which map and list agree -/
theorem bagRun_spec (g : G) : ∀ (ops : List BagOp) (b : Bag) (st : List Nat), BagInv g b st →
    bagSpecOK g ops (bagRun g ops b) st = true
  | [], _, _, _ => by simp [bagRun, bagSpecOK]
  | .add none :: r, b, st, h => by
    simp only [bagRun, bagSpecOK]
    simp [bagRun_spec g r b st h]
  | .clear :: r, b, st, _ => by
    simp only [bagRun, bagSpecOK]
    exact bagRun_spec g r [] [] (BagInv.empty g)
  | .size :: r, b, st, h => by
    simp only [bagRun, bagSpecOK]
    have : b.length = st.length := by simpa using h.perm.length_eq
    simp [this, bagRun_spec g r b st h]
  | .tips :: r, b, st, h => by
    simp only [bagRun, bagSpecOK]
    simp [h.tips, bagRun_spec g r b st h]
  | .add (some n) :: r, b, st, h => by
    cases hn : g.nodes[n]? with
    | none =>
      have ha : addTip g b n = .error "Nil node given to TipBag.AddTip" := by simp [addTip, hn]
      have ht : g.tip n = false := by simp [G.tip, hn]
      simp only [bagRun, ha, bagSpecOK, ht]
      simp [bagRun_spec g r b st h]
    | some nd =>
      have hc := addTip_cases g b n nd hn
      have ht := gtip_of_node hn
      have hname := gname_of_node hn
      by_cases h1 : nd.neigh.length != 1
      · have ha : addTip g b n = .error "Internal node given to TipBag.AddTip" := by rw [hc]; simp [h1]
        have ht' : g.tip n = false := by
          rw [ht]; simpa using h1
        simp only [bagRun, ha, bagSpecOK, ht']
        simp [bagRun_spec g r b st h]
      · have ht' : g.tip n = true := by
          rw [ht]; simpa using h1
        simp only [h1, Bool.false_eq_true, if_false] at hc
        cases hl : b.lookup nd.name with
        | none =>
          rw [hl] at hc
          have hnk := bag_not_mem_of_lookup_none b nd.name hl
          have hno : ∀ k ∈ st, g.name k ≠ nd.name := by
            intro k hk e
            have := h.mem_st hk
            rw [e] at this
            exact hnk (List.mem_map.2 ⟨_, this, rfl⟩)
          have hcont : st.contains n = false := by
            simpa using fun hn' => hno n hn' hname
          have hany : st.any (fun m => g.name m == g.name n) = false := by
            simpa [hname] using hno
          have hinv : BagInv g (b ++ [(nd.name, n)]) (n :: st) := by
            refine ⟨?_, ?_, addTip_keys_nodup g b _ n h.nodup hc⟩
            · simp only [List.map_append, List.map_cons, List.map_nil]
              exact (List.perm_append_comm.trans (List.Perm.cons n h.perm))
            · intro p hp
              rcases List.mem_append.1 hp with hp | hp
              · exact h.names p hp
              · simp only [List.mem_singleton] at hp
                subst hp
                exact ⟨hname, ht'⟩
          simp only [bagRun, hc, bagSpecOK, ht', hcont, hany]
          simp [bagRun_spec g r _ _ hinv]
        | some m =>
          rw [hl] at hc
          have hmem := bag_mem_of_lookup_some b nd.name m hl
          have hmst : m ∈ st := h.perm.mem_iff.1 (List.mem_map.2 ⟨_, hmem, rfl⟩)
          by_cases hmn : m != n
          · have ha : addTip g b n = .error "TipBag.AddTip: TipBag already contains another tip of the tree having the same name: May be several tips have the same name?" := by
              rw [hc]; simp [hmn]
            have hcont : st.contains n = false := by
              cases hcn : st.contains n with
              | false => rfl
              | true =>
                have := h.mem_st (List.contains_iff_mem.1 hcn)
                rw [hname] at this
                have e : some m = some n := hl.symm.trans (lookup_of_mem_nodup h.nodup this)
                simp [Option.some.inj e] at hmn
            have hany : st.any (fun k => g.name k == g.name n) = true := by
              refine List.any_eq_true.2 ⟨m, hmst, ?_⟩
              have := (h.names _ hmem).1
              simp only at this
              simp [this, hname]
            simp only [bagRun, ha, bagSpecOK, ht', hcont, hany]
            simp [bagRun_spec g r b st h]
          · have hmn' : m = n := by simpa using hmn
            have ha : addTip g b n = .ok b := by rw [hc]; simp [hmn']
            have hcont : st.contains n = true := List.contains_iff_mem.2 (hmn' ▸ hmst)
            simp only [bagRun, ha, bagSpecOK, ht', hcont]
            simp [bagRun_spec g r b st h]

end Gotree.C14

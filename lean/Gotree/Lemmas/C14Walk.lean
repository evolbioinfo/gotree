/-
  C14 — `pathLengths` / `ToDistanceMatrix` of the statement-level model, run on the pointer graph of a rose
  tree with unique tip names, compute the rose-tree model's `matrix`.

  A walk is described by the list of writes `lengths[tip.Id()] = value` it performs (`applyW`).  Going away
  from `prev` into a subtree it performs the writes of `wdT` (`pathLengths_down`), which are `walkDown` of
  the rose-tree model by name.  Started at a tip it climbs: inside a subtree it writes what `walkUp` lists
  and hands over to the parent of the subtree's top node; at the root, which is written if it is a tip
  itself, the climb ends (`walk_up`, the parent being optional).  All in all (`walk_root`) the writes are, as
  a multiset, the list `row`.
-/
import Gotree.Lemmas.C14Graph

namespace Gotree.C14
open Gotree Gotree.C14.Go

/-! ## write lists -/

/- index-level `walkDown`: (pre-order index of the leaf, accumulated length) -/
mutual
def wdT (w : EdgeD → Rat) (n : Nat) : T → Rat → List (Nat × Rat)
  | .node _ _ [], acc => [(n, acc)]
  | .node _ _ (k :: ks), acc => wdL w (n + 1) (k :: ks) acc
def wdL (w : EdgeD → Rat) : Nat → Kids → Rat → List (Nat × Rat)
  | _, [], _ => []
  | n, (e, t) :: r, acc => wdT w n t (acc + w e) ++ wdL w (n + t.size) r acc
end

/-- `lengths[tip.Id()] = value`, one write after the other -/
def applyW (ids : Array Nat) (L : Array Rat) (ws : List (Nat × Rat)) : Array Rat :=
  ws.foldl (fun L iv => L.set! (ids.getD iv.1 0) iv.2) L

theorem applyW_cons (ids : Array Nat) (L : Array Rat) (iv : Nat × Rat) (ws : List (Nat × Rat)) :
    applyW ids L (iv :: ws) = applyW ids (L.set! (ids.getD iv.1 0) iv.2) ws := rfl

theorem applyW_size (ids : Array Nat) : ∀ (ws : List (Nat × Rat)) (L : Array Rat), (applyW ids L ws).size = L.size
  | [], _ => rfl
  | iv :: ws, L => by rw [applyW_cons, applyW_size ids ws]; simp

theorem applyW_append (ids : Array Nat) (L : Array Rat) (a b : List (Nat × Rat)) :
    applyW ids L (a ++ b) = applyW ids (applyW ids L a) b := by
  simp [applyW, List.foldl_append]

/-- positions nobody writes keep their value -/
theorem applyW_other (ids : Array Nat) : ∀ (ws : List (Nat × Rat)) (L : Array Rat) (j : Nat),
    (∀ iv ∈ ws, ids.getD iv.1 0 ≠ j) → (applyW ids L ws).getD j 0 = L.getD j 0
  | [], _, _, _ => rfl
  | iv :: ws, L, j, h => by
    rw [applyW_cons, applyW_other ids ws _ j (fun x hx => h x (by simp [hx])), getD_set!,
      if_neg (fun h' => h iv (by simp) h'.1.symm)]

/-- with distinct targets every write is there at the end -/
theorem applyW_mem (ids : Array Nat) : ∀ (ws : List (Nat × Rat)) (L : Array Rat),
    (ws.map fun iv => ids.getD iv.1 0).Nodup → (∀ iv ∈ ws, ids.getD iv.1 0 < L.size) →
    ∀ iv ∈ ws, (applyW ids L ws).getD (ids.getD iv.1 0) 0 = iv.2
  | [], _, _, _, _, h => by cases h
  | x :: ws, L, hn, hr, iv, hm => by
    simp only [List.map_cons, List.nodup_cons, List.mem_map, not_exists, not_and] at hn
    rw [applyW_cons]
    rcases List.mem_cons.1 hm with rfl | hm
    · rw [applyW_other ids ws _ _ (fun y hy => fun e => hn.1 y hy e), getD_set!, if_pos ⟨rfl, hr iv (by simp)⟩]
    · exact applyW_mem ids ws _ hn.2 (fun y hy => by simpa using hr y (by simp [hy])) iv hm

mutual
theorem wdT_idx (w : EdgeD → Rat) : ∀ (t : T) (n : Nat) (acc : Rat), (wdT w n t acc).map (·.1) = leafIdxT n t
  | .node _ _ [], n, acc => by simp [wdT, leafIdxT]
  | .node _ _ (x :: k), n, acc => by simpa [wdT, leafIdxT] using wdL_idx w (x :: k) (n + 1) acc
theorem wdL_idx (w : EdgeD → Rat) : ∀ (k : Kids) (n : Nat) (acc : Rat), (wdL w n k acc).map (·.1) = leafIdxL n k
  | [], _, _ => by simp [wdL, leafIdxL]
  | (e, t) :: r, n, acc => by
    simp only [wdL, leafIdxL, List.map_append, wdT_idx w t n _, wdL_idx w r (n + t.size) acc]
end

/- with the names of the nodes the index-level walk is `walkDown` of the rose-tree model -/
mutual
theorem wdT_names (g : G) (w : EdgeD → Rat) : ∀ (t : T) (n : Nat) (par : Option Nat) (acc : Rat),
    Sub g.nodes n (flatT par n t) → (wdT w n t acc).map (fun iv => (g.name iv.1, iv.2)) = walkDown w t acc
  | .node d pp [], n, par, acc, hs => by
    rw [flatT_node] at hs
    simp [wdT, walkDown, G.name, hs.head]
  | .node d pp (x :: k), n, par, acc, hs => by
    rw [flatT_node] at hs
    simp only [wdT, walkDown]
    exact wdL_names g w (x :: k) (n + 1) n acc hs.tail
theorem wdL_names (g : G) (w : EdgeD → Rat) : ∀ (k : Kids) (n p : Nat) (acc : Rat),
    Sub g.nodes n (flatL p n k) → (wdL w n k acc).map (fun iv => (g.name iv.1, iv.2)) = walkDownL w k acc
  | [], _, _, _, _ => by simp [wdL, walkDownL]
  | (e, t) :: r, n, p, acc, hs => by
    rw [flatL_cons] at hs
    have h2 := hs.right
    rw [flatT_length] at h2
    simp only [wdL, walkDownL, List.map_append]
    rw [wdT_names g w t n (some p) _ hs.left, wdL_names g w r (n + t.size) p acc h2]
end

/-- the writes for a list of indexed children, by name and by index -/
theorem wd_list (g : G) (w : EdgeD → Rat) (p : Nat) (acc : Rat) : ∀ (l : List (Nat × (EdgeD × T))),
    (∀ x ∈ l, Sub g.nodes x.1 (flatT (some p) x.1 x.2.2)) →
    (l.flatMap fun x => wdT w x.1 x.2.2 (acc + w x.2.1)).map (fun iv => (g.name iv.1, iv.2))
      = walkDownL w (l.map (·.2)) acc ∧
    (l.flatMap fun x => wdT w x.1 x.2.2 (acc + w x.2.1)).map (·.1) = l.flatMap fun x => leafIdxT x.1 x.2.2
  | [], _ => by simp [walkDownL]
  | x :: l, h => by
    obtain ⟨c, e, t⟩ := x
    obtain ⟨h1, h2⟩ := wd_list g w p acc l (fun y hy => h y (by simp [hy]))
    constructor
    · simp only [List.flatMap_cons, List.map_append, List.map_cons, walkDownL]
      rw [wdT_names g w t c (some p) _ (h (c, e, t) (by simp)), h1]
    · simp only [List.flatMap_cons, List.map_append, wdT_idx, h2]

theorem walkDownL_append (w : EdgeD → Rat) (acc : Rat) : ∀ (k1 k2 : Kids),
    walkDownL w (k1 ++ k2) acc = walkDownL w k1 acc ++ walkDownL w k2 acc
  | [], _ => by simp [walkDownL]
  | (e, t) :: k1, k2 => by simp [walkDownL, walkDownL_append w acc k1 k2]

/-! ## `pathLengths`: one call, its size, the walk down a subtree -/

/-- the function folded over `cur.neigh` by `pathLengths` -/
def plStep (g : G) (ids : Array Nat) (metric : Int) (fuel cur : Nat) (prev : Option Nat) (acc : Rat) :
    Array Rat → Nat × Nat → Option (Array Rat) :=
  fun lengths cb =>
    if some cb.1 != prev then
      match g.edges[cb.2]? with
      | none => none
      | some e => pathLengths g ids metric fuel cb.1 (some cur) lengths (acc + weight metric e.d)
    else some lengths

theorem pathLengths_succ (g : G) (ids : Array Nat) (metric : Int) (fuel cur : Nat) (prev : Option Nat)
    (L : Array Rat) (acc : Rat) (nd : GNode) (h : g.nodes[cur]? = some nd) :
    pathLengths g ids metric (fuel + 1) cur prev L acc =
      if nd.neigh.length == 1 && prev.isSome then
        (if ids.getD cur 0 < L.size then some (L.set! (ids.getD cur 0) acc) else none)
      else nd.neigh.foldlM (plStep g ids metric fuel cur prev acc) L := by
  rw [pathLengths, h]
  rfl

theorem foldlM_size {α : Type} (f : Array Rat → α → Option (Array Rat)) :
    ∀ (l : List α) (s r : Array Rat), (∀ s r x, x ∈ l → f s x = some r → r.size = s.size) →
    l.foldlM f s = some r → r.size = s.size
  | [], s, r, _, h => by simp at h; rw [h]
  | x :: l, s, r, hf, h => by
    rw [List.foldlM_cons] at h
    cases hx : f s x with
    | none => rw [hx] at h; simp at h
    | some s' =>
      rw [hx] at h
      have h1 := hf s s' x (by simp) hx
      have h2 := foldlM_size f l s' r (fun s r y hy => hf s r y (by simp [hy])) h
      omega

/-- `pathLengths` never changes the size of `lengths` -/
theorem pathLengths_size (g : G) (ids : Array Nat) (metric : Int) : ∀ (fuel cur : Nat) (prev : Option Nat)
    (L : Array Rat) (acc : Rat) (R : Array Rat), pathLengths g ids metric fuel cur prev L acc = some R → R.size = L.size
  | 0, _, _, _, _, _, h => by simp [pathLengths] at h
  | fuel + 1, cur, prev, L, acc, R, h => by
    cases hn : g.nodes[cur]? with
    | none => simp [pathLengths, hn] at h
    | some nd =>
      rw [pathLengths_succ g ids metric fuel cur prev L acc nd hn] at h
      split at h
      · split at h
        · simp only [Option.some.injEq] at h; rw [← h]; simp
        · simp at h
      · refine foldlM_size _ nd.neigh L R (fun s r cb _ hcb => ?_) h
        unfold plStep at hcb
        split at hcb
        · cases he : g.edges[cb.2]? with
          | none => simp [he] at hcb
          | some e =>
            simp only [he] at hcb
            exact pathLengths_size g ids metric fuel cb.1 (some cur) s _ r hcb
        · simp only [Option.some.injEq] at hcb; rw [← hcb]

theorem foldlM_congr' {α σ : Type} {f g : σ → α → Option σ} : ∀ {l : List α} (s : σ), (∀ s, ∀ x ∈ l, f s x = g s x) →
    l.foldlM f s = l.foldlM g s
  | [], _, _ => rfl
  | x :: l, s, h => by
    rw [List.foldlM_cons, List.foldlM_cons, h s x (by simp)]
    cases g s x with
    | none => rfl
    | some s' => exact foldlM_congr' s' (fun s y hy => h s y (by simp [hy]))

mutual
theorem pathLengths_down (g : G) (ids : Array Nat) (metric : Int) : ∀ (t : T) (fuel n p : Nat) (L : Array Rat) (acc : Rat),
    t.size ≤ fuel → p < n → Sub g.nodes n (flatT (some p) n t) → Sub g.edges n (gedgesT n t) →
    (∀ i ∈ leafIdxT n t, ids.getD i 0 < L.size) →
    pathLengths g ids metric fuel n (some p) L acc = some (applyW ids L (wdT (weight metric) n t acc))
  | .node d pp k, fuel, n, p, L, acc, hf, hp, hs, he, hid => by
    rw [T.size_node] at hf
    cases fuel with
    | zero => omega
    | succ fuel =>
      rw [pathLengths_succ g ids metric fuel n (some p) L acc _ hs.node, neigh_one_iff]
      rw [flatT_node] at hs
      rw [gedgesT_node] at he
      cases k with
      | nil =>
        have h1 : ids.getD n 0 < L.size := hid n (by simp [leafIdxT])
        simp [wdT, applyW]
        simpa using h1
      | cons x k =>
        simp only [List.isEmpty_cons, Bool.false_and, Bool.false_eq_true, if_false]
        rw [foldlM_insAt _ _ pp (p, n - 1) L (by intro s; simp [plStep]),
          show nbrs (n + 1) (x :: k) = (kidIdx (n + 1) (x :: k)).map fun c => (c, c - 1) by
            rw [kidIdx_eq, List.map_map]; rfl,
          List.foldlM_map]
        have hc : ∀ (s : Array Rat), ∀ c ∈ kidIdx (n + 1) (x :: k), plStep g ids metric fuel n (some p) acc s (c, c - 1) =
            (match g.edges[c - 1]? with
              | none => none
              | some e => pathLengths g ids metric fuel c (some n) s (acc + weight metric e.d)) := by
          intro s c hc
          rw [kidIdx_eq] at hc
          obtain ⟨y, hy, rfl⟩ := List.mem_map.1 hc
          have := (kidsIdx_range (x :: k) (n + 1) y hy).1
          have hne : y.1 ≠ p := by omega
          simp [plStep, hne]
        rw [foldlM_congr' L hc]
        simp only [wdT]
        exact pathLengths_downL g ids metric (x :: k) fuel (n + 1) n L acc (by omega) (by omega) hs.tail
          (by simpa using he) (by simpa [leafIdxT] using hid)
theorem pathLengths_downL (g : G) (ids : Array Nat) (metric : Int) : ∀ (k : Kids) (fuel n p : Nat) (L : Array Rat) (acc : Rat),
    T.sizeL k ≤ fuel → p < n → Sub g.nodes n (flatL p n k) → Sub g.edges (n - 1) (gedgesL p n k) →
    (∀ i ∈ leafIdxL n k, ids.getD i 0 < L.size) →
    (kidIdx n k).foldlM (fun s c =>
      match g.edges[c - 1]? with
      | none => none
      | some e => pathLengths g ids metric fuel c (some p) s (acc + weight metric e.d)) L
      = some (applyW ids L (wdL (weight metric) n k acc))
  | [], _, _, _, _, _, _, _, _, _, _ => by simp [kidIdx, wdL, applyW]
  | (e, t) :: r, fuel, n, p, L, acc, hf, hp, hs, he, hid => by
    rw [T.sizeL_cons] at hf
    rw [flatL_cons] at hs
    rw [gedgesL_cons] at he
    have h2 := hs.right
    rw [flatT_length] at h2
    have he2 := he.tail
    rw [show n - 1 + 1 = n by omega] at he2
    have he3 := he2.right
    rw [show n + (gedgesT n t).length = n + t.size - 1 by have := gedgesT_length n t; omega] at he3
    simp only [leafIdxL, List.mem_append] at hid
    simp only [kidIdx, List.foldlM_cons, he.head, wdL]
    rw [pathLengths_down g ids metric t fuel n p L _ (by omega) hp hs.left he2.left (fun i hi => hid i (Or.inl hi))]
    simp only [Option.bind_eq_bind, Option.bind_some]
    rw [applyW_append]
    exact pathLengths_downL g ids metric r fuel (n + t.size) p _ acc (by omega) (by omega) h2 he3
      (fun i hi => by rw [applyW_size]; exact hid i (Or.inr hi))
end

/-! ## the loop over the children of a node, one of them possibly being `prev` -/

/-- what the loop writes for one child: nothing when the child is `prev` -/
def stepW (w : EdgeD → Rat) (prev : Option Nat) (acc : Rat) (x : Nat × (EdgeD × T)) : List (Nat × Rat) :=
  if some x.1 == prev then [] else wdT w x.1 x.2.2 (acc + w x.2.1)

theorem loop_kids (g : G) (ids : Array Nat) (metric : Int) (fuel cur m : Nat) (ks : Kids) (prev : Option Nat) (acc : Rat) :
    ∀ (l : List (Nat × (EdgeD × T))) (L : Array Rat),
    (∀ x ∈ l, KidOK g cur m ks x) → (∀ x ∈ l, some x.1 ≠ prev → x.2.2.size ≤ fuel) →
    (∀ i ∈ leafIdxL m ks, ids.getD i 0 < L.size) →
    (l.map fun x => (x.1, x.1 - 1)).foldlM (plStep g ids metric fuel cur prev acc) L
      = some (applyW ids L (l.flatMap (stepW (weight metric) prev acc)))
  | [], L, _, _, _ => by simp [applyW]
  | x :: l, L, hok, hf, hid => by
    have hx := hok x (by simp)
    simp only [List.map_cons, List.foldlM_cons, List.flatMap_cons]
    rw [applyW_append]
    have hstep : plStep g ids metric fuel cur prev acc L (x.1, x.1 - 1) =
        some (applyW ids L (stepW (weight metric) prev acc x)) := by
      by_cases hsk : some x.1 = prev
      · simp [plStep, stepW, hsk, applyW]
      · have hne : (some x.1 != prev) = true := by simpa using hsk
        have hne' : (some x.1 == prev) = false := by simpa using hsk
        simp only [plStep, stepW, hne, hne', if_true, hx.edge, Bool.false_eq_true, if_false]
        exact pathLengths_down g ids metric x.2.2 fuel x.1 cur L _ (hf x (by simp) hsk) hx.gt hx.nodes hx.edges
          (fun i hi => hid i (hx.leaves i hi))
    rw [hstep]
    simp only [Option.bind_eq_bind, Option.bind_some]
    exact loop_kids g ids metric fuel cur m ks prev acc l _ (fun y hy => hok y (by simp [hy]))
      (fun y hy => hf y (by simp [hy])) (fun i hi => by rw [applyW_size]; exact hid i hi)

theorem stepW_noskip (w : EdgeD → Rat) (prev : Option Nat) (acc : Rat) : ∀ (l : List (Nat × (EdgeD × T))),
    (∀ y ∈ l, some y.1 ≠ prev) → l.flatMap (stepW w prev acc) = l.flatMap fun x => wdT w x.1 x.2.2 (acc + w x.2.1) := by
  intro l h
  apply flatMap_congr'
  intro x hx
  have : (some x.1 == prev) = false := by simpa using h x hx
  simp [stepW, this]

/-- what the loop at a node (children `k1 ++ (e, tc) :: k2`, first child at `m`) writes when it came
    from the child `tc`: the walks down the other children -/
theorem sibs_spec (g : G) (w : EdgeD → Rat) (p m : Nat) (k1 k2 : Kids) (e : EdgeD) (tc : T)
    (hnodes : ∀ x ∈ kidsIdx m (k1 ++ (e, tc) :: k2), Sub g.nodes x.1 (flatT (some p) x.1 x.2.2)) (acc : Rat) :
    ((kidsIdx m (k1 ++ (e, tc) :: k2)).flatMap (stepW w (some (m + T.sizeL k1)) acc)).map (fun iv => (g.name iv.1, iv.2))
        = walkDownL w k1 acc ++ walkDownL w k2 acc ∧
    ((kidsIdx m (k1 ++ (e, tc) :: k2)).flatMap (stepW w (some (m + T.sizeL k1)) acc)).map (·.1)
        = leafIdxL m k1 ++ leafIdxL (m + T.sizeL k1 + tc.size) k2 := by
  obtain ⟨hkidx, hne1, hne2⟩ := kidsIdx_split m k1 e tc k2
  have hflat : (kidsIdx m (k1 ++ (e, tc) :: k2)).flatMap (stepW w (some (m + T.sizeL k1)) acc) =
      (kidsIdx m k1 ++ kidsIdx (m + T.sizeL k1 + tc.size) k2).flatMap fun x => wdT w x.1 x.2.2 (acc + w x.2.1) := by
    rw [hkidx, List.flatMap_append, List.flatMap_cons, List.flatMap_append,
      stepW_noskip _ _ acc _ (fun y hy => by simpa using hne1 y hy),
      stepW_noskip _ _ acc _ (fun y hy => by simpa using hne2 y hy)]
    simp [stepW]
  obtain ⟨h1, h2⟩ := wd_list g w p acc (kidsIdx m k1 ++ kidsIdx (m + T.sizeL k1 + tc.size) k2) (fun x hx => by
    refine hnodes x ?_
    rw [hkidx]
    rcases List.mem_append.1 hx with h' | h'
    · exact List.mem_append.2 (Or.inl h')
    · exact List.mem_append.2 (Or.inr (List.mem_cons_of_mem _ h')))
  rw [hflat, h1, h2, List.map_append, kidsIdx_snd, kidsIdx_snd, walkDownL_append, List.flatMap_append,
    leafIdxL_kidsIdx, leafIdxL_kidsIdx]
  exact ⟨rfl, rfl⟩

/-- fuel: every sibling of the child `tc` fits in what is left after `tc` -/
theorem sibs_fuel (m : Nat) (k1 k2 : Kids) (e : EdgeD) (tc : T) (f : Nat)
    (hf : T.sizeL k1 + T.sizeL k2 ≤ f) :
    ∀ x ∈ kidsIdx m (k1 ++ (e, tc) :: k2), some x.1 ≠ some (m + T.sizeL k1) → x.2.2.size ≤ f := by
  intro x hxl hxc
  rw [(kidsIdx_split m k1 e tc k2).1] at hxl
  rcases List.mem_append.1 hxl with h' | h'
  · have := kidsIdx_range k1 m x h'; omega
  · rcases List.mem_cons.1 h' with h'' | h''
    · exact absurd (by rw [h'']) hxc
    · have := kidsIdx_range k2 _ x h''; omega

/-! ## the walk up from a tip -/

/-- what is left of the climb when it leaves node `n` upwards: the call made for the parent entry; nothing
    at the root -/
def callUp (g : G) (ids : Array Nat) (metric : Int) (f n : Nat) (par : Option Nat) (L : Array Rat) (acc : Rat) :
    Option (Array Rat) :=
  match par with
  | none => some L
  | some p =>
    match g.edges[n - 1]? with
    | none => none
    | some e => pathLengths g ids metric f p (some n) L (acc + weight metric e.d)

theorem callUp_size {g : G} {ids : Array Nat} {metric : Int} {f n : Nat} {par : Option Nat} {L R : Array Rat} {acc : Rat}
    (h : callUp g ids metric f n par L acc = some R) : R.size = L.size := by
  unfold callUp at h
  cases par with
  | none => simp only [Option.some.injEq] at h; rw [h]
  | some p =>
    simp only at h
    cases hee : g.edges[n - 1]? with
    | none => rw [hee] at h; simp at h
    | some ee => rw [hee] at h; exact pathLengths_size g ids metric _ _ _ _ _ _ h

/-- a root with a single child is a tip: the climb writes it when it arrives there -/
def rootW (par : Option Nat) (ks : Kids) (n : Nat) (d : Rat) : List (Nat × Rat) :=
  if par.isNone && ks.length == 1 then [(n, d)] else []

theorem walkUpL_split (w : EdgeD → Rat) (a : String) (e : EdgeD) (t : T) (k2 : Kids) (d : Rat) (res : List (String × Rat))
    (ht : walkUp w a t = some (d, res)) : ∀ (k1 : Kids), a ∉ leavesL k1 →
    walkUpL w a (k1 ++ (e, t) :: k2) =
      some (d + w e, walkDownL w k1 (d + w e) ++ (res ++ walkDownL w k2 (d + w e)))
  | [], _ => by simp [walkUpL, ht, walkDownL]
  | (e', t') :: k1, ha => by
    simp only [leavesL, List.mem_append, not_or] at ha
    simp only [List.cons_append, walkUpL, walkUp_none w a t' ha.1, walkUpL_split w a e t k2 d res ht k1 ha.2,
      walkDownL, List.append_assoc]

theorem walkUp_node_ne (w : EdgeD → Rat) (a : String) (d : NodeD) (pp : Nat) {ks : Kids} (h : ks ≠ []) :
    walkUp w a (.node d pp ks) = walkUpL w a ks := by
  cases ks with
  | nil => exact absurd rfl h
  | cons x k => simp only [walkUp]

theorem bind_some_comp {α : Type} (x : Option α) (f g : α → α) :
    (x.bind fun s => some (f s)).bind (fun s => some (g s)) = x.bind fun s => some (g (f s)) := by
  cases x <;> rfl

/-- the child `tc` of a node that holds the leaf `ia` named `a`: its leaves are distinct, `a` is one of
    them and is in no earlier child -/
theorem child_of_leaf (g : G) (p c : Nat) (k1 k2 : Kids) (e : EdgeD) (tc : T) (ia : Nat)
    (hnd : (leavesL (k1 ++ (e, tc) :: k2)).Nodup) (hn : Sub g.nodes c (flatT (some p) c tc)) (hic : ia ∈ leafIdxT c tc) :
    tc.leaves.Nodup ∧ g.name ia ∈ tc.leaves ∧ g.name ia ∉ leavesL k1 := by
  rw [leavesL_append, leavesL_cons] at hnd
  have hatc : g.name ia ∈ tc.leaves := by
    rw [← leafIdxT_names g tc c (some p) hn]
    exact List.mem_map_of_mem hic
  exact ⟨(List.nodup_append.1 (List.nodup_append.1 hnd).2.1).1, hatc,
    fun h => (List.nodup_append.1 hnd).2.2 _ h _ (by simp [hatc]) rfl⟩

/-- The walk started at the tip `a` (node `ia`) of the subtree `t` (top node `n`, parent `par`, none for the
    whole tree): inside `t` it writes, up to order, what `walkUp` of the rose-tree model lists (and the root
    when that is a tip), and it calls `pathLengths` on the parent once, with the length `walkUp` accumulates
    to the top. -/
theorem walk_up (g : G) (ids : Array Nat) (metric : Int) : ∀ (t : T) (n : Nat) (par : Option Nat) (a : String) (ia : Nat),
    (∀ p, par = some p → p < n) → Sub g.nodes n (flatT par n t) → Sub g.edges n (gedgesT n t) → t.leaves.Nodup →
    ia ∈ leafIdxT n t → g.name ia = a →
    ∃ (h : Nat) (ws1 ws2 : List (Nat × Rat)) (d : Rat) (res : List (String × Rat)),
      h < t.size ∧ walkUp (weight metric) a t = some (d, res) ∧
      ((ws1 ++ ws2).map fun iv => (g.name iv.1, iv.2)).Perm
        (res ++ (rootW par t.kids n d).map fun iv => (g.name iv.1, iv.2)) ∧
      ((ws1 ++ ws2).map (·.1)).Perm ((leafIdxT n t).erase ia ++ (rootW par t.kids n d).map (·.1)) ∧
      ∀ (F : Nat) (L : Array Rat), t.size ≤ F →
        (∀ i ∈ leafIdxT n t ++ (rootW par t.kids n d).map (·.1), ids.getD i 0 < L.size) →
        pathLengths g ids metric F ia none L 0 =
          (callUp g ids metric (F - h - 1) n par (applyW ids L ws1) d).bind (fun s => some (applyW ids s ws2)) := by
  intro t
  induction t using T.induct with
  | h d pp ks ih =>
    intro n par a ia hp hs he hnd hia hname
    by_cases hk : ks = []
    · -- the tip itself
      subst hk
      simp only [leafIdxT, List.mem_singleton] at hia
      subst hia
      have hnm : d.name = a := by rw [← hname, hs.name]
      refine ⟨0, [], [], 0, [], by rw [T.size_node]; omega, by simp [walkUp, hnm], by simp [rootW],
        by simp [leafIdxT, rootW], ?_⟩
      intro F L hF _
      rw [T.size_node] at hF
      obtain ⟨F', rfl⟩ : ∃ F', F = F' + 1 := ⟨F - 1, by omega⟩
      cases par with
      | none =>
        rw [pathLengths_succ g ids metric F' ia none L 0 _ hs.root]
        simp [nbrs, kidsIdx, callUp, applyW]
      | some p =>
        rw [pathLengths_succ g ids metric F' ia none L 0 _ hs.node]
        have : plStep g ids metric F' ia none 0 L (p, ia - 1) = callUp g ids metric F' ia (some p) L 0 := by
          simp [plStep, callUp]
        simp only [Option.isSome_none, Bool.and_false, Bool.false_eq_true, if_false, nbrs, kidsIdx, List.map_nil, insAt,
          List.take_nil, List.drop_nil, List.nil_append, List.foldlM_cons, List.foldlM_nil, this,
          applyW, List.foldl_nil, Nat.sub_zero, Nat.add_sub_cancel]
        cases callUp g ids metric F' ia (some p) L 0 <;> rfl
    · rw [leafIdxT_node_ne n d pp hk] at hia ⊢
      rw [T.leaves_node_ne d pp hk] at hnd
      have hok := kids_ok hs he
      -- the child holding `a`
      obtain ⟨k1, e, tc, k2, rfl, hic, herase⟩ := split_at_leaf ks (n + 1) ia hia
      have hS := sibs_spec g (weight metric) n (n + 1) k1 k2 e tc (fun x hx' => (hok x hx').nodes)
      have hfuel := sibs_fuel (n + 1) k1 k2 e tc
      have hx := hok (n + 1 + T.sizeL k1, (e, tc)) (by
        rw [(kidsIdx_split (n + 1) k1 e tc k2).1]; exact List.mem_append_right _ (List.mem_cons.2 (Or.inl rfl)))
      obtain ⟨c, hc⟩ : ∃ c, n + 1 + T.sizeL k1 = c := ⟨_, rfl⟩
      rw [hc] at hic herase hx hfuel
      simp only [hc] at hS
      obtain ⟨hndc, hatc, hak1⟩ := child_of_leaf g n c k1 k2 e tc ia hnd hx.nodes hic
      rw [hname] at hatc hak1
      obtain ⟨h, ws1, ws2, dd, res, hh, hwu, hperm, hidx, hrun⟩ :=
        ih (e, tc) hx.mem c (some n) a ia (fun p hp' => by cases hp'; exact hx.gt) hx.nodes hx.edges hndc hic hname
      simp only [rootW, Option.isNone_some, Bool.false_and, Bool.false_eq_true, if_false, List.map_nil,
        List.append_nil] at hh hwu hperm hidx hrun
      have hedge : g.edges[c - 1]? = some ⟨n, c, e⟩ := hx.edge
      have hne : (k1 ++ (e, tc) :: k2).isEmpty = false := by cases k1 <;> rfl
      -- the loop at `n` coming from `c`: the children before the parent entry, the parent, those after it
      let acc' := dd + weight metric e
      let l := kidsIdx (n + 1) (k1 ++ (e, tc) :: k2)
      let at' := par.elim l.length fun _ => pp
      let A := (l.take at').flatMap (stepW (weight metric) (some c) acc')
      let B := (l.drop at').flatMap (stepW (weight metric) (some c) acc')
      let R := rootW par (k1 ++ (e, tc) :: k2) n acc'
      have hAB : A ++ B = l.flatMap (stepW (weight metric) (some c) acc') := by
        show (l.take at').flatMap _ ++ (l.drop at').flatMap _ = _
        rw [← List.flatMap_append, List.take_append_drop]
      obtain ⟨hSn, hSi⟩ := hS acc'
      rw [← hAB] at hSn hSi
      refine ⟨h + 1, ws1 ++ A ++ R, B ++ ws2, acc', walkDownL (weight metric) k1 acc' ++ (res ++ walkDownL (weight metric) k2 acc'),
        ?_, ?_, ?_, ?_, ?_⟩
      · rw [T.size_node, T.sizeL_append, T.sizeL_cons]; omega
      · rw [walkUp_node_ne _ a d pp hk]
        exact walkUpL_split (weight metric) a e tc k2 dd res hwu k1 hak1
      · exact perm_wrap' _ hperm hSn
      · rw [herase]; exact perm_wrap' _ hidx hSi
      · intro F L hF hidr
        rw [T.size_node, T.sizeL_append, T.sizeL_cons] at hF
        have hidr' : ∀ i ∈ leafIdxL (n + 1) (k1 ++ (e, tc) :: k2), ids.getD i 0 < L.size :=
          fun i hi => hidr i (List.mem_append_left _ hi)
        rw [hrun F L (by omega) (fun i hi => hidr' i (hx.leaves i hi))]
        -- the call made from `c` on `n`
        obtain ⟨f', hf'⟩ : ∃ f', F - h - 1 = f' + 1 := ⟨F - h - 2, by omega⟩
        have hfuel := hfuel f' (by omega)
        have hcall : ∀ s : Array Rat, s.size = L.size →
            callUp g ids metric (F - h - 1) c (some n) s dd =
              (callUp g ids metric f' n par (applyW ids s (A ++ R)) acc').bind (fun s2 => some (applyW ids s2 B)) := by
          intro s hss
          have hL : callUp g ids metric (F - h - 1) c (some n) s dd = pathLengths g ids metric (f' + 1) n (some c) s acc' := by
            unfold callUp; simp only [hedge, hf']; rfl
          rw [hL]
          cases par with
          | some p =>
            have hR : R = [] := by simp [R, rootW]
            have hA : A = (l.take pp).flatMap (stepW (weight metric) (some c) acc') := rfl
            have hB : B = (l.drop pp).flatMap (stepW (weight metric) (some c) acc') := rfl
            rw [pathLengths_succ g ids metric f' n (some c) s acc' _ hs.node, hR, List.append_nil, neigh_one_iff, hA, hB]
            simp only [hne, Bool.false_and, Bool.false_eq_true, if_false]
            unfold insAt nbrs
            rw [← List.map_take, ← List.map_drop, List.foldlM_append]
            rw [loop_kids g ids metric f' n (n + 1) _ (some c) acc' (l.take pp) s
              (fun x hx' => hok x (List.mem_of_mem_take hx')) (fun x hx' => hfuel x (List.mem_of_mem_take hx'))
              (by rw [hss]; exact hidr')]
            simp only [Option.bind_eq_bind, Option.bind_some]
            rw [List.foldlM_cons]
            have hpar : ∀ s', plStep g ids metric f' n (some c) acc' s' (p, n - 1) =
                callUp g ids metric f' n (some p) s' acc' := by
              intro s'
              have : (some p != some c) = true := by
                have : p ≠ c := by have := hp p rfl; omega
                simpa using this
              simp [plStep, callUp, this]
            rw [hpar]
            cases hcu : callUp g ids metric f' n (some p) (applyW ids s ((l.take pp).flatMap (stepW (weight metric) (some c) acc'))) acc' with
            | none => rfl
            | some s2 =>
              simp only [Option.bind_some]
              exact loop_kids g ids metric f' n (n + 1) _ (some c) acc' (l.drop pp) s2
                (fun x hx' => hok x (List.mem_of_mem_drop hx')) (fun x hx' => hfuel x (List.mem_of_mem_drop hx'))
                (by rw [callUp_size hcu, applyW_size, hss]; exact hidr')
          | none =>
            have hB : B = [] := by simp [B, at']
            have hA : A = l.flatMap (stepW (weight metric) (some c) acc') := by rw [← hAB, hB, List.append_nil]
            rw [pathLengths_succ g ids metric f' n (some c) s acc' _ hs.root]
            simp only [callUp, Option.bind_some, hB, applyW, List.foldl_nil, nbrs_length, Option.isSome_some, Bool.and_true]
            by_cases h1 : ((k1 ++ (e, tc) :: k2).length == 1) = true
            · -- a root that is a tip: no other child, the root is written
              have hl1 : (k1 ++ (e, tc) :: k2).length = 1 := by simpa using h1
              simp only [List.length_append, List.length_cons] at hl1
              have hA0 : A = [] := by
                have := hSi
                rw [hB, List.eq_nil_of_length_eq_zero (l := k1) (by omega),
                  List.eq_nil_of_length_eq_zero (l := k2) (by omega)] at this
                simpa [leafIdxL] using this
              have hR : R = [(n, acc')] := by simp only [R, rootW, Option.isNone_none, Bool.true_and, h1, if_true]
              have h0r : ids.getD n 0 < s.size := by
                rw [hss]; exact hidr n (List.mem_append_right _ (by show n ∈ R.map (·.1); rw [hR]; simp))
              simp only [h1, if_true, h0r, hA0, hR, List.nil_append, List.foldl_cons, List.foldl_nil]
            · have h1' : ((k1 ++ (e, tc) :: k2).length == 1) = false := by simpa using h1
              have hR : R = [] := by simp only [R, rootW, Option.isNone_none, Bool.true_and, h1', Bool.false_eq_true, if_false]
              simp only [h1', Bool.false_eq_true, if_false, hR, List.append_nil, nbrs]
              rw [loop_kids g ids metric f' n (n + 1) _ (some c) acc' l s hok hfuel (by rw [hss]; exact hidr'), ← hA]
              rfl
        rw [hcall _ (applyW_size ids ws1 L), ← applyW_append, bind_some_comp,
          show F - (h + 1) - 1 = f' by omega, List.append_assoc]
        congr 1
        funext s2
        rw [applyW_append]

/-- The walk started at any tip of the tree writes exactly the entries `row` lists (as a
    multiset of (name, length) pairs), once each, and nothing at the start tip. -/
theorem walk_root (metric : Int) (t : T) (ids : Array Nat) (hu : t.tipNames.Nodup) (ia : Nat)
    (hia : ia ∈ (G.ofT t).tips) :
    ∃ ws : List (Nat × Rat),
      (ws.map fun iv => ((G.ofT t).name iv.1, iv.2)).Perm (row (weight metric) t ((G.ofT t).name ia)) ∧
      (ws.map (·.1)).Perm ((G.ofT t).tips.erase ia) ∧
      ∀ (F : Nat) (L : Array Rat), t.size ≤ F → (∀ i ∈ (G.ofT t).tips, ids.getD i 0 < L.size) →
        pathLengths (G.ofT t) ids metric F ia none L 0 = some (applyW ids L ws) := by
  obtain ⟨d, pp, ks⟩ := t
  have htips : (G.ofT (.node d pp ks)).tips = (if ks.length == 1 then [0] else []) ++ leafIdxL 1 ks := tips_ofT _
  generalize hg : G.ofT (.node d pp ks) = g at *
  have hs : Sub g.nodes 0 (flatT none 0 (.node d pp ks)) := by rw [← hg]; exact Sub.whole _
  have he : Sub g.edges 0 (gedgesT 0 (.node d pp ks)) := by rw [← hg]; exact Sub.whole _
  have hnode := hs.root
  have hok := kids_ok hs he
  have hname0 : g.name 0 = d.name := gname_of_node hnode
  rw [T.tipNames_node] at hu
  let w := weight metric
  have hn : (T.node d pp ks).name = d.name := rfl
  rw [htips] at hia ⊢
  rcases List.mem_append.1 hia with h0 | hin
  · -- the walk starts at the root, which is a tip
    have hk1 : (ks.length == 1) = true := by
      by_cases h : (ks.length == 1) = true
      · exact h
      · simp [h] at h0
    simp only [hk1, if_true, List.mem_singleton] at h0
    subst h0
    obtain ⟨h1, h2⟩ := wd_list g w 0 0 (kidsIdx (0 + 1) ks) (fun x hx => (hok x hx).nodes)
    refine ⟨(kidsIdx (0 + 1) ks).flatMap fun x => wdT w x.1 x.2.2 (0 + w x.2.1), ?_, ?_, ?_⟩
    · rw [h1, kidsIdx_snd, hname0]
      simp only [row, T.kids_node, hk1, hn, beq_self_eq_true, Bool.and_self, if_true]
      exact List.Perm.refl _
    · rw [h2, leafIdxL_kidsIdx]
      simp [hk1]
    · intro F L hF hidr
      rw [T.size_node] at hF
      obtain ⟨F', rfl⟩ : ∃ F', F = F' + 1 := ⟨F - 1, by omega⟩
      rw [pathLengths_succ g ids metric F' 0 none L 0 _ hnode]
      simp only [Option.isSome_none, Bool.and_false, Bool.false_eq_true, if_false, nbrs]
      rw [loop_kids g ids metric F' 0 (0 + 1) ks none 0 _ L hok
        (fun x hx _ => by have := (hok x hx).size; omega)
        (fun i hi => hidr i (by simp [hi])), stepW_noskip _ none 0 _ (by simp)]
  · -- the walk starts at a tip below the root: the climb of the whole tree
    have hk : ks ≠ [] := fun h => by rw [h] at hin; simp [leafIdxL] at hin
    have hia0 : ia ≠ 0 := by have := leafIdxL_range ks 1 ia hin; omega
    obtain ⟨h, ws1, ws2, dd, res, _, hwu, hperm, hidx, hrun⟩ :=
      walk_up g ids metric (.node d pp ks) 0 none (g.name ia) ia (fun p hp => by cases hp) hs he
        (by rw [T.leaves_node_ne d pp hk]; exact (List.nodup_append.1 hu).2.1)
        (by rw [leafIdxT_node_ne 0 d pp hk]; exact hin) rfl
    rw [walkUp_node_ne _ _ d pp hk] at hwu
    rw [leafIdxT_node_ne 0 d pp hk] at hidx hrun
    simp only [T.kids_node, rootW, Option.isNone_none, Bool.true_and] at hperm hidx hrun
    refine ⟨ws1 ++ ws2, ?_, ?_, ?_⟩
    · have hrow : row w (.node d pp ks) (g.name ia) = res ++ (if ks.length == 1 then [(d.name, dd)] else []) := by
        have h1 : ((ks.length == 1) && (d.name == g.name ia)) = false := by
          cases hk1 : ks.length == 1 with
          | false => rfl
          | true =>
            rw [hk1] at hu
            have : d.name ≠ g.name ia := fun h' => (List.nodup_append.1 hu).2.2 d.name (by simp) _
              (by rw [← leafIdxL_names g ks (0 + 1) 0 (by rw [flatT_node] at hs; exact hs.tail)]
                  exact List.mem_map_of_mem hin) h'
            simpa using this
        simp only [row, T.kids_node, hn, h1, Bool.false_eq_true, if_false]
        rw [show walkUpL w (g.name ia) ks = some (dd, res) from hwu]
      rw [hrow]
      refine hperm.trans (List.Perm.append_left _ ?_)
      split <;> simp [hname0]
    · have : ((if (ks.length == 1) = true then [0] else []) ++ leafIdxL 1 ks).erase ia =
          (if (ks.length == 1) = true then [0] else []) ++ (leafIdxL 1 ks).erase ia :=
        List.erase_append_right _ (by split <;> simp [hia0])
      rw [this]
      refine hidx.trans (List.perm_append_comm.trans (List.Perm.append_right _ ?_))
      split <;> simp
    · intro F L hF hidr
      rw [hrun F L hF (fun i hi => hidr i (by
        rcases List.mem_append.1 hi with hi | hi
        · exact List.mem_append_right _ hi
        · refine List.mem_append_left _ ?_
          split at hi <;> simp_all)), callUp, Option.bind_some, applyW_append]

/-! ## `SetId`, the metric, the matrix -/

theorem mapM_spec {α β γ : Type} (f : α → Option β) (g : β → γ) (h : α → γ) : ∀ (l : List α),
    (∀ a ∈ l, ∃ b, f a = some b ∧ g b = h a) → ∃ bs, l.mapM f = some bs ∧ bs.map g = l.map h
  | [], _ => ⟨[], by simp, rfl⟩
  | a :: l, hl => by
    obtain ⟨b, hb, hg⟩ := hl a (by simp)
    obtain ⟨bs, hbs, hgs⟩ := mapM_spec f g h l (fun x hx => hl x (by simp [hx]))
    exact ⟨b :: bs, by simp [List.mapM_cons, hb, hbs], by simp [hg, hgs]⟩

theorem setIds_spec : ∀ (l : List Nat) (k : Nat) (A : Array Nat), l.Nodup → (∀ x ∈ l, x < A.size) →
    ((l.zipIdx k).foldl (fun ids ti => ids.set! ti.1 ti.2) A).size = A.size ∧
    (∀ j (h : j < l.length), ((l.zipIdx k).foldl (fun ids ti => ids.set! ti.1 ti.2) A).getD l[j] 0 = k + j) ∧
    (∀ x, x ∉ l → ((l.zipIdx k).foldl (fun ids ti => ids.set! ti.1 ti.2) A).getD x 0 = A.getD x 0)
  | [], _, A, _, _ => ⟨rfl, fun j h => by simp at h, fun _ _ => rfl⟩
  | a :: l, k, A, hn, hr => by
    have hn' := List.nodup_cons.1 hn
    simp only [List.zipIdx_cons, List.foldl_cons]
    have ha : a < A.size := hr a (by simp)
    obtain ⟨h1, h2, h3⟩ := setIds_spec l (k + 1) (A.set! a k) hn'.2
      (fun x hx => by simpa using hr x (by simp [hx]))
    refine ⟨by simpa using h1, fun j hj => ?_, fun x hx => ?_⟩
    · cases j with
      | zero =>
        simp only [List.getElem_cons_zero, Nat.add_zero]
        rw [h3 a hn'.1, getD_set!]
        simp [ha]
      | succ j =>
        simp only [List.getElem_cons_succ]
        rw [h2 j (by simpa using hj)]; omega
    · simp only [List.mem_cons, not_or] at hx
      rw [h3 x hx.2, getD_set!]
      simp [hx.1]

theorem setIds_get (N : Nat) (tips : List Nat) (hn : tips.Nodup) (hr : ∀ x ∈ tips, x < N) (j : Nat) (hj : j < tips.length) :
    (setIds N tips).getD tips[j] 0 = j := by
  have := (setIds_spec tips 0 (Array.replicate N 0) hn (by simpa using hr)).2.1 j hj
  simpa [setIds] using this

/-- the ids `ToDistanceMatrix` leaves on the tips: the tip of row `j` has id `j` -/
theorem ids_after_matrix (t : T) (hu : t.tipNames.Nodup) (j : Nat)
    (hj : j < (sortTips (G.ofT t) (G.ofT t).tips).length) :
    (setIds (G.ofT t).nodes.size (sortTips (G.ofT t) (G.ofT t).tips)).getD ((sortTips (G.ofT t) (G.ofT t).tips)[j]) 0 = j := by
  have hperm : (sortTips (G.ofT t) (G.ofT t).tips).Perm (G.ofT t).tips := insSort_perm _ _
  exact setIds_get _ _ (hperm.nodup_iff.2 (tips_nodup t hu).1) (fun x hx => tips_lt_size t x (hperm.mem_iff.1 hx)) j hj

def metricOf (mi : Int) : Metric := if mi == 1 then .boots else if mi == 2 then .none else .brlen

theorem weight_eq (mi : Int) : weight mi = (metricOf mi).w := by
  funext e
  unfold weight metricOf
  by_cases h1 : mi = 1
  · simp [h1, Metric.w]
  · by_cases h2 : mi = 2
    · simp [h2, Metric.w]
    · simp [h1, h2, Metric.w]

/-- `ToDistanceMatrix` of the statement-level model, run on the pointer graph of a rose tree
    with unique tip names, returns the matrix of the rose-tree model: same tips in the same
    order, same entries.  (`metricOf` reads the integer as the code does: 1 = supports,
    2 = ones, every other value = lengths.) -/
theorem matrixGo_eq_matrix (mi : Int) (t : T) (hu : t.tipNames.Nodup) :
    matrixGo mi t = some (matrix (metricOf mi) t) := by
  let g := G.ofT t
  have hnames : g.tips.map g.name = t.tipNames := tips_names_ofT t
  obtain ⟨htipsN, hinj⟩ := tips_nodup t hu
  let tips := sortTips g g.tips
  have hperm : tips.Perm g.tips := insSort_perm _ _
  have htN : tips.Nodup := hperm.nodup_iff.2 htipsN
  have hsnames : tips.map g.name = sortNames t.tipNames := by
    show (insSort (fun a b => decide (g.name a < g.name b)) g.tips).map g.name = _
    rw [insSort_names g.name g.tips, hnames]
  let N := g.nodes.size
  let ids := setIds N tips
  let n := tips.length
  have hids : ∀ j (hj : j < n), ids.getD tips[j] 0 = j := ids_after_matrix t hu
  have hidr : ∀ i ∈ g.tips, ids.getD i 0 < n := by
    intro i hi
    obtain ⟨j, hj, e⟩ := List.getElem_of_mem (hperm.mem_iff.2 hi)
    rw [← e, hids j hj]; exact hj
  have hidinj : ∀ x ∈ tips, ∀ y ∈ tips, ids.getD x 0 = ids.getD y 0 → x = y := by
    intro x hx y hy e
    obtain ⟨j, hj, ej⟩ := List.getElem_of_mem hx
    obtain ⟨k, hk, ek⟩ := List.getElem_of_mem hy
    rw [← ej, ← ek, hids j hj, hids k hk] at e
    subst e; rw [← ej, ← ek]
  let w := weight mi
  let L : Array Rat := Array.replicate n 0
  let rowList : Nat → List Rat := fun ai => tips.map fun bi =>
    if g.name ai == g.name bi then 0 else ((row w t (g.name ai)).lookup (g.name bi)).getD 0
  have hsz : t.size ≤ N + 1 := by
    have : N = t.size := nodes_size t
    omega
  -- each row
  have hrow : ∀ ai ∈ tips, ∃ R, pathLengths g ids mi (N + 1) ai none L 0 = some R ∧ R.toList = rowList ai := by
    intro ai hai
    have hai' : ai ∈ g.tips := hperm.mem_iff.1 hai
    obtain ⟨ws, hwn, hwi, hrun⟩ := walk_root mi t ids hu ai hai'
    have hLsz : L.size = n := by simp [L]
    refine ⟨applyW ids L ws, hrun (N + 1) L hsz (fun i hi => by rw [hLsz]; exact hidr i hi), ?_⟩
    have hwsN : (ws.map (·.1)).Nodup := hwi.nodup_iff.2 (htipsN.erase ai)
    have hwsmem : ∀ iv ∈ ws, iv.1 ∈ tips ∧ iv.1 ≠ ai := by
      intro iv hiv
      have : iv.1 ∈ g.tips.erase ai := hwi.mem_iff.1 (List.mem_map_of_mem hiv)
      have := (htipsN.mem_erase_iff).1 this
      exact ⟨hperm.mem_iff.2 this.2, this.1⟩
    have hws1 : ∀ x ∈ ws.map (·.1), x ∈ g.tips := fun x hx => List.mem_of_mem_erase (hwi.mem_iff.1 hx)
    have hkeys : (ws.map fun iv => ids.getD iv.1 0).Nodup := by
      have : (ws.map fun iv => ids.getD iv.1 0) = (ws.map (·.1)).map (fun i => ids.getD i 0) := by
        rw [List.map_map]; rfl
      rw [this]
      exact nodup_map_of_inj _ hwsN (fun x hx y hy e => hidinj x (hperm.mem_iff.2 (hws1 x hx)) y (hperm.mem_iff.2 (hws1 y hy)) e)
    have hrange : ∀ iv ∈ ws, ids.getD iv.1 0 < L.size := by
      intro iv hiv; rw [hLsz]; exact hidr _ (hperm.mem_iff.1 (hwsmem iv hiv).1)
    have hrowkeys : ((row w t (g.name ai)).map (·.1)).Nodup := by
      have h1 : ((ws.map fun iv => (g.name iv.1, iv.2)).map (·.1)).Perm ((row w t (g.name ai)).map (·.1)) := hwn.map _
      refine h1.nodup_iff.1 ?_
      have : (ws.map fun iv => (g.name iv.1, iv.2)).map (·.1) = (ws.map (·.1)).map g.name := by
        rw [List.map_map, List.map_map]; rfl
      rw [this]
      exact nodup_map_of_inj _ hwsN (fun x hx y hy e => hinj x (hws1 x hx) y (hws1 y hy) e)
    have hrl : (rowList ai).length = n := by
      show (List.map _ tips).length = tips.length
      simp
    apply List.ext_getElem
    · rw [Array.length_toList, applyW_size, hLsz, hrl]
    · intro j h1 h2
      have hj : j < n := by rw [hrl] at h2; exact h2
      have hjR : j < (applyW ids L ws).size := by rw [applyW_size, hLsz]; exact hj
      have hget : (applyW ids L ws).toList[j] = (applyW ids L ws).getD j 0 := by
        rw [Array.getElem_toList]
        simp [Array.getD_eq_getD_getElem?, hjR]
      rw [hget]
      simp only [rowList, List.getElem_map]
      have hbi : tips[j] ∈ tips := List.getElem_mem hj
      by_cases hab : ai = tips[j]
      · -- the start tip: never written
        rw [← hab]
        simp only [beq_self_eq_true, if_true]
        rw [applyW_other ids ws L j (fun iv hiv e => ?_)]
        · exact getD_replicate n j 0
        · have hm := hwsmem iv hiv
          rw [← hids j hj, ← hab] at e
          exact hm.2 (hidinj _ hm.1 _ hai e)
      · have hne : (g.name ai == g.name tips[j]) = false := by
          have : g.name ai ≠ g.name tips[j] := fun e => hab (hinj _ hai' _ (hperm.mem_iff.1 hbi) e)
          simpa using this
        simp only [hne, Bool.false_eq_true, if_false]
        have hmem : tips[j] ∈ ws.map (·.1) :=
          hwi.mem_iff.2 ((htipsN.mem_erase_iff).2 ⟨fun e => hab e.symm, hperm.mem_iff.1 hbi⟩)
        obtain ⟨iv, hiv, hiv1⟩ := List.mem_map.1 hmem
        have hval := applyW_mem ids ws L hkeys hrange iv hiv
        rw [hiv1, hids j hj] at hval
        rw [hval]
        have hin : (g.name tips[j], iv.2) ∈ row w t (g.name ai) := by
          refine hwn.mem_iff.1 (List.mem_map.2 ⟨iv, hiv, ?_⟩)
          rw [hiv1]
        rw [lookup_of_mem_nodup hrowkeys hin]
        rfl
  obtain ⟨rows, hrows, hrl⟩ := mapM_spec (fun a => pathLengths g ids mi (N + 1) a none L 0) Array.toList rowList tips hrow
  have hgo : matrixGo mi t = some (tips.map g.name, rows.map Array.toList) := by
    show (match toDistanceMatrix g mi with
      | some (m, tips) => some (tips.map g.name, m)
      | none => none) = _
    have : toDistanceMatrix g mi = some (rows.map Array.toList, tips) := by
      show (match tips.mapM fun a => pathLengths g ids mi (N + 1) a none L 0 with
        | some rows => some (rows.map Array.toList, tips)
        | none => none) = _
      rw [hrows]
    rw [this]
  rw [hgo, hrl]
  have hm : matrix (metricOf mi) t = (tips.map g.name, (tips.map g.name).map fun a =>
      (tips.map g.name).map fun b => if a == b then 0 else ((row (metricOf mi).w t a).lookup b).getD 0) := by
    unfold matrix
    simp only [hsnames]
  rw [hm]
  congr 2
  rw [List.map_map]
  apply List.map_congr_left
  intro ai _
  show rowList ai = _
  simp only [rowList, List.map_map, Function.comp]
  rw [← weight_eq mi]
  rfl

end Gotree.C14

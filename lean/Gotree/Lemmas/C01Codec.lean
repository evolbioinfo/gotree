/-
  C01 — a lawful `FloatCodec` (non-vacuity of the hypotheses of the C01 theorems).

  `ratCodec` writes a rational as  [-]<numerator>r<denominator>  in decimal digits, represents EVERY
  rational (`dom = fun _ => true`), and satisfies the four laws — proved here, no axiom.  It is not the
  codec of the Go code (that one is `goCodec`, whose laws are the stated trust in `strconv`, exercised by
  the C01.float stream on every run); it shows that the theorems are not vacuous.
-/
import Gotree.Lemmas.C01

namespace Gotree.Newick

def rMark (c : Char) : Bool := c.isDigit || c == '-' || c == 'r'

def rfmt (x : Rat) : List Char :=
  (if x.num < 0 then ['-'] else []) ++ (Nat.toDigits 10 x.num.natAbs ++ 'r' :: Nat.toDigits 10 x.den)

def risFloat (l : List Char) : Bool := !l.isEmpty && l.all rMark

def rparse (l : List Char) : Option Rat :=
  let neg := l.head? == some '-'
  let body := if neg then l.tail else l
  let a := body.takeWhile Char.isDigit
  let b := (body.dropWhile Char.isDigit).drop 1
  let n : Int := (Nat.ofDigitChars 10 a 0 : Nat)
  some (mkRat (if neg then -n else n) (Nat.ofDigitChars 10 b 0))

/-- a digit is none of the other characters of a float literal -/
theorem isDigit_ne (c d : Char) (h : c.isDigit = true) (hd : d.isDigit = false) : (c == d) = false := by
  cases hx : (c == d) with
  | false => rfl
  | true => rw [beq_iff_eq.1 hx, hd] at h; cases h

theorem digit_numClean (c : Char) (hd : c.isDigit = true) : numClean c = true := by
  simp only [numClean, Bool.not_eq_true', Bool.or_eq_false_iff, beq_eq_false_iff_ne, ne_eq]
  refine ⟨⟨⟨⟨⟨⟨⟨⟨⟨⟨⟨?_, ?_⟩, ?_⟩, ?_⟩, ?_⟩, ?_⟩, ?_⟩, ?_⟩, ?_⟩, ?_⟩, ?_⟩, ?_⟩ <;>
    (intro h; subst h; revert hd; decide)

theorem digits_all (n : Nat) : (Nat.toDigits 10 n).all Char.isDigit = true := by
  rw [List.all_eq_true]
  intro c hc
  exact Nat.isDigit_of_mem_toDigits (b := 10) (by decide) (by decide) hc

theorem rfmt_all (p : Char → Bool) (hd : ∀ c, c.isDigit = true → p c = true) (hm : p '-' = true) (hr : p 'r' = true)
    (x : Rat) : (rfmt x).all p = true := by
  have h1 := all_imp _ p _ (digits_all x.num.natAbs) hd
  have h2 := all_imp _ p _ (digits_all x.den) hd
  unfold rfmt
  split <;> simp [List.all_append, h1, h2, hm, hr]

theorem head_digits (n : Nat) : ∃ c w, Nat.toDigits 10 n = c :: w ∧ c.isDigit = true := by
  cases h : Nat.toDigits 10 n with
  | nil => exact absurd h Nat.toDigits_ne_nil
  | cons c w =>
    refine ⟨c, w, rfl, ?_⟩
    have hm : c ∈ Nat.toDigits 10 n := by rw [h]; exact List.mem_cons_self ..
    exact Nat.isDigit_of_mem_toDigits (b := 10) (by decide) (by decide) hm

theorem rparse_body (a b : Nat) :
    Nat.ofDigitChars 10 ((Nat.toDigits 10 a ++ 'r' :: Nat.toDigits 10 b).takeWhile Char.isDigit) 0 = a ∧
    Nat.ofDigitChars 10 (((Nat.toDigits 10 a ++ 'r' :: Nat.toDigits 10 b).dropWhile Char.isDigit).drop 1) 0 = b := by
  rw [takeWhile_append_stop _ _ 'r' _ (digits_all a) (by decide), dropWhile_append_stop _ _ 'r' _ (digits_all a) (by decide)]
  simp

theorem rparse_rfmt (x : Rat) : rparse (rfmt x) = some x := by
  obtain ⟨c, w, hcw, hc⟩ := head_digits x.num.natAbs
  obtain ⟨h1, h2⟩ := rparse_body x.num.natAbs x.den
  by_cases hneg : x.num < 0
  · have hf : rfmt x = '-' :: (Nat.toDigits 10 x.num.natAbs ++ 'r' :: Nat.toDigits 10 x.den) := by simp [rfmt, hneg]
    simp only [rparse, hf, List.head?_cons, beq_self_eq_true, if_true, List.tail_cons, h1, h2]
    have : -((x.num.natAbs : Nat) : Int) = x.num := by omega
    rw [this, Rat.mkRat_self]
  · have hf : rfmt x = Nat.toDigits 10 x.num.natAbs ++ 'r' :: Nat.toDigits 10 x.den := by simp [rfmt, hneg]
    have hhead : ((Nat.toDigits 10 x.num.natAbs ++ 'r' :: Nat.toDigits 10 x.den).head? == some '-') = false := by
      rw [hcw]
      simpa using isDigit_ne c '-' hc rfl
    simp only [rparse, hf, hhead, Bool.false_eq_true, if_false, h1, h2]
    have : ((x.num.natAbs : Nat) : Int) = x.num := by omega
    rw [this, Rat.mkRat_self]

/-- A lawful codec representing every rational. -/
def ratCodec : FloatCodec where
  fmt := rfmt
  isFloat := risFloat
  parse := rparse
  dom := fun _ => true
  fmt_clean := by
    intro x _
    refine ⟨?_, rfmt_all numClean digit_numClean (by decide) (by decide) x⟩
    unfold rfmt
    split <;> simp
  fmt_isFloat := by
    intro x _
    have h := rfmt_all rMark (fun c hc => by simp [rMark, hc]) (by decide) (by decide) x
    have hne : (rfmt x).isEmpty = false := by
      unfold rfmt; split <;> simp
    simp [risFloat, h, hne]
  parse_fmt := fun x _ => rparse_rfmt x
  isFloat_noSlash := by
    intro l h
    simp only [risFloat, Bool.and_eq_true] at h
    exact all_imp _ _ l h.2 (fun c hc => by
      simp only [rMark, Bool.or_eq_true, beq_iff_eq] at hc
      rcases hc with (hc | hc) | hc
      · cases hx : (c != '/') with
        | true => rfl
        | false => simp at hx; subst hx; revert hc; decide
      · subst hc; decide
      · subst hc; decide)

end Gotree.Newick

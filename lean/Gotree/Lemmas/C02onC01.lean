/-
  C02 — the Newick model of C01 (`Gotree.Newick`, Model/C01.lean) never panics: its only `panic` is the nil
  root dereferenced by `newtree.Tips()` at the end of `Parse`, and a root exists whenever `parseIter`
  returns normally after a first `(`.
-/
import Gotree.Lemmas.C01Machine
namespace Gotree.C02.OnC01
open Gotree Gotree.Newick

/-- `t.Root()` is not nil -/
def Rooted (st : PState) : Prop := st.stack ≠ [] ∨ st.done.isSome = true

theorem unwind_isSome : ∀ (s : List Frame) (acc : Option (EdgeD × T)), (s ≠ [] ∨ acc.isSome = true) → (PState.unwind s acc).isSome = true
  | [], acc, h => by
    rcases h with h | h
    · exact absurd rfl h
    · unfold PState.unwind; cases acc <;> simp_all
  | f :: rest, acc, _ => by
    unfold PState.unwind
    exact unwind_isSome rest _ (Or.inr rfl)

theorem result_isSome (st : PState) (h : Rooted st) : st.result.isSome = true := by
  unfold PState.result
  split
  · rename_i hs; rcases h with h | h
    · exact absurd hs h
    · exact h
  · rename_i s hs; exact unwind_isSome _ none (Or.inl (by intro h'; exact hs h'))

theorem rooted_modTop {st : PState} (f : Frame → Frame) (h : Rooted st) : Rooted (st.modTop f) := by
  unfold PState.modTop
  split
  · exact h
  · exact Or.inl (List.cons_ne_nil _ _)

theorem rooted_pop {st st' : PState} (h : st.pop = some st') : Rooted st' := by
  unfold PState.pop at h
  split at h
  · cases h
  · cases h; exact Or.inr rfl
  · cases h; exact Or.inl (List.cons_ne_nil _ _)

/-- what one turn of `parseIter` guarantees: it does not panic; the state it hands on has a root if `r` holds
    (below: the state it found had one, or the token is `(`); it returns normally only at `;` (standing at `pos`,
    before it) or at the end of the input -/
def GoodTurn (r : Prop) (tok : Tok) (pos : List Char) : Iter → Prop
  | .cont st _ => r → Rooted st
  | .stop (.ok (st, p)) => (r → Rooted st) ∧ ((tok = .eot ∧ p = pos) ∨ tok = .eof)
  | .stop (.panic _) => False
  | .stop _ => True

/-- the local function `named` of `iter` -/
theorem named_good {r : Prop} {tok : Tok} {pos lit rest : List Char} {st : PState} (h : r → Rooted st) :
    GoodTurn r tok pos (if st.nodeNil then .stop (.err "Cannot assign node name to nil node")
      else .cont (st.setName (String.ofList lit)) rest) := by
  split
  · trivial
  · exact fun hr => rooted_modTop _ (h hr)

/- One pass over the cases of `iter` (`fun_cases`: a case per leaf of the `switch`, the result already computed;
   for a label after `)` the case hypotheses have not been used on the result yet: `simp only [*]`).
   `Rooted` reads the stack and the last root only, so the record updates around a state do not matter.
   `(` and the two pops build a root whatever the state was; for every other token `r` says the state had one. -/
theorem iter_good (C : Codec) (st : PState) (tok : Tok) (lit pos rest : List Char) :
    GoodTurn (Rooted st ∨ tok = .openpar) tok pos (iter C st tok lit pos rest) := by
  fun_cases iter C st tok lit pos rest
  all_goals try simp only [*]
  all_goals first
    | trivial
    | exact fun _ => Or.inl (List.cons_ne_nil _ _)
    | exact fun _ => (rooted_pop (st := st) (by assumption) :)
    | exact fun hr => hr.resolve_right (by decide)
    | exact ⟨fun hr => hr.resolve_right (by decide), Or.inl ⟨rfl, rfl⟩⟩
    | exact ⟨fun hr => hr.resolve_right (by decide), Or.inr rfl⟩
    | exact fun hr => rooted_modTop _ (hr.resolve_right (by decide))
    | exact fun hr => rooted_modTop _ (rooted_modTop _ (hr.resolve_right (by decide)))
    | exact named_good fun hr => hr.resolve_right (by decide)

/-- the same for the turn `run` makes on the input `inp` -/
theorem turn_good (C : Codec) (st : PState) (inp : List Char) :
    GoodTurn (Rooted st ∨ (scanIW C inp).1 = .openpar) (scanIW C inp).1 (skipWs C inp)
      (iter C st (scanIW C inp).1 (scanIW C inp).2.1 (skipWs C inp) (scanIW C inp).2.2) :=
  iter_good C st _ _ _ _

/-- the loop of `parseIter`: if it returns normally, a root has been set — provided the state already has
    one or the first token is `(` -/
theorem run_rooted (C : Codec) (st : PState) (inp : List Char) :
    Rooted st ∨ (scanIW C inp).1 = .openpar → ∀ st' r, run C st inp = .ok (st', r) → Rooted st' := by
  induction st, inp using run_ind C with
  | stop st inp o hi ho =>
    intro hr st' r h
    have g := turn_good C st inp
    rw [hi, ← ho, h] at g
    exact g.1 hr
  | cont st inp st2 r2 hi ho _ ih =>
    intro hr st' r h
    have g := turn_good C st inp
    rw [hi] at g
    exact ih (Or.inl (g hr)) st' r (ho ▸ h)

theorem run_no_panic (C : Codec) (st : PState) (inp : List Char) (m : String) : run C st inp ≠ .panic m := by
  induction st, inp using run_ind C with
  | stop st inp o hi ho =>
    have g := turn_good C st inp
    rw [hi, ← ho] at g
    exact fun h => by rw [h] at g; exact g
  | cont st inp st2 r2 hi ho _ ih => rw [ho]; exact ih

/-- the end of `Parse` dereferences the root: it is there whenever the loop has set one -/
theorem finishR_no_panic (C : Codec) (o : Outcome (PState × List Char)) (hp : ∀ m, o ≠ .panic m)
    (hr : ∀ st r, o = .ok (st, r) → Rooted st) (m : String) : finishR C o ≠ .panic m := by
  unfold finishR
  split
  · exact nofun
  · exact absurd rfl (hp _)
  · exact nofun
  · rename_i st rest
    have := result_isSome st (hr st rest rfl)
    repeat' split
    all_goals first | (rename_i hn; rw [hn] at this; cases this; done) | exact nofun

/-- ★ on the Newick model of C01 (`Gotree.Newick.parse`, any codec): `Parse` never panics -/
theorem parse_no_panic (C : Codec) (inp : List Char) (m : String) : parse C inp ≠ .panic m := by
  have h : ∀ m, parseR C inp ≠ .panic m := by
    intro m
    rw [parseR_eq]
    split
    · exact nofun
    · rename_i inp1 _
      unfold tailR
      split
      · exact nofun
      · rename_i hop
        -- `unscan`: `parseIter` reads the `(` again
        exact finishR_no_panic C _ (run_no_panic C _ _)
          (run_rooted C {} _ (Or.inr (by rw [scanIW_skipWs]; exact Decidable.not_not.mp hop))) m
  rw [parse_eq_parseR]
  cases hp : parseR C inp with
  | panic m' => exact absurd hp (h m')
  | _ => simp [dropRest]
end Gotree.C02.OnC01

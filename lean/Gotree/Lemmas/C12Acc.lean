/-
  C12 — ACCTRAN is sound, with or without random resolution: every state reported at an inner node has
  second-pass cost equal to the global minimum, hence occurs there in a most parsimonious labelling.
  Top-down induction for any narrowing (`Narrows`) of the up-pass slices: the parent hands down a non-empty
  set of states that are optimal for its second-pass slice (`ParOK`); given the parent's state, the shared
  state (resp. any up-pass state) of the child is an optimal completion (`acc_step`).
-/
import Gotree.Lemmas.C12Tot
import Gotree.Lemmas.C12Narrow

namespace Gotree.C12
open Gotree

section acc
variable (k : Nat) (tv : String → Vec)

/-- what the parent hands down: its reported set `pv` (a non-empty set of states that are all
    optimal for the parent's second-pass slice `totv`), and `MIN ≤ totv` everywhere -/
structure ParOK (MIN : Nat) (pv totv : Vec) : Prop where
  h01 : Set01 k pv
  hne : ∃ p, p < k ∧ pv.at p ≠ 0
  hopt : ∀ p, p < k → pv.at p ≠ 0 → totv.at p = MIN
  hmin : ∀ t, t < k → MIN ≤ totv.at t

theorem ParOK.keeps {MIN : Nat} {S S' totc : Vec} (h : ParOK k MIN S totc) (hK : Keeps k S S') :
    ParOK k MIN S' totc :=
  ⟨hK.s01 h.h01, hK.nz h.hne, fun p hp hne => h.hopt p hp (hK.sub p hp hne), h.hmin⟩

theorem parOK_resolve (MIN : Nat) (S totc : Vec) (st : List Nat) (h : ParOK k MIN S totc) :
    ParOK k MIN (resolve k S st).1 totc :=
  h.keeps k (keeps_resolve k S st)

/-- what a node knows of the rest of the tree, whose cost seen from the node is `U`: nothing at the root (`MIN` is the
    global minimum); otherwise the parent's reported set with the parent's second-pass slice `totv = R + g_c` -/
def ParCtx (MIN : Nat) (c : T) (U : Vec) : Option Vec → Prop
  | none => (∀ t, t < k → U.at t = 0) ∧ MIN = minCost k tv c
  | some pv => ∃ totv R, ParOK k MIN pv totv ∧ (∀ s, s < k → U.at s = (through k R).at s) ∧
      (∀ t, t < k → R.at t + (gv k tv c).at t = totv.at t)

theorem acc_step (hk : 0 < k) (d : NodeD) (pp : Nat) (x : EdgeD × T) (xs : Kids)
    (hl : ∀ n ∈ leavesL (x :: xs), Set01 k (tv n))
    (MIN : Nat) (U : Vec) (par : Option Vec) (hctx : ParCtx k tv MIN (.node d pp (x :: xs)) U par) :
    ParOK k MIN (interOpt k (upS k tv (.node d pp (x :: xs))) par) (vadd k (fL k tv (x :: xs)) U) := by
  have hlc : ∀ n ∈ (T.node d pp (x :: xs)).leaves, Set01 k (tv n) := by
    intro n hn; rw [leaves_node_cons] at hn; exact hl n hn
  obtain ⟨hupN, hVUat⟩ := up_node k tv hk d pp x xs hl
  have hVU01 := upS_le_one k tv _ hlc
  have hVUnz : NZ k (upS k tv (.node d pp (x :: xs))) := by simp only [upS]; exact cp_nz k hk _
  match par, hctx with
  | none, ⟨hU0, hMIN⟩ =>
    subst hMIN
    refine ⟨hVU01, hVUnz, fun p hp hne => ?_, fun t ht => ?_⟩
    · have := (hVUat p hp).mp hne
      simp only [at_vadd, hp, if_true, hU0 p hp, minCost, T.kids_node]; omega
    · have := minOver_le k (fL k tv (x :: xs)).at t ht
      simp only [at_vadd, ht, if_true, hU0 t ht, minCost, T.kids_node]; omega
  | some pv, ⟨totv, R, hpar, hU, hR⟩ =>
    have hkey := key k tv hk (.node d pp (x :: xs)) hlc
    have h4 : ∀ s, s < k → MIN ≤ (fL k tv (x :: xs)).at s + U.at s := fun s hs => by
      rw [hU s hs]; exact min_le_through k hk _ R totv MIN hpar.hmin (by rwa [gv_node_cons] at hR) s hs
    have hUle : ∀ s t, s < k → t < k → U.at s ≤ R.at t + (if s = t then 0 else 1) := fun s t hs ht => by
      rw [hU s hs]; exact through_le k R s t hs ht
    have hmin : ∀ t, t < k → MIN ≤ (vadd k (fL k tv (x :: xs)) U).at t := fun t ht => by
      simp only [at_vadd, ht, if_true]; exact h4 t ht
    simp only [interOpt]
    rcases inter_cases k (upS k tv (.node d pp (x :: xs))) pv with ⟨⟨i0, hi0, hgt0⟩, heq⟩ | ⟨hle, heq⟩ <;> rw [heq]
    · -- the sets meet: what is kept is optimal for the parent AND for the subtree
      refine ⟨?_, ⟨i0, hi0, (inter_at k _ _ i0 hi0).mpr hgt0⟩, fun s hs hne => ?_, hmin⟩
      · intro i _; rw [at_tab]; split <;> (try split) <;> omega
      · have hgt := (inter_at k _ _ s hs).mp hne
        have h1 := hVU01 s hs
        have h2 := hpar.h01 s hs
        have hf := (hVUat s hs).mp (by omega)
        have ht := hpar.hopt s hs (by omega)
        have hg := hkey s hs
        have hr := hR s hs
        have hu := hUle s s hs hs
        have h4s := h4 s hs
        simp only [at_vadd, hs, if_true]
        simp at hu
        have : (upS k tv (.node d pp (x :: xs))).at s ≠ 0 := by omega
        simp [this] at hg
        omega
    · -- they do not: the up-pass set is kept; one change on the branch, paid for by the subtree's minimum
      refine ⟨hVU01, hVUnz, fun s hs hne => ?_, hmin⟩
      have hf := (hVUat s hs).mp hne
      obtain ⟨p, hp, hpne⟩ := hpar.hne
      have h1 := hle p hp
      have ht := hpar.hopt p hp hpne
      have hg := hkey p hp
      have hr := hR p hp
      have hu := hUle s p hs hp
      have h4s := h4 s hs
      have : (upS k tv (.node d pp (x :: xs))).at p = 0 := by omega
      simp [this] at hg
      simp only [at_vadd, hs, if_true]
      split at hu <;> omega

/- for a subtree in its context: what is left at an inner node is optimal for its second-pass slice -/
mutual
theorem acc_tree (hk : 0 < k) (MIN : Nat) : ∀ (c : T) (U : Vec) (par : Option Vec) (a' : A),
    ParCtx k tv MIN c U par → (∀ n ∈ c.leaves, Set01 k (tv n)) → Narrows k par (upA k tv c) a' →
    ∀ (p : List Nat) (vec tot : Vec), a'.get p = some vec → (totA k tv U c).get p = some tot → innerAt c p = true →
      ∀ s, s < k → vec.at s ≠ 0 → tot.at s = MIN
  | .node _ _ [], _, _, _, _, _, _, [], _, _, _, _, hin => by simp [innerAt, innerOpt, sub] at hin
  | .node _ _ [], _, _, _, _, _, _, i :: q, _, _, _, _, hin => by simp [innerAt, innerOpt, sub, subL] at hin
  | .node d pp ((e0, c0) :: xs), U, par, .node s' ks', hctx, hl, hN, p, vec, tot, h, hg, hin => by
    rw [leaves_node_cons] at hl
    simp only [upA, upAL, Narrows] at hN
    have hstep := (acc_step k tv hk d pp (e0, c0) xs hl MIN U par hctx).keeps k hN.1
    match p, h, hg, hin with
    | [], h, hg, _ =>
      simp only [A.get, Option.some.injEq] at h
      simp only [totA, A.get, Option.some.injEq] at hg
      subst h; subst hg
      exact fun s hs hne => hstep.hopt s hs hne
    | i :: q, h, hg, hin =>
      simp only [A.get] at h
      simp only [totA, A.get] at hg
      refine acc_treeL hk MIN ((e0, c0) :: xs) hl U (vzero k) _ _ ks' hstep ?_
        (by simpa only [upAL] using hN.2) i q vec tot h hg (by simpa [innerAt, sub] using hin)
      intro t ht
      simp only [at_vadd, at_vzero, ht, if_true]
      omega
theorem acc_treeL (hk : 0 < k) (MIN : Nat) : ∀ (ks : Kids), (∀ n ∈ leavesL ks, Set01 k (tv n)) →
    ∀ (Uv pre S totv : Vec) (ks' : List A), ParOK k MIN S totv →
    (∀ t, t < k → totv.at t = Uv.at t + pre.at t + (fL k tv ks).at t) →
    NarrowsL k (some S) (upAL k tv ks) ks' →
    ∀ (i : Nat) (q : List Nat) (vec tot : Vec), A.getL ks' i q = some vec →
      A.getL (totL k tv Uv pre ks) i q = some tot → innerOpt (subL ks i q) = true →
      ∀ s, s < k → vec.at s ≠ 0 → tot.at s = MIN
  | [], _, _, _, _, _, _, _, _, _, _, _, _, _, _, hg, _ => by simp [totL, A.getL] at hg
  | _ :: _, _, _, _, _, _, [], _, _, hN, _, _, _, _, _, _, _ => by simp [upAL, NarrowsL] at hN
  | (e, c) :: rest, hl, Uv, pre, S, totv, a' :: r', hpar, hinv, hN, 0, q, vec, tot, h, hg, hin => by
    simp only [upAL, NarrowsL] at hN
    simp only [A.getL] at h
    simp only [totL, A.getL] at hg
    simp only [subL] at hin
    exact acc_tree hk MIN c _ (some S) a' ⟨totv, vadd k Uv (vadd k pre (fL k tv rest)), hpar,
      fun s _ => rfl, (tot_split k tv hinv).1⟩ (leavesL_cons hl).1 hN.1
      q vec tot h hg (by simpa [innerAt] using hin)
  | (e, c) :: rest, hl, Uv, pre, S, totv, a' :: r', hpar, hinv, hN, i + 1, q, vec, tot, h, hg, hin => by
    simp only [upAL, NarrowsL] at hN
    simp only [A.getL] at h
    simp only [totL, A.getL] at hg
    simp only [subL] at hin
    exact acc_treeL hk MIN rest (leavesL_cons hl).2
      Uv (vadd k pre (gv k tv c)) S totv r' hpar (tot_split k tv hinv).2 hN.2 i q vec tot h hg hin
end

/-- Every state that a narrowing of the up-pass slices (ACCTRAN, with or without random resolution) leaves at an inner
    node occurs there in some most parsimonious labelling of the whole tree. -/
theorem acc_sound (hk : 0 < k) (t : T) (h : Ok k tv t) (a' : A) (hN : Narrows k none (upA k tv t) a')
    (v : List Nat) (hin : innerAt t v = true) (vec : Vec) (hget : a'.get v = some vec)
    (s : Nat) (hs : s < k) (hne : vec.at s ≠ 0) :
    ∃ l : LT, fits k tv t l = true ∧ l.changes = minCost k tv t ∧ l.get v = some s := by
  obtain ⟨tot, htv⟩ := Option.isSome_iff_exists.mp (tot_get k tv t (vzero k) v (innerAt_isSome hin))
  have hopt := acc_tree k tv hk (minCost k tv t) t (vzero k) none a' ⟨fun t _ => at_vzero k t, rfl⟩ h.s01 hN
    v vec tot hget htv hin s hs hne
  exact (tot_exact k tv hk t h.kids h.nz v hin tot htv s hs).mp hopt

end acc

end Gotree.C12

/-
  C02 — the two Newick models agree: `Gotree.C02.Newick.parseChars` (Model/C02Newick.lean, the one the
  C02 theorems are about) and `Gotree.Newick.parse` of C01 (Model/C01.lean) instantiated with the codec
  made of C02's transcription of `strconv.ParseFloat`.  C01's model stops with `unrep` as soon as a
  NaN/±Inf would have to be stored; wherever it does not, both models give the same outcome class and
  the same tree.
-/
import Gotree.Model.C02Newick
import Gotree.Lemmas.C02Newick
import Gotree.Lemmas.C02onC01

namespace Gotree.C02.NewickEq
open Gotree Gotree.C02

/-- C02's `ParseFloat` transcription as a codec of C01 (`fmt` is not used by the parser) -/
def myCodec : Gotree.Newick.Codec where
  fmt := fun _ => []
  isFloat := isFloat
  parse := fun s => match parseFloat s with | some (.fin q) => some q | _ => none

/-- token kinds of the two models -/
def ct : Newick.Tok → Gotree.Newick.Tok
  | .eof => .eof | .ws => .ws | .ident => .ident | .numeric => .numeric | .openpar => .openpar
  | .closepar => .closepar | .startlen => .startlen | .openbrack => .openbrack | .closebrack => .closebrack
  | .newsibling => .newsibling | .eot => .eot

theorem ct_inj {a b : Newick.Tok} (h : ct a = ct b) : a = b := by
  cases a <;> cases b <;> simp [ct] at h ⊢

theorem isWs_eq (c : Char) : Gotree.Newick.isWhitespace c = Newick.isWs c := rfl
theorem isIdent_eq (ign : Bool) (c : Char) : Gotree.Newick.isIdent ign c = Newick.isIdent ign c := rfl

/-- the scanners are the same function -/
theorem scan_eq (ign : Bool) (cs : List Char) :
    Gotree.Newick.scan myCodec ign cs = (ct (Newick.scan ign cs).tok, (Newick.scan ign cs).lit, (Newick.scan ign cs).rest) := by
  have hw : Gotree.Newick.isWhitespace = Newick.isWs := rfl
  have hi : Gotree.Newick.isIdent ign = Newick.isIdent ign := rfl
  fun_cases Newick.scan ign cs
  case case10 => simp only [Gotree.Newick.scan, Newick.identOf, myCodec, apply_ite ct, *]; rfl
  all_goals simp only [Gotree.Newick.scan, *]; rfl

theorem skipWs_eq (cs : List Char) :
    Gotree.Newick.skipWs myCodec cs = if (Newick.scan false cs).tok = .ws then (Newick.scan false cs).rest else cs := by
  unfold Gotree.Newick.skipWs
  rw [scan_eq]
  simp only
  by_cases h : (Newick.scan false cs).tok = .ws
  · simp [h, ct]
  · have : ct (Newick.scan false cs).tok ≠ .ws := by
      intro h'; exact h (ct_inj (by rw [h']; rfl))
    simp [h, this]

theorem scanIW_eq (cs : List Char) :
    Gotree.Newick.scanIW myCodec cs = (ct (Newick.scanIW cs).tok, (Newick.scanIW cs).lit, (Newick.scanIW cs).rest) := by
  unfold Gotree.Newick.scanIW Newick.scanIW
  rw [skipWs_eq]
  simp only
  by_cases h : (Newick.scan false cs).tok = .ws
  · simp only [h, if_true]; rw [scan_eq]
  · simp only [h, if_false]; rw [scan_eq]

/- ## states -/

def convI (f : Newick.IFrame) : Gotree.Newick.Frame := ⟨f.d, f.e, f.kids⟩
def rootF (r : Newick.RFrame) : Gotree.Newick.Frame := ⟨r.d, EdgeD.blank, r.kids⟩

def convStk : Option (Newick.RFrame × List Newick.IFrame) → List Gotree.Newick.Frame
  | none => []
  | some (r, inner) => inner.map convI ++ [rootF r]

/-- a state of C02's machine as a state of C01's -/
def conv (s : Newick.PSt) : Gotree.Newick.PState :=
  ⟨convStk s.stk, s.level, s.prev.map ct, s.nedges, s.lastRoot, s.stale⟩


/-- `conv` only looks at the stack, the level, prevTok, the branch counter, the last root and the stale flag -/
theorem conv_congr (a b : Newick.PSt) (h1 : a.stk = b.stk) (h2 : a.level = b.level) (h3 : a.prev = b.prev)
    (h4 : a.nedges = b.nedges) (h5 : a.lastRoot = b.lastRoot) (h6 : a.stale = b.stale) : conv a = conv b := by
  simp [conv, h1, h2, h3, h4, h5, h6]

theorem conv_node_upd (s : Newick.PSt) (f : NodeD → NodeD) (b n : Bool) (m : Newick.Mode) (p : Newick.Tok) :
    conv { Newick.mapTopNode s f with stale := b, nonfinite := n, mode := m, prev := some p } =
      { (conv s).modTop (fun fr => { fr with d := f fr.d }) with stale := b, prevTok := some (ct p) } := by
  rcases s with ⟨_, _ | ⟨r, _ | _⟩, _, _, _, _, _, _⟩ <;> rfl

theorem tok_of_ct {t : Newick.Tok} {u : Gotree.Newick.Tok} (h : ct t = u) (t' : Newick.Tok) (hu : u = ct t') : t = t' :=
  ct_inj (h.trans hu)

theorem ct_ne_illegal (t : Newick.Tok) : ct t ≠ .illegal := by cases t <;> simp [ct]

theorem splitSlash_eq : ∀ l : List Char, Gotree.Newick.splitSlash l = Newick.splitSlash l
  | [] => rfl
  | c :: r => by
    unfold Gotree.Newick.splitSlash Newick.splitSlash
    rw [splitSlash_eq r]
    cases Newick.splitSlash r <;> rfl

/-- what a step of C02's machine (`st`) and the same turn of C01's loop (`it`) must have in common;
    `unrep` (a non-finite number would be stored) is C01's way of giving up: nothing is claimed then -/
def StepRel (st : Newick.Step) (it : Gotree.Newick.Iter) (pos rest : List Char) : Prop :=
  match it with
  | .stop (.unrep _) => True
  | .stop (.panic _) => False
  | .stop (.err _) => (∃ m, st = .fail m) ∨ (∃ s', st = .finished s' ∧ s'.stale = true)
  | .stop (.ok (ps, p)) => ∃ s', st = .finished s' ∧ s'.stale = false ∧ s'.nonfinite = false ∧ s'.level = 0 ∧ ps = conv s' ∧ p = pos
  | .cont ps r => ∃ s', st = .cont s' ∧ s'.mode = .iter ∧ s'.nonfinite = false ∧ ps = conv s' ∧ r = rest


theorem map_ct_beq (p : Option Newick.Tok) (t : Newick.Tok) : (p.map ct == some (ct t)) = decide (p = some t) := by
  cases p with
  | none => rfl
  | some x =>
    by_cases h : x = t
    · simp [h]
    · have : ct x ≠ ct t := fun e => h (ct_inj e)
      simp [h, this]

theorem StepRel.ite {c c' : Prop} [Decidable c] [Decidable c'] {a b : Newick.Step} {a' b' : Gotree.Newick.Iter} {pos rest : List Char}
    (hc : c ↔ c') (ha : c → StepRel a a' pos rest) (hb : ¬c → StepRel b b' pos rest) :
    StepRel (if c then a else b) (if c' then a' else b') pos rest := by
  by_cases h : c
  · rw [if_pos h, if_pos (hc.1 h)]; exact ha h
  · rw [if_neg h, if_neg (fun h' => h (hc.2 h'))]; exact hb h

theorem len2_le_one (n : Nat) : (n + 1 + 1 ≤ 1) = False := eq_false (by omega)

theorem StepRel.fail {m m' : String} {pos rest : List Char} : StepRel (.fail m) (.stop (.err m')) pos rest := Or.inl ⟨_, rfl⟩

/-- `named` of the Go code on C02's machine -/
def named2 (st : Newick.PSt) (lit : List Char) : Newick.Step :=
  if Newick.nodeNil st then .fail "Newick Error: Cannot assign node name to nil node"
  else .cont (Newick.mapTopNode st (fun d => { d with name := String.ofList lit }))

theorem nameLabel_eq (st : Newick.PSt) (lit : List Char) : Newick.nameLabel st lit =
    match Newick.splitSlash lit with
    | [a, b] =>
      if Newick.edgeNil st then named2 st lit
      else match parseFloat a with
        | none => named2 { st with stale := true } lit
        | some va => match parseFloat b with
          | none => named2 { st with stale := true } lit
          | some vb => .cont { Newick.mapTopEdge st (fun e => { e with sup := Newick.fvalRat va, pval := Newick.fvalRat vb }) with
              stale := false, nonfinite := st.nonfinite || Newick.fvalNonfin va || Newick.fvalNonfin vb }
    | _ => named2 st lit := by
  unfold Newick.nameLabel Newick.slashLabel named2
  repeat' split
  all_goals first | rfl | simp_all


theorem myCodec_parse (l : List Char) : myCodec.parse l = match parseFloat l with | some (.fin q) => some q | _ => none := rfl
theorem myCodec_isFloat (l : List Char) : myCodec.isFloat l = (parseFloat l).isSome := rfl

/-- One turn of `parseIter` on a token that needs no further reading: case distinction on the token and on the shape of
    the stack (empty, the root alone, one node above the root, more), so that the nil tests and the stack operations of
    both machines compute; what is left on both sides is the same tree of tests on the level, the previous token and the
    numbers, descended by `StepRel.ite`; at a leaf the two states are equal by computation. -/
theorem step_rel (s : Newick.PSt) (tok : Newick.Tok) (lit pos rest : List Char) (hm : s.mode = .iter) (hn : s.nonfinite = false)
    (h1 : tok ≠ .eof) (h2 : tok ≠ .openbrack) (h3 : tok ≠ .startlen) :
    StepRel (Newick.stepIter s tok lit) (Gotree.Newick.iter myCodec (conv s) (ct tok) lit pos rest) pos rest := by
  obtain ⟨mode, stk, L, prev, n, lr, sb, nf⟩ := s
  simp only at hm hn
  subst hm hn
  have p1 := map_ct_beq prev .closepar
  have p2 := map_ct_beq prev .openpar
  have p3 := map_ct_beq prev .newsibling
  simp only [ct] at p1 p2 p3
  cases tok
  case eof => exact absurd rfl h1
  case openbrack => exact absurd rfl h2
  case startlen => exact absurd rfl h3
  case ws => exact ⟨_, rfl, rfl, rfl, rfl, rfl⟩
  case closebrack => exact StepRel.fail
  case' eot => cases sb
  case' numeric => rcases hf : parseFloat lit with _ | _ | q
  case' ident =>
    simp only [Newick.stepIter, nameLabel_eq, splitSlash_eq, Gotree.Newick.iter]
    rcases Newick.splitSlash lit with _ | ⟨a, _ | ⟨b, _ | ⟨c, t⟩⟩⟩ <;> simp only []
  case' closepar => rcases stk with _ | ⟨r, _ | ⟨f, _ | ⟨g, fs⟩⟩⟩
  case' newsibling => rcases stk with _ | ⟨r, _ | ⟨f, _ | ⟨g, fs⟩⟩⟩
  case' eot.false => skip
  case' eot.true => skip
  case' openpar => rcases stk with _ | ⟨r, _ | ⟨f, fs⟩⟩
  case' numeric.none => rcases stk with _ | ⟨r, _ | ⟨f, fs⟩⟩
  case' numeric.some.fin => rcases stk with _ | ⟨r, _ | ⟨f, fs⟩⟩
  case' numeric.some.nonfinite => rcases stk with _ | ⟨r, _ | ⟨f, fs⟩⟩
  case' ident.nil => rcases stk with _ | ⟨r, _ | ⟨f, fs⟩⟩
  case' ident.cons.nil => rcases stk with _ | ⟨r, _ | ⟨f, fs⟩⟩
  case' ident.cons.cons.cons => rcases stk with _ | ⟨r, _ | ⟨f, fs⟩⟩
  case' ident.cons.cons.nil => rcases stk with _ | ⟨r, _ | ⟨f, fs⟩⟩
  case' ident.cons.cons.nil.some.cons => rcases hfa : parseFloat a with _ | _ | qa <;> rcases hfb : parseFloat b with _ | _ | qb
  all_goals
    all_goals simp only [Newick.stepIter, ct, Newick.supportLabel, named2, Newick.newTip,
      Newick.nodeNil, Newick.edgeNil, Newick.pop, Newick.pushInner, Newick.mapTopNode, Newick.mapTopEdge,
      Gotree.Newick.iter, conv, convStk, Gotree.Newick.PState.nodeNil, Gotree.Newick.PState.edgeNil, Gotree.Newick.PState.pop,
      Gotree.Newick.PState.pushChild, Gotree.Newick.PState.pushRoot, Gotree.Newick.PState.modTop,
      Gotree.Newick.PState.setSup, Gotree.Newick.PState.setPval, Gotree.Newick.PState.setName,
      List.map_cons, List.map_nil, List.nil_append, List.cons_append, List.isEmpty_cons, List.isEmpty_nil,
      List.length_cons, List.length_nil, List.length_append, List.length_map, Option.isNone_none, Option.isNone_some,
      p1, p2, p3, bne, myCodec_parse, myCodec_isFloat, *, Option.isSome_none, Option.isSome_some,
      if_true, if_false, Bool.false_eq_true, Bool.not_true, Bool.not_false, Bool.or_true, Bool.or_false, Bool.false_or,
      beq_self_eq_true, show (Gotree.Newick.Tok.ident == Gotree.Newick.Tok.numeric) = false from rfl,
      Nat.le_refl, Nat.zero_le, decide_true, decide_false, len2_le_one]
    all_goals repeat' (first
      | refine StepRel.ite (by simp) (fun h => ?_) (fun h => ?_)
      | exact StepRel.fail
      | exact ⟨_, rfl, rfl, rfl, rfl, rfl⟩
      | exact trivial
      | exact Or.inr ⟨_, rfl, rfl⟩
      | exact ⟨_, rfl, rfl, rfl, Decidable.not_not.1 h, rfl, rfl⟩)


/-- a comment that has been read to its `]` -/
theorem comment_rel (s : Newick.PSt) (lit pos rest c r2 : List Char) (hn : s.nonfinite = false)
    (hc : Gotree.Newick.consumeComment myCodec rest [] = some (c, r2)) :
    StepRel (Newick.closeComment s c) (Gotree.Newick.iter myCodec (conv s) .openbrack lit pos rest) pos r2 := by
  obtain ⟨mode, stk, L, prev, n, lr, sb, nf⟩ := s
  simp only at hn
  subst hn
  have p1 := map_ct_beq prev .closepar
  have p2 := map_ct_beq prev .startlen
  have p3 := map_ct_beq prev .ident
  have p4 := map_ct_beq prev .numeric
  have p5 := map_ct_beq prev .closebrack
  simp only [ct] at p1 p2 p3 p4 p5
  rcases stk with _ | ⟨r, _ | ⟨f, fs⟩⟩
  all_goals
    simp only [Newick.closeComment, Gotree.Newick.iter, hc,
      Newick.nodeNil, Newick.edgeNil, Newick.mapTopNode, Newick.mapTopEdge,
      conv, convStk, Gotree.Newick.PState.nodeNil, Gotree.Newick.PState.edgeNil,
      Gotree.Newick.PState.modTop, Gotree.Newick.PState.addEdgeComment, Gotree.Newick.PState.addNodeComment,
      List.map_cons, List.map_nil, List.nil_append, List.cons_append, List.isEmpty_cons, List.isEmpty_nil,
      List.length_cons, List.length_nil, List.length_append, List.length_map, Option.isNone_none, Option.isNone_some,
      p1, p2, p3, p4, p5,
      if_true, if_false, Bool.false_eq_true, Bool.not_true, Bool.not_false, Bool.and_true, Bool.and_false, Bool.true_and, Bool.false_and,
      Nat.le_refl, Nat.zero_le, decide_true, decide_false, len2_le_one]
    repeat' (first
      | refine StepRel.ite (by simp) (fun h => ?_) (fun h => ?_)
      | exact StepRel.fail
      | exact ⟨_, rfl, rfl, rfl, rfl, rfl⟩)


/-- the token after a `:` -/
theorem colon_rel (s : Newick.PSt) (tok : Newick.Tok) (lit l pos rest r : List Char) (hn : s.nonfinite = false)
    (hs : Gotree.Newick.scanIW myCodec rest = (ct tok, l, r)) :
    StepRel (Newick.stepAfterColon s tok l) (Gotree.Newick.iter myCodec (conv s) .startlen lit pos rest) pos r := by
  obtain ⟨mode, stk, L, prev, n, lr, sb, nf⟩ := s
  simp only at hn
  subst hn
  by_cases ht : tok = .numeric
  · subst ht
    rcases hf : parseFloat l with _ | _ | q
    all_goals
      rcases stk with _ | ⟨r, _ | ⟨f, fs⟩⟩
      all_goals
        simp only [Newick.stepAfterColon, Gotree.Newick.iter, hs, ct, hf, myCodec_parse,
          Newick.nodeNil, Newick.edgeNil, Newick.topEdge, Newick.mapTopEdge,
          conv, convStk, Gotree.Newick.PState.nodeNil, Gotree.Newick.PState.edgeNil, Gotree.Newick.PState.topLen,
          Gotree.Newick.PState.modTop, Gotree.Newick.PState.setLen,
          List.map_cons, List.map_nil, List.nil_append, List.cons_append, List.isEmpty_cons, List.isEmpty_nil,
          List.length_cons, List.length_nil, List.length_append, List.length_map, Option.isNone_none, Option.isNone_some,
          ne_eq, not_true_eq_false, if_true, if_false, Bool.false_eq_true, Bool.not_true, Bool.not_false, Bool.and_true, Bool.and_false,
          Bool.true_and, Bool.false_and, Nat.le_refl, Nat.zero_le, decide_true, decide_false, len2_le_one]
        repeat' (first
          | refine StepRel.ite (by simp [convI]) (fun h => ?_) (fun h => ?_)
          | exact StepRel.fail
          | exact ⟨_, rfl, rfl, rfl, rfl, rfl⟩
          | exact trivial)
  · have : ct tok ≠ .numeric := fun h => ht (ct_inj (h.trans rfl))
    simp only [Newick.stepAfterColon, Gotree.Newick.iter, hs, ne_eq, ht, this, not_false_eq_true, if_true]
    exact StepRel.fail

/- ## C02's loop, one turn of `parseIter` at a time -/

/-- `Parse` consumes the `;`: the delivered value remembers where the parser stands -/
def withRest (x : Res Newick.Parsed) (r : List Char) : Res Newick.Parsed :=
  match x with
  | .ok p => .ok { p with rest := r }
  | .err m => .err m
  | .panic m => .panic m

/-- how C02's `run` goes on after a step of `parseIter` -/
def stepOut (x : Newick.Step) (r : List Char) : Res Newick.Parsed :=
  match x with
  | .cont s' => Newick.run s' r
  | .fail m => .err m
  | .finished s' => withRest (Newick.finish s') r

theorem closeComment_mode (s : Newick.PSt) (m : Newick.Mode) (c : List Char) :
    Newick.closeComment { s with mode := m } c = Newick.closeComment s c := rfl

/-- C02's loop inside a comment is C01's `consumeComment` -/
theorem run_comment (cs acc : List Char) : ∀ (s : Newick.PSt), s.mode = .comment acc →
    Newick.run s cs =
      match Gotree.Newick.consumeComment myCodec cs acc with
      | none => .err "unmatched bracket"
      | some (c, r) => stepOut (Newick.closeComment s c) r := by
  fun_induction Gotree.Newick.consumeComment myCodec cs acc
  case case1 inp acc h =>
    intro s hm
    rw [scan_eq] at h
    have ht : (Newick.scan true inp).tok = .closebrack := ct_inj h
    rw [Newick.run]
    simp only [hm, Newick.inComment, ht, scan_eq, if_true]
    cases hcc : Newick.closeComment s acc with
    | finished s' => exact absurd hcc Newick.closeComment_not_finished
    | _ => simp [stepOut]
  case case2 inp acc h1 h2 =>
    intro s hm
    rw [scan_eq] at h2
    have ht : (Newick.scan true inp).tok = .eof := by
      rcases h2 with h | h
      · exact ct_inj h
      · exact absurd h (ct_ne_illegal _)
    rw [Newick.run]
    simp [hm, Newick.inComment, ht, Newick.atEOF]
  case case3 inp acc h1 h2 ih =>
    intro s hm
    rw [scan_eq] at h1 h2 ih
    have ht1 : (Newick.scan true inp).tok ≠ .closebrack := fun h => h1 (by rw [h]; rfl)
    have ht2 : (Newick.scan true inp).tok ≠ .eof := fun h => h2 (Or.inl (by rw [h]; rfl))
    rw [Newick.run]
    simp only [hm, Newick.inComment, if_true, ht1, ht2, dite_false, if_false]
    have := ih { s with mode := .comment (acc ++ (Newick.scan true inp).lit) } rfl
    simp only [closeComment_mode] at this
    rw [scan_eq]
    exact this

/-- the leading comment of `Parse` -/
theorem run_startComment (cs acc : List Char) : ∀ (s : Newick.PSt), s.mode = .startComment →
    Newick.run s cs =
      match Gotree.Newick.consumeComment myCodec cs acc with
      | none => .err "unmatched bracket"
      | some (_, r) => Newick.run { s with mode := .start2 } r := by
  fun_induction Gotree.Newick.consumeComment myCodec cs acc
  case case1 inp acc h =>
    intro s hm
    rw [scan_eq] at h
    have ht : (Newick.scan true inp).tok = .closebrack := ct_inj h
    rw [Newick.run]
    simp only [hm, Newick.inComment, ht, scan_eq, if_true]
    simp
  case case2 inp acc h1 h2 =>
    intro s hm
    rw [scan_eq] at h2
    have ht : (Newick.scan true inp).tok = .eof := by
      rcases h2 with h | h
      · exact ct_inj h
      · exact absurd h (ct_ne_illegal _)
    rw [Newick.run]
    simp [hm, Newick.inComment, ht, Newick.atEOF]
  case case3 inp acc h1 h2 ih =>
    intro s hm
    rw [scan_eq] at h1 h2 ih
    have ht1 : (Newick.scan true inp).tok ≠ .closebrack := fun h => h1 (by rw [h]; rfl)
    have ht2 : (Newick.scan true inp).tok ≠ .eof := fun h => h2 (Or.inl (by rw [h]; rfl))
    rw [Newick.run]
    simp only [hm, Newick.inComment, if_true, ht1, ht2, dite_false, if_false]
    rw [scan_eq]
    exact ih s hm

theorem stepAfterColon_not_finished (s : Newick.PSt) (tok : Newick.Tok) (lit : List Char) (s' : Newick.PSt) :
    Newick.stepAfterColon s tok lit ≠ .finished s' := by
  fun_cases Newick.stepAfterColon s tok lit <;> exact nofun

theorem run_noncomment (s : Newick.PSt) (hm : Newick.inComment s.mode = false) (cs : List Char) :
    Newick.run s cs =
      if (Newick.scanIW cs).tok = .eof then Newick.atEOF s
      else stepOut (Newick.stepTok s (Newick.scanIW cs).tok (Newick.scanIW cs).lit) (Newick.scanIW cs).rest := by
  rw [Newick.run]
  simp only [hm, Bool.false_eq_true, if_false]
  by_cases h : (Newick.scanIW cs).tok = .eof
  · simp [h]
  · simp only [h, dite_false, if_false]
    cases Newick.stepTok s (Newick.scanIW cs).tok (Newick.scanIW cs).lit with
    | cont s' => rfl
    | fail m => rfl
    | finished s' => simp only [stepOut, withRest]; cases Newick.finish s' <;> rfl

theorem run_iter (s : Newick.PSt) (hm : s.mode = .iter) (cs : List Char) :
    Newick.run s cs =
      if (Newick.scanIW cs).tok = .eof then Newick.atEOF s
      else stepOut (Newick.stepIter s (Newick.scanIW cs).tok (Newick.scanIW cs).lit) (Newick.scanIW cs).rest := by
  rw [run_noncomment s (by rw [hm]; rfl), Newick.stepTok, hm]

/-- after a `:` the end of the input is a token like any other that is not a number -/
theorem run_afterColon (s : Newick.PSt) (hm : s.mode = .afterColon) (cs : List Char) :
    Newick.run s cs = stepOut (Newick.stepAfterColon s (Newick.scanIW cs).tok (Newick.scanIW cs).lit) (Newick.scanIW cs).rest := by
  rw [run_noncomment s (by rw [hm]; rfl), Newick.stepTok, Newick.atEOF, hm]
  split
  · rename_i h; simp [Newick.stepAfterColon, h, stepOut]
  · rfl

/- ## the delivered tree -/

theorem isSpace_eq (c : Char) : Gotree.Newick.isSpaceGo c = Newick.goIsSpace c := by
  unfold Gotree.Newick.isSpaceGo Newick.goIsSpace
  simp only
  rw [Bool.or_comm (c.toNat == 0x20)]

theorem trimSpace_eq (s : String) : Gotree.Newick.trimSpace s = Newick.trimSpace s := by
  have : Gotree.Newick.isSpaceGo = Newick.goIsSpace := funext isSpace_eq
  unfold Gotree.Newick.trimSpace Newick.trimSpace
  rw [this]

mutual
theorem trimLeaves_eq : ∀ t : T, Gotree.Newick.trimLeaves t = Newick.trimTips t
  | .node d p [] => by unfold Gotree.Newick.trimLeaves Newick.trimTips; rw [trimSpace_eq]
  | .node d p (k :: ks) => by
    unfold Gotree.Newick.trimLeaves Newick.trimTips
    rw [trimLeavesL_eq (k :: ks)]
theorem trimLeavesL_eq : ∀ k : Kids, Gotree.Newick.trimLeavesL k = Newick.trimTipsL k
  | [] => by unfold Gotree.Newick.trimLeavesL Newick.trimTipsL; rfl
  | (e, t) :: r => by
    unfold Gotree.Newick.trimLeavesL Newick.trimTipsL
    rw [trimLeaves_eq t, trimLeavesL_eq r]
end

theorem trimTips_eq (t : T) : Gotree.Newick.trimTips t = Newick.trimRoot t := by
  cases t with
  | node d p k =>
    show T.node (if (k.length == 1) = true then { d with name := Gotree.Newick.trimSpace d.name } else d) p (Gotree.Newick.trimLeavesL k) = _
    rw [trimLeavesL_eq, trimSpace_eq]
    match k with
    | [] => simp [Newick.trimRoot, Newick.trimTipsL]
    | [(e, t)] => simp [Newick.trimRoot, Newick.trimTipsL]
    | a :: b :: r => simp [Newick.trimRoot]

theorem unwind_some (r : Newick.RFrame) : ∀ (inner : List Newick.IFrame) (x : Newick.IFrame),
    Gotree.Newick.PState.unwind (inner.map convI ++ [rootF r]) (some (x.e, Newick.mkNode x.d x.kids)) =
      some (Newick.closeAll r (x :: inner))
  | [], x => by
    simp [Gotree.Newick.PState.unwind, rootF, Gotree.Newick.Frame.toT, Newick.closeAll, Newick.mkNode]
  | g :: rest, x => by
    have ih := unwind_some r rest { g with kids := g.kids ++ [(x.e, Newick.mkNode x.d x.kids)] }
    simp only [List.map_cons, List.cons_append, Gotree.Newick.PState.unwind]
    rw [Newick.closeAll]
    rw [← ih]
    rfl

theorem result_eq (s : Newick.PSt) :
    (conv s).result = match s.stk with
      | some (r, inner) => some (Newick.closeAll r inner)
      | none => s.lastRoot := by
  unfold Gotree.Newick.PState.result
  cases hs : s.stk with
  | none => simp [conv, convStk, hs]
  | some p =>
    obtain ⟨r, inner⟩ := p
    cases inner with
    | nil => simp [conv, convStk, hs, Gotree.Newick.PState.unwind, rootF, Gotree.Newick.Frame.toT, Newick.closeAll, Newick.mkNode]
    | cons f rest =>
      have := unwind_some r rest f
      simp only [conv, convStk, hs, List.map_cons, List.cons_append]
      simp only [Gotree.Newick.PState.unwind]
      exact this


/- ## the end of `Parse` -/

/-- agreement of the two outcomes (`unrep`: C01's model gives up on a non-finite number) -/
def RelOut (theirs : Gotree.Newick.Outcome (T × List Char)) (mine : Res Newick.Parsed) : Prop :=
  match theirs with
  | .ok (t, r) => mine = .ok ⟨t, false, r⟩
  | .err _ => ∃ m, mine = .err m
  | .panic _ => ∃ m, mine = .panic m
  | .unrep _ => True

theorem finish_rel (s : Newick.PSt) (pos : List Char) (hs : s.stale = false) (hn : s.nonfinite = false) (hl : s.level = 0)
    (hp : (Gotree.Newick.scanIW myCodec pos).1 = .eot) (rest : List Char) (hr : (Gotree.Newick.scanIW myCodec pos).2.2 = rest) :
    RelOut (Gotree.Newick.finishR myCodec (.ok (conv s, pos))) (withRest (Newick.finish s) rest) := by
  unfold Gotree.Newick.finishR Newick.finish withRest
  have l0 : ((conv s).level != 0) = false := by simp [conv, hl]
  simp only [l0, Bool.false_eq_true, if_false, hp, ne_eq, not_true_eq_false, hs, result_eq]
  cases hstk : s.stk with
  | some p =>
    obtain ⟨r, inner⟩ := p
    simp [RelOut, trimTips_eq, hn, hr]
  | none =>
    cases hl : s.lastRoot with
    | none => simp [RelOut]
    | some t => simp [RelOut, trimTips_eq, hn, hr]

theorem finish_stale (s : Newick.PSt) (h : s.stale = true) : ∃ m, Newick.finish s = .err m := by
  unfold Newick.finish; simp [h]

/- ## the loops agree -/

theorem scan_eof_rest (ign : Bool) (cs : List Char) (h : (Newick.scan ign cs).tok = .eof) : (Newick.scan ign cs).rest = [] := by
  revert h
  fun_cases Newick.scan ign cs
  case case1 => exact fun _ => rfl
  case case10 => simp only [Newick.identOf]; split <;> exact nofun
  all_goals exact nofun

theorem scanIW_eof_rest (cs : List Char) (h : (Newick.scanIW cs).tok = .eof) : (Newick.scanIW cs).rest = [] := by
  revert h
  fun_cases Newick.scanIW cs <;> exact scan_eof_rest _ _

theorem post_eof (ps : Gotree.Newick.PState) : ∃ m, Gotree.Newick.finishR myCodec (.ok (ps, [])) = .err m := by
  unfold Gotree.Newick.finishR
  simp only
  split
  · exact ⟨_, rfl⟩
  · have : (Gotree.Newick.scanIW myCodec []).1 = .eof := rfl
    simp [this]

theorem scanIW_rest_le (cs : List Char) : (Newick.scanIW cs).rest.length ≤ cs.length := by
  by_cases h : (Newick.scanIW cs).tok = .eof
  · rw [scanIW_eof_rest cs h]; exact Nat.zero_le _
  · exact Nat.le_of_lt (Newick.scanIW_rest_lt cs h)

/-- From the agreement of one turn (C01's on the input `cs`, C02's `x` going on at `r`) to the agreement of the outcomes,
    given the agreement on what follows.  A turn ends well only on `;`, handing on the position of the `;` (`iter_fits`),
    which is then read again. -/
theorem sim_of_rel (cs : List Char) (st : Gotree.Newick.PState) (x : Newick.Step) (r : List Char)
    (hrel : StepRel x (Gotree.Newick.iter myCodec st (Gotree.Newick.scanIW myCodec cs).1 (Gotree.Newick.scanIW myCodec cs).2.1
      (Gotree.Newick.skipWs myCodec cs) (Gotree.Newick.scanIW myCodec cs).2.2) (Gotree.Newick.skipWs myCodec cs) r)
    (hne : (Gotree.Newick.scanIW myCodec cs).1 ≠ .eof)
    (hr : (Gotree.Newick.scanIW myCodec cs).1 = .eot → (Gotree.Newick.scanIW myCodec cs).2.2 = r)
    (ih : ∀ s' : Newick.PSt, s'.mode = .iter → s'.nonfinite = false →
            RelOut (Gotree.Newick.finishR myCodec (Gotree.Newick.run myCodec (conv s') r)) (Newick.run s' r)) :
    RelOut (Gotree.Newick.finishR myCodec (Gotree.Newick.run myCodec st cs)) (stepOut x r) := by
  rw [Gotree.Newick.run_eq]
  have hf := Gotree.Newick.iter_fits myCodec st (Gotree.Newick.scanIW myCodec cs).1 (Gotree.Newick.scanIW myCodec cs).2.1
    (Gotree.Newick.skipWs myCodec cs) (Gotree.Newick.scanIW myCodec cs).2.2
  revert hrel hf
  cases Gotree.Newick.iter myCodec st (Gotree.Newick.scanIW myCodec cs).1 (Gotree.Newick.scanIW myCodec cs).2.1
      (Gotree.Newick.skipWs myCodec cs) (Gotree.Newick.scanIW myCodec cs).2.2 with
  | cont ps r' =>
    rintro ⟨s', rfl, hm', hn', rfl, rfl⟩ -
    exact ih s' hm' hn'
  | stop o =>
    cases o with
    | ok a =>
      obtain ⟨ps, p⟩ := a
      rintro ⟨s', rfl, hs, hn, hl, rfl, rfl⟩ hf
      rcases hf with ⟨he, -⟩ | ⟨he, -⟩
      · refine finish_rel s' _ hs hn hl ?_ r ?_
        · rw [Gotree.Newick.scanIW_skipWs]; exact he
        · rw [Gotree.Newick.scanIW_skipWs]; exact hr he
      · exact absurd he hne
    | err m =>
      rintro (⟨m', rfl⟩ | ⟨s', rfl, hs⟩) -
      · exact ⟨m', rfl⟩
      · obtain ⟨m', hm'⟩ := finish_stale s' hs
        exact ⟨m', by simp [stepOut, withRest, hm']⟩
    | panic m => exact fun h _ => absurd h id
    | unrep m => exact fun _ _ => trivial

/-- One turn of C01's loop and what C02's machine does meanwhile: a comment and the token after a `:` are read inside the
    turn on one side, in a mode of their own on the other. -/
theorem sim_step (cs : List Char) (s : Newick.PSt) (hm : s.mode = .iter) (hn : s.nonfinite = false)
    (ih : ∀ r : List Char, r.length < cs.length → ∀ s' : Newick.PSt, s'.mode = .iter → s'.nonfinite = false →
            RelOut (Gotree.Newick.finishR myCodec (Gotree.Newick.run myCodec (conv s') r)) (Newick.run s' r)) :
    RelOut (Gotree.Newick.finishR myCodec (Gotree.Newick.run myCodec (conv s) cs)) (Newick.run s cs) := by
  rw [run_iter s hm cs]
  have hsc := scanIW_eq cs
  by_cases he : (Newick.scanIW cs).tok = .eof
  · -- end of the input
    rw [Gotree.Newick.run_eq, hsc]
    simp only [he, if_true, ct, Gotree.Newick.iter_eof]
    rw [scanIW_eof_rest cs he]
    obtain ⟨m, hm'⟩ : ∃ m, Newick.atEOF s = .err m := by simp [Newick.atEOF, hm]
    rw [hm']
    split
    · exact ⟨m, rfl⟩
    · obtain ⟨m2, h2⟩ := post_eof { conv s with prevTok := some .eof }
      simp only [Gotree.Newick.Iter.next]
      rw [h2]; exact ⟨m, rfl⟩
  · simp only [he, if_false]
    have hne : (Gotree.Newick.scanIW myCodec cs).1 ≠ .eof := by rw [hsc]; exact fun h => he (ct_inj h)
    have hlt : (Newick.scanIW cs).rest.length < cs.length := Newick.scanIW_rest_lt cs he
    by_cases hb : (Newick.scanIW cs).tok = .openbrack
    · -- a comment
      rw [hb, show Newick.stepIter s .openbrack (Newick.scanIW cs).lit = .cont { s with mode := .comment [] } from rfl]
      simp only [stepOut]
      rw [run_comment (Newick.scanIW cs).rest [] _ rfl]
      cases hc : Gotree.Newick.consumeComment myCodec (Newick.scanIW cs).rest [] with
      | none =>
        rw [Gotree.Newick.run_eq, hsc, hb]
        simp only [ct, Gotree.Newick.iter, hc, Gotree.Newick.Iter.next, Gotree.Newick.finishR]
        exact ⟨_, rfl⟩
      | some p =>
        obtain ⟨c, r2⟩ := p
        have hr2 := Gotree.Newick.consumeComment_le myCodec _ _ _ c r2 (Nat.le_refl _) hc
        simp only [closeComment_mode]
        refine sim_of_rel cs (conv s) _ r2 ?_ hne (fun h => ?_) (fun s' hm' hn' => ih r2 (by omega) s' hm' hn')
        · rw [hsc, hb]; exact comment_rel s _ _ _ c r2 hn hc
        · rw [hsc, hb] at h; cases h
    · by_cases hcol : (Newick.scanIW cs).tok = .startlen
      · -- a length
        rw [hcol, show Newick.stepIter s .startlen (Newick.scanIW cs).lit = .cont { s with mode := .afterColon } from rfl]
        simp only [stepOut]
        rw [run_afterColon _ rfl,
          show ∀ t l, Newick.stepAfterColon { s with mode := .afterColon } t l = Newick.stepAfterColon s t l from fun _ _ => rfl]
        have hle := scanIW_rest_le (Newick.scanIW cs).rest
        refine sim_of_rel cs (conv s) _ _ ?_ hne (fun h => ?_) (fun s' hm' hn' => ih _ (by omega) s' hm' hn')
        · rw [hsc, hcol]; exact colon_rel s _ _ _ _ _ _ hn (scanIW_eq _)
        · rw [hsc, hcol] at h; cases h
      · -- every other token
        refine sim_of_rel cs (conv s) _ _ ?_ hne (fun _ => by rw [hsc]) (fun s' hm' hn' => ih _ hlt s' hm' hn')
        rw [hsc]
        exact step_rel s _ _ _ _ hm hn he hb hcol

/-- the loops agree: from corresponding states, on every input -/
theorem run_sim_le : ∀ (n : Nat) (cs : List Char), cs.length ≤ n → ∀ (s : Newick.PSt), s.mode = .iter → s.nonfinite = false →
    RelOut (Gotree.Newick.finishR myCodec (Gotree.Newick.run myCodec (conv s) cs)) (Newick.run s cs) := by
  intro n
  induction n with
  | zero =>
    intro cs hc s hm hn
    exact sim_step cs s hm hn (fun r hr => by omega)
  | succ k ih =>
    intro cs hc s hm hn
    exact sim_step cs s hm hn (fun r hr s' hm' hn' => ih r (by omega) s' hm' hn')

theorem run_sim (cs : List Char) (s : Newick.PSt) (hm : s.mode = .iter) (hn : s.nonfinite = false) :
    RelOut (Gotree.Newick.finishR myCodec (Gotree.Newick.run myCodec (conv s) cs)) (Newick.run s cs) :=
  run_sim_le cs.length cs (Nat.le_refl _) s hm hn


/-- the state in which `parseIter` starts -/
def sIter : Newick.PSt := { mode := .iter }

/-- `Parse` from the token that must be `(` (after the optional leading comment) -/
theorem sim_from_open (cs : List Char) (s0 : Newick.PSt) (h0 : s0 = {} ∨ s0 = { mode := .start2 })
    (hnb : s0 = {} → (Newick.scanIW cs).tok ≠ .openbrack) :
    RelOut (Gotree.Newick.tailR myCodec cs) (Newick.run s0 cs) := by
  have hm0 : Newick.inComment s0.mode = false := by rcases h0 with h | h <;> subst h <;> rfl
  rw [run_noncomment s0 hm0 cs]
  unfold Gotree.Newick.tailR
  rw [scanIW_eq]
  simp only
  by_cases he : (Newick.scanIW cs).tok = .eof
  · simp only [he, if_true, ct]
    have : ∃ m, Newick.atEOF s0 = .err m := by rcases h0 with h | h <;> subst h <;> exact ⟨_, rfl⟩
    simpa [RelOut] using this
  · simp only [he, if_false]
    by_cases hop : (Newick.scanIW cs).tok = .openpar
    · have h1 : ¬ (ct (Newick.scanIW cs).tok ≠ Gotree.Newick.Tok.openpar) := by rw [hop]; simp [ct]
      simp only [h1, if_false]
      rw [Gotree.Newick.run_skipWs]
      have hst : Newick.stepTok s0 (Newick.scanIW cs).tok (Newick.scanIW cs).lit =
          Newick.stepIter sIter (Newick.scanIW cs).tok (Newick.scanIW cs).lit := by
        rw [hop]; rcases h0 with h | h <;> subst h <;> rfl
      rw [hst]
      have hrun := run_iter sIter rfl cs
      simp only [he, if_false] at hrun
      rw [← hrun]
      exact run_sim cs sIter rfl rfl
    · have h1 : ct (Newick.scanIW cs).tok ≠ Gotree.Newick.Tok.openpar := fun h => hop (ct_inj (h.trans rfl))
      simp only [h1, ne_eq, not_false_eq_true, if_true]
      have : ∃ m, Newick.stepTok s0 (Newick.scanIW cs).tok (Newick.scanIW cs).lit = .fail m := by
        rcases h0 with h | h
        · have hb := hnb h
          subst h
          simp [Newick.stepTok, hb, hop]
        · subst h
          simp [Newick.stepTok, hop]
      obtain ⟨m, hm⟩ := this
      rw [hm]
      exact ⟨m, rfl⟩

/-- ★ the two Newick models agree on every input: same outcome class and same delivered tree, wherever
    C01's model does not give up on a non-finite number -/
theorem parseR_agree (cs : List Char) : RelOut (Gotree.Newick.parseR myCodec cs) (Newick.parseChars cs) := by
  rw [Gotree.Newick.parseR_eq]
  unfold Newick.parseChars Gotree.Newick.startR
  rw [scanIW_eq]
  simp only
  by_cases hb : (Newick.scanIW cs).tok = .openbrack
  · simp only [hb, ct, if_true]
    have hne : (Newick.scanIW cs).tok ≠ .eof := by rw [hb]; decide
    rw [run_noncomment {} rfl cs]
    simp only [hne, if_false]
    have hst : Newick.stepTok {} (Newick.scanIW cs).tok (Newick.scanIW cs).lit = .cont { mode := .startComment } := by
      rw [hb]; rfl
    rw [hst]
    simp only [stepOut]
    rw [run_startComment (Newick.scanIW cs).rest [] _ rfl]
    cases hc : Gotree.Newick.consumeComment myCodec (Newick.scanIW cs).rest [] with
    | none => exact ⟨_, rfl⟩
    | some p =>
      obtain ⟨c, r⟩ := p
      simp only
      exact sim_from_open r { mode := .start2 } (Or.inr rfl) (fun h => by cases h)
  · have : ct (Newick.scanIW cs).tok ≠ Gotree.Newick.Tok.openbrack := fun h => hb (ct_inj (h.trans rfl))
    simp only [this, if_false]
    exact sim_from_open cs {} (Or.inl rfl) (fun _ => hb)

/-- agreement of `parse` (no rest) with C02's model -/
def RelOutT (theirs : Gotree.Newick.Outcome T) (mine : Res Newick.Parsed) : Prop :=
  match theirs with
  | .ok t => ∃ r, mine = .ok ⟨t, false, r⟩
  | .err _ => ∃ m, mine = .err m
  | .panic _ => ∃ m, mine = .panic m
  | .unrep _ => True

theorem parse_agree (cs : List Char) : RelOutT (Gotree.Newick.parse myCodec cs) (Newick.parseChars cs) := by
  rw [Gotree.Newick.parse_eq_parseR]
  have h := parseR_agree cs
  cases hp : Gotree.Newick.parseR myCodec cs with
  | ok a => obtain ⟨t, r⟩ := a; rw [hp] at h; exact ⟨r, h⟩
  | err m => rw [hp] at h; exact h
  | panic m => rw [hp] at h; exact h
  | unrep m => trivial

end Gotree.C02.NewickEq

/-
  C07 — what one iteration of `RemoveEdges` does to the list of branches of a tree: the observation
  lists (`obsT`, and `obsGL` with the two flags the root gives its branches), the fate of an observed
  branch (`keepG`, `keepV`), and the contraction lemma `contractL_obsG`, which needs no hypothesis.
-/
import Gotree.Model.C07
import Gotree.Lemmas.Core

namespace Gotree.C07
open Gotree

/-- same leaves below, same root data, a tip root stays one: same tip names -/
theorem tipNames_perm {a b : T} (hl : a.leaves.Perm b.leaves) (hleaf : a.isLeaf = b.isLeaf) (hd : a.d = b.d)
    (hone : (a.kids.length == 1) = (b.kids.length == 1)) : a.tipNames.Perm b.tipNames := by
  unfold T.tipNames T.name
  rw [hone, hd]
  refine (List.Perm.refl _).append ?_
  cases hb : b.isLeaf
  · rw [hb] at hleaf
    rwa [T.leaves_of_kids_ne (T.isLeaf_eq_false_iff.1 hleaf), T.leaves_of_kids_ne (T.isLeaf_eq_false_iff.1 hb)] at hl
  · rw [hb] at hleaf
    rw [T.isLeaf_iff.1 hleaf, T.isLeaf_iff.1 hb]

theorem filterMap_congr' {α γ : Type} (g h : α → Option γ) : ∀ (l : List α), (∀ x ∈ l, g x = h x) → l.filterMap g = l.filterMap h
  | [], _ => rfl
  | a :: l, hh => by
    simp only [List.filterMap_cons, hh a (List.mem_cons_self)]
    rw [filterMap_congr' g h l (fun x hx => hh x (List.mem_cons_of_mem _ hx))]

/-- filtering commutes with a projection the two filters respect -/
theorem map_filterMap_comm {α γ : Type} (π : α → γ) (g : α → Option α) (h : γ → Option γ) (l : List α)
    (H : ∀ a ∈ l, (g a).map π = h (π a)) : (l.filterMap g).map π = (l.map π).filterMap h := by
  rw [List.map_filterMap, List.filterMap_map]
  exact filterMap_congr' _ _ _ H

/- ## the observation of a branch list

   `obsL f k` lists, for every branch below the child list `k` (pre-order), what the
   property may look at: `f` of the leaf names below (any function that does not depend on
   their order: the sorted list, the canonical side, their number, membership, …), the
   branch data (length, support, p-value, comments, id), whether the node below is a tip,
   and the data (name, comments) of the node below. -/
abbrev Obs (β : Type) := β × EdgeD × Bool × NodeD

mutual
def obsT {β : Type} (f : List String → β) : T → List (Obs β)
  | .node _ _ k => obsL f k
def obsL {β : Type} (f : List String → β) : Kids → List (Obs β)
  | [] => []
  | (e, c) :: r => (f c.leaves, e, c.isLeaf, c.d) :: (obsT f c ++ obsL f r)
end

/-- `f` does not depend on the order of the names -/
def PermInv {β : Type} (f : List String → β) : Prop := ∀ l l' : List String, l.Perm l' → f l = f l'

theorem obsL_append {β : Type} (f : List String → β) (a b : Kids) : obsL f (a ++ b) = obsL f a ++ obsL f b := by
  induction a with
  | nil => simp [obsL]
  | cons x r ih => obtain ⟨e, t⟩ := x; simp [obsL, ih]

theorem obsT_node {β : Type} (f : List String → β) (d p k) : obsT f (T.node d p k) = obsL f k := by
  simp [obsT]

theorem obsT_kids {β : Type} (f : List String → β) (t : T) : obsT f t = obsL f t.kids := by
  cases t; simp [obsT]

/-- the split list of Core is the observation without the node data -/
theorem splitsL_obs {β : Type} (f : List String → β) :
    ∀ k : Kids, (splitsL k).map (fun s => (f s.below, s.e, s.tip)) = (obsL f k).map (fun x => (x.1, x.2.1, x.2.2.1))
  | [] => by simp [splitsL, obsL]
  | (e, .node d p kk) :: r => by
    have h1 := splitsL_obs f kk
    have h2 := splitsL_obs f r
    simp [splitsL, obsL, obsT, T.splitsBelow, h1, h2]

theorem splits_obs {β : Type} (f : List String → β) (t : T) :
    t.splits.map (fun s => (f s.below, s.e, s.tip)) = (obsT f t).map (fun x => (x.1, x.2.1, x.2.2.1)) := by
  rw [obsT_kids]; exact splitsL_obs f _

/- ## the same with the two flags the root gives its branches

   The tests of `RemoveEdges` look at the upper end point of a branch only when it is the root: `up` = the
   node above is a tip (a root with a single neighbour — the branch is then a terminal branch whatever
   hangs below), `sp` = the branch is spared by the skip test (a root with two neighbours, no
   `removeRoot`).  Below the root both are `false`.  The traversal is that of the Spec (`entsL`). -/
abbrev ObsG (β : Type) := Obs β × Bool × Bool

mutual
def obsGT {β : Type} (f : List String → β) : T → List (ObsG β)
  | .node _ _ k => obsGL f false false k
def obsGL {β : Type} (f : List String → β) (up sp : Bool) : Kids → List (ObsG β)
  | [] => []
  | (e, c) :: r => ((f c.leaves, e, c.isLeaf, c.d), up, sp) :: (obsGT f c ++ obsGL f up sp r)
end

/-- the whole tree, run with `removeRoot = rr` -/
def obsGRoot {β : Type} (f : List String → β) (rr : Bool) (t : T) : List (ObsG β) :=
  obsGL f (t.kids.length == 1) (!rr && t.kids.length == 2) t.kids

theorem obsGT_kids {β : Type} (f : List String → β) (t : T) : obsGT f t = obsGL f false false t.kids := by
  cases t; simp [obsGT]

theorem obsGL_append {β : Type} (f : List String → β) (up sp : Bool) (x y : Kids) :
    obsGL f up sp (x ++ y) = obsGL f up sp x ++ obsGL f up sp y := by
  induction x with
  | nil => simp [obsGL]
  | cons a r ih => obtain ⟨e, t⟩ := a; simp [obsGL, ih]

/- forgetting the flags gives the plain observation; without flags it is the plain observation -/
theorem obsGL_plain_of {β : Type} (f : List String → β) : ∀ k : Kids,
    (∀ et ∈ k, obsGT f et.2 = (obsT f et.2).map (·, false, false)) →
    obsGL f false false k = (obsL f k).map (·, false, false)
  | [], _ => by simp [obsGL, obsL]
  | (e, c) :: r, hk => by
    simp [obsGL, obsL, hk (e, c) List.mem_cons_self,
      obsGL_plain_of f r (fun et h => hk et (List.mem_cons_of_mem _ h))]

theorem obsGT_plain {β : Type} (f : List String → β) (c : T) : obsGT f c = (obsT f c).map (·, false, false) := by
  induction c using T.induct with
  | h d p k ih => simpa [obsGT, obsT] using obsGL_plain_of f k ih

theorem obsGL_plain {β : Type} (f : List String → β) (k : Kids) :
    obsGL f false false k = (obsL f k).map (·, false, false) :=
  obsGL_plain_of f k (fun et _ => obsGT_plain f et.2)

theorem obsGL_fst {β : Type} (f : List String → β) (up sp : Bool) :
    ∀ k : Kids, (obsGL f up sp k).map Prod.fst = obsL f k
  | [] => by simp [obsGL, obsL]
  | (e, c) :: r => by simp [obsGL, obsL, obsGT_plain f c, obsGL_fst f up sp r, Function.comp_def]

/- ## the fate of an observed branch -/

/-- `e.SetLength(0.0)` leaves the id alone -/
theorem zeroLen_id (e : EdgeD) : (zeroLen e).id = e.id := rfl
theorem zeroLen_idem (e : EdgeD) : zeroLen (zeroLen e) = zeroLen e := rfl

/-- a branch the loop of `RemoveEdges` reaches: a terminal branch stays (length 0 with `removeTips`), a
    spared branch stays untouched, any other disappears -/
def hitG {β : Type} (rt : Bool) (x : ObsG β) : Option (ObsG β) :=
  if x.1.2.2.1 || x.2.1 then some ((x.1.1, (if rt then zeroLen x.1.2.1 else x.1.2.1), x.1.2.2.1, x.1.2.2.2), x.2)
  else if x.2.2 then some x else none

/-- what happens to one observed branch when the branches chosen by `p` (a function of what is observed
    of the branch: `f` of the names below, the branch data, tip?) are given to `RemoveEdges`.  One
    iteration is `p = (·.2.1.id == id)`, the loop `p = (·.2.1.id ∈ ids)`, a selection `p = selV`. -/
def keepG {β : Type} (p : β × EdgeD × Bool → Bool) (rt : Bool) (x : ObsG β) : Option (ObsG β) :=
  if p (x.1.1, x.1.2.1, x.1.2.2.1) then hitG rt x else some x

/-- … on a branch without flags:
    not selected → untouched; selected tip branch → stays, length 0 iff `removeTips`;
    selected inner branch → gone. -/
def keepV {β : Type} (selV : β × EdgeD × Bool → Bool) (rt : Bool) (x : Obs β) : Option (Obs β) :=
  if selV (x.1, x.2.1, x.2.2.1) then
    (if x.2.2.1 then some (x.1, (if rt then zeroLen x.2.1 else x.2.1), x.2.2.1, x.2.2.2) else none)
  else some x

theorem keepG_plain {β : Type} (p : β × EdgeD × Bool → Bool) (rt : Bool) (x : Obs β) :
    keepG p rt (x, false, false) = (keepV p rt x).map (·, false, false) := by
  unfold keepG hitG keepV
  cases p (x.1, x.2.1, x.2.2.1) <;> cases x.2.2.1 <;> rfl

theorem filterMap_keepG_plain {β : Type} (p : β × EdgeD × Bool → Bool) (rt : Bool) (l : List (Obs β)) :
    (l.map (·, false, false)).filterMap (keepG p rt) = (l.filterMap (keepV p rt)).map (·, false, false) :=
  (map_filterMap_comm _ _ _ l (fun x _ => (keepG_plain p rt x).symm)).symm

theorem plain_of_flagged {β : Type} (p : β × EdgeD × Bool → Bool) (rt : Bool) {l' l : List (Obs β)}
    (h : (l'.map (·, false, false)).Perm ((l.map (·, false, false)).filterMap (keepG p rt))) :
    l'.Perm (l.filterMap (keepV p rt)) := by
  rw [filterMap_keepG_plain] at h
  simpa [List.map_map, Function.comp_def] using h.map Prod.fst

/-- what a first visit of the loop leaves of a branch, a second visit leaves alone -/
theorem hitG_bind {β : Type} (q : β × EdgeD × Bool → Bool) (rt : Bool) (x : ObsG β) :
    (hitG rt x).bind (keepG q rt) = hitG rt x := by
  obtain ⟨⟨b, e, tip, d⟩, up, sp⟩ := x
  unfold hitG
  by_cases htl : (tip || up) = true
  · cases rt <;> simp [htl, keepG, hitG, zeroLen_idem]
  · cases sp <;> simp [htl, keepG, hitG]

theorem keepG_bind {β : Type} (p q : β × EdgeD × Bool → Bool) (rt : Bool) (x : ObsG β) :
    (keepG p rt x).bind (keepG q rt) = keepG (fun y => p y || q y) rt x := by
  cases hp : p (x.1.1, x.1.2.1, x.1.2.2.1)
  · simp [keepG, hp]
  · simp only [keepG, hp, if_true, Bool.true_or]
    exact hitG_bind q rt x

/- ## one iteration of `RemoveEdges` -/

@[simp] theorem stayKids_nil : stayKids [] = [] := rfl
@[simp] theorem stayKids_some (x : EdgeD × T) (s) : stayKids (some x :: s) = x :: stayKids s := rfl
@[simp] theorem stayKids_none (s) : stayKids (none :: s) = stayKids s := rfl

theorem contractL_cons (rr rt : Bool) (id : Int) (deg : Nat) (e : EdgeD) (c : T) (r : Kids) :
    contractL rr rt id deg ((e, c) :: r) =
      if e.id == id then
        if c.isLeaf || deg == 1 then (some (if rt then zeroLen e else e, contractT rr rt id false c) :: (contractL rr rt id deg r).1, (contractL rr rt id deg r).2)
        else if !rr && deg == 2 then (some (e, contractT rr rt id false c) :: (contractL rr rt id deg r).1, (contractL rr rt id deg r).2)
        else (none :: (contractL rr rt id deg r).1, (contractT rr rt id false c).kids ++ (contractL rr rt id deg r).2)
      else (some (e, contractT rr rt id false c) :: (contractL rr rt id deg r).1, (contractL rr rt id deg r).2) := by
  rw [contractL]

theorem contractT_node (rr rt : Bool) (id : Int) (isRoot : Bool) (d p k) :
    contractT rr rt id isRoot (.node d p k) =
      .node d (p - nNone ((contractL (rr || !isRoot) rt id (k.length + (if isRoot then 0 else 1)) k).1.take p))
        (stayKids (contractL (rr || !isRoot) rt id (k.length + (if isRoot then 0 else 1)) k).1 ++ (contractL (rr || !isRoot) rt id (k.length + (if isRoot then 0 else 1)) k).2) := by
  rw [contractT]

/-- new child list of a node after the iteration -/
def newKids (rr rt : Bool) (id : Int) (deg : Nat) (k : Kids) : Kids :=
  stayKids (contractL rr rt id deg k).1 ++ (contractL rr rt id deg k).2

theorem newKids_nil (rr rt : Bool) (id : Int) (deg : Nat) : newKids rr rt id deg [] = [] := by
  simp [newKids, contractL]

theorem contractT_kids (rr rt : Bool) (id : Int) (isRoot : Bool) (d p k) :
    (contractT rr rt id isRoot (.node d p k)).kids = newKids (rr || !isRoot) rt id (k.length + (if isRoot then 0 else 1)) k := by
  rw [contractT_node]; rfl

theorem contractT_d (rr rt : Bool) (id : Int) (isRoot : Bool) (c : T) :
    (contractT rr rt id isRoot c).d = c.d := by
  cases c; rw [contractT_node]; rfl

/- No tip is lost, none is created: the leaf names below every surviving node are the same
   up to order, and a node is a tip afterwards iff it was one.

   Shape of the proofs about `contractT`/`contractL` (and, further on, about every pair of functions on
   `T`/`Kids`): the statement for a child list takes the statement for its subtrees as a hypothesis (`…_of`,
   induction on the list), the one for trees follows by `T.induct`, the one for lists from both.  The obvious
   way, a `mutual` pair by structural recursion over the nested inductive, costs Lean ten times as much. -/
theorem contractL_leaves_of (rr rt : Bool) (id : Int) (deg : Nat) :
    ∀ k : Kids,
      (∀ et ∈ k, (contractT rr rt id false et.2).leaves.Perm et.2.leaves ∧
        (contractT rr rt id false et.2).isLeaf = et.2.isLeaf) →
      (leavesL (newKids rr rt id deg k)).Perm (leavesL k)
  | [], _ => by simp [newKids_nil]
  | (e, c) :: r, hk => by
    have h1 := hk (e, c) List.mem_cons_self
    have h2 := contractL_leaves_of rr rt id deg r (fun et h => hk et (List.mem_cons_of_mem _ h))
    unfold newKids at h2 ⊢
    rw [contractL_cons]
    split
    · split
      · simp only [stayKids_some, List.cons_append, leavesL]
        exact h1.1.append h2
      · split
        · simp only [stayKids_some, List.cons_append, leavesL]
          exact h1.1.append h2
        · -- contracted: the node below is inner, its leaves are those of its children
          rename_i hleaf _
          have hl : (contractT rr rt id false c).isLeaf = false := by
            rw [h1.2]; simp only [Bool.or_eq_true, not_or] at hleaf; simpa using hleaf.1
          rw [leavesL_append] at h2
          simp only [stayKids_none, leavesL_append, leavesL]
          rw [← T.leaves_of_kids_ne (T.isLeaf_eq_false_iff.1 hl)]
          exact (List.perm_append_comm_assoc _ _ _).trans (h1.1.append h2)
    · simp only [stayKids_some, List.cons_append, leavesL]
      exact h1.1.append h2

theorem contractT_leaves (rr rt : Bool) (id : Int) (isRoot : Bool) (c : T) :
    (contractT rr rt id isRoot c).leaves.Perm c.leaves ∧ (contractT rr rt id isRoot c).isLeaf = c.isLeaf := by
  induction c using T.induct generalizing rr isRoot with
  | h d p k ih =>
    have h := contractL_leaves_of (rr || !isRoot) rt id (k.length + (if isRoot then 0 else 1)) k
      (fun et h => ih et h _ false)
    rw [contractT_node, ← newKids, T.leaves_node, T.leaves_node, T.isLeaf_node, T.isLeaf_node]
    by_cases hk : k = []
    · subst hk; simp [newKids_nil]
    · have hne : newKids (rr || !isRoot) rt id (k.length + (if isRoot then 0 else 1)) k ≠ [] := by
        intro hn
        rw [hn] at h
        exact leavesL_ne_nil k hk (by simpa [leavesL] using h.symm.eq_nil)
      rw [List.isEmpty_eq_false_iff.mpr hne, List.isEmpty_eq_false_iff.mpr hk]
      simp [hk, hne, h]

/-- the node below a contracted branch is inner, before and after the iteration -/
theorem contracted_kids_pos {rr rt : Bool} {id : Int} {c : T} {b : Bool} (h : ¬ (c.isLeaf || b) = true) :
    1 ≤ (contractT rr rt id false c).kids.length := by
  have hl : (contractT rr rt id false c).isLeaf = false := by
    rw [(contractT_leaves rr rt id false c).2]; simp only [Bool.or_eq_true, not_or] at h; simpa using h.1
  exact List.length_pos_iff.mpr (T.isLeaf_eq_false_iff.1 hl)

/-- a node never loses neighbours -/
theorem contractL_len (rr rt : Bool) (id : Int) (deg : Nat) :
    ∀ k : Kids, k.length ≤ (newKids rr rt id deg k).length
  | [] => by simp [newKids_nil]
  | (e, c) :: r => by
    have h2 := contractL_len rr rt id deg r
    unfold newKids at h2 ⊢
    rw [contractL_cons]
    split
    · split
      · simp only [stayKids_some, List.cons_append, List.length_cons]; omega
      · split
        · simp only [stayKids_some, List.cons_append, List.length_cons]; omega
        · rename_i hleaf _
          have := contracted_kids_pos (rr := rr) (rt := rt) (id := id) hleaf
          simp only [stayKids_none, List.length_append, List.length_cons] at h2 ⊢
          omega
    · simp only [stayKids_some, List.cons_append, List.length_cons]; omega

/- "No single-child inner node" is preserved. -/
theorem contractL_ns_of (rr rt : Bool) (id : Int) (deg : Nat) :
    ∀ k : Kids, (∀ et ∈ k, et.2.noSingleBelow = true → (contractT rr rt id false et.2).noSingleBelow = true) →
      noSingleL k = true → noSingleL (newKids rr rt id deg k) = true
  | [], _, _ => by simp [newKids_nil, noSingleL]
  | (e, c) :: r, hk, h => by
    rw [noSingleL_cons] at h
    simp only [Bool.and_eq_true] at h
    have h1 := hk (e, c) List.mem_cons_self h.1
    have h2 := contractL_ns_of rr rt id deg r (fun et h => hk et (List.mem_cons_of_mem _ h)) h.2
    unfold newKids at h2 ⊢
    rw [contractL_cons]
    split
    · split
      · simp only [stayKids_some, List.cons_append, noSingleL_cons, h1, h2, Bool.and_self]
      · split
        · simp only [stayKids_some, List.cons_append, noSingleL_cons, h1, h2, Bool.and_self]
        · rw [noSingleL_append] at h2
          simp only [Bool.and_eq_true] at h2
          simp only [stayKids_none, noSingleL_append, Bool.and_eq_true]
          exact ⟨h2.1, (Bool.and_eq_true _ _ ▸ (T.noSingleBelow_eq _).symm.trans h1).2, h2.2⟩
    · simp only [stayKids_some, List.cons_append, noSingleL_cons, h1, h2, Bool.and_self]

theorem contractT_ns (rr rt : Bool) (id : Int) (c : T) :
    c.noSingleBelow = true → (contractT rr rt id false c).noSingleBelow = true := by
  induction c using T.induct generalizing rr with
  | h d p k ih =>
    intro h
    rw [T.noSingleBelow_node] at h
    simp only [Bool.and_eq_true, bne_iff_ne, ne_eq] at h
    have h2 := contractL_ns_of (rr || !false) rt id (k.length + 1) k (fun et h => ih et h _) h.2
    have h3 := contractL_len (rr || !false) rt id (k.length + 1) k
    rw [contractT_node, ← newKids, T.noSingleBelow_node]
    simp only [Bool.and_eq_true, bne_iff_ne, ne_eq, Bool.false_eq_true, if_false]
    refine ⟨?_, h2⟩
    intro h1
    cases k with
    | nil => simp [newKids_nil] at h1
    | cons x r =>
      cases r with
      | nil => simp at h
      | cons y r' => simp only [List.length_cons] at h3 h1; omega

theorem contractL_ns (rr rt : Bool) (id : Int) (deg : Nat) (k : Kids) (h : noSingleL k = true) :
    noSingleL (newKids rr rt id deg k) = true ∧ k.length ≤ (newKids rr rt id deg k).length :=
  ⟨contractL_ns_of rr rt id deg k (fun et _ => contractT_ns rr rt id et.2) h, contractL_len rr rt id deg k⟩

/- The effect of one iteration of `RemoveEdges` on the observed branches of the children of a node with
   `deg` neighbours: `keepG` with "carries the id" on every branch, up to the order of the list.  The flags
   are the two tests of the code; the children of a contracted child arrive without flags because the
   branch above them was neither terminal nor spared. -/
theorem contractL_obsG_of {β : Type} (f : List String → β) (hf : PermInv f) (rr rt : Bool) (id : Int) (deg : Nat) :
    ∀ k : Kids,
      (∀ et ∈ k, (obsGT f (contractT rr rt id false et.2)).Perm
        ((obsGT f et.2).filterMap (keepG (·.2.1.id == id) rt))) →
      (obsGL f (deg == 1) (!rr && deg == 2) (newKids rr rt id deg k)).Perm
        ((obsGL f (deg == 1) (!rr && deg == 2) k).filterMap (keepG (·.2.1.id == id) rt))
  | [], _ => by simp [newKids_nil, obsGL]
  | (e, c) :: r, hk => by
    have h1 := hk (e, c) List.mem_cons_self
    have h2 := contractL_obsG_of f hf rr rt id deg r (fun et h => hk et (List.mem_cons_of_mem _ h))
    have hl := contractT_leaves rr rt id false c
    have hfl : f (contractT rr rt id false c).leaves = f c.leaves := hf _ _ hl.1
    have hd := contractT_d rr rt id false c
    unfold newKids at h2 ⊢
    rw [contractL_cons]
    by_cases hid : (e.id == id) = true
    · rw [if_pos hid]
      by_cases htip : (c.isLeaf || deg == 1) = true
      · rw [if_pos htip]
        simp only [stayKids_some, List.cons_append, obsGL, List.filterMap_cons, List.filterMap_append]
        simp only [keepG, hitG, hid, htip, if_true, hfl, hl.2, hd]
        exact List.Perm.cons _ (h1.append h2)
      · rw [if_neg htip]
        by_cases hsp : (!rr && deg == 2) = true
        · rw [if_pos hsp]
          rw [hsp] at h2 ⊢
          simp only [stayKids_some, List.cons_append, obsGL, List.filterMap_cons, List.filterMap_append]
          simp only [keepG, hitG, hid, htip, if_true, Bool.false_eq_true, if_false, hfl, hl.2, hd]
          exact List.Perm.cons _ (h1.append h2)
        · rw [if_neg hsp]
          have hup : (deg == 1) = false := by
            simp only [Bool.or_eq_true, not_or] at htip; simpa using htip.2
          simp only [Bool.not_eq_true] at hsp
          rw [hup, hsp] at h2 ⊢
          simp only [stayKids_none, obsGL_append, obsGL, List.filterMap_cons, List.filterMap_append]
          rw [hup, Bool.or_false] at htip
          simp only [keepG, hitG, hid, htip, if_true, Bool.false_eq_true, if_false, Bool.or_self]
          rw [obsGL_append] at h2
          rw [← obsGT_kids]
          exact (List.perm_append_comm_assoc _ _ _).trans (h1.append h2)
    · rw [if_neg hid]
      simp only [stayKids_some, List.cons_append, obsGL, List.filterMap_cons, List.filterMap_append]
      simp only [keepG, hid, Bool.false_eq_true, if_false, hfl, hl.2, hd]
      exact List.Perm.cons _ (h1.append h2)

theorem contractT_obsG {β : Type} (f : List String → β) (hf : PermInv f) (rr rt : Bool) (id : Int) (c : T) :
    (obsGT f (contractT rr rt id false c)).Perm ((obsGT f c).filterMap (keepG (·.2.1.id == id) rt)) := by
  induction c using T.induct generalizing rr with
  | h d p k ih =>
    have hk := contractL_obsG_of f hf true rt id (k.length + 1) k (fun et h => ih et h true)
    rw [contractT_node, ← newKids, obsGT, obsGT]
    cases k with
    | nil => simp [newKids_nil, obsGL]
    | cons x r => simpa using hk

theorem contractL_obsG {β : Type} (f : List String → β) (hf : PermInv f) (rr rt : Bool) (id : Int) (deg : Nat)
    (k : Kids) :
    (obsGL f (deg == 1) (!rr && deg == 2) (newKids rr rt id deg k)).Perm
      ((obsGL f (deg == 1) (!rr && deg == 2) k).filterMap (keepG (·.2.1.id == id) rt)) :=
  contractL_obsG_of f hf rr rt id deg k (fun et _ => contractT_obsG f hf rr rt id et.2)

end Gotree.C07

/-
  C10: the post-order recursion `minTransferDistRecur` (with its early stop)
  computes the least of the per-branch distances and never more than the
  starting value `p - 1`; the full traversal of the log mode (`absent = false`,
  every closest branch kept) computes the same distance.
-/
import Gotree.Spec.C10

namespace Gotree.C10
open Gotree

/-- number of heavy-side ("one") tips in a list of leaves -/
def onesOf (light : String → Bool) (l : List String) : Nat := l.countP (fun x => !light x)

/-- the distance the code computes for a bootstrap branch with the leaves `B` below it -/
def dOf (light : String → Bool) (p n : Int) (B : List String) : Int :=
  edgeDist p n B.length (onesOf light B)

/-- `m` is the least of `init` and the values satisfying `S` -/
def IsMinOf (init : Int) (S : Int → Prop) (m : Int) : Prop :=
  m ≤ init ∧ (∀ d, S d → m ≤ d) ∧ (m = init ∨ S m)

theorem IsMinOf.unique {init : Int} {S : Int → Prop} {m m' : Int}
    (h : IsMinOf init S m) (h' : IsMinOf init S m') : m = m' := by
  obtain ⟨a1, a2, a3⟩ := h
  obtain ⟨b1, b2, b3⟩ := h'
  have h1 : m ≤ m' := by
    rcases b3 with rfl | hs
    · exact a1
    · exact a2 _ hs
  have h2 : m' ≤ m := by
    rcases a3 with rfl | hs
    · exact b1
    · exact b2 _ hs
  omega

theorem IsMinOf.refl (init : Int) (S : Int → Prop) (h : ∀ d, S d → init ≤ d) : IsMinOf init S init :=
  ⟨Int.le_refl _, h, Or.inl rfl⟩

theorem IsMinOf.trans {a m₁ m₂ : Int} {S₁ S₂ : Int → Prop}
    (h₁ : IsMinOf a S₁ m₁) (h₂ : IsMinOf m₁ S₂ m₂) : IsMinOf a (fun d => S₁ d ∨ S₂ d) m₂ := by
  obtain ⟨a1, a2, a3⟩ := h₁
  obtain ⟨b1, b2, b3⟩ := h₂
  refine ⟨by omega, ?_, ?_⟩
  · intro d hd
    rcases hd with hd | hd
    · have := a2 d hd; omega
    · exact b2 d hd
  · rcases b3 with rfl | hs
    · rcases a3 with rfl | hs
      · exact Or.inl rfl
      · exact Or.inr (Or.inl hs)
    · exact Or.inr (Or.inr hs)

theorem IsMinOf.mono {a m : Int} {S S' : Int → Prop} (h : IsMinOf a S m) (hs : ∀ d, S d ↔ S' d) :
    IsMinOf a S' m := by
  obtain ⟨a1, a2, a3⟩ := h
  exact ⟨a1, fun d hd => a2 d ((hs d).2 hd), a3.imp id (fun x => (hs m).1 x)⟩

/-- `foldl min` is the least of the start value and the elements -/
theorem foldl_min_isMin (l : List Int) (init : Int) : IsMinOf init (fun d => d ∈ l) (l.foldl min init) := by
  induction l generalizing init with
  | nil => exact ⟨Int.le_refl _, by simp, Or.inl rfl⟩
  | cons x l ih =>
    simp only [List.foldl_cons]
    obtain ⟨a1, a2, a3⟩ := ih (min init x)
    refine ⟨by have := Int.min_le_left init x; omega, ?_, ?_⟩
    · intro d hd
      rcases List.mem_cons.1 hd with rfl | hd
      · have := Int.min_le_right init d; omega
      · exact a2 d hd
    · rcases a3 with h | h
      · rw [h]
        by_cases hx : init ≤ x
        · left; simp [Int.min_def, hx]
        · right; simp [Int.min_def, hx]
      · right; exact List.mem_cons_of_mem _ h

/-- what the recursion guarantees when it returns `(o, st')`, entered with `stop = false`
    and `dist = init`, over a set `S` of distances, `oexp` the expected count of ones -/
def Good (absent : Bool) (init : Int) (S : Int → Prop) (o oexp : Nat) (st' : MS) : Prop :=
  (st'.stop = false → o = oexp ∧ IsMinOf init S st'.dist) ∧
  (st'.stop = true → absent = true ∧ st'.dist = 1 ∧ S 1 ∧ 1 ≤ init)

/-- one visit of a branch after its subtree went through without stopping -/
theorem visit_good (absent : Bool) (p n : Int) (r ones : Nat) (init : Int) (S : Int → Prop) (st : MS)
    (hst : st.stop = false) (hm : IsMinOf init S st.dist) :
    Good absent init (fun d => S d ∨ d = edgeDist p n r ones) ones ones (visitEdge p n absent r ones st) := by
  obtain ⟨a1, a2, a3⟩ := hm
  unfold Good
  by_cases hd : edgeDist p n r ones ≤ st.dist
  · have hv : visitEdge p n absent r ones st =
        ⟨edgeDist p n r ones, (edgeDist p n r ones == 1 && absent)⟩ := by
      simp [visitEdge, hd, hst]
    rw [hv]
    refine ⟨fun _ => ⟨rfl, ?_, ?_, Or.inr (Or.inr rfl)⟩, fun hs => ?_⟩
    · exact Int.le_trans hd a1
    · intro d h
      rcases h with h | h
      · exact Int.le_trans hd (a2 d h)
      · rw [h]; exact Int.le_refl _
    · have hs' : edgeDist p n r ones = 1 ∧ absent = true := by
        simpa [Bool.and_eq_true, beq_iff_eq] using hs
      refine ⟨hs'.2, hs'.1, Or.inr hs'.1.symm, ?_⟩
      have := hs'.1; omega
  · have hv : visitEdge p n absent r ones st = st := by simp [visitEdge, hd]
    rw [hv]
    refine ⟨fun _ => ⟨rfl, a1, ?_, a3.imp id Or.inl⟩, fun hs => ?_⟩
    · intro d h
      rcases h with h | h
      · exact a2 d h
      · omega
    · rw [hst] at hs; cases hs

section recur
variable (light : String → Bool) (p n : Int) (absent : Bool)

/-- the distances of the branches of a forest -/
def DsetL (k : Kids) (d : Int) : Prop := ∃ s ∈ splitsL k, d = dOf light p n s.below

theorem DsetL_cons (e : EdgeD) (t : T) (r : Kids) (d : Int) :
    DsetL light p n ((e, t) :: r) d ↔
      (d = dOf light p n t.leaves ∨ DsetL light p n t.kids d) ∨ DsetL light p n r d := by
  unfold DsetL
  cases t with
  | node x pp k =>
    simp only [splitsL, T.splitsBelow, List.mem_cons, List.mem_append, T.kids_node]
    constructor
    · rintro ⟨s, (rfl | hs | hs), hd⟩
      · exact Or.inl (Or.inl hd)
      · exact Or.inl (Or.inr ⟨s, hs, hd⟩)
      · exact Or.inr ⟨s, hs, hd⟩
    · rintro ((hd | ⟨s, hs, hd⟩) | ⟨s, hs, hd⟩)
      · exact ⟨_, Or.inl rfl, hd⟩
      · exact ⟨s, Or.inr (Or.inl hs), hd⟩
      · exact ⟨s, Or.inr (Or.inr hs), hd⟩

mutual
theorem mtdNode_good : ∀ (t : T) (st : MS), st.stop = false →
    Good absent st.dist (fun d => d = dOf light p n t.leaves ∨ DsetL light p n t.kids d)
      (mtdNode light p n absent t st).1 (onesOf light t.leaves) (mtdNode light p n absent t st).2
  | .node x _ [], st, hst => by
    have hv := visit_good absent p n 1 (if light x.name then 0 else 1) st.dist (fun _ => False) st hst
      (IsMinOf.refl _ _ (by intro d h; cases h))
    have ho : onesOf light [x.name] = (if light x.name then 0 else 1) := by
      unfold onesOf; by_cases hl : light x.name <;> simp [hl]
    have hd : dOf light p n [x.name] = edgeDist p n 1 (if light x.name then 0 else 1) := by
      unfold dOf; rw [ho]; rfl
    simp only [mtdNode, hst, Bool.false_eq_true, if_false, T.leaves, T.kids_node, ho, hd]
    obtain ⟨g1, g2⟩ := hv
    refine ⟨fun h => ?_, fun h => ?_⟩
    · obtain ⟨e1, e2⟩ := g1 h
      exact ⟨e1, e2.mono (fun d => by simp [DsetL, splitsL])⟩
    · obtain ⟨e1, e2, e3, e4⟩ := g2 h
      exact ⟨e1, e2, Or.inl (by simpa using e3), e4⟩
  | .node x _ (k :: ks), st, hst => by
    have ih := mtdKids_good (k :: ks) st hst
    simp only [mtdNode, hst, Bool.false_eq_true, if_false, T.leaves, T.kids_node]
    generalize hres : mtdKids light p n absent (k :: ks) st = res at ih
    obtain ⟨ones, st'⟩ := res
    simp only [] at ih ⊢
    obtain ⟨g1, g2⟩ := ih
    by_cases hs : st'.stop = true
    · simp only [hs, if_true]
      obtain ⟨e1, e2, e3, e4⟩ := g2 hs
      exact ⟨fun h => (by rw [hs] at h; cases h), fun _ => ⟨e1, e2, Or.inr e3, e4⟩⟩
    · have hs' : st'.stop = false := by simpa using hs
      obtain ⟨e1, e2⟩ := g1 hs'
      simp only [hs', Bool.false_eq_true, if_false]
      have hv := visit_good absent p n (leavesL (k :: ks)).length ones st.dist
        (DsetL light p n (k :: ks)) st' hs' e2
      have hd : dOf light p n (leavesL (k :: ks)) = edgeDist p n (leavesL (k :: ks)).length ones := by
        unfold dOf; rw [e1]
      obtain ⟨v1, v2⟩ := hv
      refine ⟨fun h => ?_, fun h => ?_⟩
      · obtain ⟨_, f2⟩ := v1 h
        exact ⟨e1, f2.mono (fun d => by rw [hd]; exact Or.comm)⟩
      · obtain ⟨f1, f2, f3, f4⟩ := v2 h
        exact ⟨f1, f2, by rw [hd]; exact Or.comm.1 f3, f4⟩
theorem mtdKids_good : ∀ (k : Kids) (st : MS), st.stop = false →
    Good absent st.dist (DsetL light p n k)
      (mtdKids light p n absent k st).1 (onesOf light (leavesL k)) (mtdKids light p n absent k st).2
  | [], st, hst => by
    simp only [mtdKids, leavesL, onesOf, List.countP_nil]
    exact ⟨fun _ => ⟨rfl, IsMinOf.refl _ _ (by intro d ⟨s, hs, _⟩; simp [splitsL] at hs)⟩,
      fun h => by rw [hst] at h; cases h⟩
  | (e, t) :: rest, st, hst => by
    have ih1 := mtdNode_good t st hst
    simp only [mtdKids]
    generalize hres : mtdNode light p n absent t st = res at ih1
    obtain ⟨o₁, st₁⟩ := res
    simp only [] at ih1 ⊢
    obtain ⟨g1, g2⟩ := ih1
    by_cases hs : st₁.stop = true
    · simp only [hs, if_true]
      obtain ⟨e1, e2, e3, e4⟩ := g2 hs
      exact ⟨fun h => (by rw [hs] at h; cases h),
        fun _ => ⟨e1, e2, (DsetL_cons light p n e t rest 1).2 (Or.inl e3), e4⟩⟩
    · have hs' : st₁.stop = false := by simpa using hs
      obtain ⟨e1, e2⟩ := g1 hs'
      simp only [hs', Bool.false_eq_true, if_false]
      have ih2 := mtdKids_good rest st₁ hs'
      generalize hres2 : mtdKids light p n absent rest st₁ = res2 at ih2
      obtain ⟨o₂, st₂⟩ := res2
      simp only [] at ih2 ⊢
      obtain ⟨k1, k2⟩ := ih2
      refine ⟨fun h => ?_, fun h => ?_⟩
      · obtain ⟨f1, f2⟩ := k1 h
        refine ⟨?_, (e2.trans f2).mono (fun d => (DsetL_cons light p n e t rest d).symm)⟩
        simp only [leavesL, onesOf, List.countP_append] at *
        omega
      · obtain ⟨f1, f2, f3, f4⟩ := k2 h
        refine ⟨f1, f2, (DsetL_cons light p n e t rest 1).2 (Or.inr f3), ?_⟩
        have := e2.1; omega
end

end recur

/-- whether or not the recursion stopped early, it did not go above its start value -/
theorem Good.dist_le {absent : Bool} {init : Int} {S : Int → Prop} {o oexp : Nat} {st : MS}
    (h : Good absent init S o oexp st) : st.dist ≤ init := by
  cases hs : st.stop
  · exact (h.1 hs).2.1
  · obtain ⟨_, e, _, h1⟩ := h.2 hs
    rw [e]; exact h1

/-- … and it found the least distance, provided the early stop is only asked for when no distance is below 1 -/
theorem Good.isMin {absent : Bool} {init : Int} {S : Int → Prop} {o oexp : Nat} {st : MS}
    (h : Good absent init S o oexp st) (habs : absent = true → ∀ d, S d → 1 ≤ d) :
    IsMinOf init S st.dist := by
  cases hs : st.stop
  · exact (h.1 hs).2
  · obtain ⟨ha, e, h1, hi⟩ := h.2 hs
    rw [e]; exact ⟨hi, habs ha, Or.inr h1⟩

/-- ★ the recursion is the fold of `min` over the split list, started at `p - 1` -/
theorem minTransferDist_eq_fold (light : String → Bool) (p n : Int) (absent : Bool) (b : T)
    (hp : p ≠ 1) (hroot : b.kids.length ≠ 1)
    (habs : absent = true → ∀ s ∈ b.splits, 1 ≤ dOf light p n s.below) :
    minTransferDist light p n absent b =
      (b.splits.map fun s => dOf light p n s.below).foldl min (p - 1) := by
  have hS : ∀ d, (d ∈ b.splits.map fun s => dOf light p n s.below) ↔ DsetL light p n b.kids d := fun d => by
    simp only [List.mem_map, DsetL, T.splits, eq_comm]
  have hp' : (p == 1) = false := by simpa using hp
  have hr' : (b.kids.length == 1) = false := by simpa using hroot
  simp only [minTransferDist, hp', hr', Bool.false_eq_true, if_false]
  exact ((mtdKids_good light p n absent b.kids ⟨p - 1, false⟩ rfl).isMin
    fun ha d ⟨s, hs, e⟩ => e ▸ habs ha s hs).unique ((foldl_min_isMin _ _).mono hS)

/-- the recursion never returns more than its starting value -/
theorem minTransferDist_le (light : String → Bool) (p n : Int) (absent : Bool) (b : T) :
    minTransferDist light p n absent b ≤ p - 1 := by
  unfold minTransferDist
  split
  · exact Int.le_refl _
  · split
    · exact Int.le_refl _
    · exact (mtdKids_good light p n absent b.kids ⟨p - 1, false⟩ rfl).dist_le

/-! ## the full traversal (`--moved-taxa`, `--per-branches`) -/

theorem visitFull_dist (p n : Int) (id r ones : Nat) (st : FS) :
    (visitFull p n id r ones st).dist = (visitEdge p n false r ones ⟨st.dist, false⟩).dist ∧
    (visitEdge p n false r ones ⟨st.dist, false⟩).stop = false := by
  unfold visitFull visitEdge
  simp only []
  by_cases h : edgeDist p n r ones ≤ st.dist
  · simp [h]
  · simp [h]

mutual
theorem fullNode_dist (light : String → Bool) (p n : Int) : ∀ (t : T) (id : Nat) (st : FS),
    (fullNode light p n t id st).1 = (mtdNode light p n false t ⟨st.dist, false⟩).1 ∧
    (fullNode light p n t id st).2.dist = (mtdNode light p n false t ⟨st.dist, false⟩).2.dist ∧
    (mtdNode light p n false t ⟨st.dist, false⟩).2.stop = false
  | .node d _ [], id, st => by
    have hv := visitFull_dist p n id 1 (if light d.name then 0 else 1) st
    simp only [fullNode, mtdNode, Bool.false_eq_true, if_false]
    exact ⟨trivial, hv.1, hv.2⟩
  | .node d _ (k :: ks), id, st => by
    obtain ⟨h1, h2, h3⟩ := fullKids_dist light p n (k :: ks) (id + 1) st
    simp only [fullNode, mtdNode, Bool.false_eq_true, if_false]
    generalize hm : mtdKids light p n false (k :: ks) ⟨st.dist, false⟩ = m at h1 h2 h3
    generalize hf : fullKids light p n (k :: ks) (id + 1) st = f at h1 h2
    obtain ⟨mo, ms⟩ := m
    obtain ⟨fo, fs⟩ := f
    simp only [] at h1 h2 h3 ⊢
    subst h1
    have hms : ms = ⟨fs.dist, false⟩ := by
      cases ms with
      | mk dd ss => simp only [] at h2 h3; subst h2; subst h3; rfl
    rw [h3]
    simp only [Bool.false_eq_true, if_false]
    have hv := visitFull_dist p n id (leavesL (k :: ks)).length fo fs
    rw [hms]
    exact ⟨trivial, hv.1, hv.2⟩
theorem fullKids_dist (light : String → Bool) (p n : Int) : ∀ (k : Kids) (c : Nat) (st : FS),
    (fullKids light p n k c st).1 = (mtdKids light p n false k ⟨st.dist, false⟩).1 ∧
    (fullKids light p n k c st).2.dist = (mtdKids light p n false k ⟨st.dist, false⟩).2.dist ∧
    (mtdKids light p n false k ⟨st.dist, false⟩).2.stop = false
  | [], c, st => by simp [fullKids, mtdKids]
  | (e, t) :: rest, c, st => by
    obtain ⟨h1, h2, h3⟩ := fullNode_dist light p n t c st
    simp only [fullKids, mtdKids]
    generalize hm : mtdNode light p n false t ⟨st.dist, false⟩ = m at h1 h2 h3
    generalize hf : fullNode light p n t c st = f at h1 h2
    obtain ⟨mo, ms⟩ := m
    obtain ⟨fo, fs⟩ := f
    simp only [] at h1 h2 h3 ⊢
    subst h1
    have hms : ms = ⟨fs.dist, false⟩ := by
      cases ms with
      | mk dd ss => simp only [] at h2 h3; subst h2; subst h3; rfl
    rw [h3]
    simp only [Bool.false_eq_true, if_false]
    obtain ⟨g1, g2, g3⟩ := fullKids_dist light p n rest (c + 1 + (splitsL t.kids).length) fs
    rw [hms]
    exact ⟨by rw [g1], g2, g3⟩
end

/-- the distance of the log mode is `MinTransferDist(…, absent = false)` -/
theorem minTransferFull_dist (light : String → Bool) (p n : Int) (b : T) (hp : p ≠ 1)
    (hroot : b.kids.length ≠ 1) :
    (minTransferFull light p n b).1 = minTransferDist light p n false b := by
  unfold minTransferFull minTransferDist
  have hp' : (p == 1) = false := by simpa using hp
  have hr' : (b.kids.length == 1) = false := by simpa using hroot
  simp only [hp', hr', Bool.false_eq_true, if_false]
  exact (fullKids_dist light p n b.kids 0 ⟨p - 1, [], []⟩).2.1

end Gotree.C10

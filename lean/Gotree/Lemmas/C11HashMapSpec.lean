/-
  C11 — the model of `hashmap.HashMap` meets the Spec of a history (`HM.historyOK`, Spec/C11.lean): whatever
  the list of calls, the initial capacity, the load factor and the hash function, the answers of the model
  are those of the association-list reference.  And: the order in which `PutValue` calls of goroutines
  owning disjoint keys interleave does not change what any later `Value` answers.
-/
import Gotree.Lemmas.C11HashMap
import Gotree.Spec.C11

namespace Gotree.C11.HM

/-! ### interleavings -/

/-- Two lists of `PutValue` calls that agree key by key (the same calls on each key, in the same order —
    e.g. two interleavings of goroutines that own disjoint sets of keys) leave maps that answer every
    `Value` alike; neither panics. -/
theorem putAll_interleaving {κ ν : Type} [DecidableEq κ] {hash : κ → Nat} {m : HMap κ ν} (hw : WF hash m)
    (ops1 ops2 : List (κ × ν))
    (h : ∀ k, ops1.filter (fun o => decide (o.1 = k)) = ops2.filter (fun o => decide (o.1 = k))) :
    ∃ m1 m2, putAll hash m ops1 = some m1 ∧ putAll hash m ops2 = some m2 ∧
      ∀ k, value hash m1 k = value hash m2 k := by
  obtain ⟨m1, h1, w1, l1⟩ := putAll_spec ops1 hw
  obtain ⟨m2, h2, w2, l2⟩ := putAll_spec ops2 hw
  refine ⟨m1, m2, h1, h2, ?_⟩
  intro k
  rw [value_eq w1, value_eq w2, l1 k, l2 k, lastPut_filter ops1 k, lastPut_filter ops2 k, h k]

/-! ### the association-list reference of the Spec -/

theorem refGet_eq (ref : List (Nat × Int)) (k : Nat) : refGet ref k = lookup ref k := by
  unfold refGet lookup
  congr 2
  funext kv
  rw [Bool.eq_iff_iff, beq_iff_eq, decide_eq_true_iff]; exact eq_comm

theorem any_key_iff (ref : List (Nat × Int)) (k : Nat) : ref.any (·.1 == k) = true ↔ k ∈ ref.map Prod.fst := by
  simp only [List.any_eq_true, List.mem_map, beq_iff_eq]

/-- on a list without repeated key the reference update (every entry with the key) is `Assoc.put` (the first one) -/
theorem refPut_eq (ref : List (Nat × Int)) (hn : (ref.map Prod.fst).Nodup) (k : Nat) (v : Int) :
    refPut ref k v = C04.Assoc.put eqd k v ref := by
  unfold refPut
  simp only [any_key_iff]
  split
  · next h =>
    rw [C04.put_match ((noDupK_iff.mpr hn).uniq eqd_laws k) (fun hno => noMatch_iff.mp hno h)]
    exact List.map_congr_left fun a _ => by
      by_cases ha : a.1 = k
      · simp [C04.updF, ha]
      · simp [C04.updF, ha, Ne.symm ha]
  · next h => rw [C04.put_nomatch (noMatch_iff.mpr h)]

theorem sameSet_of_perm {α : Type} [BEq α] [LawfulBEq α] (l want : List α) (hp : want.Perm l) :
    sameSet (l.map some) want = true := by
  unfold sameSet
  simp only [List.length_map, Bool.and_eq_true, beq_iff_eq, List.all_eq_true]
  refine ⟨hp.length_eq.symm, ?_⟩
  intro x hx
  rw [List.contains_iff_mem]
  exact List.mem_map.mpr ⟨x, hp.mem_iff.mp hx, rfl⟩

/-- ★ the model meets the Spec: from any well-formed map standing for the reference list `ref`, the answers
    of the model to ANY history are accepted by the oracle — no panic, every `Value` answers the last
    `PutValue`, `Keys` / `KeyValues` list every stored key (pair) exactly once without nil cell. -/
theorem runOps_meets_spec {hash : Nat → Nat} (ops : List (Op Nat Int)) :
    ∀ {m : HMap Nat Int} {ref : List (Nat × Int)}, WF hash m → ref.Perm (entries m) →
      historyOK ref ops (runOps hash m ops) = true := by
  induction ops with
  | nil => intro m ref _ _; simp [runOps, historyOK]
  | cons op r ih =>
    intro m ref hw hp
    have hrefn : (ref.map Prod.fst).Nodup := ((hp.map Prod.fst).nodup_iff).mpr hw.nodup
    cases op with
    | put k v =>
      obtain ⟨m', h1, hw', hp'⟩ := putValue_flat hw k v
      simp only [runOps, h1, historyOK]
      refine ih hw' ?_
      rw [refPut_eq ref hrefn]
      exact (C04.put_perm hp ((noDupK_iff.mpr hrefn).uniq eqd_laws k)).trans hp'.symm
    | get k =>
      simp only [runOps, value_eq hw, historyOK, Bool.and_eq_true]
      refine ⟨?_, ih hw hp⟩
      rw [refGet_eq, lookup_perm hp hrefn k]; simp
    | keys =>
      simp only [runOps, keys_eq hw, historyOK, Bool.and_eq_true]
      refine ⟨?_, ih hw hp⟩
      have : (entries m).map (fun kv => some kv.1) = ((entries m).map Prod.fst).map some := by simp
      rw [this]
      exact sameSet_of_perm _ _ (hp.map Prod.fst)
    | keyValues =>
      simp only [runOps, keyValues, cells_eq hw, historyOK, Bool.and_eq_true]
      exact ⟨sameSet_of_perm _ _ hp, ih hw hp⟩

end Gotree.C11.HM

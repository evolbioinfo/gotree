/-
  C09 — the channel of `tree.Consensus` with error records (Model/C09Items.lean): `splitItems`;
  the counting loop succeeds on every prefix of a collection of the domain, hence `firstRefused`
  finds no refused tree there.
-/
import Gotree.Lemmas.C09Dom
import Gotree.Model.C09Items

namespace Gotree.C09
open Gotree

theorem splitItems_trees (ts : List T) : splitItems (ts.map Item.tree) = (ts, none) := by
  induction ts with
  | nil => rfl
  | cons t r ih => simp only [List.map_cons, splitItems, ih]

theorem splitItems_append_bad (pre : List T) (m : String) (rest : List Item) :
    splitItems (pre.map Item.tree ++ Item.bad m :: rest) = (pre, some m) := by
  induction pre with
  | nil => rfl
  | cons t r ih => simp only [List.map_cons, List.cons_append, splitItems, ih]

theorem splitItems_some_of_bad (items : List Item) (h : items.any Item.isBad = true) :
    ∃ ts m, splitItems items = (ts, some m) := by
  induction items with
  | nil => simp at h
  | cons i r ih =>
    cases i with
    | bad m => exact ⟨[], m, rfl⟩
    | tree t =>
      have hr : r.any Item.isBad = true := by simpa [Item.isBad] using h
      obtain ⟨ts, m, e⟩ := ih hr
      exact ⟨t :: ts, m, by simp only [splitItems, e]⟩

theorem dom_take (ts : List T) (hd : Dom ts) (j : Nat) : Dom (ts.take (j + 1)) := by
  cases ts with
  | nil => exact absurd rfl hd.ne
  | cons t0 r =>
    have htr : ∀ u ∈ trees ((t0 :: r).take (j + 1)), u ∈ trees (t0 :: r) := by
      intro u hu
      unfold trees at hu ⊢
      obtain ⟨x, hx, rfl⟩ := List.mem_map.1 hu
      exact List.mem_map.2 ⟨x, List.mem_of_mem_take hx, rfl⟩
    have hhead : ((t0 :: r).take (j + 1)).head! = (t0 :: r).head! := by rw [List.take_succ_cons]; rfl
    refine ⟨by simp, fun u hu => hd.deg u (htr u hu), fun u hu => hd.nosingle u (htr u hu),
      fun u hu => hd.nodup u (htr u hu), fun u hu => by rw [hhead]; exact hd.same u (htr u hu), ?_⟩
    have hnr := hd.norepeat
    unfold noRepeat at hnr ⊢
    have hu : univOf ((t0 :: r).take (j + 1)) = univOf (t0 :: r) := by simp [univOf]
    rw [hu]
    rw [List.all_eq_true] at hnr ⊢
    exact fun x hx => hnr x (List.mem_of_mem_take hx)

theorem firstRefused_none_of_dom (ts : List T) (hd : Dom ts) : firstRefused ts = none := by
  unfold firstRefused
  rw [List.find?_eq_none]
  intro j _
  obtain ⟨cn, hcn⟩ := countAll_of_dom _ (dom_take ts hd j)
  rw [hcn]; simp

end Gotree.C09

/-
  C14 — the flood fill `cutEdgesMaxLengthRecur` of the statement-level model on the pointer graph of a rose
  tree: entering a subtree from its parent (`flood_down`) and started at a node away from one of its
  children (`flood_at`).  It collects the tips `openT` (by name: the open part of `comp`) and marks the
  branches `reachT`.
-/
import Gotree.Lemmas.C14Graph

namespace Gotree.C14
open Gotree Gotree.C14.Go

/-! ## what the flood collects and marks -/

/- tips (node indices) joined to the top node of a subtree by branches shorter than `thr`,
   and the branches (indices) crossed, in the order of the flood -/
mutual
def openT (thr : Rat) (n : Nat) : T → List Nat
  | .node _ _ [] => [n]
  | .node _ _ (k :: ks) => openL thr (n + 1) (k :: ks)
def openL (thr : Rat) : Nat → Kids → List Nat
  | _, [] => []
  | n, (e, t) :: r => (if e.len < thr then openT thr n t else []) ++ openL thr (n + t.size) r
end

mutual
def reachT (thr : Rat) (n : Nat) : T → List Nat
  | .node _ _ k => reachL thr (n + 1) k
def reachL (thr : Rat) : Nat → Kids → List Nat
  | _, [] => []
  | n, (e, t) :: r => (if e.len < thr then (n - 1) :: reachT thr n t else []) ++ reachL thr (n + t.size) r
end

def markAll (v : Array Bool) (l : List Nat) : Array Bool := l.foldl (fun v i => v.set! i true) v

theorem markAll_append (v : Array Bool) (a b : List Nat) : markAll v (a ++ b) = markAll (markAll v a) b := by
  simp [markAll, List.foldl_append]

theorem markAll_size : ∀ (l : List Nat) (v : Array Bool), (markAll v l).size = v.size
  | [], _ => rfl
  | i :: l, v => by
    have := markAll_size l (v.set! i true)
    simpa [markAll] using this

theorem markAll_get : ∀ (l : List Nat) (v : Array Bool) (j : Nat), (∀ i ∈ l, i < v.size) →
    (markAll v l).getD j false = (v.getD j false || decide (j ∈ l))
  | [], v, j, _ => by simp [markAll]
  | i :: l, v, j, h => by
    have hi : i < v.size := h i (by simp)
    show (markAll (v.set! i true) l).getD j false = _
    rw [markAll_get l (v.set! i true) j (fun x hx => by simpa using h x (by simp [hx])), getD_set!]
    by_cases hij : j = i <;> simp [hij, hi]

def tipPairs (g : G) (l : List Nat) : Bag := l.map fun i => (g.name i, i)

theorem names_of_pairs (g : G) (l : List Nat) : (tipPairs g l).map (·.1) = l.map g.name := by
  simp [tipPairs, List.map_map, Function.comp]

mutual
theorem openT_sub (thr : Rat) : ∀ (t : T) (n : Nat), (openT thr n t).Sublist (leafIdxT n t)
  | .node _ _ [], n => by simp [openT, leafIdxT]
  | .node _ _ (x :: k), n => by simpa [openT, leafIdxT] using openL_sub thr (x :: k) (n + 1)
theorem openL_sub (thr : Rat) : ∀ (k : Kids) (n : Nat), (openL thr n k).Sublist (leafIdxL n k)
  | [], _ => by simp [openL, leafIdxL]
  | (e, t) :: r, n => by
    simp only [openL, leafIdxL]
    refine List.Sublist.append ?_ (openL_sub thr r (n + t.size))
    split
    · exact openT_sub thr t n
    · exact List.nil_sublist _
end

mutual
theorem reachT_range (thr : Rat) : ∀ (t : T) (n : Nat), ∀ j ∈ reachT thr n t, n ≤ j ∧ j + 1 < n + t.size
  | .node d pp k, n, j, hj => by
    simp only [reachT] at hj
    have := reachL_range thr k (n + 1) (by omega) j hj
    rw [T.size_node]; omega
theorem reachL_range (thr : Rat) : ∀ (k : Kids) (n : Nat), 1 ≤ n → ∀ j ∈ reachL thr n k, n ≤ j + 1 ∧ j + 1 < n + T.sizeL k
  | [], _, _, j, hj => by simp [reachL] at hj
  | (e, t) :: r, n, hn, j, hj => by
    simp only [reachL, List.mem_append] at hj
    rw [T.sizeL_cons]
    have hp := T.size_pos t
    rcases hj with hj | hj
    · split at hj
      · rcases List.mem_cons.1 hj with rfl | hj
        · omega
        · have := reachT_range thr t n j hj; omega
      · cases hj
    · have := reachL_range thr r (n + t.size) (by omega) j hj; omega
end

/- the tips the flood collects are, by name, the "open" part of `comp` of the rose-tree model -/
mutual
theorem openT_names (g : G) (thr : Rat) : ∀ (t : T) (n : Nat) (par : Option Nat), Sub g.nodes n (flatT par n t) →
    (openT thr n t).map g.name = (comp thr t).1
  | .node d pp [], n, par, hs => by
    rw [flatT_node] at hs
    simp [openT, comp, G.name, hs.head]
  | .node d pp (x :: k), n, par, hs => by
    rw [flatT_node] at hs
    simp only [openT, comp]
    exact openL_names g thr (x :: k) (n + 1) n hs.tail
theorem openL_names (g : G) (thr : Rat) : ∀ (k : Kids) (n p : Nat), Sub g.nodes n (flatL p n k) →
    (openL thr n k).map g.name = (compL thr k).1
  | [], _, _, _ => by simp [openL, compL]
  | (e, t) :: r, n, p, hs => by
    rw [flatL_cons] at hs
    have h2 := hs.right
    rw [flatT_length] at h2
    have a1 := openT_names g thr t n (some p) hs.left
    have a2 := openL_names g thr r (n + t.size) p h2
    simp only [openL, compL, List.map_append]
    by_cases h : e.len < thr
    · simp only [h, if_true, a1, a2]
    · simp only [h, if_false, List.map_nil, List.nil_append, a2]
end

theorem openL_names_kids (g : G) (thr : Rat) (p : Nat) : ∀ (ks : Kids) (m : Nat),
    (∀ x ∈ kidsIdx m ks, Sub g.nodes x.1 (flatT (some p) x.1 x.2.2)) → (openL thr m ks).map g.name = (compL thr ks).1
  | [], _, _ => by simp [openL, compL]
  | (e, t) :: r, m, h => by
    have a1 := openT_names g thr t m (some p) (h (m, (e, t)) (by simp [kidsIdx]))
    have a2 := openL_names_kids g thr p r (m + t.size) (fun x hx => h x (by simp [kidsIdx, hx]))
    simp only [openL, compL, List.map_append]
    by_cases hs : e.len < thr
    · simp only [hs, if_true, a1, a2]
    · simp only [hs, if_false, List.map_nil, List.nil_append, a2]

/-- all branches of a child list long: the flood reaches nothing there -/
theorem open_long (thr : Rat) : ∀ (ks : Kids) (m : Nat), (∀ x ∈ ks, ¬ x.1.len < thr) →
    openL thr m ks = [] ∧ reachL thr m ks = [] ∧ (compL thr ks).1 = []
  | [], _, _ => by simp [openL, reachL, compL]
  | (e, t) :: r, m, h => by
    have he : ¬ e.len < thr := h (e, t) (by simp)
    obtain ⟨h1, h2, h3⟩ := open_long thr r (m + t.size) (fun x hx => h x (by simp [hx]))
    simp [openL, reachL, compL, he, h1, h2, h3]

theorem compL_append (thr : Rat) : ∀ (a b : Kids),
    (compL thr (a ++ b)).1 = (compL thr a).1 ++ (compL thr b).1 ∧
    (compL thr (a ++ b)).2 = (compL thr a).2 ++ (compL thr b).2
  | [], b => by simp [compL]
  | (e, t) :: a, b => by
    obtain ⟨h1, h2⟩ := compL_append thr a b
    simp only [List.cons_append, compL]
    split <;> simp [h1, h2]

theorem openL_append (thr : Rat) : ∀ (a b : Kids) (m : Nat),
    openL thr m (a ++ b) = openL thr m a ++ openL thr (m + T.sizeL a) b ∧
    reachL thr m (a ++ b) = reachL thr m a ++ reachL thr (m + T.sizeL a) b
  | [], b, m => by simp [openL, reachL, T.sizeL]
  | (e, t) :: a, b, m => by
    obtain ⟨h1, h2⟩ := openL_append thr a b (m + t.size)
    have hs : m + T.sizeL ((e, t) :: a) = m + t.size + T.sizeL a := by rw [T.sizeL_cons]; omega
    simp only [List.cons_append, openL, reachL, h1, h2, hs, List.append_assoc]
    exact ⟨trivial, trivial⟩

theorem reach_bound (g : G) (thr : Rat) (p m0 : Nat) (all : Kids) : ∀ (ks : Kids) (m : Nat),
    (∀ x ∈ kidsIdx m ks, KidOK g p m0 all x) → ∀ j ∈ reachL thr m ks, j < g.edges.size
  | [], _, _, j, hj => by simp [reachL] at hj
  | (e, t) :: r, m, h, j, hj => by
    simp only [reachL, List.mem_append] at hj
    have hx := h (m, (e, t)) (by simp [kidsIdx])
    rcases hj with hj | hj
    · split at hj
      · rcases List.mem_cons.1 hj with rfl | hj
        · exact hx.edge_lt
        · have h1 := reachT_range thr t m j hj
          have h2 : m + (gedgesT m t).length ≤ g.edges.size := hx.edges.bound
          have h3 := gedgesT_length m t
          omega
      · cases hj
    · exact reach_bound g thr p m0 all r (m + t.size) (fun x hx' => h x (by simp [kidsIdx, hx'])) j hj

/-! ## the loop of the flood over the children of a node -/

/-- the function folded over `cur.neigh` by `cutEdgesMaxLengthRecur` -/
def crStep (g : G) (thr : Rat) (fuel cur prev : Nat) : Bag × Array Bool → Nat × Nat → Except String (Bag × Array Bool) :=
  fun st nb =>
    match g.edges[nb.2]? with
    | none => .error "model: branch"
    | some b =>
      if nb.1 != prev && b.d.len < thr then
        cutRecur g thr fuel st.1 nb.1 cur (st.2.set! nb.2 true)
      else .ok st

theorem cutRecur_succ (g : G) (thr : Rat) (fuel : Nat) (bag : Bag) (cur prev : Nat) (visited : Array Bool) (nd : GNode)
    (h : g.nodes[cur]? = some nd) :
    cutRecur g thr (fuel + 1) bag cur prev visited =
      match (if nd.neigh.length == 1 then addTip g bag cur else .ok bag) with
      | .error e => .error e
      | .ok bag => nd.neigh.foldlM (crStep g thr fuel cur prev) (bag, visited) := by
  rw [cutRecur, h]
  rfl

/-- `AddTip` of a tip whose name is not in the bag yet -/
theorem addTip_fresh (g : G) (bag : Bag) (n : Nat) (nd : GNode) (hn : g.nodes[n]? = some nd) (h1 : nd.neigh.length = 1)
    (hfresh : nd.name ∉ bag.map (·.1)) : addTip g bag n = .ok (bag ++ [(nd.name, n)]) := by
  simp [addTip, hn, h1, lookup_none_of_not_mem hfresh]

/-- what the loop writes for one child: the tips and the branches, nothing when the child is
    `prev` or its branch is not shorter than the threshold -/
def openW (thr : Rat) (prev : Nat) (x : Nat × (EdgeD × T)) : List Nat :=
  if x.1 != prev && x.2.1.len < thr then openT thr x.1 x.2.2 else []
def reachW (thr : Rat) (prev : Nat) (x : Nat × (EdgeD × T)) : List Nat :=
  if x.1 != prev && x.2.1.len < thr then (x.1 - 1) :: reachT thr x.1 x.2.2 else []

/-- on children none of which is `prev` the loop writes `openL` / `reachL` -/
theorem openW_list (thr : Rat) (prev : Nat) : ∀ (ks : Kids) (m : Nat), (∀ x ∈ kidsIdx m ks, x.1 ≠ prev) →
    (kidsIdx m ks).flatMap (openW thr prev) = openL thr m ks ∧ (kidsIdx m ks).flatMap (reachW thr prev) = reachL thr m ks
  | [], _, _ => by simp [kidsIdx, openL, reachL]
  | (e, t) :: r, m, h => by
    obtain ⟨h1, h2⟩ := openW_list thr prev r (m + t.size) (fun x hx => h x (by simp [kidsIdx, hx]))
    have hne : (m != prev) = true := by
      have := h (m, (e, t)) (by simp [kidsIdx])
      simpa using this
    simp only [kidsIdx, List.flatMap_cons, openL, reachL, openW, reachW, hne, Bool.true_and, decide_eq_true_eq, h1, h2]
    exact ⟨trivial, trivial⟩

/-- the statement of the flood down a subtree (induction hypothesis of `flood_down`) -/
def FloodDown (g : G) (thr : Rat) (t : T) : Prop :=
  ∀ (fuel n p : Nat) (bag : Bag) (visited : Array Bool), t.size ≤ fuel → p < n →
    Sub g.nodes n (flatT (some p) n t) → Sub g.edges n (gedgesT n t) → (∃ b, g.edges[n - 1]? = some b) →
    (bag.map (·.1) ++ (leafIdxT n t).map g.name).Nodup →
    cutRecur g thr fuel bag n p visited =
      .ok (bag ++ tipPairs g (openT thr n t), markAll visited (reachT thr n t))

theorem flood_kids (g : G) (thr : Rat) (fuel cur m prev : Nat) (ks : Kids) :
    ∀ (l : List (Nat × (EdgeD × T))) (rest : List String) (bag : Bag) (visited : Array Bool),
    (∀ x ∈ l, KidOK g cur m ks x ∧ FloodDown g thr x.2.2 ∧ (x.1 != prev → x.2.2.size ≤ fuel)) →
    (bag.map (·.1) ++ ((l.flatMap fun x => leafIdxT x.1 x.2.2).map g.name ++ rest)).Nodup →
    (l.map fun x => (x.1, x.1 - 1)).foldlM (crStep g thr fuel cur prev) (bag, visited) =
      .ok (bag ++ tipPairs g (l.flatMap (openW thr prev)), markAll visited (l.flatMap (reachW thr prev)))
  | [], _, bag, visited, _, _ => by simp [tipPairs, markAll]; rfl
  | x :: l, rest, bag, visited, hok, hnd => by
    obtain ⟨hx, hfd, hsz⟩ := hok x (by simp)
    simp only [List.map_cons, List.foldlM_cons, List.flatMap_cons]
    have hedge : g.edges[x.1 - 1]? = some ⟨cur, x.1, x.2.1⟩ := hx.edge
    simp only [List.flatMap_cons, List.map_append, List.append_assoc] at hnd
    by_cases hc : (x.1 != prev && decide (x.2.1.len < thr)) = true
    · have hne : (x.1 != prev) = true := (Bool.and_eq_true _ _ ▸ hc).1
      have hw1 : openW thr prev x = openT thr x.1 x.2.2 := by simp only [openW]; rw [if_pos hc]
      have hw2 : reachW thr prev x = (x.1 - 1) :: reachT thr x.1 x.2.2 := by simp only [reachW]; rw [if_pos hc]
      have hnd1 : (bag.map (·.1) ++ (leafIdxT x.1 x.2.2).map g.name).Nodup := by
        rw [← List.append_assoc] at hnd
        exact (List.nodup_append.1 hnd).1
      have hstep : crStep g thr fuel cur prev (bag, visited) (x.1, x.1 - 1) =
          .ok (bag ++ tipPairs g (openT thr x.1 x.2.2), markAll (visited.set! (x.1 - 1) true) (reachT thr x.1 x.2.2)) := by
        simp only [crStep, hedge]
        rw [if_pos hc]
        exact hfd fuel x.1 cur bag _ (hsz hne) hx.gt hx.nodes hx.edges ⟨_, hedge⟩ hnd1
      rw [hstep, hw1, hw2]
      simp only [bind, Except.bind]
      rw [flood_kids g thr fuel cur m prev ks l rest _ _ (fun y hy => hok y (by simp [hy])) ?_]
      · simp only [tipPairs, List.map_append, List.append_assoc, markAll, List.foldl_append, List.foldl_cons]
      · -- the names stay distinct: the tips collected are among the leaves of the child
        rw [List.map_append, names_of_pairs, List.append_assoc]
        exact (List.Sublist.append (List.Sublist.refl _)
          (List.Sublist.append ((openT_sub thr x.2.2 x.1).map _) (List.Sublist.refl _))).nodup hnd
    · have hw1 : openW thr prev x = [] := by simp only [openW]; rw [if_neg hc]
      have hw2 : reachW thr prev x = [] := by simp only [reachW]; rw [if_neg hc]
      have hstep : crStep g thr fuel cur prev (bag, visited) (x.1, x.1 - 1) = .ok (bag, visited) := by
        simp only [crStep, hedge]
        rw [if_neg hc]
      rw [hstep, hw1, hw2]
      simp only [bind, Except.bind, List.nil_append]
      exact flood_kids g thr fuel cur m prev ks l rest bag visited (fun y hy => hok y (by simp [hy]))
        ((List.Sublist.append (List.Sublist.refl _) (List.sublist_append_right _ _)).nodup hnd)

/-- The flood of `cutEdgesMaxLengthRecur` entering a subtree from its parent collects exactly
    the tips joined to the top node by branches shorter than the threshold, marks exactly the
    branches it crosses, and reports no duplicate name when the names below are distinct. -/
theorem flood_down (g : G) (thr : Rat) : ∀ (t : T), FloodDown g thr t := by
  intro t
  induction t using T.induct with
  | h d pp ks ih =>
    intro fuel n p bag visited hf hp hs he hedge hnd
    rw [T.size_node] at hf
    obtain ⟨fuel, rfl⟩ : ∃ f, fuel = f + 1 := ⟨fuel - 1, by omega⟩
    have hnode := hs.node
    obtain ⟨b, hb⟩ := hedge
    rw [cutRecur_succ g thr fuel bag n p visited _ hnode]
    have hpar : ∀ st, crStep g thr fuel n p st (p, n - 1) = .ok st := by
      intro st; simp [crStep, hb]
    simp only [neigh_one_iff]
    by_cases hk : ks = []
    · subst hk
      have hfresh : d.name ∉ bag.map (·.1) := by
        simp only [leafIdxT, List.map_cons, List.map_nil, gname_of_node hnode] at hnd
        intro h
        exact (List.nodup_append.1 hnd).2.2 _ h _ (by simp) rfl
      rw [List.isEmpty_nil, if_pos rfl, addTip_fresh g bag n _ hnode (by simp [insAt_length, nbrs_length]) hfresh]
      simp only [nbrs, kidsIdx, List.map_nil, insAt, List.take_nil, List.drop_nil, List.nil_append,
        List.foldlM_cons, List.foldlM_nil, hpar, bind, Except.bind, pure, Except.pure]
      simp [openT, reachT, reachL, tipPairs, markAll, gname_of_node hnode]
    · have hke : ks.isEmpty = false := by
        cases ks with
        | nil => exact absurd rfl hk
        | cons _ _ => rfl
      simp only [hke, Bool.false_eq_true, if_false]
      rw [foldlM_insAt _ _ pp (p, n - 1) _ hpar]
      have hok := kids_ok hs he
      rw [leafIdxT_node_ne n d pp hk] at hnd
      rw [nbrs, flood_kids g thr fuel n (n + 1) p ks (kidsIdx (n + 1) ks) [] bag visited
        (fun x hx => ⟨hok x hx, ih x.2 (hok x hx).mem, fun _ => by have := (hok x hx).size; omega⟩)
        (by rw [leafIdxL_kidsIdx, List.append_nil]; exact hnd)]
      obtain ⟨h1, h2⟩ := openW_list thr p ks (n + 1) (fun x hx => by have := (kidsIdx_range ks (n + 1) x hx).1; omega)
      rw [h1, h2]
      cases ks with
      | nil => exact absurd rfl hk
      | cons x k => simp only [openT, reachT]

/-! ## the flood started at a node, away from one child -/

/-- what the code knows about a node `p` (kids `all`, first kid index `p + 1`): the root, or a node below a
    branch that is not shorter than the threshold -/
structure NodeCtx (g : G) (thr : Rat) (p : Nat) (all : Kids) : Prop where
  kids : ∀ x ∈ kidsIdx (p + 1) all, KidOK g p (p + 1) all x
  node : ∃ nd, g.nodes[p]? = some nd ∧
    ((nd.neigh = nbrs (p + 1) all) ∨
     (∃ pp q b, q < p ∧ nd.neigh = insAt (nbrs (p + 1) all) pp (q, p - 1) ∧
        g.edges[p - 1]? = some b ∧ ¬ b.d.len < thr))

/-- is `p` a tip: the root with a single neighbour -/
def NodeCtx.tipPart (g : G) (p : Nat) (nd : GNode) : Bag := if nd.neigh.length == 1 then [(g.name p, p)] else []

theorem flood_at (g : G) (thr : Rat) (p : Nat) (all : Kids) (hall : all ≠ []) (ctx : NodeCtx g thr p all)
    (nd : GNode) (hnd : g.nodes[p]? = some nd) (fuel c : Nat) (bag : Bag) (visited : Array Bool)
    (hfuel : ∀ x ∈ kidsIdx (p + 1) all, x.1 ≠ c → x.2.2.size ≤ fuel)
    (hfresh : ((bag ++ NodeCtx.tipPart g p nd).map (·.1) ++
      (((kidsIdx (p + 1) all).flatMap fun x => leafIdxT x.1 x.2.2).map g.name)).Nodup) :
    cutRecur g thr (fuel + 1) bag p c visited =
      .ok (bag ++ NodeCtx.tipPart g p nd ++ tipPairs g ((kidsIdx (p + 1) all).flatMap (openW thr c)),
           markAll visited ((kidsIdx (p + 1) all).flatMap (reachW thr c))) := by
  obtain ⟨nd', hnd', hform⟩ := ctx.node
  rw [hnd] at hnd'
  cases hnd'
  rw [cutRecur_succ g thr fuel bag p c visited nd hnd]
  let l := kidsIdx (p + 1) all
  have hkids : ∀ (b0 : Bag), ((b0.map (·.1)) ++ ((l.flatMap fun x => leafIdxT x.1 x.2.2).map g.name)).Nodup →
      (nbrs (p + 1) all).foldlM (crStep g thr fuel p c) (b0, visited) =
        .ok (b0 ++ tipPairs g (l.flatMap (openW thr c)), markAll visited (l.flatMap (reachW thr c))) := by
    intro b0 hb0
    exact flood_kids g thr fuel p (p + 1) c all l [] b0 visited
      (fun x hx => ⟨ctx.kids x hx, flood_down g thr x.2.2, fun hne => hfuel x hx (by simpa using hne)⟩)
      (by simpa using hb0)
  rcases hform with hroot | ⟨pp, q, b, hq, hneigh, hb, hlong⟩
  · -- the root
    by_cases h1 : (nd.neigh.length == 1) = true
    · -- a tip: it goes into the bag
      have hname : nd.name = g.name p := (gname_of_node hnd).symm
      have hfr : nd.name ∉ bag.map (·.1) := by
        simp only [NodeCtx.tipPart, h1, if_true, List.map_append, List.map_cons, List.map_nil, ← hname] at hfresh
        intro h
        exact (List.nodup_append.1 (List.nodup_append.1 hfresh).1).2.2 _ h _ (by simp) rfl
      simp only [h1, if_true, addTip_fresh g bag p nd hnd (by simpa using h1) hfr, NodeCtx.tipPart, hname]
      rw [hroot]
      exact hkids _ (by simpa [NodeCtx.tipPart, h1] using hfresh)
    · have h1' : (nd.neigh.length == 1) = false := by simpa using h1
      simp only [h1', Bool.false_eq_true, if_false, NodeCtx.tipPart, List.append_nil]
      rw [hroot]
      exact hkids bag (by simpa [NodeCtx.tipPart, h1'] using hfresh)
  · -- an inner node below a long branch
    have h1' : (nd.neigh.length == 1) = false := by
      rw [hneigh, neigh_one_iff]
      cases all with
      | nil => exact absurd rfl hall
      | cons _ _ => rfl
    simp only [h1', Bool.false_eq_true, if_false, NodeCtx.tipPart, List.append_nil]
    rw [hneigh, foldlM_insAt _ _ pp (q, p - 1) _ (fun st => by
      have : ¬ b.d.len < thr := hlong
      simp [crStep, hb, this, pure, Except.pure])]
    exact hkids bag (by simpa [NodeCtx.tipPart, h1'] using hfresh)

end Gotree.C14

/-
  Association lists up to a key equality `eqv` (`C04.Assoc.get` / `C04.Assoc.put`): the plain map every
  index of the development is compared with.

  Nothing is asked of `eqv` as long as AT MOST ONE entry of the list matches the key at hand (`Uniq`):
  then `get` and `put` do not depend on the order of the entries.  The laws of `eqv` (`KeyLaws`) come in
  at one place only: in a list whose keys are pairwise different, no key matches two entries.
  Core Lean only.
-/
import Gotree.Spec.C04

namespace Gotree.C04

/-- what the map needs from a key type: `HashEquals` is an equivalence and equal keys hash equally -/
structure KeyLaws {κ : Type} (hash : κ → UInt64) (eqv : κ → κ → Bool) : Prop where
  refl : ∀ a, eqv a a = true
  symm : ∀ a b, eqv a b = true → eqv b a = true
  trans : ∀ a b c, eqv a b = true → eqv b c = true → eqv a c = true
  compat : ∀ a b, eqv a b = true → hash a = hash b

section
variable {κ κ' ν : Type} {hash : κ → UInt64} {eqv : κ → κ → Bool}

section
variable (f : κ' → κ)

/-- the entries of a map whose keys are read through `f` -/
def mapB (b : List (κ' × ν)) : List (κ × ν) := b.map fun kv => (f kv.1, kv.2)

end

/-- keys pairwise different -/
def NoDupK (eqv : κ → κ → Bool) (l : List (κ × ν)) : Prop := l.Pairwise fun x y => eqv x.1 y.1 = false

/-- no entry of `l` has a key equal to `k` -/
def NoMatch (eqv : κ → κ → Bool) (k : κ) (l : List (κ × ν)) : Prop := ∀ kv ∈ l, eqv k kv.1 = false

/-- at most one entry of `l` has a key equal to `k` -/
def Uniq (eqv : κ → κ → Bool) (k : κ) (l : List (κ × ν)) : Prop :=
  l.Pairwise fun x y => eqv k x.1 = true → eqv k y.1 = false

theorem noMatch_nil {k : κ} : NoMatch eqv k ([] : List (κ × ν)) := fun _ h => nomatch h

theorem noMatch_cons {k : κ} {x : κ × ν} {r : List (κ × ν)} :
    NoMatch eqv k (x :: r) ↔ eqv k x.1 = false ∧ NoMatch eqv k r := List.forall_mem_cons

theorem noMatch_append {k : κ} {l₁ l₂ : List (κ × ν)} :
    NoMatch eqv k (l₁ ++ l₂) ↔ NoMatch eqv k l₁ ∧ NoMatch eqv k l₂ := List.forall_mem_append

theorem noMatch_perm {k : κ} {l₁ l₂ : List (κ × ν)} (p : l₁.Perm l₂) : NoMatch eqv k l₁ ↔ NoMatch eqv k l₂ :=
  ⟨fun h kv hm => h kv (p.mem_iff.mpr hm), fun h kv hm => h kv (p.mem_iff.mp hm)⟩

theorem Uniq.perm {k : κ} {l₁ l₂ : List (κ × ν)} (p : l₁.Perm l₂) (h : Uniq eqv k l₁) : Uniq eqv k l₂ :=
  (p.pairwise_iff fun {x y} hxy hy => by cases hx : eqv k x.1 <;> simp_all).mp h

/-- behind the first match there is no other -/
theorem Uniq.tail {k k₁ : κ} {v₁ : ν} {r : List (κ × ν)} (h : Uniq eqv k ((k₁, v₁) :: r)) (h1 : eqv k k₁ = true) :
    NoMatch eqv k r := fun kv hkv => (List.pairwise_cons.mp h).1 kv hkv h1

/- ### `get` -/

theorem get_none_iff {k : κ} {l : List (κ × ν)} : Assoc.get eqv k l = none ↔ NoMatch eqv k l := by
  induction l with
  | nil => simp [Assoc.get, noMatch_nil]
  | cons x r ih =>
    obtain ⟨k₁, v₁⟩ := x
    rw [noMatch_cons, ← ih, Assoc.get]
    cases eqv k k₁ <;> simp

/-- `get` written with `List.find?` (how several models spell a lookup) -/
theorem get_eq_find? (eqv : κ → κ → Bool) (k : κ) (l : List (κ × ν)) :
    Assoc.get eqv k l = (l.find? fun kv => eqv k kv.1).map (·.2) := by
  induction l with
  | nil => rfl
  | cons x r ih => obtain ⟨k', v⟩ := x; simp only [Assoc.get, List.find?_cons, ih]; cases eqv k k' <;> rfl

theorem get_append_left {k : κ} (l₁ l₂ : List (κ × ν)) (h : NoMatch eqv k l₁) :
    Assoc.get eqv k (l₁ ++ l₂) = Assoc.get eqv k l₂ := by
  induction l₁ with
  | nil => rfl
  | cons x r ih =>
    obtain ⟨k', v⟩ := x
    obtain ⟨h1, h⟩ := noMatch_cons.1 h
    simp only [List.cons_append, Assoc.get, h1, Bool.false_eq_true, if_false, ih h]

theorem get_append_right {k : κ} (l₁ l₂ : List (κ × ν)) (h : NoMatch eqv k l₂) :
    Assoc.get eqv k (l₁ ++ l₂) = Assoc.get eqv k l₁ := by
  induction l₁ with
  | nil => exact get_none_iff.2 h
  | cons x r ih => obtain ⟨k', v⟩ := x; simp only [List.cons_append, Assoc.get, ih]

/-- `get` does not depend on the order when at most one entry matches -/
theorem get_perm {k : κ} {l₁ l₂ : List (κ × ν)} (p : l₁.Perm l₂) (hu : Uniq eqv k l₁) :
    Assoc.get eqv k l₁ = Assoc.get eqv k l₂ := by
  induction p with
  | nil => rfl
  | cons x _ ih => obtain ⟨k', v⟩ := x; simp only [Assoc.get, ih (List.pairwise_cons.mp hu).2]
  | swap x y l =>
    obtain ⟨kx, vx⟩ := x
    obtain ⟨ky, vy⟩ := y
    have hxy := (List.pairwise_cons.mp hu).1 _ (List.mem_cons_self ..)
    simp only [Assoc.get]
    cases h1 : eqv k ky <;> cases h2 : eqv k kx <;> simp_all
  | trans p1 _ ih1 ih2 => exact (ih1 hu).trans (ih2 (hu.perm p1))

/-- the same list read through a key embedding -/
theorem get_mapB (f : κ' → κ) (k : κ') (a : List (κ' × ν)) :
    Assoc.get eqv (f k) (mapB f a) = Assoc.get (fun x y => eqv (f x) (f y)) k a := by
  induction a with
  | nil => rfl
  | cons x r ih => obtain ⟨k', v⟩ := x; simp only [mapB, List.map_cons, Assoc.get] at ih ⊢; rw [ih]

/- ### `put` -/

theorem put_nomatch {k : κ} {v : ν} {l : List (κ × ν)} (h : NoMatch eqv k l) :
    Assoc.put eqv k v l = l ++ [(k, v)] := by
  induction l with
  | nil => rfl
  | cons x r ih =>
    obtain ⟨k', v'⟩ := x
    obtain ⟨h1, h⟩ := noMatch_cons.1 h
    simp only [Assoc.put, h1, Bool.false_eq_true, if_false, List.cons_append, ih h]

/-- the value update seen as a map over the list -/
def updF (eqv : κ → κ → Bool) (k : κ) (v : ν) (kv : κ × ν) : κ × ν := if eqv k kv.1 then (kv.1, v) else kv

theorem updF_fst (k : κ) (v : ν) (kv : κ × ν) : (updF eqv k v kv).1 = kv.1 := by unfold updF; split <;> rfl

theorem map_updF_nomatch {k : κ} {v : ν} {l : List (κ × ν)} (h : NoMatch eqv k l) : l.map (updF eqv k v) = l := by
  induction l with
  | nil => rfl
  | cons x r ih =>
    obtain ⟨h1, h⟩ := noMatch_cons.1 h
    simp only [List.map_cons, updF, h1, Bool.false_eq_true, if_false, ih h]

theorem put_match {k : κ} {v : ν} {l : List (κ × ν)} (hu : Uniq eqv k l)
    (hm : ¬ NoMatch eqv k l) : Assoc.put eqv k v l = l.map (updF eqv k v) := by
  induction l with
  | nil => exact absurd noMatch_nil hm
  | cons x r ih =>
    obtain ⟨k₁, v₁⟩ := x
    cases h1 : eqv k k₁ with
    | true => simp only [Assoc.put, h1, if_true, List.map_cons, updF, map_updF_nomatch (hu.tail h1)]
    | false =>
      simp only [Assoc.put, h1, Bool.false_eq_true, if_false, List.map_cons, updF]
      rw [ih (List.pairwise_cons.mp hu).2 fun h => hm (noMatch_cons.2 ⟨h1, h⟩)]

/-- `put` commutes with reordering -/
theorem put_perm {k : κ} {v : ν} {l₁ l₂ : List (κ × ν)} (p : l₁.Perm l₂) (hu : Uniq eqv k l₁) :
    (Assoc.put eqv k v l₁).Perm (Assoc.put eqv k v l₂) := by
  by_cases h : NoMatch eqv k l₁
  · rw [put_nomatch h, put_nomatch ((noMatch_perm p).mp h)]
    exact p.append_right _
  · rw [put_match hu h, put_match (hu.perm p) (fun h' => h ((noMatch_perm p).mpr h'))]
    exact p.map _

theorem put_append_left {k : κ} {v : ν} (l₁ l₂ : List (κ × ν)) (h : NoMatch eqv k l₁) :
    Assoc.put eqv k v (l₁ ++ l₂) = l₁ ++ Assoc.put eqv k v l₂ := by
  induction l₁ with
  | nil => rfl
  | cons x r ih =>
    obtain ⟨k', v'⟩ := x
    obtain ⟨h1, h⟩ := noMatch_cons.1 h
    simp only [List.cons_append, Assoc.put, h1, Bool.false_eq_true, if_false, ih h]

theorem put_append_right {k : κ} {v : ν} (l₁ l₂ : List (κ × ν)) (h : ¬ NoMatch eqv k l₁) :
    Assoc.put eqv k v (l₁ ++ l₂) = Assoc.put eqv k v l₁ ++ l₂ := by
  induction l₁ with
  | nil => exact absurd noMatch_nil h
  | cons x r ih =>
    obtain ⟨k', v'⟩ := x
    cases h1 : eqv k k' with
    | true => simp only [List.cons_append, Assoc.put, h1, if_true]
    | false =>
      simp only [List.cons_append, Assoc.put, h1, Bool.false_eq_true, if_false]
      rw [ih fun hno => h (noMatch_cons.2 ⟨h1, hno⟩)]

/-- overwriting keeps the keys -/
theorem put_keys {k : κ} {v : ν} {l : List (κ × ν)} (h : ¬ NoMatch eqv k l) :
    (Assoc.put eqv k v l).map Prod.fst = l.map Prod.fst := by
  induction l with
  | nil => exact absurd noMatch_nil h
  | cons x r ih =>
    obtain ⟨k', v'⟩ := x
    cases h1 : eqv k k' with
    | true => simp only [Assoc.put, h1, if_true, List.map_cons]
    | false =>
      simp only [Assoc.put, h1, Bool.false_eq_true, if_false, List.map_cons]
      rw [ih fun hno => h (noMatch_cons.2 ⟨h1, hno⟩)]

theorem put_mapB (f : κ' → κ) (k : κ') (v : ν) (a : List (κ' × ν)) :
    Assoc.put eqv (f k) v (mapB f a) = mapB f (Assoc.put (fun x y => eqv (f x) (f y)) k v a) := by
  induction a with
  | nil => rfl
  | cons x r ih =>
    obtain ⟨k', v'⟩ := x
    simp only [mapB, List.map_cons, Assoc.put] at ih ⊢
    split
    · rfl
    · rw [ih]; rfl

/- ### where the laws come in -/

theorem KeyLaws.symm_false (L : KeyLaws hash eqv) {a b : κ} (h : eqv a b = false) : eqv b a = false := by
  cases hb : eqv b a with
  | false => rfl
  | true => rw [L.symm b a hb] at h; exact absurd h (by decide)

/-- equal keys compare alike -/
theorem KeyLaws.congr_left (L : KeyLaws hash eqv) {a b : κ} (h : eqv a b = true) (c : κ) : eqv a c = eqv b c := by
  cases h2 : eqv b c with
  | true => exact L.trans _ _ _ h h2
  | false =>
    cases h1 : eqv a c with
    | false => rfl
    | true => rw [L.trans _ _ _ (L.symm _ _ h) h1] at h2; exact absurd h2 (by decide)

theorem KeyLaws.congr_right (L : KeyLaws hash eqv) {a b : κ} (h : eqv a b = true) (c : κ) : eqv c a = eqv c b := by
  cases h2 : eqv c b with
  | true => exact L.trans _ _ _ h2 (L.symm _ _ h)
  | false =>
    cases h1 : eqv c a with
    | false => rfl
    | true => rw [L.trans _ _ _ h1 h] at h2; exact absurd h2 (by decide)

/-- two entries that both match `k` would match each other -/
theorem NoDupK.uniq (L : KeyLaws hash eqv) {l : List (κ × ν)} (hn : NoDupK eqv l) (k : κ) : Uniq eqv k l :=
  hn.imp fun {x y} hxy hx => by rw [L.congr_left hx]; exact hxy

theorem NoDupK.perm (L : KeyLaws hash eqv) {l₁ l₂ : List (κ × ν)} (p : l₁.Perm l₂) (h : NoDupK eqv l₁) : NoDupK eqv l₂ :=
  (p.pairwise_iff fun h => L.symm_false h).mp h

theorem NoDupK.put (L : KeyLaws hash eqv) {l : List (κ × ν)} (hn : NoDupK eqv l) (k : κ) (v : ν) :
    NoDupK eqv (Assoc.put eqv k v l) := by
  by_cases h : NoMatch eqv k l
  · rw [put_nomatch h]
    exact List.pairwise_append.mpr ⟨hn, List.pairwise_singleton _ _, fun a ha b hb => by
      rw [List.mem_singleton.mp hb]; exact L.symm_false (h a ha)⟩
  · rw [put_match (hn.uniq L k) h]
    exact List.Pairwise.map _ (fun {a b} hab => by rw [updF_fst, updF_fst]; exact hab) hn

theorem get_congr (L : KeyLaws hash eqv) {k k' : κ} (h : eqv k k' = true) (a : List (κ × ν)) :
    Assoc.get eqv k a = Assoc.get eqv k' a := by
  induction a with
  | nil => rfl
  | cons x r ih => obtain ⟨k₁, v₁⟩ := x; simp only [Assoc.get, L.congr_left h, ih]

theorem get_put (L : KeyLaws hash eqv) (k k' : κ) (v : ν) (a : List (κ × ν)) :
    Assoc.get eqv k (Assoc.put eqv k' v a) = if eqv k k' then some v else Assoc.get eqv k a := by
  induction a with
  | nil => simp only [Assoc.put, Assoc.get]
  | cons x r ih =>
    obtain ⟨k₁, v₁⟩ := x
    cases h1 : eqv k' k₁ with
    | true =>
      simp only [Assoc.put, h1, if_true, Assoc.get, ← L.congr_right h1 k]
      split <;> rfl
    | false =>
      simp only [Assoc.put, h1, Bool.false_eq_true, if_false, Assoc.get, ih]
      cases h2 : eqv k k' with
      | false => rfl
      | true => rw [L.congr_left h2, h1]; rfl

end

end Gotree.C04

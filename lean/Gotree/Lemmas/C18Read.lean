/-
  C18 — lemmas about the line readers of Model/C18Read.lean (core Lean only, no Mathlib).
-/
import Gotree.Lemmas.C18
import Gotree.Model.C18Read

namespace Gotree.C18

/-- a map built line by line with `m[k] = v` has distinct keys -/
theorem readLoop_nodupKeys (entry : String → Option (String × String)) :
    ∀ (lines : List String) (nl : Nat) (m r : List (String × String)), nodupKeys m = true →
      readLoop entry nl m lines = .ok r → nodupKeys r = true
  | [], _, m, r, hm, h => by
    simp only [readLoop, Except.ok.injEq] at h
    subst h; exact hm
  | line :: rest, nl, m, r, hm, h => by
    rw [readLoop] at h
    split at h
    · exact readLoop_nodupKeys entry rest _ _ r (nodupKeys_put m _ _ hm) h
    · cases h

theorem lastBinding_cons (entry : String → Option (String × String)) (line : String) (rest : List String)
    (init : Option String) (k : String) :
    lastBinding entry (line :: rest) init k =
      lastBinding entry rest (match entry line with
        | some (a, b) => if a == k then some b else init
        | none => init) k := by
  unfold lastBinding
  rw [List.foldl_cons]
  cases entry line <;> rfl

/-- what the built map answers = the last line of the file that binds the key (else what was there before) -/
theorem readLoop_get (entry : String → Option (String × String)) :
    ∀ (lines : List String) (nl : Nat) (m r : List (String × String)),
      readLoop entry nl m lines = .ok r → ∀ k, get r k = lastBinding entry lines (get m k) k
  | [], _, m, r, h, k => by
    simp only [readLoop, Except.ok.injEq] at h
    subst h; simp [lastBinding]
  | line :: rest, nl, m, r, h, k => by
    rw [readLoop] at h
    split at h
    · next he => rw [readLoop_get entry rest _ _ r h k, lastBinding_cons, he, get_put]
    · cases h

/-- an error names the first line that has not exactly two columns (1-based when started at 1) -/
theorem readLoop_error (entry : String → Option (String × String)) :
    ∀ (lines : List String) (nl : Nat) (m : List (String × String)) (n : Nat),
      readLoop entry nl m lines = .error n →
        nl ≤ n ∧ ((lines.drop (n - nl)).head?.bind entry = none ∧ (lines.drop (n - nl)).head?.isSome) ∧
          ∀ i, i < n - nl → ((lines.drop i).head?.bind entry).isSome
  | [], _, _, _, h => by simp [readLoop] at h
  | line :: rest, nl, m, n, h => by
    simp only [readLoop] at h
    cases he : entry line with
    | none =>
      simp only [he, Except.error.injEq] at h
      subst h
      simp [he]
    | some kv =>
      obtain ⟨a, b⟩ := kv
      simp only [he] at h
      have ih := readLoop_error entry rest (nl + 1) _ n h
      have hlt : nl < n := by omega
      have hd : n - nl = (n - (nl + 1)) + 1 := by omega
      refine ⟨by omega, ?_, ?_⟩
      · rw [hd, List.drop_succ_cons]; exact ih.2.1
      · intro i hi
        cases i with
        | zero => simp [he]
        | succ j =>
          rw [List.drop_succ_cons]
          exact ih.2.2 j (by omega)

/-! ## RenameAuto: the name map is only looked up and extended -/

theorem renameAutoLoop_nodupKeys (internals tips : Bool) (length : Nat) :
    ∀ (nodes : List (String × Bool)) (i : Nat) (acc : List String) (curid : Nat) (nm : List (String × String))
      (names : List String) (c : Nat) (m : List (String × String)), nodupKeys nm = true →
      renameAutoLoop internals tips length i nodes acc curid nm = .ok names c m → nodupKeys m = true
  | [], _, _, _, nm, _, _, m, hn, h => by
    rw [renameAutoLoop] at h
    injection h with _ _ h3
    rw [← h3]; exact hn
  | (name, isTip) :: r, i, acc, curid, nm, names, c, m, hn, h => by
    rw [renameAutoLoop] at h
    by_cases hc : ((tips && isTip) || (internals && !isTip)) = true
    · rw [if_pos hc] at h
      cases hg : get nm (autoKey i name isTip) with
      | some newname =>
        rw [hg] at h
        exact renameAutoLoop_nodupKeys internals tips length r _ _ _ _ names c m hn h
      | none =>
        rw [hg] at h
        by_cases hl : ((autoName (autoPrefix isTip) length curid).length != length) = true
        · rw [if_pos hl] at h
          injection h
        · rw [if_neg hl] at h
          exact renameAutoLoop_nodupKeys internals tips length r _ _ _ _ names c m (nodupKeys_put _ _ _ hn) h
    · rw [if_neg hc] at h
      exact renameAutoLoop_nodupKeys internals tips length r _ _ _ _ names c m hn h

theorem renameAuto_nodupKeys (internals tips : Bool) (length : Nat) (nodes : List (String × Bool)) (curid : Nat)
    (nm : List (String × String)) (names : List String) (c : Nat) (m : List (String × String))
    (hn : nodupKeys nm = true) (h : renameAuto internals tips length nodes curid nm = .ok names c m) :
    nodupKeys m = true := by
  unfold renameAuto at h
  split at h
  · next hl =>
    split at h
    · cases h
    · cases h
      exact renameAutoLoop_nodupKeys internals tips length nodes 0 [] curid nm _ _ _ hn hl
  · next hne => exact absurd h (hne _ _ _)

theorem renameAutoMap_nodupKeys (internals tips : Bool) (length : Nat) :
    ∀ (trees : List (List (String × Bool))) (curid : Nat) (nm m : List (String × String)), nodupKeys nm = true →
      renameAutoMap internals tips length trees curid nm = some m → nodupKeys m = true
  | [], _, nm, m, hn, h => by
    rw [renameAutoMap] at h
    injection h with h
    rw [← h]; exact hn
  | t :: r, curid, nm, m, hn, h => by
    rw [renameAutoMap] at h
    split at h
    · next hr =>
      exact renameAutoMap_nodupKeys internals tips length r _ _ m
        (renameAuto_nodupKeys internals tips length t curid nm _ _ _ hn hr) h
    · cases h

/-- the map file of the `--auto` path is `nameMapLines` of the final map -/
theorem renameAutoTrees_snd (internals tips : Bool) (length : Nat) :
    ∀ (trees : List (List (String × Bool))) (curid : Nat) (nm : List (String × String)) (out : List (List String)),
      (renameAutoTrees internals tips length trees curid nm out).2 =
        (renameAutoMap internals tips length trees curid nm).map nameMapLines
  | [], _, _, _ => by simp [renameAutoTrees, renameAutoMap]
  | t :: r, curid, nm, out => by
    rw [renameAutoTrees, renameAutoMap]
    split
    · exact renameAutoTrees_snd internals tips length r _ _ _
    · rfl

end Gotree.C18

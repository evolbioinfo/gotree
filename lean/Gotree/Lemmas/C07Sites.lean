/-
  C07 — lemmas about the table vocabulary of Model/C07Sites.lean (none depends on the generated table):
  turning a comparison round is harmless (`eval_norm`); the reading of the source the model was written
  from (`exp…`) evaluates to the model's own selectors / branch decisions (`…_expected`).
-/
import Gotree.Model.C07Sites

namespace Gotree.C07.Sites
open Gotree Gotree.C07

theorem eval_norm (ρ : String → Option Rat) (β : String → Option Bool) :
    ∀ e : Ex, eval ρ β e.norm = eval ρ β e
  | .atom _ => rfl
  | .cmp op a b => by
    unfold Ex.norm
    generalize hx : ρ a = x
    generalize hy : ρ b = y
    by_cases h : op = ">=" ∨ op = ">"
    · rcases h with rfl | rfl <;> cases x <;> cases y <;> simp [eval, cmpOp, hx, hy]
    · simp [not_or.mp h]
  | .and a b => by simp only [Ex.norm, eval, eval_norm ρ β a, eval_norm ρ β b]
  | .or a b => by simp only [Ex.norm, eval, eval_norm ρ β a, eval_norm ρ β b]
  | .not a => by simp only [Ex.norm, eval, eval_norm ρ β a]

theorem g0 (rr rt ct : Bool) (deg : Nat) (ar : Bool) :
  eval (ρGuard deg) (βGuard rr rt ct deg ar) (.or (.atom "$e.Right().Tip()") (.atom "$e.Left().Tip()")) = some (ct || deg == 1) := by
  simp [eval, βGuard]

theorem g1 (rr rt ct : Bool) (deg : Nat) (ar : Bool) :
  eval (ρGuard deg) (βGuard rr rt ct deg ar) (.and (.and (.not (.atom "$0")) (.cmp "==" "$e.Left()" "t.Root()"))
      (.cmp "==" "$e.Left().Nneigh()" "2")) = some ((!rr && ar) && (((deg : Int) : Rat) == 2)) := by
  simp [eval, βGuard, ρGuard, cmpOp]
/-- a neighbour count read as the rational the table compares it with -/
theorem natRat (n k : Nat) : (((n : Int) : Rat) == ((k : Int) : Rat)) = (n == k) := by
  by_cases h : n = k
  · subst h; simp
  · have : ¬ ((n : Int) : Rat) = ((k : Int) : Rat) := fun hc => h (by exact_mod_cast Rat.intCast_inj.mp hc)
    rw [beq_eq_false_iff_ne.mpr this, beq_eq_false_iff_ne.mpr h]

theorem natRat2 (deg : Nat) : (((deg : Int) : Rat) == (2 : Rat)) = (deg == 2) := natRat deg 2

theorem natRat1 (deg : Nat) : (((deg : Int) : Rat) == (1 : Rat)) = (deg == 1) := natRat deg 1

theorem natRat0 (n : Nat) : (((n : Int) : Rat) == (0 : Rat)) = (n == 0) := natRat n 0

/-- `Tip()` as the source defines it is the `deg == 1` the guards are read with -/
theorem tip_expected (deg : Nat) : eval (ρDeg deg) βNone expTipDef = some (deg == 1) := by
  simp only [expTipDef, eval, ρDeg, cmpOp]
  simp [natRat1]

theorem fate_expected (rr rt ct : Bool) (deg : Nat) (ar : Bool) :
    fateOfGuards expGuards rr rt ct deg ar = fateOfModel rr rt ct deg ar := by
  have e0 := g0 rr rt ct deg ar
  have e1 := g1 rr rt ct deg ar
  rw [natRat2] at e1
  simp only [fateOfGuards, expGuards, e0, e1, fateOfModel]
  clear e0 e1
  generalize (deg == 1) = b1
  generalize (deg == 2) = b2
  cases rr <;> cases ct <;> cases ar <;> cases b1 <;> cases b2 <;> simp

def Guard.norm (g : Guard) : Guard := ⟨g.cond.norm, g.body⟩

theorem fateOfGuards_norm (gs : List Guard) (rr rt ct : Bool) (deg : Nat) (ar : Bool) :
    fateOfGuards (gs.map Guard.norm) rr rt ct deg ar = fateOfGuards gs rr rt ct deg ar := by
  match gs with
  | [] => rfl
  | [_] => rfl
  | [g0, g1] => simp only [List.map, fateOfGuards, Guard.norm, eval_norm]
  | _ :: _ :: _ :: _ => rfl

theorem selLen_expected (l : Rat) (s : SplitE) : eval (ρLen l s) βNone expSelLen = some (selLen l s) := by
  simp [expSelLen, eval, ρLen, cmpOp, selLen]

theorem selSup_expected (consts : List (String × String)) (x : Rat) (s : SplitE)
    (h : (consts.lookup "NIL_SUPPORT").bind litRat? = some NIL) :
    eval (ρSup consts x s) βNone expSelSup = some (selSup x s) := by
  simp [expSelSup, eval, ρSup, cmpOp, selSup, h]

theorem intRat_le (a b : Int) : decide ((a : Rat) ≤ (b : Rat)) = decide (a ≤ b) := by
  simp [Rat.intCast_le_intCast]

theorem selDepth_expected (total : Nat) (mn mx : Int) (s : SplitE) :
    eval (ρDepth (topoDepth total s) mn mx) βNone expSelDepth = some (selDepth total mn mx s) := by
  simp [expSelDepth, eval, ρDepth, cmpOp, selDepth, intRat_le]

theorem depthErr_expected (sz : Nat × Nat) :
    eval (ρSizes sz) βNone expDepthErr = some (sz.1 == 0 || sz.2 == 0) := by
  simp only [expDepthErr, eval, ρSizes, cmpOp]
  simp [natRat0]

theorem resolveCond_expected (n : Nat) :
    eval (ρNeigh n) βNone (.cmp "<" "3" "len($0.Neigh())") = some (decide (3 < n)) := by
  simp only [eval, ρNeigh, cmpOp]
  have : decide ((3 : Rat) < ((n : Int) : Rat)) = decide (3 < n) := by
    have h : ((3 : Rat) < ((n : Int) : Rat)) ↔ ((3 : Int) < (n : Int)) := by
      have : (3 : Rat) = ((3 : Int) : Rat) := rfl
      rw [this, Rat.intCast_lt_intCast]
    rw [decide_eq_decide]; rw [h]; omega
  simp [this]

end Gotree.C07.Sites

/-
  C07 — lemmas about the renumbering of Model/C07Renum.lean: nothing but the ids changes, the ids become
  pairwise distinct.
-/
import Gotree.Model.C07Renum
import Gotree.Lemmas.C07Loop
import Gotree.Lemmas.C07Resolve

namespace Gotree.C07
open Gotree

/-- what renumbering from `n` on does to a subtree: nothing but the ids changes (so nothing at all when
    seen through `obsR`), and the ids become `n, n+1, …` in `Edges()` order -/
def RenumT (t : T) : Prop := ∀ n,
  (renumT n t).1.leaves = t.leaves ∧ (renumT n t).1.isLeaf = t.isLeaf ∧ (renumT n t).1.d = t.d ∧
  (∀ {β : Type} (f : List String → β), RT f (renumT n t).1 = RT f t) ∧
  (renumT n t).1.splitsBelow.map (·.e.id) = (List.range' n t.splitsBelow.length).map Int.ofNat ∧
  (renumT n t).2 = n + t.splitsBelow.length

theorem renumL_of : ∀ k : Kids, (∀ et ∈ k, RenumT et.2) → ∀ n,
    leavesL (renumL n k).1 = leavesL k ∧ (renumL n k).1.length = k.length ∧
    (∀ {β : Type} (f : List String → β), RL f (renumL n k).1 = RL f k) ∧
    (splitsL (renumL n k).1).map (·.e.id) = (List.range' n (splitsL k).length).map Int.ofNat ∧
    (renumL n k).2 = n + (splitsL k).length
  | [], _, n => by simp [renumL, splitsL]
  | (e, c) :: r, hk, n => by
    obtain ⟨h1, h2, h3, h4, h5, h6⟩ := hk (e, c) List.mem_cons_self (n + 1)
    obtain ⟨g1, g2, g3, g4, g5⟩ := renumL_of r (fun et h => hk et (List.mem_cons_of_mem _ h)) (renumT (n + 1) c).2
    rw [h6] at g4 g5
    refine ⟨?_, ?_, ?_, ?_, ?_⟩
    · simp only [renumL, leavesL, h1, g1]
    · simp only [renumL, List.length_cons, g2]
    · intro β f
      have h4' := h4 f
      have g3' := g3 f
      simp only [RT, RL] at h4' g3' ⊢
      simp only [renumL, obsL, List.map_cons, List.map_append, h4', g3', h1, h2, h3]
      rfl
    · simp only [renumL, splitsL, List.map_cons, List.map_append, h5, h6, g4, List.length_cons, List.length_append]
      rw [← List.map_append, List.range'_append_1, Nat.add_comm]
      rw [List.range'_succ, List.map_cons, Nat.add_comm 1 n]
      rfl
    · simp only [renumL, splitsL, h6, g5, List.length_cons, List.length_append]; omega

theorem renumT_all (t : T) : RenumT t := by
  induction t using T.induct with
  | h d p k ih =>
    intro n
    obtain ⟨g1, g2, g3, g4, g5⟩ := renumL_of k ih n
    have hnil : (renumL n k).1 = [] ↔ k = [] := by
      rw [← List.length_eq_zero_iff, ← List.length_eq_zero_iff, g2]
    refine ⟨?_, ?_, rfl, fun f => by simpa [RT, RL, renumT, obsT_node] using g3 f,
      by simpa [renumT, T.splitsBelow] using g4, by simpa [renumT, T.splitsBelow] using g5⟩
    · simp only [renumT, T.leaves_node, g1, List.isEmpty_iff, hnil]
    · simp only [renumT, T.isLeaf, T.kids_node]
      rw [Bool.eq_iff_iff, List.isEmpty_iff, List.isEmpty_iff]; exact hnil

theorem renumL_RL {β : Type} (f : List String → β) (n : Nat) : ∀ k : Kids, RL f (renumL n k).1 = RL f k :=
  fun k => (renumL_of k (fun et _ => renumT_all et.2) n).2.2.1 f

theorem renumT_ids (n : Nat) : ∀ t : T,
    (renumT n t).1.splitsBelow.map (·.e.id) = (List.range' n t.splitsBelow.length).map Int.ofNat ∧
    (renumT n t).2 = n + t.splitsBelow.length :=
  fun t => (renumT_all t n).2.2.2.2

theorem uniqueIds_renumber (t : T) : uniqueIds (renumber t) = true := by
  have h := (renumL_of t.kids (fun et _ => renumT_all et.2) 0).2.2.2.1
  have e : (renumber t).splits = splitsL (renumL 0 t.kids).1 := by
    cases t; simp [renumber, renumT, T.splits, T.kids]
  unfold uniqueIds
  rw [e, h]
  simp only [decide_eq_true_eq]
  exact List.pairwise_map.mpr ((List.nodup_range' (step := 1) (by omega)).imp (fun h hab => h (Int.ofNat.inj hab)))

theorem renumber_RT {β : Type} (f : List String → β) (t : T) : RT f (renumber t) = RT f t := (renumT_all t 0).2.2.2.1 f

theorem renumber_kids_length (t : T) : (renumber t).kids.length = t.kids.length := by
  cases t with
  | node d p k => simpa [renumber, renumT, T.kids] using (renumL_of k (fun et _ => renumT_all et.2) 0).2.1

/-- what survives a collapse by length without `--tips`, on the id-free observations -/
def keptR {β : Type} (l : Rat) (y : ObsR β) : Bool := !(decide (y.2.1 ≤ l)) || y.2.2.2.2.1

theorem keepV_obsR {β : Type} (l : Rat) : ∀ L : List (Obs β),
    (L.filterMap (keepV (fun x => decide (x.2.1.len ≤ l)) false)).map obsR = (L.map obsR).filter (keptR l)
  | [] => rfl
  | x :: r => by
    have ih := keepV_obsR l r
    obtain ⟨a, e, tip, nd⟩ := x
    simp only [List.filterMap_cons, List.map_cons, List.filter_cons, keepV, keptR, obsR]
    by_cases h1 : e.len ≤ l
    · cases tip <;> simp [h1, ih, obsR]
    · simp [h1, ih, obsR]

end Gotree.C07

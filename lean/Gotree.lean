-- GENERATED
import Gotree.Model.C01
import Gotree.Model.C01Buf
import Gotree.Model.C01Float
import Gotree.Model.C01Lit
import Gotree.Model.C02
import Gotree.Model.C02Chan
import Gotree.Model.C02Dispatch
import Gotree.Model.C02Files
import Gotree.Model.C02Float
import Gotree.Model.C02Newick
import Gotree.Model.C02Nexus
import Gotree.Model.C02Readers
import Gotree.Model.C02Writers
import Gotree.Model.C02WritersP
import Gotree.Model.C03
import Gotree.Model.C03More
import Gotree.Model.C03Ops
import Gotree.Model.C03Table
import Gotree.Model.C04
import Gotree.Model.C04Depth
import Gotree.Model.C04Dump
import Gotree.Model.C04Facts
import Gotree.Model.C04HM
import Gotree.Model.C04Q
import Gotree.Model.C04Quartets
import Gotree.Model.C05
import Gotree.Model.C05Cli
import Gotree.Model.C05History
import Gotree.Model.C05Index
import Gotree.Model.C05Orient
import Gotree.Model.C05Source
import Gotree.Model.C06
import Gotree.Model.C06Index
import Gotree.Model.C06Sites
import Gotree.Model.C06Stale
import Gotree.Model.C07
import Gotree.Model.C07Cmd
import Gotree.Model.C07Renum
import Gotree.Model.C07Sites
import Gotree.Model.C08
import Gotree.Model.C08Cli
import Gotree.Model.C08HM
import Gotree.Model.C08Zero
import Gotree.Model.C09
import Gotree.Model.C09Facts
import Gotree.Model.C09Float
import Gotree.Model.C09Items
import Gotree.Model.C09Lit
import Gotree.Model.C09Text
import Gotree.Model.C10
import Gotree.Model.C10Cancel
import Gotree.Model.C10Opts
import Gotree.Model.C10Table
import Gotree.Model.C11
import Gotree.Model.C11HashMap
import Gotree.Model.C11Tbe
import Gotree.Model.C12
import Gotree.Model.C12Cli
import Gotree.Model.C12Fmt
import Gotree.Model.C12R
import Gotree.Model.C13
import Gotree.Model.C13Codec
import Gotree.Model.C13Flags
import Gotree.Model.C13NsSpec
import Gotree.Model.C13PxForms
import Gotree.Model.C13Std
import Gotree.Model.C13Tips
import Gotree.Model.C14
import Gotree.Model.C14Bag
import Gotree.Model.C14Cli
import Gotree.Model.C14CliThr
import Gotree.Model.C14Go
import Gotree.Model.C14Sites
import Gotree.Model.C15
import Gotree.Model.C15Cmd
import Gotree.Model.C15Gen
import Gotree.Model.C15Guards
import Gotree.Model.C15Heap
import Gotree.Model.C15HeapEdits
import Gotree.Model.C15Table
import Gotree.Model.C16
import Gotree.Model.C16Cli
import Gotree.Model.C16CliRun
import Gotree.Model.C16DepthGo
import Gotree.Model.C16DepthGoU
import Gotree.Model.C16Extra
import Gotree.Model.C16Table
import Gotree.Model.C16TopoCli
import Gotree.Model.C17
import Gotree.Model.C17Cli
import Gotree.Model.C17Code
import Gotree.Model.C17Global
import Gotree.Model.C17Heap
import Gotree.Model.C18
import Gotree.Model.C18Read
import Gotree.Model.C19
import Gotree.Model.C19Glue
import Gotree.Model.C19IO
import Gotree.Model.C19PreRun
import Gotree.Model.C19Rename
import Gotree.Model.C20
import Gotree.Model.C20Seed
import Gotree.Model.C20Table
import Gotree.Model.Core
import Gotree.Model.Dump
import Gotree.Spec.C01
import Gotree.Spec.C02
import Gotree.Spec.C03
import Gotree.Spec.C03Text
import Gotree.Spec.C04
import Gotree.Spec.C05
import Gotree.Spec.C06
import Gotree.Spec.C07
import Gotree.Spec.C08
import Gotree.Spec.C09
import Gotree.Spec.C10
import Gotree.Spec.C11
import Gotree.Spec.C12
import Gotree.Spec.C13
import Gotree.Spec.C14
import Gotree.Spec.C15
import Gotree.Spec.C16
import Gotree.Spec.C16Cli
import Gotree.Spec.C16Depth
import Gotree.Spec.C16DepthDist
import Gotree.Spec.C16Doc
import Gotree.Spec.C16Extra
import Gotree.Spec.C16Index
import Gotree.Spec.C16Keys
import Gotree.Spec.C17
import Gotree.Spec.C18
import Gotree.Spec.C19
import Gotree.Spec.C20
import Gotree.Spec.Splits
import Gotree.Gen.C01Syntax
import Gotree.Gen.C02Dispatch
import Gotree.Gen.C02Goroutine
import Gotree.Gen.C03Source
import Gotree.Gen.C04Facts
import Gotree.Gen.C05Source
import Gotree.Gen.C06Sites
import Gotree.Gen.C07Sites
import Gotree.Gen.C08Glue
import Gotree.Gen.C09Facts
import Gotree.Gen.C10Facts
import Gotree.Gen.C11Goroutines
import Gotree.Gen.C12Sites
import Gotree.Gen.C13Tables
import Gotree.Gen.C14Sites
import Gotree.Gen.C15Fields
import Gotree.Gen.C15Guards
import Gotree.Gen.C16Source
import Gotree.Gen.C17Code
import Gotree.Gen.C18Sites
import Gotree.Gen.C19Changed
import Gotree.Gen.C19Flags
import Gotree.Gen.C19Sentinels
import Gotree.Gen.C19Writes
import Gotree.Gen.C20Sites
import Gotree.Lemmas.Assoc
import Gotree.Lemmas.Buckets
import Gotree.Lemmas.C01
import Gotree.Lemmas.C01Buf
import Gotree.Lemmas.C01Codec
import Gotree.Lemmas.C01GoCodec
import Gotree.Lemmas.C01GoRead
import Gotree.Lemmas.C01Lit
import Gotree.Lemmas.C01Machine
import Gotree.Lemmas.C01Table
import Gotree.Lemmas.C01Witness
import Gotree.Lemmas.C02
import Gotree.Lemmas.C02Chan
import Gotree.Lemmas.C02Newick
import Gotree.Lemmas.C02NewickEq
import Gotree.Lemmas.C02Nexus
import Gotree.Lemmas.C02Readers
import Gotree.Lemmas.C02Writers
import Gotree.Lemmas.C02WritersP
import Gotree.Lemmas.C02onC01
import Gotree.Lemmas.C03
import Gotree.Lemmas.C03More
import Gotree.Lemmas.C03Ops
import Gotree.Lemmas.C03Source
import Gotree.Lemmas.C03Text
import Gotree.Lemmas.C04Dump
import Gotree.Lemmas.C04HM
import Gotree.Lemmas.C04Idx
import Gotree.Lemmas.C04Lit
import Gotree.Lemmas.C04Q
import Gotree.Lemmas.C04Quart
import Gotree.Lemmas.C04Transport
import Gotree.Lemmas.C05
import Gotree.Lemmas.C05Cli
import Gotree.Lemmas.C05Deg
import Gotree.Lemmas.C05Eq
import Gotree.Lemmas.C05Half
import Gotree.Lemmas.C05History
import Gotree.Lemmas.C05Index
import Gotree.Lemmas.C05Keys
import Gotree.Lemmas.C05Lca
import Gotree.Lemmas.C05Mid
import Gotree.Lemmas.C05Orient
import Gotree.Lemmas.C05Out
import Gotree.Lemmas.C05Restr
import Gotree.Lemmas.C05Side
import Gotree.Lemmas.C05Splits
import Gotree.Lemmas.C06
import Gotree.Lemmas.C06Canon
import Gotree.Lemmas.C06Data
import Gotree.Lemmas.C06Eff
import Gotree.Lemmas.C06Ind
import Gotree.Lemmas.C06Index
import Gotree.Lemmas.C06Literal
import Gotree.Lemmas.C06Rooted
import Gotree.Lemmas.C06Stale
import Gotree.Lemmas.C06Step
import Gotree.Lemmas.C07
import Gotree.Lemmas.C07Cmd
import Gotree.Lemmas.C07Depth
import Gotree.Lemmas.C07Loop
import Gotree.Lemmas.C07Oracle
import Gotree.Lemmas.C07Perm
import Gotree.Lemmas.C07Renum
import Gotree.Lemmas.C07Resolve
import Gotree.Lemmas.C07Root
import Gotree.Lemmas.C07Sites
import Gotree.Lemmas.C07Spec
import Gotree.Lemmas.C07USplits
import Gotree.Lemmas.C08
import Gotree.Lemmas.C08Bits
import Gotree.Lemmas.C08Canon
import Gotree.Lemmas.C08Cli
import Gotree.Lemmas.C08HM
import Gotree.Lemmas.C08Inv
import Gotree.Lemmas.C08Tree
import Gotree.Lemmas.C08W
import Gotree.Lemmas.C08Zero
import Gotree.Lemmas.C09
import Gotree.Lemmas.C09Bridge
import Gotree.Lemmas.C09BridgeLen
import Gotree.Lemmas.C09Dom
import Gotree.Lemmas.C09Float
import Gotree.Lemmas.C09Insert
import Gotree.Lemmas.C09Items
import Gotree.Lemmas.C09Loop
import Gotree.Lemmas.C09Oracle
import Gotree.Lemmas.C09Reroot
import Gotree.Lemmas.C09Rooting
import Gotree.Lemmas.C10
import Gotree.Lemmas.C10Cancel
import Gotree.Lemmas.C10Inv
import Gotree.Lemmas.C10Names
import Gotree.Lemmas.C10Pres
import Gotree.Lemmas.C10Sets
import Gotree.Lemmas.C10Supports
import Gotree.Lemmas.C10Wit
import Gotree.Lemmas.C11
import Gotree.Lemmas.C11Ascii
import Gotree.Lemmas.C11Collect
import Gotree.Lemmas.C11HashMap
import Gotree.Lemmas.C11HashMapSpec
import Gotree.Lemmas.C11Order
import Gotree.Lemmas.C11Pools
import Gotree.Lemmas.C12
import Gotree.Lemmas.C12Acc
import Gotree.Lemmas.C12Entry
import Gotree.Lemmas.C12Narrow
import Gotree.Lemmas.C12Paths
import Gotree.Lemmas.C12RM
import Gotree.Lemmas.C12Recode
import Gotree.Lemmas.C12Root
import Gotree.Lemmas.C12Sites
import Gotree.Lemmas.C12Sitewise
import Gotree.Lemmas.C12Text
import Gotree.Lemmas.C12Tot
import Gotree.Lemmas.C12Unamb
import Gotree.Lemmas.C13
import Gotree.Lemmas.C13C01
import Gotree.Lemmas.C13Cli
import Gotree.Lemmas.C13Dec
import Gotree.Lemmas.C13Ex
import Gotree.Lemmas.C13Flags
import Gotree.Lemmas.C13Foreign
import Gotree.Lemmas.C13Multi
import Gotree.Lemmas.C13Nex
import Gotree.Lemmas.C13NexTr
import Gotree.Lemmas.C13Px
import Gotree.Lemmas.C13Std
import Gotree.Lemmas.C13Tips
import Gotree.Lemmas.C14
import Gotree.Lemmas.C14Avg
import Gotree.Lemmas.C14Bag
import Gotree.Lemmas.C14CliThr
import Gotree.Lemmas.C14CutLoop
import Gotree.Lemmas.C14Doc
import Gotree.Lemmas.C14Flood
import Gotree.Lemmas.C14Graph
import Gotree.Lemmas.C14Invar
import Gotree.Lemmas.C14Walk
import Gotree.Lemmas.C15
import Gotree.Lemmas.C15Cmd
import Gotree.Lemmas.C15Copy
import Gotree.Lemmas.C15Graft
import Gotree.Lemmas.C15Heap
import Gotree.Lemmas.C15HeapCopy
import Gotree.Lemmas.C15HeapProg
import Gotree.Lemmas.C15Holds
import Gotree.Lemmas.C15Insert
import Gotree.Lemmas.C15InsertAll
import Gotree.Lemmas.C15Replace
import Gotree.Lemmas.C15Single
import Gotree.Lemmas.C15Text
import Gotree.Lemmas.C16
import Gotree.Lemmas.C16CliRun
import Gotree.Lemmas.C16Depth
import Gotree.Lemmas.C16DepthDist
import Gotree.Lemmas.C16Enum
import Gotree.Lemmas.C16Extra
import Gotree.Lemmas.C16Index
import Gotree.Lemmas.C16Keys
import Gotree.Lemmas.C16Median
import Gotree.Lemmas.C16Nodup
import Gotree.Lemmas.C16Oracle
import Gotree.Lemmas.C16Script
import Gotree.Lemmas.C16Shape
import Gotree.Lemmas.C16Surj
import Gotree.Lemmas.C16Table
import Gotree.Lemmas.C16TopoCli
import Gotree.Lemmas.C17
import Gotree.Lemmas.C17Apart
import Gotree.Lemmas.C17ApartLocal
import Gotree.Lemmas.C17Aux
import Gotree.Lemmas.C17Canon
import Gotree.Lemmas.C17Count
import Gotree.Lemmas.C17CountSplits
import Gotree.Lemmas.C17Distinct
import Gotree.Lemmas.C17Global
import Gotree.Lemmas.C17HeapSim
import Gotree.Lemmas.C17NoSingle
import Gotree.Lemmas.C17Nodup
import Gotree.Lemmas.C17OneSplit
import Gotree.Lemmas.C17Sim
import Gotree.Lemmas.C17Split
import Gotree.Lemmas.C17Twin
import Gotree.Lemmas.C17TwinApart
import Gotree.Lemmas.C18
import Gotree.Lemmas.C18Read
import Gotree.Lemmas.C19
import Gotree.Lemmas.C19Rename
import Gotree.Lemmas.C19Table
import Gotree.Lemmas.C20
import Gotree.Lemmas.C20Rose
import Gotree.Lemmas.C20Table
import Gotree.Lemmas.C20Topo
import Gotree.Lemmas.Core
import Gotree.Lemmas.Reord
import Gotree.Lemmas.StrLit
import Gotree.Proofs.C01
import Gotree.Proofs.C01Tables
import Gotree.Proofs.C02
import Gotree.Proofs.C03
import Gotree.Proofs.C03Tables
import Gotree.Proofs.C04
import Gotree.Proofs.C05
import Gotree.Proofs.C05Tables
import Gotree.Proofs.C06
import Gotree.Proofs.C06Tables
import Gotree.Proofs.C07
import Gotree.Proofs.C07Tables
import Gotree.Proofs.C08
import Gotree.Proofs.C08Tables
import Gotree.Proofs.C09
import Gotree.Proofs.C09Tables
import Gotree.Proofs.C10
import Gotree.Proofs.C11
import Gotree.Proofs.C12
import Gotree.Proofs.C13
import Gotree.Proofs.C14
import Gotree.Proofs.C14Tables
import Gotree.Proofs.C15
import Gotree.Proofs.C15Tables
import Gotree.Proofs.C16
import Gotree.Proofs.C17
import Gotree.Proofs.C17Tables
import Gotree.Proofs.C18
import Gotree.Proofs.C19
import Gotree.Proofs.C20
import Gotree.Proofs.C20Tables
